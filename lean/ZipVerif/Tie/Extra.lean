import ZipVerif.Gen.Write
import ZipVerif.Model.Align
import ZipVerif.Spec.Extra
/-
Tie obligations for the extra-data validation: the table `rs2lean` prints from /repo/src/write.rs
(`Gen/Write.lean`: `Gen.EXTRA_FIELD_MAPPING`) is the model's table, which is the APPNOTE list of the Spec.
A source edit that adds, drops or changes a reserved header ID breaks these.
-/

namespace ZipVerif.Tie.Extra
open ZipVerif ZipVerif.Model.Align

theorem tie_extra_field_mapping : Gen.EXTRA_FIELD_MAPPING.toList = extraFieldMapping := by decide

theorem tie_extra_field_mapping_size : Gen.EXTRA_FIELD_MAPPING.size = 49 := by decide

theorem tie_extra_field_mapping_spec :
    Gen.EXTRA_FIELD_MAPPING.toList.map UInt16.toNat = Spec.Extra.reservedIds := by decide

/-- The membership test of the source, `EXTRA_FIELD_MAPPING.iter().any(|&mapped| mapped == kind)`,
over the generated table is the model's. -/
theorem tie_reserved_kind (kind : UInt16) :
    (decide (kind ≤ 31) || Gen.EXTRA_FIELD_MAPPING.toList.any (· == kind)) = reservedKind kind := by
  rw [tie_extra_field_mapping]; rfl

end ZipVerif.Tie.Extra
