import ZipVerif.Tie.WriteAcc
/-
`raw_copy_file_rename` for EVERY accept function of the encoders: the ties of `Tie/RawCopy.lean`
without `ext.accept b = b.length`.

During a raw copy the compressor stack is a plain storer (`start_entry` with `encrypt_with = None` leaves
`Storer(Unencrypted)`: the model's `StartEntryPost`, carried to the translated object), every `write` keeps it one
(`writeData_storer`), and a storer hands the buffer to the sink without consulting an encoder - so
`Tie/WriteAcc.sim_write_all_acc` applies to every chunk with its side condition `NoRefusal` vacuous
(`ChunkStep.of_storer`, the instance of `Tie/RawCopy.sim_raw_copy_file_rename_of` at "is a storer").

`sim_raw_copy_file_rename_acc`, `sim_raw_copy_one_acc` are the ties of `Tie/RawCopy.lean` under `AccOk` (and
`Inv (absW g)`, `TimeOk` of the source entry - the hypotheses of the model's `startEntry_sat`).
`raw_copy_any_chunking` is the FAULT-FREE statement against the model's `rawCopy` of the whole stream (`Call.rawCopy`)
for ANY chunking, through `Lemmas/RawCopyChunks.rawCopyChunks_split`: same outcome, writer state, sink bytes and
position.  The two devices differ in the I/O call COUNTER (one sink write per chunk against one), which is why this is
not a covered call of `grun_sim` (whose conclusion is equality of devices; under a fault index the counter matters)
but of the fault-free script tie `Tie/WriterComposeView.vrun_sim`.
-/
set_option linter.unusedSimpArgs false
set_option linter.unusedVariables false

namespace ZipVerif.Tie.WriterSM
open ZipVerif ZipVerif.Model ZipVerif.Tie.SpecRecords ZipVerif.Tie.Records ZipVerif.Tie.Parsers

theorem writeData_storer (buf : Bytes) (s : WState) (enc : Option EncState) (h : s.inner = .storer enc) :
    Post (writeData buf s) (fun r => r.1 = .ok () → ∃ enc', r.2.inner = .storer enc') :=
  (writeData_post buf s).mono fun _ hr hok => (hr hok).2 enc h

def IsStorer (s : WState) : Prop := ∃ enc, s.inner = .storer enc

theorem ChunkStep.of_storer (ext : Rs.S.Ext) (ha : AccOk ext.accept) : ChunkStep ext IsStorer := by
  intro g buf hJ hlen hbytes hinv
  obtain ⟨enc, hst⟩ := hJ
  have hnr : NoRefusal g buf := by
    intro mm l e p f hc _
    have hst' : g.inner = .storer enc := hst
    rw [hst'] at hc
    cases hc
  exact (Sim.post_of_model (sim_write_all_acc ext ha g buf hlen hbytes hinv hnr)
    (writeData_storer buf (absW g) enc hst)).mono fun p hp => hp.2

theorem sim_raw_copy_file_rename_acc (ext : Rs.S.Ext) (ha : AccOk ext.accept) (now : Gen.DateTime)
    (g : Gen.ZipWriter) (hI : Inv (absW g))
    (file : Rs.C.ZipFile Gen.ZipFileData) (name : Bytes) (chunks : List Bytes)
    (hf : ∀ f, g.files.getLast? = some f →
      f.extra_field.length ≤ 9223372036854775807 ∧
      f.data_start.toNat + f.extra_field.length < 18446744073709551616 ∧
      f.header_start.toNat + 34 + f.file_name.length < 18446744073709551616)
    (hname : name.length < 18446744073709551616)
    (hto : TimeOk (dataOf file.data).time)
    (hraw : Delivers file.raw chunks)
    (htotal : chunks.flatten.length < 18446744073709551616) :
    Sim absR (fun _ => True) (Rs.S.run (Gen.ZipWriter.raw_copy_file_rename ext now g file name))
      (rawCopyChunks ext.toWExt (dataOf file.data) chunks name (absW g)) := by
  have htime : (Tie.DateTime.toModel file.data.last_modified_time).datepart ≠ none := by
    have h : ¬ (Tie.DateTime.toModel file.data.last_modified_time).year < 1980 := hto
    unfold DateTime.datepart
    rw [if_neg h]
    intro h'; cases h'
  -- `start_entry` without encryption leaves a storer: the model's `StartEntryPost`
  refine sim_raw_copy_file_rename_of ext now g file name chunks IsStorer (ChunkStep.of_storer ext ha)
    (fun raw => post_of_sat fun fa d =>
      Sat.mono (startEntry_sat ext.toWExt name (rawCopyOptions (dataOf file.data)) raw hto (absW g) hI fa d)
        fun r d' hq hr => ?_) hf hname htime hraw htotal
  obtain ⟨_, _, _, _, hin, _⟩ := hq.2 () hr
  show ∃ enc, r.2.inner = .storer enc
  rw [hin]
  split <;> exact ⟨_, rfl⟩

theorem sim_raw_copy_one_acc (ext : Rs.S.Ext) (ha : AccOk ext.accept) (now : Gen.DateTime) (g : Gen.ZipWriter)
    (hI : Inv (absW g)) (file : Rs.C.ZipFile Gen.ZipFileData) (name raw : Bytes)
    (hf : ∀ f, g.files.getLast? = some f →
      f.extra_field.length ≤ 9223372036854775807 ∧
      f.data_start.toNat + f.extra_field.length < 18446744073709551616 ∧
      f.header_start.toNat + 34 + f.file_name.length < 18446744073709551616)
    (hname : name.length < 18446744073709551616)
    (hto : TimeOk (dataOf file.data).time)
    (hraw : Delivers file.raw [raw]) :
    Sim absR (fun _ => True) (Rs.S.run (Gen.ZipWriter.raw_copy_file_rename ext now g file name))
      (rawCopy ext.toWExt (dataOf file.data) raw name (absW g)) := by
  rw [rawCopy_eq_chunks]
  refine sim_raw_copy_file_rename_acc ext ha now g hI file name [raw] hf hname hto hraw ?_
  have := hraw.head_le
  simp only [List.flatten_cons, List.flatten_nil, List.append_nil]
  omega

theorem Delivers.ne_nil {scr : List Rs.RdRes} {cs : List Bytes} (h : Delivers scr cs) : ∀ c ∈ cs, c ≠ [] := by
  induction h with
  | nil => intro c hc; cases hc
  | eof => intro c hc; cases hc
  | chunk c' rest cs' hne hle _ ih =>
    intro c hc
    rcases List.mem_cons.mp hc with h | h
    · rw [h]; exact hne
    · exact ih c h
  | intr rest cs' _ ih => exact ih

/-- **Any chunking, fault-free sink.**  Whatever chunks the raw reader delivers (a stream not longer than the source
entry's `compressed_size` - the reader is an `io::Take` of that limit), on a sink without an injected fault the
translated `raw_copy_file_rename` either stops with the `u64`-position panic or has the outcome (panic sites
erased) and the final writer state of the model's `rawCopy` of the WHOLE stream - the model call `Call.rawCopy` -
and leaves the same bytes in the sink at the same position. -/
theorem raw_copy_any_chunking (ext : Rs.S.Ext) (ha : AccOk ext.accept) (now : Gen.DateTime) (g : Gen.ZipWriter)
    (hI : Inv (absW g)) (file : Rs.C.ZipFile Gen.ZipFileData) (name : Bytes) (chunks : List Bytes)
    (hf : ∀ f, g.files.getLast? = some f →
      f.extra_field.length ≤ 9223372036854775807 ∧
      f.data_start.toNat + f.extra_field.length < 18446744073709551616 ∧
      f.header_start.toNat + 34 + f.file_name.length < 18446744073709551616)
    (hname : name.length < 18446744073709551616)
    (hto : TimeOk (dataOf file.data).time)
    (hraw : Delivers file.raw chunks)
    (hlen : chunks.flatten.length ≤ file.data.compressed_size.toNat) (d : Dev) :
    (Rs.S.run (Gen.ZipWriter.raw_copy_file_rename ext now g file name) none d).1 = .panic Rs.S.OVF ∨
      (eraseOut ((absR <$> Rs.S.run (Gen.ZipWriter.raw_copy_file_rename ext now g file name)) none d).1 =
          eraseOut (rawCopy ext.toWExt (dataOf file.data) chunks.flatten name (absW g) none d).1 ∧
        (Rs.S.run (Gen.ZipWriter.raw_copy_file_rename ext now g file name) none d).2.buf =
          (rawCopy ext.toWExt (dataOf file.data) chunks.flatten name (absW g) none d).2.buf ∧
        (Rs.S.run (Gen.ZipWriter.raw_copy_file_rename ext now g file name) none d).2.pos =
          (rawCopy ext.toWExt (dataOf file.data) chunks.flatten name (absW g) none d).2.pos) := by
  have hlt : chunks.flatten.length < 18446744073709551616 := by
    have := file.data.compressed_size.toNat_lt
    omega
  have hs := sim_raw_copy_file_rename_acc ext ha now g hI file name chunks hf hname hto hraw hlt none d
  obtain ⟨o, d1, d2, e1, e2, hb, hp⟩ := rawCopyChunks_split ext.toWExt (dataOf file.data) chunks name (absW g) hI hto
    hraw.ne_nil hlen d
  rcases hs with h | ⟨h, _⟩
  · exact Or.inl h
  · right
    simp only [erase, e1, Prod.mk.injEq] at h
    obtain ⟨h1, h2⟩ := h
    rw [e2]
    have hdev : ((absR <$> Rs.S.run (Gen.ZipWriter.raw_copy_file_rename ext now g file name)) none d).2 =
        (Rs.S.run (Gen.ZipWriter.raw_copy_file_rename ext now g file name) none d).2 := by
      rw [map_apply]
    rw [hdev] at h2
    refine ⟨h1, ?_, ?_⟩
    · rw [h2]; exact hb
    · rw [h2]; exact hp

end ZipVerif.Tie.WriterSM
