import ZipVerif.Basic.U64
import ZipVerif.Gen.Crc32
import ZipVerif.Model.Layers
import ZipVerif.Model.Aes
/-
What the ties of the read layers share, and the tie of one layer, `Crc32Reader` (crc32.rs; tier T6, LAYER mode of
rs2lean; vocabulary of the generated code and its assumed meaning: `Basic/RsL.lean`).  Shared: a model source as the inner
reader of the generated code (`readOf`), what the caller sees of a generated `read` (`view`), std's `read` and
`read_exact` over such a reader.  `rs2lean` prints `Gen/Crc32.lean` from src/crc32.rs: `Gen.Crc32Reader.read` is the text
of `Crc32Reader::read`, a function of the layer's own fields, the caller's buffer and an ARBITRARY inner reader; the
theorems say it is the model's transducer step (`Model.Layers.crcLayer`, C04/C09; `Model.Aes.crcRead`, C16) for every
inner reader, every state and every buffer.  The ZipCrypto and AES layers are in `Tie/ZcLayer.lean`, `Tie/AesLayer.lean`.

Hypotheses mark the `Nat`/`u64` idealisation: what one inner `read` call delivers is shorter than 2^64 bytes (`Small`;
in `crc32reader_read_at` the call at hand only), and so is the buffer (`hbuf`, which no proof here needs).
`tie_crc32reader_read_aes` also assumes `inner.WF` (never more than asked for, never a panic): `crcRead` has no branch
for a reader that breaks it.
-/

namespace ZipVerif.Tie.Layers
open ZipVerif ZipVerif.Model.Layers

variable {σ : Type}

/-- the result of a model source's `rd` in the vocabulary of the generated code -/
def rdOf : ReadRes → Rs.RdRes
  | .ok bs => .ok bs
  | .err e => .err e
  | .panic => .panic

/-- a model source as an inner reader of the generated code.  (It is handed over as an instance, `@f σ (readOf inner)`;
`@[instance_reducible]`, here and on the other `def`s of class type under Tie/, is the reducibility an `instance`
declaration gets, which Lean asks of such a `def`: `warn.classDefReducibility`.) -/
@[instance_reducible] def readOf (inner : Src σ) : Rs.Read σ := ⟨fun s n => (rdOf (inner.rd s n).1, (inner.rd s n).2)⟩

/-- what the caller sees of a generated `read`: the first `count` bytes of its buffer -/
def viewRead : Rs.IoRes UInt64 → Bytes → ReadRes
  | .ok c, buf => .ok (buf.take c.toNat)
  | .err e, _ => .err e
  | .panic, _ => .panic

/-- no single inner `read` delivers 2^64 bytes or more -/
def Small (inner : Src σ) : Prop := ∀ s n bs s', inner.rd s n = (.ok bs, s') → bs.length < 2 ^ 64

theorem filled_length (bs buf : Bytes) :
    ((bs ++ buf.drop bs.length).take buf.length).length = buf.length := by
  rw [List.length_take, List.length_append, List.length_drop]
  exact Nat.min_eq_left (Nat.sub_le_iff_le_add'.mp (Nat.le_refl _))

theorem filled_take (bs buf : Bytes) (h : bs.length ≤ buf.length) :
    ((bs ++ buf.drop bs.length).take buf.length).take bs.length = bs := by
  rw [List.take_take, Nat.min_eq_left h, List.take_append_of_le_length (Nat.le_refl _), List.take_length]

theorem rd_readOf (inner : Src σ) (s : σ) (n : Nat) :
    @Rs.Read.rd σ (readOf inner) s n = (rdOf (inner.rd s n).1, (inner.rd s n).2) := rfl

/-- `inner.read(buf)` over a model source -/
theorem read_readOf (inner : Src σ) (s : σ) (buf : Bytes) :
    @Rs.L.read σ (readOf inner) s buf =
      match inner.rd s buf.length with
      | (.ok bs, s') => (.ok (UInt64.ofNat bs.length), s', (bs ++ buf.drop bs.length).take buf.length)
      | (.err e, s') => (.err e, s', buf)
      | (.panic, s') => (.panic, s', buf) := by
  unfold Rs.L.read
  rw [rd_readOf]
  rcases inner.rd s buf.length with ⟨r, s'⟩
  cases r <;> rfl

/-- `&buf[0..count]` after an inner read that delivered `bs` -/
theorem slice_filled (bs buf : Bytes) (hs : bs.length < 2 ^ 64) :
    Rs.slice ((bs ++ buf.drop bs.length).take buf.length) 0 (UInt64.ofNat bs.length) =
      if bs.length ≤ buf.length then some bs else none := by
  unfold Rs.slice
  rw [U64.toNat_ofNat hs, filled_length]
  by_cases h : bs.length ≤ buf.length
  · simp only [h, and_true, if_true]
    rw [filled_take bs buf h]
    simp
  · simp [h]

/-- the outcome of the model's `readExact` in the vocabulary of the generated code -/
def exOf : ExactRes → Rs.RdRes
  | .ok bs => .ok bs
  | .err e => .err e
  | .panic => .panic

/-- std's `read_exact` loop over a model source is the model's `readExactAux` -/
theorem readExactAux_readOf (inner : Src σ) (fuel : Nat) (s : σ) (n : Nat) :
    @Rs.L.readExactAux σ (readOf inner) fuel s n =
      (exOf (readExactAux inner fuel s n).1, (readExactAux inner fuel s n).2) := by
  induction fuel generalizing s n with
  | zero => cases n <;> rfl
  | succ f ih =>
    cases n with
    | zero => rfl
    | succ n =>
      simp only [Rs.L.readExactAux, readExactAux, rd_readOf]
      rcases inner.rd s (n + 1) with ⟨r, s'⟩
      cases r with
      | err e => rfl
      | panic => rfl
      | ok bs =>
        simp only [rdOf]
        by_cases hb : bs = []
        · simp [hb, exOf]
        · simp only [hb, if_false]
          by_cases hl : bs.length ≤ n + 1
          · simp only [hl, if_true, ih]
            rcases readExactAux inner f s' (n + 1 - bs.length) with ⟨r2, s2⟩
            cases r2 <;> rfl
          · simp [hl, exOf]

/-- `inner.read_exact(buf)` over a model source -/
theorem read_exact_readOf (inner : Src σ) (s : σ) (buf : Bytes) :
    @Rs.L.read_exact σ (readOf inner) s buf =
      match readExact inner s buf.length with
      | (.ok bs, s') => (.ok (), s', bs)
      | (.err e, s') => (.err e, s', buf)
      | (.panic, s') => (.panic, s', buf) := by
  unfold Rs.L.read_exact readExact
  rw [readExactAux_readOf]
  rcases readExactAux inner buf.length s buf.length with ⟨r, s'⟩
  cases r <;> rfl

theorem tie_crc32reader_new (inner : σ) (checksum : UInt32) (ae2 : Bool) :
    Gen.Crc32Reader.new inner checksum ae2 = some ⟨inner, ⟨Spec.Crc32.init⟩, checksum, ae2⟩ := rfl

theorem tie_check_matches (self : Gen.Crc32Reader σ) :
    Gen.Crc32Reader.check_matches self = some (self.check == Spec.Crc32.finalize self.hasher.reg) := rfl

/-- what a generated `read` of a layer returns, in the model's vocabulary: the bytes handed to the
caller (or the failure) and the layer afterwards -/
def view {τ : Type} (g : Rs.IoRes UInt64 × τ × Bytes) : ReadRes × τ := (viewRead g.1 g.2.2, g.2.1)

/-- the model's step result as a value of the generated structure -/
def crcLift (self : Gen.Crc32Reader σ) (m : ReadRes × σ × UInt32) : ReadRes × Gen.Crc32Reader σ :=
  (m.1, { self with inner := m.2.1, hasher := ⟨m.2.2⟩ })

/-- **`Crc32Reader::read` is the model's `crcLayer` step**, as an equation between state
transformers: same outcome (the bytes handed to the caller, the error kind, or a panic) and same
successor state, for every inner reader.  `hin` speaks of the call at hand only: `EntryRead.crc_layer_read` applies
this to an arbitrary member of `Rs.Read`, of which no more is known; `tie_crc32reader_read` is the instance at a `Small`
source. -/
theorem crc32reader_read_at (inner : Src σ) (self : Gen.Crc32Reader σ) (buf : Bytes)
    (hin : ∀ bs s', inner.rd self.inner buf.length = (.ok bs, s') → bs.length < 2 ^ 64) :
    view (@Gen.Crc32Reader.read σ (readOf inner) self buf) =
      crcLift self ((crcLayer inner self.check self.ae2_encrypted).rd (self.inner, self.hasher.reg) buf.length) := by
  unfold Gen.Crc32Reader.read crcLayer view crcLift
  by_cases hnil : buf = []
  · subst hnil; simp [Rs.isEmpty, viewRead, Rs.L.id_pure, Id.run]
  · have hemp : Rs.isEmpty buf = false := by
      cases buf with
      | nil => exact absurd rfl hnil
      | cons _ _ => rfl
    have hlen : buf.length ≠ 0 := fun h => hnil (List.eq_nil_of_length_eq_zero h)
    rcases hr : inner.rd self.inner buf.length with ⟨r, s'⟩
    simp only [hemp, Bool.false_eq_true, if_false, hlen, tie_check_matches, read_readOf, hr, Id.run,
      Rs.L.id_pure, Rs.L.id_bind]
    cases r with
    | err e => simp [viewRead]
    | panic => simp [viewRead]
    | ok bs =>
      have hs := hin _ _ hr
      simp only [U64.ofNat_beq_zero hs]
      rw [slice_filled bs buf hs]
      have hemp : bs.isEmpty = decide (bs.length = 0) := by cases bs <;> simp
      by_cases h0 : bs.length = 0
      · have hb : bs = [] := List.eq_nil_of_length_eq_zero h0
        subst hb
        by_cases hc : ¬ self.check = Spec.Crc32.finalize self.hasher.reg ∧ self.ae2_encrypted = false <;>
          simp [viewRead, hc, Rs.ioKind, Rs.Crc32Hasher.update, Spec.Crc32.updateBytes]
      · have hb : bs.isEmpty = false := by rw [hemp]; simp [h0]
        simp only [h0, hb, decide_false, Bool.false_and, Bool.false_eq_true, if_false]
        by_cases hl : bs.length ≤ buf.length
        · simp [hl, viewRead, U64.toNat_ofNat hs, filled_take bs buf hl, Rs.Crc32Hasher.update]
        · simp [hl, viewRead]

theorem tie_crc32reader_read (inner : Src σ) (self : Gen.Crc32Reader σ) (buf : Bytes)
    (hbuf : buf.length < 2 ^ 64) (hin : Small inner) :
    view (@Gen.Crc32Reader.read σ (readOf inner) self buf) =
      crcLift self ((crcLayer inner self.check self.ae2_encrypted).rd (self.inner, self.hasher.reg) buf.length) :=
  crc32reader_read_at inner self buf (hin _ _)

/-! ### The same function against the CRC step of the AES model (`Model.Aes.crcRead`, C16)

`crcRead` is parametric in the hasher and in the reader below it, has `ZErr` errors and no branch for a
reader that returns more than was asked for: the equation is stated for readers that keep the `Read`
contract, at the instance hasher = `crc32fast::Hasher`. -/

/-- a read outcome in the vocabulary of `Model.Aes` (an I/O error is `ZErr.io`) -/
def outOf : ReadRes → Out Bytes
  | .ok bs => .ok bs
  | .err e => .err (.io e)
  | .panic => .panic "inner reader"

theorem tie_crc32reader_read_aes (inner : Src σ) (self : Gen.Crc32Reader σ) (buf : Bytes)
    (hbuf : buf.length < 2 ^ 64) (hin : Small inner) (hwf : inner.WF) :
    Model.Aes.crcRead Rs.Crc32Hasher.update Rs.Crc32Hasher.finalize
        (fun i n => (outOf (inner.rd i n).1, (inner.rd i n).2))
        ⟨self.hasher, self.check, self.ae2_encrypted⟩ self.inner buf.length =
      (let v := view (@Gen.Crc32Reader.read σ (readOf inner) self buf)
       (outOf v.1, ⟨v.2.hasher, v.2.check, v.2.ae2_encrypted⟩, v.2.inner)) := by
  rw [tie_crc32reader_read inner self buf hbuf hin]
  unfold Model.Aes.crcRead crcLayer crcLift
  by_cases hn : buf.length = 0
  · simp [hn, outOf]
  · simp only [hn, if_false]
    have hw := hwf self.inner buf.length
    rcases hr : inner.rd self.inner buf.length with ⟨r, s'⟩
    rw [hr] at hw
    cases r with
    | err e => simp [outOf]
    | panic => exact absurd hw (by simp)
    | ok bs =>
      have hl : bs.length ≤ buf.length := hw
      have hemp : bs.isEmpty = decide (bs.length = 0) := by cases bs <;> simp
      have hsym : (self.hasher.reg ^^^ 4294967295 = self.check) = (self.check = self.hasher.reg ^^^ 4294967295) :=
        propext eq_comm
      simp [outOf, hemp, hsym, hl, Rs.Crc32Hasher.finalize, Rs.Crc32Hasher.update, Spec.Crc32.finalize]
      split <;> rfl

end ZipVerif.Tie.Layers
