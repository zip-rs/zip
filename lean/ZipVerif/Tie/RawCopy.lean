import ZipVerif.Gen.RawCopy
import ZipVerif.Tie.WriterSM
import ZipVerif.Model.RawCopyChunks
import ZipVerif.Lemmas.RawCopyChunks
/-
Tie obligations for RAW COPY: `ZipWriter::raw_copy_file_rename` / `raw_copy_file` of src/write.rs
(translator: `rs2lean/src/t6w4.rs`; vocabulary `Basic/RsC.lean`; generated `Gen/ZipFileAcc.lean`
- the accessors of `impl ZipFile` - and `Gen/RawCopy.lean` - the `FileOptions` builders and the two methods).

`sim_raw_copy_file_rename` / `sim_raw_copy_file` tie the two methods to `Model.rawCopyChunks` in the form
`Sim absR P x y` of Tie/WriterSM.lean (same I/O calls, outcome, value, final writer state and device for every device
and EVERY fault index, except where `x` stops with the u64-position panic `OVF`): the options built from the source
entry - method, time, the `large_file` DECISION `compressed_size().max(size()) >= ZIP64_BYTES_THR`, the whole
`unix_mode()` as permissions (D15), no level, no encryption, whatever the wall clock `now` is -, the raw values
crc32 / compressed / uncompressed size, `start_entry`, both flags, then the copy.  The copy is
`io::copy(raw_reader, self)`, std's loop over the TRANSLATED `write`, against `Model.writeDataList chunks`: one
`writeData` per chunk the reader delivers (`sim_io_copy`).  `sim_raw_copy_one`: against `Model.rawCopy` itself when the
reader delivers its bytes in ONE chunk.  The `_of` forms take the tie of one chunk's `write_all` as a parameter
(`ChunkStep`); Tie/RawCopyAcc.lean instantiates them for every accept function.

The model's `rawCopy` (Model/Writer.lean) hands the whole raw stream to ONE `writeData` (one sink call); the
source copies through an 8 KiB buffer, one `write_all` per chunk.  Under an injected fault the two differ (a
fault in the middle of the copy leaves a prefix of the stream in the sink and in the statistics), so the exact
obligation is stated against `Model.rawCopyChunks` (Model/RawCopyChunks.lean: the same function with one
`writeData` per chunk); `Lemmas/RawCopyChunks.lean` relates the two: `rawCopy = rawCopyChunks [raw]`, and on a
fault-free sink `rawCopyChunks chunks` and `rawCopy chunks.flatten` end with the same outcome, writer state,
sink contents and position (`rawCopyChunks_split`; they differ in the number of I/O calls only).

Hypotheses (the model's idealisations, as for the other writer ties): the open entry's u64-fit conditions of
`sim_start_entry`; `name.len() < 2^64`; the source entry's time has a DOS date; `ext.accept b = b.length`
(inherited from `tie_write`; not in the `_of` forms, which have `ChunkStep` instead; on this path the writer is a
plain storer, which hands the buffer to the sink);
the reader DELIVERS `chunks` (`Delivers`: its successive `read` results are the non-empty chunks, each at
most the 8 KiB of the buffer, possibly with `Interrupted` failures in between - retried by `io::copy` -, then end
of data); the bytes delivered fit the `u64` byte counter.  A reader that fails with another error kind, panics,
or overruns the buffer is translated (`Rs.C.io_copy`) but has no model counterpart: a raw copy from a short or
failing source is outside the model.

TRUSTED VOCABULARY of this file (Basic/RsC.lean): `mut file: ZipFile` by value = its `ZipFileData` + the results of
its raw reader's successive `read` calls; `file.get_raw_reader()` on a handle that has not been read from;
`io::copy` = std's generic `stack_buffer_copy` loop (8 KiB, `Interrupted` retried, `write_all` per chunk);
`FileOptions::default()`'s clock expression is the parameter `now`.
-/
set_option linter.unusedSimpArgs false
set_option linter.unusedSectionVars false
set_option linter.unusedVariables false

namespace ZipVerif.Tie.WriterSM
open ZipVerif ZipVerif.Model ZipVerif.Tie.SpecRecords ZipVerif.Tie.Records ZipVerif.Tie.Parsers

theorem Sim.bind_tail {α1 α1' α} {φ1 : α1 → α1'} {P1 : α1 → Prop} {φ : α → α1'} {P : α → Prop}
    {X : M α1} {Y : M α1'} {F : α1 → M α}
    (hX : Sim φ1 P1 X Y) (hF : ∀ a, P1 a → Sim φ P (F a) (pure (φ1 a))) : Sim φ P (X >>= F) Y := by
  have := Sim.bind hX (G := pure) hF
  rwa [bind_pure] at this

/-- `Sim.call` where the model ends with the callee -/
theorem Sim.call_tail {σ α β β' : Type} {φ : Except ZErr β × σ → Except ZErr β' × WState} {P : Except ZErr β × σ → Prop}
    {φ1 : Except ZErr α × σ → Except ZErr β' × WState} {P1 : Except ZErr α × σ → Prop}
    {x : Rs.S σ (α × σ)} {Y : M (Except ZErr β' × WState)} {k : α × σ → Rs.S σ (β × σ)}
    (hx : Sim φ1 P1 (Rs.S.run x) Y)
    (hk : ∀ p, P1 p → Sim φ P (match p with
      | (.ok a, st) => Rs.S.run (k (a, st))
      | (.error e, st) => pure (.error e, st)) (pure (φ1 p))) :
    Sim φ P (Rs.S.run (x >>= k)) Y := by
  rw [run_bind, toM_bind_run]
  refine Sim.bind_tail hx fun p hp => ?_
  obtain ⟨r, st⟩ := p
  cases r <;> exact hk _ hp

theorem Post.attempt_bind {α β} {Q : β → Prop} (m : M α) {f : Except ZErr α → M β} (h : ∀ r, Post (f r) Q) :
    Post (M.attempt m >>= f) Q := Post.bind h

def WDPost (s : WState) (buf : Bytes) (r : Except ZErr Unit × WState) : Prop :=
  r.1 = .ok () → (r.2.files.length = s.files.length ∧ r.2.writingToFile = s.writingToFile ∧
    r.2.statsBytes ≤ s.statsBytes + buf.length) ∧ ∀ enc, s.inner = .storer enc → ∃ enc', r.2.inner = .storer enc'

theorem setLast_length (l : List FileData) (x : FileData) : (Model.setLast l x).length = l.length := by
  unfold Model.setLast
  rcases h : l.reverse with _ | ⟨y, ys⟩
  · have : l = [] := by simpa using h
    subst this; rfl
  · have hl : l.length = (y :: ys).length := by rw [← h, List.length_reverse]
    simp only [List.length_reverse, List.length_cons] at hl ⊢
    omega

/-- the accounting at the end of `writeData`; `$t` is the storer clause for the `inner` at hand -/
syntax "acct " term : tactic
macro_rules
  | `(tactic| acct $t) => `(tactic| (
      (try dsimp only)
      split
      · exact Post.panic _
      · split
        · exact Post.pure (fun h => by cases h)
        · exact Post.pure (fun _ => ⟨⟨rfl, rfl, by dsimp only; omega⟩, $t⟩)))

theorem writeData_post (buf : Bytes) (s : WState) : Post (writeData buf s) (WDPost s buf) := by
  unfold writeData
  split
  · exact Post.pure (fun _ => ⟨⟨rfl, rfl, by dsimp only; omega⟩, fun enc h => ⟨enc, h⟩⟩)
  split
  · exact Post.pure (fun h => by cases h)
  split
  · exact Post.pure (fun h => by cases h)
  · split
    · split
      · exact Post.panic _
      · exact Post.pure (fun _ => ⟨⟨by dsimp only; rw [setLast_length], rfl, by dsimp only; omega⟩,
          fun enc h => ⟨enc, h⟩⟩)
    · dsimp only
      split
      · unfold Model.io
        apply Post.bind
        intro r
        cases r with
        | error e => exact Post.pure (fun h => by cases h)
        | ok u => acct (fun enc h => ⟨enc, h⟩)
      · acct (fun _ _ => ⟨_, rfl⟩)
      · rename_i heq
        acct (fun enc h => Inner.noConfusion (heq.symm.trans h))
      · exact Post.pure (fun h => by cases h)

/-! ### `io::copy` over the translated `write` -/

/-- The reader's successive `read` results deliver exactly `chunks`: non-empty chunks of at most the buffer
size, `Interrupted` failures (retried by `io::copy`) anywhere in between, then end of data (`Ok(0)`, or the
end of the listed results). -/
inductive Delivers : List Rs.RdRes → List Bytes → Prop
  | nil : Delivers [] []
  | eof (rest : List Rs.RdRes) : Delivers (.ok [] :: rest) []
  | chunk (c : Bytes) (rest : List Rs.RdRes) (cs : List Bytes) : c ≠ [] → c.length ≤ 8192 →
      Delivers rest cs → Delivers (.ok c :: rest) (c :: cs)
  | intr (rest : List Rs.RdRes) (cs : List Bytes) : Delivers rest cs → Delivers (.err .interrupted :: rest) cs

/-- outcome (the byte count is dropped by the caller's `?;`) and final state of the copy -/
def absRu (r : Except ZErr UInt64 × Gen.ZipWriter) : Except ZErr Unit × WState := (r.1.map fun _ => (), absW r.2)

theorem sim_write_all_post {J : WState → Prop} {X : M (Except ZErr Unit × Gen.ZipWriter)} (g : Gen.ZipWriter)
    (buf : Bytes) (h : Sim absR (fun p => p.1 = .ok () → J (absW p.2)) X (writeData buf (absW g))) :
    Sim absR (fun p => p.1 = .ok () → (p.2.files.length = g.files.length ∧
        p.2.writing_to_file = g.writing_to_file ∧
        p.2.stats.bytes_written.toNat ≤ g.stats.bytes_written.toNat + buf.length) ∧ J (absW p.2))
      X (writeData buf (absW g)) := by
  refine Sim.mono (Sim.post_of_model h (writeData_post buf (absW g))) ?_
  intro p hp hok
  obtain ⟨h1, h2, h3⟩ := (hp.2 hok).1
  simp only [absR, absW, List.length_map] at h1 h2 h3
  exact ⟨⟨h1, h2, h3⟩, hp.1 hok⟩

/-- What the copy loop needs of one chunk: the tie of its `write_all`, keeping `J` of the writer state. -/
def ChunkStep (ext : Rs.S.Ext) (J : WState → Prop) : Prop :=
  ∀ (g : Gen.ZipWriter) (buf : Bytes), J (absW g) → buf.length < 9223372036854775808 →
    g.stats.bytes_written.toNat + buf.length < 18446744073709551616 →
    (g.writing_to_file = true → g.files ≠ []) →
    Sim absR (fun p => p.1 = .ok () → J (absW p.2))
      (Rs.S.run (Rs.S.write_all (Gen.ZipWriter.write ext) (buf.length + 1) g buf)) (writeData buf (absW g))

theorem ChunkStep.of_accept (ext : Rs.S.Ext) (hacc : ∀ b, ext.accept b = b.length) :
    ChunkStep ext fun _ => True :=
  fun g buf _ hlen hbytes hinv => (sim_write_all ext g buf hlen hbytes hinv hacc).mono fun _ _ _ => trivial

/-- The copy loop, for any property `J` of the writer state that every chunk keeps (`True` under
`accept b = b.length`; "the compressor stack is a storer" for every accept function). -/
theorem sim_io_copy_of (ext : Rs.S.Ext) (J : WState → Prop) (hstep : ChunkStep ext J) :
    ∀ (script : List Rs.RdRes) (chunks : List Bytes), Delivers script chunks →
    ∀ (g : Gen.ZipWriter) (len : UInt64),
      (g.writing_to_file = true → g.files ≠ []) →
      g.stats.bytes_written.toNat + chunks.flatten.length < 18446744073709551616 →
      J (absW g) →
      Sim absRu (fun _ => True)
        (Rs.S.run (Rs.C.io_copy (Gen.ZipWriter.write ext) g script len))
        (writeDataList chunks (absW g)) := by
  intro script chunks hd
  induction hd with
  | nil =>
    intro g len _ _ _
    simp only [Rs.C.io_copy, writeDataList]
    exact Sim.ret rfl trivial
  | eof rest =>
    intro g len _ _ _
    simp only [Rs.C.io_copy, writeDataList, List.length_nil, Rs.C.DEFAULT_BUF_SIZE, List.isEmpty_nil,
      show ¬ (0 > 8192) by omega, ↓reduceIte]
    exact Sim.ret rfl trivial
  | chunk c rest cs hne hle _ ih =>
    intro g len hinv hbytes hJ
    have hfl : (c :: cs).flatten.length = c.length + cs.flatten.length := by
      simp only [List.flatten_cons, List.length_append]
    rw [hfl] at hbytes
    have hemp : c.isEmpty = false := by cases c <;> simp_all
    simp only [Rs.C.io_copy, writeDataList, Rs.C.DEFAULT_BUF_SIZE, show ¬ (c.length > 8192) by omega, hemp,
      ↓reduceIte, Bool.false_eq_true]
    refine Sim.call (sim_write_all_post g c (hstep g c hJ (by omega) (by omega) hinv))
      (fun e st _ => Sim.leaf rfl trivial) fun u g2 hp => ?_
    obtain ⟨⟨h1, h2, h3⟩, h4⟩ := hp rfl
    have h1 : g2.files.length = g.files.length := h1
    have h2 : g2.writing_to_file = g.writing_to_file := h2
    have h3 : g2.stats.bytes_written.toNat ≤ g.stats.bytes_written.toNat + c.length := h3
    refine ih g2 _ (fun hw hnil => hinv (h2 ▸ hw) ?_) (by omega) h4
    rw [hnil] at h1
    exact List.eq_nil_of_length_eq_zero h1.symm
  | intr rest cs _ ih =>
    intro g len hinv hbytes hJ
    simp only [Rs.C.io_copy, ↓reduceIte]
    exact ih g len hinv hbytes hJ

theorem sim_io_copy (ext : Rs.S.Ext) (hacc : ∀ b, ext.accept b = b.length) :
    ∀ (script : List Rs.RdRes) (chunks : List Bytes), Delivers script chunks →
    ∀ (g : Gen.ZipWriter) (len : UInt64),
      (g.writing_to_file = true → g.files ≠ []) →
      g.stats.bytes_written.toNat + chunks.flatten.length < 18446744073709551616 →
      Sim absRu (fun _ => True)
        (Rs.S.run (Rs.C.io_copy (Gen.ZipWriter.write ext) g script len))
        (writeDataList chunks (absW g)) :=
  fun script chunks hd g len hinv hbytes =>
    sim_io_copy_of ext _ (ChunkStep.of_accept ext hacc) script chunks hd g len hinv hbytes trivial

/-! ### `raw_copy_file_rename`, `raw_copy_file` -/

/-- `FileOptions::default()` (features deflate, time): Deflated, default level, the wall clock, no permissions,
not a large file, no encryption -/
theorem tie_file_options_default (now : Gen.DateTime) :
    optOf (Gen.FileOptionsB.default now) =
      { method := .deflated, level := none, time := Tie.DateTime.toModel now, permissions := none,
        largeFile := false, encryptWith := none } := rfl

theorem tie_file_options_builders (o : Gen.FileOptions) (m : Gen.CompressionMethod) (t : Gen.DateTime) (b : Bool) :
    optOf (Gen.FileOptionsB.compression_method o m) = { optOf o with method := Tie.Types.methodOf m } ∧
    optOf (Gen.FileOptionsB.last_modified_time o t) = { optOf o with time := Tie.DateTime.toModel t } ∧
    optOf (Gen.FileOptionsB.large_file o b) = { optOf o with largeFile := b } := ⟨rfl, rfl, rfl⟩

/-- the `large_file` decision of the source, in the model's words -/
theorem big_eq (cs us : UInt64) :
    decide (max cs us ≥ Gen.ZIP64_BYTES_THR) = decide ((if cs ≥ us then cs else us) ≥ Model.ZIP64_BYTES_THR) := by
  have e : Gen.ZIP64_BYTES_THR = Model.ZIP64_BYTES_THR := rfl
  rw [e]
  by_cases h : cs ≤ us
  · rw [show max cs us = us from if_pos h]
    by_cases h2 : cs ≥ us
    · have : cs = us := by
        rw [← UInt64.toNat_inj]
        simp only [UInt64.le_iff_toNat_le, ge_iff_le] at h h2
        omega
      rw [if_pos h2, this]
    · rw [if_neg h2]
  · rw [show max cs us = cs from if_neg h]
    have h2 : cs ≥ us := by
      simp only [UInt64.le_iff_toNat_le, ge_iff_le] at h ⊢
      omega
    rw [if_pos h2]

/-- `raw_copy_file_rename`, for any property `J` of the writer state that `start_entry` establishes (a fact of
the model's `startEntry`) and every chunk keeps. -/
theorem sim_raw_copy_file_rename_of (ext : Rs.S.Ext) (now : Gen.DateTime) (g : Gen.ZipWriter)
    (file : Rs.C.ZipFile Gen.ZipFileData) (name : Bytes) (chunks : List Bytes)
    (J : WState → Prop) (hstep : ChunkStep ext J)
    (hstart : ∀ raw, Post (startEntry ext.toWExt name (rawCopyOptions (dataOf file.data)) raw (absW g))
      fun r => r.1 = .ok () → J { r.2 with writingToFile := true, writingRaw := true })
    (hf : ∀ f, g.files.getLast? = some f →
      f.extra_field.length ≤ 9223372036854775807 ∧
      f.data_start.toNat + f.extra_field.length < 18446744073709551616 ∧
      f.header_start.toNat + 34 + f.file_name.length < 18446744073709551616)
    (hname : name.length < 18446744073709551616)
    (htime : (Tie.DateTime.toModel file.data.last_modified_time).datepart ≠ none)
    (hraw : Delivers file.raw chunks)
    (htotal : chunks.flatten.length < 18446744073709551616) :
    Sim absR (fun _ => True) (Rs.S.run (Gen.ZipWriter.raw_copy_file_rename ext now g file name))
      (rawCopyChunks ext.toWExt (dataOf file.data) chunks name (absW g)) := by
  have key : ∀ (o' : Gen.FileOptions), o'.last_modified_time = file.data.last_modified_time →
      optOf o' = rawCopyOptions (dataOf file.data) →
      Sim absR (fun _ => True)
        (Rs.S.run (do
          let (t2, t3) ← Gen.ZipWriter.start_entry ext g name o'
            (some ({ crc32 := file.data.crc32, compressed_size := file.data.compressed_size,
                     uncompressed_size := file.data.uncompressed_size } : Gen.ZipRawValues))
          let (t4, t5) ← Rs.C.io_copy (Gen.ZipWriter.write ext)
            { t3 with writing_to_file := true, writing_raw := true } file.raw 0
          pure ((), t5)))
        (rawCopyChunks ext.toWExt (dataOf file.data) chunks name (absW g)) := by
    intro o' ht ho
    unfold rawCopyChunks
    rw [← ho]
    refine Sim.call (Sim.post_of_model (sim_start_entry ext g name o' _ hf hname (by rw [ht]; exact htime))
      (ho ▸ hstart _)) (fun e st _ => Sim.leaf rfl trivial) fun u g2 hp => ?_
    obtain ⟨hne, hb0⟩ := hp.1 rfl
    have hw := sim_io_copy_of ext J hstep file.raw chunks hraw { g2 with writing_to_file := true, writing_raw := true } 0
      (fun _ => hne)
      (by show g2.stats.bytes_written.toNat + chunks.flatten.length < 18446744073709551616
          rw [hb0]
          have e0 : (0 : UInt64).toNat = 0 := by decide
          rw [e0]; omega)
      (hp.2 rfl)
    refine Sim.call_tail hw fun p _ => ?_
    obtain ⟨r2, g3⟩ := p
    cases r2 <;> exact Sim.leaf rfl trivial
  have hum : Gen.ZipFileAcc.unix_mode file = some (dataOf file.data).unixMode :=
    Tie.Types.tie_unix_mode file.data (dataOf file.data) (view_dataOf file.data).1
  have hbig := big_eq file.data.compressed_size file.data.uncompressed_size
  unfold Gen.ZipWriter.raw_copy_file_rename
  -- the prefix of the method only BUILDS the options (accessors of the source entry, `FileOptions` builders: pure code with no
  -- model step to set a rule against): it is evaluated by `simp only`, and `key` is the walk of what follows, for the value built
  simp only [hum, S.lift_some_bind, Rs.C.get_raw_reader, Gen.ZipFileAcc.crc32, Gen.ZipFileAcc.compressed_size,
    Gen.ZipFileAcc.size, Gen.ZipFileAcc.last_modified, Gen.ZipFileAcc.compression,
    Gen.FileOptionsB.compression_method, Gen.FileOptionsB.last_modified_time, Gen.FileOptionsB.large_file,
    Gen.FileOptionsB.default]
  cases hu : (dataOf file.data).unixMode with
  | none =>
    have := key { compression_method := file.data.compression_method, compression_level := none,
                  last_modified_time := file.data.last_modified_time, permissions := none,
                  large_file := decide (max file.data.compressed_size file.data.uncompressed_size ≥ Gen.ZIP64_BYTES_THR),
                  encrypt_with := none } rfl (by simp only [optOf, rawCopyOptions, hu, hbig, Option.map]; rfl)
    simp only [S.pure_bind_s]
    exact this
  | some mode =>
    have := key { compression_method := file.data.compression_method, compression_level := none,
                  last_modified_time := file.data.last_modified_time, permissions := some mode,
                  large_file := decide (max file.data.compressed_size file.data.uncompressed_size ≥ Gen.ZIP64_BYTES_THR),
                  encrypt_with := none } rfl (by simp only [optOf, rawCopyOptions, hu, hbig, Option.map]; rfl)
    simp only [S.pure_bind_s]
    exact this

theorem sim_raw_copy_file_rename (ext : Rs.S.Ext) (now : Gen.DateTime) (g : Gen.ZipWriter)
    (file : Rs.C.ZipFile Gen.ZipFileData) (name : Bytes) (chunks : List Bytes)
    (hf : ∀ f, g.files.getLast? = some f →
      f.extra_field.length ≤ 9223372036854775807 ∧
      f.data_start.toNat + f.extra_field.length < 18446744073709551616 ∧
      f.header_start.toNat + 34 + f.file_name.length < 18446744073709551616)
    (hname : name.length < 18446744073709551616)
    (htime : (Tie.DateTime.toModel file.data.last_modified_time).datepart ≠ none)
    (hacc : ∀ b, ext.accept b = b.length)
    (hraw : Delivers file.raw chunks)
    (htotal : chunks.flatten.length < 18446744073709551616) :
    Sim absR (fun _ => True) (Rs.S.run (Gen.ZipWriter.raw_copy_file_rename ext now g file name))
      (rawCopyChunks ext.toWExt (dataOf file.data) chunks name (absW g)) :=
  sim_raw_copy_file_rename_of ext now g file name chunks _ (ChunkStep.of_accept ext hacc)
    (fun _ _ _ _ _ _ _ => trivial) hf hname htime hraw htotal

theorem sim_raw_copy_file (ext : Rs.S.Ext) (now : Gen.DateTime) (g : Gen.ZipWriter)
    (file : Rs.C.ZipFile Gen.ZipFileData) (chunks : List Bytes)
    (hf : ∀ f, g.files.getLast? = some f →
      f.extra_field.length ≤ 9223372036854775807 ∧
      f.data_start.toNat + f.extra_field.length < 18446744073709551616 ∧
      f.header_start.toNat + 34 + f.file_name.length < 18446744073709551616)
    (hname : file.data.file_name.length < 18446744073709551616)
    (htime : (Tie.DateTime.toModel file.data.last_modified_time).datepart ≠ none)
    (hacc : ∀ b, ext.accept b = b.length)
    (hraw : Delivers file.raw chunks)
    (htotal : chunks.flatten.length < 18446744073709551616) :
    Sim absR (fun _ => True) (Rs.S.run (Gen.ZipWriter.raw_copy_file ext now g file))
      (rawCopyChunks ext.toWExt (dataOf file.data) chunks (dataOf file.data).fileName (absW g)) := by
  have h := sim_raw_copy_file_rename ext now g file file.data.file_name chunks hf hname htime hacc hraw htotal
  have e : Rs.S.run (Gen.ZipWriter.raw_copy_file ext now g file) =
      Rs.S.run (Gen.ZipWriter.raw_copy_file_rename ext now g file file.data.file_name) := by
    unfold Gen.ZipWriter.raw_copy_file
    simp only [Gen.ZipFileAcc.name, Rs.S.run, S.toM_bind, S.toM_pure, bind_assoc]
    refine bind_congr fun r => ?_
    cases r with
    | ok p => obtain ⟨a, s⟩ := p; simp only [pure_bind, S.toM_pure]
    | error p => obtain ⟨e, s⟩ := p; simp only [pure_bind]
  rw [e]
  exact h

theorem Delivers.head_le {scr : List Rs.RdRes} {c : Bytes} {cs : List Bytes} (h : Delivers scr (c :: cs)) :
    c.length ≤ 8192 := by
  generalize hcs : c :: cs = l at h
  induction h with
  | nil => cases hcs
  | eof => cases hcs
  | chunk c' rest cs' hne hle _ _ => cases hcs; exact hle
  | intr rest cs' _ ih => exact ih hcs

/-- a reader that delivers the entry's bytes in ONE read (an entry of at most 8 KiB): the model's `rawCopy`
itself, for every device and every fault index -/
theorem sim_raw_copy_one (ext : Rs.S.Ext) (now : Gen.DateTime) (g : Gen.ZipWriter)
    (file : Rs.C.ZipFile Gen.ZipFileData) (name raw : Bytes)
    (hf : ∀ f, g.files.getLast? = some f →
      f.extra_field.length ≤ 9223372036854775807 ∧
      f.data_start.toNat + f.extra_field.length < 18446744073709551616 ∧
      f.header_start.toNat + 34 + f.file_name.length < 18446744073709551616)
    (hname : name.length < 18446744073709551616)
    (htime : (Tie.DateTime.toModel file.data.last_modified_time).datepart ≠ none)
    (hacc : ∀ b, ext.accept b = b.length)
    (hraw : Delivers file.raw [raw]) :
    Sim absR (fun _ => True) (Rs.S.run (Gen.ZipWriter.raw_copy_file_rename ext now g file name))
      (rawCopy ext.toWExt (dataOf file.data) raw name (absW g)) := by
  rw [rawCopy_eq_chunks]
  refine sim_raw_copy_file_rename ext now g file name [raw] hf hname htime hacc hraw ?_
  have := hraw.head_le
  simp only [List.flatten_cons, List.flatten_nil, List.append_nil]
  omega

/-- **The chunking is invisible on a fault-free sink** (`Lemmas/RawCopyChunks.rawCopyChunks_split`, restated beside the
tie): `rawCopyChunks chunks` - what the translated method is tied to - and
`rawCopy chunks.flatten` - what C02 / C12 / C14 are proved about - end with the same outcome, the same writer
state, the same sink contents and position, for every chunking of a raw stream not longer than the entry's
`compressed_size` (the raw reader is an `io::Take` with that limit; with the `large_file` decision of the
source this excludes the 4 GiB refusal). -/
theorem raw_copy_chunking_invisible (ext : WExt) (src : FileData) (chunks : List Bytes) (name : Bytes) (s : WState)
    (hI : Inv s) (ho : TimeOk src.time) (hne : ∀ c ∈ chunks, c ≠ [])
    (hlen : chunks.flatten.length ≤ src.compressedSize.toNat) (d : Dev) :
    ∃ o d1 d2, rawCopyChunks ext src chunks name s none d = (o, d1) ∧
      rawCopy ext src chunks.flatten name s none d = (o, d2) ∧ d1.buf = d2.buf ∧ d1.pos = d2.pos :=
  rawCopyChunks_split ext src chunks name s hI ho hne hlen d

/-- non-vacuity: a reader script with an `Interrupted` failure between two chunks -/
example : Delivers [.ok [1, 2, 3], .err .interrupted, .ok [4], .ok []] [[1, 2, 3], [4]] :=
  .chunk _ _ _ (by simp) (by simp) (.intr _ _ (.chunk _ _ _ (by simp) (by simp) (.eof _)))

end ZipVerif.Tie.WriterSM
