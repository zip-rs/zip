import ZipVerif.Tie.WriterSM
/-
Tie obligation for `impl Write for ZipWriter :: flush` (src/write.rs).

`rs2lean` translates the method in the STATE-MACHINE mode (`Gen.ZipWriter.flush`, `Gen/Writer.lean`): the match on
`self.inner.ref_mut()`, `w.flush()` through the current encoder, the `BrokenPipe` of a closed writer.

  tie_flush    erase (absR <$> Rs.S.run (Gen.ZipWriter.flush ext g)) = erase (Model.flushWriter (absW g))

an EQUATION for every writer value, every device and every fault index, without hypotheses.

TRUSTED VOCABULARY (`Basic/RsS.lean`): `w.flush()` on the `&mut dyn Write` of `ref_mut()` is
`Rs.S.enc_flush`: `Storer(Unencrypted(sink))` forwards to `sink.flush()` (ONE I/O call, its error is the
method's); `ZipCryptoWriter::flush` is `Ok(())` without I/O (src/zipcrypto.rs: the body is `Ok(())`); a flate2 /
bzip2 / zstd encoder's `flush` is `Ok(())`, no sink call, the stack as this model sees it unchanged (the byte
stream the entry ends up with is the parameter `ext.compress`; the sink calls an encoder's flush makes under an
injected fault are not modelled - the statement of `Model.flushWriter`).
-/
namespace ZipVerif.Tie.Flush
open ZipVerif ZipVerif.Model ZipVerif.Tie.WriterSM

theorem tie_flush (ext : Rs.S.Ext) (g : Gen.ZipWriter) :
    erase (absR <$> Rs.S.run (Gen.ZipWriter.flush ext g)) = erase (flushWriter (absW g)) := by
  unfold Gen.ZipWriter.flush flushWriter
  cases hin : g.inner with
  | closed =>
    ssimp [absW, hin, Rs.S.ref_mut]
    simp only [absR, absW, hin]
  | storer enc =>
    cases enc with
    | none =>
      ssimp [absW, hin, Rs.S.ref_mut, Rs.S.enc_flush, Model.io]
      apply erase_congr
      intro r
      cases r with
      | error e =>
        ssimp []
        simp only [absR, absW, hin]
      | ok n =>
        ssimp []
        simp only [absR, absW, hin]
    | some e =>
      ssimp [absW, hin, Rs.S.ref_mut, Rs.S.enc_flush, Model.io]
      simp only [absR, absW, hin]
  | compressor m l enc pending =>
    ssimp [absW, hin, Rs.S.ref_mut, Rs.S.enc_flush, Model.io]
    simp only [absR, absW, hin]

end ZipVerif.Tie.Flush
