import ZipVerif.Gen.AesLayer
import ZipVerif.Tie.AesCtr
/-
Tie obligation for `AesReader::validate` (aes.rs; tier T6, LAYER mode of rs2lean).
`rs2lean` prints `Gen.AesReader.validate` into `Gen/AesLayer.lean` from src/aes.rs: salt and key length by mode, the
`ok_or_else(InvalidData)?` on the entry length, the two `read_exact` calls, `2 * key_length + PWD_VERIFY_LENGTH`,
the PBKDF2 call with `ITERATION_COUNT`, the three slices of the derived key, the verifier comparison
(`Ok(None)` on mismatch), `cipher_from_mode`, `Hmac::new_from_slice(..).unwrap()` and the fields of the
returned `AesReaderValid`.  `cipher_from_mode` and `AesCtrZipKeyStream::new` (`Gen/AesCtr.lean`) are translated as well.

The outcome is that of `Model.Aes.validate` (`tie_aes_validate`): the validated reader — inner reader state,
`data_remaining`, cipher = a key stream in its initial state under the decrypt key, HMAC under the HMAC key
with an empty message, `finalized = false` —, `Ok(None)`, the I/O error kind, or a panic, for every implementation of
`Box<dyn AesCipher>`.  With the translated key stream behind the box (`tie_aes_validate_keystream`) the reader returned
is one `Tie.AesCtr.tie_aes_read_keystream` applies to, `CtrState.new` being `Typed` (`Tie.AesCtr.new_typed`).

Trusted vocabulary (`Basic/RsAes.lean`, `Tie/AesVocab.lean`): PBKDF2 as a function of password, salt, ROUNDS and
output length — instantiated with the model's (1000-round) `P.pbkdf2` for 1000 rounds and an arbitrary unrelated
function `Q` otherwise, so another iteration count breaks the equation —; the key sizes 16 / 24 / 32 of
`aes::Aes128` / `Aes192` / `Aes256`; `Box::new(x) as Box<dyn AesCipher>` is an arbitrary function `bx` of the key
stream into the states of the trait object; `Hmac::new_from_slice` accepts every key.
Hypotheses: `P.WF` (PBKDF2 fills the buffer it is given: a fact of the Rust signature); the entry length below
2^64 (`hdl`: in the statements, used by no proof - both sides hold `UInt64.ofNat` of the length).  `self` is consumed, so
the inner reader's state after a FAILED validate is not compared.
-/

namespace ZipVerif.Tie.AesValidate
open ZipVerif ZipVerif.Model.Aes ZipVerif.Tie.Layers ZipVerif.Tie.AesLayer ZipVerif.Tie.AesCtr

variable {σ : Type}

/-- the type of `Box::new(x) as Box<dyn AesCipher>` for an implementation `D` of `Box<dyn AesCipher>` -/
abbrev BoxFn (D : Rs.AesDyn) : Type 1 := {C : Type} → Gen.AesCtrZipKeyStream C → D.Cipher

/-- the parameter `Rs.AesBox` of the generated code := an arbitrary boxing function `bx` -/
@[instance_reducible] def boxOf (D : Rs.AesDyn) (bx : BoxFn D) : @Rs.AesBox D := @Rs.AesBox.mk D bx

/-- the kind `cipher_from_mode` chooses for a mode -/
def kindOf : Gen.AesMode → Type
  | .Aes128 => Gen.Aes128
  | .Aes192 => Gen.Aes192
  | .Aes256 => Gen.Aes256

/-- the state of `Box<dyn AesCipher>` that stands for the model's key stream `(key, ctr)` of an entry of mode `mode`:
the boxed translated key stream of the mode's kind -/
def embOf (D : Rs.AesDyn) (bx : BoxFn D) (mode : Gen.AesMode) (key : Bytes) (ctr : CtrState) : D.Cipher :=
  bx (toGen (C := kindOf mode) key ctr)

/-- **`AesCtrZipKeyStream::<C>::new(key)`** = the model's `CtrState.new` under `key`, or the panic of
`GenericArray::from_slice` when the key does not have the key size of `C::Cipher`. -/
theorem tie_keystream_new (C : Type) [Rs.AesKind C] (key : Bytes) :
    Gen.AesCtrZipKeyStream.new (C := C) key =
      if key.length = Rs.AesKind.keyLen C then some (toGen key CtrState.new) else none := by
  unfold Gen.AesCtrZipKeyStream.new Rs.AesBlock.new
  by_cases h : key.length = Rs.AesKind.keyLen C
  · simp only [h, if_true, Id.run, Rs.L.id_pure]
    rfl
  · simp only [h, if_false, Id.run, Rs.L.id_pure]

/-- the key sizes of the three kinds are the key lengths of the modes (`AesMode::key_length`, Tie.Aes) -/
theorem kind_keyLen (mode : Gen.AesMode) :
    (match mode with
      | .Aes128 => Rs.AesKind.keyLen Gen.Aes128
      | .Aes192 => Rs.AesKind.keyLen Gen.Aes192
      | .Aes256 => Rs.AesKind.keyLen Gen.Aes256) = (Tie.Aes.toModel mode).keyLength := by
  cases mode <;> rfl

/-- the outcome of a generated function in the vocabulary of the model -/
def cls {α : Type} : Rs.IoRes α → Out α
  | .ok a => .ok a
  | .err e => .err (.io e)
  | .panic => .panic ""

/-- the successful result carried over to the generated structure -/
def mapOk {α β : Type} (f : α → β) : Out α → Out β
  | .ok a => .ok (f a)
  | .err e => .err e
  | .panic m => .panic m

theorem sliceFrom_ofNat (bs : Bytes) {n : Nat} (hn : n < 2 ^ 64) :
    Rs.sliceFrom bs (UInt64.ofNat n) = if n ≤ bs.length then some (bs.drop n) else none := by
  unfold Rs.sliceFrom
  rw [U64.toNat_ofNat hn]

theorem vecZeros_length {n : Nat} (hn : n < 2 ^ 64) : (Rs.vecZeros (UInt64.ofNat n)).length = n := by
  simp [Rs.vecZeros, U64.toNat_ofNat hn]

/-- **`cipher_from_mode(mode, key)`** = the boxed key stream of the mode's kind in its initial state, if the key has
the key length of the mode; else a panic. -/
theorem tie_cipher_from_mode (D : Rs.AesDyn) (bx : BoxFn D) (mode : Gen.AesMode) (key : Bytes) :
    @Gen.cipher_from_mode D (boxOf D bx) mode key =
      if key.length = (Tie.Aes.toModel mode).keyLength then some (embOf D bx mode key CtrState.new) else none := by
  unfold Gen.cipher_from_mode
  rw [← kind_keyLen mode]
  cases mode
  · by_cases hk : key.length = Rs.AesKind.keyLen Gen.Aes128 <;>
      simp only [Id.run, Rs.L.id_pure, Rs.L.id_bind, tie_keystream_new, hk, if_true, if_false] <;> rfl
  · by_cases hk : key.length = Rs.AesKind.keyLen Gen.Aes192 <;>
      simp only [Id.run, Rs.L.id_pure, Rs.L.id_bind, tie_keystream_new, hk, if_true, if_false] <;> rfl
  · by_cases hk : key.length = Rs.AesKind.keyLen Gen.Aes256 <;>
      simp only [Id.run, Rs.L.id_pure, Rs.L.id_bind, tie_keystream_new, hk, if_true, if_false] <;> rfl

/-! ### `AesReader::validate`

What the generated function returns, given what its calls return: for any inner reader, primitives and
`Box<dyn AesCipher>`.  Each proof is one `simp only` pass along the path taken: every call on the path is rewritten to
its result, so the `match` on it reduces before the rest of the function is visited. -/

section
variable [A : Rs.AesPrims] [D : Rs.AesDyn] [B : Rs.AesBox] {R : Type} [I : Rs.Read R] {reader s1 s2 : R}
  {mode : Gen.AesMode} {n : UInt64} {pw salt pvv dk b1 b2 : Bytes} {emb : Bytes → Rs.AesDyn.Cipher} {r : Rs.IoRes Unit}

/-- no entry length: `ok_or_else(InvalidData)?` -/
theorem gen_validate_none : Gen.AesReader.validate ⟨reader, mode, none⟩ pw = .err .invalidData := by
  unfold Gen.AesReader.validate
  simp only [Id.run, Rs.L.id_pure, Tie.Aes.tie_salt_length, Tie.Aes.tie_key_length, Rs.L.okOr, Rs.IoRes.fail, Rs.ioKind]

/-- reading the salt fails.  (`hr` is used: `simp` discharges the side condition of the `match` on `r` with it.) -/
theorem gen_validate_salt_fail
    (h1 : Rs.L.read_exact reader (Rs.vecZeros (UInt64.ofNat (Tie.Aes.toModel mode).saltLength)) = (r, s1, b1))
    (hr : ∀ u, r ≠ .ok u) :
    Gen.AesReader.validate ⟨reader, mode, some n⟩ pw = r.fail := by
  unfold Gen.AesReader.validate
  simp only [Id.run, Rs.L.id_pure, Tie.Aes.tie_salt_length, Tie.Aes.tie_key_length, Rs.L.okOr, h1]

/-- reading the password verification value fails -/
theorem gen_validate_verifier_fail
    (h1 : Rs.L.read_exact reader (Rs.vecZeros (UInt64.ofNat (Tie.Aes.toModel mode).saltLength)) = (.ok (), s1, salt))
    (h2 : Rs.L.read_exact s1 (Rs.vecZeros Gen.PWD_VERIFY_LENGTH) = (r, s2, b2)) (hr : ∀ u, r ≠ .ok u) :
    Gen.AesReader.validate ⟨reader, mode, some n⟩ pw = r.fail := by
  unfold Gen.AesReader.validate
  simp only [Id.run, Rs.L.id_pure, Tie.Aes.tie_salt_length, Tie.Aes.tie_key_length, Rs.L.okOr, h1, h2]

/-- Both reads succeed: the key schedule (`dk` is what PBKDF2 returns for `2 * k + 2` bytes) and the comparison of the
verifier, for a `cipher_from_mode` that accepts keys of the mode's key length `k`. -/
theorem gen_validate_ok {k : Nat} (hk : (Tie.Aes.toModel mode).keyLength = k) (hK : 2 * k + 2 < 2 ^ 64)
    (h1 : Rs.L.read_exact reader (Rs.vecZeros (UInt64.ofNat (Tie.Aes.toModel mode).saltLength)) = (.ok (), s1, salt))
    (h2 : Rs.L.read_exact s1 (Rs.vecZeros Gen.PWD_VERIFY_LENGTH) = (.ok (), s2, pvv))
    (hdk : Rs.pbkdf2 pw salt Gen.ITERATION_COUNT (Rs.vecZeros (UInt64.ofNat (2 * k + 2))) = dk)
    (hlen : dk.length = 2 * k + 2) (hc : ∀ key, key.length = k → Gen.cipher_from_mode mode key = some (emb key)) :
    Gen.AesReader.validate ⟨reader, mode, some n⟩ pw =
      if pvv = dk.drop (2 * k) then .ok (some ⟨s2, n, emb (dk.take k), ⟨(dk.drop k).take k, []⟩, false⟩)
      else .ok none := by
  -- every offset of the key schedule is at most `dk.length`, so nothing overflows
  have lt {x : Nat} (h : x ≤ dk.length) : x < 2 ^ 64 := Nat.lt_of_le_of_lt h (hlen ▸ hK)
  have le2 : 2 * k ≤ dk.length := hlen ▸ Nat.le_add_right (2 * k) 2
  have le3 : k * 2 ≤ dk.length := Nat.mul_comm 2 k ▸ le2
  have le1 : k ≤ dk.length := Nat.le_trans (Nat.le_mul_of_pos_right k (by decide)) le3
  have m1 : Rs.Arith.mul 2 (UInt64.ofNat k) = some (UInt64.ofNat (2 * k)) :=
    (U64.mul_ofNat (by decide) (lt le1)).trans (if_pos (lt le2))
  have m2 : Rs.Arith.mul (UInt64.ofNat k) 2 = some (UInt64.ofNat (k * 2)) :=
    (U64.mul_ofNat (lt le1) (by decide)).trans (if_pos (lt le3))
  have a1 : Rs.Arith.add (UInt64.ofNat (2 * k)) Gen.PWD_VERIFY_LENGTH = some (UInt64.ofNat (2 * k + 2)) :=
    (U64.add_ofNat (lt le2) (by decide)).trans (if_pos hK)
  have a2 : Rs.Arith.sub (UInt64.ofNat (2 * k + 2)) 2 = some (UInt64.ofNat (2 * k)) :=
    (U64.sub_ofNat hK (by decide)).trans (if_pos (Nat.le_add_left 2 (2 * k)))
  have l1 : Rs.slice dk 0 (UInt64.ofNat k) = some (dk.take k) := (slice0 dk (lt le1)).trans (if_pos le1)
  have l2 : Rs.slice dk (UInt64.ofNat k) (UInt64.ofNat (k * 2)) = some ((dk.drop k).take k) := by
    rw [slice_ofNat dk (lt le1) (lt le3), if_pos ⟨Nat.le_mul_of_pos_right k (by decide), le3⟩, List.drop_take,
      Nat.mul_two, Nat.add_sub_cancel]
  have l3 : Rs.sliceFrom dk (UInt64.ofNat (2 * k)) = some (dk.drop (2 * k)) :=
    (sliceFrom_ofNat dk (lt le2)).trans (if_pos le2)
  unfold Gen.AesReader.validate
  simp only [Id.run, Rs.L.id_pure, Tie.Aes.tie_salt_length, Tie.Aes.tie_key_length, Rs.L.okOr, h1, h2, hk, m1, a1, hdk,
    l1, m2, l2, a2, l3, hc _ (List.length_take_of_le le1), Rs.Hmac.new_from_slice, Rs.L.bytesEq, Bool.not_eq_eq_eq_not,
    Bool.not_true, decide_eq_false_iff_not, ite_not]

end

/-- with `ITERATION_COUNT` rounds the PBKDF2 of the generated code is the model's (`Q` is not reached) -/
theorem pbkdf2_primsOf (P : AesPrims) (Q : Bytes → Bytes → UInt32 → Nat → Bytes) (pw salt : Bytes) {n : Nat}
    (hn : n < 2 ^ 64) :
    @Rs.pbkdf2 (primsOf P Q) pw salt Gen.ITERATION_COUNT (Rs.vecZeros (UInt64.ofNat n)) = P.pbkdf2 pw salt n := by
  show (if Gen.ITERATION_COUNT = 1000 then P.pbkdf2 pw salt (Rs.vecZeros (UInt64.ofNat n)).length
    else Q pw salt Gen.ITERATION_COUNT (Rs.vecZeros (UInt64.ofNat n)).length) = _
  rw [vecZeros_length hn]
  exact if_pos rfl

/-- **`AesReader::validate` is the model's `validate`**: same outcome (a reader in the same state / wrong
password / error kind / panic) for every inner reader, primitive triple, mode, entry length and password, and
for every implementation of `Box<dyn AesCipher>` (`D`, `emb`).  `self` is consumed by the Rust function, so the
inner reader's state after a failure is not part of the result. -/
theorem tie_aes_validate (P : AesPrims) (Q : Bytes → Bytes → UInt32 → Nat → Bytes) (hW : P.WF) (D : Rs.AesDyn)
    (bx : BoxFn D) (S : Src σ) (reader : σ) (mode : Gen.AesMode) (dl : Option Nat)
    (hdl : ∀ n, dl = some n → n < 2 ^ 64) (pw : Bytes) :
    cls (@Gen.AesReader.validate (primsOf P Q) D (boxOf D bx) σ (readOfA S)
        ⟨reader, mode, dl.map UInt64.ofNat⟩ pw) =
      eraseMsg (mapOk (fun o => o.map (toGenD D (embOf D bx mode)))
        (validate P S (Tie.Aes.toModel mode) dl reader pw).1) := by
  letI := primsOf P Q
  letI := boxOf D bx
  letI := readOfA S
  cases dl with
  | none => exact congrArg cls (gen_validate_none)
  | some n =>
    rw [Option.map_some]
    obtain ⟨salt, s1, h1, g1⟩ | hf := read_exact_cases S reader _
      (vecZeros_length (n := (Tie.Aes.toModel mode).saltLength) (by cases mode <;> decide))
    rotate_left
    · rcases hf with ⟨e, s1, h1, g1⟩ | ⟨m, s1, h1, g1⟩ <;>
        (rw [gen_validate_salt_fail g1 (fun _ => nofun)]; simp only [validate, h1]; rfl)
    obtain ⟨pvv, s2, h2, g2⟩ | hf :=
      read_exact_cases S s1 (Rs.vecZeros Gen.PWD_VERIFY_LENGTH) (n := PWD_VERIFY_LENGTH) rfl
    rotate_left
    · rcases hf with ⟨e, s2, h2, g2⟩ | ⟨m, s2, h2, g2⟩ <;>
        (rw [gen_validate_verifier_fail g1 g2 (fun _ => nofun)]; simp only [validate, h1, h2]; rfl)
    have hK : 2 * (Tie.Aes.toModel mode).keyLength + 2 < 2 ^ 64 := by cases mode <;> decide
    rw [gen_validate_ok rfl hK g1 g2 (pbkdf2_primsOf P Q pw salt hK) (hW.pbkdf2_len ..)
      fun key h => (tie_cipher_from_mode D bx mode key).trans (if_pos h)]
    split
    next hv => rw [validate_accepts P S _ n pw h1 h2 hW hv]; rfl
    next hv => rw [validate_rejects P S _ n pw h1 h2 hv]; rfl

/-! ### `Box<dyn AesCipher>` := the translated key stream

With the translated `AesCtrZipKeyStream` as the member of `Rs.AesDyn` (`Tie.AesCtr.dynGen`) and "forget the type
parameter" as the boxing function, the reader `validate` returns is the one `Tie.AesCtr.tie_aes_read_keystream` is
about: from `validate` to the last `read` nothing but PBKDF2, the AES block function and HMAC is vocabulary. -/

/-- `Box::new(x) as Box<dyn AesCipher>` for the translated key stream: the same fields (`C` is a phantom parameter
of the generated structure) -/
def forgetKind : BoxFn (dynGen P Unit) := fun {_} x => ⟨x.counter, x.cipher, x.buffer, x.pos⟩

theorem embOf_forgetKind (P : AesPrims) (mode : Gen.AesMode) :
    embOf (dynGen P Unit) (forgetKind (P := P)) mode = fun k st => AesCtr.toGen k st := by
  cases mode <;> rfl

/-- **`AesReader::validate` with the translated key stream behind `Box<dyn AesCipher>`** returns the reader state
`toGenD (dynGen P Unit) toGen` of the model's validated reader. -/
theorem tie_aes_validate_keystream (P : AesPrims) (Q : Bytes → Bytes → UInt32 → Nat → Bytes) (hW : P.WF)
    (S : Src σ) (reader : σ) (mode : Gen.AesMode) (dl : Option Nat) (hdl : ∀ n, dl = some n → n < 2 ^ 64) (pw : Bytes) :
    cls (@Gen.AesReader.validate (primsOf P Q) (dynGen P Unit) (boxOf (dynGen P Unit) (forgetKind (P := P))) σ (readOfA S)
        ⟨reader, mode, dl.map UInt64.ofNat⟩ pw) =
      eraseMsg (mapOk (fun o => o.map (toGenD (dynGen P Unit) (fun k st => AesCtr.toGen k st)))
        (validate P S (Tie.Aes.toModel mode) dl reader pw).1) := by
  rw [tie_aes_validate P Q hW (dynGen P Unit) (forgetKind (P := P)) S reader mode dl hdl pw, embOf_forgetKind]

end ZipVerif.Tie.AesValidate
