import ZipVerif.Gen.Append
import ZipVerif.Tie.Parsers
/-
Tie obligations for the append mode of src/write.rs (`rs2lean/src/t6w2.rs`, vocabulary
`Basic/RsB.lean`).

  tie_strip_zip64    Gen.strip_zip64_extra_field extra = pure (Model.stripZip64 (extra.length + 1) extra)
                     (`extra.len() < 2^64`, a Rust slice): the translated `while rest.len() >= 4 { … break … }`
                     loop - record header by indexing, `u16::from_le_bytes`, the `rest.len() < 4 + len` guard
                     with `break`, `kind != 0x0001`, the copy of `&rest[..4 + len]`, the advance to
                     `&rest[4 + len..]`, the tail appended after the loop - computes the model's function, never
                     panics (indexes in bounds, no overflow, generated fuel adequate) and touches no device.

TRUSTED VOCABULARY (`Basic/RsB.lean`): `x[i]` on a byte slice is `List` lookup with a panic out of bounds;
`u16::from_le_bytes([a, b])` is `mk16 a b`; `Vec::<u8>::with_capacity(n)` is the empty vector (allocation
failure is not modelled); `v.extend_from_slice(x)` is `v ++ x`.
-/
set_option linter.unusedSimpArgs false
set_option linter.unusedVariables false

namespace ZipVerif.Tie.Append
open ZipVerif ZipVerif.Model ZipVerif.Tie.Parsers

/-- how the translated function ends after its loop -/
def stripEnd (t : Rs.LoopEnd (Bytes × Bytes) Bytes) : M Bytes :=
  match t with
  | .ret r => pure r
  | .done (o, r) => pure (Rs.B.extend o r)

theorem strip_short (n : Nat) (out rest : Bytes) (h : rest.length < 4) :
    Rs.R.whileLoop Gen.strip_zip64_extra_field.loop1_cond Gen.strip_zip64_extra_field.loop1_body (n + 1)
      (out, rest) = pure (.done (out, rest)) := by
  have hc : decide (Rs.len rest ≥ (4 : UInt64)) = false := by
    simp only [ge_iff_le, UInt64.le_iff_toNat_le, U64.len_toNat rest (by omega), UInt64.reduceToNat,
      decide_eq_false_iff_not]; omega
  rw [R.whileLoop_succ]
  simp only [Gen.strip_zip64_extra_field.loop1_cond, hc, pure_bind, Bool.false_eq_true, ↓reduceIte]

/-- `n` is the fuel of the translated `while` (the translator prints `rest.len() - 4 + 2`, see `tie_strip_zip64`), `k` the
model's; every round takes at least the 4 bytes of a record header off `rest`, which keeps `rest.length ≤ n + 2` and
`rest.length < k` as both fuels go down by one. -/
theorem strip_loop : ∀ (n k : Nat) (out rest : Bytes), rest.length < 18446744073709551616 →
    1 ≤ n → rest.length ≤ n + 2 → rest.length < k →
    Rs.R.whileLoop Gen.strip_zip64_extra_field.loop1_cond Gen.strip_zip64_extra_field.loop1_body n
      (out, rest) >>= stripEnd = pure (out ++ stripZip64 k rest) := by
  intro n
  induction n with
  | zero => intro k out rest _ h1; omega
  | succ m ih =>
    intro k out rest hlen _ hn hk
    obtain ⟨k', rfl⟩ : ∃ k', k = k' + 1 := ⟨k - 1, by omega⟩
    by_cases h4 : rest.length < 4
    · rw [strip_short m out rest h4, pure_bind]
      simp only [stripEnd, Rs.B.extend]
      rw [stripZip64, if_pos h4]
    · match rest, h4, hlen, hn, hk with
      | a :: b :: c :: d :: r2, h4, hlen, hn, hk =>
        simp only [List.length_cons] at hlen hn hk
        have hl : (Rs.len (a :: b :: c :: d :: r2)).toNat = r2.length + 4 :=
          U64.len_toNat _ (by simp only [List.length_cons]; omega)
        have hc : decide (Rs.len (a :: b :: c :: d :: r2) ≥ (4 : UInt64)) = true := by
          simp only [ge_iff_le, UInt64.le_iff_toNat_le, hl, UInt64.reduceToNat, decide_eq_true_eq]; omega
        have hL : (Rs.as' UInt64 (mk16 c d)).toNat = (mk16 c d).toNat := as_u16_u64_toNat _
        have hL16 : (mk16 c d).toNat < 65536 := UInt16.toNat_lt _
        obtain ⟨hadd, haddn⟩ := U64.add_some (4 : UInt64) (Rs.as' UInt64 (mk16 c d))
          (by simp only [UInt64.reduceToNat, hL]; omega)
        simp only [UInt64.reduceToNat, hL] at haddn
        rw [R.whileLoop_succ]
        simp only [Gen.strip_zip64_extra_field.loop1_cond, hc, pure_bind, ↓reduceIte,
          Gen.strip_zip64_extra_field.loop1_body, Rs.B.byteAt, UInt64.reduceToNat, List.getElem?_cons_zero,
          List.getElem?_cons_succ, Rs.R.lift, Rs.B.u16_from_le, hadd, bind_assoc]
        have hm : stripZip64 (k' + 1) (a :: b :: c :: d :: r2) =
            if r2.length < (mk16 c d).toNat then a :: b :: c :: d :: r2
            else if (mk16 a b != (1 : UInt16)) = true then
              (a :: b :: c :: d :: r2).take (4 + (mk16 c d).toNat) ++ stripZip64 k' (r2.drop (mk16 c d).toNat)
            else stripZip64 k' (r2.drop (mk16 c d).toNat) := by
          have h4' : ¬ (r2.length + 1 + 1 + 1 + 1 < 4) := by omega
          simp only [stripZip64, rd16, List.length_cons, h4', ↓reduceIte]
        rw [hm]
        by_cases hshort : r2.length < (mk16 c d).toNat
        · -- the record is cut off: `break`, the tail is kept
          have hlt : decide (Rs.len (a :: b :: c :: d :: r2) < (4 : UInt64) + Rs.as' UInt64 (mk16 c d)) = true := by
            simp only [UInt64.lt_iff_toNat_lt, hl, haddn, decide_eq_true_eq]; omega
          simp only [hlt, ↓reduceIte, pure_bind, stripEnd, Rs.B.extend, if_pos hshort]
        · have hlt : decide (Rs.len (a :: b :: c :: d :: r2) < (4 : UInt64) + Rs.as' UInt64 (mk16 c d)) = false := by
            simp only [UInt64.lt_iff_toNat_lt, hl, haddn, decide_eq_false_iff_not]; omega
          have hto : Rs.sliceTo (a :: b :: c :: d :: r2) ((4 : UInt64) + Rs.as' UInt64 (mk16 c d)) =
              some ((a :: b :: c :: d :: r2).take (4 + (mk16 c d).toNat)) := by
            simp only [Rs.sliceTo, haddn, List.length_cons]; rw [if_pos (by omega)]
          have hfrom : Rs.sliceFrom (a :: b :: c :: d :: r2) ((4 : UInt64) + Rs.as' UInt64 (mk16 c d)) =
              some (r2.drop (mk16 c d).toNat) := by
            simp only [Rs.sliceFrom, haddn, List.length_cons]; rw [if_pos (by omega)]
            have : 4 + (mk16 c d).toNat = (mk16 c d).toNat + 1 + 1 + 1 + 1 := by omega
            rw [this]; rfl
          have hrec := fun o => ih k' o (r2.drop (mk16 c d).toNat)
            (by rw [List.length_drop]; omega)
            (by omega) (by rw [List.length_drop]; omega) (by rw [List.length_drop]; omega)
          simp only [hlt, Bool.false_eq_true, ↓reduceIte, pure_bind, hto, hfrom, if_neg hshort, bind_assoc]
          by_cases hk1 : (mk16 a b != (1 : UInt16)) = true
          · simp only [hk1, ↓reduceIte, pure_bind, Rs.B.extend, bind_assoc]
            rw [hrec, List.append_assoc]
          · simp only [hk1, Bool.false_eq_true, ↓reduceIte, pure_bind, bind_assoc]
            rw [hrec]
      | [], h4, _, _, _ => simp at h4
      | [_], h4, _, _, _ => simp at h4
      | [_, _], h4, _, _, _ => simp at h4
      | [_, _, _], h4, _, _, _ => simp at h4

theorem tie_strip_zip64 (extra : Bytes) (h : extra.length < 18446744073709551616) :
    Gen.strip_zip64_extra_field extra = pure (stripZip64 (extra.length + 1) extra) := by
  have := strip_loop ((Rs.len extra).toNat - (4 : UInt64).toNat + 2) (extra.length + 1) [] extra h
    (by omega) (by simp only [U64.len_toNat extra h, UInt64.reduceToNat]; omega) (by omega)
  unfold Gen.strip_zip64_extra_field
  simp only [Rs.B.with_capacity]
  rw [List.nil_append] at this
  rw [← this]
  refine bind_congr fun t => ?_
  cases t with
  | ret r => rfl
  | done s => rfl

end ZipVerif.Tie.Append
