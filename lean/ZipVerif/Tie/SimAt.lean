import ZipVerif.Tie.WriterSM
/-
`Sim` (Tie/WriterSM.lean) at ONE fault index and device: what a tie says of a single run.  A callee whose tie holds only
on runs that satisfy a condition on the DEVICE (`Tie/AlignedDev.lean`: the position bound) is peeled with `SimAt.bind`;
from the values it returned on, the rest is an ordinary `Sim`.
-/
namespace ZipVerif.Tie.AlignedDev
open ZipVerif ZipVerif.Model ZipVerif.Tie.WriterSM

/-- the body of `Sim` for one run -/
def SimAt {α α'} (φ : α → α') (P : α → Prop) (X : M α) (Y : M α') (fa : Option Nat) (d : Dev) : Prop :=
  (X fa d).1 = .panic Rs.S.OVF ∨
    (erase (φ <$> X) fa d = erase Y fa d ∧ ∀ a d', X fa d = (.ok a, d') → P a)

theorem SimAt.of_sim {α α'} {φ : α → α'} {P : α → Prop} {X : M α} {Y : M α'} {fa : Option Nat} {d : Dev}
    (h : Sim φ P X Y) : SimAt φ P X Y fa d := h fa d

theorem sim_iff_at {α α'} (φ : α → α') (P : α → Prop) (X : M α) (Y : M α') :
    Sim φ P X Y ↔ ∀ fa d, SimAt φ P X Y fa d := Iff.rfl

/-- peel a first step on THIS run: the continuation is compared on the device the first step left, for the value
both sides returned there -/
theorem SimAt.bind {α1 α1' α α'} {φ1 : α1 → α1'} {P1 : α1 → Prop} {φ : α → α'} {P : α → Prop}
    {X : M α1} {Y : M α1'} {F : α1 → M α} {G : α1' → M α'} {fa : Option Nat} {d : Dev}
    (hX : SimAt φ1 P1 X Y fa d)
    (hF : ∀ a d1, X fa d = (.ok a, d1) → Y fa d = (.ok (φ1 a), d1) → P1 a →
      SimAt φ P (F a) (G (φ1 a)) fa d1) : SimAt φ P (X >>= F) (Y >>= G) fa d :=
  Sim.bind_run hX hF

/-- what the model's run on `(fa, d)` shows of the values the translation returned there -/
theorem SimAt.post_of_run {α α'} {φ : α → α'} {P Q : α → Prop} {X : M α} {Y : M α'} {fa : Option Nat} {d : Dev}
    (h : SimAt φ P X Y fa d) (hQ : ∀ a d1, X fa d = (.ok a, d1) → Y fa d = (.ok (φ a), d1) → P a → Q a) :
    SimAt φ Q X Y fa d := by
  have := SimAt.bind (F := pure) (G := pure) (φ := φ) (P := Q) h fun a d1 hx hy hp =>
    SimAt.of_sim (Sim.leaf rfl (hQ a d1 hx hy hp))
  rwa [bind_pure, bind_pure] at this

end ZipVerif.Tie.AlignedDev
