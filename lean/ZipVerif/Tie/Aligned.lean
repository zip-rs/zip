import ZipVerif.Tie.SimAt
/-
Tie obligation for `ZipWriter::start_file_aligned` (src/write.rs; item kind `sfn`, STATE-MACHINE mode of
`rs2lean`, `rs2lean/src/t6w.rs`).  Translator vocabulary this method needs beside that of Tie/WriterSM.lean: a
byte-string literal `b".."` is its bytes, `self.write_uNN::<LittleEndian>(v)?` is byteorder's `WriteBytesExt` =
`self.write_all(&v.to_le_bytes())`, `assert_eq!(a, b)` evaluates both sides in order and panics unless they are equal.

ONE walk through the method, `sim_start_file_aligned_of`: on one run, from the ties of the four callees
(`start_file_with_extra_data`, `self.write_all`, `end_local_start_central_extra_data`, `end_extra_data`) along the
stages of the call (what is known of the object after the first callee, after each of the three `write_all`s, after
`end_local_start_central_extra_data`), `Gen.ZipWriter.start_file_aligned ext g name o align` simulates
`Model.startFileAligned … (absW g)` (`SimAt absRn`: same I/O, outcome, value, device, corresponding writer state, up
to the `OVF` panic).  What the walk itself checks is the code of `start_file_aligned`: the call order, `align as u64`,
the guard `align > 1 && data_start % align != 0` (with its short-circuit), the checked computation
`(align - (data_start + 4) % align) % align`, the padding record - the two bytes `za`, the 16-bit length of the zero
vector, the zeros, each through `write_all` -, the `assert_eq!` on the new data start, the final `end_extra_data` and
the checked `extra_data_end - data_start`.  The one arithmetic idealisation of this function itself: the preliminary
data start satisfies `data_start + 4 < 2^64` (the source adds in checked `u64`, the model in `Nat`).

The callee ties are `sim_start_file_with_extra_data`, `sim_write_all`, `sim_end_local_start_central`,
`sim_end_extra_data` of `Tie/WriterSM.lean`; each holds under u64-fit hypotheses on the state it starts from (lengths
and offsets of the open entry below 2^64, `bytes_written + len < 2^64`, the writer invariant), and one of them,
`header_start + 28 < 2^64`, needs a fact about the DEVICE position, which the `Sim` calculus does not carry.  Two
instances of the walk:
  * `Tie/AlignedDev.sim_start_file_aligned_at` - the statement without hypotheses on the callees, on every run that
    satisfies a POSITION BOUND (the sink position after the new entry's local header is at most 2^64 - 65540); this is
    the one Tie/WriterCompose.lean uses;
  * `sim_start_file_aligned` here - RELATIVE to `CalleeSims ext I`: a state predicate `I` on which the four callee ties
    hold and which they return into (every stage is `I`).  No such `I` is constructed, and nothing uses this form.
-/
set_option linter.unusedSimpArgs false
set_option linter.unusedSectionVars false
set_option linter.unusedVariables false

namespace ZipVerif.Tie.Aligned
open ZipVerif ZipVerif.Model ZipVerif.Tie.SpecRecords ZipVerif.Tie.Records ZipVerif.Tie.Parsers
open ZipVerif.Tie.WriterSM ZipVerif.Tie.AlignedDev

/-- The ties of the four callees on the states of an invariant `I` (the u64-fit hypotheses under which
`Tie/WriterSM.lean` proves them), each with the postcondition that the state it returns is in `I` again (no such
`I` is constructed: see the header). -/
structure CalleeSims (ext : Rs.S.Ext) (I : Gen.ZipWriter → Prop) : Prop where
  sf : ∀ (g : Gen.ZipWriter) (name : Bytes) (o : Gen.FileOptions), I g →
    Sim absRn (fun p => I p.2 ∧ ∀ ds, p.1 = .ok ds → ds.toNat + 4 < 18446744073709551616)
      (Rs.S.run (Gen.ZipWriter.start_file_with_extra_data ext g name o))
      (startFileWithExtraData ext.toWExt name (optOf o) (absW g))
  wr : ∀ (g : Gen.ZipWriter) (buf : Bytes), I g → buf.length ≤ 65535 →
    Sim absR (fun p => I p.2)
      (Rs.S.run (Rs.S.write_all (Gen.ZipWriter.write ext) (buf.length + 1) g buf)) (writeData buf (absW g))
  el : ∀ (g : Gen.ZipWriter), I g →
    Sim absRn (fun p => I p.2) (Rs.S.run (Gen.ZipWriter.end_local_start_central_extra_data ext g))
      (endLocalStartCentral ext.toWExt (absW g))
  ee : ∀ (g : Gen.ZipWriter), I g →
    Sim absRn (fun _ => True) (Rs.S.run (Gen.ZipWriter.end_extra_data ext g))
      (endExtraData ext.toWExt (absW g))

theorem rem_some (x a : UInt64) (ha : 0 < a.toNat) :
    Rs.Arith.rem x a = some (x % a) ∧ (x % a).toNat = x.toNat % a.toNat := by
  refine ⟨?_, UInt64.toNat_mod _ _⟩
  have hne : a ≠ 0 := by
    intro h; rw [h] at ha; exact absurd ha (by decide)
  simp only [Rs.Arith.rem, hne, ↓reduceIte]

theorem pad_length (ds a : UInt64) (ha : 1 < a.toNat) (hds : ds.toNat + 4 < 18446744073709551616) :
    ∃ p : UInt64, (Rs.Arith.add ds (4 : UInt64) >>= fun t5 => Rs.Arith.rem t5 a >>= fun t6 =>
        Rs.Arith.sub a t6 >>= fun t7 => Rs.Arith.rem t7 a) = some p ∧
      p.toNat = (a.toNat - (ds.toNat + 4) % a.toNat) % a.toNat := by
  have e4 : (4 : UInt64).toNat = 4 := by decide
  obtain ⟨h1, h1n⟩ := U64.add_some ds 4 (by rw [e4]; exact hds)
  rw [e4] at h1n
  obtain ⟨h2, h2n⟩ := rem_some (ds + 4) a (by omega)
  have hlt : ((ds + 4) % a).toNat < a.toNat := by rw [h2n]; exact Nat.mod_lt _ (by omega)
  obtain ⟨h3, h3n⟩ := U64.sub_some a ((ds + 4) % a) (by omega)
  obtain ⟨h4, h4n⟩ := rem_some (a - (ds + 4) % a) a (by omega)
  refine ⟨(a - (ds + 4) % a) % a, ?_, ?_⟩
  · simp only [h1, h2, h3, h4, Option.bind_eq_bind, Option.bind_some]
  · rw [h4n, h3n, h2n, h1n]

/-- the steps of the pad computation `(align - (data_start + 4) % align) % align` in checked `u64`, the zero
vector it sizes, and its bound -/
theorem pad_steps (ds : UInt64) (align : UInt16) (h1 : align.toNat > 1) (hds : ds.toNat + 4 < 18446744073709551616) :
    Rs.Arith.add ds 4 = some (ds + 4) ∧
    Rs.Arith.rem (ds + 4) (Rs.as' UInt64 align) = some ((ds + 4) % Rs.as' UInt64 align) ∧
    Rs.Arith.sub (Rs.as' UInt64 align) ((ds + 4) % Rs.as' UInt64 align) =
      some (Rs.as' UInt64 align - (ds + 4) % Rs.as' UInt64 align) ∧
    Rs.Arith.rem (Rs.as' UInt64 align - (ds + 4) % Rs.as' UInt64 align) (Rs.as' UInt64 align) =
      some ((Rs.as' UInt64 align - (ds + 4) % Rs.as' UInt64 align) % Rs.as' UInt64 align) ∧
    Rs.vecZeros (Rs.as' UInt64 ((Rs.as' UInt64 align - (ds + 4) % Rs.as' UInt64 align) % Rs.as' UInt64 align)) =
      List.replicate ((align.toNat - (ds.toNat + 4) % align.toNat) % align.toNat) 0 ∧
    (align.toNat - (ds.toNat + 4) % align.toNat) % align.toNat < 65536 := by
  have ha64 : (Rs.as' UInt64 align).toNat = align.toNat := as_u16_u64_toNat align
  have e4 : (4 : UInt64).toNat = 4 := by decide
  obtain ⟨ha1, ha1n⟩ := U64.add_some ds 4 (by rw [e4]; exact hds)
  rw [e4] at ha1n
  obtain ⟨ha2, ha2n⟩ := rem_some (ds + 4) (Rs.as' UInt64 align) (by omega)
  rw [ha64, ha1n] at ha2n
  have hlt : ((ds + 4) % Rs.as' UInt64 align).toNat < (Rs.as' UInt64 align).toNat := by
    rw [ha2n, ha64]; exact Nat.mod_lt _ (by omega)
  obtain ⟨ha3, ha3n⟩ := U64.sub_some (Rs.as' UInt64 align) ((ds + 4) % Rs.as' UInt64 align) (by omega)
  rw [ha64, ha2n] at ha3n
  obtain ⟨ha4, ha4n⟩ := rem_some (Rs.as' UInt64 align - (ds + 4) % Rs.as' UInt64 align) (Rs.as' UInt64 align)
    (by omega)
  rw [ha64, ha3n] at ha4n
  have hzeros : Rs.vecZeros (Rs.as' UInt64
      ((Rs.as' UInt64 align - (ds + 4) % Rs.as' UInt64 align) % Rs.as' UInt64 align)) =
      List.replicate ((align.toNat - (ds.toNat + 4) % align.toNat) % align.toNat) 0 := by
    have hcast : (Rs.as' UInt64
        ((Rs.as' UInt64 align - (ds + 4) % Rs.as' UInt64 align) % Rs.as' UInt64 align)).toNat =
        (align.toNat - (ds.toNat + 4) % align.toNat) % align.toNat := ha4n
    unfold Rs.vecZeros
    rw [hcast]
  have hpl : (align.toNat - (ds.toNat + 4) % align.toNat) % align.toNat < 65536 := by
    have := Nat.mod_lt (align.toNat - (ds.toNat + 4) % align.toNat) (show align.toNat > 0 by omega)
    have := align.toNat_lt
    omega
  exact ⟨ha1, ha2, ha3, ha4, hzeros, hpl⟩

theorem u16_of_len (n : Nat) :
    Rs.le16 (Rs.as' UInt16 (Rs.len (List.replicate n (0 : UInt8)))) = le16 (UInt16.ofNat n) := by
  have : Rs.as' UInt16 (Rs.len (List.replicate n (0 : UInt8))) = UInt16.ofNat n := by
    rw [← UInt16.toNat_inj]
    simp only [Rs.as', Rs.As.cast, Rs.len, List.length_replicate, UInt64.toNat_toUInt16, UInt64.toNat_ofNat',
      UInt16.toNat_ofNat']
    omega
  rw [this]; rfl

theorem bne0 (x a : UInt64) (ha : 0 < a.toNat) : (x % a != 0) = (x.toNat % a.toNat != 0) := by
  have e0 : (0 : UInt64).toNat = 0 := by decide
  rw [Bool.eq_iff_iff]
  simp only [bne_iff_ne, ne_eq, ← UInt64.toNat_inj, UInt64.toNat_mod, e0]

section
variable {σ α α' β β' : Type} {φ : Except ZErr β × σ → Except ZErr β' × WState} {P : Except ZErr β × σ → Prop}

/-- `let t = c && f(checked op);` (the translation of a short-circuit `&&` whose right side can panic) -/
theorem Sim.lazy_and {c : Prop} [Decidable c] {o : Option α} {a : α} {f : α → Bool} {st : σ}
    {k : Bool → Rs.S σ (β × σ)} {Y : M (Except ZErr β' × WState)} (ho : c → o = some a)
    (h : Sim φ P (Rs.S.run (k (decide c && f a))) Y) :
    Sim φ P (Rs.S.run ((if c then (do let x ← Rs.S.lift o st; pure (f x)) else pure false) >>= k)) Y := by
  by_cases hc : c
  · rw [if_pos hc, ho hc, S.lift_some_bind]
    simpa only [hc, decide_true, Bool.true_and] using Sim.pure_bind h
  · rw [if_neg hc]
    simpa only [hc, decide_false, Bool.false_and] using Sim.pure_bind h

/-- `assert!(!c)` against the model's explicit panic -/
theorem Sim.assert {c : Bool} {st : σ} {k : Unit → Rs.S σ (β × σ)} {Y : M (Except ZErr β' × WState)} {site : String}
    (h : c = false → Sim φ P (Rs.S.run (k ())) Y) :
    Sim φ P (Rs.S.run ((if c = true then Rs.S.panic st else pure ()) >>= k)) (if c = true then M.panic site else Y) := by
  cases c
  · exact Sim.pure_bind (h rfl)
  · exact Sim.spanic (st := st)
end

/-- the common tail: `end_extra_data`, then the checked `extra_data_end - data_start` -/
theorem sim_aligned_tail (ext : Rs.S.Ext) (gX : Gen.ZipWriter) (ds : UInt64)
    (hee : Sim absRn (fun _ => True) (Rs.S.run (Gen.ZipWriter.end_extra_data ext gX))
      (endExtraData ext.toWExt (absW gX))) :
    Sim absRn (fun _ => True)
      (Rs.S.run (do
        let (x, gE) ← Gen.ZipWriter.end_extra_data ext gX
        let t ← Rs.S.lift (Rs.Arith.sub x ds) gE
        pure (t, gE)))
      (do
        let (r, s) ← endExtraData ext.toWExt (absW gX)
        match r with
        | .error e => pure (.error e, s)
        | .ok extraDataEnd =>
          if extraDataEnd < ds.toNat then M.panic "write.rs:518 sub"
          else pure (.ok (extraDataEnd - ds.toNat), s)) := by
  refine Sim.call hee (fun e st _ => Sim.leaf rfl trivial) fun x gE _ => ?_
  refine Sim.lift_ite (a := x - ds) rfl Nat.not_le.symm fun hx => ?_
  refine Sim.ret ?_ trivial
  simp only [absRn, Except.map, (U64.sub_some x ds hx).2]

/-- `start_file_aligned` on ONE run `(fa, d)`, from the ties of its callees along the STAGES of the call.  `J k` is
what is known of the object after the first callee (`k = 0`) and after the k-th `write_all` of the padding record (the
two bytes `za`, the 16-bit length, at most 65534 zeros); `E` after `end_local_start_central_extra_data`.  Only the
first callee is compared on this run alone: a condition on the device (`Tie/AlignedDev.lean`) has turned into facts
about the values `J 0` by then. -/
theorem sim_start_file_aligned_of (ext : Rs.S.Ext) (J : Nat → Gen.ZipWriter → Prop) (E : Gen.ZipWriter → Prop)
    (wr : ∀ k (g : Gen.ZipWriter) (buf : Bytes), k < 3 → J k g → buf.length ≤ (if k < 2 then 2 else 65535) →
      Sim absR (fun p => p.1 = .ok () → J (k + 1) p.2)
        (Rs.S.run (Rs.S.write_all (Gen.ZipWriter.write ext) (buf.length + 1) g buf)) (writeData buf (absW g)))
    (el : ∀ g, J 3 g → Sim absRn (fun p => ∀ v, p.1 = .ok v → E p.2)
      (Rs.S.run (Gen.ZipWriter.end_local_start_central_extra_data ext g)) (endLocalStartCentral ext.toWExt (absW g)))
    (ee : ∀ g, J 0 g ∨ E g → Sim absRn (fun _ => True) (Rs.S.run (Gen.ZipWriter.end_extra_data ext g))
      (endExtraData ext.toWExt (absW g)))
    (g : Gen.ZipWriter) (name : Bytes) (o : Gen.FileOptions) (align : UInt16) (fa : Option Nat) (d : Dev)
    (sf : SimAt absRn (fun p => ∀ ds, p.1 = .ok ds → ds.toNat + 4 < 18446744073709551616 ∧ J 0 p.2)
      (Rs.S.run (Gen.ZipWriter.start_file_with_extra_data ext g name o))
      (startFileWithExtraData ext.toWExt name (optOf o) (absW g)) fa d) :
    SimAt absRn (fun _ => True) (Rs.S.run (Gen.ZipWriter.start_file_aligned ext g name o align))
      (startFileAligned ext.toWExt name (optOf o) align (absW g)) fa d := by
  unfold Gen.ZipWriter.start_file_aligned startFileAligned
  rw [run_bind, toM_bind_run]
  refine SimAt.bind sf fun p d1 _ _ hp => SimAt.of_sim ?_
  obtain ⟨r, g1⟩ := p
  cases r with
  | error e => exact Sim.leaf rfl trivial
  | ok ds =>
    obtain ⟨hds, hJ0⟩ := hp ds rfl
    have ha64 : (Rs.as' UInt64 align).toNat = align.toNat := as_u16_u64_toNat align
    have e1 : (1 : UInt64).toNat = 1 := by decide
    have hgt : Rs.as' UInt64 align > 1 ↔ align.toNat > 1 := by
      rw [gt_iff_lt, UInt64.lt_iff_toNat_lt, ha64, e1]
    refine Sim.lazy_and (a := ds % Rs.as' UInt64 align)
      (fun h => (rem_some ds _ (by have := hgt.mp (of_decide_eq_true h); omega)).1) ?_
    have hcond : ((decide (decide (Rs.as' UInt64 align > 1) = true) && ds % Rs.as' UInt64 align != 0) = true) ↔
        ((decide (align.toNat > 1) && ds.toNat % align.toNat != 0) = true) := by
      rw [Bool.and_eq_true, Bool.and_eq_true, decide_eq_true_iff, decide_eq_true_iff, decide_eq_true_iff, hgt]
      exact and_congr_right fun h => by rw [bne0 ds _ (by omega), ha64]
    dsimp only [absRn, Except.map]
    rw [M.ite_bind]
    refine Sim.ite hcond (fun hc => ?pad) (fun _ => ?_)
    case' pad =>
      have h1 : align.toNat > 1 := by
        rw [Bool.and_eq_true, decide_eq_true_iff] at hc; exact hc.1
      obtain ⟨ha1, ha2, ha3, ha4, hzeros, hpl⟩ := pad_steps ds align h1 hds
      refine Sim.lift_some ha1 (Sim.lift_some ha2 (Sim.lift_some ha3 (Sim.lift_some ha4 ?_)))
      rw [hzeros, u16_of_len, bind_assoc]
      -- the padding record: `za`, the 16-bit length, the zeros
      refine Sim.call (wr 0 g1 [0x7a, 0x61] (by decide) hJ0 (by decide)) (fun e st _ => Sim.leaf rfl trivial)
        fun u g2 hJ1 => ?_
      dsimp only [absR]
      rw [bind_assoc]
      refine Sim.call (wr 1 g2 _ (by decide) (hJ1 rfl) (by simp only [le16, List.length_cons, List.length_nil]; decide))
        (fun e st _ => Sim.leaf rfl trivial) fun u g3 hJ2 => ?_
      dsimp only [absR]
      rw [bind_assoc]
      refine Sim.call (wr 2 g3 _ (by decide) (hJ2 rfl)
          (by rw [List.length_replicate]; simp only [Nat.lt_irrefl, ↓reduceIte]; omega))
        (fun e st _ => Sim.leaf rfl trivial) fun u g4 hJ3 => ?_
      dsimp only [absR]
      rw [bind_assoc]
      refine Sim.call (el g4 (hJ3 rfl)) (fun e st _ => Sim.leaf rfl trivial) fun x g5 hE => ?_
      refine Sim.lift_some (rem_some x _ (by omega)).1 ?_
      dsimp only [absRn, Except.map]
      rw [M.ite_bind, bne0 x _ (by omega), ha64]
      refine Sim.assert fun _ => ?_
      rw [pure_bind]
      exact sim_aligned_tail ext g5 ds (ee g5 (.inr (hE x rfl)))
    rw [pure_bind]
    exact sim_aligned_tail ext g1 ds (ee g1 (.inl hJ0))

theorem sim_start_file_aligned (ext : Rs.S.Ext) (I : Gen.ZipWriter → Prop) (cs : CalleeSims ext I)
    (g : Gen.ZipWriter) (hI : I g) (name : Bytes) (o : Gen.FileOptions) (align : UInt16) :
    Sim absRn (fun _ => True) (Rs.S.run (Gen.ZipWriter.start_file_aligned ext g name o align))
      (startFileAligned ext.toWExt name (optOf o) align (absW g)) := fun fa d =>
  sim_start_file_aligned_of ext (fun _ => I) I
    (fun k g buf _ h hb => (cs.wr g buf h (by split at hb <;> omega)).mono fun _ hp _ => hp)
    (fun g h => (cs.el g h).mono fun _ hp _ _ => hp) (fun g h => cs.ee g (h.elim id id)) g name o align fa d
    ((cs.sf g name o hI).mono (fun _ hp ds h => ⟨hp.2 ds h, hp.1⟩) fa d)

end ZipVerif.Tie.Aligned
