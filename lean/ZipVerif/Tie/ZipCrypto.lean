import ZipVerif.Gen.ZipCrypto
import ZipVerif.Model.ZipCrypto
/-
Tie obligations for the ZipCrypto cipher: the code `rs2lean` prints into `Gen/ZipCrypto.lean` from
/repo/src/zipcrypto.rs (`Gen.CRCTABLE`, `Gen.ZipCryptoKeys.*`) equals the hand model the C15 theorems are stated over, for
every input, and never takes the `none` (= panic) path: the table index is a `u8`, the shifts are by
constants below the bit width, and all arithmetic is `Wrapping`.
A source edit that changes a table entry, a constant, a shift, a mask or the order of the key updates
breaks one of these.
-/

namespace ZipVerif.Tie.ZipCrypto
open ZipVerif ZipVerif.Model.ZipCrypto

def toModel (g : Gen.ZipCryptoKeys) : Keys := ⟨g.key_0.val, g.key_1.val, g.key_2.val⟩
def ofModel (k : Keys) : Gen.ZipCryptoKeys := ⟨⟨k.key0⟩, ⟨k.key1⟩, ⟨k.key2⟩⟩

theorem toModel_ofModel (k : Keys) : toModel (ofModel k) = k := rfl
theorem ofModel_toModel (g : Gen.ZipCryptoKeys) : ofModel (toModel g) = g := rfl

/-- **The crate's literal 256-entry table is the CRC-32 table of the polynomial 0xEDB88320**: all 256
entries, by kernel evaluation of the bit-serial division (on natural numbers, and through the boolean
list comparison: both are several times faster for the kernel than `UInt32` and `DecidableEq`). -/
theorem tie_crctable_nat :
    Gen.CRCTABLE.toList.map UInt32.toNat = (List.range 256).map Spec.Crc32.tableEntryNat :=
  eq_of_beq (by decide +kernel)

theorem tie_crctable_size : Gen.CRCTABLE.size = 256 := by
  simpa using congrArg List.length tie_crctable_nat

/-- Entry `i` of the crate's table is the remainder the spec computes for the byte `i`. -/
theorem tie_crctable (i : UInt8) : Gen.CRCTABLE[i.toNat]? = some (Spec.Crc32.tableEntry i) := by
  have h := congrArg (·[i.toNat]?) tie_crctable_nat
  simp only [List.getElem?_map, Array.getElem?_toList, List.getElem?_range i.toNat_lt, Option.map_some] at h
  cases hx : Gen.CRCTABLE[i.toNat]? with
  | none => rw [hx] at h; cases h
  | some x =>
    rw [hx, Option.map_some, ← Spec.Crc32.tableEntry_toNat] at h
    rw [UInt32.toNat_inj.mp (Option.some.inj h)]

/-- Every `u8` index hits the table (the `usize` index expression never panics) and finds the spec entry. -/
theorem tie_crctable_index (i : UInt8) :
    Rs.index Gen.CRCTABLE (Rs.as' UInt64 i) = some (Spec.Crc32.tableEntry i) := by
  unfold Rs.index
  show Gen.CRCTABLE[(i.toUInt64).toNat]? = _
  rw [UInt8.toNat_toUInt64]
  exact tie_crctable i

theorem tie_new : Gen.ZipCryptoKeys.new.map toModel = some Keys.new := rfl

theorem tie_crc32 (crc : Rs.Wrapping UInt32) (input : UInt8) :
    Gen.ZipCryptoKeys.crc32 crc input = some ⟨crc32 crc.val input⟩ := by
  unfold Gen.ZipCryptoKeys.crc32
  rw [tie_crctable_index]
  rfl

theorem tie_update (g : Gen.ZipCryptoKeys) (input : UInt8) :
    Gen.ZipCryptoKeys.update g input = some (ofModel ((toModel g).update input)) := by
  unfold Gen.ZipCryptoKeys.update
  simp only [tie_crc32, Rs.Arith.add, Rs.Arith.mul, Rs.Arith.shr, bind, Option.bind, pure]
  rfl

theorem tie_stream_byte (g : Gen.ZipCryptoKeys) :
    Gen.ZipCryptoKeys.stream_byte g = some ((toModel g).streamByte, g) := by
  unfold Gen.ZipCryptoKeys.stream_byte
  simp only [Rs.Arith.mul, Rs.Arith.shr, bind, Option.bind, pure]
  rfl

theorem tie_decrypt_byte (g : Gen.ZipCryptoKeys) (c : UInt8) :
    Gen.ZipCryptoKeys.decrypt_byte g c =
      some ((decryptByte (toModel g) c).1, ofModel (decryptByte (toModel g) c).2) := by
  unfold Gen.ZipCryptoKeys.decrypt_byte
  simp only [tie_stream_byte, tie_update, bind, Option.bind, pure]
  rfl

theorem tie_encrypt_byte (g : Gen.ZipCryptoKeys) (p : UInt8) :
    Gen.ZipCryptoKeys.encrypt_byte g p =
      some ((encryptByte (toModel g) p).1, ofModel (encryptByte (toModel g) p).2) := by
  unfold Gen.ZipCryptoKeys.encrypt_byte
  simp only [tie_stream_byte, tie_update, bind, Option.bind, pure]
  rfl

/-- The `for byte in password` loop of `derive`, from any starting key state. -/
theorem tie_derive_loop (password : Bytes) (g : Gen.ZipCryptoKeys) :
    (forIn password g fun byte r =>
        (some (ForInStep.yield (ofModel ((toModel r).update byte))) : Option _)) =
      some (ofModel (password.foldl Keys.update (toModel g))) := by
  induction password generalizing g with
  | nil => rfl
  | cons b bs ih =>
    rw [List.forIn_cons]
    simp only [bind, Option.bind]
    rw [ih]
    rfl

theorem tie_derive (password : Bytes) :
    Gen.ZipCryptoKeys.derive password = some (ofModel (derive password)) := by
  unfold Gen.ZipCryptoKeys.derive
  simp only [Gen.ZipCryptoKeys.new, tie_update, bind, Option.bind, pure]
  rw [tie_derive_loop]
  rfl

end ZipVerif.Tie.ZipCrypto
