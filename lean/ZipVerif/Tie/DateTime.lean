import ZipVerif.Gen.Types
import ZipVerif.Model.DateTime
import ZipVerif.Lemmas.Dos
/-
Tie obligations for `DateTime`: the functions `rs2lean` prints from /repo/src/types.rs
(`Gen/Types.lean`: `Gen.DateTime.*`) equal the hand-written model the property theorems are stated over.
A source edit that changes a mask, a shift, a comparison or a range breaks one of these.
-/

namespace ZipVerif.Tie.DateTime
open ZipVerif ZipVerif.Model

def toModel (x : Gen.DateTime) : DateTime := ⟨x.year, x.month, x.day, x.hour, x.minute, x.second⟩
def ofModel (x : DateTime) : Gen.DateTime := ⟨x.year, x.month, x.day, x.hour, x.minute, x.second⟩

theorem tie_from_msdos (d t : UInt16) :
    (Gen.DateTime.from_msdos d t).map toModel = some (DateTime.fromMsdos d t) := by
  have h : ((d &&& 0b1111111000000000) >>> 9).toNat + (1980 : UInt16).toNat < 65536 :=
    DateTime.fromMsdos_year_no_overflow d
  simp only [Gen.DateTime.from_msdos, Rs.Arith.shl, Rs.Arith.shr, Rs.Arith.add, Rs.as', Rs.As.cast,
    bind, Option.bind, pure, Option.map, toModel, DateTime.fromMsdos]
  simp only [show (1 : Nat) < 16 from by decide, show (5 : Nat) < 16 from by decide,
    show (11 : Nat) < 16 from by decide, show (9 : Nat) < 16 from by decide, if_true]
  have h' : ((d &&& 65024) >>> UInt16.ofNat 9).toNat + UInt16.toNat 1980 < 65536 := h
  rw [if_pos h']
  rfl

theorem tie_timepart (x : Gen.DateTime) :
    Gen.DateTime.timepart x = some (DateTime.timepart (toModel x)) := by
  simp only [Gen.DateTime.timepart, Rs.Arith.shl, Rs.Arith.shr, Rs.as', Rs.As.cast,
    bind, Option.bind, pure, toModel, DateTime.timepart]
  simp only [show (1 : Nat) < 16 from by decide, show (5 : Nat) < 16 from by decide,
    show (11 : Nat) < 16 from by decide, if_true]
  rfl

theorem tie_datepart (x : Gen.DateTime) :
    Gen.DateTime.datepart x = DateTime.datepart (toModel x) := by
  obtain ⟨year, month, day, hour, minute, second⟩ := x
  have e : (1980 : UInt16).toNat = 1980 := by decide
  simp only [Gen.DateTime.datepart, Rs.Arith.shl, Rs.Arith.sub, Rs.as', Rs.As.cast,
    bind, Option.bind, pure, toModel, DateTime.datepart]
  simp only [show (5 : Nat) < 16 from by decide, show (9 : Nat) < 16 from by decide, if_true]
  by_cases h : year < 1980
  · have h' : ¬ (1980 : UInt16).toNat ≤ year.toNat := by
      rw [UInt16.lt_iff_toNat_lt] at h; omega
    rw [if_neg h']
    exact (if_pos h).symm
  · have h' : (1980 : UInt16).toNat ≤ year.toNat := by
      rw [UInt16.lt_iff_toNat_lt] at h; omega
    rw [if_pos h']
    exact (if_neg h).symm

theorem tie_from_date_and_time (y : UInt16) (mo d h mi s : UInt8) :
    Gen.DateTime.from_date_and_time y mo d h mi s =
      some (match DateTime.fromDateAndTime y mo d h mi s with
        | some x => Except.ok (ofModel x)
        | none => Except.error ()) := by
  simp only [Gen.DateTime.from_date_and_time, DateTime.fromDateAndTime, bind, Option.bind, pure]
  by_cases hc : 1980 ≤ y ∧ y ≤ 2107 ∧ 1 ≤ mo ∧ mo ≤ 12 ∧ 1 ≤ d ∧ d ≤ 31 ∧ h ≤ 23 ∧ mi ≤ 59 ∧ s ≤ 60
  · rw [if_pos hc]
    obtain ⟨h1, h2, h3, h4, h5, h6, h7, h8, h9⟩ := hc
    simp only [h1, h2, h3, h4, h5, h6, h7, h8, h9, decide_true, Bool.and_self, if_true]
    rfl
  · rw [if_neg hc]
    have : ((((((decide (1980 ≤ y) && decide (y ≤ 2107)) && (decide (1 ≤ mo) && decide (mo ≤ 12))) &&
        (decide (1 ≤ d) && decide (d ≤ 31))) && decide (h ≤ 23)) && decide (mi ≤ 59)) &&
        decide (s ≤ 60)) = false := by
      rw [Bool.eq_false_iff]
      intro hb
      simp only [Bool.and_eq_true, decide_eq_true_eq] at hb
      exact hc ⟨hb.1.1.1.1.1.1, hb.1.1.1.1.1.2, hb.1.1.1.1.2.1, hb.1.1.1.1.2.2, hb.1.1.1.2.1,
        hb.1.1.1.2.2, hb.1.1.2, hb.1.2, hb.2⟩
    simp only [this]
    rfl

end ZipVerif.Tie.DateTime
