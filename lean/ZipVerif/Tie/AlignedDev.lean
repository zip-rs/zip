import ZipVerif.Tie.Aligned
import ZipVerif.Tie.WriteAcc
import ZipVerif.Lemmas.AlignedSat
/-
`ZipWriter::start_file_aligned` tied without hypotheses on its callees (`Tie/Aligned.lean` has the walk through the method).

  sim_start_file_aligned_at   for every writer value `g` with the writer invariant (`Inv (absW g)`) and the
        u64-fit conditions of the other covered calls (the open entry's `LastFits`, `name.len() < 2^64`, a
        DOS-representable time, no password - `Call.Admissible`), every fault index `fa` and every device `d`
        that satisfy the POSITION BOUND

            PosBound … fa d :  the sink position right after the new entry's local header (= the position
                               `start_file_with_extra_data` returns as the preliminary data start, on this very
                               run of the model) is at most 2^64 - 65540,

        the run of the translated `Gen.ZipWriter.start_file_aligned ext g name o align` on `(fa, d)` either stops
        with the `u64`-position panic `OVF` or has the I/O calls, outcome, value, final device and (through
        `absW`) final writer state of `Model.startFileAligned … (absW g)` (`SimAt absRn`: the statement of
        `Sim` at ONE fault index and device).

WHY A BOUND, AND WHY THIS ONE.  The source computes `data_start + 4`, the pad, `data_start + extra_field.len()`
(`end_extra_data`) and `header_start + 28` in checked `u64`; the model in `Nat`.  65540 = 4 + 65535 + 1 covers the
largest padding record (`za`, 16-bit length, at most 65534 zeros).  On a sink whose position after the header is
within 64 KiB of 2^64 the source panics on an addition where the model goes on - a genuine difference of the
idealisation, not of the code; `Sim` (all devices, value postconditions only) cannot exclude such devices, which
is why the statement is at one run (`SimAt`).  The bound is stated on the run, not
on the initial device: `finish_file` of a pending entry may first emit an encoder's output of any length.

HOW.  An instance of the walk `Tie/Aligned.sim_start_file_aligned_of` (stage `k`: `AlG` with the first `k` parts of the
padding record as the entry's extra data).  The first callee is compared POINTWISE (`SimAt`, `Tie/SimAt.lean`): on the run `(fa, d)` the translated
`start_file_with_extra_data` agrees with the model's (`sim_start_file_with_extra_data`), so the model's
device-aware postcondition (`Lemmas/AlignedSat.startFileWithExtraData_satH`: the data start IS the device position,
the header start is a position not behind it, byte counter 0, local extra-field mode) holds of the translated
object; with `PosBound` these are VALUE facts (`AlG`), under which the rest - three `write_all`s that only append
to the open entry's extra field (`sim_wr`, exact state from `writeData_alM`), `end_local_start_central_extra_data`
(`sim_el`), `end_extra_data` - is an ordinary `Sim` on every device.  The hypotheses of every callee tie of
`Tie/WriterSM.lean` are DISCHARGED here; the encoder's accept function is arbitrary (`AccOk`; in extra-field mode
the encoder is not reached: `Tie/WriteAcc.sim_write_all_acc`).
-/
set_option linter.unusedSimpArgs false
set_option linter.unusedSectionVars false
set_option linter.unusedVariables false

namespace ZipVerif.Tie.AlignedDev
open ZipVerif ZipVerif.Model ZipVerif.Tie.SpecRecords ZipVerif.Tie.Records ZipVerif.Tie.Parsers
open ZipVerif.Tie.WriterSM ZipVerif.Tie.Aligned

/-! ### value facts of the translated object, read off the model state -/

/-- the u64-fit hypotheses of `sim_end_extra_data` / `sim_end_local_start_central` -/
def LastOK (g : Gen.ZipWriter) : Prop :=
  ∀ f, g.files.getLast? = some f →
    f.extra_field.length ≤ 9223372036854775807 ∧
    f.data_start.toNat + f.extra_field.length < 18446744073709551616 ∧
    f.header_start.toNat + 28 < 18446744073709551616

theorem lastOK_of_model (g : Gen.ZipWriter) (fm : FileData) (h : (absW g).files.getLast? = some fm)
    (h1 : fm.extraField.length ≤ 9223372036854775807)
    (h2 : fm.dataStart.toNat + fm.extraField.length < 18446744073709551616)
    (h3 : fm.headerStart.toNat + 28 < 18446744073709551616) : LastOK g := by
  intro f hf
  have : (absW g).files.getLast? = some (dataOf f) := by
    show (g.files.map dataOf).getLast? = _
    rw [getLastOpt_map, hf]; rfl
  rw [this] at h
  cases h
  exact ⟨h1, h2, h3⟩

/-- local extra-field mode of the translated object: the model's `AlM` of its abstraction -/
def AlG (g : Gen.ZipWriter) (ds hs : UInt64) (x : Bytes) : Prop := AlM (absW g) ds hs x

theorem alG_lastOK {g : Gen.ZipWriter} {ds hs : UInt64} {x : Bytes} (h : AlG g ds hs x)
    (hx : x.length ≤ 65539) (hds : ds.toNat + 65540 ≤ 18446744073709551616)
    (hhs : hs.toNat + 28 < 18446744073709551616) : LastOK g := by
  obtain ⟨_, _, _, _, _, _, f, hf, h1, h2, h3⟩ := h
  exact lastOK_of_model g f hf (by rw [h2]; omega) (by rw [h1, h2]; omega) (by rw [h3]; exact hhs)

theorem alG_bytes {g : Gen.ZipWriter} {ds hs : UInt64} {x : Bytes} (h : AlG g ds hs x) :
    g.stats.bytes_written.toNat = 0 := h.2.2.2.2.2.1

theorem alG_hinv {g : Gen.ZipWriter} {ds hs : UInt64} {x : Bytes} (h : AlG g ds hs x) :
    g.writing_to_file = true → g.files ≠ [] := by
  intro _ hnil
  obtain ⟨_, _, _, _, _, _, f, hf, _⟩ := h
  have : (absW g).files = [] := by
    show g.files.map dataOf = []
    rw [hnil]; rfl
  rw [this] at hf
  cases hf

theorem sim_wr (ext : Rs.S.Ext) (hacc : AccOk ext.accept) (g : Gen.ZipWriter) (ds hs : UInt64)
    (x buf : Bytes) (h : AlG g ds hs x) (hb : buf.length ≤ 65535) :
    Sim absR (fun p => p.1 = .ok () → AlG p.2 ds hs (x ++ buf))
      (Rs.S.run (Rs.S.write_all (Gen.ZipWriter.write ext) (buf.length + 1) g buf)) (writeData buf (absW g)) := by
  obtain ⟨s', e, h'⟩ := writeData_alM h buf
  have hpost : WriterSM.Post (writeData buf (absW g)) (fun r => r = (.ok (), s')) := by
    rw [e]
    intro fa d a d' he
    cases he
    rfl
  have hin : g.inner = .storer none := h.2.2.2.2.1
  refine Sim.mono (Sim.post_of_model (sim_write_all_acc ext hacc g buf (by omega)
    (by have := alG_bytes h; omega) (alG_hinv h)
    (by intro mm l e p f hc _; rw [hin] at hc; cases hc)) hpost) ?_
  intro p hp _
  have h2 : absW p.2 = s' := congrArg Prod.snd hp.2
  show AlM (absW p.2) ds hs (x ++ buf)
  rw [h2]
  exact h'

theorem sim_el (ext : Rs.S.Ext) (g : Gen.ZipWriter) (ds hs : UInt64) (x : Bytes) (h : AlG g ds hs x)
    (hx : x.length ≤ 65539) (hds : ds.toNat + 65540 ≤ 18446744073709551616)
    (hhs : hs.toNat + 28 < 18446744073709551616) :
    Sim absRn (fun p => ∀ v, p.1 = .ok v → LastOK p.2)
      (Rs.S.run (Gen.ZipWriter.end_local_start_central_extra_data ext g))
      (endLocalStartCentral ext.toWExt (absW g)) := by
  have hpost : WriterSM.Post (endLocalStartCentral ext.toWExt (absW g))
      (fun r => ∀ v, r.1 = .ok v → ∃ f', r.2.files.getLast? = some f' ∧ f'.extraField = [] ∧ f'.headerStart = hs) :=
    post_of_sat fun fa d => Sat.mono (endLocalStartCentral_satH ext.toWExt h fa d)
      (fun r d' hq v hv => (hq.2 v hv).2)
  refine Sim.mono (Sim.post_of_model (sim_end_local_start_central ext g (alG_lastOK h hx hds hhs)) hpost) ?_
  intro p hp v hv
  obtain ⟨r, g'⟩ := p
  dsimp only at hv
  subst hv
  obtain ⟨f', hf', hx', hh'⟩ := hp.2 v.toNat rfl
  refine lastOK_of_model g' f' hf' (by rw [hx']; simp) ?_ (by rw [hh']; exact hhs)
  rw [hx']
  have := f'.dataStart.toNat_lt
  simp only [List.length_nil]
  omega

/-- THE POSITION BOUND: on this run the sink position after the new entry's local header - the value the
model's `startFileWithExtraData` leaves the device at - is at least 65540 below 2^64. -/
def PosBound (ext : WExt) (name : Bytes) (o : FileOptions) (s : WState) (fa : Option Nat) (d : Dev) : Prop :=
  ∀ r d', startFileWithExtraData ext name o s fa d = (.ok r, d') → d'.pos + 65540 ≤ 18446744073709551616

theorem sim_start_file_aligned_at (ext : Rs.S.Ext) (hacc : AccOk ext.accept) (g : Gen.ZipWriter)
    (hI : Inv (absW g))
    (hf : ∀ f, g.files.getLast? = some f →
      f.extra_field.length ≤ 9223372036854775807 ∧
      f.data_start.toNat + f.extra_field.length < 18446744073709551616 ∧
      f.header_start.toNat + 34 + f.file_name.length < 18446744073709551616)
    (name : Bytes) (hname : name.length < 18446744073709551616) (o : Gen.FileOptions)
    (ho : TimeOk (optOf o).time) (henc : (optOf o).encryptWith = none) (align : UInt16)
    (fa : Option Nat) (d : Dev) (hb : PosBound ext.toWExt name (optOf o) (absW g) fa d) :
    SimAt absRn (fun _ => True) (Rs.S.run (Gen.ZipWriter.start_file_aligned ext g name o align))
      (startFileAligned ext.toWExt name (optOf o) align (absW g)) fa d := by
  have htime : (Tie.DateTime.toModel o.last_modified_time).datepart ≠ none := datepart_of_timeOk _ ho
  -- stage `k`: local extra-field mode with the padding record's first `k` parts as the entry's extra data
  -- (`65539 = 2 + 2 + 65535`: the bounds the walk's `wr` puts on the three buffers)
  refine sim_start_file_aligned_of ext (fun k g => ∃ ds hs x, AlG g ds hs x ∧
      x.length ≤ (if k < 3 then 2 * k else 65539) ∧ ds.toNat + 65540 ≤ 18446744073709551616 ∧
      hs.toNat + 28 < 18446744073709551616) LastOK ?_ ?_ ?_ g name o align fa d ?_
  · intro k g buf hk ⟨ds, hs, x, hG, hx, hds, hhs⟩ hb
    refine (sim_wr ext hacc g ds hs x buf hG (by split at hb <;> omega)).mono fun p hp hr =>
      ⟨ds, hs, x ++ buf, hp hr, ?_, hds, hhs⟩
    rw [List.length_append]
    split at hb <;> split at hx <;> split <;> omega
  · intro g ⟨ds, hs, x, hG, hx, hds, hhs⟩
    exact sim_el ext g ds hs x hG hx hds hhs
  · intro g h
    refine (sim_end_extra_data ext g ?_).mono fun _ _ => trivial
    rcases h with ⟨ds, hs, x, hG, hx, hds, hhs⟩ | h
    · exact alG_lastOK hG (by simp only [Nat.lt_irrefl, Nat.zero_lt_succ, ↓reduceIte] at hx; omega) hds hhs
    · exact h
  · -- the model's device-aware postcondition, on this run
    refine SimAt.post_of_run (sim_start_file_with_extra_data ext g name o hf hname htime fa d) ?_
    intro ⟨r, g1⟩ d1 _ hy _ ds hr
    cases hr
    have hsat := startFileWithExtraData_satH ext.toWExt name (optOf o) ho henc (absW g) hI fa d
    simp only [Sat, hy] at hsat
    obtain ⟨hI1, hq⟩ := hsat
    obtain ⟨p, hple, hal, hv⟩ := hq ds.toNat rfl
    have hpos := hb _ _ hy
    have hd1 : (UInt64.ofNat d1.pos).toNat = d1.pos := U64.toNat_ofNat (by omega)
    have hdsn : ds.toNat = d1.pos := by rw [hv, hd1]
    have hdse : UInt64.ofNat d1.pos = ds := by rw [← UInt64.toNat_inj, hd1, hdsn]
    rw [hdse] at hal
    exact ⟨by omega, ds, UInt64.ofNat p, [], hal, Nat.zero_le _, by omega,
      by rw [U64.toNat_ofNat (by omega)]; omega⟩

end ZipVerif.Tie.AlignedDev
