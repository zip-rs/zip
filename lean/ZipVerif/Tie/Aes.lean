import ZipVerif.Gen.Types
import ZipVerif.Gen.Aes
import ZipVerif.Gen.Compression
import ZipVerif.Model.Aes
/-
Tie obligations for C16: the items `rs2lean` prints into `Gen/{Types,Aes,Compression}.lean` from
/repo/src/{types,aes,compression}.rs equal what the hand-written AES model uses: key / salt lengths per mode, the
three constants of aes.rs, and the method-number table (in particular 99 ↦ the AES pseudo method).
-/

namespace ZipVerif.Tie.Aes
open ZipVerif ZipVerif.Model.Aes

def toModel : Gen.AesMode → AesMode
  | .Aes128 => .aes128
  | .Aes192 => .aes192
  | .Aes256 => .aes256

def methodToModel : Gen.CompressionMethod → Method
  | .Stored => .stored
  | .Deflated => .deflated
  | .Bzip2 => .bzip2
  | .Aes => .aes
  | .Zstd => .zstd
  | .Unsupported v => .unsupported v

theorem tie_key_length (m : Gen.AesMode) :
    Gen.AesMode.key_length m = some (UInt64.ofNat (toModel m).keyLength) := by
  cases m <;> rfl

theorem tie_salt_length (m : Gen.AesMode) :
    Gen.AesMode.salt_length m = some (UInt64.ofNat (toModel m).saltLength) := by
  cases m <;> decide

theorem tie_pwd_verify_length : Gen.PWD_VERIFY_LENGTH.toNat = PWD_VERIFY_LENGTH := by decide
theorem tie_auth_code_length : Gen.AUTH_CODE_LENGTH.toNat = AUTH_CODE_LENGTH := by decide
theorem tie_iteration_count : Gen.ITERATION_COUNT.toNat = ITERATION_COUNT := by decide

theorem tie_method_from_u16 (v : UInt16) :
    (Gen.CompressionMethod.from_u16 v).map methodToModel = some (Method.fromU16 v) := by
  unfold Gen.CompressionMethod.from_u16 Method.fromU16
  by_cases h0 : v = 0
  · subst h0; rfl
  by_cases h8 : v = 8
  · subst h8; rfl
  by_cases h12 : v = 12
  · subst h12; rfl
  by_cases h93 : v = 93
  · subst h93; rfl
  by_cases h99 : v = 99
  · subst h99; rfl
  simp [h0, h8, h12, h93, h99, methodToModel]

end ZipVerif.Tie.Aes
