import ZipVerif.Tie.Visit
import ZipVerif.Tie.StreamGlue
import ZipVerif.Lemmas.VisitBounds
/-
`ZipStreamReader::visit` against `Model.streamVisitC` ITSELF: the visitor parameter of `Tie/Visit.tie_visit` - which
holds for every visitor keeping the handle invariant - instantiated with the MODEL'S CONSUMER (`consumeVis`, after
`Model.Consume` / `Model.visitFile`), so that the tie of the translated `visit` (`rs2lean` prints `Gen/ReadStream.lean`
from src/read/stream.rs) reaches the definition `Props/C11` is stated about.  The result, `tie_visit_streamVisitC`, is
pointwise at a fault index and a device:
`shown <$> Gen.ZipStreamReader.visit (consumeVis ext pat) gext fuel (0, [], []) = streamVisitC ext pat`: same outcome,
same device, the visitor shown exactly the model's lists.  Each of the two translated loops is the model's list
recursion by `loop_collect`.

The consumer's reads are the MODEL's: `consumeVis.visit_file` runs `takeLoop` and `M.getDev` on the device and sets the
`Take` of the handle it gives back (`withTake`); it does not call the translated `ZipFile::read` (`Gen/ReadEntry.lean`,
tied in `Tie/EntryRead.lean`).  What is tied here of the crate is `visit` itself: the header and central parses, the
rounds, the drains and the drop.

Hypotheses (explicit): `Hk` - the device fails with a kind other than `Interrupted`, or the run is failure-free (the
header / central `read_exact`s retry `Interrupted`; the READ-mode vocabulary models every failure as hard; the drains
retry on both sides); `KindFacts` (discharged in `Tie/VisitCKind.lean`: `tie_visit_streamVisitC_hard`); fuel above the
largest `Take` (2^64 + 2) and above the model's two loop bounds `len / 30 + 1`, `len / 46 + 1`.  That these bounds of
the model's structural recursions are never what ends its loops is PROVED (`Lemmas/VisitBounds.lean`: every round that
shows an entry consumes at least 30 bytes, every further central record at least 46, of a buffer the run never changes).
-/

open ZipVerif ZipVerif.Model ZipVerif.Tie.Drain ZipVerif.Tie.Visit ZipVerif.Tie.StreamGlue ZipVerif.Tie.ReaderGlue2
  ZipVerif.Tie.Records ZipVerif.Tie.ReaderGlue

namespace ZipVerif.Tie.VisitC

theorem map_apply {α β} (f : α → β) (x : M α) (fa : Option Nat) (d : Dev) :
    (f <$> x) fa d = match x fa d with
      | (.ok a, d') => (.ok (f a), d')
      | (.err e, d') => (.err e, d')
      | (.panic s, d') => (.panic s, d') := by
  show (x >>= fun a => pure (f a)) fa d = _
  rw [M.bind_apply]
  rcases x fa d with ⟨o, d'⟩
  cases o <;> rfl

theorem map_inv {α β} (f : α → β) (x : M α) (fa : Option Nat) (d : Dev) :
    match (f <$> x) fa d with
    | (.ok b, d') => ∃ a, x fa d = (.ok a, d') ∧ f a = b
    | (.err e, d') => x fa d = (.err e, d')
    | (.panic s, d') => x fa d = (.panic s, d') := by
  rw [map_apply]
  rcases x fa d with ⟨a | e | s, d'⟩
  · exact ⟨a, rfl, rfl⟩
  · rfl
  · rfl

theorem rz_spec (gext : Visit.GExt) (fa : Option Nat) (d : Dev) :
    match Model.streamHeader fa d with
    | (.ok none, d1) => Gen.read_zipfile_from_stream gext fa d = (.ok none, d1)
    | (.ok (some f), d1) =>
      match streamReader f with
      | some r => ∃ file, Gen.read_zipfile_from_stream gext fa d = (.ok (some file), d1) ∧ fileView file = (f, false, none, r)
      | none => ∃ s, Gen.read_zipfile_from_stream gext fa d = (.panic s, d1)
    | (.err e, d1) => Gen.read_zipfile_from_stream gext fa d = (.err e, d1)
    | (.panic s, d1) => Gen.read_zipfile_from_stream gext fa d = (.panic s, d1) := by
  have key := map_inv (Option.map fileView) (Gen.read_zipfile_from_stream gext) fa d
  rw [tie_read_zipfile_from_stream, M.bind_apply] at key
  revert key
  rcases Model.streamHeader fa d with ⟨(_ | f) | e | s, d1⟩ <;> intro key
  · obtain ⟨_ | file, ha, hm⟩ := key
    · exact ha
    · cases hm
  · dsimp only at key ⊢
    generalize streamReader f = sr at key ⊢
    cases sr with
    | none => exact ⟨_, key⟩
    | some r =>
      obtain ⟨_ | file, ha, hm⟩ := key
      · cases hm
      · exact ⟨file, ha, Option.some.inj hm⟩
  · exact key
  · exact key

/-- the `Take` of a decryption layer replaced (what reading through the layer does to it: the limit goes down) -/
def setCryptoTake (t : Rs.Take) : Gen.CryptoReader → Gen.CryptoReader
  | .Plaintext _ => .Plaintext t
  | .ZipCrypto r => .ZipCrypto { r with inner := t }
  | .Aes r vv => .Aes { r with inner := t } vv

def setReaderTake (t : Rs.Take) : Gen.ZipFileReader → Gen.ZipFileReader
  | .NoReader => .NoReader
  | .Raw _ => .Raw t
  | .Stored r => .Stored { r with inner := setCryptoTake t r.inner }
  | .Deflated r => .Deflated { r with inner := { r.inner with inner := setCryptoTake t r.inner.inner } }
  | .Bzip2 r => .Bzip2 { r with inner := { r.inner with inner := setCryptoTake t r.inner.inner } }
  | .Zstd r => .Zstd { r with inner := { r.inner with inner := { r.inner.inner with inner := setCryptoTake t r.inner.inner.inner } } }

/-- a handle whose reads have moved the `Take` to `t` (a handle that has been read from has built its reader:
`get_reader` took the pending decryption layer) -/
def withTake (z : Gen.ZipFile) (t : Rs.Take) : Gen.ZipFile :=
  { z with reader := setReaderTake t z.reader, crypto_reader := none }

theorem cryptoTake_set (t : Rs.Take) (c : Gen.CryptoReader) : cryptoTake (setCryptoTake t c) = t := by
  cases c <;> rfl

theorem readerTake_set (t : Rs.Take) (r : Gen.ZipFileReader) (h : r ≠ .NoReader) :
    readerTake (setReaderTake t r) = some t := by
  cases r with
  | NoReader => exact absurd rfl h
  | Raw _ => rfl
  | Stored r => exact congrArg some (cryptoTake_set t r.inner)
  | Deflated r => exact congrArg some (cryptoTake_set t r.inner.inner)
  | Bzip2 r => exact congrArg some (cryptoTake_set t r.inner.inner)
  | Zstd r => exact congrArg some (cryptoTake_set t r.inner.inner.inner)

theorem setReaderTake_ne (t : Rs.Take) (r : Gen.ZipFileReader) (h : r ≠ .NoReader) : setReaderTake t r ≠ .NoReader := by
  cases r <;> first | exact absurd rfl h | (intro hc; cases hc)

theorem innerTake_withTake (z : Gen.ZipFile) (t : Rs.Take) (h : z.reader ≠ .NoReader) :
    innerTake (withTake z t) = some t :=
  (innerTake_reader (setReaderTake_ne t z.reader h)).trans (readerTake_set t z.reader h)

theorem streamReader_take (f : FileData) (r : Gen.ZipFileReader) (h : streamReader f = some r) :
    r ≠ .NoReader ∧ readerTake r = some ⟨f.compressedSize⟩ := by
  unfold streamReader at h
  cases hd : decoderChoice f.method with
  | none => rw [hd] at h; cases h
  | some dec =>
    rw [hd] at h
    simp only [Option.map_some, Option.some.injEq] at h
    subst h
    cases dec <;> exact ⟨(fun hc => by cases hc), rfl⟩

/-- the visitor's state: round index, the entries shown so far with the bytes asked for, the metadata records -/
abbrev VSt := Nat × List (FileData × Bytes) × List FileData

/-- **the model's consumer** (`Model.Consume`, `Model.visitFile`) as a `ZipStreamVisitor`: `visit_file` reads
`min c.pulled compressed_size` compressed bytes off the device in chunks of `c.chunk` - by the model's `takeLoop`, not
by the handle's translated `read` - and gives the handle back with its `Take` set to what is left (`withTake`); it
returns a failed read, a decoder / checksum error (`Ext.consume`) as its `Err`, and otherwise records the entry with the
`c.k` decoded bytes it asked for; `visit_additional_metadata` records the record. -/
def consumeVis (ext : Ext) (pattern : List Consume) : Vis VSt where
  visit_file v file := do
    let c := Consume.at pattern v.1
    let f := dataOf file.data.get
    let csize := f.compressedSize.toNat
    let d ← M.getDev
    let raw := (d.buf.drop d.pos).take csize
    let p := min c.pulled csize
    let (n, e) ← takeLoop c.chunk p p
    let file' := withTake file ⟨UInt64.ofNat (csize - n)⟩
    match e with
    | some e => pure (.error e, v, file')
    | none =>
      match ext.consume f raw c.k with
      | .err e => pure (.error e, v, file')
      | .panic s => M.panic s
      | .ok bytes => pure (.ok (), (v.1 + 1, v.2.1 ++ [(f, bytes)], v.2.2), file')
  visit_additional_metadata v m := pure (.ok (), (v.1, v.2.1, v.2.2 ++ [dataOf m]))

/-- the condition under which the READ-mode header reads and the model's `retried` header reads agree -/
def Hk (fa : Option Nat) (d : Dev) : Prop := d.fkind ≠ .interrupted ∨ fa = none

theorem Hk.step {fa : Option Nat} {d d' : Dev} (h : Hk fa d) (hk : d'.fkind = d.fkind) : Hk fa d' := by
  rcases h with h | h
  · exact Or.inl (by rw [hk]; exact h)
  · exact Or.inr h

theorem Hk.retried {α} {fa : Option Nat} {d : Dev} (h : Hk fa d) (m : M α) : M.retried m fa d = m fa d := by
  rcases h with h | h
  · exact Drain.M.retried_hard m fa d h
  · subst h
    rfl

def stepOfEntry (v : VSt) : Option (FileData × Bytes) → Rs.Step VSt (Unit × VSt)
  | none => .brk v
  | some x => .next (v.1 + 1, v.2.1 ++ [x], v.2.2)

/-- **one `visit_file` round of the translated `visit`, with the model's consumer as visitor, IS `Model.visitEntry`**
(the definition `Props/C11` reasons about): the header, the consumer's reads, on the visitor's `Err` the silent
drop-drain and the error, else the explicit drain whose read error is `visit`'s.  Pointwise, under `Hk`. -/
theorem tie_visit_entry (ext : Ext) (gext : Visit.GExt) (pat : List Consume) (v : VSt) (fa : Option Nat) (d : Dev)
    (hk : d.fkind ≠ .interrupted ∨ fa = none) :
    fileRound (consumeVis ext pat) gext v fa d =
      (stepOfEntry v <$> visitEntry ext (Consume.at pat v.1)) fa d := by
  -- Both sides are case trees over the same runs: `streamHeader` (`rz_spec` gives the outcome of the translated call
  -- and the `fileView` of the handle), `takeLoop`, a drain.  `innerTake_withTake` turns `dropModel` / `drainModel` of
  -- the handle given back into the model's drains of `csize - n` (`hdrop`, `hdrain`); the leaves are `rfl`.
  have hspec := rz_spec gext fa d
  have hsome := streamHeader_reader_some fa d
  unfold fileRound visitEntry visitFile
  rw [map_apply, M.bind_apply, M.bind_apply, M.bind_apply, Hk.retried hk]
  revert hspec hsome
  rcases Model.streamHeader fa d with ⟨(_ | f) | e | s, d1⟩ <;> intro hspec hsome
  · rw [show Gen.read_zipfile_from_stream gext fa d = _ from hspec]
    rfl
  · have hne := hsome (some f) d1 rfl f rfl
    dsimp only at hspec
    revert hspec
    cases hr : streamReader f with
    | none => exact absurd hr hne
    | some r =>
      intro ⟨file, hg, hv⟩
      rw [hg]
      obtain ⟨hrne, hrt⟩ := streamReader_take f r hr
      unfold fileView at hv
      simp only [Prod.mk.injEq] at hv
      obtain ⟨hf, hown, hcr, hrd⟩ := hv
      obtain ⟨a, ha⟩ : ∃ a, file.data = .Owned a := by
        cases hd : file.data with
        | Borrowed b => rw [hd] at hown; cases hown
        | Owned a => exact ⟨a, rfl⟩
      dsimp only [consumeVis]
      rw [hf]
      have hgd : ∀ fa d, M.getDev fa d = (Out.ok d, d) := fun _ _ => rfl
      rw [M.bind_apply, M.bind_apply, hgd, M.bind_apply, hgd]
      dsimp only
      rw [M.bind_apply, M.bind_apply]
      rcases takeLoop (Consume.at pat v.1).chunk (min (Consume.at pat v.1).pulled f.compressedSize.toNat)
          (min (Consume.at pat v.1).pulled f.compressedSize.toNat) fa d1 with ⟨⟨n, e⟩ | e | s, d2⟩
      · have hit := innerTake_withTake file ⟨UInt64.ofNat (f.compressedSize.toNat - n)⟩ (by rw [hrd]; exact hrne)
        have hdrop := dropModel_owned (z := withTake file ⟨UInt64.ofNat (f.compressedSize.toNat - n)⟩) ha hit
        have hdrain := drainModel_owned (z := withTake file ⟨UInt64.ofNat (f.compressedSize.toNat - n)⟩) ha hit
        rw [U64.toNat_ofNat_sub] at hdrop hdrain
        dsimp only
        cases e with
        | some e =>
          dsimp only [Drain.M.pure_apply]
          rw [hdrop]
          simp only [M.bind_apply]
          rcases M.retried (drain (f.compressedSize.toNat - n)) fa d2 with ⟨_ | _ | _, d3⟩ <;> rfl
        | none =>
          dsimp only
          cases ext.consume f (List.take f.compressedSize.toNat (List.drop d1.pos d1.buf)) (Consume.at pat v.fst).k with
          | err e =>
            dsimp only [Drain.M.pure_apply]
            rw [hdrop]
            simp only [M.bind_apply]
            rcases M.retried (drain (f.compressedSize.toNat - n)) fa d2 with ⟨_ | _ | _, d3⟩ <;> rfl
          | panic s => rfl
          | ok bytes =>
            dsimp only [Drain.M.pure_apply]
            rw [hdrain]
            simp only [M.bind_apply, M.attempt_apply]
            rcases M.retried (drainE (f.compressedSize.toNat - n)) fa d2 with ⟨_ | _ | _, d3⟩ <;> rfl
      · rfl
      · rfl
  · rw [show Gen.read_zipfile_from_stream gext fa d = _ from hspec]
  · rw [show Gen.read_zipfile_from_stream gext fa d = _ from hspec]

theorem withTake_ok (z : Gen.ZipFile) (t : Rs.Take) : HandleOk (withTake z t) := Or.inr rfl

theorem innerTake_withTake_le (z : Gen.ZipFile) (t t' : Rs.Take) (h : innerTake (withTake z t) = some t') : t' = t := by
  by_cases hr : z.reader = .NoReader
  · unfold innerTake withTake at h
    simp only [hr, setReaderTake, Option.map_none] at h
    cases h
  · rw [innerTake_withTake z t hr] at h
    cases h; rfl

theorem visit_file_withTake (ext : Ext) (pat : List Consume) (v : VSt) (f : Gen.ZipFile) :
    PostV (fun r => ∃ t, r.2.2 = withTake f t) ((consumeVis ext pat).visit_file v f) := by
  refine PostV.bind_any fun d => PostV.bind_any fun ⟨n, e⟩ => ?_
  cases e with
  | some e => exact PostV.pure ⟨_, rfl⟩
  | none =>
    dsimp only
    cases ext.consume (dataOf f.data.get) (List.take (dataOf f.data.get).compressedSize.toNat (List.drop d.pos d.buf))
        (Consume.at pat v.1).k with
    | err e => exact PostV.pure ⟨_, rfl⟩
    | panic s => exact PostV.panic _
    | ok bytes => exact PostV.pure ⟨_, rfl⟩

/-- the consumer keeps the handle invariant: the hypothesis of `tie_visit`.  `2 ^ 64 + 2`: `limit + 2` for the largest
`Take`. -/
theorem visOk_consume (ext : Ext) (pat : List Consume) (fuel : Nat) (hf : 2 ^ 64 + 2 ≤ fuel) :
    VisOk (consumeVis ext pat) fuel := by
  intro v f fa d r v' f' d' h
  obtain ⟨t, rfl⟩ : ∃ t, f' = withTake f t := (visit_file_withTake ext pat v f).elim h
  refine ⟨withTake_ok f t, fun t' ht' => ?_⟩
  cases innerTake_withTake_le f t t' ht'
  have := t.limit.toNat_lt
  omega

/-- the kind of error a device fails with is a property of the device: the model's computations do not change it.
(The field `Uniform.kind` of `Lemmas/FaultCore.lean`, at the `Uniform` instances of `Lemmas/FaultVisit` /
`Lemmas/FaultReader`: `kindFacts` in `Tie/VisitCKind.lean`; a parameter here.) -/
structure KindFacts (ext : Ext) (pat : List Consume) : Prop where
  entry : ∀ c fa d, (visitEntry ext c fa d).2.fkind = d.fkind
  entries : ∀ m i fa d, (visitEntries ext pat m i fa d).2.fkind = d.fkind
  central : ∀ fa d, (Model.centralHeaderInner 0 0 fa d).2.fkind = d.fkind

/-- A translated `loop` that collects: every round runs `one`, ends on `none` and goes on from `push s x` on
`some x`, the model being the list recursion `ml` over the same `one` with `m` rounds of fuel.  Same outcome and
device; on success the loop ends in `fin s l` - provided `m` was not what ended the model's recursion.  (`I`: what
the round equation needs of fault index and device, kept by `one`.) -/
theorem loop_collect {σ α ρ : Type} {I : Option Nat → Dev → Prop} {round : σ → M (Rs.Step σ ρ)}
    {one : σ → M (Option α)} {step : σ → Option α → Rs.Step σ ρ} {push : σ → α → σ} {fin : σ → List α → σ}
    {ml : Nat → σ → M (List α)}
    (hround : ∀ s fa d, I fa d → round s fa d = (one s >>= fun o => pure (step s o)) fa d)
    (hI : ∀ s fa d, I fa d → I fa (one s fa d).2)
    (hbrk : ∀ s, step s none = .brk s) (hnext : ∀ s x, step s (some x) = .next (push s x))
    (hfin0 : ∀ s, fin s [] = s) (hfin : ∀ s x l, fin s (x :: l) = fin (push s x) l)
    (hml0 : ∀ s, ml 0 s = pure [])
    (hml : ∀ m s, ml (m + 1) s = one s >>= fun o =>
      o.elim (pure []) fun x => ml m (push s x) >>= fun rest => pure (x :: rest)) :
    ∀ m k, m ≤ k → ∀ s fa d, I fa d →
      match ml m s fa d with
      | (.ok l, d') => l.length < m → Rs.H.loop round k s fa d = (.ok (.done (fin s l)), d')
      | (.err e, d') => Rs.H.loop round k s fa d = (.err e, d')
      | (.panic p, d') => Rs.H.loop round k s fa d = (.panic p, d') := by
  intro m
  induction m with
  | zero =>
    intro k _ s fa d _
    rw [hml0]
    exact fun h => absurd h (Nat.not_lt_zero _)
  | succ m ih =>
    intro k hk s fa d hi
    obtain ⟨k, rfl⟩ : ∃ k', k = k' + 1 := ⟨k - 1, by omega⟩
    have hi' := hI s fa d hi
    rw [Drain.loop_succ, hml, M.bind_apply, M.bind_apply, hround s fa d hi, M.bind_apply]
    revert hi'
    rcases one s fa d with ⟨o | e | p, d1⟩ <;> intro hi'
    · cases o with
      | none =>
        intro _
        dsimp only [Drain.M.pure_apply]
        rw [hbrk, hfin0]
        rfl
      | some x =>
        have := ih k (by omega) (push s x) fa d1 hi'
        dsimp only [Drain.M.pure_apply, Option.elim]
        rw [hnext, M.bind_apply]
        revert this
        rcases ml m (push s x) fa d1 with ⟨l | e | p, d2⟩ <;> intro this
        · intro hl
          rw [hfin]
          exact this (Nat.lt_of_succ_lt_succ hl)
        · exact this
        · exact this
    · rfl
    · rfl

/-- **the `visit_file` loop of the translated `visit`, with the model's consumer as visitor, is
`Model.visitEntries`**: same outcome and device; on success the visitor has been shown exactly the model's list (when
the model's own loop bound `m` was not what ended its loop). -/
theorem files_loop (ext : Ext) (gext : Visit.GExt) (pat : List Consume) (hK : KindFacts ext pat) : ∀ (m k : Nat), m ≤ k → ∀ (v : VSt) (fa : Option Nat)
    (d : Dev), Hk fa d →
    match visitEntries ext pat m v.1 fa d with
    | (.ok l, d') => l.length < m →
        Rs.H.loop (fileRound (consumeVis ext pat) gext) k v fa d =
          (.ok (.done (v.1 + l.length, v.2.1 ++ l, v.2.2)), d')
    | (.err e, d') => Rs.H.loop (fileRound (consumeVis ext pat) gext) k v fa d = (.err e, d')
    | (.panic s, d') => Rs.H.loop (fileRound (consumeVis ext pat) gext) k v fa d = (.panic s, d') := by
  intro m k hmk v fa d hk
  have h := loop_collect (I := Hk) (round := fileRound (consumeVis ext pat) gext)
    (one := fun v => visitEntry ext (Consume.at pat v.1)) (step := stepOfEntry)
    (push := fun v x => (v.1 + 1, v.2.1 ++ [x], v.2.2)) (fin := fun v l => (v.1 + l.length, v.2.1 ++ l, v.2.2))
    (ml := fun m v => visitEntries ext pat m v.1)
    (fun v fa d hk => tie_visit_entry ext gext pat v fa d hk)
    (fun v fa d hk => hk.step (hK.entry _ fa d)) (fun _ => rfl) (fun _ _ => rfl)
    (fun v => by simp only [List.length_nil, List.append_nil, Nat.add_zero])
    (fun v x l => by
      simp only [List.length_cons, List.append_assoc, List.cons_append, List.nil_append, Nat.add_assoc, Nat.add_comm 1])
    (fun _ => rfl) (fun m v => bind_congr fun o => by cases o <;> rfl) m k hmk v fa d hk
  revert h
  rcases visitEntries ext pat m v.1 fa d with ⟨_ | _ | _, d'⟩ <;> exact id

theorem chi_spec (fa : Option Nat) (d : Dev) :
    match Model.centralHeaderInner 0 0 fa d with
    | (.ok f, d1) => ∃ m, Gen.central_header_to_zip_file_inner 0 0 fa d = (.ok m, d1) ∧ dataOf m = f
    | (.err e, d1) => Gen.central_header_to_zip_file_inner 0 0 fa d = (.err e, d1)
    | (.panic s, d1) => Gen.central_header_to_zip_file_inner 0 0 fa d = (.panic s, d1) := by
  have key := map_inv dataOf (Gen.central_header_to_zip_file_inner 0 0) fa d
  have h0 : (0 : UInt64).toNat = 0 := rfl
  rw [Tie.Parsers.tie_central_header_inner, h0] at key
  revert key
  rcases Model.centralHeaderInner 0 0 fa d with ⟨_ | _ | _, d1⟩ <;> exact id

theorem centralLoop_succ (m : Nat) :
    Model.streamCentralLoop (m + 1) = (M.readU32 >>= fun sig =>
      if sig != CENTRAL_SIG then pure [] else
        Model.centralHeaderInner 0 0 >>= fun f => Model.streamCentralLoop m >>= fun rest => pure (f :: rest)) := rfl

theorem centralRound_consume (ext : Ext) (pat : List Consume) (v : VSt) :
    centralRound (consumeVis ext pat) v =
      ((M.readU32 >>= fun sig => if sig != CENTRAL_SIG then pure none else some <$> Model.centralHeaderInner 0 0) >>=
        fun o => pure (o.elim (.brk v) fun f => .next (v.1, v.2.1, v.2.2 ++ [f]))) := by
  have h0 : (0 : UInt64).toNat = 0 := rfl
  rw [← h0, ← Tie.Parsers.tie_central_header_inner, bind_assoc]
  unfold centralRound consumeVis
  refine bind_congr fun sig => ?_
  show (if (sig != CENTRAL_SIG) = true then _ else _) = _
  split
  · rfl
  · simp only [map_eq_pure_bind, bind_assoc, pure_bind]
    rfl

theorem central_loop (ext : Ext) (pat : List Consume) : ∀ (m k : Nat), m ≤ k → ∀ (v : VSt) (fa : Option Nat) (d : Dev),
    match Model.streamCentralLoop m fa d with
    | (.ok l, d') => l.length < m →
        Rs.H.loop (centralRound (consumeVis ext pat)) k v fa d = (.ok (.done (v.1, v.2.1, v.2.2 ++ l)), d')
    | (.err e, d') => Rs.H.loop (centralRound (consumeVis ext pat)) k v fa d = (.err e, d')
    | (.panic s, d') => Rs.H.loop (centralRound (consumeVis ext pat)) k v fa d = (.panic s, d') := by
  intro m k hmk v fa d
  have h := loop_collect (I := fun _ _ => True) (round := centralRound (consumeVis ext pat))
    (one := fun _ => M.readU32 >>= fun sig => if sig != CENTRAL_SIG then pure none else
      some <$> Model.centralHeaderInner 0 0)
    (step := fun v o => o.elim (.brk v) fun f => .next (v.1, v.2.1, v.2.2 ++ [f]))
    (push := fun v f => (v.1, v.2.1, v.2.2 ++ [f])) (fin := fun v l => (v.1, v.2.1, v.2.2 ++ l))
    (ml := fun m _ => Model.streamCentralLoop m)
    (fun v fa d _ => by rw [centralRound_consume])
    (fun _ _ _ _ => trivial) (fun _ => rfl) (fun _ _ => rfl)
    (fun v => by rw [List.append_nil])
    (fun v x l => by rw [List.append_assoc]; rfl)
    (fun _ => rfl) (fun m _ => by
      rw [centralLoop_succ, bind_assoc]
      refine bind_congr fun sig => ?_
      split
      · rfl
      · simp only [map_eq_pure_bind, bind_assoc, pure_bind]
        rfl) m k hmk v fa d trivial
  revert h
  rcases Model.streamCentralLoop m fa d with ⟨_ | _ | _, d'⟩ <;> exact id

theorem vam_apply (ext : Ext) (pat : List Consume) (v : VSt) (m : Gen.ZipFileData) :
    (consumeVis ext pat).visit_additional_metadata v m = pure (.ok (), (v.1, v.2.1, v.2.2 ++ [dataOf m])) := rfl

/-- what the visitor has been shown, from its final state -/
def shown (r : Unit × VSt) : List (FileData × Bytes) × List FileData := (r.2.2.1, r.2.2.2)

/-- the bound `len / 30 + 1` of the model's entry loop is not what ends it: a successful run has shown fewer entries
(each consumed at least 30 bytes of the buffer: `Lemmas/VisitBounds.visitEntries_len`) -/
theorem entries_bound (ext : Ext) (pat : List Consume) (fa : Option Nat) (d d1 : Dev) (l : List (FileData × Bytes))
    (h : visitEntries ext pat (d.buf.length / 30 + 1) 0 fa d = (.ok l, d1)) : l.length < d.buf.length / 30 + 1 := by
  have := visitEntries_len ext pat _ _ h
  omega

/-- the bound `len / 46 + 1` of the model's central loop is not what ends it, on every device holding the same buffer
(each further record consumed at least 46 bytes: `Lemmas/VisitBounds.streamCentralLoop_len`) -/
theorem central_bound (fa : Option Nat) (d d2 d3 : Dev) (l : List FileData) (hb : d2.buf = d.buf)
    (h : Model.streamCentralLoop (d.buf.length / 46 + 1) fa d2 = (.ok l, d3)) : l.length < d.buf.length / 46 + 1 := by
  have := streamCentralLoop_len _ h
  rw [hb] at this
  omega

/-- **the translated `ZipStreamReader::visit`, run with the model's consumer as its visitor, IS
`Model.streamVisitC`** - the definition `Props/C11` is stated about: same outcome, same device, and
on success the visitor has been shown exactly the model's lists (entries with the bytes asked for, then the metadata
records).  For every consumption pattern, every `Ext`, every behaviour of the external layer constructors, under
`Hk`, for every fuel above the largest `Take` and the model's loop bounds. -/
theorem tie_visit_streamVisitC (ext : Ext) (gext : Visit.GExt) (pat : List Consume) (fuel : Nat) (hfuel : 2 ^ 64 + 2 ≤ fuel)
    (fa : Option Nat) (d : Dev) (hk : Hk fa d) (hf1 : d.buf.length / 30 + 1 ≤ fuel) (hf2 : d.buf.length / 46 + 1 ≤ fuel)
    (hK : KindFacts ext pat) :
    (shown <$> Gen.ZipStreamReader.visit (consumeVis ext pat) gext fuel (0, [], [])) fa d =
      streamVisitC ext pat fa d := by
  rw [tie_visit (consumeVis ext pat) gext fuel (visOk_consume ext pat fuel hfuel)]
  rw [map_apply]
  unfold visitModel streamVisitC visitCentral
  have hgd : ∀ fa d, M.getDev fa d = (Out.ok d, d) := fun _ _ => rfl
  simp only [M.bind_apply, hgd]
  have hL := files_loop ext gext pat hK (d.buf.length / 30 + 1) fuel hf1 (0, [], []) fa d hk
  have hkind1 := hK.entries (d.buf.length / 30 + 1) 0 fa d
  simp only [] at hL
  rcases hve : visitEntries ext pat (d.buf.length / 30 + 1) 0 fa d with ⟨o, d1⟩
  rw [hve] at hL hkind1
  cases o with
  | err e => simp only [] at hL; rw [hL]
  | panic s => simp only [] at hL; rw [hL]
  | ok l =>
    simp only [] at hL hkind1
    rw [hL (entries_bound ext pat fa d d1 l hve)]
    have hb1 : d1.buf = d.buf := (visitEntries_readOnly ext pat _ _).ok hve
    simp only [Nat.zero_add, List.nil_append, M.bind_apply]
    have hk1 : Hk fa d1 := hk.step hkind1
    rw [hk1.retried]
    have hc := chi_spec fa d1
    have hkind2 := hK.central fa d1
    rcases hchi : Model.centralHeaderInner 0 0 fa d1 with ⟨o2, d2⟩
    rw [hchi] at hc hkind2
    cases o2 with
    | err e => simp only [] at hc; rw [hc]
    | panic s => simp only [] at hc; rw [hc]
    | ok f =>
      obtain ⟨mm, hg, hf⟩ := hc
      rw [hg]
      simp only [vam_apply, Drain.M.pure_apply, M.bind_apply, hf, List.nil_append]
      have hk2 : Hk fa d2 := hk1.step hkind2
      rw [hk2.retried]
      have hC := central_loop ext pat (d.buf.length / 46 + 1) fuel hf2 (l.length, l, [f]) fa d2
      simp only [] at hC
      rcases hcl : Model.streamCentralLoop (d.buf.length / 46 + 1) fa d2 with ⟨o3, d3⟩
      rw [hcl] at hC
      cases o3 with
      | err e => simp only [] at hC; rw [hC]
      | panic s => simp only [] at hC; rw [hC]
      | ok l2 =>
        simp only [] at hC
        have hb2 : d2.buf = d.buf := ((centralHeaderInner_readOnly 0 0).ok hchi).trans hb1
        rw [hC (central_bound fa d d2 d3 l2 hb2 hcl)]
        rfl

end ZipVerif.Tie.VisitC
