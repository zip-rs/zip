import ZipVerif.Tie.Append
import ZipVerif.Tie.WriterSM
import ZipVerif.Tie.ReaderGlue
import ZipVerif.Lemmas.ReaderBounds
/-
Tie obligation for `ZipWriter::new_append` (src/write.rs; item kind `afn` of
`rs2lean/src/t6w2.rs`: a constructor `fn f(mut readwriter: A) -> ZipResult<ZipWriter<A>>`, `A: Read + Write +
Seek`, translated in READ mode over the owned device; the value is the generated structure of the
STATE-MACHINE mode).

  tie_new_append   (absW <$> Gen.ZipWriter.new_append) fa d = Model.newAppend fa d
                   for every fault index and every device whose length fits `u64`: same I/O calls in the same
                   order, same outcome class and error, same final device, and the writer value corresponds
                   (`Tie.WriterSM.absW`).  Covered statement by statement: `find_and_parse`, the multi-disk
                   check, `get_directory_counts`, the guard `directory_start > cde_start_pos` (D16), the seek to
                   the directory with its error mapped to `InvalidArchive`, the iterator chain
                   `(0..n).map(|_| central_header_to_zip_file(..).and_then(|mut file| { name check (A6);
                   file.extra_field = strip_zip64_extra_field(..); Ok(file) })).collect::<Result<Vec<_>, _>>()?`
                   against the model's `newAppend.loop` (the first failing record ends the iteration), the
                   repositioning seek (reported since fix 1f81f8a: `…seek(..)?`), and the writer that is built (`Storer(Unencrypted)`, the records, `Default`
                   statistics, the three flags off, the footer's comment, `writing_raw = true`).

Hypothesis (`NamesFit`): every name the central-header parser returns has a length that fits `usize` - it is
a Rust `String`; the model compares `Nat` lengths with 65535, the source `file_name.len()`.

TRUSTED VOCABULARY of this file (how the translator reads these constructs): `(lo..hi).map(closure).collect::<Result<Vec<_>, _>>()?`
runs the closure for `lo, lo+1, …` in order and stops at the first `Err`, which becomes the error of the
expression (`Rs.B.collectRange`, `Basic/RsB.lean`; the `Result` adapter reserves nothing in advance); inside the closure
`R.map(|x| v)` / `R.and_then(|x| r)` continue with the `Ok` value and `return Err(e)` is the closure's failing
value; `GenericZipWriter::Storer(MaybeEncrypted::Unencrypted(readwriter))` is `Inner.storer none` with the
device of the monad as the sink; `Default::default()` of a structure that derives `Default` is the field-wise
default (`0`, `false`, empty vector, `crc32fast::Hasher::default() = Hasher::new()`).
-/
set_option linter.unusedSimpArgs false
set_option linter.unusedVariables false

namespace ZipVerif.Tie.AppendOpen
open ZipVerif ZipVerif.Model ZipVerif.Tie.SpecRecords ZipVerif.Tie.Records ZipVerif.Tie.Parsers
open ZipVerif.Tie.ReaderGlue ZipVerif.Tie.Append ZipVerif.Tie.WriterSM

/-- Every decoded name is a Rust `String`: its length fits `usize`. -/
def NamesFit : Prop := ∀ (ao : Nat) (fa : Option Nat) (d : Dev) (f : FileData) (d' : Dev),
  centralHeader ao fa d = (.ok f, d') → f.fileName.length < 18446744073709551616

def modelStep (ao : Nat) : M FileData :=
  centralHeader ao >>= fun f =>
    if f.fileName.length > 65535 then M.throw .unsupportedArchive else pure (appendRecord f)

theorem loop_succ (ao n : Nat) :
    newAppend.loop ao (n + 1) = (modelStep ao >>= fun r => newAppend.loop ao n >>= fun rest => pure (r :: rest)) := by
  rw [newAppend.loop, modelStep]
  simp only [bind_assoc]
  refine bind_congr fun f => ?_
  split
  · rfl
  · simp only [pure_bind]

/-- The iterator chain: `n` runs of a closure that behaves like the model's step. -/
theorem collect_loop (ao : Nat) (body : UInt64 → M Gen.ZipFileData)
    (hb : ∀ i fa d, (dataOf <$> body i) fa d = modelStep ao fa d) :
    ∀ (n : Nat) (i : UInt64), (List.map dataOf) <$> Rs.B.collectN body n i = newAppend.loop ao n := by
  intro n
  induction n with
  | zero => intro i; simp only [Rs.B.collectN, newAppend.loop, map_pure, List.map_nil]
  | succ n ih =>
    intro i
    apply M.ext; intro fa d
    rw [loop_succ, ← ih (i + 1)]
    have : (List.map dataOf <$> Rs.B.collectN body (n + 1) i) =
        ((dataOf <$> body i) >>= fun r =>
          (List.map dataOf <$> Rs.B.collectN body n (i + 1)) >>= fun rest => pure (r :: rest)) := by
      simp only [Rs.B.collectN, map_eq_pure_bind, bind_assoc, pure_bind, List.map_cons]
    rw [this]
    exact M.bind_congr_left_at (hb i fa d)

/-- The closure of `new_append`: one central record.  The `do` block is the closure as `Gen/Append.lean` prints it
inside `Gen.ZipWriter.new_append` (it has to stay that text for `collect_loop` to apply in `tie_new_append`). -/
theorem closure_step (hn : NamesFit) (ao : UInt64) (fa : Option Nat) (d : Dev) :
    (dataOf <$> (do
      let t5 : Gen.ZipFileData ← Gen.central_header_to_zip_file ao
      let mut file : Gen.ZipFileData := t5
      (if (decide ((Rs.len file.file_name) > (Rs.as' UInt64 (65535 : UInt16)))) then
        Rs.R.err Rs.ZipErr.UnsupportedArchive else pure ())
      let t6 : Bytes ← Gen.strip_zip64_extra_field file.extra_field
      file := { file with extra_field := t6 }
      pure file : M Gen.ZipFileData)) fa d = modelStep ao.toNat fa d := by
  -- the continuation reads the record through `dataOf` only
  let K : FileData → M FileData := fun f =>
    (if decide (Rs.len f.fileName > Rs.as' UInt64 (65535 : UInt16)) then
        (Rs.R.err Rs.ZipErr.UnsupportedArchive : M Unit) else pure ()) >>= fun _ =>
      Gen.strip_zip64_extra_field f.extraField >>= fun t6 => pure { f with extraField := t6 }
  have h1 : (dataOf <$> (do
      let t5 : Gen.ZipFileData ← Gen.central_header_to_zip_file ao
      let mut file : Gen.ZipFileData := t5
      (if (decide ((Rs.len file.file_name) > (Rs.as' UInt64 (65535 : UInt16)))) then
        Rs.R.err Rs.ZipErr.UnsupportedArchive else pure ())
      let t6 : Bytes ← Gen.strip_zip64_extra_field file.extra_field
      file := { file with extra_field := t6 }
      pure file : M Gen.ZipFileData)) = ((dataOf <$> Gen.central_header_to_zip_file ao) >>= K) := by
    simp only [map_eq_pure_bind, bind_assoc, pure_bind, K]
    rfl
  rw [h1, tie_central_header, modelStep]
  apply M.bind_congr_at
  intro f d' hf
  have hname := hn _ _ _ _ _ hf
  have hx : f.extraField.length ≤ 65535 := by
    have hp := centralHeader_raw_len ao.toNat
    unfold PostV at hp
    exact (hp _ _ _ _ hf).2
  simp only [K]
  rw [WriterSM.len_gt_u16 _ hname, tie_strip_zip64 _ (by omega)]
  by_cases hc : f.fileName.length > 65535
  · simp only [hc, decide_true, ↓reduceIte, Rs.R.err, M.throw_bind, Rs.zerr]
  · simp only [hc, decide_false, Bool.false_eq_true, ↓reduceIte, pure_bind, appendRecord]

theorem tie_new_append (hn : NamesFit) (fa : Option Nat) (d : Dev) (hd : d.buf.length < 2 ^ 64) :
    (absW <$> Gen.ZipWriter.new_append) fa d = Model.newAppend fa d := by
  unfold Gen.ZipWriter.new_append Model.newAppend
  msimp
  refine find_and_parse_bind fa d hd _ _ fun footer cde hb => ?_
  -- the comment bound `tie_get_directory_counts` asks for; `hb` gives 65535
  have hlen : footer.zip_file_comment.length < 2 ^ 63 - 42 := by omega
  simp only []
  have hcond : ((eocdRes (footer, cde)).fst.diskNumber != (eocdRes (footer, cde)).fst.diskWithCd) =
      (footer.disk_number != footer.disk_with_central_directory) := rfl
  rw [hcond]
  by_cases hmd : (footer.disk_number != footer.disk_with_central_directory) = true
  · rw [if_pos hmd, if_pos hmd]
  · rw [if_neg hmd, if_neg hmd]
    have he1 : (eocdRes (footer, cde)).fst = eocdOf footer := rfl
    have he2 : (eocdRes (footer, cde)).snd = cde.toNat := rfl
    have he3 : (eocdOf footer).comment = footer.zip_file_comment := rfl
    rw [he1, he2, he3, ← tie_get_directory_counts footer cde hlen]
    msimp [M.attempt_map]
    refine bind_congr fun x => ?_
    have hds : (countsRes x).2.fst = x.2.fst.toNat := rfl
    have hao : (countsRes x).fst = x.fst.toNat := rfl
    have hnf : (countsRes x).2.snd = x.2.snd.toNat := rfl
    rw [hds, hao, hnf]
    have hgt : decide (x.2.fst > cde) = decide (x.2.fst.toNat > cde.toNat) := by
      simp only [gt_iff_lt, UInt64.lt_iff_toNat_lt]
    rw [hgt]
    by_cases hdir : x.2.fst.toNat > cde.toNat
    · simp only [hdir, decide_true, ↓reduceIte, M.throw_bind]
    · simp only [hdir, decide_false, Bool.false_eq_true, ↓reduceIte, pure_bind]
      refine bind_congr fun r => ?_
      cases r with
      | error e => rfl
      | ok p =>
        simp only [Except.map, Except.isOk, Except.toBool, Bool.not_true, Bool.false_eq_true, ↓reduceIte,
          pure_bind]
        have e0 : (0 : UInt64).toNat = 0 := by decide
        have hloop := collect_loop x.fst.toNat _ (fun i fa d => closure_step hn x.fst fa d)
          (x.2.snd.toNat - (0 : UInt64).toNat) 0
        simp only [Rs.B.collectRange]
        rw [e0, Nat.sub_zero] at hloop ⊢
        simp only [bind_assoc, pure_bind, map_eq_pure_bind, M.throw_bind, M.panic_bind, M.ite_bind,
          Rs.R.err, Rs.R.lift, Rs.zerr] at hloop
        rw [← hloop]
        simp only [map_eq_pure_bind, bind_assoc, pure_bind]
        refine bind_congr fun files => bind_congr fun _ => ?_
        rfl

end ZipVerif.Tie.AppendOpen
