import ZipVerif.Gen.SwitchTo
import ZipVerif.Tie.WriterSM
/-
Tie obligation for `GenericZipWriter::switch_to` (src/write.rs; translator `rs2lean/src/t6w3.rs`, item kind
`gfn`) - the crate's own logic INSIDE the compressor stack, which C12 talks about: the early return when the
requested method is the current one, `BrokenPipe` on a closed writer, `mem::replace(self, Closed)` BEFORE the
running encoder is finished (so every refusal and every failed `finish()?` leaves the writer `Closed`), which
level range belongs to which method (`deflate_compression_level_range` = flate2 none..=best,
`bzip2_compression_level_range` = bzip2 fast..=best, zstd the library's range, each with its default), the
refusal of a level for `Stored`, of `AES` and of `Unsupported(_)`, the new encoder started on the taken-out writer.

`rs2lean` prints `Gen.GenericZipWriter.switch_to`, `.current_compression`, `Gen.clamp_opt`,
`Gen.deflate_compression_level_range`, `Gen.bzip2_compression_level_range` (`Gen/SwitchTo.lean`).

`tie_switch_to` is an EQUATION of `M` computations,

    absI <$> Rs.S.run (Gen.GenericZipWriter.switch_to ext z m l) = Rs.S.switch_to ext z.toInner m l

for every Rust value `z` of the enum, every method and level, every device and fault index (same I/O calls, outcome,
error, final stack, device; neither side can panic).  `Rs.S.switch_to` is the name the translated `ZipWriter` methods
call (`Gen/Writer.lean`) and `Tie/WriterSM.lean` reads as the model's `switchTo` (`switchTo_via`): by this theorem that
reading is not an assumption about `switch_to` but a statement about its translated source (`tie_switch_to_model`: the
same against `Model.switchTo` on a full writer state).  `clamp_deflate` / `clamp_bzip2` / `clamp_zstd`: the accepted
levels and the level handed to the encoder - Deflated 0..=9 (default 6), Bzip2 1..=9 (default 6), Zstd -131072..=22
(default 3) - are `Model.levelRange`.  `aes_const`: the deprecated constant `CompressionMethod::AES` (used as a pattern by
`switch_to`) is the variant `Aes` (translated `aconst`).

TRUSTED VOCABULARY (`Basic/RsS.lean`, external code):
  * `GenericZipWriter<W>` as `Rs.S.GZW` (one constructor per variant; an encoder `Rs.S.Enc` = level, what it wraps,
    plaintext consumed so far) and `GZW.toInner`, the model's `Inner` it stands for.  `toInner` is injective on
    the Rust values; `Model.Inner` has values that are no Rust value (`compressor stored …`), `switchTo` on those
    is not constrained by this theorem.
  * `encoder.finish()` (`Rs.S.enc_finish`): the whole output `ext.compress m level consumed` goes to the wrapped
    writer - appended to the ZipCrypto buffer, or one `write_all` on the sink; on a failed write the destructor
    of a flate2 / bzip2 encoder retries once (result ignored), zstd's does not; the value is the wrapped writer.
  * `DeflateEncoder::new`, `BzEncoder::new`, `flate2::Compression::new`, `bzip2::Compression::new` (the level as a
    number), `ZstdEncoder::new(..)` is `Ok` (its `.unwrap()` does not panic);
  * the libraries' level constants: flate2 none / best / default = 0 / 9 / 6, bzip2 fast / best / default = 1 / 9 / 6,
    `zstd::DEFAULT_COMPRESSION_LEVEL` = 3, `zstd::compression_level_range()` = -131072..=22;
  * `RangeInclusive::contains` is `lo ≤ v ∧ v ≤ hi`; `as i32` / `as u32` between 32-bit integers reinterpret the bits.
-/
set_option linter.unusedSimpArgs false
set_option linter.unusedVariables false

namespace ZipVerif.Tie.SwitchTo
open ZipVerif ZipVerif.Model ZipVerif.Tie.WriterSM

theorem toNat_of_nonneg (v : Int32) (h : 0 ≤ v.toInt) : ((Rs.as' UInt32 v).toNat : Int) = v.toInt := by
  simp only [Rs.as', Rs.As.cast]
  have : v.toUInt32.toNat = v.toBitVec.toNat := rfl
  rw [this]
  have h2 : v.toInt = v.toBitVec.toInt := rfl
  rw [h2] at h ⊢
  rw [BitVec.toInt_eq_toNat_cond] at h ⊢
  have := v.toBitVec.isLt
  split at h <;> split <;> omega

theorem clamp_deflate (l : Option Int32) :
    (Gen.clamp_opt (Option.getD l (Rs.as' Int32 Rs.S.flate2_level_default)) Gen.deflate_compression_level_range).map
        (fun v => Rs.S.flate2_Compression_new (Rs.as' UInt32 v)) =
      (if 0 ≤ (l.map Int32.toInt).getD 6 ∧ (l.map Int32.toInt).getD 6 ≤ 9 then some ((l.map Int32.toInt).getD 6) else none) := by
  have e0 : (Rs.as' Int32 Rs.S.flate2_level_none) = (0 : Int32) := by decide
  have e9 : (Rs.as' Int32 Rs.S.flate2_level_best) = (9 : Int32) := by decide
  have e6 : (Rs.as' Int32 Rs.S.flate2_level_default) = (6 : Int32) := by decide
  simp only [Gen.clamp_opt, Gen.deflate_compression_level_range, Rs.RangeIncl.contains, e0, e9, e6]
  cases l with
  | none => decide
  | some v =>
    simp only [Option.getD_some, Option.map_some, decide_eq_true_eq, Int32.le_iff_toInt_le]
    have z0 : (0 : Int32).toInt = 0 := by decide
    have z9 : (9 : Int32).toInt = 9 := by decide
    rw [z0, z9]
    by_cases h : 0 ≤ v.toInt ∧ v.toInt ≤ 9
    · simp only [h, and_self, ↓reduceIte, Option.map_some, Rs.S.flate2_Compression_new, toNat_of_nonneg v h.1]
    · simp only [h, ↓reduceIte, Option.map_none]

theorem clamp_bzip2 (l : Option Int32) :
    (Gen.clamp_opt (Option.getD l (Rs.as' Int32 Rs.S.bzip2_level_default)) Gen.bzip2_compression_level_range).map
        (fun v => Rs.S.bzip2_Compression_new (Rs.as' UInt32 v)) =
      (if 1 ≤ (l.map Int32.toInt).getD 6 ∧ (l.map Int32.toInt).getD 6 ≤ 9 then some ((l.map Int32.toInt).getD 6) else none) := by
  have e1 : (Rs.as' Int32 Rs.S.bzip2_level_fast) = (1 : Int32) := by decide
  have e9 : (Rs.as' Int32 Rs.S.bzip2_level_best) = (9 : Int32) := by decide
  have e6 : (Rs.as' Int32 Rs.S.bzip2_level_default) = (6 : Int32) := by decide
  simp only [Gen.clamp_opt, Gen.bzip2_compression_level_range, Rs.RangeIncl.contains, e1, e9, e6]
  cases l with
  | none => decide
  | some v =>
    simp only [Option.getD_some, Option.map_some, decide_eq_true_eq, Int32.le_iff_toInt_le]
    have z1 : (1 : Int32).toInt = 1 := by decide
    have z9 : (9 : Int32).toInt = 9 := by decide
    rw [z1, z9]
    by_cases h : 1 ≤ v.toInt ∧ v.toInt ≤ 9
    · simp only [h, and_self, ↓reduceIte, Option.map_some, Rs.S.bzip2_Compression_new, toNat_of_nonneg v (by omega)]
    · simp only [h, ↓reduceIte, Option.map_none]

theorem clamp_zstd (l : Option Int32) :
    (Gen.clamp_opt (Option.getD l Rs.S.zstd_DEFAULT_COMPRESSION_LEVEL) Rs.S.zstd_compression_level_range).map Int32.toInt =
      (if -131072 ≤ (l.map Int32.toInt).getD 3 ∧ (l.map Int32.toInt).getD 3 ≤ 22 then some ((l.map Int32.toInt).getD 3) else none) := by
  simp only [Gen.clamp_opt, Rs.S.zstd_compression_level_range, Rs.RangeIncl.contains, Rs.S.zstd_DEFAULT_COMPRESSION_LEVEL]
  cases l with
  | none => decide
  | some v =>
    simp only [Option.getD_some, Option.map_some, decide_eq_true_eq, Int32.le_iff_toInt_le]
    have z1 : (-131072 : Int32).toInt = -131072 := by decide
    have z9 : (22 : Int32).toInt = 22 := by decide
    rw [z1, z9]
    by_cases h : -131072 ≤ v.toInt ∧ v.toInt ≤ 22
    · simp only [h, and_self, ↓reduceIte, Option.map_some]
    · simp only [h, ↓reduceIte, Option.map_none]

theorem map_eq_ite_cases {α β} {o : Option α} {f : α → β} {c : Prop} [Decidable c] {v : β}
    (h : o.map f = if c then some v else none) : (o = none ∧ ¬ c) ∨ ∃ a, o = some a ∧ c ∧ f a = v := by
  by_cases hc : c
  · rw [if_pos hc] at h
    obtain ⟨a, ha, hv⟩ := Option.map_eq_some_iff.mp h
    exact .inr ⟨a, ha, hc, hv⟩
  · rw [if_neg hc] at h
    exact .inl ⟨Option.map_eq_none_iff.mp h, hc⟩

def absI (r : Except ZErr Unit × Rs.S.GZW) : Except ZErr Unit × Rs.S.Inner := (r.1, r.2.toInner)

theorem methodOf_inj {a b : Gen.CompressionMethod} (h : Tie.Types.methodOf a = Tie.Types.methodOf b) : a = b := by
  have inv : ∀ c, (match Tie.Types.methodOf c with
      | .stored => Gen.CompressionMethod.Stored | .deflated => .Deflated | .bzip2 => .Bzip2 | .aes => .Aes
      | .zstd => .Zstd | .unsupported v => .Unsupported v) = c := by
    intro c; cases c <;> rfl
  rw [← inv a, h, inv b]

theorem current_tie (z : Rs.S.GZW) :
    z.toInner.currentCompression = (Gen.GenericZipWriter.current_compression z).map Tie.Types.methodOf := by
  cases z <;> rfl

theorem run_tryM_bind {σ α β} (x : M (Except ZErr α)) (st : σ) (k : α → Rs.S σ (β × σ)) :
    (Rs.S.tryM x st >>= k).run = x >>= fun r => match r with
      | .ok a => (k a).run
      | .error e => pure (.error e, st) := by
  simp only [Rs.S.run, Rs.S.tryM, S.toM_bind, bind_assoc]
  refine bind_congr fun r => ?_
  cases r <;> simp only [pure_bind]

/-- `w.finish()?` of one encoder followed by `kG` is the model's `emitFinish` followed by `kM`, whenever `kG`
and `kM` agree on every bare writer: the encoder's output goes where the model sends it, and a failed write
leaves `Closed` after the destructor's retry (`retry`: flate2 and bzip2, not zstd). -/
theorem enc_finish_agree (ext : Rs.S.Ext) (s0 : WState) (mm : Method) (retry : Bool) (w : Rs.S.Enc)
    (hr : retry = (mm == .deflated || mm == .bzip2)) (hs0 : s0.inner = .closed)
    (kG : Option EncState → Rs.S Rs.S.GZW (Unit × Rs.S.GZW)) (kM : Option EncState → M (Except ZErr Unit × WState))
    (hk : ∀ bare, absI <$> (kG bare).run = kM bare >>= fun p => pure (p.1, p.2.inner)) :
    absI <$> (Rs.S.tryM (Rs.S.enc_finish ext mm retry w) Rs.S.GZW.Closed >>= kG).run =
      emitFinish s0 mm w.inner (ext.compress mm w.level w.pending) kM >>= fun p => pure (p.1, p.2.inner) := by
  rw [run_tryM_bind]
  unfold Rs.S.enc_finish emitFinish
  cases w.inner with
  | some e => simp only [pure_bind]; exact hk _
  | none =>
    simp only [bind_assoc, map_bind]
    refine bind_congr fun r => ?_
    cases r with
    | ok _ => simp only [pure_bind]; exact hk none
    | error e =>
      subst hr
      cases (mm == Method.deflated || mm == Method.bzip2) <;>
        simp only [↓reduceIte, Bool.false_eq_true, pure_bind, bind_assoc, map_pure, map_bind, absI, Rs.S.GZW.toInner, hs0]

/-- the first half of `switch_to` (take the bare writer out of whatever variant `z` is), for any continuation -/
theorem finish_agree (ext : Rs.S.Ext) (s0 : WState) (z : Rs.S.GZW) (hs0 : s0.inner = .closed)
    (kG : Option EncState → Rs.S Rs.S.GZW (Unit × Rs.S.GZW)) (kM : Option EncState → M (Except ZErr Unit × WState))
    (hk : ∀ bare, absI <$> (kG bare).run = kM bare >>= fun p => pure (p.1, p.2.inner)) :
    absI <$> Rs.S.run (do
        let t5 ← (match z with
          | Rs.S.GZW.Storer w => (pure w)
          | Rs.S.GZW.Deflater w => Rs.S.tryM (Rs.S.DeflateEncoder.finish ext w) Rs.S.GZW.Closed
          | Rs.S.GZW.Bzip2 w => Rs.S.tryM (Rs.S.BzEncoder.finish ext w) Rs.S.GZW.Closed
          | Rs.S.GZW.Zstd w => Rs.S.tryM (Rs.S.ZstdEncoder.finish ext w) Rs.S.GZW.Closed
          | Rs.S.GZW.Closed => Rs.S.err (Rs.ZipErr.Io Rs.IoKind.BrokenPipe) Rs.S.GZW.Closed)
        kG t5) =
      (match z.toInner with
        | .closed => pure (.error (.io .brokenPipe), s0)
        | .storer enc => kM enc
        | .compressor m l enc pending => emitFinish s0 m enc (ext.compress m l pending) kM) >>=
        fun p => pure (p.1, p.2.inner) := by
  cases z with
  | Storer w => exact hk w
  | Deflater w => exact enc_finish_agree ext s0 .deflated true w rfl hs0 kG kM hk
  | Bzip2 w => exact enc_finish_agree ext s0 .bzip2 true w rfl hs0 kG kM hk
  | Zstd w => exact enc_finish_agree ext s0 .zstd false w rfl hs0 kG kM hk
  | Closed => simp only [Rs.S.run, Rs.S.err, S.toM_bind, pure_bind, map_pure, absI, Rs.S.GZW.toInner, hs0, Rs.zerr]

theorem clamp_deflate_cases (l : Option Int32) :
    (Gen.clamp_opt (Option.getD l (Rs.as' Int32 Rs.S.flate2_level_default)) Gen.deflate_compression_level_range = none ∧
      ¬ (0 ≤ (l.map Int32.toInt).getD 6 ∧ (l.map Int32.toInt).getD 6 ≤ 9)) ∨
    (∃ a, Gen.clamp_opt (Option.getD l (Rs.as' Int32 Rs.S.flate2_level_default)) Gen.deflate_compression_level_range = some a ∧
      (0 ≤ (l.map Int32.toInt).getD 6 ∧ (l.map Int32.toInt).getD 6 ≤ 9) ∧
      Rs.S.flate2_Compression_new (Rs.as' UInt32 a) = (l.map Int32.toInt).getD 6) :=
  map_eq_ite_cases (clamp_deflate l)

theorem clamp_bzip2_cases (l : Option Int32) :
    (Gen.clamp_opt (Option.getD l (Rs.as' Int32 Rs.S.bzip2_level_default)) Gen.bzip2_compression_level_range = none ∧
      ¬ (1 ≤ (l.map Int32.toInt).getD 6 ∧ (l.map Int32.toInt).getD 6 ≤ 9)) ∨
    (∃ a, Gen.clamp_opt (Option.getD l (Rs.as' Int32 Rs.S.bzip2_level_default)) Gen.bzip2_compression_level_range = some a ∧
      (1 ≤ (l.map Int32.toInt).getD 6 ∧ (l.map Int32.toInt).getD 6 ≤ 9) ∧
      Rs.S.bzip2_Compression_new (Rs.as' UInt32 a) = (l.map Int32.toInt).getD 6) :=
  map_eq_ite_cases (clamp_bzip2 l)

theorem clamp_zstd_cases (l : Option Int32) :
    (Gen.clamp_opt (Option.getD l Rs.S.zstd_DEFAULT_COMPRESSION_LEVEL) Rs.S.zstd_compression_level_range = none ∧
      ¬ (-131072 ≤ (l.map Int32.toInt).getD 3 ∧ (l.map Int32.toInt).getD 3 ≤ 22)) ∨
    (∃ a, Gen.clamp_opt (Option.getD l Rs.S.zstd_DEFAULT_COMPRESSION_LEVEL) Rs.S.zstd_compression_level_range = some a ∧
      (-131072 ≤ (l.map Int32.toInt).getD 3 ∧ (l.map Int32.toInt).getD 3 ≤ 22) ∧
      a.toInt = (l.map Int32.toInt).getD 3) :=
  map_eq_ite_cases (clamp_zstd l)

/-- the second half (check the level, start the new encoder on the bare writer) reduced to its outcome -/
macro "sw_all" : tactic => `(tactic|
  simp only [Rs.S.run, S.toM_bind, S.toM_pure, Rs.S.err, Rs.S.lift, Rs.S.okOr, Rs.zerr, Rs.S.GZW.toInner,
    Tie.Types.methodOf, Rs.S.IsMethod.toModel, levelRange, absI, Rs.S.DeflateEncoder.new, Rs.S.BzEncoder.new,
    Rs.S.ZstdEncoder.new, Option.isSome_none, Option.isSome_some, Option.map_none, Option.map_some, pure_bind,
    map_pure, and_self, Int.reduceNeg, ↓reduceIte, Bool.false_eq_true, *])

/-- the second half of `switch_to` for every target method, given the range facts -/
macro "sw_method" m:ident l:ident : tactic => `(tactic|
  (cases $m:ident with
   | Stored => cases $l:ident <;> sw_all
   | Deflated => rcases clamp_deflate_cases $l with ⟨hc, hx⟩ | ⟨a, hc, hx, ha⟩ <;> sw_all
   | Bzip2 => rcases clamp_bzip2_cases $l with ⟨hc, hx⟩ | ⟨a, hc, hx, ha⟩ <;> sw_all
   | Aes => sw_all
   | Zstd => rcases clamp_zstd_cases $l with ⟨hc, hx⟩ | ⟨a, hc, hx, ha⟩ <;> sw_all
   | Unsupported v => sw_all))

/-- **`GenericZipWriter::switch_to` is the model's `switchTo`** (`Rs.S.switch_to`, the vocabulary the translated
`ZipWriter` methods call), for every Rust value of the compressor stack, every method and level, every device
and fault index. -/
theorem tie_switch_to (ext : Rs.S.Ext) (z : Rs.S.GZW) (m : Gen.CompressionMethod) (l : Option Int32) :
    absI <$> Rs.S.run (Gen.GenericZipWriter.switch_to ext z m l) = Rs.S.switch_to ext z.toInner m l := by
  unfold Gen.GenericZipWriter.switch_to Rs.S.switch_to Model.switchTo
  simp only [current_tie]
  cases Gen.GenericZipWriter.current_compression z with
  | none => simp only [Rs.S.run, Rs.S.err, S.toM_bind, pure_bind, map_pure, absI, Rs.zerr, Option.map_none]
  | some c =>
    simp only [Option.map_some]
    by_cases hm : c = m
    · subst hm
      simp only [beq_self_eq_true, ↓reduceIte, Rs.S.run, S.toM_pure, pure_bind, map_pure, absI, Rs.S.IsMethod.toModel]
    · have hm' : ¬ Tie.Types.methodOf c = Rs.S.IsMethod.toModel m := fun h => hm (methodOf_inj h)
      simp only [beq_iff_eq, hm, hm', ↓reduceIte]
      -- both sides: finish the running encoder, then the same continuation on the bare writer
      refine finish_agree ext _ z rfl _ _ fun bare => ?_
      sw_method m l

theorem tie_switch_to_model (ext : Rs.S.Ext) (z : Rs.S.GZW) (m : Gen.CompressionMethod) (l : Option Int32)
    (s : WState) (hs : s.inner = z.toInner) :
    Model.switchTo ext.toWExt (Tie.Types.methodOf m) (l.map Int32.toInt) s =
      (Rs.S.run (Gen.GenericZipWriter.switch_to ext z m l) >>= fun p =>
        pure (p.1, { s with inner := p.2.toInner })) := by
  rw [switchTo_via, hs, ← tie_switch_to, map_eq_pure_bind, bind_assoc]
  simp only [pure_bind, absI]

theorem aes_const : Gen.CompressionMethod.AES = Gen.CompressionMethod.Aes := rfl

theorem toInner_injective (a b : Rs.S.GZW) (h : a.toInner = b.toInner) : a = b := by
  cases a <;> cases b <;> simp only [Rs.S.GZW.toInner, Inner.storer.injEq, Inner.compressor.injEq, reduceCtorEq,
    false_and, and_false] at h <;> first | rfl | (cases h; rfl) | skip
  all_goals
    rename_i w w'
    obtain ⟨a1, a2, a3⟩ := w
    obtain ⟨b1, b2, b3⟩ := w'
    simp only at h
    obtain ⟨_, h1, h2, h3⟩ := h
    subst h1 h2 h3
    rfl

/-- non-vacuity: a level outside the method's range is refused and leaves the writer `Closed` -/
example (ext : Rs.S.Ext) : Rs.S.run (Gen.GenericZipWriter.switch_to ext (.Storer none) .Bzip2 (some 0)) =
    pure (.error .unsupportedArchive, .Closed) := by
  rfl

end ZipVerif.Tie.SwitchTo
