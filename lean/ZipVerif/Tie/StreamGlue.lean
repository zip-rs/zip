import ZipVerif.Tie.ReaderGlue2
import ZipVerif.Lemmas.StreamParse

/-
Tie obligation for the STREAMING reader's header function `read_zipfile_from_stream` (src/read.rs; translator tier
T6; vocabulary in `Basic/RsM.lean` + `Basic/RsGlue.lean`).

`tie_read_zipfile_from_stream` is an equation between `M` computations, without hypotheses and for every `ext` (the
function passes no password, so the external layer constructors are never called): the translated function, its handle
read through `fileView`, is `Model.streamHeader` followed by the handle the source builds for the entry returned - the
entry OWNED by the handle (so that dropping it drains the entry), no pending decryption layer,
`reader = make_reader(method, crc32, Plaintext(take(compressed_size)))` (`streamReader`).  The right-hand side keeps
the `panic!` of `make_reader` as an arm; `streamHeader_reader_some` shows that no entry `streamHeader` returns takes it.
-/
set_option linter.unusedSimpArgs false
set_option linter.unusedVariables false

namespace ZipVerif.Tie.StreamGlue
open ZipVerif ZipVerif.Model ZipVerif.Tie.SpecRecords ZipVerif.Tie.Records ZipVerif.Tie.Parsers
  ZipVerif.Tie.ReaderGlue ZipVerif.Tie.ReaderGlue2

/-- the reader `read_zipfile_from_stream` puts into the handle of an entry: `make_reader` over the plaintext layer
over a `Take` limited to the entry's compressed size -/
def streamReader (f : FileData) : Option Gen.ZipFileReader :=
  (decoderChoice f.method).map (readerOf f.crc32 (.Plaintext ⟨f.compressedSize⟩))

/-- the `match is_utf8` that chooses the decoder of the name is the model's `decodeToUtf8 is_utf8` -/
theorem decode_name_bind {β} (b : Bool) (raw : Bytes) (k : Bytes → M β) :
    ((match b with
      | true => pure (Rs.fromUtf8Lossy raw)
      | false => pure (Rs.fromCp437 raw)) >>= k) = k (Text.decodeToUtf8 b raw) := by
  cases b <;> rfl

/-! Stepping through `F <$> (x >>= k)` against `(x' >>= k') >>= h` one statement at a time: a read on both sides, or a
panic-free pure step (`Rs.R.lift (some a)`) that only the translated function has. -/

theorem M.map_bind_congr {α β γ δ} {F : β → δ} {x x' : M α} {k : α → M β} {k' : α → M γ} {h : γ → M δ}
    (hx : x = x') (H : ∀ a, F <$> k a = k' a >>= h) : F <$> (x >>= k) = (x' >>= k') >>= h := by
  subst hx
  rw [map_bind, bind_assoc]
  exact bind_congr H

theorem M.map_readExact_congr {β γ δ} {F : β → δ} (n : Nat) {k : Bytes → M β} {k' : Bytes → M γ} {h : γ → M δ}
    (H : ∀ bs : Bytes, bs.length = n → F <$> k bs = k' bs >>= h) :
    F <$> (M.readExact n >>= k) = (M.readExact n >>= k') >>= h := by
  rw [map_bind, bind_assoc]
  exact M.readExact_bind_congr n _ _ H

theorem M.map_lift_congr {α β δ} {F : β → δ} {o : Option α} {a : α} {k : α → M β} {rhs : M δ}
    (ho : o = some a) (H : F <$> k a = rhs) : F <$> (Rs.R.lift o >>= k) = rhs := by
  subst ho
  exact H

theorem read_exact_zeros (n : UInt16) : Rs.R.read_exact (Rs.vecZeros (Rs.as' UInt64 n)) = M.readExact n.toNat := by
  simp only [Rs.R.read_exact, Rs.vecZeros, List.length_replicate, as_u16_u64_toNat]

/-- The end of `read_zipfile_from_stream`, after `parse_extra_field`. -/
theorem stream_fin (ext : GExt) (s : Gen.ZipFileData) (enc udd : Bool) :
    Option.map fileView <$> (do
      (if enc then Rs.R.err Gen.unsupported_zip_error else pure ())
      (if udd then Rs.R.err Gen.unsupported_zip_error else pure ())
      let t21 ← Gen.make_crypto_reader ext s.compression_method s.crc32 s.last_modified_time
        s.using_data_descriptor (Rs.R.take s.compressed_size) none none s.compressed_size
      let t22 ← Rs.R.lift (Rs.unwrapRes t21)
      let t23 ← Rs.R.lift (Gen.make_reader s.compression_method s.crc32 t22)
      pure (some (Gen.ZipFile.mk (Rs.Cow.Owned s) none t23))) =
    ((if enc = true then M.throw ZErr.unsupportedArchive
      else if udd = true then M.throw ZErr.unsupportedArchive
      else match (dataOf s).method with
        | .unsupported _ => M.throw ZErr.unsupportedArchive
        | .aes => M.throw ZErr.unsupportedArchive
        | _ => pure (some (dataOf s))) >>= fun h =>
      match h with
      | none => pure none
      | some f => match streamReader f with
        | some r => pure (some (f, false, none, r))
        | none => M.panic "rs2lean: checked operation") := by
  cases enc
  · cases udd
    · simp only [Bool.false_eq_true, ↓reduceIte, pure_bind, bind_assoc, map_eq_pure_bind]
      rw [tie_make_crypto_reader]
      have hm : (dataOf s).method = Tie.Types.methodOf s.compression_method := rfl
      unfold streamReader
      rw [hm]
      cases hc : s.compression_method <;>
        simp only [cryptoChoice, Tie.Types.methodOf, runChoice, aesInfoOf, Option.map, M.throw_bind, pure_bind,
          Rs.unwrapRes, Rs.R.lift, tie_make_reader, decoderChoice, hm, hc] <;>
        rfl
    · rfl
  · rfl

/-- The panic arm is `make_reader` returning `None` for the method; the translated code meets it under `Rs.R.lift`,
hence the string of a failed checked operation (`Basic/RsM.lean`). -/
theorem tie_read_zipfile_from_stream (ext : GExt) :
    (Option.map fileView) <$> Gen.read_zipfile_from_stream ext =
      (Model.streamHeader >>= fun h =>
        match h with
        | none => pure none
        | some f => match streamReader f with
          | some r => pure (some (f, false, none, r))
          | none => M.panic "rs2lean: checked operation") := by
  unfold Gen.read_zipfile_from_stream Model.streamHeader
  refine M.map_bind_congr rfl fun sig => ?_
  dsimp only
  have hL : Gen.LOCAL_FILE_HEADER_SIGNATURE = LOCAL_SIG := rfl
  have hC : Gen.CENTRAL_DIRECTORY_HEADER_SIGNATURE = CENTRAL_SIG := rfl
  rw [hL, hC]
  by_cases hl : (sig == LOCAL_SIG) = true
  · have hsig : sig = LOCAL_SIG := eq_of_beq hl
    have hc : ¬ (sig == CENTRAL_SIG) = true := by rw [hsig]; decide
    have hn : ¬ (sig != LOCAL_SIG) = true := by rw [hsig]; decide
    rw [if_pos hl, if_neg hc, if_neg hn]
    refine M.map_bind_congr rfl fun vmb => M.map_bind_congr rfl fun flags =>
      M.map_lift_congr shl_1_11 <| M.map_lift_congr shl_1_3 <| M.map_bind_congr rfl fun cm => ?_
    obtain ⟨m, hm, hmm⟩ := from_u16_some cm
    refine M.map_lift_congr hm <| M.map_bind_congr rfl fun t => M.map_bind_congr rfl fun d =>
      M.map_bind_congr rfl fun crc => M.map_bind_congr rfl fun csz => M.map_bind_congr rfl fun usz =>
      M.map_bind_congr rfl fun nlen => M.map_bind_congr rfl fun xlen =>
      M.map_bind_congr (read_exact_zeros nlen) fun name => ?_
    rw [read_exact_zeros]
    refine M.map_readExact_congr _ fun extra hextra => ?_
    have hshr : Rs.Arith.shr vmb 8 = some (vmb >>> 8) := rfl
    obtain ⟨sys, hsys, hsysm⟩ := from_u8_some (Rs.as' UInt8 (vmb >>> 8))
    obtain ⟨dt, hdt, hdtm⟩ := from_msdos_some d t
    refine (congrArg (Option.map fileView <$> ·) (decode_name_bind _ _ _)).trans <|
      M.map_lift_congr hshr <| M.map_lift_congr hsys <| M.map_lift_congr hdt ?_
    -- as in `Parsers.tie_central_header_inner`: `G` names the entry the source builds from what was read,
    -- `parse_extra_field` runs on `G`, and the model's `parseExtraField` on `dataOf G` is that outcome
    generalize hG : Gen.ZipFileData.mk _ _ _ _ _ _ _ _ _ _ _ _ _ _ _ _ _ _ _ _ = G
    have hGx : G.extra_field = extra := by rw [← hG]
    have hx16 := UInt16.toNat_lt xlen
    obtain ⟨s, u, hrun, hpe⟩ := runP_parse_extra_field G (by rw [hGx, hextra]; omega)
    generalize hp : parseExtraField _ _ _ = pe
    obtain rfl : pe = (dataOf s, pefErr u) := by
      rw [← hp, ← hpe, ← hG]
      simp only [dataOf, hsysm, hmm, hdtm, UInt64.ofNat_toNat]
      rfl
    rw [hrun, pure_bind]
    -- `Ok` and an I/O-kind `Err` of the cursor go on to the end of the function, any other `Err` is returned
    cases u with
    | ok _ => exact stream_fin ext s _ _
    | error e =>
      cases e with
      | io k => exact stream_fin ext s _ _
      | _ => rfl
  · have hn : (sig != LOCAL_SIG) = true := by
      simp only [bne, hl, Bool.not_false]
    rw [if_neg hl]
    by_cases hc : (sig == CENTRAL_SIG) = true
    · rw [if_pos hc, if_pos hc]; rfl
    · rw [if_neg hc, if_neg hc, if_pos hn]; rfl

theorem streamHeader_reader_some :
    Post (fun h => ∀ f, h = some f → streamReader f ≠ none) Model.streamHeader := by
  intro fa d h d' hr f hf
  subst hf
  have hd := (Model.streamHeader_some_sound fa d d' f hr).2.2
  unfold streamReader
  cases hm : f.method <;> rw [hm] at hd <;> simp [Method.decodable, decoderChoice] at hd ⊢

end ZipVerif.Tie.StreamGlue
