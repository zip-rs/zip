import ZipVerif.Gen.Writer
import ZipVerif.Tie.Parsers
import ZipVerif.Lemmas.WriteCase
import ZipVerif.Lemmas.SetLast
/-
Tie obligations for the WRITER STATE MACHINE of src/write.rs (`impl ZipWriter`; translator tier T6,
STATE-MACHINE mode, `rs2lean/src/t6w.rs`, vocabulary in `Basic/RsS.lean`).

`rs2lean` prints `Gen.ZipWriter` (the structure) and its methods as state-passing computations over the
model's I/O monad:

    Gen.ZipWriter.f (ext : Rs.S.Ext) (self : Gen.ZipWriter) (args…) : Rs.S Gen.ZipWriter (R × Gen.ZipWriter)

(`Rs.S σ α = M (Except (ZErr × σ) α)`: an `Err` carries the object as the method left it).  Each method is
tied to the model's function for it (Model/Writer.lean; `write` and `write_all` to `GW.write` / `GW.writeAllLoop` of
Model/ShortWrite.lean as well, `Drop::drop` to `dropBody`, see `dropWriter_eq`), for every writer value `g`, every
device and every fault index: same I/O calls in the same order, same outcome class and error, same final device, and
the final writer states correspond (`absW`: the model `WState` of a generated `ZipWriter`: `files` through
`Tie.Records.dataOf`, the `u64` counters through `toNat`; `absR` applies it under the method's `Result`).
`erase` forgets the panic-site STRING only (the model names source lines, the translation does not); a panic
is still compared as a panic.  Two forms of statement:

  * an EQUATION `erase (absR <$> Rs.S.run (Gen.ZipWriter.f ext g args)) = erase (Model.f … (absW g))`, for the
    methods that do not read a sink position: one call of `write` (`tie_write_acc`, against `GW.write ext.accept`
    of Model/ShortWrite.lean for every accept function of the encoder; `tie_write` its instance for an encoder
    that takes everything, against `Model.writeData`), `tie_stats_update`, the two comment setters.  Proved by
    normalising both sides to right-nested `M` binds (`ssimp`).
  * `Sim absR P (Rs.S.run (Gen.ZipWriter.f ext g args)) (Model.f … (absW g))` (`sim_f`) for every other method:
    the two sides agree - same I/O calls, outcome, value, device - on every run on which the translation does not
    stop with the distinguished panic `Rs.S.OVF`, and `P` holds of what the translation returns with `Ok` (a
    caller needs it to carry its own hypotheses through the call; mostly the frame `files.map fkey` unchanged,
    where `fkey` blanks crc32 / sizes / data_start - the only fields the methods patch in place).  `OVF` is
    raised only by `Rs.S.position` when the model device's position does not fit `u64` (a real sink's position
    IS a `u64`; the model's `Dev` counts in `Nat`), so for every device below 2^64 the two sides are equal.
    `Sim.bind_run` is the bind of this relation on one run, `Sim.bind` / `Sim.congr` its instances for all runs.
    `Refines x y` is `Sim` without abstraction and postcondition (`refines_iff`); `tie_end_extra_data` and
    `tie_finish_file` state two of the ties in that form, and nothing else uses it.
    `switchTo_via` reads the vocabulary's `Rs.S.switch_to` as the model's `switchTo`; `actsG` / `runWB_*` replay
    what a translated serialiser (tied in Tie/Records.lean) hands to the sink.

A `sim_f` is proved by walking the method with STEP RULES: `unfold` the method and the model function, then one
`refine Sim.<rule> …` per statement of the source.  A rule consumes the first bind of `Rs.S.run (x >>= k)` against
the model's matching step; the continuations are found by unification.  One rule per construct: `Sim.io` /
`.position` / `.seek` (`op?` on the sink), `.guard` (early `return Err`), `.ite`, `.lift_some` / `.lift_none` /
`.lift_ite` (a checked operation; `.get_plain`, `.last` against the model's matches), `.call` / `.attempt` (a
`&mut self` method with / without `?`, through its own `sim_*`), `.switch_to`, `.zc_finish`, `.runWB` / `.check` /
`.central` (serialisers, validators), `.spanic`, `.ofResult_ok` / `_err`, `.pure_bind` / `.pure_ite`, `.io_bind`,
`.ite_jp` (an optional block in front of the translator's join point), `.ret` / `.leaf` at a `return`; Tie/Aligned.lean
and Tie/RawCopy.lean add the rules their methods need.  Not everything is walked in this way:
  * the tail of `finish_file` after the encryption layer is finished (on the bare sink; its one callee is the
    serialiser `update_local_file_header`, through `sim_update_header`) is normalised as a whole on both sides by
    `ssimp` and compared I/O call by I/O call (`Sim.congr`, every return by `Sim.leaf`): the macro `after_enc`,
    called in `sim_finish_file`;
  * `sim_add_directory` first splits on the three forms the name can take (`split`, `rw`) and walks each;
  * `sim_start_file`, `sim_start_file_with_extra_data`, `sim_add_directory`, `sim_add_symlink_of` open with a goal-wide
    `simp only [withFilePerm, …]` and a case split on `o.permissions`: the model builds the options with
    `withFilePerm`, the source by `if options.permissions.is_none() { … }` and an `unwrap`, and the walk starts once the
    two read alike;
  * in Tie/RawCopy.lean the option-building prefix of `raw_copy_file_rename` (field accessors of the source entry)
    and the cases of `io::copy` (`sim_io_copy_of`) are opened by `simp only` before the rules apply.

Hypotheses, and why (each is where the model idealises):
  * `buf.length < 2^63` - a Rust slice;  `bytes_written + buf.length < 2^64` - the model counts in `Nat`,
    the source in checked `u64`;
  * `writing_to_file → files ≠ []` (`tie_write_acc`, `tie_write`) - the writer invariant `Inv.fileFiles` (Lemmas/WriterSat):
    the model's `writeData` looks the open entry up BEFORE comparing the byte count with the 4 GiB limit,
    the source short-circuits (`bytes_written > THR && !files.last_mut().unwrap().large_file`), so on a
    state without entries (unreachable) the model panics where the source does not;
  * `ext.accept b = b.length` (`tie_write`) - the model's `writeData` is `write_all`: it never sees an
    encoder that takes fewer bytes than offered.  `write_accounts_accepted` is the obligation for the
    general case.
  * per open entry (the last of `files`): `extra_field.len() ≤ isize::MAX` (a Rust `Vec`),
    `data_start + extra_field.len() < 2^64`, `header_start + 28 < 2^64` (`end_extra_data`: the position of the
    extra-field length it patches), `header_start + 34 + file_name.len() < 2^64` (`finish_file` and its callers:
    the ZIP64 sizes behind the name, `update_local_file_header`) - the source computes these positions in
    checked `u64`, the model in `Nat`.
  * `FileOK` for every entry (`finalize`): `extra_field.len() ≤ isize::MAX` and a DOS-representable time
    (year ≥ 1980; a type invariant of `DateTime`): the model raises the serialiser's `datepart` panic
    before the serialiser's first write, the source after it - with an injected sink fault the two
    differ, so the panic is excluded; `files.len() < 2^64`, `comment.len() < 2^64` (Rust `Vec`s).

TRUSTED VOCABULARY (external code; `Basic/RsS.lean` gives each name the meaning of the model's existing
treatment in `Model/Writer.lean` - `Inner`, `EncState`, `WExt`, `switchTo`, `emit`, `emitFinish`):
  * `GenericZipWriter<W>` is `Model.Inner` (`Closed` | `Storer(MaybeEncrypted)` | an encoder with its
    pending plaintext); the sink `W` itself is the device of the monad `M`;
  * `inner.ref_mut()` is `None` exactly when closed; `w.write(buf)` on the returned `&mut dyn Write`
    (`Rs.S.enc_write`): a plain storer issues ONE `write` call on the sink and returns its count, the
    ZipCrypto layer buffers the bytes, an encoder consumes `ext.accept buf ≤ buf.len()` bytes (its output
    reaches the sink when it is finished);
  * `inner.is_closed()`, `inner.get_plain()` (panics unless `Storer(Unencrypted)`);
  * `let writer = inner.get_plain()`: `writer.stream_position()` is `Rs.S.position` (one `seek(Current(0))`
    call; `OVF` panic beyond u64, see above), `writer.seek(SeekFrom::Start(p))`, `writer.write_all(bs)`,
    `writer.write_uNN::<LittleEndian>(v)` are the device primitives; a translated serialiser called with
    `writer` (`update_local_file_header(writer, file)?`, tier T3) is replayed action by action
    (`Rs.S.runW`: its log of writes / seeks, then its own outcome; `Rs.S.runWB` for serialisers that only
    write: their chunks through `M.writeChunks`); `for x in vec.iter() { … }` whose body assigns nothing
    outside and leaves only by `?` is `Rs.S.forEach`; `inner.unwrap()` is `get_plain` by value;
    `let _ = write!(io::stderr(), …)` is dropped (the process's stderr is not modelled);
  * `inner.switch_to(method, level)` is written `Rs.S.switch_to` and read as the model's `switchTo`
    (`switchTo_via`).  This reading is not an assumption: `GenericZipWriter::switch_to` itself is translated
    (`Gen/SwitchTo.lean`) and `Tie/SwitchTo.lean` (`tie_switch_to`) proves it equal to `Rs.S.switch_to` on every
    Rust value of the enum - the early return, the `Closed` left behind by every refusal, the level ranges, the
    AES / Unsupported refusals are the source's; what is assumed there is the encoders' own behaviour
    (`finish()`: `ext.compress` of everything consumed goes to the sink or into the ZipCrypto buffer, with the
    destructor's second attempt of flate2 / bzip2 after a failed write; the constructors; the libraries' level
    constants); the method value is read through `Tie.Types.methodOf` (`Tie/WriterVocab.lean`);
  * `ZipCryptoWriter::finish(crc32)` is written `Rs.S.zc_finish` (panic below 12 buffered bytes, check byte,
    `ext.zcEncrypt`, `write_all`, `flush`).  LINKED to the translated `Gen.ZipCryptoWriter.finish` by
    `Tie/ZcFinish.lean` (`tie_zc_finish`: same outcome, error kind and - on `Ok` - device, with `ext.zcEncrypt pw`
    = the PKWARE encryption under the keys derived from `pw`);
    `GenericZipWriter::Storer(MaybeEncrypted::Encrypted(w))` is
    `Inner.storer (some w)`, `…::Unencrypted(sink)` is `Inner.storer none`;
  * `mem::replace(&mut self.inner, Closed)`: the old value is moved out; DROPPING it is not modelled (a
    flate2 / bzip2 encoder would flush into the sink from its destructor; the model covers that only
    for `Drop for ZipWriter`, `Model.dropInner`);
  * a `ZipCryptoKeys` value (`FileOptions::encrypt_with`) is represented by the PASSWORD it was derived from
    (the model's `encryptWith : Option Bytes`; `ZipCryptoKeys::derive` itself is tied in `Tie/ZipCrypto.lean`);
    `ZipCryptoWriter { writer, buffer: vec![], keys }` is `EncState` with an empty buffer, its `write_all`
    appends to the buffer (`Rs.S.zc_write`);
  * new-entry hypotheses: `name.len() < 2^64` (a `String`), and the entry's time has a DOS date (year ≥ 1980,
    a type invariant of `DateTime`; the serialiser's panic is excluded as for `finalize`);
  * `match s.chars().last() { Some('/') | Some('\\') => …, _ => … }` on a `String` is a match on its last BYTE
    (`Rs.lastByte`): in UTF-8 an ASCII character is the last character exactly when its byte is the last byte;
    `s + "/"` appends the literal's bytes;
  * `self.write_all(buf)` is std's default `Write::write_all` over the translated `write` (`Rs.S.write_all`:
    `Ok(0)` is `WriteZero`, otherwise continue with `&buf[n..]`; `ErrorKind::Interrupted` is never produced by
    the model's sink; fuel `buf.len() + 1`);
  * `crc32fast::Hasher` is the raw CRC register (`new` = all ones, `update` = `Spec.Crc32.updateBytes`,
    `clone().finalize()` = complement); `Vec::last/last_mut/push/len`, `<Vec<u8> as Write>::write`
    (appends everything).
-/
set_option linter.unusedSimpArgs false
set_option linter.unusedSectionVars false
set_option linter.unusedVariables false

namespace ZipVerif.Tie.WriterSM
open ZipVerif ZipVerif.Model ZipVerif.Tie.SpecRecords ZipVerif.Tie.Records ZipVerif.Tie.Parsers

/-! ### comparing `M` computations up to the panic-site string -/

def eraseOut {α} : Out α → Out α
  | .panic _ => .panic ""
  | o => o

def erase {α} (m : M α) : M α := fun fa d => (eraseOut (m fa d).1, (m fa d).2)

theorem erase_bind {α β} (x : M α) (f : α → M β) : erase (x >>= f) = erase x >>= fun a => erase (f a) := by
  apply M.ext; intro fa d
  simp only [erase, M.bind_apply]
  rcases h : x fa d with ⟨o, d'⟩
  cases o <;> simp only [eraseOut]

theorem erase_pure {α} (a : α) : erase (pure a : M α) = pure a := rfl
theorem erase_panic {α} (s : String) : erase (M.panic s : M α) = M.panic "" := rfl
theorem erase_throw {α} (e : ZErr) : erase (M.throw e : M α) = M.throw e := rfl
theorem erase_ite {α} (c : Prop) [Decidable c] (a b : M α) :
    erase (if c then a else b) = if c then erase a else erase b := by split <;> rfl

theorem erase_prim {α} (f : Dev → Out α × Dev) (hf : ∀ d, ∀ s, (f d).1 ≠ .panic s) :
    erase (M.prim f) = M.prim f := by
  apply M.ext; intro fa d
  simp only [erase, M.prim]
  split
  · rfl
  · rcases h : f { d with calls := d.calls + 1 } with ⟨o, d'⟩
    cases o with
    | ok a => rfl
    | err e => rfl
    | panic s => exact absurd (by rw [h]) (hf _ s)

theorem erase_write (bs : Bytes) : erase (M.write bs) = M.write bs :=
  erase_prim _ (fun d s h => by cases h)
theorem erase_flush : erase M.flush = M.flush := erase_prim _ (fun d s h => by cases h)
theorem erase_seek (sf : SeekFrom) : erase (M.seek sf) = M.seek sf := by
  apply erase_prim
  intro d s
  cases sf <;> dsimp only <;> split <;> (intro h; cases h)

theorem erase_attempt {α} (m : M α) : erase (M.attempt m) = M.attempt (erase m) := by
  apply M.ext; intro fa d
  simp only [erase, M.attempt]
  rcases h : m fa d with ⟨o, d'⟩
  cases o <;> rfl

theorem erase_writeAll (bs : Bytes) : erase (M.writeAll bs) = M.writeAll bs := by
  unfold M.writeAll
  split
  · rfl
  · rw [erase_bind, erase_write]; rfl

theorem erase_congr {α β} (x : M α) (f g : α → M β) (h : ∀ a, erase (f a) = erase (g a)) :
    erase (x >>= f) = erase (x >>= g) := by
  rw [erase_bind, erase_bind]; congr 1; funext a; exact h a

/-! ### the `S` monad as `M` code -/

open Rs in
theorem S.toM_bind {σ α β} (x : S σ α) (f : α → S σ β) :
    S.toM (x >>= f) = S.toM x >>= fun r => match r with
      | .ok a => S.toM (f a)
      | .error e => pure (.error e) := rfl
open Rs in
theorem S.toM_pure {σ α} (a : α) : S.toM (pure a : S σ α) = pure (.ok a) := rfl
open Rs in
theorem S.toM_ofM {σ α} (m : M (Except (ZErr × σ) α)) : S.toM (S.ofM m) = m := rfl
open Rs in
theorem S.toM_ite {σ α} (c : Prop) [Decidable c] (a b : S σ α) :
    S.toM (if c then a else b) = if c then S.toM a else S.toM b := by split <;> rfl
open Rs in
theorem S.toM_dite {σ α} (c : Prop) [Decidable c] (a : c → S σ α) (b : ¬ c → S σ α) :
    S.toM (dite c a b) = dite c (fun h => S.toM (a h)) (fun h => S.toM (b h)) := by split <;> rfl

/-- Normal form of straight-line `S` code: right-nested `M` binds. -/
syntax "ssimp" ("[" Lean.Parser.Tactic.simpLemma,* "]")? (Lean.Parser.Tactic.location)? : tactic
macro_rules
  | `(tactic| ssimp [$ls,*] $[$loc]?) => `(tactic| simp only [Rs.S.run, S.toM_bind, S.toM_pure, S.toM_ofM, S.toM_ite,
      Rs.S.err, Rs.S.throw, Rs.S.lift, Rs.S.panic, Rs.S.io, Rs.S.ofResult, Rs.S.call, Rs.S.sub, Rs.S.attempt,
      bind_assoc, pure_bind, map_eq_pure_bind, M.throw_bind, M.panic_bind, M.ite_bind, Rs.zerr,
      ↓reduceIte, Bool.false_eq_true, Bool.not_true, Bool.not_false, $ls,*] $[$loc]?)
  | `(tactic| ssimp) => `(tactic| ssimp [bind_assoc])

def absW (g : Gen.ZipWriter) : WState :=
  { inner := g.inner, files := g.files.map dataOf, statsStart := g.stats.start.toNat,
    statsBytes := g.stats.bytes_written.toNat, statsHasher := g.stats.hasher,
    writingToFile := g.writing_to_file, writingToExtraField := g.writing_to_extra_field,
    centralOnly := g.writing_to_central_extra_field_only, writingRaw := g.writing_raw,
    comment := g.comment }

def absR {α} (r : Except ZErr α × Gen.ZipWriter) : Except ZErr α × WState := (r.1, absW r.2)

theorem getLastOpt_map {α β} (f : α → β) (l : List α) : (l.map f).getLast? = l.getLast?.map f := by
  simp only [List.getLast?_map]

theorem setLast_map (l : List Gen.ZipFileData) (x : Gen.ZipFileData) :
    (Rs.setLast l x).map dataOf = Model.setLast (l.map dataOf) (dataOf x) := by
  unfold Rs.setLast Model.setLast
  rw [← List.map_reverse]
  cases l.reverse <;> simp only [List.map_nil, List.map_cons, List.map_reverse]

/-! ### `ZipWriterStats::update`, `impl Write for ZipWriter :: write` -/

/-- the guard `x.len() > u16::MAX as usize` of names and comments -/
theorem len_gt_u16 (bs : Bytes) (h : bs.length < 18446744073709551616) :
    decide (Rs.len bs > Rs.as' UInt64 (65535 : UInt16)) = decide (bs.length > 65535) := by
  have e : (Rs.as' UInt64 (65535 : UInt16)).toNat = 65535 := by decide
  rw [decide_eq_decide, gt_iff_lt, UInt64.lt_iff_toNat_lt, e, Rs.len, U64.toNat_ofNat h]

theorem len_add (a : UInt64) (buf : Bytes) (h : a.toNat + buf.length < 18446744073709551616) :
    Rs.Arith.add a (Rs.as' UInt64 (Rs.len buf)) = some (a + UInt64.ofNat buf.length) ∧
    (a + UInt64.ofNat buf.length).toNat = a.toNat + buf.length := by
  have hl : (Rs.as' UInt64 (Rs.len buf)).toNat = buf.length := by
    simp only [Rs.as', Rs.As.cast, id, Rs.len, UInt64.toNat_ofNat']; omega
  have e : Rs.as' UInt64 (Rs.len buf) = UInt64.ofNat buf.length := rfl
  rw [e] at hl ⊢
  have := U64.add_some a _ (by rw [hl]; exact h)
  rwa [hl] at this

theorem tie_stats_update (ext : Rs.S.Ext) (st : Gen.ZipWriterStats) (buf : Bytes)
    (h : st.bytes_written.toNat + buf.length < 18446744073709551616) :
    Rs.S.toM (Gen.ZipWriterStats.update ext st buf) =
      pure (.ok ((), { hasher := Spec.Crc32.updateBytes st.hasher buf, start := st.start,
                       bytes_written := st.bytes_written + UInt64.ofNat buf.length })) := by
  unfold Gen.ZipWriterStats.update
  ssimp [(len_add st.bytes_written buf h).1, Rs.Hasher.update]


theorem write_attempt_bind {β} (bs : Bytes) (k : Except ZErr Nat → M β) :
    (M.attempt (M.write bs) >>= k) = (M.attempt (M.write bs) >>= fun r => match r with
      | .ok _ => k (.ok bs.length)
      | .error e => k (.error e)) := by
  apply M.ext; intro fa d
  simp only [M.bind_apply, M.attempt, M.write, M.prim]
  by_cases hf : fa = some d.calls <;> simp only [hf, ↓reduceIte]

theorem slice_all (buf : Bytes) (h : buf.length < 18446744073709551616) :
    Rs.slice buf (0 : UInt64) (UInt64.ofNat buf.length) = some buf := by
  have e0 : (0 : UInt64).toNat = 0 := by decide
  simp only [Rs.slice, U64.toNat_ofNat h, e0, Nat.zero_le, Nat.le_refl, and_self, ↓reduceIte, List.take_length, List.drop_zero]

theorem gt_thr (x : UInt64) : (x > Gen.ZIP64_BYTES_THR) ↔ x.toNat > 0xFFFFFFFF := by
  have e : Gen.ZIP64_BYTES_THR.toNat = 0xFFFFFFFF := by decide
  rw [gt_iff_lt, UInt64.lt_iff_toNat_lt, e]

theorem slice_take (buf : Bytes) (n : Nat) (hn : n ≤ buf.length) (h : buf.length < 18446744073709551616) :
    Rs.slice buf (0 : UInt64) (UInt64.ofNat n) = some (buf.take n) := by
  have e0 : (0 : UInt64).toNat = 0 := by decide
  simp only [Rs.slice, U64.toNat_ofNat (n := n) (by omega), e0, Nat.zero_le, hn, and_self, ↓reduceIte, List.drop_zero]

/-- `impl Write for ZipWriter :: write`, ONE call, for every accept function of the encoder: the translated method
IS `GW.write ext.accept` (Model/ShortWrite.lean) at the model monad. -/
theorem tie_write_acc (ext : Rs.S.Ext) (g : Gen.ZipWriter) (buf : Bytes) (hb : buf ≠ [])
    (hlen : buf.length < 9223372036854775808)
    (hbytes : g.stats.bytes_written.toNat + buf.length < 18446744073709551616)
    (hinv : g.writing_to_file = true → g.files ≠ []) :
    erase (absR <$> Rs.S.run (Gen.ZipWriter.write ext g buf)) =
      erase ((fun r => (r.1.map UInt64.ofNat, r.2)) <$> (GW.write ext.accept buf (absW g) : M _)) := by
  unfold Gen.ZipWriter.write GW.write
  -- the cases are those the method dispatches on: `writing_to_file`, `inner`, `writing_to_extra_field`, the layer under a
  -- storer; in each both sides are normalised by `ssimp`, and the closing `simp only` decides the 4 GiB test
  -- `bytes_written > THR && !large_file` in its four cases
  have hne : buf.isEmpty = false := by cases buf <;> simp_all
  obtain ⟨hadd, haddn⟩ := len_add g.stats.bytes_written buf hbytes
  cases hwf : g.writing_to_file
  · ssimp [hwf, absW, hne]
    simp only [absR, absW, hwf, Except.map]
  · have hfiles := hinv hwf
    have hlast : ∃ f, g.files.getLast? = some f := by
      cases h : g.files.getLast? with
      | none => exact absurd (List.getLast?_eq_none_iff.mp h) hfiles
      | some f => exact ⟨f, rfl⟩
    obtain ⟨f, hf⟩ := hlast
    have hdl : (dataOf f).largeFile = f.large_file := rfl
    cases hin : g.inner with
    | closed =>
      ssimp [hwf, absW, hne, hin, Rs.S.ref_mut]
      simp only [absR, absW, hwf, hin, Except.map]
    | storer enc =>
      cases hx : g.writing_to_extra_field
      · cases enc with
        | none =>
          ssimp [hwf, absW, hne, hin, hx, Rs.S.ref_mut, Rs.S.enc_write, Model.io, WriterIO.wAttempt, WriterIO.wWrite]
          rw [write_attempt_bind]
          conv => rhs; rw [write_attempt_bind]
          apply erase_congr
          intro r
          cases r with
          | error e =>
            ssimp []
            simp only [absR, absW, hwf, hin, hx, Except.map]
          | ok n =>
            ssimp [slice_all buf (by omega), tie_stats_update ext g.stats buf hbytes, gt_thr, haddn, Rs.last,
              getLastOpt_map, hf, Option.map_some, GW.account, List.take_length]
            by_cases hc : g.stats.bytes_written.toNat + buf.length > 4294967295 <;> cases hlf : f.large_file <;>
              simp only [hc, hlf, hdl, absR, absW, haddn, Except.map, decide_true, decide_false, Bool.and_true,
                Bool.and_false, Bool.true_and, Bool.false_and, Bool.not_true, Bool.not_false, ↓reduceIte,
                Bool.false_eq_true, Rs.len, Rs.S.closed]
        | some e =>
          ssimp [hwf, absW, hne, hin, hx, Rs.S.ref_mut, Rs.S.enc_write, Model.io]
          ssimp [slice_all buf (by omega), tie_stats_update ext g.stats buf hbytes, gt_thr, haddn, Rs.last,
              getLastOpt_map, hf, Option.map_some, Rs.len, GW.account, GW.absorb]
          by_cases hc : g.stats.bytes_written.toNat + buf.length > 4294967295 <;> cases hlf : f.large_file <;>
              simp only [hc, hlf, hdl, absR, absW, haddn, Except.map, decide_true, decide_false, Bool.and_true,
                Bool.and_false, Bool.true_and, Bool.false_and, Bool.not_true, Bool.not_false, ↓reduceIte,
                Bool.false_eq_true, Rs.len, Rs.S.closed]
      · ssimp [hwf, absW, hne, hin, hx, Rs.S.ref_mut, Rs.last, getLastOpt_map, hf, Option.map_some, Rs.vecWrite]
        simp only [absR, absW, setLast_map, Except.map]
        rfl
    | compressor m l enc pending =>
      have hle := ext.accept_le buf
      have htl : (buf.take (ext.accept buf)).length = ext.accept buf := by
        rw [List.length_take]; omega
      have hb' : g.stats.bytes_written.toNat + (buf.take (ext.accept buf)).length < 18446744073709551616 := by
        rw [htl]; omega
      have hup := tie_stats_update ext g.stats (buf.take (ext.accept buf)) hb'
      obtain ⟨_, haddn'⟩ := len_add g.stats.bytes_written (buf.take (ext.accept buf)) hb'
      rw [htl] at hup haddn'
      cases hx : g.writing_to_extra_field
      · ssimp [hwf, absW, hne, hin, hx, Rs.S.ref_mut, Rs.S.enc_write, Model.io]
        ssimp [slice_take buf _ hle (by omega), hup, gt_thr, haddn', Rs.last, getLastOpt_map, hf, Option.map_some,
          Rs.len, GW.account, GW.absorb, htl]
        by_cases hc : g.stats.bytes_written.toNat + ext.accept buf > 4294967295 <;> cases hlf : f.large_file <;>
              simp only [hc, hlf, hdl, absR, absW, haddn', Except.map, decide_true, decide_false, Bool.and_true,
                Bool.and_false, Bool.true_and, Bool.false_and, Bool.not_true, Bool.not_false, ↓reduceIte,
                Bool.false_eq_true, Rs.len, Rs.S.closed]
      · ssimp [hwf, absW, hne, hin, hx, Rs.S.ref_mut, Rs.last, getLastOpt_map, hf, Option.map_some, Rs.vecWrite]
        simp only [absR, absW, setLast_map, Except.map]
        rfl

theorem tie_write (ext : Rs.S.Ext) (g : Gen.ZipWriter) (buf : Bytes) (hb : buf ≠ [])
    (hlen : buf.length < 9223372036854775808)
    (hbytes : g.stats.bytes_written.toNat + buf.length < 18446744073709551616)
    (hinv : g.writing_to_file = true → g.files ≠ [])
    (hacc : ∀ b, ext.accept b = b.length) :
    erase (absR <$> Rs.S.run (Gen.ZipWriter.write ext g buf)) =
      erase ((fun r => (r.1.map fun _ => Rs.len buf, r.2)) <$> writeData buf (absW g)) := by
  rw [tie_write_acc ext g buf hb hlen hbytes hinv, funext hacc, GW.write_whole buf hb, ← comp_map]
  congr 2
  funext r
  obtain ⟨r1, s1⟩ := r
  cases r1 <;> rfl

/-- `write` accounts the bytes the encoder ACCEPTED (`stats.update(&buf[0..count])`), not the bytes
offered: for an encoder that takes `n = ext.accept buf ≤ buf.len()` bytes of the buffer, the call returns
`Ok(n)`, the CRC register and the byte counter advance by exactly `buf[..n]`, and the encoder holds
exactly those bytes.  (The model's `writeData` is `write_all`, it never sees a short count; this is
the source-level fact C09's chunk-independence of the writer rests on.) -/
theorem write_accounts_accepted (ext : Rs.S.Ext) (g : Gen.ZipWriter) (buf : Bytes)
    (m : Method) (l : Int) (enc : Option EncState) (pending : Bytes)
    (hin : g.inner = .compressor m l enc pending) (hwf : g.writing_to_file = true)
    (hx : g.writing_to_extra_field = false) (hlen : buf.length < 9223372036854775808)
    (hsmall : g.stats.bytes_written.toNat + ext.accept buf ≤ 0xFFFFFFFF) :
    Rs.S.run (Gen.ZipWriter.write ext g buf) =
      pure (.ok (UInt64.ofNat (ext.accept buf)),
        { g with inner := .compressor m l enc (pending ++ buf.take (ext.accept buf)),
                 stats := { hasher := Spec.Crc32.updateBytes g.stats.hasher (buf.take (ext.accept buf)),
                            start := g.stats.start,
                            bytes_written := g.stats.bytes_written + UInt64.ofNat (ext.accept buf) } }) := by
  have hle := ext.accept_le buf
  have htl : (buf.take (ext.accept buf)).length = ext.accept buf := by
    rw [List.length_take]; omega
  have hb : g.stats.bytes_written.toNat + (buf.take (ext.accept buf)).length < 18446744073709551616 := by
    rw [htl]; omega
  have hup := tie_stats_update ext g.stats (buf.take (ext.accept buf)) hb
  obtain ⟨_, haddn⟩ := len_add g.stats.bytes_written (buf.take (ext.accept buf)) hb
  rw [htl] at hup haddn
  have hng : ¬ (g.stats.bytes_written.toNat + ext.accept buf > 4294967295) := by omega
  unfold Gen.ZipWriter.write
  ssimp [hwf, hin, hx, Rs.S.ref_mut, Rs.S.enc_write, slice_take buf _ hle (by omega), hup, gt_thr, haddn, hng,
    decide_false]

theorem attempt_bind_bind {α β γ} (x : M α) (f : α → M β) (k : Except ZErr β → M γ) :
    (M.attempt (x >>= f) >>= k) = (M.attempt x >>= fun r => match r with
      | .ok a => M.attempt (f a) >>= k
      | .error e => k (.error e)) := by
  apply M.ext; intro fa d
  simp only [M.bind_apply, M.attempt]
  rcases h : x fa d with ⟨o, d'⟩
  cases o <;> simp only []
  rename_i a
  rcases h2 : f a fa d' with ⟨o2, d2⟩
  cases o2 <;> simp only [M.bind_apply, M.attempt, h2]

theorem attempt_pure_bind {α γ} (a : α) (k : Except ZErr α → M γ) :
    (M.attempt (pure a) >>= k) = k (.ok a) := rfl

/-! ### refinement up to the `u64` position panic -/

def Refines {α} (x y : M α) : Prop :=
  ∀ fa d, (x fa d).1 = .panic Rs.S.OVF ∨ erase x fa d = erase y fa d

theorem Refines.of_eq {α} {x y : M α} (h : erase x = erase y) : Refines x y :=
  fun fa d => Or.inr (by rw [h])

theorem Refines.ovf {α β} (f : α → M β) (y : M β) : Refines (M.panic Rs.S.OVF >>= f) y :=
  fun fa d => Or.inl rfl

theorem Refines.ovf_panic {β} (y : M β) : Refines (M.panic Rs.S.OVF) y :=
  fun fa d => Or.inl rfl

theorem eraseOut_eq {α} {o o' : Out α} (h : eraseOut o = eraseOut o') :
    o = o' ∨ ∃ s s', o = .panic s ∧ o' = .panic s' := by
  cases o <;> cases o' <;> simp only [eraseOut, reduceCtorEq] at h
  · exact .inl h
  · exact .inl h
  · exact .inr ⟨_, _, rfl, rfl⟩

theorem erase_eq {α} {x y : M α} {fa : Option Nat} {d : Dev} (h : erase x fa d = erase y fa d) :
    x fa d = y fa d ∨ ∃ s s' d', x fa d = (.panic s, d') ∧ y fa d = (.panic s', d') := by
  simp only [erase, Prod.mk.injEq] at h
  rcases eraseOut_eq h.1 with ho | ⟨s, s', h1, h2⟩
  · exact .inl (Prod.ext ho h.2)
  · exact .inr ⟨s, s', _, Prod.ext h1 rfl, Prod.ext h2 h.2.symm⟩

theorem bind_ovf {α β} {x : M α} (f : α → M β) {fa : Option Nat} {d : Dev} (h : (x fa d).1 = .panic Rs.S.OVF) :
    ((x >>= f) fa d).1 = .panic Rs.S.OVF := by
  rcases hxd : x fa d with ⟨o, d'⟩
  rw [hxd] at h
  simp only at h
  subst h
  simp only [M.bind_apply, hxd]

theorem Refines.refl {α} (x : M α) : Refines x x := fun _ _ => Or.inr rfl

/-! ### `switch_to`: the model's `switchTo` only touches `inner` -/

/-- the first half of `switchTo` (take the bare writer out of the stack, finishing a running encoder) followed by
`g`, when `g` maps the refusals on `s0` to refusals on `s0'` and the continuation `k` to `k'` -/
theorem finishThen_bind {β γ} (ext : WExt) (inner : Inner) (s0 s0' : WState)
    (k : Option EncState → M (Except ZErr β × WState)) (k' : Option EncState → M (Except ZErr γ × WState))
    (g : Except ZErr β × WState → M (Except ZErr γ × WState))
    (hg : ∀ e, g (.error e, s0) = pure (.error e, s0')) (hk : ∀ enc, k enc >>= g = k' enc) :
    (match inner with
      | .closed => pure (.error (.io .brokenPipe), s0)
      | .storer enc => k enc
      | .compressor m l enc p => emitFinish s0 m enc (ext.compress m l p) k) >>= g =
    (match inner with
      | .closed => pure (.error (.io .brokenPipe), s0')
      | .storer enc => k' enc
      | .compressor m l enc p => emitFinish s0' m enc (ext.compress m l p) k') := by
  cases inner with
  | closed => simp only [pure_bind, hg]
  | storer enc => exact hk enc
  | compressor m l enc p =>
    unfold emitFinish
    cases enc with
    | some e => exact hk _
    | none =>
      simp only [bind_assoc]
      refine bind_congr fun r => ?_
      cases r with
      | ok _ => exact hk none
      | error e =>
        cases (m == Method.deflated || m == Method.bzip2) <;>
          simp only [↓reduceIte, Bool.false_eq_true, bind_assoc, pure_bind, hg]

theorem switchTo_frame (ext : WExt) (m : Method) (l : Option Int) (s : WState) :
    Model.switchTo ext m l s =
      (Model.switchTo ext m l { WState.init with inner := s.inner } >>= fun p =>
        pure (p.1, { s with inner := p.2.inner })) := by
  obtain ⟨inner, files, ss, sb, sh, wf, wx, co, wr, cm⟩ := s
  unfold Model.switchTo
  simp only [WState.init]
  cases inner.currentCompression with
  | none => simp only [pure_bind]
  | some cur =>
    by_cases h1 : (cur == m) = true
    · simp only [h1, ↓reduceIte, pure_bind]
    · simp only [h1]
      refine (finishThen_bind ext inner _ _ _ _ _ (fun e => ?_) (fun enc => ?_)).symm
      · rfl
      · cases m <;> simp only [levelRange] <;> (try split) <;> simp only [pure_bind]
theorem switchTo_via (ext : Rs.S.Ext) (m : Gen.CompressionMethod) (l : Option Int32) (s : WState) :
    Model.switchTo ext.toWExt (Tie.Types.methodOf m) (l.map Int32.toInt) s =
      (Rs.S.switch_to ext s.inner m l >>= fun p => pure (p.1, { s with inner := p.2 })) := by
  rw [switchTo_frame]
  simp only [Rs.S.switch_to, bind_assoc, pure_bind]
  rfl

/-! ### sink actions of a translated serialiser, replayed (`Rs.S.runW`) -/

def actsG {β : Type} : List Rs.Act → (Except ZErr Unit → M β) → M β
  | [], F => F (.ok ())
  | .seek p :: as, F => M.attempt (M.seek (.start p.toNat)) >>= fun r => match r with
    | .ok _ => actsG as F
    | .error e => F (.error e)
  | .write b :: as, F => M.attempt (M.writeAll b) >>= fun r => match r with
    | .ok _ => actsG as F
    | .error e => F (.error e)

theorem attempt_replay {β : Type} (acts : List Rs.Act) (F : Except ZErr Unit → M β) :
    (M.attempt (Rs.S.replay acts) >>= F) = actsG acts F := by
  induction acts with
  | nil => rfl
  | cons a as ih =>
    cases a with
    | write b =>
      simp only [Rs.S.replay, actsG, attempt_bind_bind]
      refine bind_congr fun r => ?_
      cases r <;> simp only [ih]
    | seek p =>
      simp only [Rs.S.replay, actsG, attempt_bind_bind]
      refine bind_congr fun r => ?_
      cases r <;> simp only [ih]

theorem ioActs_eq {β : Type} (s : WState) (acts : List Rs.Act) (k : Unit → M (Except ZErr β × WState)) :
    ioActs s acts k = actsG acts (fun r => match r with
      | .ok _ => k ()
      | .error e => pure (.error e, s)) := by
  induction acts with
  | nil => rfl
  | cons a as ih =>
    cases a with
    | write b =>
      simp only [ioActs, actsG, Model.io, ih]
      refine bind_congr fun r => ?_
      cases r <;> rfl
    | seek p =>
      simp only [ioActs, actsG, Model.io, ih]
      refine bind_congr fun r => ?_
      cases r <;> rfl

theorem actsG_bind {β γ : Type} (acts : List Rs.Act) (F : Except ZErr Unit → M β) (g : β → M γ) :
    (actsG acts F >>= g) = actsG acts (fun r => F r >>= g) := by
  induction acts with
  | nil => rfl
  | cons a as ih =>
    cases a <;> simp only [actsG, bind_assoc] <;> refine bind_congr fun r => ?_ <;> cases r <;> simp only [ih]


/-! ### postconditions of `M` computations (frame facts carried through a callee) -/

def Post {α} (m : M α) (Q : α → Prop) : Prop := ∀ fa d a d', m fa d = (.ok a, d') → Q a

theorem Post.pure {α} {Q : α → Prop} {a : α} (h : Q a) : Post (pure a : M α) Q := by
  intro fa d a' d' he
  cases he
  exact h

theorem Post.panic {α} {Q : α → Prop} (s : String) : Post (M.panic s : M α) Q := by
  intro fa d a' d' he
  cases he

theorem Post.bind {α β} {Q : β → Prop} {x : M α} {f : α → M β} (h : ∀ a, Post (f a) Q) : Post (x >>= f) Q := by
  intro fa d b d' he
  simp only [M.bind_apply] at he
  rcases hx : x fa d with ⟨o, d1⟩
  rw [hx] at he
  cases o with
  | ok a => exact h a fa d1 b d' he
  | err e => cases he
  | panic s => cases he

theorem Post.mono {α} {Q Q' : α → Prop} {m : M α} (h : Post m Q) (hq : ∀ a, Q a → Q' a) : Post m Q' :=
  fun fa d a d' he => hq a (h fa d a d' he)

def fkey (f : Gen.ZipFileData) : Gen.ZipFileData :=
  { f with crc32 := 0, compressed_size := 0, uncompressed_size := 0, data_start := 0 }

theorem setLast_fkey (l : List Gen.ZipFileData) (x y : Gen.ZipFileData) (hl : l.getLast? = some y)
    (hk : fkey x = fkey y) : (Rs.setLast l x).map fkey = l.map fkey := by
  unfold Rs.setLast
  have hr : l.reverse.head? = some y := by rw [List.head?_reverse]; exact hl
  cases hrev : l.reverse with
  | nil => rw [hrev] at hr; cases hr
  | cons z rest =>
    rw [hrev] at hr
    simp only [List.head?_cons, Option.some.injEq] at hr
    subst hr
    have : l = (z :: rest).reverse := by rw [← hrev, List.reverse_reverse]
    rw [this]
    simp only [List.reverse_cons, List.map_append, List.map_cons, List.map_nil, hk]

/-! ### simulation: refinement of the abstracted computation + a postcondition on the concrete values -/

def Sim {α α'} (φ : α → α') (P : α → Prop) (X : M α) (Y : M α') : Prop :=
  ∀ fa d, (X fa d).1 = .panic Rs.S.OVF ∨
    (erase (φ <$> X) fa d = erase Y fa d ∧ ∀ a d', X fa d = (.ok a, d') → P a)

theorem map_apply {α α'} (φ : α → α') (X : M α) (fa : Option Nat) (d : Dev) :
    (φ <$> X) fa d = (match (X fa d).1 with | .ok a => .ok (φ a) | .err e => .err e | .panic s => .panic s, (X fa d).2) := by
  simp only [map_eq_pure_bind, M.bind_apply]
  rcases X fa d with ⟨o, d'⟩
  cases o <;> rfl

theorem Sim.refines {α α'} {φ : α → α'} {P : α → Prop} {X : M α} {Y : M α'} (h : Sim φ P X Y) :
    Refines (φ <$> X) Y := by
  intro fa d
  rcases h fa d with h | ⟨h, _⟩
  · left; rw [map_apply, h]
  · right; exact h

theorem Sim.post {α α'} {φ : α → α'} {P : α → Prop} {X : M α} {Y : M α'} (h : Sim φ P X Y) : Post X P := by
  intro fa d a d' he
  rcases h fa d with h | ⟨_, h⟩
  · rw [he] at h; cases h
  · exact h a d' he

theorem Sim.leaf {α α'} {φ : α → α'} {P : α → Prop} {a : α} {b : α'} (hb : φ a = b) (hp : P a) :
    Sim φ P (pure a) (pure b) := by
  intro fa d
  right
  refine ⟨by subst hb; rfl, ?_⟩
  intro a' d' he
  cases he
  exact hp

theorem Sim.panic {α α'} {φ : α → α'} {P : α → Prop} (s s' : String) :
    Sim φ P (M.panic s : M α) (M.panic s' : M α') := by
  intro fa d
  right
  exact ⟨rfl, fun a d' he => by cases he⟩

theorem Sim.ovf {α α' β} {φ : α → α'} {P : α → Prop} (f : β → M α) (Y : M α') :
    Sim φ P (M.panic Rs.S.OVF >>= f) Y := fun fa d => Or.inl rfl

theorem Sim.mono {α α'} {φ : α → α'} {P P' : α → Prop} {X : M α} {Y : M α'} (h : Sim φ P X Y)
    (hp : ∀ a, P a → P' a) : Sim φ P' X Y := by
  intro fa d
  rcases h fa d with h | ⟨h1, h2⟩
  · exact Or.inl h
  · exact Or.inr ⟨h1, fun a d' he => hp a (h2 a d' he)⟩

theorem Sim.cast {α α'} {φ : α → α'} {P : α → Prop} {X X' : M α} {Y Y' : M α'} (hX : X = X') (hY : Y = Y')
    (h : Sim φ P X' Y') : Sim φ P X Y := hX ▸ hY ▸ h

/-- The bind of `Sim`, stated on ONE run (`fa`, `d`) so that the continuation may use what that run did: it is
compared on the device the first step left, for the value both sides returned there.  `Sim.bind` is its instance
for all runs. -/
theorem Sim.bind_run {α1 α1' α α'} {φ1 : α1 → α1'} {P1 : α1 → Prop} {φ : α → α'} {P : α → Prop}
    {X : M α1} {Y : M α1'} {F : α1 → M α} {G : α1' → M α'} {fa : Option Nat} {d : Dev}
    (hX : (X fa d).1 = .panic Rs.S.OVF ∨
      (erase (φ1 <$> X) fa d = erase Y fa d ∧ ∀ a d', X fa d = (.ok a, d') → P1 a))
    (hF : ∀ a d1, X fa d = (.ok a, d1) → Y fa d = (.ok (φ1 a), d1) → P1 a →
      (F a fa d1).1 = .panic Rs.S.OVF ∨
        (erase (φ <$> F a) fa d1 = erase (G (φ1 a)) fa d1 ∧ ∀ b d', F a fa d1 = (.ok b, d') → P b)) :
    ((X >>= F) fa d).1 = .panic Rs.S.OVF ∨
      (erase (φ <$> (X >>= F)) fa d = erase (Y >>= G) fa d ∧ ∀ b d', (X >>= F) fa d = (.ok b, d') → P b) := by
  rcases hX with h | ⟨h, hp⟩
  · exact .inl (bind_ovf F h)
  · rcases hxd : X fa d with ⟨o, d'⟩
    have hm : (φ1 <$> X) fa d = _ := map_apply φ1 X fa d
    rw [hxd] at hm
    rcases erase_eq h with e | ⟨s, s', d1, e1, e2⟩
    · rw [hm] at e
      cases o with
      | ok a =>
        rcases hF a d' hxd e.symm (hp a d' hxd) with h | ⟨h1, h2⟩
        · left; simp only [M.bind_apply, hxd]; exact h
        · right
          refine ⟨?_, fun b db he => h2 b db (by simpa only [M.bind_apply, hxd] using he)⟩
          simp only [erase, map_apply, M.bind_apply, hxd, ← e] at h1 ⊢; exact h1
      | err e' =>
        right
        refine ⟨by simp only [erase, map_apply, M.bind_apply, hxd, ← e], fun b db he => ?_⟩
        simp only [M.bind_apply, hxd] at he
        cases he
      | panic s =>
        right
        refine ⟨by simp only [erase, map_apply, M.bind_apply, hxd, ← e], fun b db he => ?_⟩
        simp only [M.bind_apply, hxd] at he
        cases he
    · rw [hm] at e1
      cases o with
      | ok a => cases e1
      | err e' => cases e1
      | panic s =>
        cases e1
        right
        refine ⟨by simp only [erase, map_apply, M.bind_apply, hxd, e2, eraseOut], fun b db he => ?_⟩
        simp only [M.bind_apply, hxd] at he
        cases he

theorem Sim.bind {α1 α1' α α'} {φ1 : α1 → α1'} {P1 : α1 → Prop} {φ : α → α'} {P : α → Prop}
    {X : M α1} {Y : M α1'} {F : α1 → M α} {G : α1' → M α'}
    (hX : Sim φ1 P1 X Y) (hF : ∀ a, P1 a → Sim φ P (F a) (G (φ1 a))) : Sim φ P (X >>= F) (Y >>= G) :=
  fun fa d => Sim.bind_run (hX fa d) fun a d1 _ _ h => hF a h fa d1

theorem Sim.of_refines {α α'} {φ : α → α'} {P : α → Prop} {X : M α} {Y : M α'} (h : Refines (φ <$> X) Y)
    (hP : Post X P) : Sim φ P X Y := by
  intro fa d
  rcases h fa d with h | h
  · left
    rw [map_apply] at h
    rcases hxd : X fa d with ⟨o, d'⟩
    rw [hxd] at h
    cases o with
    | ok a => cases h
    | err e => cases h
    | panic s => simp only [Out.panic.injEq] at h ⊢; exact h
  · exact .inr ⟨h, fun a d' he => hP fa d a d' he⟩

theorem Refines.bind_map_post {α α' β} (φ : α → α') (P : α → Prop) {X : M α} {Y : M α'}
    {F : α → M β} {G : α' → M β} (hX : Refines (φ <$> X) Y) (hP : Post X P)
    (hF : ∀ a, P a → Refines (F a) (G (φ a))) : Refines (X >>= F) (Y >>= G) := by
  have h := (Sim.bind (φ := fun b => b) (P := fun _ => True) (Sim.of_refines hX hP) fun a ha =>
    Sim.of_refines (by rw [id_map']; exact hF a ha) fun _ _ _ _ _ => trivial).refines
  rwa [id_map'] at h

theorem Sim.id_refl {α} (x : M α) : Sim (fun a : α => a) (fun _ => True) x x := by
  intro fa d
  right
  refine ⟨?_, fun _ _ _ => trivial⟩
  simp only [erase, map_apply]
  rcases x fa d with ⟨o, d'⟩
  cases o <;> rfl

theorem Sim.congr {β α α'} {φ : α → α'} {P : α → Prop} (x : M β) {f : β → M α} {g : β → M α'}
    (h : ∀ r, Sim φ P (f r) (g r)) : Sim φ P (x >>= f) (x >>= g) :=
  Sim.bind (Sim.id_refl x) (fun a _ => h a)

theorem refines_iff {α} {x y : M α} : Refines x y ↔ Sim (fun a => a) (fun _ => True) x y :=
  ⟨fun h => Sim.of_refines (by rwa [id_map']) fun _ _ _ _ _ => trivial,
    fun h => by have := h.refines; rwa [id_map'] at this⟩

theorem Refines.bind {α β} {x y : M α} {f g : α → M β} (hx : Refines x y) (hf : ∀ a, Refines (f a) (g a)) :
    Refines (x >>= f) (y >>= g) :=
  refines_iff.mpr (Sim.bind (refines_iff.mp hx) fun a _ => refines_iff.mp (hf a))

theorem Sim.actsG {α α'} {φ : α → α'} {P : α → Prop} (acts : List Rs.Act)
    {F : Except ZErr Unit → M α} {F' : Except ZErr Unit → M α'}
    (h : ∀ r, Sim φ P (F r) (F' r)) : Sim φ P (actsG acts F) (actsG acts F') := by
  induction acts with
  | nil => exact h _
  | cons a as ih =>
    cases a <;> simp only [WriterSM.actsG] <;> refine Sim.congr _ fun r => ?_ <;> cases r
    · exact h _
    · exact ih
    · exact h _
    · exact ih

theorem Refines.actsG {β : Type} (acts : List Rs.Act) {F F' : Except ZErr Unit → M β}
    (h : ∀ r, Refines (F r) (F' r)) : Refines (actsG acts F) (actsG acts F') :=
  refines_iff.mpr (Sim.actsG acts fun r => refines_iff.mp (h r))


theorem runW_nolog {σ α} (x : Rs.W Rs.Act α) (st : σ) (h : x.log = []) :
    (Rs.S.runW x st).toM = match x.res with
      | some (.ok a) => pure (.ok a)
      | some (.error e) => pure (.error (Rs.zerr e, st))
      | none => M.panic "rs2lean: checked operation" := by
  simp only [Rs.S.runW, h, Rs.S.replay]
  rfl

theorem runWB_nolog {σ α} (x : Rs.W Bytes α) (st : σ) (h : x.log = []) :
    (Rs.S.runWB x st).toM = match x.res with
      | some (.ok a) => pure (.ok a)
      | some (.error e) => pure (.error (Rs.zerr e, st))
      | none => M.panic "rs2lean: checked operation" := by
  simp only [Rs.S.runWB, h, M.writeChunks]
  rfl

theorem seek_attempt_bind {β} (n : Nat) (k : Except ZErr UInt64 → M β) :
    (M.attempt (Rs.R.seek (.start n)) >>= k) = (M.attempt (M.seek (.start n)) >>= fun r => match r with
      | .ok p => k (.ok (UInt64.ofNat p))
      | .error e => k (.error e)) := by
  simp only [Rs.R.seek, attempt_bind_bind]
  refine bind_congr fun r => ?_
  cases r <;> rfl

def absRn (r : Except ZErr UInt64 × Gen.ZipWriter) : Except ZErr Nat × WState := (r.1.map UInt64.toNat, absW r.2)

theorem ite_pure {m : Type → Type} [Monad m] {α} (c : Prop) [Decidable c] (a b : α) :
    (if c then (pure a : m α) else pure b) = pure (if c then a else b) := by split <;> rfl

/-! ### step rules: one construct at the head of a method against the model's corresponding step -/

theorem toM_bind_run {σ α β} (x : Rs.S σ (α × σ)) (K : Except (ZErr × σ) (α × σ) → M β) :
    (x.toM >>= K) = (Rs.S.run x >>= fun p => K (match p with
      | (.ok a, s) => .ok (a, s)
      | (.error e, s) => .error (e, s))) := by
  simp only [Rs.S.run, bind_assoc]
  refine bind_congr fun r => ?_
  cases r with
  | ok p => obtain ⟨a, s⟩ := p; simp only [pure_bind]
  | error p => obtain ⟨e, s⟩ := p; simp only [pure_bind]


theorem position_attempt_bind {β} (k : Except ZErr UInt64 → M β) :
    (M.attempt Rs.S.position >>= k) = (M.attempt M.streamPosition >>= fun r => match r with
      | .ok p => if p < 18446744073709551616 then k (.ok (UInt64.ofNat p)) else M.panic Rs.S.OVF
      | .error e => k (.error e)) := by
  simp only [Rs.S.position, attempt_bind_bind]
  refine bind_congr fun r => ?_
  cases r with
  | error e => rfl
  | ok p =>
    simp only []
    split
    · rfl
    · rfl


theorem Sim.ovf_panic {α α'} {φ : α → α'} {P : α → Prop} (Y : M α') : Sim φ P (M.panic Rs.S.OVF) Y :=
  fun fa d => Or.inl rfl


section
variable {σ α α' β β' : Type} {φ : Except ZErr β × σ → Except ZErr β' × WState} {P : Except ZErr β × σ → Prop}

theorem run_bind (x : Rs.S σ α) (k : α → Rs.S σ (β × σ)) :
    Rs.S.run (x >>= k) = x.toM >>= fun r => match r with
      | .ok a => Rs.S.run (k a)
      | .error (e, s) => pure (.error e, s) := by
  simp only [Rs.S.run, S.toM_bind, bind_assoc]
  refine bind_congr fun r => ?_
  cases r with
  | ok a => rfl
  | error p => rfl

theorem run_pure_bind (a : α) (k : α → Rs.S σ (β × σ)) : Rs.S.run (pure a >>= k) = Rs.S.run (k a) := by
  rw [run_bind]; rfl

theorem run_err_bind (e : Rs.ZipErr) (st : σ) (k : α → Rs.S σ (β × σ)) :
    Rs.S.run (Rs.S.err e st >>= k) = pure (.error (Rs.zerr e), st) := by
  rw [run_bind]; rfl

theorem Sim.io {m : M α} {st : σ} {s : WState} {k : α → Rs.S σ (β × σ)} {k' : α → M (Except ZErr β' × WState)}
    (hex : ∀ e, Sim φ P (pure (.error e, st)) (pure (.error e, s)))
    (hok : ∀ a, Sim φ P (Rs.S.run (k a)) (k' a)) :
    Sim φ P (Rs.S.run (Rs.S.io m st >>= k)) (Model.io s m k') := by
  rw [run_bind]
  simp only [Rs.S.io, S.toM_ofM, Model.io, bind_assoc]
  refine Sim.congr _ fun r => ?_
  cases r with
  | ok a => simp only [pure_bind]; exact hok a
  | error e => simp only [pure_bind]; exact hex e

theorem Sim.position {st : σ} {s : WState} {k : UInt64 → Rs.S σ (β × σ)} {k' : Nat → M (Except ZErr β' × WState)}
    (hex : ∀ e, Sim φ P (pure (.error e, st)) (pure (.error e, s)))
    (hok : ∀ p, p < 18446744073709551616 → Sim φ P (Rs.S.run (k (UInt64.ofNat p))) (k' p)) :
    Sim φ P (Rs.S.run (Rs.S.io Rs.S.position st >>= k)) (Model.io s M.streamPosition k') := by
  rw [run_bind]
  simp only [Rs.S.io, S.toM_ofM, Model.io, bind_assoc, position_attempt_bind]
  refine Sim.congr _ fun r => ?_
  cases r with
  | error e => simp only [pure_bind]; exact hex e
  | ok p =>
    by_cases hp : p < 18446744073709551616
    · simp only [hp, ↓reduceIte, pure_bind]; exact hok p hp
    · simp only [hp, ↓reduceIte, M.panic_bind]; exact Sim.ovf_panic _

theorem Sim.guard {c c' : Prop} [Decidable c] [Decidable c'] {e : Rs.ZipErr} {e' : ZErr} {st : σ} {s : WState}
    {k : Unit → Rs.S σ (β × σ)} {Y : M (Except ZErr β' × WState)} (hc : c ↔ c')
    (hex : Sim φ P (pure (.error (Rs.zerr e), st)) (pure (.error e', s)))
    (hok : ¬ c' → Sim φ P (Rs.S.run (k ())) Y) :
    Sim φ P (Rs.S.run ((if c then Rs.S.err e st else pure ()) >>= k)) (if c' then pure (.error e', s) else Y) := by
  by_cases h : c'
  · rw [if_pos h, if_pos (hc.mpr h), run_err_bind]; exact hex
  · rw [if_neg h, if_neg (mt hc.mp h), run_pure_bind]; exact hok h

theorem Sim.lift_some {o : Option α} {a : α} {st : σ} {k : α → Rs.S σ (β × σ)} {Y : M (Except ZErr β' × WState)}
    (ho : o = some a) (h : Sim φ P (Rs.S.run (k a)) Y) : Sim φ P (Rs.S.run (Rs.S.lift o st >>= k)) Y := by
  subst ho
  rw [show Rs.S.lift (some a) st = pure a from rfl, run_pure_bind]; exact h

theorem Sim.lift_none {o : Option α} {st : σ} {k : α → Rs.S σ (β × σ)} {site : String} (ho : o = none) :
    Sim φ P (Rs.S.run (Rs.S.lift o st >>= k)) (M.panic site : M (Except ZErr β' × WState)) := by
  subst ho
  rw [run_bind]; exact Sim.panic _ _

theorem Sim.ret {a : β} {st : σ} {b : Except ZErr β' × WState} (hb : φ (.ok a, st) = b) (hp : P (.ok a, st)) :
    Sim φ P (Rs.S.run (pure (a, st))) (pure b) :=
  Sim.leaf (a := (Except.ok a, st)) hb hp

theorem Sim.ite {c c' : Prop} [Decidable c] [Decidable c'] {A B : Rs.S σ (β × σ)} {Y1 Y2 : M (Except ZErr β' × WState)}
    (hc : c ↔ c') (ht : c' → Sim φ P (Rs.S.run A) Y1) (he : ¬ c' → Sim φ P (Rs.S.run B) Y2) :
    Sim φ P (Rs.S.run (if c then A else B)) (if c' then Y1 else Y2) := by
  by_cases h : c'
  · rw [if_pos h, if_pos (hc.mpr h)]; exact ht h
  · rw [if_neg h, if_neg (mt hc.mp h)]; exact he h

theorem Sim.call {φ1 : Except ZErr α × σ → Except ZErr α' × WState} {P1 : Except ZErr α × σ → Prop}
    {x : Rs.S σ (α × σ)} {Y : M (Except ZErr α' × WState)}
    {k : α × σ → Rs.S σ (β × σ)} {k' : Except ZErr α' × WState → M (Except ZErr β' × WState)}
    (hx : Sim φ1 P1 (Rs.S.run x) Y)
    (hex : ∀ e st, P1 (.error e, st) → Sim φ P (pure (.error e, st)) (k' (φ1 (.error e, st))))
    (hok : ∀ a st, P1 (.ok a, st) → Sim φ P (Rs.S.run (k (a, st))) (k' (φ1 (.ok a, st)))) :
    Sim φ P (Rs.S.run (x >>= k)) (Y >>= k') := by
  rw [run_bind, toM_bind_run]
  refine Sim.bind hx fun p hp => ?_
  obtain ⟨r, st⟩ := p
  cases r with
  | error e => exact hex e st hp
  | ok a => exact hok a st hp

/-- a `&mut self` method called without `?`: the caller goes on with its `Result` -/
theorem Sim.attempt {φ1 : Except ZErr α × σ → Except ZErr α' × WState} {P1 : Except ZErr α × σ → Prop}
    {x : Rs.S σ (α × σ)} {Y : M (Except ZErr α' × WState)}
    {k : Except ZErr α × σ → Rs.S σ (β × σ)} {k' : Except ZErr α' × WState → M (Except ZErr β' × WState)}
    (hx : Sim φ1 P1 (Rs.S.run x) Y) (hk : ∀ p, P1 p → Sim φ P (Rs.S.run (k p)) (k' (φ1 p))) :
    Sim φ P (Rs.S.run (Rs.S.attempt x >>= k)) (Y >>= k') := by
  rw [run_bind]
  simp only [Rs.S.attempt, S.toM_ofM, bind_assoc]
  rw [toM_bind_run]
  refine Sim.bind hx fun p hp => ?_
  obtain ⟨r, st⟩ := p
  cases r <;> simp only [pure_bind] <;> exact hk _ hp

/-- the model-side continuation of an `io` step that forwards errors goes under the step -/
theorem Sim.io_bind {γ : Type} {X : M (Except ZErr β × σ)} {s : WState} {m : M α} {k : α → M (Except ZErr γ × WState)}
    {g : Except ZErr γ × WState → M (Except ZErr β' × WState)} (hg : ∀ e, g (.error e, s) = pure (.error e, s))
    (h : Sim φ P X (Model.io s m fun a => k a >>= g)) : Sim φ P X (Model.io s m k >>= g) := by
  refine Sim.cast rfl ?_ h
  simp only [Model.io, bind_assoc]
  refine bind_congr fun r => ?_
  cases r with
  | ok a => rfl
  | error e => simp only [pure_bind, hg]

theorem Sim.pure_bind {a : α} {k : α → Rs.S σ (β × σ)} {Y : M (Except ZErr β' × WState)}
    (h : Sim φ P (Rs.S.run (k a)) Y) : Sim φ P (Rs.S.run (pure a >>= k)) Y := by
  rw [run_pure_bind]; exact h

theorem Sim.seek {n n' : Nat} {st : σ} {s : WState} {k : UInt64 → Rs.S σ (β × σ)} {k' : Nat → M (Except ZErr β' × WState)}
    (hn : n = n') (hex : ∀ e, Sim φ P (pure (.error e, st)) (pure (.error e, s)))
    (hok : ∀ p, Sim φ P (Rs.S.run (k (UInt64.ofNat p))) (k' p)) :
    Sim φ P (Rs.S.run (Rs.S.io (Rs.R.seek (.start n)) st >>= k)) (Model.io s (M.seek (.start n')) k') := by
  subst hn
  rw [run_bind]
  simp only [Rs.S.io, S.toM_ofM, Model.io, bind_assoc, seek_attempt_bind]
  refine Sim.congr _ fun r => ?_
  cases r with
  | ok a => simp only [pure_bind]; exact hok a
  | error e => simp only [pure_bind]; exact hex e

theorem Sim.switch_to {ext : Rs.S.Ext} {m : Gen.CompressionMethod} {l : Option Int32} {s : WState} {i0 : Inner}
    {k : Except ZErr Unit × Rs.S.Inner → Rs.S σ (β × σ)} {k' : Except ZErr Unit × WState → M (Except ZErr β' × WState)}
    (hi : s.inner = i0) (hok : ∀ r i, Sim φ P (Rs.S.run (k (r, i))) (k' (r, { s with inner := i }))) :
    Sim φ P (Rs.S.run (Rs.S.call (Rs.S.switch_to ext i0 m l) >>= k))
      (switchTo ext.toWExt (Tie.Types.methodOf m) (l.map Int32.toInt) s >>= k') := by
  subst hi
  rw [run_bind, switchTo_via]
  simp only [Rs.S.call, S.toM_ofM, bind_assoc, pure_bind]
  exact Sim.congr _ fun p => hok p.1 p.2

theorem Sim.ofResult_ok {a : α} {st : σ} {k : α → Rs.S σ (β × σ)} {Y : M (Except ZErr β' × WState)}
    (h : Sim φ P (Rs.S.run (k a)) Y) : Sim φ P (Rs.S.run (Rs.S.ofResult (.ok a) st >>= k)) Y :=
  Sim.pure_bind h

theorem Sim.ofResult_err {e : ZErr} {st : σ} {k : α → Rs.S σ (β × σ)} {Y : M (Except ZErr β' × WState)}
    (h : Sim φ P (pure (.error e, st)) Y) : Sim φ P (Rs.S.run (Rs.S.ofResult (.error e) st >>= k)) Y := by
  rw [run_bind]; exact h

/-- `let writer = self.inner.get_plain()` against the model's match on `inner` -/
theorem Sim.get_plain {i : Inner} {st : σ} {k : Unit → Rs.S σ (β × σ)} {Y : M (Except ZErr β' × WState)} {site : String}
    (h : i = .storer none → Sim φ P (Rs.S.run (k ())) Y) :
    Sim φ P (Rs.S.run (Rs.S.lift (Rs.S.get_plain i) st >>= k))
      (match (generalizing := false) i with
        | .storer none => Y
        | _ => M.panic site) := by
  rcases i with _ | (_ | _) | _
  · exact Sim.lift_none rfl
  · exact Sim.lift_some rfl (h rfl)
  · exact Sim.lift_none rfl
  · exact Sim.lift_none rfl

/-- `self.files.last().unwrap()` against the model's match on `files.getLast?` -/
theorem Sim.last {l : List Gen.ZipFileData} {st : σ} {k : Gen.ZipFileData → Rs.S σ (β × σ)}
    {Y : FileData → M (Except ZErr β' × WState)} {site : String}
    (h : ∀ f, l.getLast? = some f → Sim φ P (Rs.S.run (k f)) (Y (dataOf f))) :
    Sim φ P (Rs.S.run (Rs.S.lift (Rs.last l) st >>= k))
      (match (generalizing := false) (l.map dataOf).getLast? with
        | none => M.panic site
        | some f => Y f) := by
  rw [getLastOpt_map]
  cases hl : l.getLast? with
  | none => exact Sim.lift_none hl
  | some f => exact Sim.lift_some hl (h f hl)

/-- `let t = if c { a } else { b };` -/
theorem Sim.pure_ite {c : Prop} [Decidable c] {a b : α} {k : α → Rs.S σ (β × σ)} {Y : M (Except ZErr β' × WState)}
    (h : Sim φ P (Rs.S.run (k (if c then a else b))) Y) :
    Sim φ P (Rs.S.run ((if c then pure a else pure b) >>= k)) Y := by
  rw [ite_pure]; exact Sim.pure_bind h

/-- a checked operation (`some` exactly on `c`) against the model's explicit test for the panic -/
theorem Sim.lift_ite {o : Option α} {c c' : Prop} [Decidable c] [Decidable c'] {a : α} {st : σ} {k : α → Rs.S σ (β × σ)}
    {Y : M (Except ZErr β' × WState)} {site : String} (ho : o = if c then some a else none) (hc : c' ↔ ¬ c)
    (h : c → Sim φ P (Rs.S.run (k a)) Y) :
    Sim φ P (Rs.S.run (Rs.S.lift o st >>= k)) (if c' then M.panic site else Y) := by
  by_cases h1 : c
  · rw [if_pos h1] at ho; rw [if_neg (fun h2 => hc.mp h2 h1)]; exact Sim.lift_some ho (h h1)
  · rw [if_neg h1] at ho; rw [if_pos (hc.mpr h1)]; exact Sim.lift_none ho

/-- a translated validator (no output, result tied up to `zerrOf`) followed by `?` -/
theorem Sim.check {x : Rs.W Bytes Unit} {v : Except ZErr Unit} {st : σ} {s : WState} {k : Unit → Rs.S σ (β × σ)}
    {Y : M (Except ZErr β' × WState)}
    (hx : x.log = [] ∧ x.res.map (Except.mapError zerrOf) = some v)
    (hex : ∀ e, Sim φ P (pure (.error e, st)) (pure (.error e, s)))
    (hok : Sim φ P (Rs.S.run (k ())) Y) :
    Sim φ P (Rs.S.run (Rs.S.runWB x st >>= k))
      (match (generalizing := false) v with
        | .error e => pure (.error e, s)
        | .ok () => Y) := by
  obtain ⟨hlog, hres⟩ := hx
  rw [run_bind, WriterSM.runWB_nolog x st hlog]
  cases hr : x.res with
  | none => rw [hr] at hres; cases hres
  | some r =>
    rw [hr, Option.map_some, Option.some.injEq] at hres
    subst hres
    cases r with
    | ok a => exact hok
    | error e => simp only [pure_bind, zerr_eq]; exact hex _

end

theorem extra_len_tie (fm : FileData) (lf : Bool) (n : Nat) (h1 : fm.largeFile = lf) (h2 : fm.extraField.length = n)
    {L : Out UInt16} (hL : localExtraLen fm = L) :
    (∃ el, L = .ok el ∧ Rs.Arith.add (if lf = true then (20 : UInt16) else 0) (UInt16.ofNat n) = some el) ∨
    (∃ s, L = .panic s ∧ Rs.Arith.add (if lf = true then (20 : UInt16) else 0) (UInt16.ofNat n) = none) := by
  subst h1 h2 hL
  have base : (if fm.largeFile = true then (20 : UInt16) else 0).toNat = if fm.largeFile = true then 20 else 0 := by
    cases fm.largeFile <;> rfl
  simp only [localExtraLen, add_len_u16, base]
  by_cases h : (if fm.largeFile = true then 20 else 0) + fm.extraField.length % 65536 < 65536
  · exact .inl ⟨_, if_pos h, if_pos h⟩
  · exact .inr ⟨_, if_neg h, if_neg h⟩

theorem sim_end_extra_data_flag (ext : Rs.S.Ext) (g : Gen.ZipWriter)
    (hf : ∀ f, g.files.getLast? = some f →
      f.extra_field.length ≤ 9223372036854775807 ∧
      f.data_start.toNat + f.extra_field.length < 18446744073709551616 ∧
      f.header_start.toNat + 28 < 18446744073709551616) :
    Sim absRn (fun p => p.2.files.map fkey = g.files.map fkey ∧ ∀ ds, p.1 = .ok ds → p.2.writing_to_extra_field = false)
      (Rs.S.run (Gen.ZipWriter.end_extra_data ext g)) (endExtraData ext.toWExt (absW g)) := by
  unfold Gen.ZipWriter.end_extra_data endExtraData
  have out : ∀ e, Sim absRn (fun p : Except ZErr UInt64 × Gen.ZipWriter => p.2.files.map fkey = g.files.map fkey ∧
      ∀ ds, p.1 = .ok ds → p.2.writing_to_extra_field = false) (pure (.error e, g)) (pure (.error e, absW g)) :=
    fun e => Sim.leaf rfl ⟨rfl, fun _ h => nomatch h⟩
  refine Sim.guard Iff.rfl (out _) fun hx => ?_
  refine Sim.guard Iff.rfl (out _) fun hcl => ?_
  refine Sim.last fun f hl => ?_
  obtain ⟨hlen, hds, hhs⟩ := hf f hl
  refine Sim.check (tie_validate_extra_data f (dataOf f) (view_dataOf f) hlen) out ?_
  refine Sim.ite Iff.rfl (fun hco => ?_) (fun hco => ?_)
  · -- local (and central) extra data: appended to the local header, length back-patched
    refine Sim.get_plain fun hin => ?_
    obtain ⟨a1, b1⟩ := len_add f.data_start f.extra_field hds
    have e28 : (28 : UInt64).toNat = 28 := by decide
    obtain ⟨a2, b2⟩ := U64.add_some f.header_start 28 (by rw [e28]; exact hhs)
    rw [e28] at b2
    have c1 : f.data_start + UInt64.ofNat f.extra_field.length =
        UInt64.ofNat (f.data_start.toNat + f.extra_field.length) := by
      apply UInt64.toNat_inj.mp
      rw [b1, UInt64.toNat_ofNat']; omega
    -- every way out after the entry is patched
    have leaf : ∀ (r : Except ZErr UInt64) (r' : Except ZErr Nat) (i : Inner) (wx wc : Bool),
        r.map UInt64.toNat = r' → (∀ ds, r = .ok ds → wx = false) →
        Sim absRn (fun p => p.2.files.map fkey = g.files.map fkey ∧
            ∀ ds, p.1 = .ok ds → p.2.writing_to_extra_field = false)
          (pure (r, { g with
            inner := i, writing_to_extra_field := wx, writing_to_central_extra_field_only := wc,
            stats := { g.stats with start := f.data_start + UInt64.ofNat f.extra_field.length },
            files := Rs.setLast g.files { f with data_start := f.data_start + UInt64.ofNat f.extra_field.length } }))
          (pure (r', { absW g with
            inner := i, writingToExtraField := wx, centralOnly := wc,
            statsStart := f.data_start.toNat + f.extra_field.length,
            files := Model.setLast (g.files.map dataOf) { dataOf f with
              dataStart := UInt64.ofNat ((dataOf f).dataStart.toNat + (dataOf f).extraField.length) } })) := by
      intro r r' i wx wc hr hwx
      subst hr
      refine Sim.leaf ?_ ⟨setLast_fkey _ _ _ hl (by simp only [fkey]), hwx⟩
      simp only [absRn, absW, setLast_map, dataOf, b1]
      simp only [c1]
    have out1 := fun i e => leaf (.error e) (.error e) i g.writing_to_extra_field
      g.writing_to_central_extra_field_only rfl (fun _ h => nomatch h)
    refine Sim.io out fun _ => ?_
    refine Sim.lift_some a1 ?_
    refine Sim.pure_ite ?_
    dsimp only
    generalize hL : localExtraLen _ = L
    rcases extra_len_tie _ f.large_file f.extra_field.length rfl rfl hL with ⟨el, rfl, h2⟩ | ⟨z, rfl, h2⟩
    · refine Sim.lift_some (by rw [len_as_u16]; exact h2) ?_
      refine Sim.lift_some a2 ?_
      refine Sim.seek b2 (out1 _) fun _ => ?_
      refine Sim.io (out1 _) fun _ => ?_
      refine Sim.seek b1 (out1 _) fun _ => ?_
      refine Sim.switch_to rfl fun r i => ?_
      cases r with
      | error e => exact Sim.ofResult_err (out1 _ _)
      | ok u =>
        refine Sim.ofResult_ok ?_
        exact leaf (.ok _) _ _ _ _ (congrArg Except.ok b1) (fun _ _ => rfl)
    · exact Sim.lift_none (by rw [len_as_u16]; exact h2)
  · refine Sim.ret ?_ ⟨rfl, fun _ _ => rfl⟩
    simp only [absRn, absW, Except.map, UInt64.ofNat_toNat]
    rfl

theorem sim_end_extra_data (ext : Rs.S.Ext) (g : Gen.ZipWriter)
    (hf : ∀ f, g.files.getLast? = some f →
      f.extra_field.length ≤ 9223372036854775807 ∧
      f.data_start.toNat + f.extra_field.length < 18446744073709551616 ∧
      f.header_start.toNat + 28 < 18446744073709551616) :
    Sim absRn (fun p => p.2.files.map fkey = g.files.map fkey) (Rs.S.run (Gen.ZipWriter.end_extra_data ext g))
      (endExtraData ext.toWExt (absW g)) :=
  (sim_end_extra_data_flag ext g hf).mono fun _ h => h.1

/-- `end_extra_data`: a refinement (`Refines`: equal up to panic-site strings unless the translation stops with
`OVF`) of the model's `endExtraData` (validation verdict, the extra data appended to the local header, the length
back-patch at `header_start + 28`, `data_start` / `stats.start` moved, the switch to the entry's encoder, the two
flags) on every device and fault index, for a writer whose open entry satisfies the `u64` bounds `hf`. -/
theorem tie_end_extra_data (ext : Rs.S.Ext) (g : Gen.ZipWriter)
    (hf : ∀ f, g.files.getLast? = some f →
      f.extra_field.length ≤ 9223372036854775807 ∧
      f.data_start.toNat + f.extra_field.length < 18446744073709551616 ∧
      f.header_start.toNat + 28 < 18446744073709551616) :
    Refines (absRn <$> Rs.S.run (Gen.ZipWriter.end_extra_data ext g)) (endExtraData ext.toWExt (absW g)) :=
  (sim_end_extra_data ext g hf).refines

/-! ### `finish_file` -/

theorem attempt_panic_bind {α β} (s : String) (k : Except ZErr α → M β) :
    (M.attempt (M.panic s : M α) >>= k) = M.panic s := rfl

theorem setLast_setLast {α} (l : List α) (a b : α) : Rs.setLast (Rs.setLast l a) b = Rs.setLast l b := by
  unfold Rs.setLast
  cases h : l.reverse with
  | nil => simp only [List.reverse_nil]
  | cons x xs => simp only [List.reverse_reverse]

theorem msetLast_setLast (l : List FileData) (a b : FileData) : Model.setLast (Model.setLast l a) b = Model.setLast l b := by
  unfold Model.setLast
  cases h : l.reverse with
  | nil => simp only [List.reverse_nil]
  | cons x xs => simp only [List.reverse_reverse]

theorem sub_ofNat (p : Nat) (st : UInt64) (hp : p < 18446744073709551616) :
    Rs.Arith.sub (UInt64.ofNat p) st =
      if p < st.toNat then none else some (UInt64.ofNat (p - st.toNat)) := by
  have e := U64.toNat_ofNat hp
  simp only [Rs.Arith.sub, e]
  by_cases h : st.toNat ≤ p
  · have h' : ¬ p < st.toNat := by omega
    simp only [h, h', ↓reduceIte]
    refine congrArg some ?_
    apply UInt64.toNat_inj.mp
    rw [UInt64.toNat_sub_of_le _ _ (UInt64.le_iff_toNat_le.mpr (by rw [e]; exact h)), e, UInt64.toNat_ofNat']
    omega
  · have h' : p < st.toNat := by omega
    simp only [h, h', ↓reduceIte]

theorem sim_update_header {σ α β : Type} {φ : α → Except ZErr β × WState} {P : α → Prop}
    (file : Gen.ZipFileData) (gm : FileData) (hv : view file gm)
    (hpos : gm.headerStart.toNat + 34 + gm.fileName.length < 18446744073709551616)
    (st : σ) (s : WState) (K : Except (ZErr × σ) Unit → M α) (k : Unit → M (Except ZErr β × WState))
    (hok : Sim φ P (K (.ok ())) (k ()))
    (herr : ∀ e, Sim φ P (K (.error (e, st))) (pure (.error e, s))) :
    Sim φ P ((Rs.S.runW (Gen.update_local_file_header (ω := Rs.Act) file) st).toM >>= K)
      (updateLocalHeader s gm k) := by
  obtain ⟨acts, r, hX, hM⟩ := tie_update_local_file_header file gm hv hpos
  rw [hX, hM, ioActs_eq]
  simp only [Rs.S.runW, bind_assoc, attempt_replay, actsG_bind]
  apply Sim.actsG
  intro rr
  cases rr with
  | error e => simp only [pure_bind]; exact herr e
  | ok u =>
    cases r with
    | ok u' => simp only [pure_bind]; exact hok
    | error e => simp only [pure_bind, zerr_eq]; exact herr _

-- `after_enc g hf hx` closes the `Sim` goal for the tail of `finish_file` on the bare sink (`hf`: the `u64` bound of the open
-- entry, `hx : g.writing_to_extra_field = false`), called once, in `sim_finish_file`, after `ssimp` has opened `get_plain`.  It does not walk the source by step rules: both sides are
-- normalised by `ssimp` and compared I/O call by I/O call (`Sim.congr`), every return by `Sim.leaf`.
-- unhygienic: the names it introduces (`hwr0 hwr hl hhs hp hlt e64`) are plain names in the caller's context
set_option hygiene false in
/-- the part of `finish_file` after the encryption layer is finished (used twice) -/
macro "after_enc" g:ident hf:ident hx:term : tactic => `(tactic| (
  by_cases hwr0 : ($g).writing_raw = true
  rotate_left
  · have hwr : ($g).writing_raw = false := by simpa using hwr0
    cases hl : ($g).files.getLast? with
    | none =>
      ssimp [hwr, Rs.last, hl, getLastOpt_map, Option.map_none]
      refine Sim.leaf ?_ rfl
      simp only [absR, absW, $hx:term, hwr]
    | some f =>
      have hhs := $hf f hl
      ssimp [hwr, Rs.last, hl, getLastOpt_map, Option.map_some, Model.io, position_attempt_bind, setLast_setLast,
        msetLast_setLast, setLast_map, UInt64.ofNat_toNat]
      apply Sim.congr; intro r
      cases r with
      | error e =>
        ssimp []
        refine Sim.leaf ?_ (setLast_fkey _ _ _ hl (by simp only [fkey]))
        simp only [absR, absW, setLast_map, dataOf, $hx:term, hwr, UInt64.ofNat_toNat]
        try rfl
      | ok p =>
        by_cases hp : p < 18446744073709551616
        · by_cases hlt : p < ($g).stats.start.toNat
          · ssimp [hp, sub_ofNat p _ hp, hlt, Rs.S.okOr]
            refine Sim.leaf ?_ (setLast_fkey _ _ _ hl (by simp only [fkey]))
            simp only [absR, absW, setLast_map, dataOf, $hx:term, hwr, UInt64.ofNat_toNat]
            try rfl
          · have e64 : (UInt64.ofNat p).toNat = p := by simp only [UInt64.toNat_ofNat']; omega
            ssimp [hp, sub_ofNat p _ hp, hlt, Rs.S.okOr, seek_attempt_bind, e64]
            refine sim_update_header _ _ ?_ ?_ _ _ _ _ ?_ ?_
            · exact view_dataOf _
            · exact hhs
            · ssimp []
              apply Sim.congr; intro r
              cases r with
              | error e =>
                ssimp []
                refine Sim.leaf ?_ (setLast_fkey _ _ _ hl (by simp only [fkey]))
                simp only [absR, absW, setLast_map, dataOf, $hx:term, hwr, UInt64.ofNat_toNat]
                try rfl
              | ok q =>
                ssimp []
                refine Sim.leaf ?_ (setLast_fkey _ _ _ hl (by simp only [fkey]))
                simp only [absR, absW, setLast_map, dataOf, $hx:term, hwr, UInt64.ofNat_toNat]
                try rfl
            · intro e
              ssimp []
              refine Sim.leaf ?_ (setLast_fkey _ _ _ hl (by simp only [fkey]))
              simp only [absR, absW, setLast_map, dataOf, $hx:term, hwr, UInt64.ofNat_toNat]
              try rfl
        · ssimp [hp]
          exact Sim.ovf_panic _
  · have hwr : ($g).writing_raw = true := hwr0
    ssimp [hwr]
    refine Sim.leaf ?_ rfl
    simp only [absR, absW, $hx:term, hwr]))

section
variable {σ α α' β β' : Type} {φ : Except ZErr β × σ → Except ZErr β' × WState} {P : Except ZErr β × σ → Prop}

theorem Sim.spanic {st : σ} {k : α → Rs.S σ (β × σ)} {site : String} :
    Sim φ P (Rs.S.run ((Rs.S.panic st : Rs.S σ α) >>= k)) (M.panic site : M (Except ZErr β' × WState)) := by
  rw [run_bind]; exact Sim.panic _ _

theorem Sim.zc_finish {ext : Rs.S.Ext} {e : EncState} {crc : UInt32} {st : σ} {s : WState} {site : String}
    {k : Unit → Rs.S σ (β × σ)} {k' : Unit → M (Except ZErr β' × WState)}
    (hex : ∀ e, Sim φ P (pure (.error e, st)) (pure (.error e, s)))
    (hok : Sim φ P (Rs.S.run (k ())) (k' ())) :
    Sim φ P (Rs.S.run (Rs.S.io (Rs.S.zc_finish ext e crc) st >>= k))
      (if e.buffer.length < 12 then M.panic site else
        Model.io s (M.writeAll (ext.zcEncrypt e.pw (e.buffer.take 11 ++ [(crc >>> 24).toUInt8] ++ e.buffer.drop 12)))
          fun _ => Model.io s M.flush k') := by
  rw [run_bind]
  by_cases hb : e.buffer.length < 12
  · simp only [Rs.S.io, S.toM_ofM, Rs.S.zc_finish, hb, ↓reduceIte, attempt_panic_bind, M.panic_bind]
    exact Sim.panic _ _
  · simp only [Rs.S.io, S.toM_ofM, Rs.S.zc_finish, hb, ↓reduceIte, attempt_bind_bind, Model.io, bind_assoc]
    refine Sim.congr _ fun r => ?_
    cases r with
    | error er => simp only [pure_bind]; exact hex er
    | ok u1 =>
      simp only [bind_assoc]
      refine Sim.congr _ fun r => ?_
      cases r with
      | error er => simp only [pure_bind]; exact hex er
      | ok u2 => simp only [pure_bind]; exact hok

/-- an optional block in front of the translator's JOIN POINT `jp` (the rest of the method, entered from both branches) against
the model's `(if c' then Y1 else pure y0) >>= K`: the rest is compared ONCE, for every argument/value pair `Q` lets through -/
theorem Sim.ite_jp {γ ι : Type} {c c' : Prop} [Decidable c] [Decidable c'] {A : Rs.S σ (β × σ)} {jp : ι → Rs.S σ (β × σ)} {i0 : ι}
    {Y1 : M γ} {y0 : γ} {K : γ → M (Except ZErr β' × WState)} (Q : ι → γ → Prop) (hc : c ↔ c')
    (hjp : ∀ i y, Q i y → Sim φ P (Rs.S.run (jp i)) (K y))
    (ht : c' → (∀ i y, Q i y → Sim φ P (Rs.S.run (jp i)) (K y)) → Sim φ P (Rs.S.run A) (Y1 >>= K))
    (h0 : ¬ c' → Q i0 y0) :
    Sim φ P (Rs.S.run (if c then A else jp i0)) ((if c' then Y1 else pure y0) >>= K) := by
  rw [M.ite_bind]
  exact Sim.ite hc (fun h => ht h hjp) fun h => Sim.cast rfl (LawfulMonad.pure_bind _ _) (hjp _ _ (h0 h))
end

theorem sim_finish_file (ext : Rs.S.Ext) (g : Gen.ZipWriter)
    (hf : ∀ f, g.files.getLast? = some f →
      f.extra_field.length ≤ 9223372036854775807 ∧
      f.data_start.toNat + f.extra_field.length < 18446744073709551616 ∧
      f.header_start.toNat + 34 + f.file_name.length < 18446744073709551616) :
    Sim absR (fun p => p.2.files.map fkey = g.files.map fkey) (Rs.S.run (Gen.ZipWriter.finish_file ext g))
      (finishFile ext.toWExt (absW g)) := by
  unfold Gen.ZipWriter.finish_file finishFile
  extract_lets self done tailG mainG afterEnc
  refine Sim.ite_jp (fun g' y => y = (.ok (), absW g') ∧ g'.writing_to_extra_field = false ∧
      g'.files.map fkey = g.files.map fkey) Iff.rfl ?jp (fun hx hjp => ?_) fun hx => ⟨rfl, (Bool.not_eq_true _).mp hx, rfl⟩
  case jp =>
    rintro g' _ ⟨rfl, hx', hfr⟩
    -- the frame keeps `header_start` and `file_name` of the open entry
    have hf' : ∀ f, g'.files.getLast? = some f →
        f.header_start.toNat + 34 + f.file_name.length < 18446744073709551616 := by
      intro f2 h2
      have h3 : (g'.files.map fkey).getLast? = some (fkey f2) := by rw [List.getLast?_map, h2]; rfl
      rw [hfr, List.getLast?_map] at h3
      cases h4 : g.files.getLast? with
      | none => rw [h4] at h3; cases h3
      | some f =>
        rw [h4] at h3
        simp only [Option.map_some, Option.some.injEq] at h3
        have e1 : f.header_start = f2.header_start :=
          show (fkey f).header_start = (fkey f2).header_start from congrArg _ h3
        have e2 : f.file_name = f2.file_name :=
          show (fkey f).file_name = (fkey f2).file_name from congrArg _ h3
        rw [← e1, ← e2]; exact (hf f h4).2.2
    refine Sim.mono (P := fun p => p.2.files.map fkey = g'.files.map fkey) ?_ fun a h => h.trans hfr
    -- the translator's second join point, after the encryption layer is finished, on the bare sink
    have tail : Sim absR (fun p => p.2.files.map fkey = g'.files.map fkey)
        (Rs.S.run (tailG () { g' with inner := .storer none })) (afterEnc { absW g' with inner := .storer none }) := by
      simp only [tailG, afterEnc, done]
      ssimp [hx', absW, Rs.S.get_plain]
      after_enc g' hf' hx'
    simp only [mainG]
    refine Sim.switch_to rfl fun r i => ?_
    cases r with
    | error e => exact Sim.ofResult_err (Sim.leaf rfl rfl)
    | ok u =>
      refine Sim.ofResult_ok ?_
      cases i with
      | closed => exact Sim.spanic
      | compressor m l enc pending => exact Sim.spanic
      | storer enc =>
        cases enc with
        | none => exact tail
        | some e => exact Sim.zc_finish (fun er => Sim.leaf rfl rfl) tail
  · -- the implicit `end_extra_data`, then the join point on the writer it left
    rw [bind_assoc]
    refine Sim.call (sim_end_extra_data_flag ext g fun f h => ⟨(hf f h).1, (hf f h).2.1, by have := (hf f h).2.2; omega⟩)
      (fun e st hp => Sim.cast rfl (pure_bind _ _) (Sim.leaf rfl hp.1)) fun ds g2 hp => ?_
    rw [pure_bind]
    exact hjp g2 _ ⟨rfl, hp.2 ds rfl, hp.1⟩

/-- `finish_file`: a refinement of the model's `finishFile` (the implicit `end_extra_data`, the switch back to
`Stored`, the ZipCrypto finish, the early return without entries, crc / sizes from the statistics and
`file_end - stats.start` (checked), the header back-patch, the seek back, the two flags). -/
theorem tie_finish_file (ext : Rs.S.Ext) (g : Gen.ZipWriter)
    (hf : ∀ f, g.files.getLast? = some f →
      f.extra_field.length ≤ 9223372036854775807 ∧
      f.data_start.toNat + f.extra_field.length < 18446744073709551616 ∧
      f.header_start.toNat + 34 + f.file_name.length < 18446744073709551616) :
    Refines (absR <$> Rs.S.run (Gen.ZipWriter.finish_file ext g)) (finishFile ext.toWExt (absW g)) :=
  (sim_finish_file ext g hf).refines

/-! ### `finalize`, `finish`, `Drop::drop` -/

theorem runWB_ok {σ α} (a : α) (l : List Bytes) (st : σ) :
    (Rs.S.runWB ⟨some (.ok a), l⟩ st).toM = (M.attempt (M.writeChunks l) >>= fun r => match r with
      | .error e => pure (.error (e, st))
      | .ok _ => pure (.ok a)) := rfl

theorem runWB_err {σ α} (e : Rs.ZipErr) (st : σ) :
    (Rs.S.runWB (⟨some (.error e), []⟩ : Rs.W Bytes α) st).toM = pure (.error (zerrOf e, st)) := by
  simp only [Rs.S.runWB, M.writeChunks, zerr_eq]
  rfl

/-- `write_central_directory_header` as a whole value (outcome AND what was written): on `Err` nothing was
handed to the sink.  `hnp`: the serialiser does not panic (the entry's time is a DOS time). -/
theorem wcdh_full (f : Gen.ZipFileData) (hlen : f.extra_field.length ≤ 9223372036854775807)
    (hnp : ∀ s, centralHeaderChunks (dataOf f) ≠ .panic s) :
    (∃ l, centralHeaderChunks (dataOf f) = .ok l ∧
        Gen.write_central_directory_header (ω := Bytes) f = ⟨some (.ok ()), l⟩) ∨
    (centralHeaderChunks (dataOf f) = .err .invalidArchive ∧
        Gen.write_central_directory_header (ω := Bytes) f = ⟨some (.error .InvalidArchive), []⟩) := by
  have h := view_dataOf f
  have hl : (dataOf f).extraField.length ≤ 9223372036854775807 := hlen
  have tie := tie_write_central_directory_header f (dataOf f) h hl
  by_cases hov : (centralZip64Bytes (dataOf f)).length + (dataOf f).extraField.length < 65536
  · left
    cases hc : centralHeaderChunks (dataOf f) with
    | panic s => exact absurd hc (hnp s)
    | err e =>
      exfalso
      unfold centralHeaderChunks at hc
      have hov' : ¬ (centralZip64Bytes (dataOf f)).length + (dataOf f).extraField.length > 65535 := by omega
      simp only [hov', ↓reduceIte] at hc
      unfold datepartOut at hc
      cases hd : (dataOf f).time.datepart <;> rw [hd] at hc <;> cases hc
    | ok l =>
      exact ⟨l, rfl, chunks_ok (by rw [tie, hc]; rfl)⟩
  · right
    have hov' : (centralZip64Bytes (dataOf f)).length + (dataOf f).extraField.length > 65535 := by omega
    refine ⟨?_, ?_⟩
    · unfold centralHeaderChunks
      simp only [hov', ↓reduceIte]
    · have hbuf := intoBuf_central (ω := Bytes) f (dataOf f) h
      have hzl := centralZip64Bytes_length (dataOf f)
      have hlt : (centralZip64Bytes (dataOf f)).length + (dataOf f).extraField.length < 18446744073709551616 := by omega
      obtain ⟨hv, hvm, he, ht, hcrc, hn, hx, hlf, hdd⟩ := h
      unfold Gen.write_central_directory_header
      simp only [hbuf, hx]
      wsimp [add_elen _ _ hzl hl, tryInto_u16 _ hlt, hov, hov', Rs.mapErr, Rs.W.ofExcept]

theorem central_loop (st : Gen.ZipWriter) (s : WState) : ∀ (fs : List Gen.ZipFileData),
    (∀ f, f ∈ fs → f.extra_field.length ≤ 9223372036854775807 ∧ ∀ z, centralHeaderChunks (dataOf f) ≠ .panic z) →
    (Rs.S.forEach fs (fun file => do
          let t5 ← Rs.S.runWB (Gen.write_central_directory_header (ω := Bytes) file) st
          pure ())).toM =
      (finalize.writeAllCentral s (fs.map dataOf) >>= fun p => match p.1 with
        | .ok _ => pure (.ok ())
        | .error e => pure (.error (e, st))) := by
  intro fs
  induction fs with
  | nil =>
    intro _
    unfold finalize.writeAllCentral Rs.S.forEach
    rfl
  | cons f rest ih =>
    intro h
    obtain ⟨hlen, hnp⟩ := h f (List.mem_cons_self)
    have ih' := ih (fun f' hf' => h f' (List.mem_cons_of_mem _ hf'))
    rw [List.map_cons]
    unfold finalize.writeAllCentral Rs.S.forEach
    rcases wcdh_full f hlen hnp with ⟨l, hc, hg⟩ | ⟨hc, hg⟩
    · rw [hc, hg]
      ssimp [runWB_ok, Model.io, ih']
      refine bind_congr fun r => ?_
      cases r <;> ssimp []
    · rw [hc, hg]
      ssimp [runWB_err, zerrOf]

theorem wac_state (s : WState) : ∀ (fs : List FileData),
    finalize.writeAllCentral s fs = (finalize.writeAllCentral s fs >>= fun p => pure (p.1, s)) := by
  intro fs
  induction fs with
  | nil => unfold finalize.writeAllCentral; rfl
  | cons f rest ih =>
    unfold finalize.writeAllCentral
    cases centralHeaderChunks f with
    | panic z => rfl
    | err e => rfl
    | ok l =>
      simp only [Model.io, bind_assoc]
      refine bind_congr fun r => ?_
      cases r with
      | error e => rfl
      | ok u => exact ih

theorem chc_nopanic (g : FileData) (h : g.time.datepart ≠ none) : ∀ z, centralHeaderChunks g ≠ .panic z := by
  intro z hc
  unfold centralHeaderChunks datepartOut at hc
  cases hd : g.time.datepart with
  | none => exact h hd
  | some d =>
    rw [hd] at hc
    simp only [] at hc
    split at hc <;> cases hc

def FileOK (f : Gen.ZipFileData) : Prop :=
  f.extra_field.length ≤ 9223372036854775807 ∧ (dataOf f).time.datepart ≠ none

theorem fileOK_fkey (f f' : Gen.ZipFileData) (h : fkey f = fkey f') (hf : FileOK f) : FileOK f' := by
  have e1 : f.extra_field = f'.extra_field := show (fkey f).extra_field = (fkey f').extra_field from congrArg _ h
  have e2 : f.last_modified_time = f'.last_modified_time :=
    show (fkey f).last_modified_time = (fkey f').last_modified_time from congrArg _ h
  unfold FileOK at *
  simp only [dataOf] at *
  rw [← e1, ← e2]; exact hf

theorem allOK_frame (l l' : List Gen.ZipFileData) (h : l'.map fkey = l.map fkey)
    (hl : ∀ f, f ∈ l → FileOK f) : ∀ f, f ∈ l' → FileOK f := by
  intro f' hf'
  have : fkey f' ∈ l.map fkey := by rw [← h]; exact List.mem_map_of_mem hf'
  obtain ⟨f, hf, he⟩ := List.mem_map.mp this
  exact fileOK_fkey f f' he (hl f hf)

theorem vlen_gt {α} (l : List α) (h : l.length < 18446744073709551616) :
    (Rs.vlen l > Gen.ZIP64_ENTRY_THR) ↔ l.length > ZIP64_ENTRY_THR := by
  have e : Gen.ZIP64_ENTRY_THR.toNat = 65535 := by decide
  rw [gt_iff_lt, UInt64.lt_iff_toNat_lt, e, Rs.vlen, U64.toNat_ofNat h]
  rfl

theorem gt_thr_ofNat (n : Nat) (h : n < 18446744073709551616) :
    (UInt64.ofNat n > Gen.ZIP64_BYTES_THR) ↔ n > 4294967295 := by
  rw [gt_thr, U64.toNat_ofNat h]

theorem min32_ofNat (n : Nat) (h : n < 18446744073709551616) :
    Rs.as' UInt32 (min (UInt64.ofNat n) Gen.ZIP64_BYTES_THR) = UInt32.ofNat (min n 4294967295) := by
  have e : Gen.ZIP64_BYTES_THR = UInt64.ofNat 4294967295 := by decide
  rw [e, U64.min_ofNat h (by omega)]
  apply UInt32.toNat_inj.mp
  simp only [Rs.as', Rs.As.cast, UInt64.toNat_toUInt32, UInt64.toNat_ofNat', UInt32.toNat_ofNat']
  omega

theorem nf_ofNat {α} (l : List α) (h : l.length < 18446744073709551616) :
    Rs.as' UInt16 (min (Rs.vlen l) Gen.ZIP64_ENTRY_THR) = UInt16.ofNat (min l.length ZIP64_ENTRY_THR) := by
  have e : Gen.ZIP64_ENTRY_THR = UInt64.ofNat 65535 := by decide
  have e' : ZIP64_ENTRY_THR = 65535 := rfl
  rw [e, e', Rs.vlen, U64.min_ofNat h (by omega)]
  apply UInt16.toNat_inj.mp
  simp only [Rs.as', Rs.As.cast, UInt64.toNat_toUInt16, UInt64.toNat_ofNat', UInt16.toNat_ofNat']
  omega

section
variable {σ α β β' : Type} {φ : Except ZErr β × σ → Except ZErr β' × WState} {P : Except ZErr β × σ → Prop}

theorem Sim.runWB {x : Rs.W Bytes α} {a : α} {l l' : List Bytes} {st : σ} {s : WState}
    {k : α → Rs.S σ (β × σ)} {k' : Unit → M (Except ZErr β' × WState)} (hx : x = ⟨some (.ok a), l'⟩) (hl : l' = l)
    (hex : ∀ e, Sim φ P (pure (.error e, st)) (pure (.error e, s)))
    (hok : Sim φ P (Rs.S.run (k a)) (k' ())) :
    Sim φ P (Rs.S.run (Rs.S.runWB x st >>= k)) (Model.io s (M.writeChunks l) k') := by
  subst hx hl
  rw [run_bind, runWB_ok]
  simp only [Model.io, bind_assoc]
  refine Sim.congr _ fun r => ?_
  cases r with
  | ok u => simp only [pure_bind]; exact hok
  | error e => simp only [pure_bind]; exact hex e

theorem Sim.central {φ : Except ZErr β × Gen.ZipWriter → Except ZErr β' × WState} {P : Except ZErr β × Gen.ZipWriter → Prop}
    {st : Gen.ZipWriter} {s : WState} {fs : List Gen.ZipFileData}
    {k : Unit → Rs.S Gen.ZipWriter (β × Gen.ZipWriter)} {k' : Except ZErr Unit × WState → M (Except ZErr β' × WState)}
    (hfs : ∀ f, f ∈ fs → FileOK f)
    (hex : ∀ e, Sim φ P (pure (.error e, st)) (k' (.error e, s)))
    (hok : Sim φ P (Rs.S.run (k ())) (k' (.ok (), s))) :
    Sim φ P (Rs.S.run (Rs.S.forEach fs (fun file => do
          let t5 ← Rs.S.runWB (Gen.write_central_directory_header (ω := Bytes) file) st
          pure ()) >>= k))
      (finalize.writeAllCentral s (fs.map dataOf) >>= k') := by
  rw [run_bind, central_loop st s fs fun f hf => ⟨(hfs f hf).1, chc_nopanic _ (hfs f hf).2⟩, wac_state]
  simp only [bind_assoc, pure_bind]
  refine Sim.congr _ fun p => ?_
  obtain ⟨r, s'⟩ := p
  cases r with
  | ok u => exact hok
  | error e => exact hex e

end

theorem sim_finalize (ext : Rs.S.Ext) (g : Gen.ZipWriter)
    (hf : ∀ f, g.files.getLast? = some f →
      f.extra_field.length ≤ 9223372036854775807 ∧
      f.data_start.toNat + f.extra_field.length < 18446744073709551616 ∧
      f.header_start.toNat + 34 + f.file_name.length < 18446744073709551616)
    (hall : ∀ f, f ∈ g.files → FileOK f)
    (hn : g.files.length < 18446744073709551616) (hc : g.comment.length < 18446744073709551616) :
    Sim absR (fun p => p.2.files.map fkey = g.files.map fkey) (Rs.S.run (Gen.ZipWriter.finalize ext g))
      (Model.finalize ext.toWExt (absW g)) := by
  unfold Gen.ZipWriter.finalize Model.finalize
  refine Sim.guard (by rw [len_gt_u16 g.comment hc]; exact decide_eq_true_iff) (Sim.leaf rfl rfl) fun _ => ?_
  refine Sim.call (sim_finish_file ext g hf) (fun e st hp => Sim.leaf rfl hp) fun u g2 hp => ?_
  have hp : g2.files.map fkey = g.files.map fkey := hp
  have hall2 := allOK_frame g.files g2.files hp hall
  have hn2 : g2.files.length < 18446744073709551616 := by
    have := congrArg List.length hp
    simp only [List.length_map] at this
    omega
  -- `self` is not assigned again: every way out from here on leaves `g2`
  have out : ∀ e, Sim absR (fun p : Except ZErr Unit × Gen.ZipWriter => p.2.files.map fkey = g.files.map fkey)
      (pure (.error e, g2)) (pure (.error e, absW g2)) := fun e => Sim.leaf rfl hp
  refine Sim.get_plain fun _ => ?_
  refine Sim.position out fun p hp64 => ?_
  refine Sim.central hall2 out ?_
  refine Sim.position out fun q hq64 => ?_
  refine Sim.lift_ite (U64.sub_ofNat hq64 hp64) Nat.not_le.symm fun hle => ?_
  have hcond : ((decide (Rs.vlen g2.files > Gen.ZIP64_ENTRY_THR) ||
      decide (max (UInt64.ofNat (q - p)) (UInt64.ofNat p) > Gen.ZIP64_BYTES_THR)) = true) ↔
      ((decide ((g2.files.map dataOf).length > ZIP64_ENTRY_THR) || decide (max (q - p) p > 4294967295)) = true) := by
    rw [U64.max_ofNat (by omega) hp64, List.length_map, Bool.or_eq_true, Bool.or_eq_true, decide_eq_true_iff,
      decide_eq_true_iff, decide_eq_true_iff, decide_eq_true_iff, vlen_gt _ hn2, gt_thr_ofNat _ (by omega)]
  rw [M.ite_bind]
  refine Sim.ite hcond (fun _ => ?z64) (fun _ => ?_)
  case' z64 =>
    refine Sim.io_bind (fun _ => rfl) ?_
    refine Sim.runWB (tie_eocd64_write _) (congrArg eocd64Chunks ?_) out ?_
    · dsimp only [absW]; rw [List.length_map]; rfl
    refine Sim.lift_some ((U64.add_ofNat hp64 (by omega)).trans (if_pos (by omega))) ?_
    refine Sim.io_bind (fun _ => rfl) ?_
    refine Sim.runWB (tie_locator_write _) rfl out ?_
  -- the end record, after either branch (the translator's join point)
  all_goals
    rw [pure_bind]
    refine Sim.runWB (tie_eocd_write _) (congrArg eocdChunks ?_) out (Sim.ret rfl hp)
    simp only [eocdOf, nf_ofNat _ hn2, min32_ofNat _ hp64, min32_ofNat (q - p) (by omega), absW, List.length_map]

theorem sim_finish (ext : Rs.S.Ext) (g : Gen.ZipWriter)
    (hf : ∀ f, g.files.getLast? = some f →
      f.extra_field.length ≤ 9223372036854775807 ∧
      f.data_start.toNat + f.extra_field.length < 18446744073709551616 ∧
      f.header_start.toNat + 34 + f.file_name.length < 18446744073709551616)
    (hall : ∀ f, f ∈ g.files → FileOK f)
    (hn : g.files.length < 18446744073709551616) (hc : g.comment.length < 18446744073709551616) :
    Sim absR (fun p => p.2.files.map fkey = g.files.map fkey) (Rs.S.run (Gen.ZipWriter.finish ext g))
      (Model.finish ext.toWExt (absW g)) := by
  unfold Gen.ZipWriter.finish Model.finish
  refine Sim.call (sim_finalize ext g hf hall hn hc) (fun e st hp => Sim.leaf rfl hp) fun u g2 hp => ?_
  refine Sim.get_plain fun _ => ?_
  exact Sim.ret rfl hp

/-- `Drop::drop` proper (the destructors of the fields that run afterwards are `Model.dropInner`) -/
def dropBody (ext : WExt) : Step Unit := fun s => do
  if s.inner.isClosed then pure (.ok (), s) else
  let (_, s) ← Model.finalize ext s
  pure (.ok (), s)

theorem dropWriter_eq (ext : WExt) (s : WState) :
    dropWriter ext s = (dropBody ext s >>= fun p => dropInner ext p.2) := by
  unfold dropWriter dropBody
  cases h : s.inner.isClosed
  · simp only [Bool.false_eq_true, ↓reduceIte, bind_assoc, pure_bind]
  · simp only [↓reduceIte, pure_bind]
    cases hi : s.inner with
    | closed => simp only [dropInner, hi]
    | storer e => rw [hi] at h; cases h
    | compressor m l e p => rw [hi] at h; cases h

theorem sim_drop (ext : Rs.S.Ext) (g : Gen.ZipWriter)
    (hf : ∀ f, g.files.getLast? = some f →
      f.extra_field.length ≤ 9223372036854775807 ∧
      f.data_start.toNat + f.extra_field.length < 18446744073709551616 ∧
      f.header_start.toNat + 34 + f.file_name.length < 18446744073709551616)
    (hall : ∀ f, f ∈ g.files → FileOK f)
    (hn : g.files.length < 18446744073709551616) (hc : g.comment.length < 18446744073709551616) :
    Sim absR (fun p => p.2.files.map fkey = g.files.map fkey) (Rs.S.run (Gen.ZipWriter.drop ext g))
      (dropBody ext.toWExt (absW g)) := by
  unfold Gen.ZipWriter.drop dropBody
  rw [← ite_not]
  refine Sim.ite (by show ¬ (!g.inner.isClosed) = true ↔ g.inner.isClosed = true; cases g.inner.isClosed <;> decide)
    (fun _ => Sim.ret rfl rfl) fun _ => ?_
  refine Sim.attempt (sim_finalize ext g hf hall hn hc) fun p hp => ?_
  obtain ⟨r, g2⟩ := p
  cases r <;> exact Sim.ret rfl hp


/-! ### `start_entry`, `start_file`, `set_comment` / `set_raw_comment` -/

/-- the model's options of a generated `FileOptions` value (a `ZipCryptoKeys` value is represented by its password) -/
def optOf (o : Gen.FileOptions) : FileOptions :=
  { method := Tie.Types.methodOf o.compression_method, level := o.compression_level.map Int32.toInt,
    time := Tie.DateTime.toModel o.last_modified_time, permissions := o.permissions,
    largeFile := o.large_file, encryptWith := o.encrypt_with }

def rawOf (r : Gen.ZipRawValues) : UInt32 × UInt64 × UInt64 := (r.crc32, r.compressed_size, r.uncompressed_size)

theorem lhc_nopanic (gm : FileData) (h1 : gm.time.datepart ≠ none) (h2 : gm.extraField = []) :
    ∀ z, localHeaderChunks gm ≠ .panic z := by
  intro z hc
  unfold localHeaderChunks datepartOut localExtraLen at hc
  rw [h2] at hc
  cases hd : gm.time.datepart with
  | none => exact h1 hd
  | some d =>
    rw [hd] at hc
    cases hl : gm.largeFile <;> rw [hl] at hc <;> simp only [List.length_nil] at hc <;> cases hc

theorem lhc_ok (gm : FileData) (h1 : gm.time.datepart ≠ none) (h2 : gm.extraField = []) :
    ∃ l, localHeaderChunks gm = .ok l := by
  cases hc : localHeaderChunks gm with
  | ok l => exact ⟨l, rfl⟩
  | panic z => exact absurd hc (lhc_nopanic gm h1 h2 z)
  | err e =>
    exfalso
    unfold localHeaderChunks datepartOut localExtraLen at hc
    cases hd : gm.time.datepart <;> rw [hd] at hc <;> try cases hc
    simp only [] at hc
    split at hc <;> (split at hc <;> cases hc)

theorem lhc_run (file : Gen.ZipFileData) (gm : FileData) (hv : view file gm) {l : List Bytes}
    (hl : localHeaderChunks gm = .ok l) : Gen.write_local_file_header (ω := Bytes) file = ⟨some (.ok ()), l⟩ :=
  chunks_ok (by rw [tie_write_local_file_header file gm hv, hl]; rfl)

theorem shl16 (x : UInt32) : Rs.Arith.shl x 16 = some (x <<< 16) := rfl

/-- closes the postcondition of `sim_start_entry` at a `return`: nothing to show at an `Err`; after `Ok(())` the
entry just pushed is there and `bytes_written = 0` -/
syntax "pstart" : tactic
macro_rules
  | `(tactic| pstart) => `(tactic| first
      | (intro h; cases h; done)
      | (intro _; exact ⟨by simp only [Rs.push, ne_eq, List.append_eq_nil_iff, List.cons_ne_self, and_false,
            not_false_eq_true, reduceCtorEq], rfl⟩))

theorem sim_start_entry (ext : Rs.S.Ext) (g : Gen.ZipWriter) (name : Bytes) (o : Gen.FileOptions)
    (raw : Option Gen.ZipRawValues)
    (hf : ∀ f, g.files.getLast? = some f →
      f.extra_field.length ≤ 9223372036854775807 ∧
      f.data_start.toNat + f.extra_field.length < 18446744073709551616 ∧
      f.header_start.toNat + 34 + f.file_name.length < 18446744073709551616)
    (hname : name.length < 18446744073709551616)
    (htime : (Tie.DateTime.toModel o.last_modified_time).datepart ≠ none) :
    Sim absR (fun p => p.1 = .ok () → p.2.files ≠ [] ∧ p.2.stats.bytes_written = 0)
      (Rs.S.run (Gen.ZipWriter.start_entry ext g name o raw))
      (startEntry ext.toWExt name (optOf o) (raw.map rawOf) (absW g)) := by
  unfold Gen.ZipWriter.start_entry startEntry
  refine Sim.guard (by rw [len_gt_u16 name hname]; exact decide_eq_true_iff) (Sim.leaf rfl (by pstart)) fun _ => ?_
  refine Sim.call (sim_finish_file ext g hf) (fun e st _ => Sim.leaf rfl (by pstart)) fun u g2 _ => ?_
  have out : ∀ e, Sim absR (fun p : Except ZErr Unit × Gen.ZipWriter => p.1 = .ok () → p.2.files ≠ [] ∧ p.2.stats.bytes_written = 0)
      (pure (.error e, g2)) (pure (.error e, absW g2)) := fun e => Sim.leaf rfl (by pstart)
  refine Sim.get_plain fun hin => ?_
  refine Sim.position out fun p hp64 => ?_
  refine Sim.lift_some (shl16 _) ?_
  dsimp only
  generalize hL : localHeaderChunks _ = L
  obtain ⟨l, rfl⟩ : ∃ l, L = .ok l := hL ▸ lhc_ok _ htime rfl
  refine Sim.runWB (lhc_run _ _ (by cases raw <;> exact view_dataOf _) hL) rfl out ?_
  refine Sim.position out fun q hq64 => ?_
  rw [show (optOf o).encryptWith = o.encrypt_with from rfl]
  cases henc : o.encrypt_with with
  | none =>
    refine Sim.ret ?_ ?_
    · cases raw <;>
        simp only [absR, absW, Rs.push, List.map_append, List.map_cons, List.map_nil, dataOf,
          U64.toNat_ofNat hq64, Option.getD, Option.map, rawOf, Rs.Hasher.new, henc, optOf] <;> rfl
    · pstart
  | some pw =>
    refine Sim.lift_some (by rw [hin]; rfl) ?_
    refine Sim.ret ?_ ?_
    · cases raw <;>
        simp only [absR, absW, Rs.push, List.map_append, List.map_cons, List.map_nil, dataOf,
          U64.toNat_ofNat hq64, Option.getD, Option.map, rawOf, Rs.Hasher.new, henc, Rs.S.zc_write,
          Rs.zeros, List.nil_append, optOf] <;> rfl
    · pstart

open Rs in
theorem S.lift_some_bind {σ α β} (a : α) (st : σ) (f : α → Rs.S σ β) : (Rs.S.lift (some a) st >>= f) = f a := by
  show Rs.S.ofM (Rs.S.toM (pure a : Rs.S σ α) >>= _) = f a
  simp only [S.toM_pure, pure_bind]

theorem sim_start_file (ext : Rs.S.Ext) (g : Gen.ZipWriter) (name : Bytes) (o : Gen.FileOptions)
    (hf : ∀ f, g.files.getLast? = some f →
      f.extra_field.length ≤ 9223372036854775807 ∧
      f.data_start.toNat + f.extra_field.length < 18446744073709551616 ∧
      f.header_start.toNat + 34 + f.file_name.length < 18446744073709551616)
    (hname : name.length < 18446744073709551616)
    (htime : (Tie.DateTime.toModel o.last_modified_time).datepart ≠ none) :
    Sim absR (fun _ => True) (Rs.S.run (Gen.ZipWriter.start_file ext g name o))
      (startFile ext.toWExt name (optOf o) (absW g)) := by
  unfold Gen.ZipWriter.start_file startFile
  simp only [withFilePerm, show (optOf o).permissions = o.permissions from rfl]
  cases hp : o.permissions
  all_goals
    refine Sim.lift_some rfl ?_
    refine Sim.call (sim_start_entry ext g name _ none hf hname htime) (fun e st _ => Sim.leaf rfl trivial)
      fun u g2 _ => ?_
    refine Sim.switch_to rfl fun r i => ?_
    cases r with
    | error e => exact Sim.ofResult_err (Sim.leaf rfl trivial)
    | ok u2 => exact Sim.ofResult_ok (Sim.ret rfl trivial)

theorem tie_set_raw_comment (ext : Rs.S.Ext) (g : Gen.ZipWriter) (c : Bytes) :
    Rs.S.run (Gen.ZipWriter.set_raw_comment ext g c) = pure (.ok (), { g with comment := c }) := by
  unfold Gen.ZipWriter.set_raw_comment
  ssimp []

theorem tie_set_comment (ext : Rs.S.Ext) (g : Gen.ZipWriter) (c : Bytes) :
    Rs.S.run (Gen.ZipWriter.set_comment ext g c) = pure (.ok (), { g with comment := c }) := by
  unfold Gen.ZipWriter.set_comment Gen.ZipWriter.set_raw_comment
  ssimp []


/-! ### `start_file_with_extra_data`, `end_local_start_central_extra_data` -/

theorem sim_start_file_with_extra_data (ext : Rs.S.Ext) (g : Gen.ZipWriter) (name : Bytes) (o : Gen.FileOptions)
    (hf : ∀ f, g.files.getLast? = some f →
      f.extra_field.length ≤ 9223372036854775807 ∧
      f.data_start.toNat + f.extra_field.length < 18446744073709551616 ∧
      f.header_start.toNat + 34 + f.file_name.length < 18446744073709551616)
    (hname : name.length < 18446744073709551616)
    (htime : (Tie.DateTime.toModel o.last_modified_time).datepart ≠ none) :
    Sim absRn (fun _ => True) (Rs.S.run (Gen.ZipWriter.start_file_with_extra_data ext g name o))
      (startFileWithExtraData ext.toWExt name (optOf o) (absW g)) := by
  unfold Gen.ZipWriter.start_file_with_extra_data startFileWithExtraData
  simp only [withFilePerm, show (optOf o).permissions = o.permissions from rfl]
  cases hp : o.permissions
  all_goals
    refine Sim.lift_some rfl ?_
    refine Sim.call (sim_start_entry ext g name _ none hf hname htime) (fun e st _ => Sim.leaf rfl trivial)
      fun u g2 _ => ?_
    exact Sim.last fun f _ => Sim.ret rfl trivial

theorem sim_end_local_start_central (ext : Rs.S.Ext) (g : Gen.ZipWriter)
    (hf : ∀ f, g.files.getLast? = some f →
      f.extra_field.length ≤ 9223372036854775807 ∧
      f.data_start.toNat + f.extra_field.length < 18446744073709551616 ∧
      f.header_start.toNat + 28 < 18446744073709551616) :
    Sim absRn (fun _ => True) (Rs.S.run (Gen.ZipWriter.end_local_start_central_extra_data ext g))
      (endLocalStartCentral ext.toWExt (absW g)) := by
  unfold Gen.ZipWriter.end_local_start_central_extra_data endLocalStartCentral
  refine Sim.call (sim_end_extra_data ext g hf) (fun e st _ => Sim.leaf rfl trivial) fun ds g2 _ => ?_
  refine Sim.last fun f _ => Sim.ret ?_ trivial
  simp only [absRn, absW, Except.map, setLast_map, dataOf]


/-! ### `add_directory` -/

open Rs in
theorem S.pure_bind_s {σ α β} (a : α) (f : α → Rs.S σ β) : ((pure a : Rs.S σ α) >>= f) = f a := by
  show Rs.S.ofM (Rs.S.toM (pure a : Rs.S σ α) >>= _) = f a
  simp only [S.toM_pure, pure_bind]

theorem sim_add_directory (ext : Rs.S.Ext) (g : Gen.ZipWriter) (name : Bytes) (o : Gen.FileOptions)
    (hf : ∀ f, g.files.getLast? = some f →
      f.extra_field.length ≤ 9223372036854775807 ∧
      f.data_start.toNat + f.extra_field.length < 18446744073709551616 ∧
      f.header_start.toNat + 34 + f.file_name.length < 18446744073709551616)
    (hname : name.length + 1 < 18446744073709551616)
    (htime : (Tie.DateTime.toModel o.last_modified_time).datepart ≠ none) :
    Sim absR (fun _ => True) (Rs.S.run (Gen.ZipWriter.add_directory ext g name o))
      (addDirectory ext.toWExt name (optOf o) (absW g)) := by
  unfold Gen.ZipWriter.add_directory addDirectory
  simp only [withFilePerm, show (optOf o).permissions = o.permissions from rfl]
  have hn1 : (name ++ [0x2f]).length = name.length + 1 := by
    simp only [List.length_append, List.length_cons, List.length_nil]
  cases hp : o.permissions
  all_goals
    refine Sim.lift_some rfl ?_
    rw [show Rs.lastByte name = name.getLast? from rfl]
    split
    case' h_1 h => rw [h]
    case' h_2 h => rw [h]
    case' h_3 h1 h2 =>
      split
      · next h => exact absurd h (h1 ·)
      · next h => exact absurd h (h2 ·)
    -- the three ways to the name with its `/` go on alike
    all_goals
      refine Sim.pure_bind ?_
      refine Sim.call (sim_start_entry ext g _ _ none hf (by omega) htime) (fun e st _ => Sim.leaf rfl trivial)
        fun u g2 _ => ?_
      exact Sim.ret rfl trivial


/-! ### `self.write_all(..)`, `add_symlink` -/

/-- an equation tie `erase (φ <$> X) = erase (ψ <$> Y)` as a simulation for any abstraction `χ` that agrees with it on
what the model can return (`Q`); the postcondition is the model's -/
theorem Sim.of_erase_map {α α' γ} {X : M α} {Y : M γ} {φ : α → α'} {ψ : γ → α'} {χ : α → γ} {Q : γ → Prop}
    (h : erase (φ <$> X) = erase (ψ <$> Y)) (hY : Post Y Q) (hχ : ∀ a c, Q c → φ a = ψ c → χ a = c) :
    Sim χ (fun a => Q (χ a)) X Y := by
  intro fa d
  right
  have h2 := congrFun (congrFun h fa) d
  simp only [erase, map_apply] at h2 ⊢
  rcases hx : X fa d with ⟨ox, dx⟩
  rcases hy : Y fa d with ⟨oy, dy⟩
  rw [hx, hy] at h2
  obtain ⟨h3, h4⟩ := Prod.mk.inj h2
  dsimp only at h4 ⊢
  subst h4
  cases ox <;> cases oy <;> simp only [eraseOut, reduceCtorEq, Out.ok.injEq, Out.err.injEq] at h3
  · rename_i a c
    have hq := hY fa d c dx hy
    have e := hχ a c hq h3
    exact ⟨by rw [← e], fun a' d' he => by cases he; rw [e]; exact hq⟩
  · exact ⟨by rw [← h3], fun a' d' he => by cases he⟩
  · exact ⟨rfl, fun a' d' he => by cases he⟩

theorem Sim.of_erase {α α'} {φ : α → α'} {X : M α} {Y : M α'} (h : erase (φ <$> X) = erase Y) :
    Sim φ (fun a => ∃ fa d d', Y fa d = (.ok (φ a), d')) X Y :=
  Sim.of_erase_map (ψ := fun c => c) (χ := φ) (Q := fun c => ∃ fa d d', Y fa d = (.ok c, d')) (by rw [id_map']; exact h)
    (fun fa d c d' h => ⟨fa, d, d', h⟩) fun _ _ _ h => h

theorem Sim.post_of_model {α α'} {φ : α → α'} {P : α → Prop} {Q : α' → Prop} {X : M α} {Y : M α'}
    (h : Sim φ P X Y) (hY : Post Y Q) : Sim φ (fun a => P a ∧ Q (φ a)) X Y := by
  intro fa d
  rcases h fa d with h | ⟨he, hp⟩
  · exact Or.inl h
  · right
    refine ⟨he, fun a d' hx => ⟨hp a d' hx, ?_⟩⟩
    simp only [erase, map_apply, hx] at he
    rcases hy : Y fa d with ⟨o, dy⟩
    rw [hy] at he
    simp only [Prod.mk.injEq] at he
    obtain ⟨h3, h4⟩ := he
    cases o with
    | ok b =>
      simp only [eraseOut, Out.ok.injEq] at h3
      subst h3
      exact hY fa d _ dy hy
    | err e => simp only [eraseOut] at h3; cases h3
    | panic s => simp only [eraseOut] at h3; cases h3

theorem Post.liftP {α} {Q : α → Prop} {o : Except String α} (h : ∀ a, o = .ok a → Q a) :
    Post (GW.liftP o : M α) Q :=
  fun _ _ a _ he => h a (GW.liftP_ok_inv he)

/-- what `account` leaves of the state -/
theorem accountP_post {t : Bytes} {s0 s' : WState} {r : Except ZErr Nat} (h : GW.accountP t s0 = .ok (r, s')) :
    s'.files = s0.files ∧ s'.writingToFile = s0.writingToFile ∧ s'.statsBytes = s0.statsBytes + t.length ∧
      ∀ n, r = .ok n → n = t.length := by
  unfold GW.accountP at h
  dsimp only at h
  split at h
  · cases h
  · split at h <;> cases h
    · exact ⟨rfl, rfl, rfl, fun n hn => by cases hn⟩
    · exact ⟨rfl, rfl, rfl, fun n hn => by cases hn; rfl⟩

theorem gw_write_post (acc : Bytes → Nat) (hle : ∀ b, acc b ≤ b.length) (buf : Bytes) (s : WState) :
    Post (GW.write acc buf s : M _) (fun r => (s.files ≠ [] → r.2.files ≠ []) ∧
      r.2.writingToFile = s.writingToFile ∧
      ∀ n, r.1 = .ok n → n ≤ buf.length ∧ r.2.statsBytes + (buf.length - n) ≤ s.statsBytes + buf.length) := by
  have hacct : ∀ {t : Bytes} {s0 s' : WState} {r : Except ZErr Nat}, GW.accountP t s0 = .ok (r, s') →
      t.length ≤ buf.length → s0.files = s.files → s0.writingToFile = s.writingToFile →
      s0.statsBytes = s.statsBytes → (s.files ≠ [] → s'.files ≠ []) ∧ s'.writingToFile = s.writingToFile ∧
        ∀ n, r = .ok n → n ≤ buf.length ∧ s'.statsBytes + (buf.length - n) ≤ s.statsBytes + buf.length := by
    intro t s0 s' r h ht h1 h2 h3
    obtain ⟨e1, e2, e3, e4⟩ := accountP_post h
    refine ⟨fun hne => by rw [e1, h1]; exact hne, by rw [e2, h2], fun k hk => ?_⟩
    have := e4 k hk
    omega
  rw [GW.write_eq]
  split
  · unfold GW.io
    refine Post.bind fun r => ?_
    cases r with
    | error e => exact Post.pure ⟨id, rfl, fun n h => by cases h⟩
    | ok n => exact Post.liftP fun r h => hacct h (List.length_take_le' n buf) rfl rfl rfl
  · refine Post.liftP fun r h => ?_
    unfold GW.writeP at h
    split at h
    · cases h; exact ⟨id, rfl, fun n h => by cases h⟩
    split at h
    · cases h; exact ⟨id, rfl, fun n h => by cases h⟩
    split at h
    · split at h <;> cases h
      exact ⟨fun hne => setLast_ne_nil hne, rfl, fun n hn => by cases hn; exact ⟨Nat.le_refl _, by simp⟩⟩
    · refine hacct h ?_ rfl rfl rfl
      unfold GW.taken
      split
      · exact List.length_take_le' _ buf
      · exact Nat.le_refl _

/-- one `write` call in `Sim` form (the count through `toNat`, as for every method that returns a `u64`), with the
model's postcondition -/
theorem sim_write (ext : Rs.S.Ext) (g : Gen.ZipWriter) (buf : Bytes) (hb : buf ≠ [])
    (hlen : buf.length < 9223372036854775808)
    (hbytes : g.stats.bytes_written.toNat + buf.length < 18446744073709551616)
    (hinv : g.writing_to_file = true → g.files ≠ []) :
    Sim absRn (fun p => ((absW g).files ≠ [] → (absRn p).2.files ≠ []) ∧
        (absRn p).2.writingToFile = (absW g).writingToFile ∧
        ∀ n, (absRn p).1 = .ok n → n ≤ buf.length ∧
          (absRn p).2.statsBytes + (buf.length - n) ≤ (absW g).statsBytes + buf.length)
      (Rs.S.run (Gen.ZipWriter.write ext g buf)) (GW.write ext.accept buf (absW g) : M _) := by
  refine Sim.of_erase_map (tie_write_acc ext g buf hb hlen hbytes hinv)
    (gw_write_post ext.accept ext.accept_le buf (absW g)) ?_
  rintro ⟨r, g'⟩ ⟨r', s'⟩ hq he
  obtain ⟨h1, h2⟩ := Prod.mk.inj he
  cases r' with
  | error e => cases r <;> cases h1; exact Prod.ext rfl h2
  | ok n =>
    cases r <;> cases h1
    have := (hq.2.2 n rfl).1
    exact Prod.ext (congrArg Except.ok (U64.toNat_ofNat (by omega))) h2

theorem sim_write_all_gw (ext : Rs.S.Ext) : ∀ (fuel : Nat) (g : Gen.ZipWriter) (buf : Bytes),
    buf.length < 9223372036854775808 →
    g.stats.bytes_written.toNat + buf.length < 18446744073709551616 →
    (g.writing_to_file = true → g.files ≠ []) →
    Sim absR (fun _ => True) (Rs.S.run (Rs.S.write_all (Gen.ZipWriter.write ext) fuel g buf))
      (GW.writeAllLoop ext.accept fuel buf (absW g) : M _) := by
  intro fuel
  induction fuel with
  | zero => exact fun g buf _ _ _ => Sim.panic _ _
  | succ fuel ih =>
    intro g buf hlen hbytes hinv
    unfold Rs.S.write_all GW.writeAllLoop
    refine Sim.ite Iff.rfl (fun _ => Sim.ret rfl trivial) fun hne => ?_
    refine Sim.call (sim_write ext g buf (by cases buf <;> simp_all) hlen hbytes hinv)
      (fun e st _ => Sim.leaf rfl trivial) fun n g' hp => ?_
    obtain ⟨hfl, hwf, hcnt⟩ := hp
    obtain ⟨hn, hb⟩ := hcnt n.toNat rfl
    have hb : g'.stats.bytes_written.toNat + (buf.length - n.toNat) ≤ g.stats.bytes_written.toNat + buf.length := hb
    have e0 : (0 : UInt64).toNat = 0 := by decide
    refine Sim.ite (by rw [beq_iff_eq, ← UInt64.toNat_inj, e0]) (fun _ => Sim.leaf rfl trivial) fun hn0 => ?_
    rw [show Rs.sliceFrom buf n = some (buf.drop n.toNat) by simp only [Rs.sliceFrom, hn, ↓reduceIte]]
    refine ih g' _ (by rw [List.length_drop]; omega) ?_ fun hw hnil => ?_
    · rw [List.length_drop]; omega
    · refine hfl ?_ (congrArg (List.map dataOf) hnil)
      exact fun h => hinv (hwf.symm.trans hw) (List.map_eq_nil_iff.mp h)

theorem sim_write_all (ext : Rs.S.Ext) (g : Gen.ZipWriter) (buf : Bytes)
    (hlen : buf.length < 9223372036854775808)
    (hbytes : g.stats.bytes_written.toNat + buf.length < 18446744073709551616)
    (hinv : g.writing_to_file = true → g.files ≠ [])
    (hacc : ∀ b, ext.accept b = b.length) :
    Sim absR (fun _ => True)
      (Rs.S.run (Rs.S.write_all (Gen.ZipWriter.write ext) (buf.length + 1) g buf))
      (writeData buf (absW g)) := by
  have h := sim_write_all_gw ext (buf.length + 1) g buf hlen hbytes hinv
  rwa [funext hacc, GW.writeAllLoop_of_whole _ _ _ rfl] at h

/-- `add_symlink` from the tie of `start_entry` (with what it guarantees of the writer it leaves, `Q`) and the tie
of the `write_all` of the target on such a writer: the permission default, the forced `Stored`, the flag around
the write. -/
theorem sim_add_symlink_of (ext : Rs.S.Ext) (g : Gen.ZipWriter) (name target : Bytes) (o : Gen.FileOptions)
    (Q : Gen.ZipWriter → Prop)
    (hse : ∀ o' : Gen.FileOptions, o'.last_modified_time = o.last_modified_time →
      Sim absR (fun p => p.1 = .ok () → Q p.2) (Rs.S.run (Gen.ZipWriter.start_entry ext g name o' none))
        (startEntry ext.toWExt name (optOf o') (Option.map rawOf none) (absW g)))
    (hw : ∀ g2, Q g2 → Sim absR (fun _ => True)
      (Rs.S.run (Rs.S.write_all (Gen.ZipWriter.write ext) (target.length + 1) { g2 with writing_to_file := true } target))
      (writeData target (absW { g2 with writing_to_file := true }))) :
    Sim absR (fun _ => True) (Rs.S.run (Gen.ZipWriter.add_symlink ext g name target o))
      (addSymlink ext.toWExt name target (optOf o) (absW g)) := by
  unfold Gen.ZipWriter.add_symlink addSymlink
  simp only [withFilePerm, show (optOf o).permissions = o.permissions from rfl]
  cases hp : o.permissions
  all_goals
    refine Sim.lift_some rfl ?_
    refine Sim.call (hse _ rfl) (fun e st _ => Sim.leaf rfl trivial) fun u g2 hq => ?_
    refine Sim.call (hw g2 (hq rfl)) (fun e st _ => Sim.leaf rfl trivial) fun u2 g3 _ => Sim.ret rfl trivial

theorem target_fits (g2 : Gen.ZipWriter) (target : Bytes) (hb0 : g2.stats.bytes_written = 0)
    (htarget : target.length < 9223372036854775808) :
    g2.stats.bytes_written.toNat + target.length < 18446744073709551616 := by
  have e0 : (0 : UInt64).toNat = 0 := by decide
  rw [hb0, e0]; omega

theorem sim_add_symlink (ext : Rs.S.Ext) (g : Gen.ZipWriter) (name target : Bytes) (o : Gen.FileOptions)
    (hf : ∀ f, g.files.getLast? = some f →
      f.extra_field.length ≤ 9223372036854775807 ∧
      f.data_start.toNat + f.extra_field.length < 18446744073709551616 ∧
      f.header_start.toNat + 34 + f.file_name.length < 18446744073709551616)
    (hname : name.length < 18446744073709551616)
    (htarget : target.length < 9223372036854775808)
    (htime : (Tie.DateTime.toModel o.last_modified_time).datepart ≠ none)
    (hacc : ∀ b, ext.accept b = b.length) :
    Sim absR (fun _ => True) (Rs.S.run (Gen.ZipWriter.add_symlink ext g name target o))
      (addSymlink ext.toWExt name target (optOf o) (absW g)) :=
  sim_add_symlink_of ext g name target o (fun g2 => g2.files ≠ [] ∧ g2.stats.bytes_written = 0)
    (fun o' ht => sim_start_entry ext g name o' none hf hname (by rw [ht]; exact htime))
    (fun g2 h => sim_write_all ext { g2 with writing_to_file := true } target htarget
      (target_fits g2 target h.2 htarget) (fun _ => h.1) hacc)

end ZipVerif.Tie.WriterSM
