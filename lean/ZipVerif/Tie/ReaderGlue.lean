import ZipVerif.Gen.Read
import ZipVerif.Model.Reader
import ZipVerif.Tie.Parsers
import ZipVerif.Lemmas.ReaderTotal
import ZipVerif.Lemmas.ReaderBounds

/-
Tie obligations for the READER GLUE of src/read.rs (translator tier T6; vocabulary in
`Basic/RsM.lean` + `Basic/RsGlue.lean`).

`central_header_to_zip_file`, `ZipArchive::new`, `find_content` and `make_crypto_reader`, each as an equation between
`M` computations (same I/O calls in the same order, same outcome, same final device), on top of the parser ties of
`Tie/Parsers.lean`.

`ZipArchive::new` is tied to `Model.openArchiveAlloc`, whose value is the archive AND the capacity handed to
`Vec::with_capacity` and `HashMap::with_capacity` (`Model.fileCapacity`); `allocRes` adds to it the name → index map as
the loop builds it (`namesMapOf`: insertion in order).  Two facts about the model alone connect this to what the
properties use: `openArchive_eq_alloc` (`openArchive` is the first component) and `namesMapOf_get` (`names_map.get(name)`
is `Archive.indexOfName`: a later duplicate overwrites an earlier one); `tie_zip_archive_new_open` is the tie read
through the first.  `make_crypto_reader` is tied to `runChoice` of the model's decision `cryptoChoice`, for EVERY
behaviour `ext` of the external layer constructors, and `byIndexRead_eq_choice` shows the model's `by_index*` to be
that decision followed by the layers.

Hypotheses: `tie_zip_archive_new` and `tie_zip_archive_new_open` are pointwise, at a device `d` with
`d.buf.length < 2^64` (from `tie_eocd_find_and_parse`); the other ties have none.  The bound `tie_get_directory_counts`
wants on the archive comment is proved, not assumed (`findAndParseEocd_comment_len`, Lemmas/ReaderBounds.lean).

Assumptions that enter the trusted base with this file (`Basic/RsGlue.lean`): `Vec::with_capacity(n)` /
`HashMap::with_capacity(n)` request `n` elements and `push` / `insert` never change what was REQUESTED (growth by
`push` is bounded by the number of pushed elements, which the loop theorems of C05 bound); `HashMap<String, usize>`
is a finite map: `insert` of an existing key replaces its value, `get` returns the value stored last; `Arc::new`
is the identity on values; `for _ in 0..n` runs `n` times.  `find_content`: an `AtomicU64::store` through a shared
reference is reported as part of the function's value (`Rs.Stores`) and dropped when the function fails.
`make_crypto_reader`: `ZipCryptoReader::new(..).validate(..)` / `AesReader::new(..).validate(..)` are uninterpreted
`M`-computations with a Boolean verdict (`Rs.ReadExt`); a validated layer is the record of its constructor's arguments.
-/
set_option linter.unusedSimpArgs false
set_option linter.unusedSectionVars false
set_option linter.unusedVariables false

namespace ZipVerif.Tie.ReaderGlue
open ZipVerif ZipVerif.Model ZipVerif.Tie.SpecRecords ZipVerif.Tie.Records ZipVerif.Tie.Parsers

/-! ### `central_header_to_zip_file` -/

/-- `central_header_start` is stored as `u64`: the model's `Nat` position only enters through `UInt64.ofNat`. -/
theorem centralHeaderInner_ofNat (ao p : Nat) :
    centralHeaderInner ao (UInt64.ofNat p).toNat = centralHeaderInner ao p := by
  unfold centralHeaderInner
  rw [UInt64.ofNat_toNat]

/-- `stream_position`, the signature check, then the translated inner parser (`tie_central_header_inner`). -/
theorem tie_central_header (ao : UInt64) :
    dataOf <$> Gen.central_header_to_zip_file ao = Model.centralHeader ao.toNat := by
  unfold Gen.central_header_to_zip_file Model.centralHeader
  msimp
  refine bind_congr fun p => bind_congr fun sig => guard_congr fun _ => ?_
  rw [← centralHeaderInner_ofNat, ← tie_central_header_inner]
  msimp

/-! ### `ZipArchive::new` -/

/-- `names_map` after inserting the names of `files` (indices counted from `i`) in order. -/
def insertNames (m : Rs.HashMap Bytes UInt64) : Nat → List FileData → Rs.HashMap Bytes UInt64
  | _, [] => m
  | i, f :: r => insertNames (m.insert f.fileName (UInt64.ofNat i)) (i + 1) r

/-- The name → index map `ZipArchive::new` builds for a list of entries, created with capacity `cap`. -/
def namesMapOf (files : List FileData) (cap : Nat) : Rs.HashMap Bytes UInt64 :=
  insertNames (Rs.HashMap.with_capacity (UInt64.ofNat cap)) 0 files

/-- The value of the translated function as the model states it: the archive, the requested capacity of the
entry vector, and the name map. -/
def archRes (z : Gen.ZipArchive) : Archive × Nat × Rs.HashMap Bytes UInt64 :=
  (⟨z.shared.files.items.map dataOf, z.shared.offset.toNat, z.shared.comment⟩,
   z.shared.files.reserved.toNat, z.shared.names_map)

/-- The model's result with the name map the code builds from it. -/
def allocRes (r : Archive × Nat) : Archive × Nat × Rs.HashMap Bytes UInt64 :=
  (r.1, r.2, namesMapOf r.1.files r.2)

theorem R.forN_succ {σ : Type} (body : UInt64 → σ → M σ) (n : Nat) (i : UInt64) (s : σ) :
    Rs.R.forN body (n + 1) i s = (body i s >>= fun s' => Rs.R.forN body n (i + 1) s') := rfl

/-- The `for _ in 0..number_of_files` of `ZipArchive::new` against `readCentralLoop`, from any vector (with its requested
capacity) and name map the loop may have reached. -/
theorem new_loop (ao : UInt64) : ∀ (n : Nat) (i : UInt64) (nm : Rs.HashMap Bytes UInt64)
    (fs : Rs.Vec Gen.ZipFileData),
    (Rs.R.forN (Gen.ZipArchive.new.loop1_body ao) n i (nm, fs) >>= fun st =>
      (pure (st.2.items.map dataOf, st.2.reserved, st.1) : M _)) =
    (readCentralLoop ao.toNat n >>= fun rest =>
      pure (fs.items.map dataOf ++ rest, fs.reserved, insertNames nm fs.items.length rest)) := by
  intro n
  induction n with
  | zero =>
    intro i nm fs
    simp only [Rs.R.forN, readCentralLoop, pure_bind, List.append_nil, insertNames]
  | succ n ih =>
    intro i nm fs
    rw [R.forN_succ]
    have hb : Gen.ZipArchive.new.loop1_body ao i (nm, fs) =
        (Gen.central_header_to_zip_file ao >>= fun t6 =>
          pure (Rs.HashMap.insert nm t6.file_name (Rs.Vec.len fs), Rs.Vec.push fs t6)) := rfl
    rw [hb]
    unfold readCentralLoop
    rw [← tie_central_header]
    msimp
    refine bind_congr fun file => ?_
    have key := ih (i + 1) (Rs.HashMap.insert nm file.file_name (Rs.Vec.len fs)) (Rs.Vec.push fs file)
    rw [key]
    refine bind_congr fun rest => ?_
    simp only [Rs.Vec.push, List.map_append, List.map_cons, List.map_nil, List.append_assoc,
      List.cons_append, List.nil_append, List.length_append, List.length_cons, List.length_nil,
      insertNames, Rs.Vec.len]
    rfl

def Post {α} (Q : α → Prop) (x : M α) : Prop := ∀ fa d a d', x fa d = (.ok a, d') → Q a

theorem Post.readExact (n : Nat) : Post (fun r => r.length = n) (M.readExact n) :=
  fun _ _ _ _ h => (PostV.readExact n).elim h

/-- Code that starts with `CentralDirectoryEnd::find_and_parse` against a model that starts with `findAndParseEocd`:
it is enough to compare the continuations, on end records whose comment fits its `u16` length field. -/
theorem find_and_parse_bind {α : Type} (fa : Option Nat) (d : Dev) (hd : d.buf.length < 2 ^ 64)
    (K : Gen.CentralDirectoryEnd × UInt64 → M α) (K' : Eocd × Nat → M α)
    (h : ∀ footer cde, footer.zip_file_comment.length ≤ 65535 → K (footer, cde) = K' (eocdRes (footer, cde))) :
    (Gen.CentralDirectoryEnd.find_and_parse >>= K) fa d = (findAndParseEocd >>= K') fa d := by
  have h1 := tie_eocd_find_and_parse fa d hd
  rw [Parsers.M.bind_apply, Parsers.M.bind_apply, ← h1]
  simp only [map_eq_pure_bind, Parsers.M.bind_apply, Parsers.M.pure_apply]
  rcases hG : Gen.CentralDirectoryEnd.find_and_parse fa d with ⟨o, d1⟩
  cases o with
  | err e => rfl
  | panic s => rfl
  | ok r =>
    have hmodel : findAndParseEocd fa d = (.ok (eocdRes r), d1) := by
      rw [← h1]
      simp only [map_eq_pure_bind, Parsers.M.bind_apply, hG, Parsers.M.pure_apply]
    exact congrFun (congrFun (h r.1 r.2 (findAndParseEocd_comment_len.elim hmodel)) fa) d1

def mkRes (off : UInt64) (comment : Bytes) (t : List FileData × UInt64 × Rs.HashMap Bytes UInt64) :
    Archive × Nat × Rs.HashMap Bytes UInt64 :=
  (⟨t.1, off.toNat, comment⟩, t.2.1.toNat, t.2.2)

theorem new_loop_run (ao n cap : UInt64) (comment : Bytes) (capN : Nat) (hcap : cap.toNat = capN) :
    (Rs.R.forRange 0 n (Gen.ZipArchive.new.loop1_body ao)
        (Rs.HashMap.with_capacity cap, Rs.Vec.with_capacity cap) >>= fun x_2 =>
      (pure (archRes (Gen.ZipArchive.mk (Rs.Arc.new (Gen.Shared.mk x_2.snd x_2.fst ao comment)))) : M _)) =
    (readCentralLoop ao.toNat n.toNat >>= fun files =>
      pure (allocRes ({ files := files, offset := ao.toNat, comment := comment }, capN))) := by
  have h := new_loop ao n.toNat 0 (Rs.HashMap.with_capacity cap) (Rs.Vec.with_capacity cap)
  have e0 : (0 : UInt64).toNat = 0 := by decide
  have hl : (Rs.R.forRange 0 n (Gen.ZipArchive.new.loop1_body ao)
        (Rs.HashMap.with_capacity cap, Rs.Vec.with_capacity cap) >>= fun x_2 =>
      (pure (archRes (Gen.ZipArchive.mk (Rs.Arc.new (Gen.Shared.mk x_2.snd x_2.fst ao comment)))) : M _)) =
      ((Rs.R.forN (Gen.ZipArchive.new.loop1_body ao) n.toNat 0
        (Rs.HashMap.with_capacity cap, Rs.Vec.with_capacity cap) >>= fun st =>
          (pure (st.2.items.map dataOf, st.2.reserved, st.1) : M _)) >>= fun t =>
        pure (mkRes ao comment t)) := by
    simp only [Rs.R.forRange, e0, Nat.sub_zero, bind_assoc, pure_bind]
    rfl
  rw [hl, h]
  simp only [bind_assoc, pure_bind]
  refine bind_congr fun rest => ?_
  have hc2 : UInt64.ofNat capN = cap := by rw [← hcap, UInt64.ofNat_toNat]
  simp only [mkRes, allocRes, namesMapOf, Rs.Vec.with_capacity, List.map_nil, List.nil_append,
    List.length_nil, hcap, hc2]

/-- `cde_start_pos.saturating_sub(directory_start) / 46` in natural numbers -/
theorem maxFiles_toNat (cde ds : UInt64) :
    (Rs.saturatingSub cde ds / 46).toNat = (cde.toNat - ds.toNat) / 46 := by
  have e46 : (46 : UInt64).toNat = 46 := by decide
  have e0 : (0 : UInt64).toNat = 0 := by decide
  rw [UInt64.toNat_div, e46]
  congr 1
  unfold Rs.saturatingSub
  show ((if ds.toNat ≤ cde.toNat then some (cde - ds) else none).getD 0).toNat = _
  split
  · rename_i h
    simp only [Option.getD_some]
    exact UInt64.toNat_sub_of_le _ _ (UInt64.le_iff_toNat_le.mpr h)
  · simp only [Option.getD_none, e0]
    omega

theorem tie_zip_archive_new (fa : Option Nat) (d : Dev) (hd : d.buf.length < 2 ^ 64) :
    (archRes <$> Gen.ZipArchive.new) fa d = (allocRes <$> Model.openArchiveAlloc) fa d := by
  unfold Gen.ZipArchive.new Model.openArchiveAlloc
  have ite_pure : ∀ (c : Prop) [Decidable c] (a b : UInt64),
      (if c then (pure a : M UInt64) else pure b) = pure (if c then a else b) := by
    intro c _ a b; split <;> rfl
  msimp [tie_record_too_small, Gen.unsupported_zip_error, ite_pure]
  refine find_and_parse_bind fa d hd _ _ fun footer cde hb => ?_
  show (if (!(eocdOf footer).recordTooSmall && footer.disk_number != footer.disk_with_central_directory) = true
    then _ else _) = if (!(eocdOf footer).recordTooSmall && footer.disk_number != footer.disk_with_central_directory) = true
    then _ else _
  by_cases hc : (!(eocdOf footer).recordTooSmall && footer.disk_number != footer.disk_with_central_directory) = true
  · rw [if_pos hc, if_pos hc]
  · rw [if_neg hc, if_neg hc]
    show _ = (getDirectoryCounts (eocdOf footer) cde.toNat >>= _)
    rw [← tie_get_directory_counts footer cde (by omega)]
    msimp [M.attempt_map]
    refine bind_congr fun x => ?_
    have hdiv : Rs.Arith.div (Rs.saturatingSub cde x.2.fst) (46 : UInt64) =
        some (Rs.saturatingSub cde x.2.fst / 46) := rfl
    rw [hdiv]
    simp only [pure_bind]
    have hcap : (if decide (Rs.as' UInt64 x.2.snd > Rs.saturatingSub cde x.2.fst / 46) = true then 0 else x.2.snd).toNat =
        fileCapacity (countsRes x).2.snd (eocdRes (footer, cde)).snd (countsRes x).2.fst := by
      show _ = if x.2.snd.toNat > (cde.toNat - x.2.fst.toNat) / 46 then 0 else x.2.snd.toNat
      rw [← maxFiles_toNat]
      by_cases hgt : Rs.as' UInt64 x.2.snd > Rs.saturatingSub cde x.2.fst / 46
      · rw [if_pos (decide_eq_true hgt),
          if_pos (show x.2.snd.toNat > (Rs.saturatingSub cde x.2.fst / 46).toNat from UInt64.lt_iff_toNat_lt.mp hgt)]
        rfl
      · rw [if_neg (fun h => hgt (of_decide_eq_true h)),
          if_neg (fun h : x.2.snd.toNat > (Rs.saturatingSub cde x.2.fst / 46).toNat => hgt (UInt64.lt_iff_toNat_lt.mpr h))]
    refine bind_congr fun r => ?_
    cases r with
    | error e => rfl
    | ok p =>
      simp only [Except.map, Except.isOk, Except.toBool, Bool.not_true, Bool.false_eq_true, ↓reduceIte]
      rw [new_loop_run x.fst x.2.snd _ footer.zip_file_comment _ hcap]
      msimp
      rfl

/-- The model function the properties speak about is the first component of the tied one. -/
theorem openArchive_eq_alloc : Model.openArchive = Prod.fst <$> Model.openArchiveAlloc := by
  unfold Model.openArchive Model.openArchiveAlloc
  msimp
  refine bind_congr fun r => ?_
  by_cases hc : (!r.fst.recordTooSmall && r.fst.diskNumber != r.fst.diskWithCd) = true
  · rw [if_pos hc, if_pos hc]
  · rw [if_neg hc, if_neg hc]
    refine bind_congr fun x => bind_congr fun sk => ?_
    cases sk with
    | error e => rfl
    | ok p => msimp

/-- `ZipArchive::new`, read as the archive it returns, is `Model.openArchive`, the function the properties speak about. -/
theorem tie_zip_archive_new_open (fa : Option Nat) (d : Dev) (hd : d.buf.length < 2 ^ 64) :
    ((fun z => (archRes z).1) <$> Gen.ZipArchive.new) fa d = Model.openArchive fa d := by
  have e1 : ((fun z => (archRes z).1) <$> Gen.ZipArchive.new) = Prod.fst <$> (archRes <$> Gen.ZipArchive.new) :=
    (comp_map archRes Prod.fst _)
  have e2 : Prod.fst <$> Model.openArchiveAlloc = Prod.fst <$> (allocRes <$> Model.openArchiveAlloc) :=
    (comp_map allocRes Prod.fst _)
  rw [openArchive_eq_alloc, e1, e2, map_eq_pure_bind (f := Prod.fst), map_eq_pure_bind (f := Prod.fst),
    Parsers.M.bind_apply, Parsers.M.bind_apply, tie_zip_archive_new fa d hd]

/-! ### The name → index map: a later duplicate overwrites an earlier one -/

theorem getList_insertList {κ ν : Type} [BEq κ] [LawfulBEq κ] (l : List (κ × ν)) (k k' : κ) (v : ν) :
    Rs.HashMap.getList (Rs.HashMap.insertList l k v) k' =
      if k == k' then some v else Rs.HashMap.getList l k' := by
  induction l with
  | nil => simp only [Rs.HashMap.insertList, Rs.HashMap.getList]
  | cons a r ih =>
    obtain ⟨k0, v0⟩ := a
    simp only [Rs.HashMap.insertList]
    by_cases h0 : (k0 == k) = true
    · have e : k0 = k := eq_of_beq h0
      subst e
      simp only [h0, ↓reduceIte, Rs.HashMap.getList]
      by_cases h1 : (k0 == k') = true
      · simp only [h1, ↓reduceIte]
      · simp only [h1, ↓reduceIte, Bool.false_eq_true]
    · simp only [h0, ↓reduceIte, Rs.HashMap.getList, ih, Bool.false_eq_true]
      by_cases h1 : (k0 == k') = true
      · have e : k0 = k' := eq_of_beq h1
        subst e
        have : ¬ (k == k0) = true := fun h => h0 (by rw [eq_of_beq h]; exact beq_self_eq_true _)
        simp only [h1, this, ↓reduceIte, Bool.false_eq_true]
      · simp only [h1, ↓reduceIte, Bool.false_eq_true]

theorem get_insert (m : Rs.HashMap Bytes UInt64) (k k' : Bytes) (v : UInt64) :
    (m.insert k v).get k' = if k == k' then some v else m.get k' :=
  getList_insertList m.entries k k' v

theorem insertNames_snoc (m : Rs.HashMap Bytes UInt64) (i : Nat) (init : List FileData) (f : FileData) :
    insertNames m i (init ++ [f]) =
      (insertNames m i init).insert f.fileName (UInt64.ofNat (i + init.length)) := by
  induction init generalizing m i with
  | nil => simp only [List.nil_append, insertNames, List.length_nil, Nat.add_zero]
  | cons g r ih =>
    simp only [List.cons_append, insertNames, ih, List.length_cons]
    rw [show i + 1 + r.length = i + (r.length + 1) by omega]

def nameAt (l : List FileData) (name : Bytes) (i : Nat) : Bool :=
  match l[i]? with
  | some f => f.fileName == name
  | none => false

theorem indexOfName_eq (a : Archive) (name : Bytes) :
    a.indexOfName name = ((List.range a.files.length).filter (nameAt a.files name)).getLast? := rfl

theorem indexOfName_snoc (init : List FileData) (f : FileData) (o : Nat) (c name : Bytes) :
    Archive.indexOfName ⟨init ++ [f], o, c⟩ name =
      if f.fileName == name then some init.length else Archive.indexOfName ⟨init, o, c⟩ name := by
  simp only [indexOfName_eq, List.length_append, List.length_cons, List.length_nil, Nat.zero_add,
    List.range_succ, List.filter_append]
  have hlast : nameAt (init ++ [f]) name init.length = (f.fileName == name) := by
    unfold nameAt
    rw [List.getElem?_append_right (Nat.le_refl _), Nat.sub_self]; rfl
  have hpre : (List.range init.length).filter (nameAt (init ++ [f]) name) =
      (List.range init.length).filter (nameAt init name) := by
    apply List.filter_congr
    intro i hi
    unfold nameAt
    rw [List.getElem?_append_left (List.mem_range.mp hi)]
  rw [hpre]
  by_cases hn : (f.fileName == name) = true
  · simp only [List.filter_cons, List.filter_nil, hlast, hn, ↓reduceIte, List.getLast?_append,
      List.getLast?_singleton, Option.some_or]
  · simp only [List.filter_cons, List.filter_nil, hlast, hn, ↓reduceIte, List.append_nil,
      Bool.false_eq_true]

/-- What `names_map.get(name)` returns on the map `ZipArchive::new` builds is the model's `indexOfName`:
the LAST entry with that name. -/
theorem namesMapOf_get (files : List FileData) (o : Nat) (c : Bytes) (cap : Nat) (name : Bytes) :
    (namesMapOf files cap).get name =
      (Archive.indexOfName ⟨files, o, c⟩ name).map UInt64.ofNat := by
  have key : ∀ l : List FileData, (namesMapOf l.reverse cap).get name =
      (Archive.indexOfName ⟨l.reverse, o, c⟩ name).map UInt64.ofNat := by
    intro l
    induction l with
    | nil => rfl
    | cons f r ih =>
      rw [List.reverse_cons, indexOfName_snoc]
      unfold namesMapOf at ih ⊢
      rw [insertNames_snoc, get_insert, ih, Nat.zero_add]
      by_cases hn : (f.fileName == name) = true
      · simp only [hn, ↓reduceIte, Option.map_some]
      · simp only [hn, ↓reduceIte, Bool.false_eq_true]
  have := key files.reverse
  rwa [List.reverse_reverse] at this

/-! ### `find_content` -/

/-- What `find_content` reports: the cells it stored into, and the limit of the `Take` it returns. -/
def fcRes (r : Rs.Take × Rs.Stores) : Rs.Stores × UInt64 := (r.2, r.1.limit)

/-- `a + b` (checked): the guard as the model states it.  The string is the one `Rs.R.lift` panics with
(`Basic/RsM.lean`); `Model.findContent` has it at its sum, so that `tie_find_content` is an equation on that path too. -/
theorem lift_add_bind {α : Type} (a b : UInt64) (k : UInt64 → M α) :
    (Rs.R.lift (Rs.Arith.add a b) >>= k) =
      if a.toNat + b.toNat ≥ 18446744073709551616 then M.panic "rs2lean: checked operation" else k (a + b) := by
  by_cases h : a.toNat + b.toNat < 2 ^ 64
  · rw [if_neg (by omega), (U64.add_some a b h).1]; exact pure_bind _ _
  · rw [if_pos (by omega), U64.add_none a b h]; exact M.panic_bind _ _

/-- three in a row: one bound on the whole sum -/
theorem lift_add3_bind {α : Type} (a b c d : UInt64) (k : UInt64 → M α) :
    (Rs.R.lift (Rs.Arith.add a b) >>= fun x => Rs.R.lift (Rs.Arith.add x c) >>= fun y =>
        Rs.R.lift (Rs.Arith.add y d) >>= k) =
      if a.toNat + b.toNat + c.toNat + d.toNat ≥ 18446744073709551616 then M.panic "rs2lean: checked operation"
      else k (a + b + c + d) := by
  rw [lift_add_bind]
  by_cases h1 : a.toNat + b.toNat < 2 ^ 64
  · have v1 := (U64.add_some a b h1).2
    rw [if_neg (by omega), lift_add_bind, v1]
    by_cases h2 : a.toNat + b.toNat + c.toNat < 2 ^ 64
    · rw [if_neg (by omega), lift_add_bind, (U64.add_some (a + b) c (by omega)).2, v1]
    · rw [if_pos (by omega), if_pos (by omega)]
  · rw [if_pos (by omega), if_pos (by omega)]

/-- The value compared: the one cell stored into (`data.data_start`, as `Rs.Stores`) and the limit of the `Take`
returned.  The sum `header_start + 30 + n + m` of read.rs:229 is checked `u64` and panics on both sides. -/
theorem tie_find_content (data : Gen.ZipFileData) :
    fcRes <$> Gen.find_content data =
      (fun ds => ([("data.data_start", UInt64.ofNat ds)], data.compressed_size)) <$>
        Model.findContent (dataOf data) := by
  unfold Gen.find_content Model.findContent
  have h22 : (22 : Int64).toInt = 22 := by decide
  have hA : Rs.R.lift (Rs.Arith.add (4 : UInt64) (22 : UInt64)) = (pure 26 : M UInt64) := rfl
  have hB : Rs.R.lift (Rs.Arith.add (26 : UInt64) (2 : UInt64)) = (pure 28 : M UInt64) := rfl
  have hC : Rs.R.lift (Rs.Arith.add (28 : UInt64) (2 : UInt64)) = (pure 30 : M UInt64) := rfl
  have hhs : (dataOf data).headerStart = data.header_start := rfl
  have hsig : Gen.LOCAL_FILE_HEADER_SIGNATURE = LOCAL_SIG := rfl
  simp only [bind_assoc, pure_bind, map_eq_pure_bind, M.throw_bind, M.ite_bind, Rs.R.err, Rs.zerr, Rs.R.seek,
    h22, hhs, hsig, hA, hB, hC, lift_add3_bind]
  refine bind_congr fun _ => bind_congr fun sig => guard_congr fun _ => ?_
  refine bind_congr fun _ => bind_congr fun n => bind_congr fun m => ?_
  have e30 : (30 : UInt64).toNat = 30 := rfl
  rw [e30, as_u16_u64_toNat, as_u16_u64_toNat]
  refine guard_congr fun h => ?_
  have hds : (data.header_start + 30 + Rs.as' UInt64 n + Rs.as' UInt64 m).toNat =
      data.header_start.toNat + 30 + n.toNat + m.toNat := by
    simp only [UInt64.toNat_add, as_u16_u64_toNat, e30]; omega
  rw [hds]
  refine bind_congr fun _ => ?_
  simp only [fcRes, Rs.R.take, ← hds, UInt64.ofNat_toNat, List.nil_append]

/-! ### `make_crypto_reader`: the decision -/

def vvOf : Gen.AesVendorVersion → AesVendorVersion
  | .Ae1 => .ae1 | .Ae2 => .ae2
def vvGen : AesVendorVersion → Gen.AesVendorVersion
  | .ae1 => .Ae1 | .ae2 => .Ae2
def aesModeGen : AesMode → Gen.AesMode
  | .aes128 => .Aes128 | .aes192 => .Aes192 | .aes256 => .Aes256
def validatorGen : Validator → Gen.ZipCryptoValidator
  | .pkzipCrc32 c => .PkzipCrc32 c
  | .infoZipMsdosTime t => .InfoZipMsdosTime t

theorem vvGen_vvOf (v : Gen.AesVendorVersion) : vvGen (vvOf v) = v := by cases v <;> rfl
theorem aesModeGen_aesModeOf (m : Gen.AesMode) : aesModeGen (Tie.Types.aesModeOf m) = m := by cases m <;> rfl

/-- the external constructors at the generated types -/
abbrev GExt := Rs.ReadExt Gen.ZipCryptoValidator Gen.AesMode

/-- What the model's decision means as a computation: nothing is read for `unsupported` / `invalidPassword` /
`plaintext`; the ZipCrypto and AES layers are built by the (uninterpreted) external constructors from exactly the
password, validator, mode and size the decision names, and `None` from them is `Ok(Err(InvalidPassword))`. -/
def runChoice (ext : GExt) (reader : Rs.Take) (csize : UInt64) :
    CryptoChoice → M (Except Rs.InvalidPassword Gen.CryptoReader)
  | .unsupported => M.throw .unsupportedArchive
  | .invalidPassword => pure (.error ⟨⟩)
  | .plaintext => pure (.ok (.Plaintext reader))
  | .zipCrypto pw v => do
    let ok ← ext.zcValidate reader pw (validatorGen v)
    pure (if ok then .ok (.ZipCrypto ⟨reader, pw, validatorGen v⟩) else .error ⟨⟩)
  | .aes pw mode vv => do
    let ok ← ext.aesValidate reader (aesModeGen mode) csize pw
    pure (if ok then .ok (.Aes ⟨reader, aesModeGen mode, csize, pw⟩ (vvGen vv)) else .error ⟨⟩)

def aesInfoOf (info : Option (Gen.AesMode × Gen.AesVendorVersion)) : Option (AesMode × AesVendorVersion) :=
  info.map fun p => (Tie.Types.aesModeOf p.1, vvOf p.2)

/-- the decision by password and AES info, at a method that passes the two guards (they come first, and past them
the method is not looked at again) -/
theorem make_crypto_reader_stored (ext : GExt) (crc : UInt32) (t : Gen.DateTime) (udd : Bool) (reader : Rs.Take)
    (pw : Option Bytes) (info : Option (Gen.AesMode × Gen.AesVendorVersion)) (csize : UInt64) :
    Gen.make_crypto_reader ext .Stored crc t udd reader pw info csize =
      runChoice ext reader csize (cryptoChoice .stored crc (Tie.DateTime.toModel t) udd pw (aesInfoOf info)) := by
  unfold Gen.make_crypto_reader
  have hne : (Gen.CompressionMethod.Stored == Gen.CompressionMethod.AES) = false := rfl
  simp only [hne, Bool.false_eq_true, ↓reduceIte, pure_bind]
  cases pw with
  | none => cases info <;> rfl
  | some pw =>
    rcases info with _ | ⟨mode, vv⟩
    · simp only [cryptoChoice, runChoice, aesInfoOf, Option.map]
      cases udd
      · msimp [Rs.R.zc_validate, validatorGen, Bool.false_eq_true, ↓reduceIte]
        refine bind_congr fun ok => ?_
        cases ok <;> rfl
      · msimp [Rs.R.zc_validate, validatorGen, ↓reduceIte, Tie.DateTime.tie_timepart]
        refine bind_congr fun ok => ?_
        cases ok <;> rfl
    · simp only [cryptoChoice, runChoice, aesInfoOf, Option.map]
      msimp [Rs.R.aes_validate, aesModeGen_aesModeOf, vvGen_vvOf]
      refine bind_congr fun ok => ?_
      cases ok <;> rfl

/-- The decision of `make_crypto_reader` is `cryptoChoice`: unsupported method or method 99 -> error before any I/O; AES
info without password -> `InvalidPassword`; password + AES info -> AES layer with that mode, size, vendor version;
password alone -> ZipCrypto with the validator `using_data_descriptor` chooses (DOS time or CRC); else plaintext. -/
theorem tie_make_crypto_reader (ext : GExt) (m : Gen.CompressionMethod) (crc : UInt32) (t : Gen.DateTime)
    (udd : Bool) (reader : Rs.Take) (pw : Option Bytes) (info : Option (Gen.AesMode × Gen.AesVendorVersion))
    (csize : UInt64) :
    Gen.make_crypto_reader ext m crc t udd reader pw info csize =
      runChoice ext reader csize
        (cryptoChoice (Tie.Types.methodOf m) crc (Tie.DateTime.toModel t) udd pw (aesInfoOf info)) := by
  cases m with
  | Unsupported v | Aes => rfl
  | _ => exact make_crypto_reader_stored ext crc t udd reader pw info csize

/-- `cryptoChoice` IS the model's decision: `byIndexRead` (the function C03 / C04 / C15 / C16 speak about) is the
same function written through it. -/
theorem byIndexRead_eq_choice (ext : Ext) (a : Archive) (i : Nat) (password : Option Bytes) :
    byIndexRead ext a i password = byIndexReadC ext a i password := by
  rw [byIndexRead_eq_open]
  unfold byIndexReadC byIndexOpen
  cases a.files[i]? with
  | none => rfl
  | some data =>
    simp only [M.ite_bind, bind_assoc, pure_bind]
    rfl

end ZipVerif.Tie.ReaderGlue
