import ZipVerif.Gen.AesCtr
import ZipVerif.Tie.AesLayer
import ZipVerif.Model.Aes
/-
Tie obligations for the AES-CTR key stream (aes_ctr.rs; tier T6, LAYER mode of rs2lean).
`rs2lean` prints `Gen.xor` and `Gen.AesCtrZipKeyStream.crypt_in_place` into `Gen/AesCtr.lean` from src/aes_ctr.rs:
the `while` loop (`Rs.L.whileLoop`, fuel `target.len() + 1`, shown adequate here), the refill
(`write_u128::<LittleEndian>` of the counter into the buffer, `encrypt_block`, the checked `counter += 1`, `pos = 0`),
`AES_BLOCK_SIZE - pos`, the two slices handed to `xor`, its `assert_eq!` and `zip` loop, and the re-slicing
`target = &mut target[n..]`.

* `tie_xor`: `xor(dest, src)` = `Model.Aes.xorBytes` when the lengths agree, a panic otherwise.
* `tie_crypt_in_place`: `crypt_in_place` = `Model.Aes.cryptInPlace` (new target contents and successor state, or
  a panic), for every key, state and target.
* `tie_aes_read_keystream`: with the TRANSLATED key stream as the `Box<dyn AesCipher>` of the generated
  `AesReaderValid::read` (instead of the model's), that method is still `Model.Aes.Valid.read`.

Hypotheses are facts of the Rust types only (`Typed`: `buffer: [u8; 16]`, `counter: u128`, `pos: usize`; a target
below 2^64 bytes); `cryptLoop_typed` / `read_typed` show they survive every call.  `tie_aes_read_keystream` has those of
`AesLayer.tie_aes_read_dyn` besides.  The AES block function is uninterpreted (`Rs.AesPrims.block` = the model's
`AesPrims.block`); `P.WF` (a block has 16 bytes) is used only to keep `buffer.len() = 16`.
-/

namespace ZipVerif.Tie.AesCtr
open ZipVerif ZipVerif.Model.Aes ZipVerif.Tie.Layers ZipVerif.Tie.AesLayer


theorem iterMutZip_xor : ∀ (xs ys : Bytes),
    Rs.L.iterMutZip xs ys () (fun _ a b => some (a ^^^ b, ())) =
      some (xorBytes xs ys ++ xs.drop ys.length, ())
  | [], ys => by simp [Rs.L.iterMutZip, xorBytes]
  | b :: bs, [] => by simp [Rs.L.iterMutZip, xorBytes]
  | b :: bs, c :: cs => by
    simp only [Rs.L.iterMutZip, iterMutZip_xor bs cs]
    simp [xorBytes]

theorem tie_xor (dest src : Bytes) (hd : dest.length < 2 ^ 64) (hs : src.length < 2 ^ 64) :
    Gen.xor dest src = if dest.length = src.length then (some (), xorBytes dest src) else (none, dest) := by
  unfold Gen.xor
  simp only [Id.run, Rs.L.id_pure, Rs.len, Rs.L.assert, beq_iff_eq, U64.ofNat_inj hd hs, Option.pure_def]
  by_cases h : dest.length = src.length
  · rw [if_pos h, if_pos h, iterMutZip_xor, ← h, List.drop_length, List.append_nil]
  · rw [if_neg h, if_neg h]

/-! ### `AesCtrZipKeyStream::crypt_in_place` -/

variable (P : AesPrims) (key : Bytes)

/-- key and model state as the generated structure (`C` is a phantom: the key length) -/
def toGen {C : Type} (key : Bytes) (st : CtrState) : Gen.AesCtrZipKeyStream C :=
  ⟨BitVec.ofNat 128 st.counter, ⟨key⟩, st.buffer, UInt64.ofNat st.pos⟩

/-- facts of the Rust types: `buffer: [u8; 16]`, `counter: u128`, `pos: usize` -/
structure Typed (st : CtrState) : Prop where
  buf : st.buffer.length = 16
  ctr : st.counter < 2 ^ 128
  pos : st.pos < 2 ^ 64

/-- the xor of one pass through the loop, from a state whose buffer holds key stream at `pos`: the bytes done,
the state, the rest of the target -/
def step (st : CtrState) (tgt : Bytes) : Bytes × CtrState × Bytes :=
  let n := min tgt.length (16 - st.pos)
  (xorBytes (tgt.take n) ((st.buffer.drop st.pos).take n), ⟨st.counter, st.buffer, st.pos + n⟩, tgt.drop n)

/-- one pass through the body of the model's loop -/
def iter (st : CtrState) (tgt : Bytes) : Out (Bytes × CtrState × Bytes) :=
  if st.pos > 16 then .panic "attempt to subtract with overflow (AES_BLOCK_SIZE - pos)" else
  (if st.pos = 16 then refill P key st else .ok st) >>= fun st1 =>
  let n := min tgt.length (16 - st1.pos)
  if ((st1.buffer.drop st1.pos).take n).length ≠ n then
    .panic "range end index out of range for slice (aes_ctr.rs buffer)" else
  .ok (step st1 tgt)

theorem cryptLoop_succ (f : Nat) (st : CtrState) (b : UInt8) (t : Bytes) :
    cryptLoop P key (f + 1) st (b :: t) =
      iter P key st (b :: t) >>= fun r => cryptLoop P key f r.2.1 r.2.2 >>= fun q => .ok (r.1 ++ q.1, q.2) := by
  rw [cryptLoop, iter]
  by_cases hp : st.pos > 16
  · rw [if_pos hp, if_pos hp]; rfl
  · rw [if_neg hp, if_neg hp]
    rcases (if st.pos = 16 then refill P key st else Out.ok st) with st1 | e | m
    · simp only [Out.bind_ok, List.length_cons]
      split
      · rfl
      · rfl
    · rfl
    · rfl

theorem bind_eq_ok {α β : Type} {x : Out α} {f : α → Out β} {b : β} (h : x >>= f = .ok b) :
    ∃ a, x = .ok a ∧ f a = .ok b := by
  cases x with
  | ok a => exact ⟨a, rfl, h⟩
  | err e => cases h
  | panic m => cases h

theorem pos_step_le {p : Nat} (l : Nat) (hp : p ≤ 16) : p + min l (16 - p) ≤ 16 :=
  Nat.le_trans (Nat.add_le_add_left (Nat.min_le_right ..) p) (Nat.le_of_eq (Nat.add_sub_cancel' hp))

theorem step_ok {st : CtrState} {tgt : Bytes} (hT : Typed st) (hp : st.pos < 16) (hne : tgt ≠ []) :
    Typed (step st tgt).2.1 ∧ (step st tgt).2.2.length < tgt.length := by
  have hl : 0 < tgt.length := List.length_pos_iff.mpr hne
  refine ⟨⟨hT.buf, hT.ctr, Nat.lt_of_le_of_lt (pos_step_le tgt.length (Nat.le_of_lt hp)) (by decide)⟩, ?_⟩
  show (tgt.drop (min tgt.length (16 - st.pos))).length < tgt.length
  rw [List.length_drop]
  exact Nat.sub_lt hl (Nat.lt_min.mpr ⟨hl, Nat.sub_pos_of_lt hp⟩)

theorem src_length {st : CtrState} (tgt : Bytes) (hg : st.Good) :
    ((st.buffer.drop st.pos).take (min tgt.length (16 - st.pos))).length = min tgt.length (16 - st.pos) := by
  rw [List.length_take, List.length_drop, hg.2]
  exact Nat.min_eq_left (Nat.min_le_right _ _)

/-- with room in a 16-byte buffer a pass is `step` -/
theorem iter_lt {st : CtrState} (tgt : Bytes) (hp : st.pos < 16) (hb : st.buffer.length = 16) :
    iter P key st tgt = .ok (step st tgt) := by
  unfold iter
  rw [if_neg (Nat.lt_asymm hp), if_neg (Nat.ne_of_lt hp)]
  exact if_neg (Decidable.not_not.mpr (src_length tgt ⟨Nat.le_of_lt hp, hb⟩))

/-- with the buffer used up a pass is `step` from the refilled state -/
theorem iter_16 (hW : P.WF) {st : CtrState} (tgt : Bytes) (hp : st.pos = 16) :
    iter P key st tgt =
      if st.counter + 1 ≥ U128 then .panic "attempt to add with overflow (aes_ctr.rs counter)"
      else .ok (step ⟨st.counter + 1, P.block key (le128 st.counter), 0⟩ tgt) := by
  unfold iter refill
  rw [if_neg (Nat.not_lt.mpr (Nat.le_of_eq hp)), if_pos hp]
  split
  · rfl
  · exact if_neg (Decidable.not_not.mpr (src_length tgt ⟨Nat.zero_le _, hW.block_len _ _⟩))

theorem iter_ok (hW : P.WF) {st st' : CtrState} {tgt x rest : Bytes} (hT : Typed st) (hne : tgt ≠ [])
    (h : iter P key st tgt = .ok (x, st', rest)) : Typed st' ∧ rest.length < tgt.length := by
  rcases Nat.lt_trichotomy st.pos 16 with hp | hp | hp
  · rw [iter_lt P key tgt hp hT.buf] at h
    cases h
    exact step_ok hT hp hne
  · rw [iter_16 P key hW tgt hp] at h
    split at h
    · cases h
    · rename_i hc
      cases h
      exact step_ok ⟨hW.block_len _ _, Nat.not_le.mp hc, Nat.two_pow_pos 64⟩ (Nat.zero_lt_succ 15) hne
  · rw [iter, if_pos hp] at h
    cases h

/-- the step relation a translated loop body has to satisfy -/
def BodyOk {C : Type} (body : Gen.AesCtrZipKeyStream C × Bytes × Bytes → Option (Gen.AesCtrZipKeyStream C × Bytes × Bytes)) : Prop :=
  ∀ (st : CtrState) (tgt d : Bytes), Typed st → tgt ≠ [] → tgt.length < 2 ^ 64 →
    body (toGen key st, tgt, d) =
      match iter P key st tgt with
      | .ok (x, st', rest) => some (toGen key st', rest, d ++ x)
      | _ => none

/-- The generated `while` loop, for any condition and body that are `!target.is_empty()` and `BodyOk`, is `cryptLoop`.
Two fuels: `f` is the model's, `fuel` the generated loop's, which spends one unit more, on the last test of the
condition (`t.length < fuel`, the generated `target.len() + 1`).  Induction on `f`: a pass shortens the target
(`iter_ok`), so both bounds survive it; `d` collects the bytes done. -/
theorem loop_eq (hW : P.WF) {C : Type} (cond : Gen.AesCtrZipKeyStream C × Bytes × Bytes → Bool)
    (body : Gen.AesCtrZipKeyStream C × Bytes × Bytes → Option (Gen.AesCtrZipKeyStream C × Bytes × Bytes))
    (hc : ∀ s t d, cond (s, t, d) = !t.isEmpty) (hb : BodyOk P key body) :
    ∀ (f fuel : Nat) (st : CtrState) (t d : Bytes), Typed st → t.length < 2 ^ 64 → t.length < fuel → t.length ≤ f →
      Rs.L.whileLoop fuel (toGen key st, t, d) cond body =
        match cryptLoop P key f st t with
        | .ok (out, st') => some (toGen key st', [], d ++ out)
        | _ => none := by
  intro f
  induction f with
  | zero =>
    intro fuel st t d hT h64 hfu hf
    cases List.eq_nil_of_length_eq_zero (Nat.le_zero.mp hf)
    cases fuel with
    | zero => exact absurd hfu (Nat.lt_irrefl 0)
    | succ fu => simp [Rs.L.whileLoop, hc, cryptLoop]
  | succ f ih =>
    intro fuel st t d hT h64 hfu hf
    cases fuel with
    | zero => exact absurd hfu (Nat.not_lt_zero _)
    | succ fu =>
      cases t with
      | nil => simp [Rs.L.whileLoop, hc, cryptLoop]
      | cons b t =>
        rw [cryptLoop_succ]
        simp only [Rs.L.whileLoop, hc, List.isEmpty_cons, Bool.not_false, if_true]
        rw [hb st (b :: t) d hT (List.cons_ne_nil b t) h64]
        rcases hi : iter P key st (b :: t) with ⟨x, st', rest⟩ | e | m
        · obtain ⟨hT', hlt⟩ := iter_ok P key hW hT (List.cons_ne_nil b t) hi
          have hle : rest.length ≤ t.length := Nat.le_of_lt_succ hlt
          simp only [Out.bind_ok]
          rw [ih fu st' rest (d ++ x) hT' (Nat.lt_of_le_of_lt hle (Nat.lt_of_succ_lt h64))
            (Nat.lt_of_le_of_lt hle (Nat.lt_of_succ_lt_succ hfu)) (Nat.le_trans hle (Nat.le_of_succ_le_succ hf))]
          rcases cryptLoop P key f st' rest with ⟨out, st''⟩ | e | m
          · simp
          · rfl
          · rfl
        · rfl
        · rfl

theorem slice_ofNat (bs : Bytes) {lo hi : Nat} (hl : lo < 2 ^ 64) (hh : hi < 2 ^ 64) :
    Rs.slice bs (UInt64.ofNat lo) (UInt64.ofNat hi) =
      if lo ≤ hi ∧ hi ≤ bs.length then some ((bs.take hi).drop lo) else none := by
  unfold Rs.slice
  rw [U64.toNat_ofNat hl, U64.toNat_ofNat hh]

theorem splitAt_ofNat (bs : Bytes) {n : Nat} (hn : n < 2 ^ 64) :
    Rs.L.splitAt bs (UInt64.ofNat n) = if n ≤ bs.length then some (bs.take n, bs.drop n) else none := by
  unfold Rs.L.splitAt
  rw [U64.toNat_ofNat hn]

theorem leBytes_eq (n v : Nat) : Rs.leBytes n v = leN n v := by
  induction n generalizing v with
  | zero => rfl
  | succ n ih => simp [Rs.leBytes, leN, ih]

theorem toLE_ofNat {c : Nat} (hc : c < 2 ^ 128) : Rs.U128.toLE (BitVec.ofNat 128 c) = le128 c := by
  unfold Rs.U128.toLE le128
  rw [leBytes_eq, BitVec.toNat_ofNat, Nat.mod_eq_of_lt hc]

theorem le128_length (c : Nat) : (le128 c).length = 16 := leN_length 16 c

theorem u128_add_one {c : Nat} (hc : c < 2 ^ 128) :
    Rs.Arith.add (BitVec.ofNat 128 c : Rs.U128) 1 =
      if c + 1 ≥ U128 then none else some (BitVec.ofNat 128 (c + 1)) := by
  show (if (BitVec.ofNat 128 c).toNat + 1 < U128 then some (BitVec.ofNat 128 c + BitVec.ofNat 128 1) else none) = _
  rw [BitVec.toNat_ofNat, Nat.mod_eq_of_lt hc, ← BitVec.ofNat_add]
  by_cases h : c + 1 ≥ U128
  · exact (if_neg (Nat.not_lt.mpr h)).trans (if_pos h).symm
  · exact (if_pos (Nat.not_le.mp h)).trans (if_neg h).symm

/-- `target[..n].copy_from(new)`, then `split_at_mut(n)` -/
theorem splitAt_splice0 (tgt : Bytes) {new : Bytes} {n : Nat} (hl : new.length = n) (hn : n < 2 ^ 64) :
    Rs.L.splitAt (Rs.L.splice tgt 0 new) (UInt64.ofNat n) = some (new, tgt.drop n) := by
  subst hl
  simp [Rs.L.splice, splitAt_ofNat _ hn]

/-- the part of the loop body after the refill, from `pos = p ≤ 16` in a 16-byte buffer: `n` bytes of the target are
xored with `buffer[p .. p + n]`.  The left side is the text of `Gen/AesCtr.lean` from `let t7` on with its `let`s
unfolded (the binder names are the translator's): the two `exact tail_eq` of `tie_crypt_in_place` match it up to
reduction, so it has to follow that text when the translation of aes_ctr.rs changes shape. -/
theorem tail_eq {C : Type} (s : Gen.AesCtrZipKeyStream C) (tgt d : Bytes) {p n : Nat} (hs : s.pos = UInt64.ofNat p)
    (hp : p ≤ 16) (hb : s.buffer.length = 16) (h64 : tgt.length < 2 ^ 64) (hn : n = min tgt.length (16 - p)) :
    (do let t7 ← Rs.Arith.sub Gen.AES_BLOCK_SIZE s.pos
        let t8 ← Rs.slice tgt 0 (min (Rs.len tgt) t7)
        let t9 ← Rs.Arith.add s.pos (min (Rs.len tgt) t7)
        let t10 ← Rs.slice s.buffer s.pos t9
        (Gen.xor t8 t10).fst
        let __x ← Rs.L.splitAt (Rs.L.splice tgt 0 (Gen.xor t8 t10).snd) (min (Rs.len tgt) t7)
        let t16 ← Rs.Arith.add s.pos (min (Rs.len tgt) t7)
        pure (({ s with pos := t16 } : Gen.AesCtrZipKeyStream C), __x.snd, d ++ __x.fst)) =
      some (({ s with pos := UInt64.ofNat (p + n) } : Gen.AesCtrZipKeyStream C), tgt.drop n,
        d ++ xorBytes (tgt.take n) ((s.buffer.drop p).take n)) := by
  have h16 : (16 : Nat) < 2 ^ 64 := by decide
  have hn1 : n ≤ tgt.length := hn ▸ Nat.min_le_left ..
  have hpn : p + n ≤ 16 := hn ▸ pos_step_le _ hp
  have hpn64 := Nat.lt_of_le_of_lt hpn h16
  have hp64 := Nat.lt_of_le_of_lt (Nat.le_add_right p n) hpn64
  have hn64 := Nat.lt_of_le_of_lt (Nat.le_add_left n p) hpn64
  have hsrc : (s.buffer.take (p + n)).drop p = (s.buffer.drop p).take n := by
    rw [List.drop_take, Nat.add_sub_cancel_left]
  have hl1 : (tgt.take n).length = n := by rw [List.length_take, Nat.min_eq_left hn1]
  have hl2 : ((s.buffer.drop p).take n).length = n := by
    rw [List.length_take, List.length_drop, hb, Nat.min_eq_left (Nat.le_sub_of_add_le' hpn)]
  have hx : (xorBytes (tgt.take n) ((s.buffer.drop p).take n)).length = n := by
    rw [xorBytes_len _ _ (hl1.trans hl2.symm), hl1]
  rw [hs, show Gen.AES_BLOCK_SIZE = UInt64.ofNat 16 from rfl, show Rs.len tgt = UInt64.ofNat tgt.length from rfl]
  simp only [U64.sub_ofNat h16 hp64, if_pos hp, Option.bind_eq_bind, Option.bind_some,
    U64.min_ofNat h64 (Nat.lt_of_le_of_lt (Nat.sub_le ..) h16), ← hn, slice0 tgt hn64, if_pos hn1,
    U64.add_ofNat hp64 hn64, if_pos hpn64, slice_ofNat s.buffer hp64 hpn64,
    if_pos (And.intro (Nat.le_add_right p n) (hb ▸ hpn)), hsrc, tie_xor _ _ (hl1 ▸ hn64) (hl2 ▸ hn64),
    if_pos (hl1.trans hl2.symm), splitAt_splice0 tgt hx hn64]
  rfl

/-- `write_all` of as many bytes as the slice has -/
theorem sliceWriteAll_full {buf data : Bytes} (h : data.length = buf.length) :
    Rs.L.sliceWriteAll buf data = (.ok (), data) := by
  unfold Rs.L.sliceWriteAll
  rw [if_pos (Nat.le_of_eq h), h, List.drop_length, List.append_nil]

theorem encrypt_block_16 {b : Bytes} (h : b.length = 16) :
    @Rs.AesBlock.encrypt_block (primsOf P) ⟨key⟩ b = some (P.block key b) :=
  if_pos h

theorem pos_beq {p : Nat} (hp : p < 2 ^ 64) : (UInt64.ofNat p == Gen.AES_BLOCK_SIZE) = true ↔ p = 16 :=
  beq_iff_eq.trans (U64.ofNat_inj hp (by decide))

theorem tie_crypt_in_place (hW : P.WF) {C : Type} (st : CtrState) (t : Bytes) (hT : Typed st)
    (ht : t.length < 2 ^ 64) :
    @Gen.AesCtrZipKeyStream.crypt_in_place (primsOf P) C (toGen key st) t =
      match cryptInPlace P key st t with
      | .ok (out, st') => (some (), toGen key st', out)
      | _ => (none, toGen key st, t) := by
  unfold Gen.AesCtrZipKeyStream.crypt_in_place cryptInPlace
  dsimp only [Id.run]
  rw [loop_eq P key hW _ _ (by intro s t d; rfl) ?_ t.length (t.length + 1) st t [] hT ht (Nat.lt_succ_self _)
    (Nat.le_refl _)]
  · rcases cryptLoop P key t.length st t with ⟨out, st'⟩ | e | m
    · exact congrArg (fun o => (some (), toGen key st', o)) (List.append_nil out)
    · rfl
    · rfl
  · intro st tgt d hT hne h64
    show (if (UInt64.ofNat st.pos == Gen.AES_BLOCK_SIZE) = true then _ else _) = _
    by_cases hp : st.pos = 16
    · -- the buffer is used up: `refill`, then the tail from `pos = 0`
      rw [if_pos ((pos_beq hT.pos).mpr hp), iter_16 P key hW tgt hp]
      simp only [toGen, sliceWriteAll_full ((le128_length st.counter).trans hT.buf.symm), toLE_ofNat hT.ctr,
        Rs.IoRes.unwrap, encrypt_block_16 P key (le128_length st.counter), u128_add_one hT.ctr, Option.bind_eq_bind,
        Option.bind_some]
      by_cases hov : st.counter + 1 ≥ U128
      · rw [if_pos hov, if_pos hov]; rfl
      · rw [if_neg hov, if_neg hov, Option.bind_some]
        exact tail_eq (toGen key ⟨st.counter + 1, P.block key (le128 st.counter), 0⟩) tgt d rfl (Nat.zero_le _)
          (hW.block_len _ _) h64 rfl
    · rw [if_neg (mt (pos_beq hT.pos).mp hp)]
      rcases Nat.lt_or_gt_of_ne hp with hp | hp
      · rw [iter_lt P key tgt hp hT.buf]
        exact tail_eq (toGen key st) tgt d rfl (Nat.le_of_lt hp) hT.buf h64 rfl
      · -- `AES_BLOCK_SIZE - pos` overflows on both sides
        rw [iter, if_pos hp]
        show (Rs.Arith.sub (UInt64.ofNat 16) (UInt64.ofNat st.pos)).bind _ = none
        rw [U64.sub_ofNat (by decide) hT.pos, if_neg (Nat.not_le_of_lt hp)]
        rfl

/-- the type facts survive a call (so the Tie composes along any run) -/
theorem cryptLoop_typed (hW : P.WF) : ∀ (f : Nat) (st st' : CtrState) (t out : Bytes), Typed st →
    cryptLoop P key f st t = .ok (out, st') → Typed st' := by
  intro f
  induction f with
  | zero => intro st st' t out hT h; cases t <;> simp [cryptLoop] at h; exact h.2 ▸ hT
  | succ f ih =>
    intro st st' t out hT h
    cases t with
    | nil => simp [cryptLoop] at h; exact h.2 ▸ hT
    | cons b t =>
      rw [cryptLoop_succ] at h
      obtain ⟨⟨x, st1, rest⟩, hi, h⟩ := bind_eq_ok h
      obtain ⟨⟨o2, st2⟩, hc, h⟩ := bind_eq_ok h
      cases h
      exact ih st1 st2 rest o2 (iter_ok P key hW hT (List.cons_ne_nil b t) hi).1 hc

theorem new_typed : Typed CtrState.new := ⟨List.length_replicate, by decide, by decide⟩

/-! ### `Box<dyn AesCipher>` is the TRANSLATED key stream

`AesCtrZipKeyStream<C>` is the only implementor of `AesCipher`; with it as the member of `Rs.AesDyn` the
generated `AesReaderValid::read` is the model's `Valid.read`: below the AES block function, PBKDF2 and
HMAC nothing of the AES read path is vocabulary. -/

/-- the translated key stream as the `Box<dyn AesCipher>` of the generated reader -/
@[instance_reducible] def dynGen (P : AesPrims) (C : Type) : Rs.AesDyn :=
  ⟨Gen.AesCtrZipKeyStream C, fun c t =>
    match @Gen.AesCtrZipKeyStream.crypt_in_place (primsOf P) C c t with
    | (some _, c', t') => some (t', c')
    | (none, _, _) => none⟩

theorem dynGen_ok (hW : P.WF) (C : Type) (ctr : CtrState) (hT : Typed ctr) :
    DynOk P (dynGen P C) (fun k st => toGen k st) key ctr := by
  intro bs hbs
  show (match @Gen.AesCtrZipKeyStream.crypt_in_place (primsOf P) C (toGen key ctr) bs with
    | (some _, c', t') => some (t', c')
    | (none, _, _) => none) = _
  rw [tie_crypt_in_place P key hW ctr bs hT hbs]
  rcases cryptInPlace P key ctr bs with ⟨out, st'⟩ | e | m <;> rfl

/-- **`AesReaderValid::read` over the translated `AesCtrZipKeyStream::crypt_in_place` is the model's
`Valid.read`** (outcome and successor state), for every inner reader, primitive triple, state and buffer. -/
theorem tie_aes_read_keystream {σ : Type} (hW : P.WF) (C : Type) (S : Src σ) (v : Valid σ) (buf : Bytes)
    (hT : Typed v.ctr) (hbuf : buf.length < 2 ^ 64) (hrem : v.dataRemaining < 2 ^ 64) (hin : SmallA S)
    (hSl : ∀ bs s', S.rd v.inner (min v.dataRemaining buf.length) = (.ok bs, s') →
      bs.length ≤ buf.length ∨ v.dataRemaining < bs.length) :
    (fun g : Rs.IoRes UInt64 × @Gen.AesReaderValid (dynGen P C) σ × Bytes => (outRead g.1 g.2.2, g.2.1))
        (@Gen.AesReaderValid.read (primsOf P) (dynGen P C) σ (readOfA S)
          (toGenD (dynGen P C) (fun k st => toGen k st) v) buf) =
      (eraseMsg (Valid.read P S v buf.length).1,
        toGenD (dynGen P C) (fun k st => toGen k st) (Valid.read P S v buf.length).2) :=
  tie_aes_read_dyn P hW (dynGen P C) (fun k st => toGen k st) S v buf (dynGen_ok P v.key hW C v.ctr hT) hbuf hrem hin hSl

/-- the type facts of the key stream survive a `read`: the hypothesis `hT` of `tie_aes_read_keystream` composes along a
run -/
theorem read_typed {σ : Type} (hW : P.WF) (S : Src σ) (v : Valid σ) (n : Nat) (hT : Typed v.ctr) :
    Typed (Valid.read P S v n).2.ctr := by
  rcases read_ctr P S v n with h | ⟨bs, pt, h⟩
  · rw [h]; exact hT
  · exact cryptLoop_typed P _ hW _ _ _ _ _ hT h

end ZipVerif.Tie.AesCtr
