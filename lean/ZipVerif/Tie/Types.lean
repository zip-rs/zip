import ZipVerif.Gen.Spec
import ZipVerif.Gen.Compression
import ZipVerif.Gen.Types
import ZipVerif.Gen.Aes
import ZipVerif.Model.Types
/-
Tie obligations for constants and pure metadata functions: what `rs2lean` prints from
/repo/src/{spec,compression,types,aes}.rs (`Gen/Spec.lean`, `Gen/Compression.lean`, `Gen/Types.lean`, `Gen/Aes.lean`)
equals the hand-written model.
A flipped threshold comparison, a changed signature or method code, or a changed attribute
mapping breaks one of these.
-/

namespace ZipVerif.Tie.Types
open ZipVerif ZipVerif.Model

theorem tie_local_sig : Gen.LOCAL_FILE_HEADER_SIGNATURE = LOCAL_SIG := rfl
theorem tie_central_sig : Gen.CENTRAL_DIRECTORY_HEADER_SIGNATURE = CENTRAL_SIG := rfl
theorem tie_eocd_sig : Gen.CENTRAL_DIRECTORY_END_SIGNATURE = EOCD_SIG := rfl
theorem tie_eocd64_sig : Gen.ZIP64_CENTRAL_DIRECTORY_END_SIGNATURE = EOCD64_SIG := rfl
theorem tie_locator_sig : Gen.ZIP64_CENTRAL_DIRECTORY_END_LOCATOR_SIGNATURE = LOCATOR_SIG := rfl
theorem tie_bytes_thr : Gen.ZIP64_BYTES_THR = ZIP64_BYTES_THR := by decide
theorem tie_entry_thr : Gen.ZIP64_ENTRY_THR.toNat = ZIP64_ENTRY_THR := by decide
theorem tie_default_version : Gen.DEFAULT_VERSION = DEFAULT_VERSION := rfl
theorem tie_s_ifdir : Gen.S_IFDIR = FileData.S_IFDIR := rfl
theorem tie_s_ifreg : Gen.S_IFREG = FileData.S_IFREG := rfl
theorem tie_aes_consts :
    Gen.PWD_VERIFY_LENGTH = 2 ∧ Gen.AUTH_CODE_LENGTH = 10 ∧ Gen.ITERATION_COUNT = 1000 := by decide

def methodOf : Gen.CompressionMethod → Method
  | .Stored => .stored | .Deflated => .deflated | .Bzip2 => .bzip2 | .Aes => .aes | .Zstd => .zstd
  | .Unsupported v => .unsupported v

def systemOf : Gen.System → System
  | .Dos => .dos | .Unix => .unix | .Unknown => .unknown

def aesModeOf : Gen.AesMode → AesMode
  | .Aes128 => .aes128 | .Aes192 => .aes192 | .Aes256 => .aes256

theorem tie_method_from_u16 (v : UInt16) :
    (Gen.CompressionMethod.from_u16 v).map methodOf = some (Method.fromU16 v) := by
  unfold Gen.CompressionMethod.from_u16 Method.fromU16
  -- the same chain of five tests on both sides
  by_cases h0 : v == 0
  · simp only [h0, ↓reduceIte]; rfl
  by_cases h8 : v == 8
  · simp only [h0, h8, ↓reduceIte]; rfl
  by_cases h12 : v == 12
  · simp only [h0, h8, h12, ↓reduceIte]; rfl
  by_cases h93 : v == 93
  · simp only [h0, h8, h12, h93, ↓reduceIte]; rfl
  by_cases h99 : v == 99
  · simp only [h0, h8, h12, h93, h99, ↓reduceIte]; rfl
  · simp only [h0, h8, h12, h93, h99, ↓reduceIte]; rfl

theorem tie_method_to_u16 (m : Gen.CompressionMethod) :
    Gen.CompressionMethod.to_u16 m = some (methodOf m).toU16 := by
  cases m <;> rfl

theorem tie_system_from_u8 (s : UInt8) :
    (Gen.System.from_u8 s).map systemOf = some (System.fromU8 s) := by
  unfold Gen.System.from_u8 System.fromU8
  by_cases h0 : s == 0
  · simp only [h0, ↓reduceIte]; rfl
  by_cases h3 : s == 3
  · simp only [h0, h3, ↓reduceIte]; rfl
  · simp only [h0, h3, ↓reduceIte]; rfl

theorem tie_system_discr (s : Gen.System) : (Rs.as' UInt16 s) = (systemOf s).discr := by
  cases s <;> rfl

theorem tie_aes_key_length (m : Gen.AesMode) :
    (Gen.AesMode.key_length m).map UInt64.toNat = some (aesModeOf m).keyLength := by
  cases m <;> rfl

theorem tie_aes_salt_length (m : Gen.AesMode) :
    (Gen.AesMode.salt_length m).map UInt64.toNat = some (aesModeOf m).saltLength := by
  cases m <;> rfl

/-! ### `ZipFileData` pure methods -/

/-- The fields the three methods read. -/
def viewOf (f : Gen.ZipFileData) (g : FileData) : Prop :=
  systemOf f.system = g.system ∧ f.external_attributes = g.externalAttributes ∧
  f.uncompressed_size = g.uncompressedSize ∧ f.compressed_size = g.compressedSize ∧
  f.header_start = g.headerStart ∧ methodOf f.compression_method = g.method

theorem tie_zip64_extension (f : Gen.ZipFileData) (g : FileData) (h : viewOf f g) :
    Gen.ZipFileData.zip64_extension f = some g.zip64Extension := by
  obtain ⟨_, _, hu, hc, hh, _⟩ := h
  simp only [Gen.ZipFileData.zip64_extension, FileData.zip64Extension, pure, ← hu, ← hc, ← hh]

theorem tie_version_needed (f : Gen.ZipFileData) (g : FileData) (h : viewOf f g) :
    Gen.ZipFileData.version_needed f = some g.versionNeeded := by
  have hz := tie_zip64_extension f g h
  obtain ⟨_, _, _, _, _, hm⟩ := h
  unfold Gen.ZipFileData.version_needed FileData.versionNeeded
  rw [hz, ← hm]
  cases hcm : f.compression_method <;> cases hzz : g.zip64Extension <;> rfl

theorem tie_unix_mode (f : Gen.ZipFileData) (g : FileData) (h : viewOf f g) :
    Gen.ZipFileData.unix_mode f = some g.unixMode := by
  obtain ⟨hs, he, _, _, _, _⟩ := h
  unfold Gen.ZipFileData.unix_mode FileData.unixMode
  rw [← hs, ← he]
  by_cases h0 : f.external_attributes == 0
  · simp [h0, bind, Option.bind, pure]
  · cases hsys : f.system
    · -- Dos
      by_cases hd : (0x10 : UInt32) == (f.external_attributes &&& 0x10) <;>
      by_cases hr : (0x01 : UInt32) == (f.external_attributes &&& 0x01) <;>
      simp [h0, hd, hr, bind, Option.bind, pure, systemOf, Gen.S_IFDIR, Gen.S_IFREG,
        FileData.S_IFDIR, FileData.S_IFREG]
    · -- Unix
      simp [h0, bind, Option.bind, pure, systemOf, Rs.Arith.shr]
    · simp [h0, bind, Option.bind, pure, systemOf]

end ZipVerif.Tie.Types
