import ZipVerif.Gen.Cp437
import ZipVerif.Lemmas.Text
/-
Tie obligations for `cp437::to_char`: the function `rs2lean` prints from /repo/src/cp437.rs
(`Gen/Cp437.lean`: `Gen.to_char : UInt8 → Option Char`, `none` = the `from_u32(..).unwrap()` panic) equals, for all 256
bytes, (1) the reference table generated from CPython's cp437 codec and (2) the hand-written model
the property theorems are stated over.  Both are kernel-checked evaluations of the generated
definition over the whole finite domain (`decide +kernel`, no `native_decide`), lifted to `∀ b`.
Any edit of a table arm, of the ASCII range arm or of the final `from_u32` breaks these.
-/

namespace ZipVerif.Tie.Cp437
open ZipVerif ZipVerif.Model ZipVerif.Spec

theorem tie_to_char_ref (b : UInt8) : Gen.to_char b = some (cp437Ref b) :=
  table_lift (f := Gen.to_char) (g := some) cp437RefTable_size (by decide +kernel) b

theorem tie_to_char_model (b : UInt8) : Gen.to_char b = Rs.charFromU32 (toCharU32 b) := by
  rw [tie_to_char_ref, toCharU32_eq_ref, charFromU32_val]

theorem tie_to_char_out (b : UInt8) :
    toChar b = match Gen.to_char b with
      | some c => .ok c
      | none => .panic "cp437::to_char: char::from_u32(output).unwrap()" := by
  rw [tie_to_char_model]; rfl

end ZipVerif.Tie.Cp437
