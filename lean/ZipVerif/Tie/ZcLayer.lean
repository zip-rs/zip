import ZipVerif.Gen.ZipCryptoLayer
import ZipVerif.Tie.Layers
import ZipVerif.Tie.ZipCrypto
import ZipVerif.Lemmas.Layers
import ZipVerif.Lemmas.ZipCrypto
/-
Tie obligations for the ZipCrypto reader / writer layers (zipcrypto.rs; tier T6, LAYER mode of rs2lean).
`rs2lean` prints `Gen.ZipCryptoReaderValid.read`, `Gen.ZipCryptoReader.validate`, `Gen.ZipCryptoWriter.{write, finish}`
into `Gen/ZipCryptoLayer.lean` from src/zipcrypto.rs; they call the seven translated `ZipCryptoKeys` functions
(`Tie/ZipCrypto.lean`).  The theorems equate them with
  * `Model.Layers.zipCryptoLayer` / `zcValidate` at `dec := Model.ZipCrypto.decryptByte` (C09; the C09 theorems
    hold for every `dec`), for every inner reader;
  * `Model.ZipCrypto.Reader.{validate, read}` over an in-memory input and `Writer.{write, finish}` (C15).
Hypothesis, of `tie_zipcrypto_read` alone: no inner `read` call delivers 2^64 bytes (`Small`; `Nat` vs `usize`).
-/

namespace ZipVerif.Tie.ZcLayer
open ZipVerif ZipVerif.Model.Layers ZipVerif.Model.ZipCrypto ZipVerif.Tie.Layers ZipVerif.Tie.ZipCrypto

variable {σ : Type}

/-- A `for byte in xs.iter_mut()` loop whose body applies a per-byte step `f` to one component
(`get`/`set`) of the loop-carried state: bytes and component are `mapBytes` / `mapKey` of `f`. -/
theorem iterMut_lens {τ κ : Type} (get : τ → κ) (set : τ → κ → τ) (f : κ → UInt8 → UInt8 × κ)
    (F : τ → UInt8 → Option (UInt8 × τ))
    (hF : ∀ st b, F st b = some ((f (get st) b).1, set st (f (get st) b).2))
    (hgs : ∀ st k, get (set st k) = k) (hss : ∀ st k k', set (set st k) k' = set st k')
    (hsg : ∀ st, set st (get st) = st) (xs : Bytes) (st : τ) :
    Rs.L.iterMut xs st F = some (mapBytes f (get st) xs, set st (mapKey f (get st) xs)) := by
  induction xs generalizing st with
  | nil => simp [Rs.L.iterMut, hsg]
  | cons b bs ih =>
    rw [Rs.L.iterMut, hF]
    simp only [ih, hgs, hss, mapBytes, mapKey_cons]

/-- `&buf[..count]` after an inner read that delivered `bs` -/
theorem sliceTo_filled (bs buf : Bytes) (hs : bs.length < 2 ^ 64) :
    Rs.sliceTo ((bs ++ buf.drop bs.length).take buf.length) (UInt64.ofNat bs.length) =
      if bs.length ≤ buf.length then some bs else none := by
  unfold Rs.sliceTo
  rw [U64.toNat_ofNat hs, filled_length]
  by_cases h : bs.length ≤ buf.length
  · simp only [h, if_true]
    rw [filled_take bs buf h]
  · simp [h]

/-- the model's step result as a value of the generated structure -/
def zcLift (m : ReadRes × σ × Keys) : ReadRes × Gen.ZipCryptoReaderValid σ :=
  (m.1, ⟨⟨m.2.1, ofModel m.2.2⟩⟩)

/-- **`ZipCryptoReaderValid::read` is the model's `zipCryptoLayer` step** (exactly the `count` bytes
the inner reader returned are decrypted, the keys advance by exactly those bytes; an inner error leaves
the keys alone). -/
theorem tie_zipcrypto_read (inner : Src σ) (self : Gen.ZipCryptoReaderValid σ) (buf : Bytes)
    (hin : Small inner) :
    view (@Gen.ZipCryptoReaderValid.read σ (readOf inner) self buf) =
      zcLift ((zipCryptoLayer decryptByte inner).rd (self.reader.file, toModel self.reader.keys) buf.length) := by
  unfold Gen.ZipCryptoReaderValid.read zipCryptoLayer statefulMapLayer view zcLift
  rcases hr : inner.rd self.reader.file buf.length with ⟨r, s'⟩
  simp only [read_readOf, hr, Id.run, Rs.L.id_pure]
  cases r with
  | err e => simp [viewRead, Rs.IoRes.fail, ofModel_toModel]
  | panic => simp [viewRead, Rs.IoRes.fail, ofModel_toModel]
  | ok bs =>
    have hs := hin _ _ _ _ hr
    simp only []
    rw [sliceTo_filled bs buf hs]
    by_cases hl : bs.length ≤ buf.length
    · simp only [hl, if_true]
      rw [iterMut_lens (fun st : Gen.ZipCryptoReaderValid σ => toModel st.reader.keys)
        (fun st k => ⟨⟨st.reader.file, ofModel k⟩⟩) decryptByte _
        (by intro st b; simp only [tie_decrypt_byte]; rfl) (by intros; rfl) (by intros; rfl)
        (by intro st; simp only [ofModel_toModel])]
      simp [viewRead, U64.toNat_ofNat hs, Rs.L.splice]
    · simp [hl, viewRead, ofModel_toModel]

/-! ### `ZipCryptoReader::validate` -/

/-- the validator of the generated code as the model's -/
def valOf : Gen.ZipCryptoValidator → Validator
  | .PkzipCrc32 c => .pkzipCrc32 c
  | .InfoZipMsdosTime t => .infoZipMsdosTime t

/-- the generated outcome of `validate` in the model's vocabulary -/
def openOf : Rs.IoRes (Option (Gen.ZipCryptoReaderValid σ)) → ZcOpen σ Keys
  | .ok (some v) => .valid (v.reader.file, toModel v.reader.keys)
  | .ok none => .wrongPassword
  | .err e => .err e
  | .panic => .panic

theorem idx_eq (bs : Bytes) (i : Nat) (h : i < 2 ^ 64) : Rs.L.idx bs (UInt64.ofNat i) = bs[i]? := by
  unfold Rs.L.idx; rw [U64.toNat_ofNat h]

/-- the comparison of the check byte, generated and model -/
theorem check_byte_cmp (b x : UInt8) (s : σ) (k : Keys) :
    openOf (if (b != x) = true then Rs.IoRes.ok none else .ok (some ⟨⟨s, ofModel k⟩⟩)) =
      if some x = some b then ZcOpen.valid (s, k) else .wrongPassword := by
  by_cases h : b = x
  · subst h
    rw [if_neg (by rw [bne_self_eq_false]; exact Bool.false_ne_true), if_pos rfl]
    show ZcOpen.valid (s, toModel (ofModel k)) = _
    rw [toModel_ofModel]
  · rw [if_pos (bne_iff_ne.mpr h), if_neg (fun e => h (Option.some.inj e).symm)]
    rfl

/-- **`ZipCryptoReader::validate` is the model's `zcValidate`**: 12 header bytes by `read_exact`,
decrypted in order, ONE byte (index 11) compared with the high byte of the CRC resp. of the DOS time;
the reader continues with the keys advanced by exactly the header. -/
theorem tie_zipcrypto_validate (inner : Src σ) (self : Gen.ZipCryptoReader σ) (v : Gen.ZipCryptoValidator) :
    openOf (@Gen.ZipCryptoReader.validate σ (readOf inner) self v) =
      zcValidate decryptByte inner self.file (toModel self.keys) (valOf v).byte := by
  unfold Gen.ZipCryptoReader.validate zcValidate
  have h12 : (Rs.vecZeros 12).length = 12 := by decide
  rcases hr : readExact inner self.file 12 with ⟨r, s'⟩
  simp only [read_exact_readOf, h12, hr, Id.run, Rs.L.id_pure]
  cases r with
  | err e => simp [openOf, Rs.IoRes.fail]
  | panic => simp [openOf, Rs.IoRes.fail]
  | ok hdr =>
    have hlen : hdr.length = 12 := readExactAux_len inner 12 self.file 12 hdr s' hr
    simp only []
    rw [iterMut_lens (fun st : Gen.ZipCryptoReader σ => toModel st.keys)
      (fun st k => ⟨st.file, ofModel k⟩) decryptByte _
      (by intro st b; simp only [tie_decrypt_byte]; rfl) (by intros; rfl) (by intros; rfl)
      (by intro st; simp only [ofModel_toModel])]
    have hi : Rs.L.idx (mapBytes decryptByte (toModel self.keys) hdr) 11 =
        (mapBytes decryptByte (toModel self.keys) hdr)[11]? := idx_eq _ 11 (by decide)
    obtain ⟨x, hx⟩ : ∃ x, (mapBytes decryptByte (toModel self.keys) hdr)[11]? = some x := by
      rw [List.getElem?_eq_getElem (by rw [mapBytes_length, hlen]; decide)]; exact ⟨_, rfl⟩
    have h24 : (24 : Nat) < 32 := by decide
    have h8 : (8 : Nat) < 16 := by decide
    have e24 : UInt32.ofNat 24 = 24 := rfl
    have e8 : UInt16.ofNat 8 = 8 := rfl
    -- both validators: a shift that cannot overflow, a cast to `u8`, the same comparison
    cases v <;>
      (simp only [hi, hx, Rs.Arith.shr, valOf, Validator.byte, h24, h8, if_true, e24, e8, Rs.as', Rs.As.cast]
       exact check_byte_cmp _ x s' _)

/-! ### Against the in-memory model of C15 (`Model.ZipCrypto.Reader`, `Writer`) -/

theorem tie_zipcrypto_new (file : σ) (password : Bytes) (inner : Src σ) :
    @Gen.ZipCryptoReader.new σ (readOf inner) file password = some ⟨file, ofModel (derive password)⟩ := by
  unfold Gen.ZipCryptoReader.new
  rw [tie_derive]; rfl

theorem decryptAll_eq_map (k : Keys) (cs : Bytes) :
    decryptAll k cs = (mapBytes decryptByte k cs, mapKey decryptByte k cs) :=
  Model.decryptAll_eq_map k cs

/-- an in-memory reader (`&[u8]`, `Cursor`): delivers as much as is asked for and there -/
def memSrc : Src Bytes := ⟨fun bs n => (.ok (bs.take n), bs.drop n)⟩

theorem readExactAux_mem (fuel : Nat) (bs : Bytes) (n : Nat) (hf : n ≤ fuel) :
    readExactAux memSrc fuel bs n =
      if n ≤ bs.length then (.ok (bs.take n), bs.drop n) else (.err .unexpectedEof, []) := by
  induction fuel generalizing bs n with
  | zero => cases Nat.le_zero.mp hf; simp [readExactAux]
  | succ f ih =>
    cases n with
    | zero => simp [readExactAux]
    | succ m =>
      cases bs with
      | nil => simp [readExactAux, memSrc]
      | cons b bt =>
        -- one call delivers `min (m + 1) len` bytes; the rest of the loop is the induction hypothesis at what is still
        -- needed: nothing if the input sufficed (`hl`), else a positive number from an empty input, the end of file
        have hne : ¬ List.take (m + 1) (b :: bt) = [] := by simp
        have hle : (List.take (m + 1) (b :: bt)).length ≤ m + 1 := List.length_take_le _ _
        have hrd : memSrc.rd (b :: bt) (m + 1) =
            (.ok (List.take (m + 1) (b :: bt)), List.drop (m + 1) (b :: bt)) := rfl
        simp only [readExactAux, hrd, hne, if_false, hle, if_true]
        rw [ih (List.drop (m + 1) (b :: bt)) (m + 1 - (List.take (m + 1) (b :: bt)).length)
          (by rw [List.length_take]
              exact Nat.sub_le_of_le_add (Nat.le_trans hf (Nat.add_le_add_left
                (Nat.le_min.mpr ⟨Nat.le_add_left 1 m, Nat.le_add_left 1 bt.length⟩) f)))]
        by_cases hl : m + 1 ≤ (b :: bt).length
        · have h0 : m + 1 - (List.take (m + 1) (b :: bt)).length = 0 := by
            rw [List.length_take, Nat.min_eq_left hl, Nat.sub_self]
          rw [h0, if_pos (Nat.zero_le _), if_pos hl]
          simp only [List.take_zero, List.append_nil, List.drop_zero]
        · have hk : ¬ m + 1 - (List.take (m + 1) (b :: bt)).length ≤ (List.drop (m + 1) (b :: bt)).length := by
            have hlt := Nat.le_of_lt (Nat.not_le.mp hl)
            rw [List.length_take, List.length_drop, Nat.min_eq_right hlt, Nat.sub_eq_zero_of_le hlt]
            exact fun h => hl (Nat.le_of_sub_eq_zero (Nat.le_zero.mp h))
          rw [if_neg hk, if_neg hl]

/-- the generated outcome of `validate` over an in-memory input, in the vocabulary of `Model.ZipCrypto` -/
def outOpen : Rs.IoRes (Option (Gen.ZipCryptoReaderValid Bytes)) → Out (Option Reader)
  | .ok (some v) => .ok (some ⟨v.reader.file, toModel v.reader.keys⟩)
  | .ok none => .ok none
  | .err e => .err (.io e)
  | .panic => .panic "zipcrypto.rs validate"

/-- the model's outcome of `validate` in the vocabulary of `Model.ZipCrypto` -/
def ofOpen : ZcOpen Bytes Keys → Out (Option Reader)
  | .valid st => .ok (some ⟨st.1, st.2⟩)
  | .wrongPassword => .ok none
  | .err e => .err (.io e)
  | .panic => .panic "zipcrypto.rs validate"

theorem outOpen_eq (g : Rs.IoRes (Option (Gen.ZipCryptoReaderValid Bytes))) : outOpen g = ofOpen (openOf g) := by
  rcases g with (_ | v) | e | _ <;> rfl

/-- **`ZipCryptoReader::validate` over an in-memory input is `Model.ZipCrypto.Reader.validate`** (C15). -/
theorem tie_zipcrypto_validate_mem (r : Gen.ZipCryptoReader Bytes) (v : Gen.ZipCryptoValidator) :
    outOpen (@Gen.ZipCryptoReader.validate Bytes (readOf memSrc) r v) =
      Reader.validate ⟨r.file, toModel r.keys⟩ (valOf v) := by
  rw [outOpen_eq, tie_zipcrypto_validate memSrc r v]
  unfold zcValidate readExact Reader.validate rdN
  rw [readExactAux_mem 12 r.file 12 (Nat.le_refl _)]
  by_cases hl : 12 ≤ r.file.length
  · rw [if_pos hl, if_pos hl]
    dsimp only
    rw [decryptAll_eq_map]
    by_cases hv : (mapBytes decryptByte (toModel r.keys) (List.take 12 r.file))[11]? = some (valOf v).byte
    · rw [if_pos hv, if_pos hv]; rfl
    · rw [if_neg hv, if_neg hv]; rfl
  · rw [if_neg hl, if_neg hl]; rfl

/-! ### `ZipCryptoWriter` -/

variable {ω : Type}

/-- the generated writer without its sink, as the model's -/
def wOf (w : Gen.ZipCryptoWriter ω) : Writer := ⟨w.buffer, toModel w.keys⟩

/-- **`ZipCryptoWriter::write` only buffers** and reports the whole length. -/
theorem tie_zipcrypto_write [Rs.Write ω] (w : Gen.ZipCryptoWriter ω) (buf : Bytes) :
    Gen.ZipCryptoWriter.write w buf =
      (.ok (Rs.len buf), ⟨w.writer, ((wOf w).write buf).buffer, w.keys⟩) := rfl

theorem tie_zipcrypto_flush [Rs.Write ω] (w : Gen.ZipCryptoWriter ω) :
    Gen.ZipCryptoWriter.flush w = (.ok (), w) := rfl

/-- **`ZipCryptoWriter::finish` is `Model.ZipCrypto.Writer.finish`** followed by ONE `write_all` of the
result and a `flush` of the sink: byte 11 of the buffer is replaced by the high byte of the CRC (a
buffer shorter than 12 bytes panics), then EVERYTHING buffered is encrypted in order. -/
theorem tie_zipcrypto_finish [Rs.Write ω] (w : Gen.ZipCryptoWriter ω) (crc : UInt32) :
    Gen.ZipCryptoWriter.finish w crc =
      match (wOf w).finish crc with
      | .ok bytes =>
        (match Rs.L.write_all w.writer bytes with
         | (.ok _, w1) =>
           (match Rs.L.flush w1 with
            | (.ok _, w2) => .ok w2
            | (r, _) => r.fail)
         | (r, _) => r.fail)
      | _ => .panic := by
  unfold Gen.ZipCryptoWriter.finish Writer.finish wOf
  have h24 : (24 : Nat) < 32 := by decide
  have e24 : UInt32.ofNat 24 = 24 := rfl
  have e11 : (11 : UInt64).toNat = 11 := rfl
  by_cases hl : 11 < w.buffer.length
  · simp only [Id.run, Rs.L.id_pure, Rs.Arith.shr, h24, if_true, e24, Rs.L.setIdx, e11, Rs.as', Rs.As.cast, hl]
    rw [iterMut_lens (fun st : Gen.ZipCryptoWriter ω => toModel st.keys)
      (fun st k => { st with keys := ofModel k }) encryptByte _
      (by intro st b; simp only [tie_encrypt_byte]; rfl) (by intros; rfl) (by intros; rfl)
      (by intro st; simp only [ofModel_toModel])]
    simp only [Model.encryptAll_eq_map]
    rcases Rs.L.write_all w.writer (mapBytes encryptByte (toModel w.keys) (w.buffer.set 11 (crc >>> 24).toUInt8)) with ⟨r1, w1⟩
    cases r1 with
    | ok u =>
      simp only []
      rcases Rs.L.flush w1 with ⟨r2, w2⟩
      cases r2 <;> rfl
    | err e => rfl
    | panic => rfl
  · simp [Id.run, Rs.L.id_pure, Rs.Arith.shr, h24, e24, Rs.L.setIdx, e11, hl]

end ZipVerif.Tie.ZcLayer
