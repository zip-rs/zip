import ZipVerif.Gen.TypesPaths
import ZipVerif.Gen.ReadPaths
import ZipVerif.Tie.AesCtr
import ZipVerif.Model.Paths
import ZipVerif.Spec.Tree
import ZipVerif.Lemmas.Paths
import ZipVerif.Lemmas.Text
/-
Tie obligations for the path functions (types.rs `ZipFileData::enclosed_name`, read.rs `path_depth`; tier T6,
LAYER mode of rs2lean; vocabulary `Basic/RsPath.lean`).  `rs2lean` prints them into `Gen/TypesPaths.lean` and
`Gen/ReadPaths.lean` from src/types.rs and src/read.rs: the NUL test, the `for` loop over `path.components()` with its
`match` (the `return None` on a prefix or root component, `depth.checked_sub(1)?`, `depth += 1`), the final
`Some(path)`; and the `fold` of `path_depth` (`depth + 1`, `saturating_sub(1)`, `_ => depth`).

They are tied as equations on the UTF-8 bytes of a name `n`: `enclosed_name` = `Model.Paths.enclosedName n` (the name
itself, or `None`), `path_depth` = `Spec.Tree.pathDepth` (the depth the deferred `chmod`s of `extract` are sorted by).

`Path::components()` is a NAMED PARAMETER of the generated code (`Rs.PathOps.components`); it is instantiated
with the model's `components` read through UTF-8 (`pathOps`, `components_encode`), which the exhaustive `paths`
correspondence stream validates against std.  The only fact about UTF-8 used: a byte below 0x80 occurs in an
encoding only as the character with that code (`ascii_mem_encodeChar` of Lemmas/Text; here for the byte 0:
`zero_mem_encode`; Tie/Mangled and Tie/Extract use it for `\` and `/`).  Hypothesis: the name is shorter than
2^64 - 1 characters (`usize` depth counter versus `Nat`; a Rust string is shorter than 2^63 bytes).
-/

namespace ZipVerif.Tie.Paths
open ZipVerif ZipVerif.Spec ZipVerif.Model ZipVerif.Spec.Paths ZipVerif.Model.Paths ZipVerif.Tie.Layers ZipVerif.Tie.AesLayer ZipVerif.Tie.AesCtr

/-- a model component as a `std::path::Component` (the payload as the bytes of the `OsStr`) -/
def encComp : Comp → Rs.Component
  | .rootDir => .RootDir
  | .curDir => .CurDir
  | .parentDir => .ParentDir
  | .normal s => .Normal (utf8Encode s)

/-- the parameters `Path::components` / `PathBuf::push` of the generated code := the functions of
`Model/Paths.lean`, on the UTF-8 bytes of a name -/
@[instance_reducible] def pathOps : Rs.PathOps :=
  ⟨fun bs => match utf8Strict bs with
      | some n => (components n).map encComp
      | none => [],
   fun buf c => match utf8Strict buf, utf8Strict c with
      | some b, some x => utf8Encode (push b x)
      | _, _ => []⟩

theorem components_encode (n : Name) :
    @Rs.PathOps.components pathOps (utf8Encode n) = (components n).map encComp := by
  show (match utf8Strict (utf8Encode n) with
      | some n => (components n).map encComp
      | none => []) = _
  rw [strict_encode]

/-! ### `path_depth` -/

theorem foldM_depth (body : UInt64 → Rs.Component → Option UInt64)
    (hb : ∀ (d : Nat) (c : Comp), d + 1 < 2 ^ 64 → body (UInt64.ofNat d) (encComp c) = some (UInt64.ofNat (Spec.Tree.depthStep d c))) :
    ∀ (cs : List Comp) (d : Nat), d + cs.length < 2 ^ 64 →
      Rs.L.foldM (cs.map encComp) (UInt64.ofNat d) body = some (UInt64.ofNat (cs.foldl Spec.Tree.depthStep d)) := by
  intro cs
  induction cs with
  | nil => intro d _; rfl
  | cons c r ih =>
    intro d hd
    simp only [List.length_cons] at hd
    simp only [List.map_cons, Rs.L.foldM, hb d c (by omega), List.foldl_cons]
    apply ih
    have : Spec.Tree.depthStep d c ≤ d + 1 := by cases c <;> simp [Spec.Tree.depthStep] <;> omega
    omega

theorem tie_path_depth (n : Name) (hn : n.length + 1 < 2 ^ 64) :
    @Gen.path_depth pathOps (utf8Encode n) = some (UInt64.ofNat (Spec.Tree.pathDepth n)) := by
  unfold Gen.path_depth Spec.Tree.pathDepth
  simp only [Id.run, Rs.L.id_pure, components_encode]
  have hz : (0 : UInt64) = UInt64.ofNat 0 := rfl
  rw [hz, foldM_depth _ ?_ (components n) 0 (by have := components_length_le n; omega)]
  intro d c hd
  have h1 : (1 : UInt64) = UInt64.ofNat 1 := rfl
  cases c with
  | normal s =>
    simp only [encComp, h1, U64.add_ofNat (show d < 2 ^ 64 by omega) (show 1 < 2 ^ 64 by omega), hd, if_true]
    rfl
  | parentDir =>
    simp only [encComp, Rs.saturatingSub, h1, U64.sub_ofNat (show d < 2 ^ 64 by omega) (show 1 < 2 ^ 64 by omega)]
    by_cases h0 : 1 ≤ d
    · simp [h0, Spec.Tree.depthStep]
    · have : d = 0 := by omega
      subst this
      rfl
  | rootDir => rfl
  | curDir => rfl

/-! ### `enclosed_name` -/

theorem zero_mem_encodeChar (c : Char) : (0 : UInt8) ∈ utf8EncodeChar c ↔ '\x00' = c := by
  rw [ascii_mem_encodeChar (by decide)]
  exact ⟨fun h => (char_eq_of_toNat h).symm, fun h => by rw [← h]; rfl⟩

theorem zero_mem_encode (n : Name) : (0 : UInt8) ∈ utf8Encode n ↔ '\x00' ∈ n := by
  induction n with
  | nil => exact ⟨nofun, nofun⟩
  | cons c r ih => rw [utf8Encode, List.mem_append, zero_mem_encodeChar, ih, List.mem_cons]

theorem containsAscii_nul (n : Name) : Rs.Str.containsAscii (utf8Encode n) 0 = decide ('\x00' ∈ n) := by
  rw [Bool.eq_iff_iff, decide_eq_true_iff]
  exact List.contains_iff_mem.trans (zero_mem_encode n)

/-- what one pass through the body of the loop of `enclosed_name` has to do -/
def stepOf (d : Nat) : Comp → Rs.Step UInt64 (Option Bytes)
  | .rootDir => .ret none
  | .parentDir => if d = 0 then .ret none else .next (UInt64.ofNat (d - 1))
  | .normal _ => .next (UInt64.ofNat (d + 1))
  | .curDir => .next (UInt64.ofNat d)

theorem forEach_walk (body : UInt64 → Rs.Component → Option (Rs.Step UInt64 (Option Bytes)))
    (hb : ∀ (d : Nat) (c : Comp), d + 1 < 2 ^ 64 → body (UInt64.ofNat d) (encComp c) = some (stepOf d c)) :
    ∀ (cs : List Comp) (d : Nat), d + cs.length < 2 ^ 64 →
      Rs.L.forEach (cs.map encComp) (UInt64.ofNat d) body =
        match walk cs d with
        | some d' => some (.done (UInt64.ofNat d'))
        | none => some (.ret none) := by
  intro cs
  induction cs with
  | nil => intro d _; rfl
  | cons c r ih =>
    intro d hd
    simp only [List.length_cons] at hd
    simp only [List.map_cons, Rs.L.forEach, hb d c (by omega)]
    cases c with
    | rootDir => simp [stepOf, walk]
    | curDir => simp only [stepOf, walk]; exact ih d (by omega)
    | normal s => simp only [stepOf, walk]; exact ih (d + 1) (by omega)
    | parentDir =>
      by_cases h0 : d = 0
      · simp [stepOf, walk, h0]
      · simp only [stepOf, walk, h0, if_false]; exact ih (d - 1) (by omega)

theorem tie_enclosed_name (data : Gen.ZipFileData) (n : Name) (hname : data.file_name = utf8Encode n)
    (hn : n.length + 1 < 2 ^ 64) :
    @Gen.ZipFileData.enclosed_name pathOps data = some ((enclosedName n).map utf8Encode) := by
  unfold Gen.ZipFileData.enclosed_name enclosedName
  simp only [Id.run, Rs.L.id_pure, hname, containsAscii_nul, components_encode]
  by_cases h0 : '\x00' ∈ n
  · simp [h0]
  · simp only [h0, decide_false, Bool.false_eq_true, if_false]
    have hz : (0 : UInt64) = UInt64.ofNat 0 := rfl
    rw [hz, forEach_walk _ ?_ (components n) 0 (by have := components_length_le n; omega)]
    · cases walk (components n) 0 <;> rfl
    · intro d c hd
      have h1 : (1 : UInt64) = UInt64.ofNat 1 := rfl
      cases c with
      | rootDir => rfl
      | curDir => rfl
      | normal s =>
        simp only [encComp, h1, U64.add_ofNat (show d < 2 ^ 64 by omega) (show 1 < 2 ^ 64 by omega), hd, if_true]
        rfl
      | parentDir =>
        simp only [encComp, h1, U64.sub_ofNat (show d < 2 ^ 64 by omega) (show 1 < 2 ^ 64 by omega)]
        by_cases h0 : d = 0
        · subst h0; rfl
        · have : 1 ≤ d := by omega
          simp [this, stepOf, h0]

end ZipVerif.Tie.Paths
