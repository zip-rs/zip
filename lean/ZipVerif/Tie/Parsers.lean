import ZipVerif.Gen.Spec
import ZipVerif.Gen.Read
import ZipVerif.Model.Records
import ZipVerif.Tie.Types
import ZipVerif.Tie.SpecRecords
import ZipVerif.Tie.Records

/-
Tie obligations for the PARSERS of src/spec.rs and src/read.rs (translator tier T5, READ mode).

`rs2lean` prints the functions tied here (`Gen/Spec.lean`, `Gen/Read.lean`) from /repo/src as computations in the
model's own I/O monad `M` (`Gen.… : Model.M …`, vocabulary in `Basic/RsM.lean`): `reader.read_uNN::<LittleEndian>()?`
is `M.readUNN`, `read_exact` into a `vec![0; n]` is `M.readExact n`, `seek(SeekFrom::…)` is `M.seek`, `?`
is the monadic bind, `return Err(e)` is `M.throw`, integers keep their Rust widths with CHECKED
`+ - *` (an overflow is `M.panic`), `while` loops are fuelled (out of fuel = panic).  `parse_extra_field` does no I/O
and mutates its `&mut ZipFileData`: it is a computation in `Rs.P Gen.ZipFileData` (`Basic/Rs.lean`: `Except`, the error
carrying `Err(e)` or `none` = panic and the entry as it stands) and is tied through `Rs.P.run`.  A theorem
`f <$> Gen.g … = Model.g …` is an equation between functions `Option Nat → Dev → Out α × Dev`: it
holds for every device state and every fault index - same I/O calls in the same order, same
outcome, same final device.  `f` takes the result to the model's: `eocdOf`, `eocd64Of`, `locatorOf`
(`Tie/SpecRecords`), `dataOf` (`Tie/Records`) and, defined here in front of their theorems, `eocdRes`, `eocd64Res`,
`countsRes`, `loopRes`, `pefRes`.

Hypotheses (`tie_eocd_parse`, `tie_locator_parse`, `tie_central_header_inner` have none):
  tie_eocd_find_and_parse    stated at a device `d` with `d.buf.length < 2^64`: the source holds the file length in a `u64`
  tie_eocd64_find_and_parse  `search_upper_bound < u64::MAX`: at `u64::MAX` the source's `pos += 1` overflows
  tie_get_directory_counts   the archive comment is shorter than `2^63 - 42`: `-(20 + 22 + len as i64)` is computed in `i64`
  tie_parse_extra_field      the extra field is shorter than `2^62`: cursor position plus `len_left` stays inside `i64`
                             (`tie_central_header_inner` calls it on a field of `u16` length)
The fuel `rs2lean` gives a loop is an argument of the loop lemmas (`eocd_loop_tie`, `eocd64_loop_tie`, `pef_loop`: any
`n` above the number of rounds) and the `tie_` theorem shows that the generated one is such an `n`.

The proofs normalise both sides to right-nested binds (`msimp`; this file, which imports nothing of `Lemmas/`, has a
`LawfulMonad M` instance and `M.bind_apply` / `M.attempt_apply` of its own beside those of `Lemmas/MLawful`, `MRun`),
peel equal I/O steps with `bind_congr`, and case-split on the data-dependent conditions; checked
arithmetic is discharged from the guards the source itself performs (dropping a guard leaves a
reachable `M.panic` on the generated side and the proof no longer closes).  Swapping two reads,
changing a width, a constant, a comparison (`>=` → `>`), an error variant, or the `len_left`
bookkeeping of `parse_extra_field` changes the generated term and breaks the corresponding theorem;
code outside the translated subset makes the item `untranslated` (reported by rs2lean).  `M.ext`, `msimp`,
`guard_congr` and the `M.…_bind` / `M.…_congr` rules of this file are about `M` code at large: the other Tie modules
on translated `M` code (ReaderGlue, ReaderGlue2, ReaderApi, AppendOpen, StreamGlue, WriterSM) use `M.ext`, `msimp`,
`guard_congr`, `M.throw_bind` / `M.panic_bind` / `M.ite_bind` and `M.readExact_bind_congr` too; the three rewrite
rules for checked arithmetic and `M.bind_map_congr` are used here only.

TRUSTED: the two string decoders are not translated.  `String::from_utf8_lossy` and `from_cp437` are, in the
vocabulary (`Rs.fromUtf8Lossy` / `Rs.fromCp437`, `Basic/RsM.lean`), the model's `Text.decodeToUtf8 true` / `false` by
definition, so the decoding of names and comments in `tie_central_header_inner` is tied by `rfl`.
-/
set_option linter.unusedSimpArgs false
set_option linter.unusedSectionVars false
set_option linter.unusedVariables false

namespace ZipVerif.Tie.Parsers
open ZipVerif ZipVerif.Model ZipVerif.Tie.SpecRecords ZipVerif.Tie.Records

/-! ### `M` is a lawful monad -/

theorem M.ext {α} {x y : M α} (h : ∀ fa d, x fa d = y fa d) : x = y := by
  funext fa d; exact h fa d

theorem M.bind_apply {α β} (x : M α) (f : α → M β) (fa : Option Nat) (d : Dev) :
    (x >>= f) fa d = match x fa d with
      | (.ok a, d') => f a fa d'
      | (.err e, d') => (.err e, d')
      | (.panic s, d') => (.panic s, d') := rfl

theorem M.pure_apply {α} (a : α) (fa : Option Nat) (d : Dev) : (pure a : M α) fa d = (.ok a, d) := rfl

instance : LawfulMonad M := LawfulMonad.mk'
  (id_map := by
    intro α x
    apply M.ext; intro fa d
    show (x >>= fun a => pure (id a)) fa d = x fa d
    rw [M.bind_apply]
    rcases h : x fa d with ⟨o, d'⟩
    cases o <;> rfl)
  (pure_bind := by intros; rfl)
  (bind_assoc := by
    intro α β γ x f g
    apply M.ext; intro fa d
    simp only [M.bind_apply]
    rcases h : x fa d with ⟨o, d'⟩
    cases o <;> simp only []
    )


theorem M.throw_bind {α β} (e : ZErr) (f : α → M β) : (M.throw e >>= f) = M.throw e := rfl
theorem M.panic_bind {α β} (s : String) (f : α → M β) : (M.panic s >>= f) = M.panic s := rfl
theorem M.ite_bind {α β} (c : Prop) [Decidable c] (a b : M α) (f : α → M β) :
    ((if c then a else b) >>= f) = if c then a >>= f else b >>= f := by
  split <;> rfl

/-- Normal form of straight-line `M` code: right-nested binds. -/
syntax "msimp" ("[" Lean.Parser.Tactic.simpLemma,* "]")? : tactic
macro_rules
  | `(tactic| msimp [$ls,*]) => `(tactic| simp only [bind_assoc, pure_bind, map_eq_pure_bind,
      M.throw_bind, M.panic_bind, M.ite_bind, Rs.R.err, Rs.R.lift, Rs.R.read_exact, Rs.R.ok_or, Rs.zerr,
      Rs.R.seek, Rs.R.stream_position,
      Rs.vecZeros, List.length_replicate, $ls,*])
  | `(tactic| msimp) => `(tactic| msimp [bind_assoc])

/-! The steps of a walk through straight-line code, besides `bind_congr` for an I/O call both sides make: `guard_congr`
for a test both sides make; `M.err_if_bind`, `M.ok_or_sub_bind`, `M.ok_or_add_bind` turn an early return and a checked
operation of the source into the guard the model states, so that they become such tests.  These three are stated on
`Rs.R.err` / `Rs.R.ok_or`, which `msimp` unfolds: they go into a `simp only` or `rw` of their own, not after `msimp`. -/

theorem guard_congr {α} {c : Prop} {_ : Decidable c} {a b b' : α} (h : ¬ c → b = b') :
    (if c then a else b) = if c then a else b' := ite_congr rfl (fun _ => rfl) h

/-- a first step that is not the same call on both sides but whose results correspond under `G`: the ZIP64 locator
probe of `get_directory_counts`, a block of its own in front of the `match` on what it found (the one use) -/
theorem M.bind_map_congr {α α' β} {G : α → α'} {x : M α} {x' : M α'} {k : α → M β} {k' : α' → M β}
    (hx : G <$> x = x') (H : ∀ a, k a = k' (G a)) : x >>= k = x' >>= k' := by
  subst hx
  rw [map_eq_pure_bind, bind_assoc]
  exact bind_congr fun a => (H a).trans (pure_bind _ _).symm

/-- `if c { return Err(e) }` -/
theorem M.err_if_bind {β} (c : Prop) [Decidable c] (e : Rs.ZipErr) (k : Unit → M β) :
    ((if c then Rs.R.err e else pure ()) >>= k) = if c then M.throw (Rs.zerr e) else k () := by
  split <;> rfl

/-- `a.checked_sub(b).ok_or(e)?` -/
theorem M.ok_or_sub_bind {β} (a b : UInt64) (e : Rs.ZipErr) (k : UInt64 → M β) :
    (Rs.R.ok_or (Rs.Arith.sub a b) e >>= k) = if a.toNat < b.toNat then M.throw (Rs.zerr e) else k (a - b) := by
  by_cases h : a.toNat < b.toNat
  · rw [if_pos h, U64.sub_none a b (by omega)]; rfl
  · rw [if_neg h, (U64.sub_some a b (by omega)).1]; rfl

/-- `a.checked_add(b).ok_or(e)?` -/
theorem M.ok_or_add_bind {β} (a b : UInt64) (e : Rs.ZipErr) (k : UInt64 → M β) :
    (Rs.R.ok_or (Rs.Arith.add a b) e >>= k) =
      if a.toNat + b.toNat ≥ 18446744073709551616 then M.throw (Rs.zerr e) else k (a + b) := by
  by_cases h : a.toNat + b.toNat < 2 ^ 64
  · rw [if_neg (by omega), (U64.add_some a b h).1]; rfl
  · rw [if_pos (by omega), U64.add_none a b h]; rfl

theorem as_u16_u64_toNat (x : UInt16) : (Rs.as' UInt64 x).toNat = x.toNat := by
  simp only [Rs.as', Rs.As.cast, UInt16.toNat_toUInt64]

theorem tie_eocd_parse : eocdOf <$> Gen.CentralDirectoryEnd.parse = Model.parseEocd := by
  unfold Gen.CentralDirectoryEnd.parse Model.parseEocd
  msimp [as_u16_u64_toNat, eocdOf]
  rfl

theorem tie_locator_parse :
    locatorOf <$> Gen.Zip64CentralDirectoryEndLocator.parse = Model.parseLocator := by
  unfold Gen.Zip64CentralDirectoryEndLocator.parse Model.parseLocator
  msimp [locatorOf]
  rfl


/-! ### `CentralDirectoryEnd::find_and_parse` -/

/-- `seek(SeekFrom::Start(n))` for its effect only. -/
def M.seekTo (n : Nat) : M Unit := M.seek (.start n) >>= fun _ => pure ()

/-- `seek(Start(n))` returns `n`: the continuation gets `n` itself, so that `UInt64.ofNat` of the position a loop
seeks to, `pos.toNat`, folds back to `pos` with no bound on the device. -/
theorem M.seek_start_bind {β} (n : Nat) (k : Nat → M β) :
    (M.seek (.start n) >>= k) = (M.seekTo n >>= fun _ => k n) := by
  apply M.ext; intro fa d
  simp only [M.seekTo, bind_assoc, pure_bind]
  simp only [M.bind_apply, M.seek, M.prim]
  have h : ¬ ((n : Int) < 0) := by omega
  by_cases hf : fa = some d.calls
  · simp only [hf, ↓reduceIte]
  · simp only [hf, h, ↓reduceIte, Int.toNat_natCast]


theorem R.whileLoop_succ {σ ρ : Type} (cond : σ → M Bool) (body : σ → M (Rs.Step σ ρ)) (n : Nat) (s : σ) :
    Rs.R.whileLoop cond body (n + 1) s = (do
      if (← cond s) then
        match (← body s) with
        | .next s' => Rs.R.whileLoop cond body n s'
        | .brk s' => pure (.done s')
        | .ret r => pure (.ret r)
      else pure (.done s)) := rfl

def eocdRes (r : Gen.CentralDirectoryEnd × UInt64) : Eocd × Nat := (eocdOf r.1, r.2.toNat)

/-- The backward search.  `n` is the fuel of the generated loop, where running out is a panic: it covers the
`pos + 1 - bound` rounds and the test that ends them.  `f` is the model's fuel, where running out is the
`InvalidArchive` the exit of the loop gives anyway: the rounds suffice.  `22 - 6` is `HEADER_SIZE - 6`, the source's
`BYTES_BETWEEN_MAGIC_AND_COMMENT_SIZE` as `rs2lean` passes it to the loop; `h16` makes it the model's `seek (.current 16)`. -/
theorem eocd_loop_tie (bound : UInt64) :
    ∀ (n : Nat) (pos : UInt64) (f : Nat),
      pos.toNat + 1 - bound.toNat + 1 ≤ n → pos.toNat + 1 - bound.toNat ≤ f →
      (Rs.R.whileLoop (Gen.CentralDirectoryEnd.find_and_parse.loop1_cond bound (22 - 6))
          (Gen.CentralDirectoryEnd.find_and_parse.loop1_body bound (22 - 6)) n pos >>= fun t =>
        match t with
        | Rs.LoopEnd.ret r => pure (eocdRes r)
        | Rs.LoopEnd.done _ => M.throw ZErr.invalidArchive) =
      findEocdLoop bound.toNat f pos.toNat := by
  intro n
  induction n with
  | zero => intro pos f h; omega
  | succ n ih =>
    intro pos f hn hf
    rw [R.whileLoop_succ]
    have hcond : Gen.CentralDirectoryEnd.find_and_parse.loop1_cond bound (22 - 6) pos =
        pure (decide (pos ≥ bound)) := rfl
    rw [hcond]
    generalize Rs.R.whileLoop (Gen.CentralDirectoryEnd.find_and_parse.loop1_cond bound (22 - 6))
      (Gen.CentralDirectoryEnd.find_and_parse.loop1_body bound (22 - 6)) n = W at ih ⊢
    by_cases hlt : pos.toNat < bound.toNat
    · have hc : decide (pos ≥ bound) = false := by
        simp only [ge_iff_le, UInt64.le_iff_toNat_le, decide_eq_false_iff_not]; omega
      msimp [hc]
      cases f with
      | zero => rfl
      | succ f => simp only [findEocdLoop, hlt, ↓reduceIte, Bool.false_eq_true]
    · have hc : decide (pos ≥ bound) = true := by
        simp only [ge_iff_le, UInt64.le_iff_toNat_le, decide_eq_true_eq]; omega
      obtain ⟨f, rfl⟩ : ∃ f', f = f' + 1 := ⟨f - 1, by omega⟩
      unfold Gen.CentralDirectoryEnd.find_and_parse.loop1_body findEocdLoop
      have h16 : (Rs.as' Int64 ((22 : UInt64) - 6)).toInt = 16 := by decide
      msimp [hc, hlt, h16, M.seek_start_bind, UInt64.ofNat_toNat, if_true, if_false]
      refine bind_congr fun _ => bind_congr fun x => ?_
      have hsig : Gen.CENTRAL_DIRECTORY_END_SIGNATURE = EOCD_SIG := rfl
      rw [hsig]
      by_cases hx : (x == EOCD_SIG) = true
      · rw [if_pos hx, if_pos hx, ← tie_eocd_parse]
        msimp [eocdRes]
      · rw [if_neg hx, if_neg hx]
        have e1 : (1 : UInt64).toNat = 1 := by decide
        by_cases h0 : pos.toNat = 0
        · rw [if_pos h0, U64.sub_none pos 1 (by rw [e1]; omega)]
          msimp
        · obtain ⟨hs, hp⟩ := U64.sub_some pos 1 (by rw [e1]; omega)
          rw [e1] at hp
          rw [if_neg h0, hs]
          msimp
          rw [← hp]
          exact ih (pos - 1) f (by omega) (by omega)


theorem M.seek_end0_congr {β} (k k' : Nat → M β) (fa : Option Nat) (d : Dev)
    (h : ∀ fa' d', k d.buf.length fa' d' = k' d.buf.length fa' d') :
    (M.seek (.endOff 0) >>= k) fa d = (M.seek (.endOff 0) >>= k') fa d := by
  simp only [M.bind_apply, M.seek, M.prim]
  have h0 : ¬ ((d.buf.length : Int) < 0) := by omega
  by_cases hf : fa = some d.calls
  · simp only [hf, ↓reduceIte]
  · simp only [hf, Int.add_zero, h0, ↓reduceIte, Int.toNat_natCast, h]

/-- Pointwise, at a device whose length fits `u64`: the length is what `seek(End(0))` returns
(`M.seek_end0_congr` hands it to both continuations) and the source holds it in a `u64`. -/
theorem tie_eocd_find_and_parse (fa : Option Nat) (d : Dev) (hd : d.buf.length < 2 ^ 64) :
    (eocdRes <$> Gen.CentralDirectoryEnd.find_and_parse) fa d = Model.findAndParseEocd fa d := by
  unfold Gen.CentralDirectoryEnd.find_and_parse Model.findAndParseEocd
  have h0 : (0 : Int64).toInt = 0 := by decide
  msimp [h0]
  apply M.seek_end0_congr
  intro fa' d'
  generalize d.buf.length = L at hd
  have hL := U64.toNat_ofNat hd
  have hadd : Rs.Arith.add (22 : UInt64) (Rs.as' UInt64 (65535 : UInt16)) = some 65557 := by decide
  have e22 : (22 : UInt64).toNat = 22 := by decide
  have e65557 : (65557 : UInt64).toNat = 65557 := by decide
  rw [hadd]
  msimp
  simp only [decide_eq_true_eq, UInt64.lt_iff_toNat_lt, hL, e22]
  refine congrFun (congrFun (guard_congr fun hlt => ?_) fa') d'
  obtain ⟨hsub, hpos⟩ := U64.sub_some (UInt64.ofNat L) 22 (by rw [hL, e22]; omega)
  rw [hL, e22] at hpos
  have hbound : (Rs.saturatingSub (UInt64.ofNat L) 65557).toNat = L - (22 + 65535) := by
    simp only [Rs.saturatingSub, Rs.Arith.sub, hL, e65557]
    by_cases h : 65557 ≤ L
    · rw [if_pos h, Option.getD_some,
        UInt64.toNat_sub_of_le _ _ (by rw [UInt64.le_iff_toNat_le, e65557, hL]; exact h), e65557, hL]
    · rw [if_neg h, Option.getD_none]
      have : (0 : UInt64).toNat = 0 := by decide
      omega
  rw [hsub]
  msimp
  have key := eocd_loop_tie (Rs.saturatingSub (UInt64.ofNat L) 65557)
    ((UInt64.ofNat L - 22).toNat - (Rs.saturatingSub (UInt64.ofNat L) 65557).toNat + 2)
    (UInt64.ofNat L - 22) (L - 22 - (L - (22 + 65535)) + 1) (by omega) (by omega)
  rw [hbound, hpos] at key
  rw [← key, hbound, hpos]
  refine bind_congr fun t => ?_
  cases t <;> rfl

/-! ### `Zip64CentralDirectoryEnd::find_and_parse` -/

def eocd64Res (r : Gen.Zip64CentralDirectoryEnd × UInt64) : Eocd64 × Nat := (eocd64Of r.1, r.2.toNat)

/-- The forward search, with the two fuels of `eocd_loop_tie`; `nominal ≤ pos` keeps `pos - nominal_offset`, the
archive offset, from underflowing. -/
theorem eocd64_loop_tie (nominal upper : UInt64) (hu : upper.toNat + 1 < 2 ^ 64) :
    ∀ (n : Nat) (pos : UInt64) (f : Nat),
      nominal.toNat ≤ pos.toNat →
      upper.toNat + 1 - pos.toNat + 1 ≤ n → upper.toNat + 1 - pos.toNat ≤ f →
      (Rs.R.whileLoop (Gen.Zip64CentralDirectoryEnd.find_and_parse.loop1_cond upper nominal)
          (Gen.Zip64CentralDirectoryEnd.find_and_parse.loop1_body upper nominal) n pos >>= fun t =>
        match t with
        | Rs.LoopEnd.ret r => pure (eocd64Res r)
        | Rs.LoopEnd.done _ => M.throw ZErr.invalidArchive) =
      findEocd64Loop nominal.toNat upper.toNat f pos.toNat := by
  intro n
  induction n with
  | zero => intro pos f _ h; omega
  | succ n ih =>
    intro pos f hnom hn hf
    rw [R.whileLoop_succ]
    have hcond : Gen.Zip64CentralDirectoryEnd.find_and_parse.loop1_cond upper nominal pos =
        pure (decide (pos ≤ upper)) := rfl
    rw [hcond]
    generalize Rs.R.whileLoop (Gen.Zip64CentralDirectoryEnd.find_and_parse.loop1_cond upper nominal)
      (Gen.Zip64CentralDirectoryEnd.find_and_parse.loop1_body upper nominal) n = W at ih ⊢
    by_cases hgt : pos.toNat > upper.toNat
    · have hc : decide (pos ≤ upper) = false := by
        simp only [UInt64.le_iff_toNat_le, decide_eq_false_iff_not]; omega
      msimp [hc]
      cases f with
      | zero => rfl
      | succ f => simp only [findEocd64Loop, hgt, ↓reduceIte, Bool.false_eq_true]
    · have hc : decide (pos ≤ upper) = true := by
        simp only [UInt64.le_iff_toNat_le, decide_eq_true_eq]; omega
      obtain ⟨f, rfl⟩ : ∃ f', f = f' + 1 := ⟨f - 1, by omega⟩
      unfold Gen.Zip64CentralDirectoryEnd.find_and_parse.loop1_body findEocd64Loop
      obtain ⟨hsub, hoff⟩ := U64.sub_some pos nominal hnom
      have e1 : (1 : UInt64).toNat = 1 := by decide
      obtain ⟨hadd, hp⟩ := U64.add_some pos 1 (by rw [e1]; omega)
      rw [e1] at hp
      msimp [hc, hgt, hsub, hadd, M.seek_start_bind, if_true, if_false]
      refine bind_congr fun _ => bind_congr fun x => ?_
      have hsig : Gen.ZIP64_CENTRAL_DIRECTORY_END_SIGNATURE = EOCD64_SIG := rfl
      rw [hsig]
      by_cases hx : (x == EOCD64_SIG) = true
      · rw [if_pos hx, if_pos hx]
        msimp [eocd64Res, eocd64Of, hoff]
      · rw [if_neg hx, if_neg hx, ← hp]
        exact ih (pos + 1) f (by omega) (by omega) (by omega)

/-- `Zip64CentralDirectoryEnd::find_and_parse` for every pair of bounds with `search_upper_bound < u64::MAX`
(at `u64::MAX` the source's `pos += 1` can overflow; `get_directory_counts` passes `cde_start_pos - 60`). -/
theorem tie_eocd64_find_and_parse (nominal upper : UInt64) (hu : upper.toNat + 1 < 2 ^ 64) :
    eocd64Res <$> Gen.Zip64CentralDirectoryEnd.find_and_parse nominal upper =
      Model.findEocd64 nominal.toNat upper.toNat := by
  unfold Gen.Zip64CentralDirectoryEnd.find_and_parse Model.findEocd64
  msimp
  rw [← eocd64_loop_tie nominal upper hu (upper.toNat - nominal.toNat + 2) nominal
    (upper.toNat + 1 - nominal.toNat) (Nat.le_refl _) (by omega) (Nat.le_refl _)]
  refine bind_congr fun t => ?_
  cases t <;> rfl


/-! ### `ZipArchive::get_directory_counts` -/

theorem M.attempt_apply {α} (m : M α) (fa : Option Nat) (d : Dev) :
    M.attempt m fa d = match m fa d with
      | (.ok a, d') => (.ok (.ok a), d')
      | (.err e, d') => (.ok (.error e), d')
      | (.panic s, d') => (.panic s, d') := rfl

theorem M.attempt_map {α β} (f : α → β) (m : M α) :
    M.attempt (m >>= fun a => pure (f a)) = (M.attempt m >>= fun r => pure (r.map f)) := by
  apply M.ext; intro fa d
  simp only [M.bind_apply, M.attempt_apply, M.pure_apply]
  rcases m fa d with ⟨o, d'⟩
  cases o <;> rfl

theorem len_as_i64 (bs : Bytes) (h : bs.length < 2 ^ 63) :
    (Rs.as' Int64 (Rs.len bs)).toInt = bs.length := by
  simp only [Rs.as', Rs.As.cast, Rs.len, UInt64.toInt64_ofNat']
  exact Int64.toInt_ofNat_of_lt h

/-- `-(20 + 22 + footer.zip_file_comment.len() as i64)` -/
theorem seek_offset (bs : Bytes) (h : bs.length < 2 ^ 63 - 42) :
    ∃ t2 t3 : Int64, Rs.Arith.add (42 : Int64) (Rs.as' Int64 (Rs.len bs)) = some t2 ∧
      Rs.checkedNeg t2 = some t3 ∧ t3.toInt = -(20 + 22 + (bs.length : Int)) := by
  have hl := len_as_i64 bs (by omega)
  have e42 : (42 : Int64).toInt = 42 := by decide
  refine ⟨Int64.ofInt (42 + bs.length), Int64.ofInt (-(42 + (bs.length : Int))), ?_, ?_, ?_⟩
  · simp only [Rs.Arith.add, hl, e42]
    rw [if_pos (by omega)]
  · have e : (Int64.ofInt (42 + (bs.length : Int))).toInt = 42 + bs.length :=
      Int64.toInt_ofInt_of_le (by omega) (by omega)
    simp only [Rs.checkedNeg, e]
    rw [if_neg (by omega)]
  · rw [Int64.toInt_ofInt_of_le (by omega) (by omega)]; omega


def countsRes (r : UInt64 × UInt64 × UInt64) : Nat × Nat × Nat := (r.1.toNat, r.2.1.toNat, r.2.2.toNat)

theorem as_u32_u64_toNat (x : UInt32) : (Rs.as' UInt64 x).toNat = x.toNat := by
  simp only [Rs.as', Rs.As.cast, UInt32.toNat_toUInt64]

/-- No ZIP64 locator: the archive offset from the end record alone. -/
theorem counts_none (cde : UInt64) (sz off : UInt32) (n : UInt16) :
    (Rs.R.ok_or ((Rs.Arith.sub cde (Rs.as' UInt64 sz)).bind fun x => Rs.Arith.sub x (Rs.as' UInt64 off))
        Rs.ZipErr.InvalidArchive >>= fun x =>
      Rs.R.lift (Rs.Arith.add (Rs.as' UInt64 off) x) >>= fun x_1 =>
      (pure (countsRes (x, x_1, Rs.as' UInt64 n)) : M _)) =
    if cde.toNat < sz.toNat + off.toNat then M.throw ZErr.invalidArchive
    else pure (cde.toNat - sz.toNat - off.toNat, off.toNat + (cde.toNat - sz.toNat - off.toNat), n.toNat) := by
  have hsz := as_u32_u64_toNat sz
  have hoff := as_u32_u64_toNat off
  have hn := as_u16_u64_toNat n
  have hc := UInt64.toNat_lt cde
  by_cases h1 : (Rs.as' UInt64 sz).toNat ≤ cde.toNat
  · obtain ⟨e1, v1⟩ := U64.sub_some _ _ h1
    by_cases h2 : (Rs.as' UInt64 off).toNat ≤ (cde - Rs.as' UInt64 sz).toNat
    · obtain ⟨e2, v2⟩ := U64.sub_some _ _ h2
      obtain ⟨e3, v3⟩ := U64.add_some (Rs.as' UInt64 off) (cde - Rs.as' UInt64 sz - Rs.as' UInt64 off) (by omega)
      rw [e1, Option.bind_some, e2]
      msimp
      rw [e3, if_neg (by omega)]
      msimp [countsRes, v3, v2, v1, hsz, hoff, hn]
    · rw [e1, Option.bind_some, U64.sub_none _ _ h2, if_pos (by omega)]
      rfl
  · rw [U64.sub_none _ _ h1, Option.bind_none, if_pos (by omega)]
    rfl

theorem tie_get_directory_counts (footer : Gen.CentralDirectoryEnd) (cde : UInt64)
    (hlen : footer.zip_file_comment.length < 2 ^ 63 - 42) :
    countsRes <$> Gen.ZipArchive.get_directory_counts footer cde =
      Model.getDirectoryCounts (eocdOf footer) cde.toNat := by
  unfold Gen.ZipArchive.get_directory_counts Model.getDirectoryCounts
  rw [map_bind]
  refine M.bind_map_congr (G := Option.map locatorOf) ?_ fun loc => ?_
  · -- the probe for a ZIP64 locator
    have e20 : (20 : UInt64).toNat = 20 := rfl
    obtain ⟨t2, t3, h2, h3, h3v⟩ := seek_offset footer.zip_file_comment hlen
    have h1 : Rs.Arith.add (20 : Int64) (22 : Int64) = some 42 := by decide
    simp only [decide_eq_true_eq, UInt64.lt_iff_toNat_lt, e20, apply_ite (Option.map locatorOf <$> ·)]
    refine guard_congr fun _ => ?_
    msimp [h1, h2, h3, h3v, ← tie_locator_parse, M.attempt_map]
    refine bind_congr fun _ => bind_congr fun r => ?_
    cases r with
    | error e => cases e <;> rfl
    | ok l => rfl
  · cases loc with
    | none =>
      simp only [map_eq_pure_bind, bind_assoc, pure_bind]
      exact counts_none cde footer.central_directory_size footer.central_directory_offset
        footer.number_of_files_on_this_disk
    | some l =>
      have e60 : (60 : UInt64).toNat = 60 := rfl
      simp only [Option.map_some, map_eq_pure_bind, bind_assoc, pure_bind, tie_record_too_small, Rs.R.lift,
        M.err_if_bind, M.ok_or_sub_bind, M.ok_or_add_bind, M.ite_bind, M.throw_bind, e60, Gen.unsupported_zip_error,
        Rs.zerr]
      refine guard_congr fun _ => guard_congr fun h60 => ?_
      have vs := (U64.sub_some cde 60 (by omega)).2
      rw [e60] at vs
      rw [← vs, ← tie_eocd64_find_and_parse _ _ (by have := cde.toNat_lt; omega), map_eq_pure_bind, bind_assoc]
      refine bind_congr fun x => ?_
      rw [pure_bind]
      refine guard_congr fun _ => guard_congr fun hov => ?_
      rw [countsRes, (U64.add_some x.1.central_directory_offset x.2 (Nat.not_le.mp hov)).2]
      rfl

/-! ### `parse_extra_field`

The generated loop body is cut into its `do` blocks (`body_eq`, by `rfl`): header, the ZIP64 record =
three conditional `u64` fields, the AES record, the final skip.  A lemma `sim_*` runs one read, one conditional
field (`sim_u64Block`) or the AES record after its reads (`sim_aesFin`) in lockstep with the corresponding `match` of
`Model.parseExtraField`, and `pef_tail` does so for the final skip: the generated code continues with `K`, the model
with `M`, and the hypothesis relates the two continuations on what the piece produces.  `pef_record` unfolds
`z64Block` and `aesBlock` and chains these lemmas.  Offsets are kept relative to the cursor `c` at the start of the
record (`adv c j` on one side, `c.rest.drop j` on the other). -/

def adv (c : Rs.Cursor) (k : Nat) : Rs.Cursor := ⟨c.buf, c.pos + UInt64.ofNat k⟩

theorem adv_zero (c : Rs.Cursor) : adv c 0 = c := by
  cases c
  have e : UInt64.ofNat 0 = 0 := rfl
  simp only [adv, e, UInt64.add_zero]

theorem adv_pos (c : Rs.Cursor) (k : Nat) (h : c.pos.toNat + k < 2 ^ 64) :
    (adv c k).pos.toNat = c.pos.toNat + k := by
  simp only [adv]
  rw [UInt64.toNat_add, UInt64.toNat_ofNat']
  have : k % 2 ^ 64 = k := Nat.mod_eq_of_lt (by omega)
  rw [this]; omega

theorem rest_adv (c : Rs.Cursor) (k : Nat) (h : c.pos.toNat + k < 2 ^ 64) :
    (adv c k).rest = c.rest.drop k := by
  rw [Rs.Cursor.rest, adv_pos c k h, Rs.Cursor.rest, List.drop_drop]
  rfl

theorem adv_step (c : Rs.Cursor) (k j : Nat) :
    (⟨(adv c k).buf, (adv c k).pos + UInt64.ofNat j⟩ : Rs.Cursor) = adv c (k + j) := by
  simp only [adv, UInt64.ofNat_add, UInt64.add_assoc]

theorem rd16_some {x : Bytes} {v : UInt16} {r : Bytes} (h : rd16 x = some (v, r)) : r = x.drop 2 := by
  match x, h with
  | a :: b :: r', h =>
    simp only [rd16, Option.some.injEq, Prod.mk.injEq] at h
    simp only [List.drop_succ_cons, List.drop_zero, h.2]

theorem ok_bind {ε α β} (a : α) (f : α → Except ε β) : (Except.ok a >>= f) = f a := rfl
theorem error_bind {ε α β} (e : ε) (f : α → Except ε β) : ((Except.error e : Except ε α) >>= f) = Except.error e := rfl

theorem rd64_some {x : Bytes} {v : UInt64} {r : Bytes} (h : rd64 x = some (v, r)) : r = x.drop 8 := by
  match x, h with
  | a :: b :: c :: d :: e :: f :: g :: i :: r', h =>
    simp only [rd64, Option.some.injEq, Prod.mk.injEq] at h
    simp only [List.drop_succ_cons, List.drop_zero, h.2]

theorem ofExcept_read_u16 (c : Rs.Cursor) (k : Nat) (st : Gen.ZipFileData) (h : c.pos.toNat + k + 2 < 2 ^ 64) :
    (Rs.P.ofExcept (Rs.Cursor.read_u16 (adv c k)) st : Rs.P Gen.ZipFileData _) =
      match rd16 (c.rest.drop k) with
      | some (v, _) => .ok (v, adv c (k + 2))
      | none => .error ⟨some (.Io .UnexpectedEof), st⟩ := by
  have e2 : (2 : UInt64) = UInt64.ofNat 2 := rfl
  simp only [Rs.Cursor.read_u16, rest_adv c k (by omega), e2, adv_step]
  cases rd16 (c.rest.drop k) with
  | none => rfl
  | some p => rfl

theorem ofExcept_read_u64 (c : Rs.Cursor) (k : Nat) (st : Gen.ZipFileData) (h : c.pos.toNat + k + 8 < 2 ^ 64) :
    (Rs.P.ofExcept (Rs.Cursor.read_u64 (adv c k)) st : Rs.P Gen.ZipFileData _) =
      match rd64 (c.rest.drop k) with
      | some (v, _) => .ok (v, adv c (k + 8))
      | none => .error ⟨some (.Io .UnexpectedEof), st⟩ := by
  have e2 : (8 : UInt64) = UInt64.ofNat 8 := rfl
  simp only [Rs.Cursor.read_u64, rest_adv c k (by omega), e2, adv_step]
  cases rd64 (c.rest.drop k) with
  | none => rfl
  | some p => rfl

theorem ofExcept_read_u8 (c : Rs.Cursor) (k : Nat) (st : Gen.ZipFileData) (h : c.pos.toNat + k + 1 < 2 ^ 64) :
    (Rs.P.ofExcept (Rs.Cursor.read_u8 (adv c k)) st : Rs.P Gen.ZipFileData _) =
      match c.rest.drop k with
      | a :: _ => .ok (a, adv c (k + 1))
      | [] => .error ⟨some (.Io .UnexpectedEof), st⟩ := by
  have e2 : (1 : UInt64) = UInt64.ofNat 1 := rfl
  simp only [Rs.Cursor.read_u8, rest_adv c k (by omega), e2, adv_step]
  cases c.rest.drop k with
  | nil => rfl
  | cons a r => rfl

theorem ofExcept_seek_current (c : Rs.Cursor) (k : Nat) (st : Gen.ZipFileData) (v : Int)
    (hv : 0 ≤ v ∧ v < 2 ^ 62) (h : c.pos.toNat + k + v.toNat < 2 ^ 63) :
    (Rs.P.ofExcept (Rs.Cursor.seek_current (adv c k) (Int64.ofInt v)) st : Rs.P Gen.ZipFileData _) =
      .ok (UInt64.ofNat (c.pos.toNat + k + v.toNat), adv c (k + v.toNat)) := by
  have hp := adv_pos c k (by omega)
  have hi : (Int64.ofInt v).toInt = v := Int64.toInt_ofInt_of_le (by omega) (by omega)
  have hb : (adv c k).buf = c.buf := rfl
  simp only [Rs.Cursor.seek_current, hp, hi, hb]
  have hr : (0 : Int) ≤ ((c.pos.toNat + k : Nat) : Int) + v ∧
      ((c.pos.toNat + k : Nat) : Int) + v < 18446744073709551616 := by omega
  rw [if_pos hr]
  have ht : (((c.pos.toNat + k : Nat) : Int) + v).toNat = c.pos.toNat + k + v.toNat := by omega
  rw [ht]
  simp only [Rs.P.ofExcept, adv]
  have : UInt64.ofNat (c.pos.toNat + k + v.toNat) = c.pos + UInt64.ofNat (k + v.toNat) := by
    rw [Nat.add_assoc, UInt64.ofNat_add, UInt64.ofNat_toNat]
  rw [this]

theorem as_i64_u16 (x : UInt16) : Rs.as' Int64 x = Int64.ofInt (x.toNat : Int) := by
  simp only [Rs.as', Rs.As.cast]
  apply Int64.toInt_inj.mp
  rw [Int64.toInt_ofInt_of_le (by omega) (by have := UInt16.toNat_lt x; omega)]
  have h : x.toUInt64 = UInt64.ofNat x.toNat := by
    apply UInt64.toNat_inj.mp
    rw [UInt16.toNat_toUInt64, UInt64.toNat_ofNat']
    have := UInt16.toNat_lt x
    omega
  rw [h, UInt64.toInt64_ofNat']
  exact Int64.toInt_ofNat_of_lt (by have := UInt16.toNat_lt x; omega)

/-- `len_left - m` does not overflow. -/
theorem i64_sub (v : Int) (hv : -2 ^ 62 < v ∧ v < 2 ^ 62) (m : Int64) (hm : 0 ≤ m.toInt ∧ m.toInt < 2 ^ 20) :
    Rs.Arith.sub (Int64.ofInt v) m = some (Int64.ofInt (v - m.toInt)) := by
  have hi : (Int64.ofInt v).toInt = v := Int64.toInt_ofInt_of_le (by omega) (by omega)
  simp only [Rs.Arith.sub, hi]
  rw [if_pos (by omega)]

theorem i64_pos (v : Int) (hv : -2 ^ 62 < v ∧ v < 2 ^ 62) :
    decide (Int64.ofInt v > (0 : Int64)) = decide (v > 0) := by
  have hi : (Int64.ofInt v).toInt = v := Int64.toInt_ofInt_of_le (by omega) (by omega)
  have e0 : (0 : Int64).toInt = 0 := by decide
  simp only [gt_iff_lt, Int64.lt_iff_toInt_lt, hi, e0]

theorem from_u16_some (v : UInt16) :
    ∃ x, Gen.CompressionMethod.from_u16 v = some x ∧ Tie.Types.methodOf x = Method.fromU16 v :=
  Option.map_eq_some_iff.mp (Tie.Types.tie_method_from_u16 v)

/-- Outcome of the translated loop as the model states it (`none` = panic). -/
def loopRes (x : Rs.P Gen.ZipFileData (Rs.LoopEnd (Rs.Cursor × Gen.ZipFileData) Unit)) :
    Option (FileData × Option ZErr) :=
  match x with
  | .ok (.done (_, s)) => some (dataOf s, none)
  | .ok (.ret _) => none
  | .error ⟨none, _⟩ => none
  | .error ⟨some e, s⟩ => some (dataOf s, some (zerrOf e))

theorem P.whileLoop_succ {σ τ ρ : Type} (proj : τ → σ) (cond : τ → Rs.P σ Bool)
    (body : τ → Rs.P σ (Rs.Step τ ρ)) (n : Nat) (s : τ) :
    Rs.P.whileLoop proj cond body (n + 1) s = (do
      if (← cond s) then
        match (← body s) with
        | .next s' => Rs.P.whileLoop proj cond body n s'
        | .brk s' => pure (.done s')
        | .ret r => pure (.ret r)
      else pure (.done s)) := rfl

/-- `file`, `reader`, `len_left` -/
private abbrev PefSt := Gen.ZipFileData × Rs.Cursor × Int64
private abbrev PefEnd := Rs.LoopEnd (Rs.Cursor × Gen.ZipFileData) Unit

/-- `if test(file) { mark(file); file.X = reader.read_u64()?; len_left -= 8 }` -/
private def u64Block (test : Gen.ZipFileData → Bool) (mark : Gen.ZipFileData → Gen.ZipFileData)
    (set : Gen.ZipFileData → UInt64 → Gen.ZipFileData) (s : PefSt) : Rs.P Gen.ZipFileData PefSt :=
  if test s.1 then do
    let p ← Rs.P.ofExcept (Rs.Cursor.read_u64 s.2.1) (mark s.1)
    let l ← Rs.P.lift (Rs.Arith.sub s.2.2 (8 : Int64)) (set (mark s.1) p.1)
    pure (set (mark s.1) p.1, p.2, l)
  else pure s

private def z64Block (s : PefSt) : Rs.P Gen.ZipFileData PefSt :=
  u64Block (fun f => f.uncompressed_size == Gen.ZIP64_BYTES_THR) (fun f => { f with large_file := true })
    (fun f v => { f with uncompressed_size := v }) s >>= fun s =>
  u64Block (fun f => f.compressed_size == Gen.ZIP64_BYTES_THR) (fun f => { f with large_file := true })
    (fun f v => { f with compressed_size := v }) s >>= fun s =>
  u64Block (fun f => f.header_start == Gen.ZIP64_BYTES_THR) id (fun f v => { f with header_start := v }) s >>= pure

private def aesVersion (file : Gen.ZipFileData) (v : UInt16) : Rs.P Gen.ZipFileData Gen.AesVendorVersion :=
  if v == 1 then pure .Ae1 else if v == 2 then pure .Ae2 else Rs.P.err Rs.ZipErr.InvalidArchive file

private def aesSetMode (file : Gen.ZipFileData) (vv : Gen.AesVendorVersion) (m : UInt8) :
    Rs.P Gen.ZipFileData Gen.ZipFileData :=
  if m == 1 then pure { file with aes_mode := some (.Aes128, vv) }
  else if m == 2 then pure { file with aes_mode := some (.Aes192, vv) }
  else if m == 3 then pure { file with aes_mode := some (.Aes256, vv) }
  else Rs.P.err Rs.ZipErr.InvalidArchive file >>= fun (_ : Unit) => pure file

/-- the AES record after its four reads -/
private def aesFin (vv vid : UInt16) (am : UInt8) (cm : UInt16) (s : PefSt) : Rs.P Gen.ZipFileData PefSt := do
  let l ← Rs.P.lift (Rs.Arith.sub s.2.2 (7 : Int64)) s.1
  (if vid != (0x4541 : UInt16) then Rs.P.err Rs.ZipErr.InvalidArchive s.1 else pure ())
  let vv ← aesVersion s.1 vv
  let file ← aesSetMode s.1 vv am
  let m ← Rs.P.lift (Gen.CompressionMethod.from_u16 cm) file
  pure ({ file with compression_method := m }, s.2.1, l)

private def aesBlock (len : UInt16) (s : PefSt) : Rs.P Gen.ZipFileData PefSt := do
  (if len != (7 : UInt16) then Rs.P.err Rs.ZipErr.UnsupportedArchive s.1 else pure ())
  let p1 ← Rs.P.ofExcept (Rs.Cursor.read_u16 s.2.1) s.1
  let p2 ← Rs.P.ofExcept (Rs.Cursor.read_u16 p1.2) s.1
  let p3 ← Rs.P.ofExcept (Rs.Cursor.read_u8 p2.2) s.1
  let p4 ← Rs.P.ofExcept (Rs.Cursor.read_u16 p3.2) s.1
  aesFin p1.1 p2.1 p3.1 p4.1 (s.1, p4.2, s.2.2)

private def tailBlock (s : PefSt) : Rs.P Gen.ZipFileData (Rs.Step (Rs.Cursor × Gen.ZipFileData) Unit) :=
  if decide (s.2.2 > (0 : Int64)) then do
    let p ← Rs.P.ofExcept (Rs.Cursor.seek_current s.2.1 s.2.2) s.1
    pure (Rs.Step.next (p.2, s.1))
  else pure (Rs.Step.next (s.2.1, s.1))

private theorem body_eq (c : Rs.Cursor) (f : Gen.ZipFileData) :
    Gen.parse_extra_field.loop1_body (c, f) = (do
      let p1 ← Rs.P.ofExcept (Rs.Cursor.read_u16 c) f
      let p2 ← Rs.P.ofExcept (Rs.Cursor.read_u16 p1.2) f
      let s ← (if p1.1 == 1 then z64Block (f, p2.2, Rs.as' Int64 p2.1)
        else if p1.1 == 0x9901 then aesBlock p2.1 (f, p2.2, Rs.as' Int64 p2.1)
        else pure (f, p2.2, Rs.as' Int64 p2.1) : Rs.P Gen.ZipFileData PefSt)
      tailBlock s) := rfl

/-- the bytes one sentinel field takes -/
private abbrev w (u : Option UInt64) : Nat := if u.isSome then 8 else 0

private theorem w_le (u : Option UInt64) : w u ≤ 8 := by
  unfold w; split <;> omega

private theorem w_cast (u : Option UInt64) : ((w u : Nat) : Int) = if u.isSome then 8 else 0 := by
  cases u <;> rfl

private theorem drop_left (r : Bytes) (j : Nat) (v v' : Int) (h : v' = v) :
    r.drop (j + v.toNat) = if v' > 0 then (r.drop j).drop v'.toNat else r.drop j := by
  subst h
  by_cases h0 : v' > 0
  · rw [if_pos h0, List.drop_drop]
  · rw [if_neg h0, show v'.toNat = 0 by omega, Nat.add_zero]

section sim
-- `c` is the cursor at the start of a record, `j` the bytes of the record consumed so far (at most 4 + 24) and `v`,
-- below, is `len_left`: a `u16` less at most 24.  `2^62`, `64`, `2^20` are round bounds under which no `u64` position
-- and no `i64` of the source overflows; `pef_loop` has the first from the length of the extra field.
variable (c : Rs.Cursor) (hp : c.pos.toNat < 2 ^ 62) (j : Nat) (hj : j ≤ 64) (st : Gen.ZipFileData)
include hp hj

private theorem sim_u16 {r : Bytes} (hr : c.rest.drop j = r)
    {K : UInt16 × Rs.Cursor → Rs.P Gen.ZipFileData PefEnd} {M : UInt16 → Bytes → FileData × Option ZErr}
    (h : ∀ v, loopRes (K (v, adv c (j + 2))) = some (M v (c.rest.drop (j + 2)))) :
    loopRes (Rs.P.ofExcept (Rs.Cursor.read_u16 (adv c j)) st >>= K) =
      some (match rd16 r with
        | none => (dataOf st, some (.io .unexpectedEof))
        | some (v, r') => M v r') := by
  subst hr
  rw [ofExcept_read_u16 c j st (by omega)]
  cases e : rd16 (c.rest.drop j) with
  | none => rfl
  | some p =>
    obtain ⟨v, r'⟩ := p
    rw [rd16_some e, List.drop_drop]
    exact h v

private theorem sim_u8 {r : Bytes} (hr : c.rest.drop j = r)
    {K : UInt8 × Rs.Cursor → Rs.P Gen.ZipFileData PefEnd} {M : UInt8 → Bytes → FileData × Option ZErr}
    (h : ∀ v, loopRes (K (v, adv c (j + 1))) = some (M v (c.rest.drop (j + 1)))) :
    loopRes (Rs.P.ofExcept (Rs.Cursor.read_u8 (adv c j)) st >>= K) =
      some (match (generalizing := false) r with
        | [] => (dataOf st, some (.io .unexpectedEof))
        | v :: r' => M v r') := by
  subst hr
  rw [ofExcept_read_u8 c j st (by omega)]
  cases e : c.rest.drop j with
  | nil => rfl
  | cons v r' =>
    have hd := congrArg (List.drop 1) e
    rw [List.drop_drop, List.drop_succ_cons, List.drop_zero] at hd
    rw [← hd]
    exact h v

/-- One conditional `u64` field against one `takeU64If` of the model.  `mt`, `mm`, `ms` are the model's
test, its entry on EOF and its update; the continuations get any `F` that the model's entry describes. -/
private theorem sim_u64Block {test : Gen.ZipFileData → Bool} {mark : Gen.ZipFileData → Gen.ZipFileData}
    {set : Gen.ZipFileData → UInt64 → Gen.ZipFileData} {v : Int} (hv : -2 ^ 20 < v ∧ v < 2 ^ 20)
    {mt : Bool} (ht : test st = mt) {mm : FileData} (hm : dataOf (mark st) = mm)
    (ms : FileData → UInt64 → FileData) (hs : ∀ x, dataOf (set (mark st) x) = ms (dataOf st) x)
    (he : ∀ x, (set (mark st) x).extra_field = st.extra_field)
    {r : Bytes} (hr : c.rest.drop j = r)
    {K : PefSt → Rs.P Gen.ZipFileData PefEnd} {M : Option UInt64 → Bytes → FileData × Option ZErr}
    (h : ∀ u F, dataOf F = (match u with | some x => ms (dataOf st) x | none => dataOf st) →
      F.extra_field = st.extra_field →
      loopRes (K (F, adv c (j + w u), Int64.ofInt (v - w u))) = some (M u (c.rest.drop (j + w u)))) :
    loopRes (u64Block test mark set (st, adv c j, Int64.ofInt v) >>= K) =
      some (match takeU64If mt r with
        | none => (mm, some (.io .unexpectedEof))
        | some (u, r') => M u r') := by
  subst hr ht hm
  unfold u64Block takeU64If
  cases test st with
  | false =>
    have h0 := h none st rfl rfl
    simp only [w, Option.isSome_none, Bool.false_eq_true, ↓reduceIte, Nat.add_zero, Int.natCast_zero,
      Int.sub_zero] at h0
    exact h0
  | true =>
    simp only [↓reduceIte]
    rw [ofExcept_read_u64 c j _ (by omega)]
    cases e : rd64 (c.rest.drop j) with
    | none => rfl
    | some p =>
      obtain ⟨x, r'⟩ := p
      have h8 : (8 : Int64).toInt = 8 := by decide
      have hs' := i64_sub v (by omega) 8 (by rw [h8]; omega)
      rw [h8] at hs'
      simp only [ok_bind, hs', Rs.P.lift, pure]
      rw [rd64_some e, List.drop_drop]
      exact h (some x) _ (hs x) (he x)
end sim

section aes
variable (file : Gen.ZipFileData)

private theorem sim_aesVersion {v : UInt16}
    {K : Gen.AesVendorVersion → Rs.P Gen.ZipFileData PefEnd} {M : AesVendorVersion → FileData × Option ZErr}
    (h : ∀ V, loopRes (K V) = some (M (match V with | .Ae1 => .ae1 | .Ae2 => .ae2))) :
    loopRes (aesVersion file v >>= K) =
      some (match (if v == 1 then some .ae1 else if v == 2 then some .ae2 else none : Option AesVendorVersion) with
        | none => (dataOf file, some .invalidArchive)
        | some V => M V) := by
  unfold aesVersion
  by_cases h1 : (v == 1) = true
  · rw [if_pos h1, if_pos h1]; exact h .Ae1
  · rw [if_neg h1, if_neg h1]
    by_cases h2 : (v == 2) = true
    · rw [if_pos h2, if_pos h2]; exact h .Ae2
    · rw [if_neg h2, if_neg h2]; rfl

private theorem sim_aesSetMode {V : Gen.AesVendorVersion} {m : UInt8}
    {K : Gen.ZipFileData → Rs.P Gen.ZipFileData PefEnd} {M : AesMode → FileData × Option ZErr}
    (h : ∀ a, loopRes (K { file with aes_mode := some (a, V) }) = some (M (Tie.Types.aesModeOf a))) :
    loopRes (aesSetMode file V m >>= K) =
      some (match (if m == 1 then some .aes128 else if m == 2 then some .aes192
          else if m == 3 then some .aes256 else none : Option AesMode) with
        | none => (dataOf file, some .invalidArchive)
        | some a => M a) := by
  unfold aesSetMode
  by_cases h1 : (m == 1) = true
  · rw [if_pos h1, if_pos h1]; exact h .Aes128
  · rw [if_neg h1, if_neg h1]
    by_cases h2 : (m == 2) = true
    · rw [if_pos h2, if_pos h2]; exact h .Aes192
    · rw [if_neg h2, if_neg h2]
      by_cases h3 : (m == 3) = true
      · rw [if_pos h3, if_pos h3]; exact h .Aes256
      · rw [if_neg h3, if_neg h3]; rfl

private theorem sim_aesFin {vv vid : UInt16} {am : UInt8} {cm : UInt16} {c' : Rs.Cursor} {v : Int}
    (hv : -2 ^ 20 < v ∧ v < 2 ^ 20)
    {K : PefSt → Rs.P Gen.ZipFileData PefEnd} (M : FileData → FileData × Option ZErr)
    (h : ∀ F : Gen.ZipFileData, F.extra_field = file.extra_field →
      loopRes (K (F, c', Int64.ofInt (v - 7))) = some (M (dataOf F))) :
    loopRes (aesFin vv vid am cm (file, c', Int64.ofInt v) >>= K) =
      some (if vid != 0x4541 then (dataOf file, some .invalidArchive) else
        match (if vv == 1 then some .ae1 else if vv == 2 then some .ae2 else none : Option AesVendorVersion) with
        | none => (dataOf file, some .invalidArchive)
        | some V =>
          match (if am == 1 then some .aes128 else if am == 2 then some .aes192
            else if am == 3 then some .aes256 else none : Option AesMode) with
          | none => (dataOf file, some .invalidArchive)
          | some a => M { dataOf file with aesMode := some (a, V), method := Method.fromU16 cm }) := by
  obtain ⟨x, hx, hxm⟩ := from_u16_some cm
  have h7 : (7 : Int64).toInt = 7 := by decide
  have hs := i64_sub v (by omega) 7 (by rw [h7]; omega)
  rw [h7] at hs
  unfold aesFin
  simp only [hs, Rs.P.lift, ok_bind, bind_assoc]
  by_cases hvid : (vid != 0x4541) = true
  · rw [if_pos hvid, if_pos hvid]; rfl
  · rw [if_neg hvid, if_neg hvid, pure_bind]
    refine sim_aesVersion file fun V => ?_
    refine sim_aesSetMode file fun a => ?_
    simp only [hx, ok_bind, pure_bind]
    rw [← hxm]
    exact h _ rfl
end aes

section iter
variable (B : Bytes) (hB : B.length < 2 ^ 62) (n k : Nat)
  (W : Rs.Cursor × Gen.ZipFileData → Rs.P Gen.ZipFileData PefEnd)
  (ih : ∀ (c : Rs.Cursor) (f : Gen.ZipFileData) (k : Nat), c.buf = B → f.extra_field = B →
    c.rest.length < n → c.rest.length ≤ k → loopRes (W (c, f)) = some (parseExtraField k (dataOf f) c.rest))
  (c : Rs.Cursor) (hc : c.buf = B)
  (hpos : c.pos.toNat < B.length) (hn : c.rest.length < n + 1) (hk : c.rest.length ≤ k + 1)
  (K : Rs.Step (Rs.Cursor × Gen.ZipFileData) Unit → Rs.P Gen.ZipFileData PefEnd)
  (hK : ∀ s', K (Rs.Step.next s') = W s')
include hB ih hc hpos hn hk hK

/-- The end of one iteration: skip what is left of the record, go round the loop. -/
private theorem pef_tail {j : Nat} (hj : 4 ≤ j ∧ j ≤ 64) {F : Gen.ZipFileData} (hF : F.extra_field = B)
    {v : Int} (hv : -2 ^ 20 < v ∧ v < 2 ^ 20) {F' : FileData} (hF' : dataOf F = F')
    {r : Bytes} (hr : c.rest.drop (j + v.toNat) = r) :
    loopRes (tailBlock (F, adv c j, Int64.ofInt v) >>= K) = some (parseExtraField k F' r) := by
  subst hF' hr
  have hrl : c.rest.length = B.length - c.pos.toNat := by
    simp only [Rs.Cursor.rest, hc, List.length_drop]
  have hi := ih (adv c (j + v.toNat)) F k (by rw [← hc]; rfl) hF
      (by rw [rest_adv _ _ (by omega), List.length_drop]; omega)
      (by rw [rest_adv _ _ (by omega), List.length_drop]; omega)
  rw [rest_adv _ _ (by omega)] at hi
  rw [← hi]
  unfold tailBlock
  simp only [i64_pos v (by omega)]
  by_cases h0 : v > 0
  · rw [decide_eq_true h0, if_pos rfl, ofExcept_seek_current c j F v (by omega) (by omega)]
    simp only [ok_bind, pure_bind, hK]
  · have hz : v.toNat = 0 := by omega
    rw [decide_eq_false h0, if_neg (by decide), hz]
    simp only [pure_bind, hK, Nat.add_zero]

/-- One record.  The model's `let f1 := …` are kept (`-zeta`) and replaced by `dataOf F` for the entry
`F` the generated code has at that point, so that no term contains an entry update twice. -/
private theorem pef_record (f : Gen.ZipFileData) (hf : f.extra_field = B) :
    loopRes (Gen.parse_extra_field.loop1_body (adv c 0, f) >>= K) =
      some (parseExtraField (k + 1) (dataOf f) c.rest) := by
  have hthr : Gen.ZIP64_BYTES_THR = ZIP64_BYTES_THR := Tie.Types.tie_bytes_thr
  have hp : c.pos.toNat < 2 ^ 62 := by omega
  have hne : c.rest.isEmpty = false := by
    rw [List.isEmpty_eq_false_iff, ← List.length_pos_iff, Rs.Cursor.rest, hc, List.length_drop]; omega
  have tail {j : Nat} {F : Gen.ZipFileData} {v : Int} {r : Bytes} (hj : 4 ≤ j ∧ j ≤ 64) (hF : F.extra_field = B)
      (hv : -2 ^ 20 < v ∧ v < 2 ^ 20) (hr : c.rest.drop (j + v.toNat) = r) :
      loopRes (tailBlock (F, adv c j, Int64.ofInt v) >>= K) = some (parseExtraField k (dataOf F) r) :=
    pef_tail B hB n k W ih c hc hpos hn hk K hK hj hF hv rfl hr
  rw [body_eq, parseExtraField, hne, if_neg Bool.false_ne_true]
  simp -zeta only [bind_assoc]
  refine sim_u16 c hp 0 (by omega) f rfl fun kind => sim_u16 c hp 2 (by omega) f rfl fun len => ?_
  have hl16 := UInt16.toNat_lt len
  simp -zeta only [Nat.reduceAdd, as_i64_u16]
  by_cases hk1 : (kind == 1) = true
  · rw [if_pos hk1, if_pos hk1, z64Block]
    simp -zeta only [bind_assoc, pure_bind]
    refine sim_u64Block c hp 4 (by omega) f (by omega) (by rw [hthr]; rfl) rfl
      (fun d v => { d with largeFile := true, uncompressedSize := v }) (fun _ => rfl) (fun _ => rfl) rfl
      fun u1 F1 hF1 he1 => ?_
    have := w_le u1
    extract_lets f1
    have e1 : f1 = dataOf F1 := hF1.symm
    clear_value f1
    subst e1
    refine sim_u64Block c hp _ (by omega) F1 (by omega) (by rw [hthr]; rfl) rfl
      (fun d v => { d with largeFile := true, compressedSize := v }) (fun _ => rfl) (fun _ => rfl) rfl
      fun u2 F2 hF2 he2 => ?_
    have := w_le u2
    extract_lets f2
    have e2 : f2 = dataOf F2 := hF2.symm
    clear_value f2
    subst e2
    refine sim_u64Block c hp _ (by omega) F2 (by omega) (by rw [hthr]; rfl) rfl
      (fun d v => { d with headerStart := v }) (fun _ => rfl) (fun _ => rfl) rfl
      fun u3 F3 hF3 he3 => ?_
    have := w_le u3
    extract_lets +onlyGivenNames f3
    have e3 : f3 = dataOf F3 := hF3.symm
    clear_value f3
    subst e3
    exact tail (by omega) (he3.trans (he2.trans (he1.trans hf))) (by omega)
      (drop_left _ _ _ _ (by rw [← w_cast u1, ← w_cast u2, ← w_cast u3]; omega))
  · rw [if_neg hk1, if_neg hk1]
    by_cases hk2 : (kind == 0x9901) = true
    · rw [if_pos hk2, if_pos hk2, aesBlock]
      by_cases h7 : (len != 7) = true
      · rw [if_pos h7, if_pos h7]; rfl
      · have hl7 : len.toNat = 7 := by
          rw [Decidable.of_not_not fun h => h7 (bne_iff_ne.mpr h)]; rfl
        rw [if_neg h7, if_neg h7]
        simp -zeta only [bind_assoc, pure_bind]
        refine sim_u16 c hp 4 (by omega) f rfl fun vv => sim_u16 c hp 6 (by omega) f rfl fun vid =>
          sim_u8 c hp 8 (by omega) f rfl fun am => sim_u16 c hp 9 (by omega) f rfl fun cm =>
          sim_aesFin f (by omega) (fun d => parseExtraField k d (c.rest.drop 11)) fun F hF => ?_
        exact tail (by omega) (hF.trans hf) (by omega) (by rw [hl7]; rfl)
    · rw [if_neg hk2, if_neg hk2, pure_bind]
      exact tail (by omega) hf (by omega) (by rw [Int.toNat_natCast, List.drop_drop])

end iter

theorem pef_loop (B : Bytes) (hB : B.length < 2 ^ 62) :
    ∀ (n : Nat) (c : Rs.Cursor) (f : Gen.ZipFileData) (k : Nat),
      c.buf = B → f.extra_field = B → c.rest.length < n → c.rest.length ≤ k →
      loopRes (Rs.P.whileLoop (fun st => let (reader, file) := st; file)
          Gen.parse_extra_field.loop1_cond Gen.parse_extra_field.loop1_body n (c, f)) =
        some (parseExtraField k (dataOf f) c.rest) := by
  intro n
  induction n with
  | zero => intro c f k _ _ h; omega
  | succ n ih =>
    intro c f k hc hf hn hk
    rw [P.whileLoop_succ]
    generalize Rs.P.whileLoop (fun st => let (reader, file) := st; file)
      Gen.parse_extra_field.loop1_cond Gen.parse_extra_field.loop1_body n = W at ih ⊢
    have hlen : (Rs.len f.extra_field).toNat = B.length := by rw [hf]; exact U64.len_toNat B (by omega)
    have hcond : Gen.parse_extra_field.loop1_cond (c, f) =
        pure (decide (Rs.as' UInt64 c.pos < Rs.len f.extra_field)) := rfl
    rw [hcond]
    by_cases hpos : c.pos.toNat < B.length
    · have hcd : decide (Rs.as' UInt64 c.pos < Rs.len f.extra_field) = true := by
        simp only [Rs.as', Rs.As.cast, id, UInt64.lt_iff_toNat_lt, hlen, decide_eq_true_eq]; exact hpos
      have hrl : c.rest.length = B.length - c.pos.toNat := by
        simp only [Rs.Cursor.rest, hc, List.length_drop]
      obtain ⟨k, rfl⟩ : ∃ k', k = k' + 1 := ⟨k - 1, by omega⟩
      rw [hcd]
      simp only [pure_bind, ↓reduceIte]
      have hb : Gen.parse_extra_field.loop1_body (c, f) =
          Gen.parse_extra_field.loop1_body (adv c 0, f) := by rw [adv_zero]
      rw [hb]
      exact pef_record B hB n k W ih c hc hpos hn hk _ (fun _ => rfl) f hf
    · have hcd : decide (Rs.as' UInt64 c.pos < Rs.len f.extra_field) = false := by
        simp only [Rs.as', Rs.As.cast, id, UInt64.lt_iff_toNat_lt, hlen, decide_eq_false_iff_not]; exact hpos
      have hr : c.rest = [] := by
        simp only [Rs.Cursor.rest, hc, List.drop_eq_nil_iff]; omega
      rw [hcd, hr]
      cases k <;> rfl

/-- Outcome of `parse_extra_field` as the model states it: the entry as the function leaves it
(whatever the outcome) and the error that ended the loop, if any; `none` = panic. -/
def pefRes (x : Option (Except Rs.ZipErr Unit) × Gen.ZipFileData) : Option (FileData × Option ZErr) :=
  match x with
  | (none, _) => none
  | (some (.ok _), s) => some (dataOf s, none)
  | (some (.error e), s) => some (dataOf s, some (zerrOf e))

theorem tie_parse_extra_field (f : Gen.ZipFileData) (hlen : f.extra_field.length < 2 ^ 62) :
    pefRes (Rs.P.run (Gen.parse_extra_field f)) =
      some (parseExtraField (f.extra_field.length + 1) (dataOf f) f.extra_field) := by
  have hr : (Rs.Cursor.new f.extra_field).rest = f.extra_field := rfl
  have hl := U64.len_toNat f.extra_field (by omega)
  have h0 : (Rs.as' UInt64 (Rs.Cursor.new f.extra_field).pos).toNat = 0 := rfl
  have key := pef_loop f.extra_field hlen
    ((Rs.len f.extra_field).toNat - (Rs.as' UInt64 (Rs.Cursor.new f.extra_field).pos).toNat + 2)
    (Rs.Cursor.new f.extra_field) f (f.extra_field.length + 1) rfl rfl
    (by rw [hl, h0, hr]; omega) (by rw [hr]; omega)
  rw [hr] at key
  unfold Gen.parse_extra_field
  simp only [bind_assoc, pure_bind]
  generalize Rs.P.whileLoop _ _ _ _ _ = r at key ⊢
  match r, key with
  | .ok (.done (c', s)), key => exact key
  | .ok (.ret _), key => cases key
  | .error ⟨none, _⟩, key => cases key
  | .error ⟨some e, s⟩, key => exact key


/-! ### `central_header_to_zip_file_inner` -/

theorem zerr_eq (e : Rs.ZipErr) : Rs.zerr e = zerrOf e := by
  cases e with
  | Io k => cases k <;> rfl
  | _ => rfl

theorem M.readExact_bind_congr {β} (n : Nat) (k k' : Bytes → M β)
    (h : ∀ bs : Bytes, bs.length = n → k bs = k' bs) : (M.readExact n >>= k) = (M.readExact n >>= k') := by
  unfold M.readExact
  by_cases h0 : n = 0
  · simp only [h0, ↓reduceIte, pure_bind]
    exact h [] (by simp only [List.length_nil, h0])
  · simp only [h0, ↓reduceIte, bind_assoc]
    refine bind_congr fun r => ?_
    by_cases hr : r.length = n
    · simp only [hr, ↓reduceIte, pure_bind]; exact h r hr
    · simp only [hr, ↓reduceIte]
      by_cases hr0 : r.length = 0
      · simp only [hr0, ↓reduceIte, M.throw_bind]
      · simp only [hr0, ↓reduceIte, bind_assoc, M.throw_bind]

theorem from_u8_some (v : UInt8) :
    ∃ x, Gen.System.from_u8 v = some x ∧ Tie.Types.systemOf x = System.fromU8 v :=
  Option.map_eq_some_iff.mp (Tie.Types.tie_system_from_u8 v)

theorem from_msdos_some (d t : UInt16) :
    ∃ x, Gen.DateTime.from_msdos d t = some x ∧ Tie.DateTime.toModel x = DateTime.fromMsdos d t :=
  Option.map_eq_some_iff.mp (Tie.DateTime.tie_from_msdos d t)

theorem method_aes_eq (x : Gen.CompressionMethod) :
    (x == Gen.CompressionMethod.AES) = (Tie.Types.methodOf x == Method.aes) := by
  cases x <;> rfl

/-- the `Result` of `parse_extra_field` as the model's `Option ZErr` -/
def pefErr : Except ZErr Unit → Option ZErr
  | .ok _ => none
  | .error e => some e

/-- `parse_extra_field` as its two callers see it: no panic, the entry and the verdict -/
theorem runP_parse_extra_field (G : Gen.ZipFileData) (hlen : G.extra_field.length < 2 ^ 62) :
    ∃ s u, Rs.R.runP (Gen.parse_extra_field G) = pure (u, s) ∧
      parseExtraField (G.extra_field.length + 1) (dataOf G) G.extra_field = (dataOf s, pefErr u) := by
  have key := tie_parse_extra_field G hlen
  unfold Rs.R.runP
  generalize Rs.P.run (Gen.parse_extra_field G) = r at key ⊢
  obtain ⟨_ | e | _, s⟩ := r
  · cases key
  · exact ⟨s, .error (Rs.zerr e), rfl, by rw [zerr_eq]; exact (Option.some.inj key).symm⟩
  · exact ⟨s, .ok (), rfl, (Option.some.inj key).symm⟩

/-- The end of `central_header_to_zip_file_inner`: the AES consistency check and the shifted offset. -/
theorem chi_fin (s : Gen.ZipFileData) (ao : UInt64) :
    ((if (s.compression_method == Gen.CompressionMethod.AES && s.aes_mode.isNone) = true then
        (Rs.R.err Rs.ZipErr.InvalidArchive : M Unit) else pure ()) >>= fun _ =>
      Rs.R.ok_or (Rs.Arith.add s.header_start ao) Rs.ZipErr.InvalidArchive >>= fun t27 =>
        pure (dataOf { s with header_start := t27 })) =
    (if ((dataOf s).method == Method.aes && (dataOf s).aesMode.isNone) = true then M.throw ZErr.invalidArchive
     else if (dataOf s).headerStart.toNat + ao.toNat ≥ 18446744073709551616 then M.throw ZErr.invalidArchive
     else pure { dataOf s with headerStart := UInt64.ofNat ((dataOf s).headerStart.toNat + ao.toNat) }) := by
  have hc : (dataOf s).aesMode.isNone = s.aes_mode.isNone := Option.isNone_map
  have hm : ((dataOf s).method == Method.aes) = (s.compression_method == .AES) := (method_aes_eq _).symm
  have hh : (dataOf s).headerStart = s.header_start := rfl
  rw [M.err_if_bind, M.ok_or_add_bind, hm, hc, hh]
  refine guard_congr fun _ => guard_congr fun hov => ?_
  rw [← (U64.add_some _ _ (Nat.not_le.mp hov)).2, UInt64.ofNat_toNat]
  rfl

theorem tie_central_header_inner (ao chs : UInt64) :
    dataOf <$> Gen.central_header_to_zip_file_inner ao chs =
      Model.centralHeaderInner ao.toNat chs.toNat := by
  unfold Gen.central_header_to_zip_file_inner Model.centralHeaderInner
  simp only [bind_assoc, pure_bind, map_eq_pure_bind, Rs.R.read_exact, Rs.vecZeros, List.length_replicate, Rs.R.lift,
    shl_1_11, shl_1_3, as_u16_u64_toNat]
  refine bind_congr fun vmb => bind_congr fun _ => bind_congr fun flags => bind_congr fun cm =>
    bind_congr fun t => bind_congr fun d => bind_congr fun crc => bind_congr fun csz =>
    bind_congr fun usz => bind_congr fun nlen => bind_congr fun xlen => bind_congr fun clen =>
    bind_congr fun _ => bind_congr fun _ => bind_congr fun attrs => bind_congr fun off =>
    bind_congr fun name => ?_
  refine M.readExact_bind_congr _ _ _ fun extra hextra => bind_congr fun comment => ?_
  have hshr : Rs.Arith.shr vmb 8 = some (vmb >>> 8) := rfl
  obtain ⟨sys, hsys, hsysm⟩ := from_u8_some (Rs.as' UInt8 (vmb >>> 8))
  obtain ⟨m, hm, hmm⟩ := from_u16_some cm
  obtain ⟨dt, hdt, hdtm⟩ := from_msdos_some d t
  have hx16 := UInt16.toNat_lt xlen
  -- in both cases of the UTF-8 flag: `G` names the 20-field entry the source builds from what was read (its extra field
  -- has `u16` length), `parse_extra_field` runs on `G`, and the model's `parseExtraField` on `dataOf G` is that outcome
  cases hutf : (flags &&& 2048 != 0) <;>
  simp only [hshr, hsys, hm, hdt, pure_bind] <;>
  generalize hG : Gen.ZipFileData.mk _ _ _ _ _ _ _ _ _ _ _ _ _ _ _ _ _ _ _ _ = G <;>
  obtain ⟨s, u, hrun, hpe⟩ := runP_parse_extra_field G (by rw [← hG, hextra]; omega) <;>
  generalize hp : parseExtraField _ _ _ = pe <;>
  (obtain rfl : pe = (dataOf s, pefErr u) := by
    rw [← hp, ← hpe, ← hG]
    simp only [dataOf, hsysm, hmm, hdtm, UInt64.ofNat_toNat]
    rfl
   rw [hrun, pure_bind]
   cases u with
   | ok _ => simp only [bind_assoc, pure_bind]; exact chi_fin s ao
   | error e =>
     cases e with
     | io k => simp only [bind_assoc, pure_bind]; exact chi_fin s ao
     | _ => rfl)

end ZipVerif.Tie.Parsers
