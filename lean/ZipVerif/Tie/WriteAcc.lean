import ZipVerif.Tie.WriterShort
import ZipVerif.Tie.RawCopy
import ZipVerif.Lemmas.ShortWrite
/-
`self.write_all(buf)` over the translated `write`, for EVERY accept function of the encoder that makes progress.

`WriterSM.sim_write_all_gw` ties the loop to `GW.writeAllLoop ext.accept`.  Here `writeData_acc_M`: `GW.writeData acc` at
the model monad is the model's `writeData` (whole accept) for every accept function that never answers `Ok(0)` to a
non-empty buffer (`AccOk`), unless an ENCODER is in front of the sink AND the entry would cross 4 GiB without
`large_file` (`Fits`; there both refuse, but with different byte counts: `ShortWrite.Refusal`).  Hence
`sim_write_all_acc` and `sim_add_symlink_acc`: `sim_write_all`, `sim_add_symlink` without the hypothesis
`ext.accept b = b.length` (the first under `NoRefusal`; the symlink target goes through a storer).
-/
set_option linter.unusedSimpArgs false
set_option linter.unusedVariables false

namespace ZipVerif.Tie.WriterSM
open ZipVerif ZipVerif.Model ZipVerif.Tie.SpecRecords ZipVerif.Tie.Records ZipVerif.Tie.Parsers

section gw
open ZipVerif.Model.GW

/-- the caller's `write_all` loop in front of an ENCODER (no sink call): every accept function that makes
progress ends with the whole buffer taken, unless the 4 GiB limit refuses -/
theorem loop_M_comp {acc : Bytes → Nat} (ha : AccOk acc) (f : FileData) :
    ∀ (fuel : Nat) (buf : Bytes) (s : WState), buf.length < fuel →
      s.writingToFile = true → s.writingToExtraField = false →
      (∃ mm l enc p, s.inner = .compressor mm l enc p) → s.files.getLast? = some f → Fits s f buf →
      (GW.writeAllLoop acc fuel buf s : M _) = pure (.ok (), fin s buf) := by
  intro fuel buf s hlen hwf hx ⟨mm, l, enc, p, hin⟩ hf hfit
  have hs : toSink s = false := by
    cases h : toSink s
    · rfl
    · rw [((toSink_iff s).mp h).2.2] at hin; cases hin
  -- off the sink the loop is the same pure function over the `Cursor` and over a short-writing sink
  obtain ⟨sd', e, -⟩ := (loop_MS ha f (fun _ => 0) fuel buf s { buf := [], pos := 0, calls := 0 } hlen hwf hx
    (by rw [hin]; exact Inner.noConfusion) hf).1 (Or.inl hfit)
  rw [writeAllLoop_pure (fun _ _ => rfl) acc fuel buf s hs] at e ⊢
  cases h : loopP acc fuel buf s with
  | error site => rw [h] at e; cases e
  | ok r => rw [h] at e; cases e; rfl

theorem writeData_acc_M {acc : Bytes → Nat} (ha : AccOk acc) (buf : Bytes) (s : WState)
    (hfit : ∀ mm l e p f, s.inner = .compressor mm l e p → s.files.getLast? = some f → Fits s f buf) :
    (GW.writeData acc buf s : M _) = Model.writeData buf s := by
  cases buf with
  | nil => rfl
  | cons b bs =>
  by_cases hcase : s.writingToFile = true ∧ s.writingToExtraField = false ∧
      (∃ mm l e p, s.inner = .compressor mm l e p) ∧ ∃ f, s.files.getLast? = some f
  · obtain ⟨hwf, hx, ⟨mm, l, e, p, hin⟩, f, hf⟩ := hcase
    have hF := hfit mm l e p f hin hf
    rw [← writeData_M]
    unfold GW.writeData
    rw [loop_M_comp ha f _ _ s (Nat.lt_succ_self _) hwf hx ⟨mm, l, e, p, hin⟩ hf hF,
      loop_M_comp AccOk.whole f _ _ s (Nat.lt_succ_self _) hwf hx ⟨mm, l, e, p, hin⟩ hf hF]
  · exact writeAllLoop_of_whole acc _ s (write_acc_irrel acc _ s hcase)

end gw

/-- no 4 GiB refusal of this buffer while an ENCODER is in front of the sink -/
def NoRefusal (g : Gen.ZipWriter) (buf : Bytes) : Prop :=
  ∀ mm l e p f, g.inner = .compressor mm l e p → g.files.getLast? = some f →
    g.stats.bytes_written.toNat + buf.length ≤ 0xFFFFFFFF ∨ f.large_file = true

theorem sim_write_all_acc (ext : Rs.S.Ext) (ha : AccOk ext.accept) (g : Gen.ZipWriter) (buf : Bytes)
    (hlen : buf.length < 9223372036854775808)
    (hbytes : g.stats.bytes_written.toNat + buf.length < 18446744073709551616)
    (hinv : g.writing_to_file = true → g.files ≠ [])
    (hnr : NoRefusal g buf) :
    Sim absR (fun _ => True)
      (Rs.S.run (Rs.S.write_all (Gen.ZipWriter.write ext) (buf.length + 1) g buf))
      (writeData buf (absW g)) := by
  have h := sim_write_all_gw ext (buf.length + 1) g buf hlen hbytes hinv
  have e : (GW.writeAllLoop ext.accept (buf.length + 1) buf (absW g) : M _) = writeData buf (absW g) := by
    refine writeData_acc_M ha buf (absW g) ?_
    intro mm l e p fm hin hfm
    cases hl : g.files.getLast? with
    | none =>
      have : (absW g).files.getLast? = none := by
        show (g.files.map dataOf).getLast? = none
        rw [getLastOpt_map, hl]; rfl
      rw [this] at hfm; cases hfm
    | some f =>
      have : (absW g).files.getLast? = some (dataOf f) := by
        show (g.files.map dataOf).getLast? = _
        rw [getLastOpt_map, hl]; rfl
      rw [this] at hfm
      cases hfm
      exact hnr mm l e p f hin hl
  rw [e] at h
  exact h

theorem post_of_sat {β} {Y : M (Except ZErr β × WState)} {Q : Except ZErr β × WState → Prop}
    (h : ∀ fa d, Sat Y fa d (fun r _ => Q r)) : Post Y Q := by
  intro fa d a d' he
  have := h fa d
  simp only [Sat, he] at this
  exact this

theorem datepart_of_timeOk (t : DateTime) (h : TimeOk t) : t.datepart ≠ none := by
  unfold TimeOk at h
  unfold DateTime.datepart
  rw [if_neg h]
  intro h'; cases h'

/-- `add_symlink` for every accept function that makes progress: the target is written through a plain or
ZipCrypto storer (`start_entry` leaves one: the model's `StartEntryPost`, carried to the translated object), where
the encoder's accept function is not consulted. -/
theorem sim_add_symlink_acc (ext : Rs.S.Ext) (ha : AccOk ext.accept) (g : Gen.ZipWriter) (name target : Bytes)
    (o : Gen.FileOptions) (hI : Inv (absW g))
    (hf : ∀ f, g.files.getLast? = some f →
      f.extra_field.length ≤ 9223372036854775807 ∧
      f.data_start.toNat + f.extra_field.length < 18446744073709551616 ∧
      f.header_start.toNat + 34 + f.file_name.length < 18446744073709551616)
    (hname : name.length < 18446744073709551616)
    (htarget : target.length < 9223372036854775808)
    (hto : TimeOk (optOf o).time) :
    Sim absR (fun _ => True) (Rs.S.run (Gen.ZipWriter.add_symlink ext g name target o))
      (addSymlink ext.toWExt name target (optOf o) (absW g)) := by
  have htime : (Tie.DateTime.toModel o.last_modified_time).datepart ≠ none := datepart_of_timeOk _ hto
  refine sim_add_symlink_of ext g name target o
    (fun g2 => (g2.files ≠ [] ∧ g2.stats.bytes_written = 0) ∧ ∃ enc, g2.inner = .storer enc) (fun o' ht => ?_)
    (fun g2 h => sim_write_all_acc ext ha { g2 with writing_to_file := true } target htarget
      (target_fits g2 target h.1.2 htarget) (fun _ => h.1.1) ?_)
  · have hto' : TimeOk (optOf o').time := by
      show TimeOk (Tie.DateTime.toModel o'.last_modified_time)
      rw [ht]; exact hto
    have hpostE : Post (startEntry ext.toWExt name (optOf o') (Option.map rawOf none) (absW g))
        (fun r => r.1 = .ok () → ∃ enc, r.2.inner = .storer enc) :=
      post_of_sat fun fa d => Sat.mono (startEntry_sat ext.toWExt name (optOf o') none hto' (absW g) hI fa d)
        (fun r d' hq hr => by
          obtain ⟨_, _, _, _, hin, _⟩ := hq.2 () hr
          rw [hin]
          split <;> exact ⟨_, rfl⟩)
    exact (Sim.post_of_model (sim_start_entry ext g name o' none hf hname (by rw [ht]; exact htime)) hpostE).mono
      fun p hp hr => ⟨hp.1 hr, hp.2 hr⟩
  · obtain ⟨enc, hin⟩ := h.2
    intro mm l e p f hc _
    have hc' : g2.inner = .compressor mm l e p := hc
    rw [hin] at hc'
    cases hc'

end ZipVerif.Tie.WriterSM
