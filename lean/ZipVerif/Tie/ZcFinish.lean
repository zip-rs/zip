import ZipVerif.Tie.ZcLayer
import ZipVerif.Basic.RsS
/-
The link between the STATE-MACHINE vocabulary `Rs.S.zc_finish` (`Basic/RsS.lean`; what `ZipWriter::finish_file`
calls when it takes a `MaybeEncrypted::Encrypted(writer)` out of the compressor stack, `Tie/WriterSM.lean`) and
the TRANSLATED `ZipCryptoWriter::finish` of zipcrypto.rs (`Gen.ZipCryptoWriter.finish`, tied to
`Model.ZipCrypto.Writer.finish` by `Tie.ZcLayer.tie_zipcrypto_finish`).

The translated method is generic in its sink `W: Write`; here the sink is the model's device together with the
injected-fault index (`Sink`, `instance : Rs.Write Sink`: one `write` call is `M.write`, `flush` is `M.flush`).

  tie_zc_finish   for every `EncState` (password, buffer), CRC, device and fault index:
                  `Gen.ZipCryptoWriter.finish ⟨sink, buffer, keys(password)⟩ crc` and
                  `Rs.S.zc_finish ext ⟨password, buffer⟩ crc` have the same outcome - `Ok` with the SAME final
                  device, the same `io::ErrorKind`, or both panic (fewer than 12 buffered bytes: `buffer[11]`).
                  On `Err` the translated method drops its sink with `self` (Rust: `finish(mut self, …)`), the
                  model's device stays; so the device is compared on `Ok` only.

Hypothesis `hext`: the writer model's `ext.zcEncrypt pw` IS the PKWARE encryption under the keys derived from
`pw` (`Model.ZipCrypto.encryptAll (derive pw)`; `WExt.zcEncrypt` is a parameter of the writer model, C15 / C02Full
instantiate it this way).  A `ZipCryptoKeys` value is represented by the password it was derived from (vocabulary of
`Tie/WriterSM.lean`; `ZipCryptoKeys::derive` is tied in `Tie/ZipCrypto.lean`).
-/

namespace ZipVerif.Tie.ZcFinish
open ZipVerif ZipVerif.Model ZipVerif.Model.ZipCrypto ZipVerif.Tie.ZipCrypto ZipVerif.Tie.ZcLayer

/-- the model's device, with the injected-fault index, as a `W: Write` sink -/
abbrev Sink := Option Nat × Dev

def wrOf (fa : Option Nat) : Out Nat × Dev → Rs.WrRes × Sink
  | (.ok n, d) => (.ok n, (fa, d))
  | (.err (.io k), d) => (.err k, (fa, d))
  | (_, d) => (.panic, (fa, d))

def ioOf (fa : Option Nat) : Out Unit × Dev → Rs.IoRes Unit × Sink
  | (.ok _, d) => (.ok (), (fa, d))
  | (.err (.io k), d) => (.err k, (fa, d))
  | (_, d) => (.panic, (fa, d))

instance : Rs.Write Sink where
  wr s bs := wrOf s.1 (M.write bs s.1 s.2)
  fl s := ioOf s.1 (M.flush s.1 s.2)

/-- `write_all` (std's loop, `Rs.L.write_all`) over the device sink is the model's `M.writeAll` -/
theorem write_all_dev (fa : Option Nat) (d : Dev) (bs : Bytes) :
    Rs.L.write_all ((fa, d) : Sink) bs = ioOf fa (M.writeAll bs fa d) := by
  unfold Rs.L.write_all M.writeAll
  cases bs with
  | nil => rfl
  | cons b rest =>
    by_cases hf : fa = some d.calls
    · simp only [List.length_cons, Rs.L.writeAllAux, Rs.Write.wr, M.write, M.prim, List.isEmpty_cons,
        Bool.false_eq_true, ↓reduceIte, bind, hf, wrOf, ioOf]
    · simp only [List.length_cons, Rs.L.writeAllAux, Rs.Write.wr, M.write, M.prim, List.isEmpty_cons,
        Bool.false_eq_true, ↓reduceIte, bind, pure, hf, wrOf, ioOf, Nat.le_refl]
      cases rest <;> simp [Rs.L.writeAllAux]

theorem flush_dev (fa : Option Nat) (d : Dev) : Rs.L.flush ((fa, d) : Sink) = ioOf fa (M.flush fa d) := rfl

theorem set11 (buf : Bytes) (b : UInt8) (h : 11 < buf.length) :
    buf.set 11 b = buf.take 11 ++ [b] ++ buf.drop 12 := by
  rw [List.set_eq_take_append_cons_drop, if_pos h]
  simp only [List.append_assoc, List.singleton_append]

theorem writeAll_shape (bs : Bytes) (fa : Option Nat) (d : Dev) :
    (∃ d', M.writeAll bs fa d = (.ok (), d')) ∨ (∃ k d', M.writeAll bs fa d = (.err (.io k), d')) := by
  unfold M.writeAll
  split
  · exact Or.inl ⟨_, rfl⟩
  · simp only [bind, M.write, M.prim]
    by_cases hf : fa = some d.calls
    · simp only [hf, ↓reduceIte]; exact Or.inr ⟨_, _, rfl⟩
    · simp only [hf, ↓reduceIte]; exact Or.inl ⟨_, rfl⟩

theorem flush_shape (fa : Option Nat) (d : Dev) :
    (∃ d', M.flush fa d = (.ok (), d')) ∨ (∃ k d', M.flush fa d = (.err (.io k), d')) := by
  simp only [M.flush, M.prim]
  by_cases hf : fa = some d.calls
  · simp only [hf, ↓reduceIte]; exact Or.inr ⟨_, _, rfl⟩
  · simp only [hf, ↓reduceIte]; exact Or.inl ⟨_, rfl⟩

/-- **`Rs.S.zc_finish` is the translated `ZipCryptoWriter::finish`** over the model's device. -/
theorem tie_zc_finish (ext : Rs.S.Ext)
    (hext : ∀ pw buf, ext.zcEncrypt pw buf = (encryptAll (derive pw) buf).1)
    (e : EncState) (crc : UInt32) (fa : Option Nat) (d : Dev) :
    match Gen.ZipCryptoWriter.finish (⟨(fa, d), e.buffer, ofModel (derive e.pw)⟩ : Gen.ZipCryptoWriter Sink) crc with
    | .ok s => s.1 = fa ∧ Rs.S.zc_finish ext e crc fa d = (.ok (), s.2)
    | .err k => ∃ d', Rs.S.zc_finish ext e crc fa d = (.err (.io k), d')
    | .panic => ∃ site d', Rs.S.zc_finish ext e crc fa d = (.panic site, d') := by
  rw [tie_zipcrypto_finish]
  unfold Rs.S.zc_finish Writer.finish wOf
  by_cases hl : 11 < e.buffer.length
  · have hl' : ¬ e.buffer.length < 12 := Nat.not_lt.mpr hl
    simp only [toModel_ofModel, hl, hl', ↓reduceIte, hext, set11 _ _ hl, write_all_dev]
    generalize (encryptAll (derive e.pw) (List.take 11 e.buffer ++ [(crc >>> 24).toUInt8] ++ List.drop 12 e.buffer)).1 = bytes
    simp only [bind]
    rcases writeAll_shape bytes fa d with ⟨d1, hw⟩ | ⟨k, d1, hw⟩
    · simp only [hw, ioOf]
      rcases flush_shape fa d1 with ⟨d2, hfl⟩ | ⟨k, d2, hfl⟩
      · simp only [flush_dev, hfl, ioOf, and_self]
      · simp only [flush_dev, hfl, ioOf, Rs.IoRes.fail]; exact ⟨_, rfl⟩
    · simp only [hw, ioOf, Rs.IoRes.fail]; exact ⟨_, rfl⟩
  · have hl' : e.buffer.length < 12 := Nat.lt_succ_of_le (Nat.not_lt.mp hl)
    simp only [hl, hl', ↓reduceIte]
    exact ⟨_, _, rfl⟩

/-- non-vacuity: the start-of-entry buffer (12 header bytes) on a fault-free device finishes `Ok` -/
example : ∃ s, Gen.ZipCryptoWriter.finish
    (⟨(none, Dev.ofBytes []), List.replicate 12 0, ofModel (derive [0x70])⟩ : Gen.ZipCryptoWriter Sink) 0 = .ok s := by
  rw [tie_zipcrypto_finish]
  exact ⟨_, rfl⟩

end ZipVerif.Tie.ZcFinish
