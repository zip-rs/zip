import ZipVerif.Tie.ReaderGlue2

/-
Tie obligations for the PUBLIC one-line wrappers of src/read.rs: `by_index`, `by_index_decrypt`,
`by_name`, `by_name_decrypt`.  Each is an equation between the translated wrapper and the translated
`by_*_with_optional_password` (tied to the model in `Tie/ReaderGlue2.lean`), without hypotheses.  `by_index` and
`by_name` pass no password, and an `Ok(Err(InvalidPassword))` of the inner function (an AES entry opened without a
password) becomes `Err(UnsupportedArchive(PASSWORD_REQUIRED))`; the `_decrypt` pair passes `Some(password)` and returns
the inner result unchanged.  All four pass the inner function's stores on under the label `self`: `[] ++
Rs.Stores.via "self" …` is the generated `stores_ ++ Rs.Stores.via "self" t` at `stores_ = []`.  `tie_by_index_pub`
puts `by_index_eq` behind `tie_by_index`: `by_index` in terms of the model.
-/
set_option linter.unusedSimpArgs false
set_option linter.unusedVariables false

namespace ZipVerif.Tie.ReaderApi
open ZipVerif ZipVerif.Model ZipVerif.Tie.SpecRecords ZipVerif.Tie.Records ZipVerif.Tie.Parsers
  ZipVerif.Tie.ReaderGlue ZipVerif.Tie.ReaderGlue2

/-- `res.map_err(|_| UnsupportedArchive(PASSWORD_REQUIRED))` as the function's outcome -/
def pwRequired {α : Type} (st : Rs.Stores) : Except Rs.InvalidPassword α → M (α × Rs.Stores)
  | .ok a => pure (a, st)
  | .error _ => M.throw .passwordRequired

theorem by_index_eq (ext : GExt) (z : Gen.ZipArchive) (i : UInt64) :
    Gen.ZipArchive.by_index ext z i =
      (Gen.ZipArchive.by_index_with_optional_password ext z i none >>= fun r =>
        pwRequired ([] ++ Rs.Stores.via "self" r.2) r.1) := by
  unfold Gen.ZipArchive.by_index
  msimp
  refine bind_congr fun r => ?_
  rcases r with ⟨_ | _, st⟩ <;> rfl

theorem by_index_decrypt_eq (ext : GExt) (z : Gen.ZipArchive) (i : UInt64) (pw : Bytes) :
    Gen.ZipArchive.by_index_decrypt ext z i pw =
      (fun r => (r.1, [] ++ Rs.Stores.via "self" r.2)) <$>
        Gen.ZipArchive.by_index_with_optional_password ext z i (some pw) := by
  unfold Gen.ZipArchive.by_index_decrypt
  msimp

theorem by_name_pub_eq (ext : GExt) (z : Gen.ZipArchive) (name : Bytes) :
    Gen.ZipArchive.by_name ext z name =
      (Gen.ZipArchive.by_name_with_optional_password ext z name none >>= fun r =>
        pwRequired ([] ++ Rs.Stores.via "self" r.2) r.1) := by
  unfold Gen.ZipArchive.by_name
  msimp
  refine bind_congr fun r => ?_
  rcases r with ⟨_ | _, st⟩ <;> rfl

theorem by_name_decrypt_eq (ext : GExt) (z : Gen.ZipArchive) (name pw : Bytes) :
    Gen.ZipArchive.by_name_decrypt ext z name pw =
      (fun r => (r.1, [] ++ Rs.Stores.via "self" r.2)) <$>
        Gen.ZipArchive.by_name_with_optional_password ext z name (some pw) := by
  unfold Gen.ZipArchive.by_name_decrypt
  msimp

theorem tie_by_index_pub (ext : GExt) (z : Gen.ZipArchive) (i : UInt64) :
    (fun r => (fileView r.1, r.2)) <$> Gen.ZipArchive.by_index ext z i =
      (Model.byIndexOpen (archOf z) i.toNat none >>= fun r =>
        runChoice ext ⟨r.1.compressedSize⟩ r.1.compressedSize r.2.2 >>= fun c =>
          pwRequired ([] ++ Rs.Stores.via "self" (dsStores r.2.1))
            (c.map fun cr => (r.1, true, some cr, Gen.ZipFileReader.NoReader))) := by
  rw [by_index_eq]
  have h := tie_by_index ext z i none
  simp only [map_eq_pure_bind, bind_assoc, pure_bind] at h ⊢
  have h2 := congrArg (fun (x : M _) => x >>= fun r =>
    pwRequired ([] ++ Rs.Stores.via "self" r.2) r.1) h
  simp only [bind_assoc, pure_bind] at h2
  refine Eq.trans ?_ h2
  refine bind_congr fun r => ?_
  rcases r with ⟨_ | _, st⟩ <;> rfl

end ZipVerif.Tie.ReaderApi
