import ZipVerif.Tie.Paths
import ZipVerif.Gen.StreamPaths
/-
Tie obligations for `ZipFileData::file_name_sanitized` (types.rs) and for the public wrappers
`ZipFile::{mangled_name, sanitized_name, enclosed_name}` (read.rs) and `ZipStreamFileMetadata::{mangled_name,
enclosed_name}` (read/stream.rs); tier T6, LAYER mode of rs2lean; vocabulary `Basic/RsPath.lean`.
`rs2lean` prints them (`Gen/TypesPaths.lean`, `Gen/ReadPaths.lean`, `Gen/StreamPaths.lean`) from these sources:
`find('\0')` and the slice up to it, the `MAIN_SEPARATOR` match, `replace`, `Path::new(..).components()`, the `filter`
with its `matches!`, the `fold` with `PathBuf::push`; the wrappers' delegations through `Cow<ZipFileData>` / the tuple
field.

The ties are equations on the UTF-8 bytes of a name `n`: `file_name_sanitized` is `some` of the encoding of
`Model.Paths.mangledName n` (`tie_file_name_sanitized`: never a panic), and the wrappers (`sanitized_name` with
`mangled_name`) give the model's `mangledName` / `enclosedName` of the entry's name.

Trusted vocabulary (`Basic/RsPath.lean`): a `String` is its UTF-8 bytes; `find(c)` for an ASCII literal is the index
of the first byte `c`; a `str` slice is the byte slice and panics off a character boundary; `replace` with `&str`
arguments is the byte-level non-overlapping replacement; `char::to_string` is the RFC 3629 encoding; `MAIN_SEPARATOR`
is '/' (Unix); `Component::as_os_str`; `Iterator::filter` is `List.filter`.  `Path::components()` / `PathBuf::push`
are the named parameters of `Tie/Paths.lean` (`pathOps` := the functions of `Model/Paths.lean` read through UTF-8,
validated against std by the exhaustive `paths` stream).  UTF-8 facts PROVED, not assumed: a byte below 0x80
occurs in an encoding only as the character with that code (`ascii_mem_encodeChar` of Lemmas/Text; for the byte 0
`zero_mem_encode` of Tie/Paths), hence the first 0 byte is the first
NUL (`findAscii_nul`), its index is a character boundary (`slice_nul`), and replacing the byte 0x5C by 0x2F replaces
the character `\` by `/` (`replace_backslash`).  Hypothesis: the name's encoding is shorter than 2^64 bytes (`usize`
index versus `Nat`; a Rust string is shorter than 2^63 bytes); for the `enclosed_name` wrappers that of
`Tie/Paths.tie_enclosed_name`, `n.length + 1 < 2^64`.
-/

namespace ZipVerif.Tie.Mangled
open ZipVerif ZipVerif.Spec ZipVerif.Model ZipVerif.Spec.Paths ZipVerif.Model.Paths ZipVerif.Tie.Layers ZipVerif.Tie.Paths

/-! ### UTF-8: a byte below 0x80 occurs only as the character with that code -/

theorem encodeChar_byte (c : Char) (b : UInt8) (hb : b ∈ utf8EncodeChar c) :
    (c.toNat < 0x80 ∧ utf8EncodeChar c = [b] ∧ b.toNat = c.toNat) ∨ 0x80 ≤ b.toNat := by
  rcases utf8EncodeChar_bytes c with ⟨h, e⟩ | ⟨-, -, hge⟩
  · rw [e, List.mem_singleton] at hb
    subst hb
    exact .inl ⟨h, e, toNat_ofNat8_le (Nat.le_of_lt h) (by decide)⟩
  · exact .inr (hge b hb)

theorem encode_append (a b : Name) : utf8Encode (a ++ b) = utf8Encode a ++ utf8Encode b := by
  induction a with
  | nil => rfl
  | cons c r ih => simp only [List.cons_append, utf8Encode, ih, List.append_assoc]

/-! ### `find('\0')` and the slice up to it -/

theorem findIdx_none (a : Bytes) (x : UInt8) (ha : x ∉ a) : a.findIdx? (· == x) = none :=
  List.findIdx?_eq_none_iff.mpr fun _ hy => beq_eq_false_iff_ne.mpr fun e => ha (e ▸ hy)

theorem findIdx_append_hit (a b : Bytes) (x : UInt8) (ha : x ∉ a) :
    (a ++ x :: b).findIdx? (· == x) = some a.length := by
  simp [List.findIdx?_append, findIdx_none a x ha, List.findIdx?_cons]

theorem encode_truncNul (n : Name) (h : '\x00' ∈ n) :
    ∃ rest, utf8Encode n = utf8Encode (truncNul n) ++ 0 :: utf8Encode rest := by
  obtain ⟨rest, e⟩ := truncNul_split n h
  refine ⟨rest, ?_⟩
  conv => lhs; rw [e]
  rw [encode_append]; rfl

/-- `name.find('\0')`: the length of the encoding of the part before the first NUL -/
theorem findAscii_nul (n : Name) :
    Rs.Str.findAscii (utf8Encode n) 0 =
      if '\x00' ∈ n then some (UInt64.ofNat (utf8Encode (truncNul n)).length) else none := by
  unfold Rs.Str.findAscii
  have h0 : UInt8.ofNat 0 = 0 := rfl
  rw [h0]
  by_cases h : '\x00' ∈ n
  · obtain ⟨rest, enc⟩ := encode_truncNul n h
    have hz : (0 : UInt8) ∉ utf8Encode (truncNul n) :=
      fun hh => nul_not_mem_truncNul n ((zero_mem_encode _).mp hh)
    rw [if_pos h, enc, findIdx_append_hit _ _ _ hz]
    rfl
  · have hz : (0 : UInt8) ∉ utf8Encode n := fun hh => h ((zero_mem_encode _).mp hh)
    rw [if_neg h, findIdx_none _ _ hz]
    rfl

/-- `&name[0..index]` for the index of the first NUL: the encoding of the part before it (index 0 and the
index of a NUL byte are character boundaries) -/
theorem slice_nul (n : Name) (h : '\x00' ∈ n) (hn : (utf8Encode n).length < 2 ^ 64) :
    Rs.Str.slice (utf8Encode n) 0 (UInt64.ofNat (utf8Encode (truncNul n)).length) = some (utf8Encode (truncNul n)) := by
  obtain ⟨rest, enc⟩ := encode_truncNul n h
  generalize utf8Encode (truncNul n) = a at enc
  rw [enc] at hn ⊢
  simp only [List.length_append, List.length_cons] at hn
  have hl : (UInt64.ofNat a.length).toNat = a.length := U64.toNat_ofNat (by omega)
  unfold Rs.Str.slice Rs.Str.isCharBoundary
  rw [hl]
  simp

/-! ### `replace("\\", "/")` -/

theorem replaceGo_single (p : UInt8) (to s : Bytes) :
    Rs.Str.replaceGo [p] to s 0 = s.flatMap (fun b => if b = p then to else [b]) := by
  induction s with
  | nil => rfl
  | cons b r ih =>
    by_cases hb : b = p
    · subst hb
      simp [Rs.Str.replaceGo, List.isPrefixOf, ih, List.flatMap_cons]
    · have hb' : ¬ p = b := fun e => hb e.symm
      simp [Rs.Str.replaceGo, List.isPrefixOf, ih, List.flatMap_cons, hb, hb']

theorem char_of_toNat_eq {c : Char} {k : Nat} (hk : k.isValidChar) (h : c.toNat = k) : c = Char.ofNat k := by
  apply char_eq_of_toNat
  rw [h]
  unfold Char.ofNat
  rw [dif_pos hk]
  rfl

theorem flatMap_backslash (n : Name) :
    (utf8Encode n).flatMap (fun b => if b = 0x5C then [(0x2F : UInt8)] else [b]) = utf8Encode (toMainSep n) := by
  induction n with
  | nil => rfl
  | cons c r ih =>
    simp only [utf8Encode, List.flatMap_append, ih, toMainSep, List.map_cons]
    congr 1
    by_cases hc : c = '\\'
    · subst hc; rfl
    · rw [if_neg hc]
      have : ∀ b ∈ utf8EncodeChar c, b ≠ 0x5C := fun b hb e =>
        hc (char_eq_of_toNat ((ascii_mem_encodeChar (by decide)).mp (e ▸ hb)))
      generalize utf8EncodeChar c = l at this
      induction l with
      | nil => rfl
      | cons x t iht =>
        have hx := this x (List.mem_cons_self ..)
        simp only [List.flatMap_cons, hx, if_false, List.singleton_append]
        rw [iht (fun b hb => this b (List.mem_cons_of_mem _ hb))]

theorem replace_backslash (n : Name) :
    Rs.Str.replace (utf8Encode n) (Rs.Str.ofChar (Char.ofNat 92)) (Rs.Str.ofChar Rs.Path.MAIN_SEPARATOR) =
      utf8Encode (toMainSep n) := by
  have e1 : Rs.Str.ofChar (Char.ofNat 92) = [0x5C] := by decide
  have e2 : Rs.Str.ofChar Rs.Path.MAIN_SEPARATOR = [0x2F] := by decide
  rw [e1, e2]
  unfold Rs.Str.replace
  simp only [List.isEmpty_cons, Bool.false_eq_true, if_false]
  rw [replaceGo_single, flatMap_backslash]

/-! ### the `filter` and the `fold` -/

theorem filter_normal (p : Rs.Component → Bool) (hp : ∀ c, p (encComp c) = (normalOnly c).isSome) (cs : List Comp) :
    List.filter p (cs.map encComp) =
      (cs.filterMap normalOnly).map (fun s => Rs.Component.Normal (utf8Encode s)) := by
  induction cs with
  | nil => rfl
  | cons c r ih =>
    simp only [List.map_cons, List.filter_cons, hp c, ih]
    cases c <;> simp [encComp, normalOnly, List.filterMap_cons]

theorem push_encode (b x : Name) :
    @Rs.PathOps.push pathOps (utf8Encode b) (utf8Encode x) = utf8Encode (push b x) := by
  show (match utf8Strict (utf8Encode b), utf8Strict (utf8Encode x) with
      | some b, some x => utf8Encode (push b x)
      | _, _ => []) = _
  rw [strict_encode, strict_encode]

theorem foldM_push (body : Bytes → Rs.Component → Option Bytes)
    (hb : ∀ (acc s : Name), body (utf8Encode acc) (.Normal (utf8Encode s)) = some (utf8Encode (push acc s))) :
    ∀ (l : List Name) (acc : Name),
      Rs.L.foldM (l.map (fun s => Rs.Component.Normal (utf8Encode s))) (utf8Encode acc) body =
        some (utf8Encode (l.foldl push acc)) := by
  intro l
  induction l with
  | nil => intro acc; rfl
  | cons s r ih =>
    intro acc
    simp only [List.map_cons, Rs.L.foldM, hb, List.foldl_cons]
    exact ih _

theorem tie_file_name_sanitized (data : Gen.ZipFileData) (n : Name) (hname : data.file_name = utf8Encode n)
    (hn : (utf8Encode n).length < 2 ^ 64) :
    @Gen.ZipFileData.file_name_sanitized pathOps data = some (utf8Encode (mangledName n)) := by
  unfold Gen.ZipFileData.file_name_sanitized mangledName mangledComps
  simp only [Id.run, Rs.L.id_pure, Rs.L.id_bind, hname, findAscii_nul]
  have hsep : (Rs.Path.MAIN_SEPARATOR == Char.ofNat 47) = true := by decide
  have hnil : ([] : Bytes) = utf8Encode [] := rfl
  -- the slice is the encoding of `truncNul n`, whether or not there is a NUL
  by_cases h0 : '\x00' ∈ n
  case' pos => simp only [h0, if_true, slice_nul n h0 hn, hsep, replace_backslash, components_encode]
  case' neg =>
    rw [truncNul_of_not_mem n h0]
    simp only [h0, if_false, hsep, if_true, replace_backslash, components_encode]
  all_goals
    rw [filter_normal _ (fun c => by cases c <;> rfl), hnil, foldM_push _ ?_]
    intro acc s
    simp only [Rs.Component.as_os_str, push_encode]
    rfl

example : mangledName "a\\..\\b/./c\x00d/e".toList = "a/b/c".toList := by decide

/-! ### the public wrappers (thin delegations) -/

theorem zipfile_mangled_name_eq (f : Gen.ZipFile) :
    @Gen.ZipFile.mangled_name pathOps f = @Gen.ZipFileData.file_name_sanitized pathOps f.data.get := by
  unfold Gen.ZipFile.mangled_name
  cases @Gen.ZipFileData.file_name_sanitized pathOps f.data.get <;> rfl

theorem zipfile_enclosed_name_eq (f : Gen.ZipFile) :
    @Gen.ZipFile.enclosed_name pathOps f = @Gen.ZipFileData.enclosed_name pathOps f.data.get := by
  unfold Gen.ZipFile.enclosed_name
  cases @Gen.ZipFileData.enclosed_name pathOps f.data.get <;> rfl

theorem stream_mangled_name_eq (m : Gen.ZipStreamFileMetadata) :
    @Gen.ZipStreamFileMetadata.mangled_name pathOps m = @Gen.ZipFileData.file_name_sanitized pathOps m._0 := by
  unfold Gen.ZipStreamFileMetadata.mangled_name
  cases @Gen.ZipFileData.file_name_sanitized pathOps m._0 <;> rfl

theorem stream_enclosed_name_eq (m : Gen.ZipStreamFileMetadata) :
    @Gen.ZipStreamFileMetadata.enclosed_name pathOps m = @Gen.ZipFileData.enclosed_name pathOps m._0 := by
  unfold Gen.ZipStreamFileMetadata.enclosed_name
  cases @Gen.ZipFileData.enclosed_name pathOps m._0 <;> rfl

theorem tie_zipfile_mangled_name (f : Gen.ZipFile) (n : Name) (hname : f.data.get.file_name = utf8Encode n)
    (hn : (utf8Encode n).length < 2 ^ 64) :
    @Gen.ZipFile.mangled_name pathOps f = some (utf8Encode (mangledName n)) ∧
    @Gen.ZipFile.sanitized_name pathOps f = some (utf8Encode (mangledName n)) := by
  have h := tie_file_name_sanitized _ n hname hn
  refine ⟨by rw [zipfile_mangled_name_eq, h], ?_⟩
  -- `sanitized_name` (deprecated) = `self.mangled_name()`
  unfold Gen.ZipFile.sanitized_name
  simp only [zipfile_mangled_name_eq, h]
  rfl

theorem tie_zipfile_enclosed_name (f : Gen.ZipFile) (n : Name) (hname : f.data.get.file_name = utf8Encode n)
    (hn : n.length + 1 < 2 ^ 64) :
    @Gen.ZipFile.enclosed_name pathOps f = some ((enclosedName n).map utf8Encode) := by
  rw [zipfile_enclosed_name_eq, tie_enclosed_name _ n hname hn]

theorem tie_stream_mangled_name (m : Gen.ZipStreamFileMetadata) (n : Name) (hname : m._0.file_name = utf8Encode n)
    (hn : (utf8Encode n).length < 2 ^ 64) :
    @Gen.ZipStreamFileMetadata.mangled_name pathOps m = some (utf8Encode (mangledName n)) := by
  rw [stream_mangled_name_eq, tie_file_name_sanitized _ n hname hn]

theorem tie_stream_enclosed_name (m : Gen.ZipStreamFileMetadata) (n : Name) (hname : m._0.file_name = utf8Encode n)
    (hn : n.length + 1 < 2 ^ 64) :
    @Gen.ZipStreamFileMetadata.enclosed_name pathOps m = some ((enclosedName n).map utf8Encode) := by
  rw [stream_enclosed_name_eq, tie_enclosed_name _ n hname hn]

end ZipVerif.Tie.Mangled
