import ZipVerif.Basic.U64
import ZipVerif.Gen.ReadHandle
import ZipVerif.Model.Reader
import ZipVerif.Lemmas.MRun
import ZipVerif.Lemmas.FaultVisit
/-
Tie obligations for the drain of an entry handle: `ZipFile::drain_stream`, `Drop for ZipFile`, and the `into_inner`
chains of `ZipFileReader` / `CryptoReader` (src/read.rs; translator tier T6, HANDLE mode
`rs2lean/src/t6r3.rs`, vocabulary `Basic/RsH.lean`).  The model side is the SINGLE drain definition of
`Model/Reader.lean`: `takeLoop` / `drainE` (error returned) / `drain` (error swallowed), inside `M.retried` (std-style
retry of `ErrorKind::Interrupted`).

The ties are equations between `M`-computations (every device, every fault index, every error kind):
`Gen.ZipFile.drain_stream fuel z = drainModel z` and `Gen.ZipFile.drop fuel z = dropModel z`.  `drainModel` and
`dropModel` are defined HERE, over the translated handle `Gen.ZipFile`, not in `Model/`: they look up the innermost
`Take` of the handle (`innerTake`, the unwrapping order of the `into_inner` chains) and run the model's
`attempt (retried (drainE limit))` resp. `retried (drain limit)` on its limit.  The heart is `loop_retried`: the
translated 64 KiB read loop over std's `Take::read` against `retried (takeLoop 65536 limit limit)`.

Hypothesis: `limit + 2 ≤ fuel` for the innermost `Take` of the handle (`loop_retried_aux` says where the 2 comes from).

Trusted vocabulary (`Basic/RsH.lean`): std's `Take::read`, `Option::take`, `mem::replace`, `[v; n]`; `into_inner` /
`finish` of the external decoders and of the validated decryption layers return the wrapped reader; the loop fuel is
a parameter (out of fuel = panic), the theorems hold for every fuel above the stated bound.
-/
open ZipVerif ZipVerif.Model

namespace ZipVerif.Tie.Drain

theorem M.pure_apply {α} (a : α) (fa : Option Nat) (d : Dev) : (Pure.pure a : M α) fa d = (.ok a, d) := rfl

theorem M.retried_hard {α} (m : M α) (fa : Option Nat) (d : Dev) (h : d.fkind ≠ .interrupted) :
    M.retried m fa d = m fa d :=
  Model.M.retried_hard m fa d h

theorem read_apply (n : Nat) (fa : Option Nat) (d : Dev) :
    M.read n fa d =
      if fa = some d.calls then (.err (.io d.fkind), { d with calls := d.calls + 1 })
      else (.ok ((d.buf.drop d.pos).take n),
            { d with calls := d.calls + 1, pos := d.pos + ((d.buf.drop d.pos).take n).length }) := by
  unfold M.read M.prim
  rfl

/-- what the drain loop reports: `none` = it ended by `break`, `some e` = `return Err(e)` -/
def endErr : Rs.LoopEnd (Rs.Take × Bytes) (Except ZErr Unit) → Option ZErr
  | .done _ => none
  | .ret (.error e) => some e
  | .ret (.ok _) => none

def mapO {α β : Type} (f : α → β) (r : Out α × Dev) : Out β × Dev :=
  (match r.1 with | .ok a => .ok (f a) | .err e => .err e | .panic s => .panic s, r.2)

abbrev body := Gen.ZipFile.drain_stream.loop1_body

theorem mapO_mapO {α β γ : Type} (f : α → β) (g : β → γ) (r : Out α × Dev) :
    mapO g (mapO f r) = mapO (fun a => g (f a)) r := by
  obtain ⟨o, d⟩ := r
  cases o <;> rfl

theorem mapO_snd (r : Out α × Dev) (f : α → β) : (mapO f r).2 = r.2 := rfl

theorem mapO_bump {α β : Type} (f : α → β) (r : Out α × Dev) : mapO f (bump r) = bump (mapO f r) := rfl

theorem M.retried_mapO {α β : Type} (f : α → β) {m : M α} {m' : M β} (h : ∀ fa d, m' fa d = mapO f (m fa d))
    (fa : Option Nat) (d : Dev) : M.retried m' fa d = mapO f (M.retried m fa d) :=
  M.retried_comp (fun o => match o with | .ok a => .ok (f a) | .err e => .err e | .panic s => .panic s) h fa d

theorem loop_succ {σ ρ : Type} (b : σ → M (Rs.Step σ ρ)) (fuel : Nat) (s : σ) :
    Rs.H.loop b (fuel + 1) s = (b s >>= fun r => match r with
      | .next s' => Rs.H.loop b fuel s'
      | .brk s' => pure (.done s')
      | .ret r => pure (.ret r)) := rfl

/-- std's `Take::read` on a `Take` whose limit is not used up: one `read` of `min buf.len() limit` bytes; a failing
call leaves the `Take` and the buffer alone -/
theorem take_read_pos (t : Rs.Take) (buf : Bytes) (fa : Option Nat) (d : Dev) (h : t.limit ≠ 0) :
    Rs.H.take_read t buf fa d =
      if fa = some d.calls then (.ok (.error (.io d.fkind), t, buf), { d with calls := d.calls + 1 })
      else
        let bs := (d.buf.drop d.pos).take (min buf.length t.limit.toNat)
        (.ok (.ok (UInt64.ofNat bs.length), ⟨t.limit - UInt64.ofNat bs.length⟩, bs ++ buf.drop bs.length),
          { d with calls := d.calls + 1, pos := d.pos + bs.length }) := by
  unfold Rs.H.take_read
  rw [if_neg h, M.bind_apply, M.attempt_apply, read_apply]
  by_cases hf : fa = some d.calls
  · rw [if_pos hf, if_pos hf]
    rfl
  · rw [if_neg hf, if_neg hf]
    rfl

theorem body_zero (t : Rs.Take) (buf : Bytes) (fa : Option Nat) (d : Dev) (h : t.limit = 0) :
    body (t, buf) fa d = (.ok (.brk (t, buf)), d) := by
  show (Rs.H.take_read t buf >>= _) fa d = _
  rw [M.bind_apply, Rs.H.take_read, if_pos h]
  rfl

theorem body_pos (t : Rs.Take) (buf : Bytes) (fa : Option Nat) (d : Dev) (h : t.limit ≠ 0) :
    body (t, buf) fa d =
      if fa = some d.calls then
        (if d.fkind = .interrupted then (.ok (.next (t, buf)), { d with calls := d.calls + 1 })
         else (.ok (.ret (.error (.io d.fkind))), { d with calls := d.calls + 1 }))
      else
        let bs := (d.buf.drop d.pos).take (min buf.length t.limit.toNat)
        let d' : Dev := { d with calls := d.calls + 1, pos := d.pos + bs.length }
        let s' : Rs.Take × Bytes := (⟨t.limit - UInt64.ofNat bs.length⟩, bs ++ buf.drop bs.length)
        if UInt64.ofNat bs.length = 0 then (.ok (.brk s'), d') else (.ok (.next s'), d') := by
  show (Rs.H.take_read t buf >>= _) fa d = _
  rw [M.bind_apply, take_read_pos t buf fa d h]
  by_cases hf : fa = some d.calls
  · rw [if_pos hf, if_pos hf]
    dsimp only
    by_cases hk : d.fkind = .interrupted
    · rw [if_pos hk, if_pos (by rw [hk]; rfl)]
      rfl
    · rw [if_neg hk, if_neg (by simpa [Rs.H.kindIs] using hk)]
      rfl
  · rw [if_neg hf, if_neg hf]
    dsimp only
    generalize UInt64.ofNat (List.take (min (List.length buf) t.limit.toNat) (List.drop d.pos d.buf)).length = n
    by_cases hn : n = 0
    · subst hn
      rfl
    · rw [if_neg hn]
      simp only
      rfl

theorem loop_zero (g : Nat) (t : Rs.Take) (buf : Bytes) (fa : Option Nat) (d : Dev) (h : t.limit = 0) :
    Rs.H.loop body (g + 1) (t, buf) fa d = (.ok (.done (t, buf)), d) := by
  rw [loop_succ, M.bind_apply, body_zero t buf fa d h]
  rfl

/-- a round of the translated loop whose call fails: `Interrupted` is skipped, any other kind returned -/
theorem loop_fault (g : Nat) (t : Rs.Take) (buf : Bytes) (d : Dev) (h : t.limit ≠ 0) :
    Rs.H.loop body (g + 1) (t, buf) (some d.calls) d =
      if d.fkind = .interrupted then Rs.H.loop body g (t, buf) (some d.calls) { d with calls := d.calls + 1 }
      else (.ok (.ret (.error (.io d.fkind))), { d with calls := d.calls + 1 }) := by
  rw [loop_succ, M.bind_apply, body_pos t buf _ d h, if_pos rfl]
  by_cases hk : d.fkind = .interrupted
  · rw [if_pos hk, if_pos hk]
  · rw [if_neg hk, if_neg hk]
    rfl

/-- a round of the translated loop whose call succeeds with `bs`: `Ok(0)` ends the loop, else the `Take` is down by
`bs.len()` -/
theorem loop_read (g : Nat) (t : Rs.Take) (buf : Bytes) (fa : Option Nat) (d : Dev) (hb : buf.length = 65536)
    (h : t.limit ≠ 0) (hf : fa ≠ some d.calls) :
    let bs := (d.buf.drop d.pos).take (min t.limit.toNat 65536)
    let d' : Dev := { d with calls := d.calls + 1, pos := d.pos + bs.length }
    ∃ t' buf', t'.limit.toNat = t.limit.toNat - bs.length ∧ buf'.length = 65536 ∧
      Rs.H.loop body (g + 1) (t, buf) fa d =
        if bs.length = 0 then (.ok (.done (t', buf')), d') else Rs.H.loop body g (t', buf') fa d' := by
  intro bs d'
  have hl : bs.length ≤ t.limit.toNat ∧ bs.length ≤ 65536 := by
    rw [List.length_take]
    omega
  have ht := t.limit.toNat_lt
  refine ⟨⟨t.limit - UInt64.ofNat bs.length⟩, bs ++ buf.drop bs.length, U64.toNat_sub_ofNat t.limit hl.1,
    by rw [List.length_append, List.length_drop]; omega, ?_⟩
  rw [loop_succ, M.bind_apply, body_pos t buf fa d h, if_neg hf, hb, Nat.min_comm]
  by_cases hz : bs.length = 0
  · rw [if_pos hz, if_pos ((U64.ofNat_eq_zero (by omega)).mpr hz)]
    rfl
  · rw [if_neg hz, if_neg (fun c => hz ((U64.ofNat_eq_zero (by omega)).mp c))]

theorem takeLoop_zero_want (chunk n : Nat) : takeLoop chunk n 0 = pure (0, none) := by
  cases n <;> rfl

theorem takeLoop_fault (chunk n want : Nat) (d : Dev) (hw : want ≠ 0) :
    takeLoop chunk (n + 1) want (some d.calls) d =
      (.ok (0, some (.io d.fkind)), { d with calls := d.calls + 1 }) := by
  rw [takeLoop, if_neg hw, M.bind_apply, M.attempt_apply, read_apply, if_pos rfl]
  rfl

theorem takeLoop_read (chunk n want : Nat) (fa : Option Nat) (d : Dev) (hw : want ≠ 0) (hf : fa ≠ some d.calls) :
    takeLoop chunk (n + 1) want fa d =
      let bs := (d.buf.drop d.pos).take (min want chunk)
      let d' : Dev := { d with calls := d.calls + 1, pos := d.pos + bs.length }
      if bs.length = 0 then (.ok (0, none), d')
      else mapO (fun r => (bs.length + r.1, r.2)) (takeLoop chunk n (want - bs.length) fa d') := by
  rw [takeLoop, if_neg hw, M.bind_apply, M.attempt_apply, read_apply, if_neg hf]
  dsimp only
  split
  · rfl
  · rw [M.bind_apply, mapO]
    rcases takeLoop chunk n _ fa _ with ⟨o, d''⟩
    cases o <;> rfl

theorem takeLoop_mono (chunk fuel want : Nat) (d : Dev) : d.calls ≤ (takeLoop chunk fuel want none d).2.calls :=
  (takeLoop_uniform chunk fuel want).mono none d

theorem takeLoop_outside (chunk fuel want k : Nat) (d : Dev) (hk : k < d.calls) :
    takeLoop chunk fuel want (some k) d = takeLoop chunk fuel want none d :=
  (takeLoop_uniform chunk fuel want).same_of_outside (.inl hk)

theorem takeLoop_shift (chunk : Nat) : ∀ (n want : Nat) (d : Dev),
    takeLoop chunk n want none { d with calls := d.calls + 1 } = bump (takeLoop chunk n want none d) := by
  intro n
  induction n with
  | zero => intro want d; rfl
  | succ n ih =>
    intro want d
    by_cases hw : want = 0
    · subst hw
      rw [takeLoop_zero_want]
      rfl
    · rw [takeLoop_read chunk n want none d hw nofun, takeLoop_read chunk n want none _ hw nofun]
      dsimp only
      split
      · rfl
      · rw [← mapO_bump, ← ih]

theorem takeLoop_calls_pos (chunk n want : Nat) (d : Dev) (hw : want ≠ 0) :
    d.calls + 1 ≤ (takeLoop chunk (n + 1) want none d).2.calls := by
  rw [takeLoop_read chunk n want none d hw nofun]
  dsimp only
  split
  · exact Nat.le_refl _
  · rw [mapO_snd]
    exact takeLoop_mono chunk n (want - (List.take (min want chunk) (List.drop d.pos d.buf)).length)
      { d with calls := d.calls + 1, pos := d.pos + (List.take (min want chunk) (List.drop d.pos d.buf)).length }

/-- a successful call at the head of the take loop stays outside `retried` -/
theorem retried_takeLoop_read (chunk n want : Nat) (fa : Option Nat) (d : Dev) (hw : want ≠ 0)
    (hf : fa ≠ some d.calls) :
    M.retried (takeLoop chunk (n + 1) want) fa d =
      let bs := (d.buf.drop d.pos).take (min want chunk)
      let d' : Dev := { d with calls := d.calls + 1, pos := d.pos + bs.length }
      if bs.length = 0 then (.ok (0, none), d')
      else mapO (fun r => (bs.length + r.1, r.2)) (M.retried (takeLoop chunk n (want - bs.length)) fa d') := by
  cases fa with
  | none => exact takeLoop_read chunk n want none d hw hf
  | some k =>
    have hk : k ≠ d.calls := fun c => hf (congrArg some c)
    rw [M.retried_some, takeLoop_read chunk n want none d hw nofun, takeLoop_read chunk n want (some k) d hw hf]
    dsimp only
    generalize List.take (min want chunk) (List.drop d.pos d.buf) = bs
    by_cases hz : bs.length = 0
    · rw [if_pos hz, if_pos hz, if_pos hz]
      refine if_neg fun c => ?_
      have c1 := c.2.1
      have c2 : k < d.calls + 1 := c.2.2
      omega
    · rw [if_neg hz, if_neg hz, if_neg hz, mapO_snd, M.retried_some]
      generalize takeLoop chunk n (want - bs.length) none _ = X
      by_cases hc : d.fkind = .interrupted ∧ d.calls ≤ k ∧ k < X.2.calls
      · rw [if_pos hc, if_pos ⟨hc.1, Nat.lt_of_le_of_ne hc.2.1 (Ne.symm hk), hc.2.2⟩, mapO_bump]
      · rw [if_neg hc, if_neg (fun c => hc ⟨c.1, Nat.le_of_succ_le c.2.1, c.2.2⟩)]

/-- the fault, if there is one, is not an `Interrupted` that can still fire -/
def NoIntr (fa : Option Nat) (d : Dev) : Prop := ∀ k, fa = some k → d.fkind = .interrupted → k < d.calls

/-- the induction behind `loop_retried`: by rounds of the translated loop.  A round that reads takes at least one byte
off the limit and one more round breaks (`limit < g`).  A round whose call fails with `Interrupted` costs the loop one
round and the take loop none, hence one round of fuel to spare while that can still happen (`limit + 1 < g`). -/
theorem loop_retried_aux : ∀ (g n : Nat) (t : Rs.Take) (buf : Bytes) (fa : Option Nat) (d : Dev),
    buf.length = 65536 → t.limit.toNat ≤ n → t.limit.toNat < g → (NoIntr fa d ∨ t.limit.toNat + 1 < g) →
    mapO endErr (Rs.H.loop body g (t, buf) fa d) =
      mapO Prod.snd (M.retried (takeLoop 65536 n t.limit.toNat) fa d) := by
  intro g
  induction g with
  | zero => intro n t buf fa d _ _ hg; cases hg
  | succ g ih =>
    intro n t buf fa d hb hn hg hi
    by_cases h0 : t.limit = 0
    · rw [loop_zero g t buf fa d h0, h0, UInt64.toNat_zero, takeLoop_zero_want, M.retried_pure]
      rfl
    have hw : t.limit.toNat ≠ 0 := fun c => h0 (UInt64.toNat_inj.mp c)
    obtain ⟨n, rfl⟩ : ∃ n', n = n' + 1 := ⟨n - 1, by omega⟩
    by_cases hf : fa = some d.calls
    · subst hf
      rw [loop_fault g t buf d h0]
      by_cases hk : d.fkind = .interrupted
      · rw [if_pos hk, ih (n + 1) t buf (some d.calls) _ hb hn
            (hi.elim (fun h => absurd (h _ rfl hk) (Nat.lt_irrefl _)) Nat.lt_of_succ_lt_succ)
            (Or.inl fun k hk _ => Option.some.inj hk ▸ Nat.lt_succ_self d.calls),
          M.retried_outside _ _ _ (Nat.lt_succ_self d.calls), takeLoop_outside _ _ _ _ _ (Nat.lt_succ_self d.calls),
          takeLoop_shift, M.retried_some, if_pos ⟨hk, Nat.le_refl _, takeLoop_calls_pos 65536 n _ d hw⟩]
      · rw [if_neg hk, M.retried_hard _ _ _ hk, takeLoop_fault 65536 n _ d hw]
        rfl
    · have hL := loop_read g t buf fa d hb h0 hf
      rw [retried_takeLoop_read 65536 n _ fa d hw hf]
      dsimp only at hL ⊢
      generalize List.take (min t.limit.toNat 65536) (List.drop d.pos d.buf) = bs at hL ⊢
      obtain ⟨t', buf', ht', hb', hL⟩ := hL
      rw [hL]
      by_cases hz : bs.length = 0
      · rw [if_pos hz, if_pos hz]
        rfl
      · rw [if_neg hz, if_neg hz, ih n t' buf' fa { d with calls := d.calls + 1, pos := d.pos + bs.length } hb'
            (by omega) (by omega) (hi.imp (fun h k hk hkk => Nat.lt_succ_of_lt (h k hk hkk)) (by omega)),
          ht', mapO_mapO]

/-- **The translated drain loop is the model's take loop inside std-style retry**: `loop { match reader.read(&mut
buffer) { Ok(0) => break, Ok(_) => (), Err(ref e) if e.kind() == Interrupted => (), Err(e) => return Err(e) } }` ends
on the same device as `retried (takeLoop 65536 limit limit)` and returns (`endErr`) the error that is the take loop's
second component; the `Take` and buffer at the end of the loop and the take loop's byte count are projected away.  For
every fault index and device, with any fuel of at least `limit + 2` rounds. -/
theorem loop_retried (g : Nat) (t : Rs.Take) (buf : Bytes) (fa : Option Nat) (d : Dev)
    (hb : buf.length = 65536) (hg : t.limit.toNat + 2 ≤ g) :
    mapO endErr (Rs.H.loop body g (t, buf) fa d) =
      mapO Prod.snd (M.retried (takeLoop 65536 t.limit.toNat t.limit.toNat) fa d) :=
  loop_retried_aux g _ t buf fa d hb (Nat.le_refl _) (by omega) (Or.inr (by omega))

/-- the `io::Result<()>` of `drain_stream` from what the loop reports -/
def resOf : Option ZErr → Except ZErr Unit
  | none => .ok ()
  | some e => .error e

theorem retried_takeLoop_ok (n : Nat) (fa : Option Nat) (d : Dev) :
    ∃ r d', M.retried (takeLoop 65536 n n) fa d = (.ok r, d') :=
  M.retried_ok (takeLoop_ok 65536 n n) fa d

/-- the outcome of `drainE` from that of the take loop: a read error, the take loop's value, is thrown -/
def thrown : Out (Nat × Option ZErr) → Out Unit
  | .ok (_, some e) => .err e
  | .ok (_, none) => .ok ()
  | .err e => .err e
  | .panic s => .panic s

theorem drainE_apply (n : Nat) (fa : Option Nat) (d : Dev) :
    drainE n fa d = (thrown (takeLoop 65536 n n fa d).1, (takeLoop 65536 n n fa d).2) := by
  unfold drainE
  rw [M.bind_apply]
  rcases takeLoop 65536 n n fa d with ⟨⟨_, _ | _⟩ | _ | _, d'⟩ <;> rfl

theorem drain_apply (n : Nat) (fa : Option Nat) (d : Dev) :
    drain n fa d = mapO (fun _ => ()) (takeLoop 65536 n n fa d) := by
  unfold drain
  rw [M.bind_apply]
  rcases takeLoop 65536 n n fa d with ⟨_ | _ | _, d'⟩ <;> rfl

theorem attempt_retried_drainE (n : Nat) (fa : Option Nat) (d : Dev) :
    M.attempt (M.retried (drainE n)) fa d =
      mapO resOf (mapO Prod.snd (M.retried (takeLoop 65536 n n) fa d)) := by
  rw [M.attempt_apply, M.retried_comp thrown (drainE_apply n)]
  obtain ⟨⟨a, e⟩, d', h⟩ := retried_takeLoop_ok n fa d
  rw [h]
  cases e <;> rfl

/-- the silent drain of `Drop` is the reported drain with its result discarded -/
theorem discard_drainE (n : Nat) :
    (M.attempt (M.retried (drainE n)) >>= fun _ => pure ()) = M.retried (drain n) := by
  funext fa d
  rw [M.bind_apply, attempt_retried_drainE, M.retried_mapO _ (drain_apply n)]
  obtain ⟨r, d', h⟩ := retried_takeLoop_ok n fa d
  rw [h]
  rfl

/-! ### The `into_inner` chains -/

/-- the `Take` under a decryption layer -/
def cryptoTake : Gen.CryptoReader → Rs.Take
  | .Plaintext t => t
  | .ZipCrypto r => r.inner
  | .Aes r _ => r.inner

/-- the `Take` at the bottom of a built reader: below the CRC layer, the decoder (for zstd also its `BufReader`) and
the decryption layer; `none` = the `NoReader` state (`into_inner` panics) -/
def readerTake : Gen.ZipFileReader → Option Rs.Take
  | .NoReader => none
  | .Raw t => some t
  | .Stored r => some (cryptoTake r.inner)
  | .Deflated r => some (cryptoTake r.inner.inner)
  | .Bzip2 r => some (cryptoTake r.inner.inner)
  | .Zstd r => some (cryptoTake r.inner.inner.inner)

theorem tie_crypto_into_inner (c : Gen.CryptoReader) : Gen.CryptoReader.into_inner c = some (cryptoTake c) := by
  cases c <;> rfl

theorem crc_into_inner {R : Type} (r : Gen.Crc32Reader R) : Gen.Crc32Reader.into_inner r = some r.inner := rfl

theorem tie_reader_into_inner (r : Gen.ZipFileReader) : Gen.ZipFileReader.into_inner r = readerTake r := by
  cases r with
  | NoReader => rfl
  | Raw t => rfl
  | Stored a => simp [Gen.ZipFileReader.into_inner, crc_into_inner, tie_crypto_into_inner, readerTake]
  | Deflated a =>
    simp [Gen.ZipFileReader.into_inner, crc_into_inner, tie_crypto_into_inner, readerTake, Rs.DeflateDecoder.into_inner]
  | Bzip2 a =>
    simp [Gen.ZipFileReader.into_inner, crc_into_inner, tie_crypto_into_inner, readerTake, Rs.BzDecoder.into_inner]
  | Zstd a =>
    simp [Gen.ZipFileReader.into_inner, crc_into_inner, tie_crypto_into_inner, readerTake, Rs.BufReader.into_inner,
      Rs.ZstdDecoder.finish]

/-- the innermost `Take` of an entry handle: the pending decryption layer's while no reader has been built, else the
built reader's; `none` = nothing left to read from (drained) -/
def innerTake (z : Gen.ZipFile) : Option Rs.Take :=
  match z.reader with
  | .NoReader => z.crypto_reader.map cryptoTake
  | r => readerTake r

/-- the handle as `drain_stream` leaves it: whatever held the `Take` is gone -/
def drained (z : Gen.ZipFile) : Gen.ZipFile :=
  match z.reader with
  | .NoReader => { z with crypto_reader := none }
  | _ => { z with reader := .NoReader }

/-- `ZipFile::drain_stream` in terms of the model's single drain definition: a handle that BORROWS its entry (a
`ZipArchive` entry) is left alone, `Ok`; so is an owned one with nothing left (`NoReader` and no pending layer), without
I/O; else the `Take` is taken out (`drained`) and its limit drained, a read error RETURNED. -/
def drainModel (z : Gen.ZipFile) : M (Except ZErr Unit × Gen.ZipFile) :=
  match z.data, innerTake z with
  | .Owned _, some t => do
    let r ← M.attempt (M.retried (drainE t.limit.toNat))
    pure (r, drained z)
  | _, _ => pure (.ok (), z)

theorem readerTake_some {r : Gen.ZipFileReader} {t : Rs.Take} (h : readerTake r = some t) : r ≠ .NoReader := by
  intro c
  subst c
  cases h

theorem innerTake_reader {z : Gen.ZipFile} (h : z.reader ≠ .NoReader) : innerTake z = readerTake z.reader := by
  unfold innerTake
  split
  · next c => exact absurd c h
  · rfl

theorem drained_reader {z : Gen.ZipFile} (h : z.reader ≠ .NoReader) : drained z = { z with reader := .NoReader } := by
  unfold drained
  split
  · next c => exact absurd c h
  · rfl

theorem drainModel_owned {z : Gen.ZipFile} {a : Gen.ZipFileData} {t : Rs.Take} (hd : z.data = .Owned a)
    (ht : innerTake z = some t) :
    drainModel z = (M.attempt (M.retried (drainE t.limit.toNat)) >>= fun r => pure (r, drained z)) := by
  unfold drainModel
  rw [hd, ht]

theorem array_len : (Rs.H.array (0 : UInt8) 65536).length = 65536 := by
  unfold Rs.H.array
  rw [List.length_replicate]
  rfl

theorem shl_1_16 : Rs.Arith.shl (1 : UInt64) 16 = some 65536 := by decide

theorem drain_owned (fuel : Nat) (z : Gen.ZipFile) (t : Rs.Take) (hf : t.limit.toNat + 2 ≤ fuel) :
    (do
      let t1 ← Rs.H.lift (Rs.Arith.shl (1 : UInt64) 16)
      let t8 ← Rs.H.loop body fuel (t, Rs.H.array (0 : UInt8) t1)
      match t8 with
      | Rs.LoopEnd.ret r => pure (r, z)
      | Rs.LoopEnd.done _ => pure (Except.ok (), z) : M (Except ZErr Unit × Gen.ZipFile)) =
    (do
      let r ← M.attempt (M.retried (drainE t.limit.toNat))
      pure (r, z)) := by
  funext fa d
  rw [shl_1_16]
  show (Rs.H.loop body fuel (t, Rs.H.array (0 : UInt8) 65536) >>= _) fa d = _
  rw [M.bind_apply, M.bind_apply, attempt_retried_drainE, ← loop_retried fuel t _ fa d array_len hf]
  rcases Rs.H.loop body fuel (t, Rs.H.array (0 : UInt8) 65536) fa d with ⟨⟨_ | ⟨_ | _⟩⟩ | _ | _, d'⟩ <;> rfl

theorem drain_stream_reader (fuel : Nat) (a : Gen.ZipFileData) (cr : Option Gen.CryptoReader) (rd : Gen.ZipFileReader)
    (t : Rs.Take) (ht : readerTake rd = some t) (hf : t.limit.toNat + 2 ≤ fuel) :
    Gen.ZipFile.drain_stream fuel ⟨.Owned a, cr, rd⟩ =
      (M.attempt (M.retried (drainE t.limit.toNat)) >>= fun r => pure (r, ⟨.Owned a, cr, .NoReader⟩)) := by
  unfold Gen.ZipFile.drain_stream
  dsimp only
  split
  · cases ht
  · rw [tie_reader_into_inner, ht]
    exact drain_owned fuel ⟨.Owned a, cr, .NoReader⟩ t hf

theorem tie_drain_stream (fuel : Nat) (z : Gen.ZipFile)
    (hf : ∀ t, innerTake z = some t → t.limit.toNat + 2 ≤ fuel) :
    Gen.ZipFile.drain_stream fuel z = drainModel z := by
  obtain ⟨data, cr, rd⟩ := z
  cases data with
  | Borrowed a => rfl
  | Owned a =>
    cases ht : readerTake rd with
    | some t =>
      have hi : innerTake ⟨.Owned a, cr, rd⟩ = some t := (innerTake_reader (readerTake_some ht)).trans ht
      rw [drain_stream_reader fuel a cr rd t ht (hf t hi), drainModel_owned rfl hi,
        drained_reader (readerTake_some ht)]
    | none =>
      cases rd with
      | NoReader =>
        cases cr with
        | none => rfl
        | some c =>
          unfold Gen.ZipFile.drain_stream
          dsimp only
          rw [tie_crypto_into_inner]
          exact drain_owned fuel ⟨.Owned a, none, .NoReader⟩ (cryptoTake c) (hf _ rfl)
      | _ => cases ht

/-- `Drop for ZipFile`: the model's silent drain, for an entry of a streaming reader; nothing otherwise -/
def dropModel (z : Gen.ZipFile) : M Gen.ZipFile :=
  match z.data, innerTake z with
  | .Owned _, some t => do
    M.retried (drain t.limit.toNat)
    pure (drained z)
  | _, _ => pure z

theorem dropModel_owned {z : Gen.ZipFile} {a : Gen.ZipFileData} {t : Rs.Take} (hd : z.data = .Owned a)
    (ht : innerTake z = some t) :
    dropModel z = (M.retried (drain t.limit.toNat) >>= fun _ => pure (drained z)) := by
  unfold dropModel
  rw [hd, ht]

theorem tie_drop (fuel : Nat) (z : Gen.ZipFile)
    (hf : ∀ t, innerTake z = some t → t.limit.toNat + 2 ≤ fuel) :
    Gen.ZipFile.drop fuel z = dropModel z := by
  unfold Gen.ZipFile.drop
  dsimp only
  rw [tie_drain_stream fuel z hf]
  unfold drainModel dropModel
  split
  · rw [← discard_drainE]
    funext fa d
    simp only [M.bind_apply]
    rcases M.attempt (M.retried (drainE _)) fa d with ⟨_ | _ | _, d'⟩ <;> rfl
  · rfl

/-- a drained handle has no `Take` left (`h`: the handle invariant, `HandleOk` of `Tie/Visit.lean`) -/
theorem innerTake_drained (z : Gen.ZipFile) (h : z.reader = .NoReader ∨ z.crypto_reader = none) :
    innerTake (drained z) = none := by
  obtain ⟨data, cr, rd⟩ := z
  cases rd <;> first | rfl | (rcases h with h | h <;> cases h <;> rfl)

/-- with no `Take` left `drain_stream` does no I/O and returns `Ok`: the second one, which `Drop` issues after `visit`
drained the entry explicitly -/
theorem drain_stream_drained (fuel : Nat) (z : Gen.ZipFile) (h : innerTake z = none) :
    Gen.ZipFile.drain_stream fuel z = pure (.ok (), z) := by
  rw [tie_drain_stream fuel z (by intro t ht; rw [h] at ht; cases ht)]
  unfold drainModel
  rw [h]
  cases z.data <;> rfl

end ZipVerif.Tie.Drain
