import ZipVerif.Tie.WriterSM
import ZipVerif.Model.ShortWrite
/-
Tie obligation for C09's generic data path: the translated `impl Write for ZipWriter :: write`
(`Gen.ZipWriter.write`, printed by `rs2lean` from src/write.rs) IS `GW.write` of `Model/ShortWrite.lean` at the model
monad, for EVERY accept function of the encoder (`ext.accept`, any count ≤ the buffer) - not only for the
whole-accepting one `tie_write` assumes.  Same I/O call, same outcome and count, same final writer state
(`absW`), panic-site strings erased.  Hypotheses as for `tie_write` (Rust slice length, `u64` byte counter,
the writer invariant `writing_to_file → files ≠ []`).  `tie_write_short` is `tie_write_acc` of `Tie/WriterSM.lean` under the
name by which DESIGN.md and MANIFEST.json (C09) cite it.
-/
set_option linter.unusedSimpArgs false
set_option linter.unusedVariables false

namespace ZipVerif.Tie.WriterSM
open ZipVerif ZipVerif.Model ZipVerif.Tie.SpecRecords ZipVerif.Tie.Records ZipVerif.Tie.Parsers

theorem tie_write_short (ext : Rs.S.Ext) (g : Gen.ZipWriter) (buf : Bytes) (hb : buf ≠ [])
    (hlen : buf.length < 9223372036854775808)
    (hbytes : g.stats.bytes_written.toNat + buf.length < 18446744073709551616)
    (hinv : g.writing_to_file = true → g.files ≠ []) :
    erase (absR <$> Rs.S.run (Gen.ZipWriter.write ext g buf)) =
      erase ((fun r => (r.1.map UInt64.ofNat, r.2)) <$> (GW.write ext.accept buf (absW g) : M _)) :=
  tie_write_acc ext g buf hb hlen hbytes hinv

end ZipVerif.Tie.WriterSM
