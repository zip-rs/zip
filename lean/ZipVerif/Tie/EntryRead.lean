import ZipVerif.Gen.ReadEntry
import ZipVerif.Tie.AesLayer
import ZipVerif.Model.Aes
/-
Tie obligations for the `Read` implementations of the entry handle (src/read.rs; tier T6, ENTRY mode of rs2lean,
`rs2lean/src/t6r4b.rs`, vocabulary `Basic/RsE.lean`): `impl Read for CryptoReader`, `impl Read for
ZipFileReader`, `ZipFileReader::finish_crypto` (the end-of-entry authentication drain of the D12 repair),
`ZipFile::get_reader`, `impl Read for ZipFile`.  `rs2lean` prints them into `Gen/ReadEntry.lean` (declarations
`Gen.E.*`) from src/read.rs, over the LAYER translation's REAL structures - `Gen.Crc32Reader R`,
`Gen.ZipCryptoReaderValid R`, `Gen.AesReaderValid R` - whose `read` functions they call.

Up to `zipfile_read_map` the generated functions are brought into the shape of the model.  The two `read`s dispatch on
the variant.  `finish_crypto` is `io::copy(aes_layer, sink)` on the AES layer a `Deflated` / `Bzip2` / `Zstd` variant
holds below its decompressor (`get_mut` twice, three times through the `BufReader`; the layer put back in place,
nothing else touched) and `Ok(())` without a read otherwise: with the model's fuel, `Model.Aes.finishCrypto`.
`ZipFile::read` is one `read` of the stack and, on `Ok(0)` with a non-empty buffer and only then, `finish_crypto()`,
whose error replaces the end-of-file: THE SAME glue (`entryGlue`) that `Model.Aes.entryRead` puts around
(`layersRead`, `finishCrypto`).  From `Realises` on the three translated layers are COMPOSED through their `Read`
instances: one `rd` of a generated reader is one step of a model reader, for `CryptoReader::Aes` (`Valid.read`), under
a decoder strategy (`Model.Aes.DecStep`, instantiating the named parameter `DecOps`; `runDec`) and under
`Crc32Reader::read` (`crcRead`).  The entry ties at the end say that `ZipFile::read` on a handle reading a Deflated,
Bzip2 or Stored AES entry is `Model.Aes.entryRead` - the function `Props/C16.entry_eof_implies_mac`,
`entry_eof_implies_mac_stored` and `entryDrain` are stated about - as an equation up to `eraseMsg`: same bytes / error /
panic, and the handle's reader afterwards is the model's state.  Not tied in this file: a handle over
`CryptoReader::Plaintext` or `::ZipCrypto` (`Realises` has the AES base case only), and a `Zstd` entry (`io::BufReader`
between decoder and layer: two strategies composed).

Trusted vocabulary (`Basic/RsE.lean`): the `Take` over the archive's reader is an arbitrary `Rs.Read`; the external
decoders are `E.Dec` with ONE `read` call an arbitrary function (`DecOps`, a named parameter - `finish_crypto` is
proved for every instance); `io::copy(r, sink())` = reads with the 8 KiB buffer until `Ok(0)` or an error (`Interrupted`
not among the modelled kinds); `make_reader` a named parameter `mk` (translated and tied in READ mode:
`Tie/ReaderGlue2.tie_make_reader`).

Hypotheses of the entry ties (the lemmas before them carry the part they use): `P.WF` (the output lengths of the
primitives); the inner source keeps the `Read` contract (`Src.Contract`) and no call of it delivers 2^64 bytes
(`SmallA`); the decoder strategy is `GoodDec` (at most `n` bytes back, `io::Error`s, pulls below 2^64; no decoder for
`Stored`); the buffer length `n` and `data_remaining` are below 2^64 (`Nat` vs `u64`); `hz`: the handle's reader is
built and is the embedding of the model state; `hfuel`: the fuel handed to the generated `io::copy` loop is the model's,
`data_remaining + 1` after the stack's `read` (any fuel for `Stored`, where no copy runs).
-/

set_option linter.unusedSimpArgs false
set_option linter.unusedVariables false
namespace ZipVerif.Tie.EntryRead
open ZipVerif ZipVerif.Model.Aes ZipVerif.Tie.Layers ZipVerif.Tie.AesLayer

variable {σ : Type}

/-! ### the AES layer as a member of `Rs.Read` (`impl Read for AesReaderValid`) -/

/-- a model outcome of `Valid.read` as what a wrapper sees of one `read` call -/
def rdView (P : AesPrims) (m : Out Bytes × Valid σ) : Rs.RdRes × @Gen.AesReaderValid (dynOf P) σ :=
  (match m.1 with
    | .ok bs => .ok bs
    | .err (.io k) => .err k
    | .err _ => .panic
    | .panic _ => .panic, toGen P m.2)

theorem read_bounds (P : AesPrims) (S : Src σ) (v : Valid σ) (n : Nat) :
    (Valid.read P S v n).2.dataRemaining ≤ v.dataRemaining ∧
      ∀ out, (Valid.read P S v n).1 = .ok out → out.length ≤ n :=
  ⟨(read_facts P S v n).1, (read_facts P S v n).2.1⟩

theorem rd_asRead {R : Type} (f : R → Bytes → Rs.IoRes UInt64 × R × Bytes) (r : R) (n : Nat) :
    @Rs.Read.rd R (Rs.E.asRead f) r n = match f r (List.replicate n 0) with
      | (.ok c, r', b) => (.ok (b.take c.toNat), r')
      | (.err e, r', _) => (.err e, r')
      | (.panic, r', _) => (.panic, r') := rfl

theorem aes_read_view (P : AesPrims) (hW : P.WF) (S : Src σ) (hS : S.Contract) (hin : SmallA S) (v : Valid σ) (n : Nat)
    (hn : n < 2 ^ 64) (hrem : v.dataRemaining < 2 ^ 64) :
    (fun g : Rs.IoRes UInt64 × @Gen.AesReaderValid (dynOf P) σ × Bytes => (outRead g.1 g.2.2, g.2.1))
        (@Gen.AesReaderValid.read (primsOf P) (dynOf P) σ (readOfA S) (toGen P v) (List.replicate n 0)) =
      (eraseMsg (Valid.read P S v n).1, toGen P (Valid.read P S v n).2) := by
  have hlen : (List.replicate n (0 : UInt8)).length = n := List.length_replicate
  have key := tie_aes_read P hW S v (List.replicate n 0) (by rw [hlen]; exact hn) hrem hin
    (fun bs s' h => Or.inl (by
      have := hS _ _ _ _ h
      rw [hlen] at this ⊢
      exact Nat.le_trans this (Nat.min_le_right _ _)))
  rw [hlen] at key
  exact key

theorem rd_toGen (P : AesPrims) (hW : P.WF) (S : Src σ) (hS : S.Contract) (hin : SmallA S) (v : Valid σ) (n : Nat)
    (hn : n < 2 ^ 64) (hrem : v.dataRemaining < 2 ^ 64) :
    @Rs.Read.rd _ (@Gen.E.read_AesReaderValid (primsOf P) (dynOf P) σ (readOfA S)) (toGen P v) n
      = rdView P (Valid.read P S v n) := by
  have key := aes_read_view P hW S hS hin v n hn hrem
  show @Rs.Read.rd _ (Rs.E.asRead _) _ _ = _
  rw [rd_asRead]
  rcases hg : @Gen.AesReaderValid.read (primsOf P) (dynOf P) σ (readOfA S) (toGen P v) (List.replicate n 0) with ⟨g1, g2, g3⟩
  rw [hg] at key
  rcases hm : Valid.read P S v n with ⟨m1, m2⟩
  rw [hm] at key
  simp only [Prod.mk.injEq] at key
  obtain ⟨k1, k2⟩ := key
  subst k2
  -- `k1 : outRead g1 g3 = eraseMsg m1` leaves the three agreeing pairs of outcomes
  cases g1 <;> cases m1 <;> first | rfl | (cases k1; done) | (injection k1 with k1; subst k1; rfl)

/-! ### `io::copy(reader, &mut io::sink())` over the AES layer is the model's `copyToSink` -/

/-- a model outcome of `copyToSink` / `finishCrypto` in the vocabulary of the generated code -/
def unitView (P : AesPrims) (m : Out Unit × Valid σ) : Rs.IoRes Unit × @Gen.AesReaderValid (dynOf P) σ :=
  (match m.1 with
    | .ok _ => .ok ()
    | .err (.io k) => .err k
    | .err _ => .panic
    | .panic _ => .panic, toGen P m.2)

/-- the count `io::copy` returns is discarded by `finish_crypto` -/
def voidRes {α : Type} : Rs.IoRes α → Rs.IoRes Unit
  | .ok _ => .ok ()
  | .err e => .err e
  | .panic => .panic

theorem tie_copy_to_sink (P : AesPrims) (hW : P.WF) (S : Src σ) (hS : S.Contract) (hin : SmallA S) :
    ∀ (f : Nat) (v : Valid σ) (acc : UInt64), v.dataRemaining < 2 ^ 64 →
    (fun g : Rs.IoRes UInt64 × @Gen.AesReaderValid (dynOf P) σ => (voidRes g.1, g.2))
        (@Rs.E.copyToSink _ (@Gen.E.read_AesReaderValid (primsOf P) (dynOf P) σ (readOfA S)) f (toGen P v) acc)
      = unitView P (copyToSink P S f v) := by
  intro f
  induction f with
  | zero => intro v acc _; rfl
  | succ f ih =>
    intro v acc hrem
    unfold Rs.E.copyToSink copyToSink
    rw [rd_toGen P hW S hS hin v 8192 (by decide) hrem]
    have hle := (read_bounds P S v 8192).1
    rcases hv : Valid.read P S v 8192 with ⟨m1, m2⟩
    rw [hv] at hle
    cases m1 with
    | ok bs =>
      simp only [rdView]
      by_cases hb : bs.isEmpty = true
      · simp only [hb, if_true]; rfl
      · simp only [hb, if_false]
        exact ih m2 _ (Nat.lt_of_le_of_lt hle hrem)
    | err e => cases e <;> rfl
    | panic m => rfl

/-! ### the dispatch of `impl Read for CryptoReader` / `impl Read for ZipFileReader` -/

section genericC
variable [Rs.AesPrims] [Rs.AesDyn] {T : Type} [Rs.Read T]

/-- put a layer's `read` result back under its constructor -/
def under {A B : Type} (ctor : A → B) (x : Rs.IoRes UInt64 × A × Bytes) : Rs.IoRes UInt64 × B × Bytes :=
  (x.1, ctor x.2.1, x.2.2)

theorem crypto_read_plain (r : T) (buf : Bytes) :
    Gen.E.CryptoReader.read (.Plaintext r) buf = under .Plaintext (Rs.L.read r buf) := rfl
theorem crypto_read_zc (r : Gen.ZipCryptoReaderValid T) (buf : Bytes) :
    Gen.E.CryptoReader.read (.ZipCrypto r) buf = under .ZipCrypto (Gen.ZipCryptoReaderValid.read r buf) := rfl
theorem crypto_read_aes (r : Gen.AesReaderValid T) (vv : Gen.AesVendorVersion) (buf : Bytes) :
    Gen.E.CryptoReader.read (.Aes r vv) buf = under (fun r => .Aes r vv) (Gen.AesReaderValid.read r buf) := rfl

end genericC

section generic
variable [Rs.AesPrims] [Rs.AesDyn] [Rs.E.DecOps] {T : Type} [Rs.Read T]

theorem reader_read_none (buf : Bytes) :
    Gen.E.ZipFileReader.read (.NoReader : Gen.E.ZipFileReader T) buf = (.panic, .NoReader, buf) := rfl
theorem reader_read_raw (r : T) (buf : Bytes) :
    Gen.E.ZipFileReader.read (.Raw r) buf = under .Raw (Rs.L.read r buf) := rfl
theorem reader_read_stored (r) (buf : Bytes) :
    Gen.E.ZipFileReader.read (.Stored r : Gen.E.ZipFileReader T) buf = under .Stored (Gen.Crc32Reader.read r buf) := rfl
theorem reader_read_deflated (r) (buf : Bytes) :
    Gen.E.ZipFileReader.read (.Deflated r : Gen.E.ZipFileReader T) buf = under .Deflated (Gen.Crc32Reader.read r buf) := rfl
theorem reader_read_bzip2 (r) (buf : Bytes) :
    Gen.E.ZipFileReader.read (.Bzip2 r : Gen.E.ZipFileReader T) buf = under .Bzip2 (Gen.Crc32Reader.read r buf) := rfl
theorem reader_read_zstd (r) (buf : Bytes) :
    Gen.E.ZipFileReader.read (.Zstd r : Gen.E.ZipFileReader T) buf = under .Zstd (Gen.Crc32Reader.read r buf) := rfl

/-! ### `finish_crypto` -/

/-- the decryption layer a compressing variant holds below its decoder -/
def cryptoOf : Gen.E.ZipFileReader T → Option (Gen.E.CryptoReader T)
  | .Deflated r => some r.inner.inner
  | .Bzip2 r => some r.inner.inner
  | .Zstd r => some r.inner.inner.inner
  | _ => none

/-- the reader with the layer `cryptoOf` finds replaced by `c` -/
def withCrypto (c : Gen.E.CryptoReader T) : Gen.E.ZipFileReader T → Gen.E.ZipFileReader T
  | .Deflated r => .Deflated { r with inner := { r.inner with inner := c } }
  | .Bzip2 r => .Bzip2 { r with inner := { r.inner with inner := c } }
  | .Zstd r => .Zstd { r with inner := { r.inner with inner := { r.inner.inner with inner := c } } }
  | x => x

/-- `finish_crypto` by the decryption layer the reader holds below a decompressor (the three arms of its `match`
are the same code) -/
theorem finish_crypto_eq (fuel : Nat) (z : Gen.E.ZipFileReader T) :
    Gen.E.ZipFileReader.finish_crypto fuel z =
      match cryptoOf z with
      | some (.Aes g vv) => (voidRes (Rs.E.copyToSink fuel g 0).1, withCrypto (.Aes (Rs.E.copyToSink fuel g 0).2 vv) z)
      | _ => (.ok (), z) := by
  cases z with
  | NoReader | Raw r | Stored r => rfl
  | Deflated r | Bzip2 r | Zstd r =>
    unfold Gen.E.ZipFileReader.finish_crypto
    dsimp only [cryptoOf, Id.run]
    split
    · rename_i g vv hc
      simp only [hc, withCrypto]
      rcases Rs.E.copyToSink fuel g 0 with ⟨o, g'⟩
      cases o <;> rfl
    · rename_i hc
      split
      · rename_i g vv hc'
        exact absurd (Option.some.inj hc') (hc g vv)
      · rfl

theorem finish_crypto_aes (fuel : Nat) (z : Gen.E.ZipFileReader T) (g : Gen.AesReaderValid T) (vv : Gen.AesVendorVersion)
    (h : cryptoOf z = some (.Aes g vv)) :
    Gen.E.ZipFileReader.finish_crypto fuel z =
      (voidRes (Rs.E.copyToSink fuel g 0).1, withCrypto (.Aes (Rs.E.copyToSink fuel g 0).2 vv) z) := by
  rw [finish_crypto_eq, h]

/-- Among the other cases is `Stored`: there the decoder's end-of-stream is the ciphertext's, nothing is left to drain. -/
theorem finish_crypto_other (fuel : Nat) (z : Gen.E.ZipFileReader T)
    (h : ∀ g vv, cryptoOf z ≠ some (.Aes g vv)) :
    Gen.E.ZipFileReader.finish_crypto fuel z = (.ok (), z) := by
  rw [finish_crypto_eq]
  split
  · rename_i g vv hc
    exact absurd hc (h g vv)
  · rfl

end generic

/-! ### `finish_crypto` against the model's `finishCrypto` -/

/-- `finish_crypto` with the model's fuel `data_remaining + 1` is `Model.Aes.finishCrypto … true`, the function
`Props/C16.entry_eof_implies_mac` reasons about. -/
theorem tie_finish_crypto [Rs.E.DecOps] (P : AesPrims) (hW : P.WF) (S : Src σ) (hS : S.Contract) (hin : SmallA S)
    (z : @Gen.E.ZipFileReader (dynOf P) _ σ) (v : Valid σ) (vv : Gen.AesVendorVersion)
    (h : @cryptoOf (dynOf P) _ σ z = some (@Gen.E.CryptoReader.Aes (dynOf P) σ (toGen P v) vv)) (hrem : v.dataRemaining < 2 ^ 64) :
    @Gen.E.ZipFileReader.finish_crypto (primsOf P) (dynOf P) _ σ (readOfA S) (v.dataRemaining + 1) z =
      ((unitView P (finishCrypto P S true v)).1,
        @withCrypto (dynOf P) _ σ (@Gen.E.CryptoReader.Aes (dynOf P) σ (unitView P (finishCrypto P S true v)).2 vv) z) := by
  rw [@finish_crypto_aes (primsOf P) (dynOf P) _ σ (readOfA S) (v.dataRemaining + 1) z (toGen P v) vv h]
  have key := tie_copy_to_sink P hW S hS hin (v.dataRemaining + 1) v 0 hrem
  have hf : finishCrypto P S true v = copyToSink P S (v.dataRemaining + 1) v := rfl
  rw [hf, ← key]

theorem tie_finish_crypto_stored [Rs.E.DecOps] (P : AesPrims) (S : Src σ) (fuel : Nat)
    (r : Gen.Crc32Reader (@Gen.E.CryptoReader (dynOf P) σ)) (v : Valid σ) :
    @Gen.E.ZipFileReader.finish_crypto (primsOf P) (dynOf P) _ σ (readOfA S) fuel (@Gen.E.ZipFileReader.Stored (dynOf P) _ σ r) =
        (.ok (), @Gen.E.ZipFileReader.Stored (dynOf P) _ σ r) ∧
      finishCrypto P S false v = (.ok (), v) := ⟨rfl, rfl⟩

/-! ### `ZipFile::get_reader` and `impl Read for ZipFile` -/

section generic2
variable [Rs.AesPrims] [Rs.AesDyn] [Rs.E.DecOps] {T : Type} [Rs.Read T]

theorem get_reader_built (mk) (z : Gen.E.ZipFile T) (h : z.reader ≠ .NoReader) :
    Gen.E.ZipFile.get_reader mk z = some z := by
  unfold Gen.E.ZipFile.get_reader
  obtain ⟨data, cr, rd⟩ := z
  cases rd <;> first | exact absurd rfl h | rfl

theorem get_reader_pending (mk) (z : Gen.E.ZipFile T) (h : z.reader = .NoReader) :
    Gen.E.ZipFile.get_reader mk z =
      match z.crypto_reader with
      | none => none
      | some c => (mk z.data.get.compression_method z.data.get.crc32 c).map
          fun r => { z with crypto_reader := none, reader := r } := by
  unfold Gen.E.ZipFile.get_reader
  obtain ⟨data, cr, rd⟩ := z
  cases h
  cases cr with
  | none => rfl
  | some c =>
    dsimp only [Id.run]
    cases hm : mk data.get.compression_method data.get.crc32 c <;> simp [hm] <;> rfl

/-- `Ok(count)` / the failure of a generated call at another result type -/
def failAs {α β : Type} : Rs.IoRes α → Rs.IoRes β
  | .err e => .err e
  | _ => .panic

theorem zipfile_read_eq (mk) (fuel : Nat) (z z' : Gen.E.ZipFile T) (buf : Bytes)
    (hz : Gen.E.ZipFile.get_reader mk z = some z') :
    Gen.E.ZipFile.read mk fuel z buf =
      (let x := Gen.E.ZipFileReader.read z'.reader buf
       match x.1 with
       | .ok c =>
         if c == 0 && !Rs.isEmpty x.2.2 then
           (let y := Gen.E.ZipFileReader.finish_crypto fuel x.2.1
            match y.1 with
            | .ok _ => (.ok c, { z' with reader := y.2 }, x.2.2)
            | o => (failAs o, { z' with reader := y.2 }, x.2.2))
         else (.ok c, { z' with reader := x.2.1 }, x.2.2)
       | o => (failAs o, { z' with reader := x.2.1 }, x.2.2)) := by
  unfold Gen.E.ZipFile.read
  simp only [Id.run, hz]
  rcases Gen.E.ZipFileReader.read z'.reader buf with ⟨o, rd, b⟩
  cases o with
  | err e => rfl
  | panic => rfl
  | ok c =>
    simp only [Rs.L.id_pure, Rs.L.id_bind, pure_bind]
    by_cases hc : (c == 0 && !Rs.isEmpty b) = true
    · simp only [hc, if_true]
      rcases Gen.E.ZipFileReader.finish_crypto fuel rd with ⟨o2, rd2⟩
      cases o2 <;> rfl
    · simp only [hc]
      rfl

theorem get_reader_none_panics (mk) (fuel : Nat) (z : Gen.E.ZipFile T) (buf : Bytes)
    (hz : Gen.E.ZipFile.get_reader mk z = none) :
    Gen.E.ZipFile.read mk fuel z buf = (.panic, z, buf) := by
  unfold Gen.E.ZipFile.read
  simp only [Id.run, hz]
  rfl

end generic2

/-! ### the shape of `Model.Aes.entryRead` -/

/-- `ZipFile::read` around ANY reader-stack `read` and ANY `finish_crypto` -/
def entryGlue {St : Type} (LR : St → Nat → Out Bytes × St) (FC : St → Out Unit × St) (st : St) (n : Nat) :
    Out Bytes × St :=
  match LR st n with
  | (.ok bs, st') =>
    if bs.length = 0 ∧ n ≠ 0 then
      match FC st' with
      | (.ok _, s) => (.ok bs, s)
      | (.err e, s) => (.err e, s)
      | (.panic m, s) => (.panic m, s)
    else (.ok bs, st')
  | (.err e, st') => (.err e, st')
  | (.panic m, st') => (.panic m, st')

theorem entryRead_eq_glue {δ H : Type} (P : AesPrims) (S : Src σ) (D : Decoder δ) (compressing : Bool)
    (upd : H → Bytes → H) (fin : H → UInt32) (st : EntrySt σ δ H) (n : Nat) :
    entryRead P S D compressing upd fin st n =
      entryGlue (layersRead P S D upd fin)
        (fun st => ((finishCrypto P S compressing st.aes).1, { st with aes := (finishCrypto P S compressing st.aes).2 })) st n := by
  unfold entryRead entryGlue
  rcases layersRead P S D upd fin st n with ⟨o, st'⟩
  cases o with
  | err e => rfl
  | panic m => rfl
  | ok bs =>
    simp only []
    split
    · rcases finishCrypto P S compressing st'.aes with ⟨o2, v'⟩
      cases o2 <;> rfl
    · rfl

/-- Transport of `entryGlue` along an embedding `f` of states: if `LR'`, `FC'` do through `f` what `LR`, `FC` do, up to
`eraseMsg` (`FC'` only at the states an `Ok` of `LR` leads to), so do the two glues. -/
theorem entryGlue_map {St St' : Type} (f : St → St') (LR : St → Nat → Out Bytes × St) (FC : St → Out Unit × St)
    (LR' : St' → Nat → Out Bytes × St') (FC' : St' → Out Unit × St') (st : St) (n : Nat)
    (hLR : LR' (f st) n = (eraseMsg (LR st n).1, f (LR st n).2))
    (hFC : ∀ bs st1, LR st n = (.ok bs, st1) → FC' (f st1) = (eraseMsg (FC st1).1, f (FC st1).2)) :
    entryGlue LR' FC' (f st) n = (eraseMsg (entryGlue LR FC st n).1, f (entryGlue LR FC st n).2) := by
  unfold entryGlue
  rw [hLR]
  rcases h : LR st n with ⟨o, st1⟩
  cases o with
  | err e => rfl
  | panic m => rfl
  | ok bs =>
    dsimp only [eraseMsg]
    by_cases hc : bs.length = 0 ∧ n ≠ 0
    · rw [if_pos hc, if_pos hc, hFC bs st1 h]
      rcases FC st1 with ⟨o2, s2⟩
      cases o2 <;> rfl
    · rw [if_neg hc, if_neg hc]

theorem lread_len {R : Type} [Rs.Read R] (r : R) (buf : Bytes) : (Rs.L.read r buf).2.2.length = buf.length := by
  unfold Rs.L.read
  rcases Rs.Read.rd r buf.length with ⟨o, r'⟩
  cases o with
  | ok bs => exact filled_length bs buf
  | err e => rfl
  | panic => rfl

theorem crc_read_len {R : Type} [Rs.Read R] (self : Gen.Crc32Reader R) (buf : Bytes) :
    (Gen.Crc32Reader.read self buf).2.2.length = buf.length := by
  have hl := lread_len self.inner buf
  unfold Gen.Crc32Reader.read
  rcases hx : Rs.L.read self.inner buf with ⟨o, r', b⟩
  rw [hx] at hl
  have hl' : b.length = buf.length := hl
  simp only [Id.run, Rs.L.id_pure, Rs.L.id_bind, hx, Gen.Crc32Reader.check_matches]
  split
  · rfl
  · cases o with
    | err e => exact hl'
    | panic => exact hl'
    | ok c =>
      simp only [Rs.L.id_pure, Rs.L.id_bind, pure_bind]
      split
      · exact hl'
      · split <;> exact hl'

section generic3
variable [Rs.AesPrims] [Rs.AesDyn] [Rs.E.DecOps] {T : Type} [Rs.Read T]

/-- what a caller sees of `ZipFileReader::read` with a buffer of `n` bytes -/
def readerView (rd : Gen.E.ZipFileReader T) (n : Nat) : Out Bytes × Gen.E.ZipFileReader T :=
  let x := Gen.E.ZipFileReader.read rd (List.replicate n 0)
  (outRead x.1 x.2.2, x.2.1)

/-- what a caller sees of `finish_crypto`, in the vocabulary of `Model.Aes` -/
def finishView (fuel : Nat) (rd : Gen.E.ZipFileReader T) : Out Unit × Gen.E.ZipFileReader T :=
  let y := Gen.E.ZipFileReader.finish_crypto fuel rd
  (match y.1 with
    | .ok _ => .ok ()
    | .err e => .err (.io e)
    | .panic => .panic "", y.2)

/-- Hypotheses: the reader stack is built (`get_reader_built`; otherwise `get_reader_pending`), and the `read` below
keeps the `Read` contract on the buffer (a Rust slice cannot change its length; the count is within it). -/
theorem tie_zipfile_read_glue (mk) (fuel : Nat) (z : Gen.E.ZipFile T) (n : Nat) (hn : n < 2 ^ 64)
    (hb : z.reader ≠ .NoReader)
    (hlen : (Gen.E.ZipFileReader.read z.reader (List.replicate n 0)).2.2.length = n) :
    (fun g : Rs.IoRes UInt64 × Gen.E.ZipFile T × Bytes => (outRead g.1 g.2.2, g.2.1.reader))
        (Gen.E.ZipFile.read mk fuel z (List.replicate n 0)) =
      entryGlue readerView (finishView fuel) z.reader n := by
  rw [zipfile_read_eq mk fuel z z _ (get_reader_built mk z hb)]
  unfold entryGlue readerView finishView
  rcases hx : Gen.E.ZipFileReader.read z.reader (List.replicate n 0) with ⟨o, rd, b⟩
  rw [hx] at hlen
  simp only [] at hlen
  cases o with
  | err e => rfl
  | panic => rfl
  | ok c =>
    simp only [outRead]
    have he : Rs.isEmpty b = decide (n = 0) := by
      subst hlen
      cases b <;> simp [Rs.isEmpty]
    have hc0 : ((b.take c.toNat).length = 0 ∧ n ≠ 0) ↔ (c == 0 && !Rs.isEmpty b) = true := by
      rw [he]
      simp only [List.length_take, hlen, Bool.and_eq_true, beq_iff_eq, Bool.not_eq_true', decide_eq_false_iff_not]
      constructor
      · rintro ⟨h1, h2⟩
        refine ⟨?_, h2⟩
        apply UInt64.toNat_inj.mp
        have : c.toNat = 0 := by omega
        rw [this]; rfl
      · rintro ⟨h1, h2⟩
        subst h1
        exact ⟨by simp, h2⟩
    by_cases hc : (c == 0 && !Rs.isEmpty b) = true
    · rw [if_pos hc, if_pos (hc0.mpr hc)]
      rcases Gen.E.ZipFileReader.finish_crypto fuel rd with ⟨o2, rd2⟩
      cases o2 <;> rfl
    · have hn0 : ¬ ((b.take c.toNat).length = 0 ∧ n ≠ 0) := fun h => hc (hc0.mp h)
      rw [if_neg hc, if_neg hn0]

/-- `ZipFile::read` is `entryGlue LR FC` once `Crc32Reader::read` of the handle's stack is `LR` (`hL`) and `finish_crypto`
is `FC` (`hFC`); `wrap` is the constructor of `ZipFileReader` that holds the stack, `emb` the model state as the stack.
The entry ties are its instances. -/
theorem zipfile_read_map {St X : Type} [Rs.Read X] (LR : St → Nat → Out Bytes × St) (FC : St → Out Unit × St)
    (wrap : Gen.Crc32Reader X → Gen.E.ZipFileReader T) (emb : St → Gen.Crc32Reader X)
    (hread : ∀ r buf, Gen.E.ZipFileReader.read (wrap r) buf = under wrap (Gen.Crc32Reader.read r buf))
    (hne : ∀ r, wrap r ≠ .NoReader) (mk) (fuel : Nat) (z : Gen.E.ZipFile T) (st : St) (hz : z.reader = wrap (emb st))
    (n : Nat) (hn : n < 2 ^ 64)
    (hL : (fun g : Rs.IoRes UInt64 × Gen.Crc32Reader X × Bytes => (outRead g.1 g.2.2, g.2.1))
        (Gen.Crc32Reader.read (emb st) (List.replicate n 0)) = (eraseMsg (LR st n).1, emb (LR st n).2))
    (hFC : ∀ bs st1, LR st n = (.ok bs, st1) →
      finishView fuel (wrap (emb st1)) = (eraseMsg (FC st1).1, wrap (emb (FC st1).2))) :
    (fun g : Rs.IoRes UInt64 × Gen.E.ZipFile T × Bytes => (outRead g.1 g.2.2, g.2.1.reader))
        (Gen.E.ZipFile.read mk fuel z (List.replicate n 0)) =
      (eraseMsg (entryGlue LR FC st n).1, wrap (emb (entryGlue LR FC st n).2)) := by
  have hlen : (Gen.E.ZipFileReader.read z.reader (List.replicate n 0)).2.2.length = n := by
    rw [hz, hread]
    exact (crc_read_len _ _).trans List.length_replicate
  rw [tie_zipfile_read_glue mk fuel z n hn (by rw [hz]; exact hne _) hlen, hz]
  refine entryGlue_map (fun st => wrap (emb st)) LR FC readerView (finishView fuel) st n ?_ hFC
  unfold readerView
  rw [hread]
  unfold under
  have h1 := congrArg Prod.fst hL
  have h2 := congrArg Prod.snd hL
  exact Prod.ext h1 (congrArg wrap h2)

end generic3

/-! ### composing the layers: `ZipFileReader::read` on a `Deflated` / `Bzip2` stack over the AES layer is `layersRead` -/

/-- a model outcome as what a `Read` caller sees -/
def toRd : Out Bytes → Rs.RdRes
  | .ok bs => .ok bs
  | .err (.io k) => .err k
  | .err _ => .panic
  | .panic _ => .panic

/-- one `read` call of a decoder strategy against ANY reader below it (through its `Read` instance) -/
def runDecG {δ R : Type} [Rs.Read R] (d0 : δ) : DecStep δ → R → Rs.RdRes × δ × R
  | .done r d, i => (toRd r, d, i)
  | .pull k cont, i =>
    match Rs.Read.rd i k with
    | (.ok bs, i') => runDecG d0 (cont (.ok bs)) i'
    | (.err e, i') => runDecG d0 (cont (.err (.io e))) i'
    | (.panic, i') => (.panic, d0, i')

/-- the model's arbitrary decoder strategy as the named parameter `DecOps` of the generated code -/
@[instance_reducible] def decOpsOf {δ : Type} (D : Decoder δ) : Rs.E.DecOps :=
  ⟨fun _ => δ, fun _ {_} _ st inner n => runDecG st (D.read st n) inner⟩

/-- what the Tie asks of a decoder: it keeps the `Read` contract towards its caller (at most `n` bytes, fewer than
2^64), reports failures as `io::Error`s, and asks the reader below for fewer than 2^64 bytes at a time -/
inductive GoodStep {δ : Type} (n : Nat) : DecStep δ → Prop
  | ok (bs : Bytes) (d : δ) (h1 : bs.length ≤ n) (h2 : bs.length < 2 ^ 64) : GoodStep n (.done (.ok bs) d)
  | err (k : IoKind) (d : δ) : GoodStep n (.done (.err (.io k)) d)
  | panic (m : String) (d : δ) : GoodStep n (.done (.panic m) d)
  | pull (k : Nat) (cont : InnerRes → DecStep δ) (hk : k < 2 ^ 64) (h : ∀ r, GoodStep n (cont r)) :
      GoodStep n (.pull k cont)

def GoodDec {δ : Type} (D : Decoder δ) : Prop := ∀ d n, GoodStep n (D.read d n)

theorem rd_crypto_aes (P : AesPrims) (S : Src σ) (g : @Gen.AesReaderValid (dynOf P) σ) (vv : Gen.AesVendorVersion) (k : Nat) :
    @Rs.Read.rd _ (@Gen.E.read_CryptoReader (primsOf P) (dynOf P) σ (readOfA S)) (@Gen.E.CryptoReader.Aes (dynOf P) σ g vv) k =
      ((@Rs.Read.rd _ (@Gen.E.read_AesReaderValid (primsOf P) (dynOf P) σ (readOfA S)) g k).1,
        @Gen.E.CryptoReader.Aes (dynOf P) σ (@Rs.Read.rd _ (@Gen.E.read_AesReaderValid (primsOf P) (dynOf P) σ (readOfA S)) g k).2 vv) := by
  show @Rs.Read.rd _ (Rs.E.asRead _) _ _ = (( @Rs.Read.rd _ (Rs.E.asRead _) _ _).1, _)
  rw [rd_asRead, rd_asRead]
  rw [@crypto_read_aes (primsOf P) (dynOf P) σ (readOfA S) g vv]
  unfold under
  rcases @Gen.AesReaderValid.read (primsOf P) (dynOf P) σ (readOfA S) g (List.replicate k 0) with ⟨o, g', b⟩
  cases o <;> rfl

theorem read_err_io (P : AesPrims) (hW : P.WF) (S : Src σ) (hS : S.Contract) (hin : SmallA S) (v : Valid σ) (n : Nat)
    (hn : n < 2 ^ 64) (hrem : v.dataRemaining < 2 ^ 64) (e : ZErr) (v' : Valid σ)
    (h : Valid.read P S v n = (.err e, v')) : ∃ k, e = .io k := by
  -- a fact of the model alone, read off the tie: the generated `read` has no other kind of error to return
  have key := aes_read_view P hW S hS hin v n hn hrem
  rw [h] at key
  rcases hg : @Gen.AesReaderValid.read (primsOf P) (dynOf P) σ (readOfA S) (toGen P v) (List.replicate n 0) with ⟨g1, g2, g3⟩
  rw [hg] at key
  have h1 : outRead g1 g3 = .err e := congrArg Prod.fst key
  cases g1 with
  | err k => exact ⟨k, (Out.err.inj h1).symm⟩
  | ok c => cases h1
  | panic => cases h1

/-! #### realising a model reader

`Realises inst emb ir I`: on the states `emb i` with `I i`, one `read` call of the generated reader - through its `Read`
instance, as every wrapper sees it - is one step of the model reader `ir`, which keeps `I`, hands back at most what was
asked for and fails with `io::Error`s only.  The layers compose through it: `Realises.aes` is the base case,
`Realises.dec` puts any decoder strategy on top, `Realises.crc_read` is what `Crc32Reader::read` makes of it.  (The
instance is an explicit argument: the instances here are never the canonical ones.) -/

structure Realises {R ι : Type} (inst : Rs.Read R) (emb : ι → R) (ir : ι → Nat → Out Bytes × ι) (I : ι → Prop) : Prop where
  rd : ∀ i n, I i → n < 2 ^ 64 → @Rs.Read.rd R inst (emb i) n = (toRd (ir i n).1, emb (ir i n).2)
  inv : ∀ i n, I i → I (ir i n).2
  len : ∀ i n bs, I i → (ir i n).1 = .ok bs → bs.length ≤ n
  io : ∀ i n e, I i → n < 2 ^ 64 → (ir i n).1 = .err e → ∃ k, e = .io k

/-- `CryptoReader::Aes` over any source realises `Valid.read`, on the states with at most `L` bytes of ciphertext left -/
theorem Realises.aes (P : AesPrims) (hW : P.WF) (S : Src σ) (hS : S.Contract) (hin : SmallA S) (vv : Gen.AesVendorVersion)
    {L : Nat} (hL : L < 2 ^ 64) :
    Realises (@Gen.E.read_CryptoReader (primsOf P) (dynOf P) σ (readOfA S))
      (fun v : Valid σ => @Gen.E.CryptoReader.Aes (dynOf P) σ (toGen P v) vv) (Valid.read P S)
      (fun v => v.dataRemaining ≤ L) := by
  constructor
  · intro v n hrem hn
    have hrem := Nat.lt_of_le_of_lt hrem hL
    rw [rd_crypto_aes, rd_toGen P hW S hS hin v n hn hrem]
    rcases hm : Valid.read P S v n with ⟨o, v'⟩
    cases o with
    | ok bs => rfl
    | err e => obtain ⟨k, rfl⟩ := read_err_io P hW S hS hin v n hn hrem e v' hm; rfl
    | panic m => rfl
  · exact fun v n hrem => Nat.le_trans (read_bounds P S v n).1 hrem
  · exact fun v n bs _ h => (read_bounds P S v n).2 bs h
  · exact fun v n e hrem hn h => read_err_io P hW S hS hin v n hn (Nat.lt_of_le_of_lt hrem hL) e _ (Prod.ext h rfl)

theorem Realises.map {R ι κ : Type} {inst : Rs.Read R} {emb : ι → R} {ir : ι → Nat → Out Bytes × ι} {I : ι → Prop}
    (h : Realises inst emb ir I) (g : κ → ι) (ir' : κ → Nat → Out Bytes × κ)
    (hg : ∀ j n, ir (g j) n = ((ir' j n).1, g (ir' j n).2)) : Realises inst (fun j => emb (g j)) ir' (fun j => I (g j)) where
  rd j n hj hn := by rw [h.rd (g j) n hj hn, hg]
  inv j n hj := by have := h.inv (g j) n hj; rwa [hg] at this
  len j n bs hj hb := h.len (g j) n bs hj (by rw [hg]; exact hb)
  io j n e hj hn he := h.io (g j) n e hj hn (by rw [hg]; exact he)

/-- `Model.Aes.runDec` over any model reader -/
def runDecOver {ι δ : Type} (ir : ι → Nat → Out Bytes × ι) (d0 : δ) : DecStep δ → ι → Out Bytes × δ × ι
  | .done r d, i => (r, d, i)
  | .pull k cont, i =>
    match ir i k with
    | (.ok bs, i') => runDecOver ir d0 (cont (.ok bs)) i'
    | (.err e, i') => runDecOver ir d0 (cont (.err e)) i'
    | (.panic m, i') => (.panic m, d0, i')

theorem runDec_eq_over {δ : Type} (P : AesPrims) (S : Src σ) (d0 : δ) (step : DecStep δ) (v : Valid σ) :
    runDec P S d0 step v = runDecOver (Valid.read P S) d0 step v := by
  induction step generalizing v with
  | done r d => rfl
  | pull k cont ih =>
    unfold runDec runDecOver
    rcases Valid.read P S v k with ⟨o, v'⟩
    cases o with
    | ok bs => exact ih _ v'
    | err e => exact ih _ v'
    | panic m => rfl

/-- one call of a decoder strategy over a realised reader -/
theorem Realises.runDec {R ι δ : Type} {inst : Rs.Read R} {emb : ι → R} {ir : ι → Nat → Out Bytes × ι} {I : ι → Prop}
    (h : Realises inst emb ir I) (d0 : δ) (n : Nat) : ∀ (step : DecStep δ), GoodStep n step → ∀ i, I i →
    @runDecG δ R inst d0 step (emb i) =
        (toRd (runDecOver ir d0 step i).1, (runDecOver ir d0 step i).2.1, emb (runDecOver ir d0 step i).2.2) ∧
      I (runDecOver ir d0 step i).2.2 ∧
      (∀ bs, (runDecOver ir d0 step i).1 = .ok bs → bs.length ≤ n) ∧
      (∀ e, (runDecOver ir d0 step i).1 = .err e → ∃ k, e = .io k) := by
  intro step hg
  induction hg with
  | ok bs d h1 h2 => intro i hi; exact ⟨rfl, hi, fun _ hb => (by cases hb; exact h1), fun _ he => (by cases he)⟩
  | err k d => intro i hi; exact ⟨rfl, hi, fun _ hb => (by cases hb), fun _ he => (by cases he; exact ⟨k, rfl⟩)⟩
  | panic m d => intro i hi; exact ⟨rfl, hi, fun _ hb => (by cases hb), fun _ he => (by cases he)⟩
  | pull k cont hk hc ih =>
    intro i hi
    unfold runDecG runDecOver
    rw [h.rd i k hi hk]
    have hinv := h.inv i k hi
    have hio := fun e => h.io i k e hi hk
    generalize ir i k = x at hinv hio ⊢
    obtain ⟨o, i'⟩ := x
    cases o with
    | ok bs => exact ih (.ok bs) i' hinv
    | err e => obtain ⟨k', rfl⟩ := hio e rfl; exact ih (.err (.io k')) i' hinv
    | panic m => exact ⟨rfl, hinv, fun _ hb => (by cases hb), fun _ he => (by cases he)⟩

/-- a decoder (any strategy that keeps the `Read` contract, any kind) over a realised reader realises `runDecOver` -/
theorem Realises.dec {R ι δ : Type} {inst : Rs.Read R} {emb : ι → R} {ir : ι → Nat → Out Bytes × ι} {I : ι → Prop}
    (h : Realises inst emb ir I) (D : Decoder δ) (hD : GoodDec D) (k : Rs.E.DecKind) :
    @Realises _ (δ × ι) (@Rs.E.readDec (decOpsOf D) k R inst)
      (fun i => @Rs.E.Dec.mk (decOpsOf D) k R i.1 (emb i.2))
      (fun i m => runDecOver ir i.1 (D.read i.1 m) i.2) (fun i => I i.2) where
  rd i n hi hn := by
    have := (h.runDec i.1 n _ (hD i.1 n) i.2 hi).1
    show (match @runDecG δ R inst i.1 (D.read i.1 n) (emb i.2) with | (r, s, j) => (r, _)) = _
    rw [this]
  inv i n hi := (h.runDec i.1 n _ (hD i.1 n) i.2 hi).2.1
  len i n bs hi hb := (h.runDec i.1 n _ (hD i.1 n) i.2 hi).2.2.1 bs hb
  io i n e hi hn he := (h.runDec i.1 n _ (hD i.1 n) i.2 hi).2.2.2 e he

theorem runDecG_eq {δ : Type} (P : AesPrims) (hW : P.WF) (S : Src σ) (hS : S.Contract) (hin : SmallA S) (d0 : δ)
    (vv : Gen.AesVendorVersion) (n : Nat) : ∀ (step : DecStep δ), GoodStep n step → ∀ (v : Valid σ), v.dataRemaining < 2 ^ 64 →
    @runDecG δ _ (@Gen.E.read_CryptoReader (primsOf P) (dynOf P) σ (readOfA S)) d0 step
        (@Gen.E.CryptoReader.Aes (dynOf P) σ (toGen P v) vv) =
      (toRd (runDec P S d0 step v).1, (runDec P S d0 step v).2.1,
        @Gen.E.CryptoReader.Aes (dynOf P) σ (toGen P (runDec P S d0 step v).2.2) vv) ∧
      (runDec P S d0 step v).2.2.dataRemaining ≤ v.dataRemaining := by
  intro step hg v hrem
  have h := (Realises.aes P hW S hS hin vv hrem).runDec d0 n step hg v (Nat.le_refl _)
  rw [← runDec_eq_over] at h
  exact ⟨h.1, h.2.1⟩

/-! #### the CRC layer on top -/

/-- `RdRes` and the `ReadRes` of `Model/Layers.lean` are the same three cases -/
def toRR : Rs.RdRes → Model.Layers.ReadRes
  | .ok bs => .ok bs
  | .err e => .err e
  | .panic => .panic

theorem rdOf_toRR (x : Rs.RdRes) : rdOf (toRR x) = x := by cases x <;> rfl

/-- any member of `Rs.Read` as a source of `Model/Layers.lean` -/
def srcOfRead (R : Type) [Rs.Read R] : Model.Layers.Src R := ⟨fun s k => (toRR (Rs.Read.rd s k).1, (Rs.Read.rd s k).2)⟩

theorem readOf_srcOfRead (R : Type) [inst : Rs.Read R] : readOf (srcOfRead R) = inst := by
  cases inst with
  | mk rd =>
    show Rs.Read.mk _ = Rs.Read.mk rd
    congr
    funext s k
    show (rdOf (toRR (rd s k).1), (rd s k).2) = rd s k
    rw [rdOf_toRR]

/-- a model outcome of the CRC layer over a reader embedded by `emb`, as the generated `Crc32Reader` sees it -/
def crcView {R ι : Type} (emb : ι → R) (r : Out Bytes × CrcSt Rs.Crc32Hasher × ι) : Out Bytes × Gen.Crc32Reader R :=
  (eraseMsg r.1, ⟨emb r.2.2, r.2.1.hasher, r.2.1.check, r.2.1.ae2⟩)

theorem crc_layer_read {R ι : Type} [inst : Rs.Read R] (emb : ι → R)
    (ir : ι → Nat → Out Bytes × ι) (c : CrcSt Rs.Crc32Hasher) (i : ι) (n : Nat) (hn : n < 2 ^ 64)
    (h1 : Rs.Read.rd (emb i) n = (toRd (ir i n).1, emb (ir i n).2))
    (h2 : ∀ bs, (ir i n).1 = .ok bs → bs.length ≤ n) (h3 : ∀ e, (ir i n).1 = .err e → ∃ k, e = .io k) :
    (fun g : Rs.IoRes UInt64 × Gen.Crc32Reader R × Bytes => (outRead g.1 g.2.2, g.2.1))
        (Gen.Crc32Reader.read ⟨emb i, c.hasher, c.check, c.ae2⟩ (List.replicate n 0)) =
      crcView emb (crcRead Rs.Crc32Hasher.update Rs.Crc32Hasher.finalize ir c i n) := by
  have hlen : (List.replicate n (0 : UInt8)).length = n := List.length_replicate
  -- `Tie/Layers` has the tie of `Crc32Reader::read` over `readOf` of a model `Src`, so the instance `inst` is made one
  -- (`srcOfRead`; `readOf_srcOfRead` undoes it); its pointwise form, since only this `rd` call is known to be short
  have key := crc32reader_read_at (srcOfRead R) ⟨emb i, c.hasher, c.check, c.ae2⟩ (List.replicate n 0) (by
    intro bs s' hs
    have hs1 : toRR (Rs.Read.rd (emb i) (List.replicate n (0 : UInt8)).length).1 = .ok bs := congrArg Prod.fst hs
    rw [hlen, h1] at hs1
    rcases hm : (ir i n).1 with b | e | m <;> rw [hm] at hs1
    · cases hs1; exact Nat.lt_of_le_of_lt (h2 _ hm) hn
    · cases e <;> cases hs1
    · cases hs1)
  rw [readOf_srcOfRead, hlen] at key
  have hview : ∀ g : Rs.IoRes UInt64 × Gen.Crc32Reader R × Bytes,
      (outRead g.1 g.2.2, g.2.1) = ((match (view g).1 with
        | .ok bs => Out.ok bs
        | .err e => .err (.io e)
        | .panic => .panic ""), (view g).2) := by
    rintro ⟨o, r, b⟩
    cases o <;> rfl
  show (outRead _ _, _) = _
  rw [hview, key]
  unfold crcLift Model.Layers.crcLayer crcRead crcView
  dsimp only [srcOfRead]
  rw [h1]
  by_cases h0 : n = 0
  · rw [if_pos h0, if_pos h0]; rfl
  · rw [if_neg h0, if_neg h0]
    rcases hm : ir i n with ⟨m1, i'⟩
    rw [hm] at h2 h3
    cases m1 with
    | ok bs =>
      -- the two layers phrase "end of stream while the checksum is wrong" differently
      have hinv : (bs.isEmpty && (c.check != Spec.Crc32.finalize c.hasher.reg && !c.ae2)) = true ↔
          bs.length = 0 ∧ (decide (c.hasher.finalize ≠ c.check) && !c.ae2) = true := by
        have hb : (c.check != Spec.Crc32.finalize c.hasher.reg) = decide (c.hasher.finalize ≠ c.check) := by
          rw [Bool.eq_iff_iff, bne_iff_ne, decide_eq_true_iff]; exact ne_comm
        rw [Bool.and_eq_true, List.isEmpty_iff_length_eq_zero, hb]
      dsimp only [toRd, toRR]
      by_cases hc : (bs.isEmpty && (c.check != Spec.Crc32.finalize c.hasher.reg && !c.ae2)) = true
      · rw [if_pos hc, if_pos (hinv.mp hc)]; rfl
      · rw [if_neg hc, if_neg (fun h => hc (hinv.mpr h)), if_pos (h2 bs rfl)]; rfl
    | err e =>
      obtain ⟨k', rfl⟩ := h3 e rfl
      rfl
    | panic m => rfl


/-- `Crc32Reader::read` over a realised reader is `crcRead` over the model reader -/
theorem Realises.crc_read {R ι : Type} {inst : Rs.Read R} {emb : ι → R} {ir : ι → Nat → Out Bytes × ι} {I : ι → Prop}
    (h : Realises inst emb ir I) (c : CrcSt Rs.Crc32Hasher) (i : ι) (hi : I i) (n : Nat) (hn : n < 2 ^ 64) :
    (fun g : Rs.IoRes UInt64 × Gen.Crc32Reader R × Bytes => (outRead g.1 g.2.2, g.2.1))
        (@Gen.Crc32Reader.read R inst ⟨emb i, c.hasher, c.check, c.ae2⟩ (List.replicate n 0)) =
      crcView emb (crcRead Rs.Crc32Hasher.update Rs.Crc32Hasher.finalize ir c i n) :=
  @crc_layer_read R ι inst emb ir c i n hn (h.rd i n hi hn) (fun bs => h.len i n bs hi) (fun e => h.io i n e hi hn)

/-- the decoder-over-decryption stack as a member of `Rs.Read`, with the model's strategy as the decoder -/
abbrev stackRead {δ : Type} (P : AesPrims) (S : Src σ) (D : Decoder δ) (k : Rs.E.DecKind) :
    Rs.Read (@Rs.E.Dec (decOpsOf D) k (@Gen.E.CryptoReader (dynOf P) σ)) :=
  @Rs.E.readDec (decOpsOf D) k _ (@Gen.E.read_CryptoReader (primsOf P) (dynOf P) σ (readOfA S))

def mkDec {δ : Type} (P : AesPrims) (D : Decoder δ) (k : Rs.E.DecKind) (d : δ) (i : @Gen.E.CryptoReader (dynOf P) σ) :
    @Rs.E.Dec (decOpsOf D) k (@Gen.E.CryptoReader (dynOf P) σ) := @Rs.E.Dec.mk (decOpsOf D) k _ d i

def innerOf {δ : Type} (P : AesPrims) (D : Decoder δ) (k : Rs.E.DecKind)
    (s : @Rs.E.Dec (decOpsOf D) k (@Gen.E.CryptoReader (dynOf P) σ)) : @Gen.E.CryptoReader (dynOf P) σ :=
  @Rs.E.Dec.inner (decOpsOf D) k _ s

/-- a model state of an AES entry read through a decompressor, as the generated `Crc32Reader` stack -/
def embedStack {δ : Type} (P : AesPrims) (D : Decoder δ) (k : Rs.E.DecKind) (vv : Gen.AesVendorVersion)
    (st : EntrySt σ δ Rs.Crc32Hasher) :
    Gen.Crc32Reader (@Rs.E.Dec (decOpsOf D) k (@Gen.E.CryptoReader (dynOf P) σ)) :=
  ⟨mkDec P D k st.dec (@Gen.E.CryptoReader.Aes (dynOf P) σ (toGen P st.aes) vv),
    st.crc.hasher, st.crc.check, st.crc.ae2⟩

theorem tie_layers_read {δ : Type} (P : AesPrims) (hW : P.WF) (S : Src σ) (hS : S.Contract) (hin : SmallA S)
    (D : Decoder δ) (hD : GoodDec D) (k : Rs.E.DecKind) (vv : Gen.AesVendorVersion)
    (st : EntrySt σ δ Rs.Crc32Hasher) (n : Nat) (hn : n < 2 ^ 64) (hrem : st.aes.dataRemaining < 2 ^ 64) :
    (fun g : Rs.IoRes UInt64 × _ × Bytes => (outRead g.1 g.2.2, g.2.1))
        (@Gen.Crc32Reader.read _ (stackRead P S D k) (embedStack P D k vv st) (List.replicate n 0)) =
      (eraseMsg (layersRead P S D Rs.Crc32Hasher.update Rs.Crc32Hasher.finalize st n).1,
        embedStack P D k vv (layersRead P S D Rs.Crc32Hasher.update Rs.Crc32Hasher.finalize st n).2) := by
  have key := ((Realises.aes P hW S hS hin vv hrem).dec D hD k).crc_read st.crc (st.dec, st.aes) (Nat.le_refl _) n hn
  rw [show (fun (i : δ × Valid σ) m => runDecOver (Valid.read P S) i.1 (D.read i.1 m) i.2) =
    fun i m => runDec P S i.1 (D.read i.1 m) i.2 from funext fun i => funext fun m => (runDec_eq_over P S _ _ _).symm] at key
  exact key

/-! #### all of it: `ZipFile::read` of a `Deflated` AES entry is `Model.Aes.entryRead` -/

theorem layersRead_aes {δ H : Type} (P : AesPrims) (S : Src σ) (D : Decoder δ) (upd : H → Bytes → H) (fin : H → UInt32)
    (st : EntrySt σ δ H) (n : Nat) :
    (layersRead P S D upd fin st n).2.aes =
      if n = 0 then st.aes else (runDec P S st.dec (D.read st.dec n) st.aes).2.2 := by
  unfold layersRead crcRead
  by_cases h0 : n = 0
  · simp [h0]
  · simp only [h0, if_false]
    rcases runDec P S st.dec (D.read st.dec n) st.aes with ⟨o, d, v⟩
    cases o with
    | ok bs => simp only []; split <;> rfl
    | err e => rfl
    | panic m => rfl

theorem copyToSink_err_io (P : AesPrims) (hW : P.WF) (S : Src σ) (hS : S.Contract) (hin : SmallA S) :
    ∀ (f : Nat) (v : Valid σ), v.dataRemaining < 2 ^ 64 → ∀ e v', copyToSink P S f v = (.err e, v') → ∃ k, e = .io k := by
  intro f
  induction f with
  | zero => intro v _ e v' h; simp [copyToSink] at h
  | succ f ih =>
    intro v hrem e v' h
    unfold copyToSink at h
    have hle := (read_bounds P S v 8192).1
    rcases hv : Valid.read P S v 8192 with ⟨m1, m2⟩
    rw [hv] at h hle
    cases m1 with
    | ok bs =>
      simp only [] at h
      split at h
      · simp at h
      · exact ih m2 (Nat.lt_of_le_of_lt hle hrem) e v' h
    | err e2 =>
      simp only [Prod.mk.injEq, Out.err.injEq] at h
      obtain ⟨rfl, _⟩ := h
      exact read_err_io P hW S hS hin v 8192 (by decide) hrem e2 m2 hv
    | panic m => simp at h

/-- the model state as the handle's reader: `ZipFileReader::Deflated(Crc32Reader<DeflateDecoder<CryptoReader::Aes>>)` -/
def embedReader {δ : Type} (P : AesPrims) (D : Decoder δ) (vv : Gen.AesVendorVersion) (st : EntrySt σ δ Rs.Crc32Hasher) :
    @Gen.E.ZipFileReader (dynOf P) (decOpsOf D) σ :=
  @Gen.E.ZipFileReader.Deflated (dynOf P) (decOpsOf D) σ (embedStack P D .deflate vv st)

/-- the handle's `reader` field (with the instances of this section) -/
def readerOf {δ : Type} (P : AesPrims) (D : Decoder δ) (z : @Gen.E.ZipFile (dynOf P) (decOpsOf D) σ) :
    @Gen.E.ZipFileReader (dynOf P) (decOpsOf D) σ := @Gen.E.ZipFile.reader (dynOf P) (decOpsOf D) σ z

/-- `tie_entry_read` for either variant that holds `Crc32Reader<Decoder<CryptoReader>>`: `wrap` is
`ZipFileReader::Deflated` or `::Bzip2`, described by how `read`, `cryptoOf` and `withCrypto` act on it -/
theorem entry_read_dec {δ : Type} (P : AesPrims) (hW : P.WF) (S : Src σ) (hS : S.Contract) (hin : SmallA S)
    (D : Decoder δ) (hD : GoodDec D) (k : Rs.E.DecKind) (vv : Gen.AesVendorVersion)
    (wrap : Gen.Crc32Reader (@Rs.E.Dec (decOpsOf D) k (@Gen.E.CryptoReader (dynOf P) σ)) →
      @Gen.E.ZipFileReader (dynOf P) (decOpsOf D) σ)
    (hread : ∀ r buf, @Gen.E.ZipFileReader.read (primsOf P) (dynOf P) (decOpsOf D) σ (readOfA S) (wrap r) buf =
      under wrap (@Gen.Crc32Reader.read _ (stackRead P S D k) r buf))
    (hcr : ∀ r, @cryptoOf (dynOf P) (decOpsOf D) σ (wrap r) = some (innerOf P D k r.inner))
    (hwith : ∀ c st, @withCrypto (dynOf P) (decOpsOf D) σ (@Gen.E.CryptoReader.Aes (dynOf P) σ (toGen P c) vv)
      (wrap (embedStack P D k vv st)) = wrap (embedStack P D k vv { st with aes := c }))
    (mk : Gen.CompressionMethod → UInt32 → @Gen.E.CryptoReader (dynOf P) σ → Option (@Gen.E.ZipFileReader (dynOf P) (decOpsOf D) σ))
    (z : @Gen.E.ZipFile (dynOf P) (decOpsOf D) σ) (st : EntrySt σ δ Rs.Crc32Hasher)
    (hz : readerOf P D z = wrap (embedStack P D k vv st))
    (n : Nat) (hn : n < 2 ^ 64) (hrem : st.aes.dataRemaining < 2 ^ 64) (fuel : Nat)
    (hfuel : fuel = (layersRead P S D Rs.Crc32Hasher.update Rs.Crc32Hasher.finalize st n).2.aes.dataRemaining + 1) :
    (fun g : Rs.IoRes UInt64 × @Gen.E.ZipFile (dynOf P) (decOpsOf D) σ × Bytes => (outRead g.1 g.2.2, readerOf P D g.2.1))
        (@Gen.E.ZipFile.read (primsOf P) (dynOf P) (decOpsOf D) σ (readOfA S) mk fuel z (List.replicate n 0)) =
      (eraseMsg (entryRead P S D true Rs.Crc32Hasher.update Rs.Crc32Hasher.finalize st n).1,
        wrap (embedStack P D k vv (entryRead P S D true Rs.Crc32Hasher.update Rs.Crc32Hasher.finalize st n).2)) := by
  rw [entryRead_eq_glue]
  refine @zipfile_read_map (primsOf P) (dynOf P) (decOpsOf D) σ (readOfA S) _ _ (stackRead P S D k) _ _ wrap
    (embedStack P D k vv) hread (fun r h => by have := hcr r; rw [h] at this; cases this) mk fuel z st hz n hn
    (tie_layers_read P hW S hS hin D hD k vv st n hn hrem) ?_
  intro bs st1 hlr
  have hle : st1.aes.dataRemaining < 2 ^ 64 := by
    have h := layersRead_aes P S D Rs.Crc32Hasher.update Rs.Crc32Hasher.finalize st n
    rw [hlr] at h
    rw [show st1.aes = _ from h]
    split
    · exact hrem
    · exact Nat.lt_of_le_of_lt (runDecG_eq P hW S hS hin st.dec vv n (D.read st.dec n) (hD st.dec n) st.aes hrem).2 hrem
  rw [hlr] at hfuel
  subst hfuel
  unfold finishView
  rw [@tie_finish_crypto σ (decOpsOf D) P hW S hS hin (wrap (embedStack P D k vv st1)) st1.aes vv (hcr _) hle]
  dsimp only [unitView]
  rw [hwith]
  rcases hfc : finishCrypto P S true st1.aes with ⟨o, v2⟩
  cases o with
  | ok u => rfl
  | err e =>
    obtain ⟨k', rfl⟩ := copyToSink_err_io P hW S hS hin _ st1.aes hle e v2 hfc
    rfl
  | panic m => rfl

/-- **`ZipFile::read` on a handle reading a Deflated AES entry is `Model.Aes.entryRead … true`** - the function
`Props/C16.entry_eof_implies_mac` and `entryDrain` are stated about - up to `eraseMsg` (panic messages are not
translated), for every decoder strategy that is `GoodDec`, every source, every primitive triple: same bytes / error /
panic, and the handle's reader afterwards is the model's state.  `hfuel`: the rounds granted to `io::copy` are the
model's, `dataRemaining + 1` of the AES layer after the stack's `read`. -/
theorem tie_entry_read {δ : Type} (P : AesPrims) (hW : P.WF) (S : Src σ) (hS : S.Contract) (hin : SmallA S)
    (D : Decoder δ) (hD : GoodDec D) (vv : Gen.AesVendorVersion)
    (mk : Gen.CompressionMethod → UInt32 → @Gen.E.CryptoReader (dynOf P) σ → Option (@Gen.E.ZipFileReader (dynOf P) (decOpsOf D) σ))
    (z : @Gen.E.ZipFile (dynOf P) (decOpsOf D) σ) (st : EntrySt σ δ Rs.Crc32Hasher) (hz : readerOf P D z = embedReader P D vv st)
    (n : Nat) (hn : n < 2 ^ 64) (hrem : st.aes.dataRemaining < 2 ^ 64) (fuel : Nat)
    (hfuel : fuel = (layersRead P S D Rs.Crc32Hasher.update Rs.Crc32Hasher.finalize st n).2.aes.dataRemaining + 1) :
    (fun g : Rs.IoRes UInt64 × @Gen.E.ZipFile (dynOf P) (decOpsOf D) σ × Bytes => (outRead g.1 g.2.2, readerOf P D g.2.1))
        (@Gen.E.ZipFile.read (primsOf P) (dynOf P) (decOpsOf D) σ (readOfA S) mk fuel z (List.replicate n 0)) =
      (eraseMsg (entryRead P S D true Rs.Crc32Hasher.update Rs.Crc32Hasher.finalize st n).1,
        embedReader P D vv (entryRead P S D true Rs.Crc32Hasher.update Rs.Crc32Hasher.finalize st n).2) :=
  entry_read_dec P hW S hS hin D hD .deflate vv (@Gen.E.ZipFileReader.Deflated (dynOf P) (decOpsOf D) σ) (fun _ _ => rfl) (fun _ => rfl) (fun _ _ => rfl)
    mk z st hz n hn hrem fuel hfuel

/-- the model state as the handle's reader: `ZipFileReader::Bzip2(Crc32Reader<BzDecoder<CryptoReader::Aes>>)` -/
def embedReaderBz {δ : Type} (P : AesPrims) (D : Decoder δ) (vv : Gen.AesVendorVersion) (st : EntrySt σ δ Rs.Crc32Hasher) :
    @Gen.E.ZipFileReader (dynOf P) (decOpsOf D) σ :=
  @Gen.E.ZipFileReader.Bzip2 (dynOf P) (decOpsOf D) σ (embedStack P D .bzip2 vv st)

/-- **`ZipFile::read` on a handle reading a Bzip2 AES entry is `Model.Aes.entryRead … true`**: `entry_read_dec` at
`ZipFileReader::Bzip2`; the decoder strategy being arbitrary, only the constructor differs from `tie_entry_read`. -/
theorem tie_entry_read_bzip2 {δ : Type} (P : AesPrims) (hW : P.WF) (S : Src σ) (hS : S.Contract) (hin : SmallA S)
    (D : Decoder δ) (hD : GoodDec D) (vv : Gen.AesVendorVersion)
    (mk : Gen.CompressionMethod → UInt32 → @Gen.E.CryptoReader (dynOf P) σ → Option (@Gen.E.ZipFileReader (dynOf P) (decOpsOf D) σ))
    (z : @Gen.E.ZipFile (dynOf P) (decOpsOf D) σ) (st : EntrySt σ δ Rs.Crc32Hasher) (hz : readerOf P D z = embedReaderBz P D vv st)
    (n : Nat) (hn : n < 2 ^ 64) (hrem : st.aes.dataRemaining < 2 ^ 64) (fuel : Nat)
    (hfuel : fuel = (layersRead P S D Rs.Crc32Hasher.update Rs.Crc32Hasher.finalize st n).2.aes.dataRemaining + 1) :
    (fun g : Rs.IoRes UInt64 × @Gen.E.ZipFile (dynOf P) (decOpsOf D) σ × Bytes => (outRead g.1 g.2.2, readerOf P D g.2.1))
        (@Gen.E.ZipFile.read (primsOf P) (dynOf P) (decOpsOf D) σ (readOfA S) mk fuel z (List.replicate n 0)) =
      (eraseMsg (entryRead P S D true Rs.Crc32Hasher.update Rs.Crc32Hasher.finalize st n).1,
        embedReaderBz P D vv (entryRead P S D true Rs.Crc32Hasher.update Rs.Crc32Hasher.finalize st n).2) :=
  entry_read_dec P hW S hS hin D hD .bzip2 vv (@Gen.E.ZipFileReader.Bzip2 (dynOf P) (decOpsOf D) σ) (fun _ _ => rfl) (fun _ => rfl) (fun _ _ => rfl)
    mk z st hz n hn hrem fuel hfuel

/-! #### a `Stored` AES entry: no decoder, `Model.Aes.entryRead … storedDec false` -/

/-- a model state of a `Stored` AES entry as the generated stack `Crc32Reader<CryptoReader::Aes>` -/
def embedStored (P : AesPrims) (vv : Gen.AesVendorVersion) (st : EntrySt σ Unit Rs.Crc32Hasher) :
    Gen.Crc32Reader (@Gen.E.CryptoReader (dynOf P) σ) :=
  ⟨@Gen.E.CryptoReader.Aes (dynOf P) σ (toGen P st.aes) vv, st.crc.hasher, st.crc.check, st.crc.ae2⟩

theorem tie_layers_read_stored (P : AesPrims) (hW : P.WF) (S : Src σ) (hS : S.Contract) (hin : SmallA S)
    (vv : Gen.AesVendorVersion) (st : EntrySt σ Unit Rs.Crc32Hasher) (n : Nat) (hn : n < 2 ^ 64)
    (hrem : st.aes.dataRemaining < 2 ^ 64) :
    (fun g : Rs.IoRes UInt64 × _ × Bytes => (outRead g.1 g.2.2, g.2.1))
        (@Gen.Crc32Reader.read _ (@Gen.E.read_CryptoReader (primsOf P) (dynOf P) σ (readOfA S))
          (embedStored P vv st) (List.replicate n 0)) =
      (eraseMsg (layersRead P S storedDec Rs.Crc32Hasher.update Rs.Crc32Hasher.finalize st n).1,
        embedStored P vv (layersRead P S storedDec Rs.Crc32Hasher.update Rs.Crc32Hasher.finalize st n).2) := by
  have hv : ∀ (i : Unit × Valid σ) m, Valid.read P S i.2 m =
      ((runDec P S i.1 (storedDec.read i.1 m) i.2).1, (runDec P S i.1 (storedDec.read i.1 m) i.2).2.2) := by
    intro i m
    simp only [storedDec, runDec]
    rcases Valid.read P S i.2 m with ⟨o, v'⟩
    cases o <;> rfl
  exact ((Realises.aes P hW S hS hin vv hrem).map Prod.snd (fun i m => runDec P S i.1 (storedDec.read i.1 m) i.2) hv).crc_read
    st.crc ((), st.aes) (Nat.le_refl _) n hn

/-- **`ZipFile::read` on a handle reading a Stored AES entry is `Model.Aes.entryRead … storedDec false`** (what
`Props/C16.entry_eof_implies_mac_stored` is stated about); `finish_crypto` does nothing on either side. -/
theorem tie_entry_read_stored (dops : Rs.E.DecOps) (P : AesPrims) (hW : P.WF) (S : Src σ) (hS : S.Contract) (hin : SmallA S)
    (vv : Gen.AesVendorVersion)
    (mk : Gen.CompressionMethod → UInt32 → @Gen.E.CryptoReader (dynOf P) σ → Option (@Gen.E.ZipFileReader (dynOf P) dops σ))
    (z : @Gen.E.ZipFile (dynOf P) dops σ) (st : EntrySt σ Unit Rs.Crc32Hasher)
    (hz : @Gen.E.ZipFile.reader (dynOf P) dops σ z = @Gen.E.ZipFileReader.Stored (dynOf P) dops σ (embedStored P vv st))
    (n : Nat) (hn : n < 2 ^ 64) (hrem : st.aes.dataRemaining < 2 ^ 64) (fuel : Nat) :
    (fun g : Rs.IoRes UInt64 × @Gen.E.ZipFile (dynOf P) dops σ × Bytes =>
        (outRead g.1 g.2.2, @Gen.E.ZipFile.reader (dynOf P) dops σ g.2.1))
        (@Gen.E.ZipFile.read (primsOf P) (dynOf P) dops σ (readOfA S) mk fuel z (List.replicate n 0)) =
      (eraseMsg (entryRead P S storedDec false Rs.Crc32Hasher.update Rs.Crc32Hasher.finalize st n).1,
        @Gen.E.ZipFileReader.Stored (dynOf P) dops σ
          (embedStored P vv (entryRead P S storedDec false Rs.Crc32Hasher.update Rs.Crc32Hasher.finalize st n).2)) := by
  rw [entryRead_eq_glue]
  exact @zipfile_read_map (primsOf P) (dynOf P) dops σ (readOfA S) _ _
    (@Gen.E.read_CryptoReader (primsOf P) (dynOf P) σ (readOfA S)) _ _
    (@Gen.E.ZipFileReader.Stored (dynOf P) dops σ) (embedStored P vv) (fun _ _ => rfl) (fun _ h => nomatch h)
    mk fuel z st hz n hn (tie_layers_read_stored P hW S hS hin vv st n hn hrem) (fun _ _ _ => rfl)

end ZipVerif.Tie.EntryRead
