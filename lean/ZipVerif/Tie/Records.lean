import ZipVerif.Basic.U64
import ZipVerif.Gen.Write
import ZipVerif.Model.Records
import ZipVerif.Model.Writer
import ZipVerif.Tie.Types
import ZipVerif.Tie.DateTime
import ZipVerif.Tie.Extra
import ZipVerif.Tie.SpecRecords
import ZipVerif.Lemmas.Zip64
/-
Tie obligations for the header serialisers of src/write.rs (translator tiers T3 and T4): what `rs2lean` prints from
/repo/src/write.rs (`Gen/Write.lean`) equals the hand-written model the property theorems are stated over.
`write_local_zip64_extra_field`, `write_local_file_header`, `write_central_zip64_extra_field` and
`write_central_directory_header` are tied to the chunk lists of `Model/Records.lean` (the third to the bytes
`centralZip64Bytes` and their number, which it returns); `validate_extra_data` (tier T4:
a fuelled `while` loop, `loop_tie` shows the generated fuel adequate) to `validateExtraData`;
`update_local_file_header` (`T: Write + Seek`: a log of seek/write actions) to `Model.updateLocalHeader`, through the
explicit action list of `update_local_zip64_extra_field`.

Hypotheses.  Every tie speaks of a generated `ZipFileData` `f` and a model `FileData` `g` with `view f g` (what the
serialisers read of the entry agrees); `view_dataOf` shows every generated value has such a `g`, so that `view`
restricts nothing.  `tie_write_central_directory_header` and `tie_validate_extra_data` also want
`g.extraField.length ≤ isize::MAX` (`hlen`: true of every Rust `Vec`; it keeps a `usize` addition from overflowing),
and the two `tie_update_*` want `headerStart + 34 + fileName.length < 2^64` (`hpos`: the position arithmetic of the
source is checked `u64`, the model's is in `Nat`; below that bound they agree).

Chunk lists are compared as lists, one chunk per Rust `write_all`/`write_uNN` call; an empty chunk
(empty name, no ZIP64 record, no extra data) is an element on both sides - the model skips it only
at I/O time (`M.writeAll []` is a no-op).  Panics are compared as panics (the model's site string is
not part of the comparison), returned errors by variant (`zerrOf`).
The proofs go by meaning: sub-function ties (`version_needed`, `to_u16`, `timepart`, `datepart`) are
reused as rewrite rules, Boolean conditions are case-split, and both sides are normalised to one
explicit chunk list by `wsimp`.  A source edit that reorders or retypes a field write, changes a
threshold comparison, a constant, a cast or an error branch breaks one of these theorems; a
harmless rewrite (renaming, reordering of independent `let`s, `x >= T` for `!(x < T)`) does not.
-/
set_option linter.unusedSimpArgs false

namespace ZipVerif.Tie.Records
open ZipVerif ZipVerif.Model ZipVerif.Tie.SpecRecords

/-- Chunk-list outcome of a translated `fn f<T: Write>(..) -> ZipResult<()>`. -/
def chunks (x : Rs.W Bytes Unit) : Option (Except ZErr (List Bytes)) :=
  match x with
  | ⟨some (.ok _), l⟩ => some (.ok l)
  | ⟨some (.error e), _⟩ => some (.error (zerrOf e))
  | ⟨none, _⟩ => none

/-- a serialiser whose chunk-list outcome is `Ok` IS that value: `Ok(())` with exactly those chunks written -/
theorem chunks_ok {x : Rs.W Bytes Unit} {l : List Bytes} (h : chunks x = some (.ok l)) : x = ⟨some (.ok ()), l⟩ := by
  rcases x with ⟨res, log⟩
  cases res with
  | none => cases h
  | some r =>
    cases r with
    | error e => cases h
    | ok u => simp only [chunks, Option.some.injEq, Except.ok.injEq] at h; rw [h]

/-- Everything the serialisers read from a `ZipFileData`. -/
def view (f : Gen.ZipFileData) (g : FileData) : Prop :=
  Tie.Types.viewOf f g ∧ f.version_made_by = g.versionMadeBy ∧ f.encrypted = g.encrypted ∧
  Tie.DateTime.toModel f.last_modified_time = g.time ∧ f.crc32 = g.crc32 ∧
  f.file_name = g.fileName ∧ f.extra_field = g.extraField ∧ f.large_file = g.largeFile ∧
  f.using_data_descriptor = g.usingDataDescriptor

/-- The model value of a generated `ZipFileData` (`Option<i32>` level as `Option Int`). -/
def dataOf (f : Gen.ZipFileData) : FileData :=
  { system := Tie.Types.systemOf f.system, versionMadeBy := f.version_made_by,
    encrypted := f.encrypted, usingDataDescriptor := f.using_data_descriptor,
    method := Tie.Types.methodOf f.compression_method, level := f.compression_level.map Int32.toInt,
    time := Tie.DateTime.toModel f.last_modified_time, crc32 := f.crc32,
    compressedSize := f.compressed_size, uncompressedSize := f.uncompressed_size,
    fileName := f.file_name, fileNameRaw := f.file_name_raw, extraField := f.extra_field,
    fileComment := f.file_comment, headerStart := f.header_start,
    centralHeaderStart := f.central_header_start, dataStart := f.data_start,
    externalAttributes := f.external_attributes, largeFile := f.large_file,
    aesMode := f.aes_mode.map fun p => (Tie.Types.aesModeOf p.1,
      match p.2 with | .Ae1 => .ae1 | .Ae2 => .ae2) }

theorem view_dataOf (f : Gen.ZipFileData) : view f (dataOf f) :=
  ⟨⟨rfl, rfl, rfl, rfl, rfl, rfl⟩, rfl, rfl, rfl, rfl, rfl, rfl, rfl, rfl⟩

/-- Normal form of straight-line writer code: every primitive becomes an explicit ⟨outcome, log⟩
pair and `bind` concatenates logs. -/
syntax "wsimp" ("[" Lean.Parser.Tactic.simpLemma,* "]")? : tactic
macro_rules
  | `(tactic| wsimp [$ls,*]) => `(tactic| simp only [Rs.W.bind_def, Rs.W.bind_ok, Rs.W.bind_error,
      Rs.W.bind_none, Rs.W.pre_mk, Rs.W.pre_nil, Rs.W.pure_def, Rs.W.lift_some, Rs.W.lift_none,
      Rs.W.write_u16, Rs.W.write_u32, Rs.W.write_u64, Rs.W.write_all, Rs.W.emit, Rs.W.err,
      Rs.Sink.ofBytes, id, Rs.le16, Rs.le32, Rs.le64, List.cons_append, List.nil_append,
      List.append_nil, ↓reduceIte, Bool.false_eq_true, Bool.not_true, Bool.not_false, $ls,*])
  | `(tactic| wsimp) => `(tactic| wsimp [Rs.W.bind_def])

/-- a value chosen by a condition (one bit of a flag word: `if c { 1 << k } else { 0 }`) -/
theorem ite_ok {ω α} (c : Prop) [Decidable c] (a b : α) :
    (if c then (⟨some (.ok a), []⟩ : Rs.W ω α) else ⟨some (.ok b), []⟩) = ⟨some (.ok (if c then a else b)), []⟩ := by
  split <;> rfl

theorem shl_1_11 : Rs.Arith.shl (1 : UInt16) 11 = some 0x0800 := by decide
theorem shl_1_0 : Rs.Arith.shl (1 : UInt16) 0 = some 1 := by decide
theorem shl_1_3 : Rs.Arith.shl (1 : UInt16) 3 = some 8 := by decide

/-- `a + (x.len() as u16)` as a checked `u16` addition (after `len_as_u16`). -/
theorem add_len_u16 (a : UInt16) (n : Nat) :
    Rs.Arith.add a (UInt16.ofNat n) =
      if a.toNat + n % 65536 < 65536 then some (UInt16.ofNat (a.toNat + n % 65536)) else none := by
  simp only [Rs.Arith.add, UInt16.toNat_ofNat']
  have e : 2 ^ 16 = 65536 := by decide
  rw [e]
  by_cases h : a.toNat + n % 65536 < 65536
  · rw [if_pos h, if_pos h]
    congr 1 <;>
      (apply UInt16.toNat_inj.mp
       simp only [UInt16.toNat_add, UInt16.toNat_ofNat']
       omega)
  · rw [if_neg h, if_neg h]

theorem add_len_u16_20 (n : Nat) :
    Rs.Arith.add (20 : UInt16) (UInt16.ofNat n) =
      if 20 + n % 65536 < 65536 then some (UInt16.ofNat (20 + n % 65536)) else none := by
  have h := add_len_u16 20 n
  have e : (20 : UInt16).toNat = 20 := by decide
  rwa [e] at h

/-- `0 + n % 65536` is left as it is: the form `Model.localExtraLen` takes at `large_file = false` under `simp only`. -/
theorem add_len_u16_0 (n : Nat) :
    Rs.Arith.add (0 : UInt16) (UInt16.ofNat n) =
      if 0 + n % 65536 < 65536 then some (UInt16.ofNat (0 + n % 65536)) else none := by
  have h := add_len_u16 0 n
  have e : (0 : UInt16).toNat = 0 := by decide
  rwa [e] at h

theorem tie_write_local_zip64_extra_field (f : Gen.ZipFileData) (g : FileData) (h : view f g) :
    Gen.write_local_zip64_extra_field (ω := Bytes) f = ⟨some (.ok ()), localZip64Chunks g⟩ := by
  obtain ⟨⟨_, _, hu, hc, _, _⟩, _⟩ := h
  unfold Gen.write_local_zip64_extra_field localZip64Chunks
  wsimp
  rw [hu, hc]

/-- `write_local_file_header`: same chunks as the model, same panics (DOS year below 1980,
`u16` overflow of the extra-field length), for every entry. -/
theorem tie_write_local_file_header (f : Gen.ZipFileData) (g : FileData) (h : view f g) :
    chunks (Gen.write_local_file_header (ω := Bytes) f) = ofOut (localHeaderChunks g) := by
  have hz := tie_write_local_zip64_extra_field f g h
  obtain ⟨hv, hvm, he, ht, hcrc, hn, hx, hl, hdd⟩ := h
  have hvn := Tie.Types.tie_version_needed f g hv
  have hm := Tie.Types.tie_method_to_u16 f.compression_method
  have htp := Tie.DateTime.tie_timepart f.last_modified_time
  have hdp := Tie.DateTime.tie_datepart f.last_modified_time
  obtain ⟨_, _, hu, hc, _, hmeth⟩ := hv
  unfold Gen.write_local_file_header localHeaderChunks
  rw [hvn, hm, htp, hdp, hz, ht, he, hn, hx, hl, hcrc, hu, hc, hmeth]
  have hia : ∀ bs, Rs.isAscii bs = isAscii bs := fun _ => rfl
  have hthr : Rs.as' UInt32 Gen.ZIP64_BYTES_THR = 4294967295 := by decide
  have h32 : ∀ x : UInt64, Rs.as' UInt32 x = trunc32 x := fun _ => rfl
  have hb0 : 0 + g.extraField.length % 65536 < 65536 := by omega
  by_cases hov : 20 + g.extraField.length % 65536 < 65536 <;> cases hd : g.time.datepart <;>
    cases hlf : g.largeFile <;>
    wsimp [datepartOut, localExtraLen, flagOf, hd, hlf, ite_ok, hia, len_as_u16, add_len_u16_20,
      add_len_u16_0, shl_1_11, shl_1_0, hthr, h32, Tie.Types.tie_local_sig, localZip64Chunks, hb0, hov,
      chunks, ofOut, Out.bind_panic, Out.bind_ok, Out.pure_def]

theorem bne_zero_u16 (x : UInt16) : (x != 0) = decide (x > 0) := by
  rw [Bool.eq_iff_iff, bne_iff_ne, decide_eq_true_eq, gt_iff_lt, UInt16.lt_iff_toNat_lt, ne_eq,
    ← UInt16.toNat_inj]
  have e : (0 : UInt16).toNat = 0 := by decide
  rw [e]; omega

/-- `write_central_zip64_extra_field`: the returned size is the number of bytes written and the
bytes written are the model's, for every combination of the three thresholds. -/
theorem tie_write_central_zip64_extra_field (f : Gen.ZipFileData) (g : FileData) (h : view f g) :
    (Gen.write_central_zip64_extra_field (ω := Bytes) f).res =
        some (.ok (UInt16.ofNat (centralZip64Bytes g).length)) ∧
    (Gen.write_central_zip64_extra_field (ω := Bytes) f).log.flatten = centralZip64Bytes g := by
  obtain ⟨⟨_, _, hu, hc, hh, _⟩, _⟩ := h
  unfold Gen.write_central_zip64_extra_field centralZip64Bytes
  rw [hu, hc, hh, Tie.Types.tie_bytes_thr]
  -- other spellings of the same comparisons (`!(x < T)`, `size != 0`) normalise to these
  have lt_iff : ∀ a b : UInt64, a < b ↔ ¬ (a ≥ b) := fun a b => by rw [ge_iff_le, UInt64.not_le]
  by_cases bu : g.uncompressedSize ≥ ZIP64_BYTES_THR <;>
  by_cases bc : g.compressedSize ≥ ZIP64_BYTES_THR <;>
  by_cases bh : g.headerStart ≥ ZIP64_BYTES_THR <;>
  wsimp [lt_iff, bu, bc, bh, decide_true, decide_false, decide_not, Bool.not_not, not_true_eq_false,
    not_false_eq_true, bne_zero_u16,
    Rs.Arith.add, UInt16.reduceToNat, Nat.reduceAdd,
    Nat.reduceLT, UInt16.reduceAdd, gt_iff_lt, UInt16.reduceLT, Nat.reduceEqDiff, List.length_append,
    le16_length, le64_length, List.length_nil, UInt16.reduceOfNat, List.flatten_cons,
    List.flatten_nil, List.append_assoc, and_self]

theorem zeros_length (n : Nat) : (Rs.zeros n).length = n := by
  simp only [Rs.zeros, List.length_replicate]

/-- The scratch-buffer call in `write_central_directory_header`. -/
theorem intoBuf_central {ω : Type} (f : Gen.ZipFileData) (g : FileData) (h : view f g) :
    Rs.W.intoBuf (ω := ω) (Rs.zeros 28) (Gen.write_central_zip64_extra_field (ω := Bytes) f) =
      ⟨some (.ok (UInt16.ofNat (centralZip64Bytes g).length,
        centralZip64Bytes g ++ (Rs.zeros 28).drop (centralZip64Bytes g).length)), []⟩ := by
  obtain ⟨hr, hl⟩ := tie_write_central_zip64_extra_field f g h
  have hle := centralZip64Bytes_length g
  simp only [Rs.W.intoBuf, hr, hl, zeros_length, hle, ↓reduceIte]

/-- `&buf[..n as usize]` gives back the `n` bytes the callee wrote. -/
theorem sliceTo_prefix (z rest : Bytes) (hz : z.length ≤ 28) :
    Rs.sliceTo (z ++ rest) (Rs.as' UInt64 (UInt16.ofNat z.length)) = some z := by
  have e : (Rs.as' UInt64 (UInt16.ofNat z.length)).toNat = z.length := by
    simp only [Rs.as', Rs.As.cast, UInt16.toNat_toUInt64, UInt16.toNat_ofNat']
    omega
  simp only [Rs.sliceTo, e, List.length_append, Nat.le_add_right, ↓reduceIte, List.take_left']

/-- `(n as usize + x.len())` for a Rust `Vec` (at most `isize::MAX` bytes). -/
theorem add_elen (n : Nat) (bs : Bytes) (hn : n ≤ 28) (hb : bs.length ≤ 9223372036854775807) :
    Rs.Arith.add (Rs.as' UInt64 (UInt16.ofNat n)) (Rs.len bs) = some (UInt64.ofNat (n + bs.length)) := by
  have e1 : (Rs.as' UInt64 (UInt16.ofNat n)).toNat = n := by
    simp only [Rs.as', Rs.As.cast, UInt16.toNat_toUInt64, UInt16.toNat_ofNat']
    omega
  have e2 : (Rs.len bs).toNat = bs.length := by
    simp only [Rs.len, UInt64.toNat_ofNat']
    omega
  have hlt : n + bs.length < 18446744073709551616 := by omega
  simp only [Rs.Arith.add, e1, e2, hlt, ↓reduceIte]
  refine congrArg some ?_
  apply UInt64.toNat_inj.mp
  rw [UInt64.toNat_add, e1, e2, UInt64.toNat_ofNat']

theorem tryInto_u16 (n : Nat) (hn : n < 18446744073709551616) :
    Rs.tryInto UInt16 (UInt64.ofNat n) = if n < 65536 then .ok (UInt16.ofNat n) else .error () := by
  have e : (UInt64.ofNat n).toNat = n := U64.toNat_ofNat (by omega)
  simp only [Rs.tryInto, Rs.TryInto.conv, e]
  split
  · refine congrArg Except.ok ?_
    apply UInt16.toNat_inj.mp
    rw [UInt64.toNat_toUInt16, e, UInt16.toNat_ofNat']
  · rfl

theorem min32_tie (x : UInt64) : Rs.as' UInt32 (min x Gen.ZIP64_BYTES_THR) = min32 x := rfl

theorem shl_system_8 (s : Gen.System) :
    Rs.Arith.shl (Rs.as' UInt16 s) 8 = some ((Tie.Types.systemOf s).discr <<< 8) := by
  rw [Tie.Types.tie_system_discr]
  simp only [Rs.Arith.shl, Nat.reduceLT, ↓reduceIte, UInt16.reduceOfNat]

/-- `write_central_directory_header`: same chunks as the model (the ZIP64 record is the one chunk
`centralZip64Bytes`, cut out of the 28-byte scratch buffer), `InvalidArchive` exactly when the extra length does not
fit 16 bits, same panic.  `chunks` drops what a failed call wrote: that `InvalidArchive` comes before the first write
is `WriterSM.wcdh_full`.  `hlen` is a fact about every Rust `Vec` (at most `isize::MAX` bytes); it keeps the `usize`
addition from overflowing. -/
theorem tie_write_central_directory_header (f : Gen.ZipFileData) (g : FileData) (h : view f g)
    (hlen : g.extraField.length ≤ 9223372036854775807) :
    chunks (Gen.write_central_directory_header (ω := Bytes) f) = ofOut (centralHeaderChunks g) := by
  have hbuf := intoBuf_central (ω := Bytes) f g h
  have hzl := centralZip64Bytes_length g
  obtain ⟨hv, hvm, he, ht, hcrc, hn, hx, hl, hdd⟩ := h
  have hvn := Tie.Types.tie_version_needed f g hv
  have hm := Tie.Types.tie_method_to_u16 f.compression_method
  have htp := Tie.DateTime.tie_timepart f.last_modified_time
  have hdp := Tie.DateTime.tie_datepart f.last_modified_time
  obtain ⟨hsys, hattr, hu, hc, hh, hmeth⟩ := hv
  unfold Gen.write_central_directory_header centralHeaderChunks
  simp only [hbuf, hvn, hm, htp, hdp, shl_system_8, ht, he, hn, hx, hcrc, hu, hc, hh, hmeth, hsys,
    hattr, hvm, hdd]
  have hia : ∀ bs, Rs.isAscii bs = isAscii bs := fun _ => rfl
  have h816 : ∀ x : UInt8, Rs.as' UInt16 x = x.toUInt16 := fun _ => rfl
  have hlt : (centralZip64Bytes g).length + g.extraField.length < 18446744073709551616 := by omega
  by_cases hov : (centralZip64Bytes g).length + g.extraField.length < 65536
  · have hov' : ¬ (centralZip64Bytes g).length + g.extraField.length > 65535 := by omega
    cases hd : g.time.datepart <;>
      wsimp [datepartOut, centralFlagOf, flagOf, hd, ite_ok, hia, h816, len_as_u16, add_elen _ _ hzl hlen,
        tryInto_u16 _ hlt, hov, hov', Rs.mapErr, Rs.W.ofExcept, sliceTo_prefix _ _ hzl, min32_tie,
        shl_1_11, shl_1_0, shl_1_3, Tie.Types.tie_central_sig, chunks, ofOut, Out.bind_panic, Out.bind_ok,
        Out.pure_def]
  · have hov' : (centralZip64Bytes g).length + g.extraField.length > 65535 := by omega
    wsimp [add_elen _ _ hzl hlen, tryInto_u16 _ hlt, hov, hov', Rs.mapErr, Rs.W.ofExcept,
        chunks, ofOut, zerrOf]
/-! ### `validate_extra_data` (tier T4: a fuelled `while` loop) -/

theorem any_beq_eq_contains (l : List UInt16) (k : UInt16) : l.any (fun m => m == k) = l.contains k := by
  induction l with
  | nil => rfl
  | cons x xs ih =>
    simp only [List.any_cons, List.contains_cons, ih]
    congr 1
    exact Bool.eq_iff_iff.mpr ⟨fun h => by rw [beq_iff_eq] at h ⊢; exact h.symm,
      fun h => by rw [beq_iff_eq] at h ⊢; exact h.symm⟩

theorem tie_reserved (k : UInt16) :
    Rs.arrayAny Gen.EXTRA_FIELD_MAPPING (fun m => m == k) = validateExtraDataLoop.reservedExtraIds.contains k := by
  have e : Gen.EXTRA_FIELD_MAPPING.toList = validateExtraDataLoop.reservedExtraIds := by decide
  rw [Rs.arrayAny, e, any_beq_eq_contains]

/-- One iteration of the loop of `validate_extra_data` on a slice with a complete 4-byte header. -/
theorem loop_body_tie {ω : Type} (a b c d : UInt8) (r2 : Bytes) (hlen : r2.length + 4 ≤ 9223372036854775807) :
    Gen.validate_extra_data.loop1_body (ω := ω) (a :: b :: c :: d :: r2) =
      if mk16 a b == 0x0001 then ⟨some (.error (.Io .Other)), []⟩
      else if (decide (mk16 a b ≤ 31) || validateExtraDataLoop.reservedExtraIds.contains (mk16 a b)) then
        ⟨some (.error (.Io .Other)), []⟩
      else if (mk16 c d).toNat > r2.length then ⟨some (.error (.Io .Other)), []⟩
      else ⟨some (.ok (r2.drop (mk16 c d).toNat)), []⟩ := by
  have hl : (Rs.len (a :: b :: c :: d :: r2)).toNat = r2.length + 4 := by
    rw [U64.len_toNat _ (by simp only [List.length_cons]; omega)]; simp only [List.length_cons]
  have e4 : (4 : UInt64).toNat = 4 := by decide
  have h1 : ¬ (Rs.len (a :: b :: c :: d :: r2) < 4) := by
    rw [UInt64.lt_iff_toNat_lt, hl, e4]; omega
  have h2 : Rs.Arith.sub (Rs.len (a :: b :: c :: d :: r2)) (4 : UInt64) = some (UInt64.ofNat r2.length) := by
    have : (4 : UInt64).toNat ≤ (Rs.len (a :: b :: c :: d :: r2)).toNat := by rw [hl, e4]; omega
    simp only [Rs.Arith.sub, this, ↓reduceIte]
    refine congrArg some ?_
    apply UInt64.toNat_inj.mp
    rw [UInt64.toNat_sub_of_le _ _ (UInt64.le_iff_toNat_le.mpr this), hl, e4, UInt64.toNat_ofNat']
    omega
  have h3 : ∀ s : UInt16, (Rs.as' UInt64 s > UInt64.ofNat r2.length) ↔ s.toNat > r2.length := by
    intro s
    rw [gt_iff_lt, UInt64.lt_iff_toNat_lt, UInt64.toNat_ofNat']
    simp only [Rs.as', Rs.As.cast, UInt16.toNat_toUInt64]
    have : r2.length % 2 ^ 64 = r2.length := by omega
    rw [this]
  have h4 : ∀ s : UInt16, s.toNat ≤ r2.length → Rs.sliceFrom r2 (Rs.as' UInt64 s) = some (r2.drop s.toNat) := by
    intro s hs
    simp only [Rs.sliceFrom, Rs.as', Rs.As.cast, UInt16.toNat_toUInt64, hs, ↓reduceIte]
  unfold Gen.validate_extra_data.loop1_body
  wsimp [h1, h2, decide_false, decide_true, Rs.W.read_u16, rd16, tie_reserved, h3]
  by_cases hk : mk16 a b == 1
  · wsimp [hk]
  · by_cases hr : (decide (mk16 a b ≤ 31) || validateExtraDataLoop.reservedExtraIds.contains (mk16 a b)) = true
    · wsimp [hk, hr]
    · by_cases hs : (mk16 c d).toNat > r2.length
      · wsimp [hk, hr, hs, decide_true]
      · wsimp [hk, hr, hs, decide_false, h4 (mk16 c d) (by omega)]
/-- A non-empty slice shorter than a record header ends the loop with `Io(Other)`. -/
theorem loop_body_short {ω : Type} (data : Bytes) (h : data.length < 4) :
    Gen.validate_extra_data.loop1_body (ω := ω) data = ⟨some (.error (.Io .Other)), []⟩ := by
  have e4 : (4 : UInt64).toNat = 4 := by decide
  have h1 : Rs.len data < 4 := by
    rw [UInt64.lt_iff_toNat_lt, U64.len_toNat _ (by omega), e4]; exact h
  unfold Gen.validate_extra_data.loop1_body
  wsimp [h1, decide_true]

/-- Outcome of the translated loop as the model states it (the final slice is dropped). -/
def loopOutcome {ω : Type} (x : Rs.W ω Bytes) : Option (Except ZErr Unit) :=
  x.res.map fun r => match r with
    | .ok _ => .ok ()
    | .error e => .error (zerrOf e)

theorem whileLoop_succ {ω σ : Type} (c : σ → Rs.W ω Bool) (b : σ → Rs.W ω σ) (n : Nat) (s : σ) :
    Rs.W.whileLoop c b (n + 1) s =
      (c s).bind fun t => if t then (b s).bind fun s' => Rs.W.whileLoop c b n s' else ⟨some (.ok s), []⟩ := by
  rfl

/-- The translated loop agrees with the model's loop whenever the fuel exceeds the slice length; in
particular the generated fuel `data.len() + 1` is adequate (no out-of-fuel panic) and nothing is
written. -/
theorem loop_tie {ω : Type} : ∀ (n : Nat) (data : Bytes), data.length < n →
    data.length ≤ 9223372036854775807 →
    (Rs.W.whileLoop (ω := ω) Gen.validate_extra_data.loop1_cond Gen.validate_extra_data.loop1_body n data).log = [] ∧
    loopOutcome (Rs.W.whileLoop (ω := ω) Gen.validate_extra_data.loop1_cond
      Gen.validate_extra_data.loop1_body n data) = some (validateExtraDataLoop n data) := by
  intro n
  induction n with
  | zero => intro data h; omega
  | succ n ih =>
    intro data hf hl
    have hz : zerrOf (.Io .Other) = .io .other := rfl
    rw [whileLoop_succ]
    unfold validateExtraDataLoop
    match data, hf, hl with
    | [], _, _ =>
      wsimp [Gen.validate_extra_data.loop1_cond, Rs.isEmpty, List.isEmpty_nil, loopOutcome, Option.map_some,
        and_self]
    | [a], _, _ =>
      wsimp [Gen.validate_extra_data.loop1_cond, Rs.isEmpty, List.isEmpty_cons, loop_body_short _ (show [a].length < 4 by simp only [List.length_cons, List.length_nil]; omega),
        loopOutcome, Option.map_some, hz, List.length_cons, List.length_nil, Nat.reduceAdd, Nat.reduceLT, and_self]
    | [a, b], _, _ =>
      wsimp [Gen.validate_extra_data.loop1_cond, Rs.isEmpty, List.isEmpty_cons, loop_body_short _ (show [a, b].length < 4 by simp only [List.length_cons, List.length_nil]; omega),
        loopOutcome, Option.map_some, hz, List.length_cons, List.length_nil, Nat.reduceAdd, Nat.reduceLT, and_self]
    | [a, b, c], _, _ =>
      wsimp [Gen.validate_extra_data.loop1_cond, Rs.isEmpty, List.isEmpty_cons, loop_body_short _ (show [a, b, c].length < 4 by simp only [List.length_cons, List.length_nil]; omega),
        loopOutcome, Option.map_some, hz, List.length_cons, List.length_nil, Nat.reduceAdd, Nat.reduceLT, and_self]
    | a :: b :: c :: d :: r2, hf, hl =>
      have hl' : r2.length + 4 ≤ 9223372036854775807 := by simpa using hl
      have hn4 : ¬ ((a :: b :: c :: d :: r2).length < 4) := by simp only [List.length_cons]; omega
      rw [loop_body_tie a b c d r2 hl']
      wsimp [Gen.validate_extra_data.loop1_cond, Rs.isEmpty, List.isEmpty_cons, hn4, rd16]
      by_cases hk : mk16 a b == 1
      · wsimp [hk, loopOutcome, Option.map_some, hz, and_self]
      · by_cases hr : (decide (mk16 a b ≤ 31) || validateExtraDataLoop.reservedExtraIds.contains (mk16 a b)) = true
        · wsimp [hk, hr, loopOutcome, Option.map_some, hz, and_self]
        · by_cases hs : (mk16 c d).toNat > r2.length
          · wsimp [hk, hr, hs, loopOutcome, Option.map_some, hz, and_self]
          · have hd : (r2.drop (mk16 c d).toNat).length < n := by
              simp only [List.length_drop, List.length_cons] at hf ⊢; omega
            have hd' : (r2.drop (mk16 c d).toNat).length ≤ 9223372036854775807 := by
              simp only [List.length_drop]; omega
            obtain ⟨i1, i2⟩ := ih _ hd hd'
            wsimp [hk, hr, hs]
            exact ⟨i1, i2⟩

/-- `validate_extra_data`: the model's verdict for every entry, nothing written, no panic; the
fuel `data.len() + 1` the translator generated for the `while` loop is adequate. -/
theorem tie_validate_extra_data {ω : Type} (f : Gen.ZipFileData) (g : FileData) (h : view f g)
    (hlen : g.extraField.length ≤ 9223372036854775807) :
    (Gen.validate_extra_data (ω := ω) f).log = [] ∧
    (Gen.validate_extra_data (ω := ω) f).res.map (Except.mapError zerrOf) = some (validateExtraData g) := by
  obtain ⟨_, _, _, _, _, _, hx, hl, _⟩ := h
  unfold Gen.validate_extra_data validateExtraData
  rw [hx, hl]
  obtain ⟨i1, i2⟩ := loop_tie (ω := ω) (g.extraField.length + 1) g.extraField (by omega) hlen
  have hadd : ∀ k : UInt64, k.toNat ≤ 20 →
      Rs.Arith.add (Rs.len g.extraField) k = some (UInt64.ofNat (g.extraField.length + k.toNat)) := by
    intro k hk
    have hl := U64.len_toNat g.extraField (by omega)
    have hlt : (Rs.len g.extraField).toNat + k.toNat < 18446744073709551616 := by omega
    simp only [Rs.Arith.add, hlt, ↓reduceIte]
    refine congrArg some ?_
    apply UInt64.toNat_inj.mp
    rw [UInt64.toNat_add, hl, UInt64.toNat_ofNat']
  have hgt : ∀ m : Nat, m < 18446744073709551616 →
      (UInt64.ofNat m > Gen.ZIP64_ENTRY_THR ↔ m > 65535) := by
    intro m hm
    have e : Gen.ZIP64_ENTRY_THR.toNat = 65535 := by decide
    rw [gt_iff_lt, UInt64.lt_iff_toNat_lt, e, UInt64.toNat_ofNat']
    have : m % 2 ^ 64 = m := by omega
    rw [this]
  dsimp only
  generalize Rs.W.whileLoop (ω := ω) Gen.validate_extra_data.loop1_cond Gen.validate_extra_data.loop1_body
    (g.extraField.length + 1) g.extraField = x at i1 i2 ⊢
  obtain ⟨r, l⟩ := x
  simp only at i1
  subst i1
  have hk : (if g.largeFile = true then (20 : UInt64) else 0).toNat = if g.largeFile = true then 20 else 0 := by
    cases g.largeFile <;> rfl
  have hk20 : (if g.largeFile = true then 20 else 0) ≤ 20 := by split <;> omega
  by_cases hov : g.extraField.length + (if g.largeFile = true then 20 else 0) > 65535
  · wsimp [ite_ok, hadd _ (hk ▸ hk20), hk, hgt _ (show g.extraField.length + (if g.largeFile = true then 20 else 0) <
        18446744073709551616 by omega), hov, decide_true, Option.map_some, Except.mapError, zerrOf, and_self]
  · cases r with
    | none => simp only [loopOutcome, Option.map_none] at i2; cases i2
    | some r =>
      cases r <;>
      simp only [loopOutcome, Option.map_some, Option.some.injEq] at i2 <;>
      wsimp [ite_ok, hadd _ (hk ▸ hk20), hk, hgt _ (show g.extraField.length + (if g.largeFile = true then 20 else 0) <
          18446744073709551616 by omega), hov, decide_false, Option.map_some, Except.mapError, ← i2, and_self]

/-! ### `update_local_file_header` / `update_local_zip64_extra_field` (`T: Write + Seek`)

The translated functions log `seek pos | write bytes` actions.  The model (`Model.updateLocalHeader`)
is written in continuation style over the I/O monad with positions in `Nat`; `ioActs` replays an
action list in that style, and the Tie shows the model is exactly the replay of the translated
function's actions.  The `u64` position arithmetic of the source is checked, the model's is not:
the hypothesis `hpos` (the patched fields lie below 2^64) is where they agree. -/

/-- Replay a list of sink actions in the style of `Model.Writer` (`io s … fun _ => …`). -/
def ioActs {β : Type} (s : WState) : List Rs.Act → (Unit → M (Except ZErr β × WState)) →
    M (Except ZErr β × WState)
  | [], k => k ()
  | .seek p :: as, k => io s (M.seek (.start p.toNat)) fun _ => ioActs s as k
  | .write b :: as, k => io s (M.writeAll b) fun _ => ioActs s as k

theorem tie_update_local_zip64_extra_field (f : Gen.ZipFileData) (g : FileData) (h : view f g)
    (hpos : g.headerStart.toNat + 34 + g.fileName.length < 18446744073709551616) :
    ∃ p : UInt64, p.toNat = g.headerStart.toNat + 30 + g.fileName.length + 4 ∧
      Gen.update_local_zip64_extra_field (ω := Rs.Act) f =
        ⟨some (.ok ()), [.seek p, .write (le64 g.uncompressedSize), .write (le64 g.compressedSize)]⟩ := by
  obtain ⟨⟨_, _, hu, hc, hh, _⟩, _, _, _, _, hn, _, _⟩ := h
  have e30 : (30 : UInt64).toNat = 30 := by decide
  have e4 : (4 : UInt64).toNat = 4 := by decide
  have hl : (Rs.as' UInt64 (Rs.len g.fileName)).toNat = g.fileName.length := by
    simp only [Rs.as', Rs.As.cast, id, Rs.len, UInt64.toNat_ofNat']; omega
  obtain ⟨a1, b1⟩ := U64.add_some g.headerStart 30 (by rw [e30]; omega)
  obtain ⟨a2, b2⟩ := U64.add_some (g.headerStart + 30) (Rs.as' UInt64 (Rs.len g.fileName)) (by rw [b1, e30, hl]; omega)
  obtain ⟨a3, b3⟩ := U64.add_some (g.headerStart + 30 + Rs.as' UInt64 (Rs.len g.fileName)) 4 (by rw [b2, b1, e30, hl, e4]; omega)
  refine ⟨g.headerStart + 30 + Rs.as' UInt64 (Rs.len g.fileName) + 4, by rw [b3, b2, b1, e30, hl, e4], ?_⟩
  unfold Gen.update_local_zip64_extra_field
  rw [hu, hc, hh, hn]
  wsimp [a1, a2, a3, Rs.W.seek_start, Rs.SeekSink.ofSeek]

theorem tie_update_local_file_header (f : Gen.ZipFileData) (g : FileData) (h : view f g)
    (hpos : g.headerStart.toNat + 34 + g.fileName.length < 18446744073709551616) :
    ∃ acts : List Rs.Act, ∃ r : Except Rs.ZipErr Unit,
      Gen.update_local_file_header (ω := Rs.Act) f = ⟨some r, acts⟩ ∧
      ∀ {β : Type} (s : WState) (k : Unit → M (Except ZErr β × WState)),
        updateLocalHeader s g k = ioActs s acts fun _ =>
          match r with
          | .ok () => k ()
          | .error e => pure (.error (zerrOf e), s) := by
  obtain ⟨p, hp, hz⟩ := tie_update_local_zip64_extra_field f g h hpos
  obtain ⟨⟨_, _, hu, hc, hh, _⟩, _, _, _, hcrc, hn, _, hl, _⟩ := h
  have e14 : (14 : UInt64).toNat = 14 := by decide
  obtain ⟨a1, b1⟩ := U64.add_some g.headerStart 14 (by rw [e14]; omega)
  have h32 : ∀ x : UInt64, Rs.as' UInt32 x = trunc32 x := fun _ => rfl
  unfold Gen.update_local_file_header
  rw [hz, hu, hc, hh, hcrc, hl, Tie.Types.tie_bytes_thr]
  cases hlf : g.largeFile
  · by_cases hgt : g.compressedSize > ZIP64_BYTES_THR
    · refine ⟨[], .error (.Io .Other), ?_, ?_⟩
      · wsimp [a1, hgt, decide_true, Rs.W.seek_start, Rs.SeekSink.ofSeek, Bool.not_false, Bool.and_self]
      · intro β s k
        simp only [updateLocalHeader, ioActs, hlf, hgt, b1, e14, ↓reduceIte, Bool.false_eq_true, zerrOf,
          Bool.not_false, decide_true, Bool.and_self]
    · refine ⟨[.seek (g.headerStart + 14), .write (le32 g.crc32), .write (le32 (trunc32 g.compressedSize)),
        .write (le32 (trunc32 g.uncompressedSize))], .ok (), ?_, ?_⟩
      · wsimp [a1, hgt, decide_false, Rs.W.seek_start, Rs.SeekSink.ofSeek, h32, Bool.not_false, Bool.and_false]
      · intro β s k
        simp only [updateLocalHeader, ioActs, hlf, hgt, b1, e14, ↓reduceIte, Bool.false_eq_true,
          Bool.not_false, decide_false, Bool.and_false]
  · refine ⟨[.seek (g.headerStart + 14), .write (le32 g.crc32), .seek p, .write (le64 g.uncompressedSize),
      .write (le64 g.compressedSize)], .ok (), ?_, ?_⟩
    · wsimp [a1, Rs.W.seek_start, Rs.SeekSink.ofSeek, Bool.not_true, Bool.false_and]
    · intro β s k
      simp only [updateLocalHeader, ioActs, hlf, b1, e14, hp, ↓reduceIte, Bool.not_true, Bool.false_and,
        Bool.false_eq_true]

/-! ### non-vacuity: concrete instances of the hypotheses, evaluated -/

/-- A large-file entry with every ZIP64 threshold exceeded, a non-ASCII name and extra data. -/
def sample : Gen.ZipFileData :=
  { system := .Unix, version_made_by := 46, encrypted := true, using_data_descriptor := false,
    compression_method := .Deflated, compression_level := some 9, data_start := 0x2_0000_0100,
    last_modified_time := { year := 2024, month := 2, day := 29, hour := 23, minute := 59, second := 58 },
    crc32 := 0xDEADBEEF, compressed_size := 0x1_0000_0000, uncompressed_size := 0xFFFF_FFFF,
    file_name := [0xC3, 0xA9], file_name_raw := [0xC3, 0xA9], extra_field := [0xCA, 0xFE, 0, 0],
    file_comment := [], header_start := 0x2_0000_0000, central_header_start := 0,
    external_attributes := 0x81A40000, large_file := true, aes_mode := none }

example : view sample (dataOf sample) := view_dataOf sample
example : (dataOf sample).extraField.length ≤ 9223372036854775807 := by decide
example : (dataOf sample).headerStart.toNat + 34 + (dataOf sample).fileName.length <
    18446744073709551616 := by decide
example : (Gen.write_central_zip64_extra_field (ω := Bytes) sample).res = some (.ok 28) := rfl
example : ((Gen.write_local_file_header (ω := Bytes) sample).log.map List.length) =
    [4, 2, 2, 2, 2, 2, 4, 4, 4, 2, 2, 2, 2, 2, 8, 8] := rfl
example : (Gen.validate_extra_data (ω := Unit) sample).res = some (.ok ()) := rfl
example : (Gen.validate_extra_data (ω := Unit) { sample with extra_field := [1, 0, 0, 0] }).res =
    some (.error (.Io .Other)) := rfl
example : (Gen.update_local_file_header (ω := Rs.Act) sample).log.length = 5 := rfl

end ZipVerif.Tie.Records
