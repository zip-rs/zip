import ZipVerif.Tie.ReaderGlue
import ZipVerif.Model.ReaderOpen

/-
Tie obligations for the functions of src/read.rs that open a handle on an entry (translator tier T6; vocabulary in
`Basic/RsM.lean` + `Basic/RsGlue.lean`): `make_reader`, `by_index_with_optional_password`, `by_index_raw`,
`by_name_with_optional_password`, on top of `find_content` and `make_crypto_reader` in `Tie/ReaderGlue.lean`.

`make_reader` is pure: an `Option` equation against `Model.decoderChoice`, `none` being the source's `panic!`.  The
three `by_*` functions are equations between `M` computations against the OPEN halves of the model's read functions
(`Model/ReaderOpen.lean`: `byIndexOpen`, `byIndexRawOpen`, `byNameOpen`); the value compared is the handle in model
terms (`fileView`) and the stores reported.  The last section shows `byIndexReadC`, `byNameRead`, `byIndexRaw` - the
functions the properties speak about, which open AND read to the end - to be these halves followed by the read
halves (`readChoice`, `takeAll`).

Hypotheses: the ties hold for EVERY archive value, index, password and behaviour `ext` of the layer constructors,
except `tie_by_name`: it wants `NamesOk z` (the name map is the one built from the entry table; `new_namesOk`: that is
what `ZipArchive::new` returns, on a device whose length fits `u64`) and fewer than 2^64 entries (the index found is
stored as `u64`).

Assumptions that enter the trusted base with this file (`Basic/RsGlue.lean`): a method of `impl<R: Read + Seek>
ZipArchive<R>` has `self.reader` as the device of `M` and cannot change `self` otherwise (an assignment to a field of
`self` leaves the subset); `Vec::get(i)` is the `i`-th element or `None`; `Cow::Borrowed/Owned` are tags on the value;
`res.ok_or(e).and_then(|x| body)` in result position is a bind; the `AtomicU64::store` of a callee is reported by
the caller under the argument's name (`Rs.Stores.via`).
`DeflateDecoder::new(r)`,
`BzDecoder::new(r)`, `zstd::Decoder::new(r)` (over `BufReader::new(r)`) are records of their inner reader;
`zstd::Decoder::new` does not fail (it fails only when the zstd context cannot be allocated), so the `.unwrap()`
behind it does not panic.
-/
set_option linter.unusedSimpArgs false
set_option linter.unusedVariables false

namespace ZipVerif.Tie.ReaderGlue2
open ZipVerif ZipVerif.Model ZipVerif.Tie.SpecRecords ZipVerif.Tie.Records ZipVerif.Tie.Parsers ZipVerif.Tie.ReaderGlue

/-! ### `make_reader` -/

def ae2Of : Gen.CryptoReader → Bool
  | .Aes _ .Ae2 => true
  | _ => false

theorem tie_is_ae2_encrypted (r : Gen.CryptoReader) :
    Gen.CryptoReader.is_ae2_encrypted r = some (ae2Of r) := by
  unfold Gen.CryptoReader.is_ae2_encrypted ae2Of
  rcases r with _ | _ | ⟨x, vv⟩ <;> rfl

/-- the CRC layer `Crc32Reader::new(inner, crc, ae2)` -/
def crcOver {R : Type} (inner : R) (crc : UInt32) (ae2 : Bool) : Gen.Crc32Reader R :=
  { inner := inner, hasher := Rs.Crc32Hasher.new, check := crc, ae2_encrypted := ae2 }

/-- What `make_reader` builds for a decoder choice: the decoder over the decryption layer `r`, under a fresh CRC
layer that checks `crc` unless the layer below is AES AE-2. -/
def readerOf (crc : UInt32) (r : Gen.CryptoReader) : Decoder → Gen.ZipFileReader
  | .stored => .Stored (crcOver r crc (ae2Of r))
  | .deflate => .Deflated (crcOver ⟨r⟩ crc (ae2Of r))
  | .bzip2 => .Bzip2 (crcOver ⟨r⟩ crc (ae2Of r))
  | .zstd => .Zstd (crcOver ⟨⟨r⟩⟩ crc (ae2Of r))

/-- A method without a decoder (the AES pseudo-method 99, `Unsupported(_)`) is the `panic!` of `make_reader`: `none` on
both sides. -/
theorem tie_make_reader (m : Gen.CompressionMethod) (crc : UInt32) (r : Gen.CryptoReader) :
    Gen.make_reader m crc r = (decoderChoice (Tie.Types.methodOf m)).map (readerOf crc r) := by
  unfold Gen.make_reader
  rw [tie_is_ae2_encrypted]
  cases m <;> rfl

/-- `make_crypto_reader` refuses exactly the methods `make_reader` has no decoder for. -/
theorem decoderChoice_none_iff (method : Method) (crc : UInt32) (t : DateTime) (udd : Bool)
    (pw : Option Bytes) (info : Option (AesMode × AesVendorVersion)) :
    decoderChoice method = none ↔ cryptoChoice method crc t udd pw info = .unsupported := by
  constructor <;> intro h
  · cases method with
    | unsupported _ => rfl
    | aes => rfl
    | _ => cases h
  · cases method with
    | unsupported _ => rfl
    | aes => rfl
    | _ => cases pw <;> rcases info with _ | ⟨_, _⟩ <;> cases h

/-- A method `make_crypto_reader` lets through has a decoder: the `panic!` of `make_reader` is unreachable behind a
successful `make_crypto_reader` (before the D3 repair the AES pseudo-method 99 reached it). -/
theorem make_reader_after_crypto (method : Method) (crc : UInt32) (t : DateTime) (udd : Bool)
    (pw : Option Bytes) (info : Option (AesMode × AesVendorVersion))
    (h : cryptoChoice method crc t udd pw info ≠ .unsupported) :
    decoderChoice method ≠ none :=
  fun hd => h ((decoderChoice_none_iff method crc t udd pw info).mp hd)

theorem validated_layer {x : M Bool} {L layer : Gen.CryptoReader} {fa : Option Nat} {d d' : Dev}
    (h : (x >>= fun ok => pure (if ok then Except.ok L else Except.error (⟨⟩ : Rs.InvalidPassword))) fa d =
      (.ok (.ok layer), d')) : layer = L := by
  rw [Parsers.M.bind_apply] at h
  rcases hx : x fa d with ⟨o, d1⟩
  rw [hx] at h
  cases o with
  | err e => cases h
  | panic s => cases h
  | ok ok => cases ok <;> cases h; rfl

/-- The AE-2 flag `make_reader` hands to the CRC layer, on the layer `make_crypto_reader` built for the decision
`.aes pw mode vv`, is `vv == .ae2`: the flag `Model.byIndexReadC` gives to `crcCheck`. -/
theorem runChoice_ae2 (ext : GExt) (reader : Rs.Take) (csize : UInt64) (c : CryptoChoice) (fa : Option Nat)
    (d d' : Dev) (layer : Gen.CryptoReader)
    (h : runChoice ext reader csize c fa d = (.ok (.ok layer), d')) :
    ae2Of layer = match c with
      | .aes _ _ vv => vv == .ae2
      | _ => false := by
  cases c with
  | unsupported => cases h
  | invalidPassword => cases h
  | plaintext => cases h; rfl
  | zipCrypto pw v => cases validated_layer h; rfl
  | aes pw mode vv => cases validated_layer h; cases vv <;> rfl

/-! ### `by_index_with_optional_password`, `by_index_raw`, `by_name_with_optional_password` -/

def archOf (z : Gen.ZipArchive) : Archive := (archRes z).1

/-- A handle with its entry in model terms: the entry, whether it is borrowed from the archive's table, the
decryption layer waiting to be wrapped by `make_reader`, the reader. -/
def fileView (f : Gen.ZipFile) : FileData × Bool × Option Gen.CryptoReader × Gen.ZipFileReader :=
  (dataOf f.data.get, (match f.data with | .Borrowed _ => true | .Owned _ => false), f.crypto_reader, f.reader)

/-- the store `find_content` performs, as the caller reports it -/
def dsStores (ds : Nat) : Rs.Stores := Rs.Stores.via "data" [("data.data_start", UInt64.ofNat ds)]

theorem find_content_bind {β} (g : Gen.ZipFileData) (K : Rs.Take × Rs.Stores → M β) :
    (Gen.find_content g >>= K) =
      (Model.findContent (dataOf g) >>= fun ds =>
        K (⟨g.compressed_size⟩, [("data.data_start", UInt64.ofNat ds)])) := by
  have e1 : (Gen.find_content g >>= K) = ((fcRes <$> Gen.find_content g) >>= fun q => K (⟨q.2⟩, q.1)) := by
    simp only [map_eq_pure_bind, bind_assoc, pure_bind]
    rfl
  rw [e1, tie_find_content]
  simp only [map_eq_pure_bind, bind_assoc, pure_bind]

theorem attempt_bind {α β} (x : M α) (K : Except ZErr α → M β) (k : α → M β)
    (hok : ∀ v, K (.ok v) = k v) (herr : ∀ e, K (.error e) = M.throw e) : (M.attempt x >>= K) = (x >>= k) := by
  apply M.ext; intro fa d
  simp only [Parsers.M.bind_apply, Parsers.M.attempt_apply]
  rcases x fa d with ⟨o, d'⟩
  cases o with
  | ok v => exact congrFun (congrFun (hok v) fa) d'
  | err e => exact congrFun (congrFun (herr e) fa) d'
  | panic s => rfl

theorem attempt_rethrow {α β} (x : M α) (k : α → M β) :
    (M.attempt x >>= fun r => match r with
      | .ok v => k v
      | .error e => M.throw e) = (x >>= k) :=
  attempt_bind x _ k (fun _ => rfl) fun _ => rfl

theorem aesInfoOf_dataOf (g : Gen.ZipFileData) : aesInfoOf g.aes_mode = (dataOf g).aesMode := by
  unfold aesInfoOf dataOf
  rcases g.aes_mode with _ | ⟨m, vv⟩
  · rfl
  · cases vv <;> rfl

theorem getElemOpt_archOf (z : Gen.ZipArchive) (i : Nat) :
    (archOf z).files[i]? = (z.shared.files.items[i]?).map dataOf := by
  simp only [archOf, archRes, List.getElem?_map]

/-- The password question of `by_index_with_optional_password`: an encrypted entry needs a password; a password for
a plain entry is dropped. -/
theorem password_step (pw : Option Bytes) (enc : Bool) :
    (do
      let mut password := pw
      match (password, enc) with
      | (none, true) => Rs.R.err Rs.ZipErr.PasswordRequired
      | (some _, false) => password := none
      | _ => pure ()
      pure password : M (Option Bytes)) =
    if pw.isNone && enc then M.throw .passwordRequired else pure (if enc then pw else none) := by
  cases pw <;> cases enc <;> rfl

/-- `self.shared.files.get(i).ok_or(FileNotFound)?` is the model's `match files[i]?`: out of range → `FileNotFound`,
else the continuations are compared on the table's entry. -/
theorem files_get_congr {α β γ} (z : Gen.ZipArchive) (i : UInt64) (F : α → γ) (K : Gen.ZipFileData → M α)
    (B : FileData → M β) (H : β → M γ) (h : ∀ g, F <$> K g = B (dataOf g) >>= H) :
    F <$> (Rs.R.ok_or (Rs.Vec.get z.shared.files i) Rs.ZipErr.FileNotFound >>= K) =
      (match (archOf z).files[i.toNat]? with
        | none => M.throw .fileNotFound
        | some data => B data) >>= H := by
  rw [getElemOpt_archOf]
  have hget : Rs.Vec.get z.shared.files i = z.shared.files.items[i.toNat]? := rfl
  rw [hget]
  cases z.shared.files.items[i.toNat]? with
  | none => rfl
  | some g => exact h g

/-- `Err(e)` of `make_crypto_reader` is re-thrown; `Ok(Err(InvalidPassword))` is returned as a value WITH the store
`find_content` made into the entry's `data_start` (label `data`); the handle is the table's entry, borrowed, with
`crypto_reader = Some(layer)` and `reader = NoReader`. -/
theorem tie_by_index (ext : GExt) (z : Gen.ZipArchive) (i : UInt64) (pw : Option Bytes) :
    (fun r => (r.1.map fileView, r.2)) <$> Gen.ZipArchive.by_index_with_optional_password ext z i pw =
      (Model.byIndexOpen (archOf z) i.toNat pw >>= fun r =>
        (fun c => (c.map fun cr => (r.1, true, some cr, Gen.ZipFileReader.NoReader), dsStores r.2.1)) <$>
          runChoice ext ⟨r.1.compressedSize⟩ r.1.compressedSize r.2.2) := by
  unfold Gen.ZipArchive.by_index_with_optional_password Model.byIndexOpen
  refine files_get_congr z i _ _ _ _ fun g => ?_
  msimp
  refine (congrArg (· >>= _) (password_step pw g.encrypted)).trans ?_
  have hs : (dataOf g).encrypted = g.encrypted := rfl
  rw [hs]
  by_cases hc : (pw.isNone && g.encrypted) = true
  · rw [if_pos hc, if_pos hc]
    rfl
  · rw [if_neg hc, if_neg hc, pure_bind]
    refine (find_content_bind g _).trans ?_
    simp only [bind_assoc, pure_bind, map_eq_pure_bind]
    refine bind_congr fun ds => ?_
    rw [tie_make_crypto_reader, aesInfoOf_dataOf]
    exact attempt_bind _ _ _ (fun v => by cases v <;> rfl) fun e => rfl

/-- The handle: the table's entry, borrowed; no layer; `Raw(take)` with the entry's compressed size as limit. -/
theorem tie_by_index_raw (z : Gen.ZipArchive) (i : UInt64) :
    (fun r => (fileView r.1, r.2)) <$> Gen.ZipArchive.by_index_raw z i =
      (Model.byIndexRawOpen (archOf z) i.toNat >>= fun r =>
        pure ((r.1, true, none, Gen.ZipFileReader.Raw ⟨r.1.compressedSize⟩), dsStores r.2)) := by
  unfold Gen.ZipArchive.by_index_raw Model.byIndexRawOpen
  refine files_get_congr z i _ _ _ _ fun g => ?_
  msimp
  refine (find_content_bind g _).trans ?_
  rfl

/-- `names_map.get(name)` (absent → `FileNotFound`), then `by_index_with_optional_password`.  `[] ++ Rs.Stores.via "self" …`
is the generated `stores_ ++ Rs.Stores.via "self" t4` at `stores_ = []`: the callee's stores under the label of a
method call on `self` (`Basic/RsGlue.lean`), left as the generated term has them. -/
theorem by_name_eq (ext : GExt) (z : Gen.ZipArchive) (name : Bytes) (pw : Option Bytes) :
    Gen.ZipArchive.by_name_with_optional_password ext z name pw =
      match Rs.HashMap.get z.shared.names_map name with
      | none => M.throw .fileNotFound
      | some idx => (fun r => (r.1, [] ++ Rs.Stores.via "self" r.2)) <$>
          Gen.ZipArchive.by_index_with_optional_password ext z idx pw := by
  unfold Gen.ZipArchive.by_name_with_optional_password
  cases Rs.HashMap.get z.shared.names_map name with
  | none => msimp
  | some idx => msimp

/-- The invariant `ZipArchive::new` establishes (`tie_zip_archive_new`): the name map is the one built from the
entry table, in order. -/
def NamesOk (z : Gen.ZipArchive) : Prop :=
  ∃ cap, z.shared.names_map = namesMapOf (archOf z).files cap

theorem new_namesOk (fa : Option Nat) (d d' : Dev) (z : Gen.ZipArchive) (hd : d.buf.length < 2 ^ 64)
    (h : Gen.ZipArchive.new fa d = (.ok z, d')) : NamesOk z := by
  have t := tie_zip_archive_new fa d hd
  simp only [map_eq_pure_bind, Parsers.M.bind_apply, Parsers.M.pure_apply, h] at t
  rcases hM : Model.openArchiveAlloc fa d with ⟨o, d2⟩
  rw [hM] at t
  cases o with
  | err e => cases t
  | panic s => cases t
  | ok r =>
    simp only [Prod.mk.injEq, Out.ok.injEq] at t
    obtain ⟨t1, _⟩ := t
    refine ⟨r.2, ?_⟩
    have h1 : (archRes z).1 = r.1 := congrArg (fun x => x.1) t1
    have h3 : (archRes z).2.2 = namesMapOf r.1.files r.2 := congrArg (fun x => x.2.2) t1
    show z.shared.names_map = namesMapOf (archRes z).1.files r.2
    rw [h1]
    exact h3

theorem indexOfName_lt (a : Archive) (name : Bytes) (i : Nat) (h : a.indexOfName name = some i) :
    i < a.files.length := by
  rw [indexOfName_eq] at h
  have := List.mem_of_getLast? h
  exact List.mem_range.mp (List.mem_filter.mp this).1

/-- On an archive with `NamesOk` the lookup is the model's `Archive.indexOfName` (LAST duplicate, `namesMapOf_get`) and
the whole function is `Model.byNameOpen`. -/
theorem tie_by_name (ext : GExt) (z : Gen.ZipArchive) (name : Bytes) (pw : Option Bytes)
    (hz : NamesOk z) (hlen : (archOf z).files.length < 2 ^ 64) :
    (fun r => (r.1.map fileView, r.2)) <$> Gen.ZipArchive.by_name_with_optional_password ext z name pw =
      (Model.byNameOpen (archOf z) name pw >>= fun r =>
        (fun c => (c.map fun cr => (r.1, true, some cr, Gen.ZipFileReader.NoReader),
            [] ++ Rs.Stores.via "self" (dsStores r.2.1))) <$>
          runChoice ext ⟨r.1.compressedSize⟩ r.1.compressedSize r.2.2) := by
  obtain ⟨cap, hmap⟩ := hz
  rw [by_name_eq, hmap, namesMapOf_get (archOf z).files (archOf z).offset (archOf z).comment cap name]
  unfold Model.byNameOpen
  have harch : ({ files := (archOf z).files, offset := (archOf z).offset, comment := (archOf z).comment } : Archive)
      = archOf z := rfl
  rw [harch]
  cases hi : (archOf z).indexOfName name with
  | none => rfl
  | some i =>
    simp only [Option.map_some]
    have hlt := indexOfName_lt _ _ _ hi
    have hto : (UInt64.ofNat i).toNat = i := U64.toNat_ofNat (by omega)
    have h := tie_by_index ext z (UInt64.ofNat i) pw
    rw [hto] at h
    rw [← bind_pure_comp] at h ⊢
    simp only [map_eq_pure_bind, bind_assoc, pure_bind] at h ⊢
    have h2 := congrArg (fun (x : M _) => x >>= fun r => pure (r.1, [] ++ Rs.Stores.via "self" r.2)) h
    simp only [bind_assoc, pure_bind] at h2
    exact h2

/-! ### The model's read-to-the-end functions are the open halves followed by the read halves -/

theorem byIndexReadC_eq_open (ext : Ext) (a : Archive) (i : Nat) (pw : Option Bytes) :
    byIndexReadC ext a i pw = (byIndexOpen a i pw >>= fun r => readChoice ext r.1 r.2.1 r.2.2) :=
  (byIndexRead_eq_choice ext a i pw).symm.trans (byIndexRead_eq_open ext a i pw)

theorem byNameRead_eq_open (ext : Ext) (a : Archive) (name : Bytes) (pw : Option Bytes) :
    byNameRead ext a name pw = (byNameOpen a name pw >>= fun r => readChoice ext r.1 r.2.1 r.2.2) := by
  unfold byNameRead byNameOpen
  cases a.indexOfName name with
  | none => rfl
  | some i => exact byIndexRead_eq_open ext a i pw

theorem byIndexRaw_eq_open (a : Archive) (i : Nat) :
    byIndexRaw a i = (byIndexRawOpen a i >>= fun r => do
      let raw ← takeAll r.1.compressedSize.toNat
      pure (r.2, raw)) := by
  unfold byIndexRaw byIndexRawOpen
  cases a.files[i]? with
  | none => rfl
  | some data => simp only [bind_assoc, pure_bind]

end ZipVerif.Tie.ReaderGlue2
