import ZipVerif.Gen.AesLayer
import ZipVerif.Tie.Layers
import ZipVerif.Tie.Aes
import ZipVerif.Lemmas.AesRun
/-
Tie obligations for the AES read layer (aes.rs; tier T6, LAYER mode of rs2lean; vocabulary:
`Basic/RsAes.lean`).  `rs2lean` prints `Gen.AesReader.new` and `Gen.AesReaderValid.read` into `Gen/AesLayer.lean` from
src/aes.rs.  PBKDF2 / AES / HMAC stay uninterpreted: the generated code takes them from the class
`Rs.AesPrims`, instantiated here with an arbitrary `Model.Aes.AesPrims`.  The main theorem, `tie_aes_read_dyn`, says
that `AesReaderValid::read` is `Model.Aes.Valid.read`, as an equation between state transformers, for ANY
`Box<dyn AesCipher>` that does what the model's key stream `cryptInPlace` does (`DynOk`); `tie_aes_read` instantiates it
with that key stream itself, `Tie/AesCtr.lean` with the translated one.

Hypotheses: `data_remaining`, the buffer and every inner delivery below 2^64 (`Nat` vs `u64`); HMAC output
of at least 10 bytes (`P.WF`; in Rust a fact of the type `GenericArray<u8, U20>`; the model takes `take 10` without a
length check); `DynOk` at the key and counter of the state; `hSl`, a consequence of the `Read` contract of the inner
reader (said at `tie_aes_read_dyn`; the case it excludes is `tie_aes_read_overlong`).
-/

namespace ZipVerif.Tie.AesLayer
open ZipVerif ZipVerif.Model.Aes ZipVerif.Tie.Layers

variable {σ : Type}

/-- the model's primitives as the uninterpreted parameters of the generated code.  The model's `pbkdf2` IS the
1000-round function (`ITERATION_COUNT`); for any other number of rounds the generated code sees an unrelated,
arbitrary function `Q`. -/
@[instance_reducible] def primsOf (P : AesPrims) (Q : Bytes → Bytes → UInt32 → Nat → Bytes := fun _ _ _ _ => []) :
    Rs.AesPrims :=
  ⟨fun pw salt rounds len => if rounds = 1000 then P.pbkdf2 pw salt len else Q pw salt rounds len, P.block, P.hmac⟩

/-- the model's key stream as the `Box<dyn AesCipher>` of the generated code: key and counter state -/
@[instance_reducible] def dynOf (P : AesPrims) : Rs.AesDyn :=
  ⟨Bytes × CtrState, fun c t =>
    match cryptInPlace P c.1 c.2 t with
    | .ok (out, st) => some (out, (c.1, st))
    | _ => none⟩

/-- a model source as the inner reader of the generated code -/
@[instance_reducible] def readOfA (S : Src σ) : Rs.Read σ :=
  ⟨fun s n => match S.rd s n with
    | (.ok bs, s') => (.ok bs, s')
    | (.err k, s') => (.err k, s')⟩

def SmallA (S : Src σ) : Prop := ∀ s n bs s', S.rd s n = (.ok bs, s') → bs.length < 2 ^ 64

/-- panic messages are not part of the translation -/
def eraseMsg {α : Type} : Out α → Out α
  | .panic _ => .panic ""
  | o => o

/-! ### `AesReader::new` -/

/-- `AesReader::new`: `compressed_size.checked_sub(2 + 10 + salt_length)` (D4: no wrap-around). -/
theorem tie_aesreader_new (S : Src σ) (reader : σ) (mode : Gen.AesMode) (cs : UInt64) :
    @Gen.AesReader.new σ (readOfA S) reader mode cs =
      some ⟨reader, mode, (dataLength (Tie.Aes.toModel mode) cs.toNat).map UInt64.ofNat⟩ := by
  have key : ∀ k : UInt64, k.toNat = (Tie.Aes.toModel mode).saltLength + 12 →
      Rs.Arith.sub cs k = (dataLength (Tie.Aes.toModel mode) cs.toNat).map UInt64.ofNat := by
    intro k hk
    show (if k.toNat ≤ cs.toNat then some (cs - k) else none) = _
    by_cases hc : k.toNat ≤ cs.toNat
    · rw [if_pos hc, dataLength_eq_some.mpr ⟨by omega, rfl⟩, U64.sub_eq_ofNat cs k hc, hk]; rfl
    · rw [if_neg hc, dataLength_eq_none.mpr (by omega)]; rfl
  cases mode
  · exact congrArg (fun d => some (Gen.AesReader.mk reader .Aes128 d)) (key 20 rfl)
  · exact congrArg (fun d => some (Gen.AesReader.mk reader .Aes192 d)) (key 24 rfl)
  · exact congrArg (fun d => some (Gen.AesReader.mk reader .Aes256 d)) (key 28 rfl)

theorem rd_readOfA (S : Src σ) (s : σ) (n : Nat) :
    @Rs.Read.rd σ (readOfA S) s n =
      match S.rd s n with
      | (.ok bs, s') => (.ok bs, s')
      | (.err k, s') => (.err k, s') := rfl

theorem read_readOfA (S : Src σ) (s : σ) (buf : Bytes) :
    @Rs.L.read σ (readOfA S) s buf =
      match S.rd s buf.length with
      | (.ok bs, s') => (.ok (UInt64.ofNat bs.length), s', (bs ++ buf.drop bs.length).take buf.length)
      | (.err e, s') => (.err e, s', buf) := by
  unfold Rs.L.read
  rw [rd_readOfA]
  rcases S.rd s buf.length with ⟨r, s'⟩
  cases r <;> rfl

theorem readOfA_eq (S : Src σ) : readOfA S = readOf (Model.ofAes S) := by
  unfold readOfA readOf Model.ofAes
  congr
  funext s n
  dsimp only
  rcases S.rd s n with ⟨r, s'⟩
  cases r <;> rfl

/-- std's `read_exact` loop over a model source is the model's `readExactAux` (which threads an accumulator): the plain
family's fact at `ofAes S`, through `readExactAux_ofAes` -/
theorem readExactAux_readOfA (S : Src σ) (fuel : Nat) (s : σ) (n : Nat) (acc : Bytes) :
    (eraseMsg (readExactAux S fuel s n acc).1, (readExactAux S fuel s n acc).2) =
      match @Rs.L.readExactAux σ (readOfA S) fuel s n with
      | (.ok bs, s') => (.ok (acc ++ bs), s')
      | (.err e, s') => (.err (.io e), s')
      | (.panic, s') => (.panic "", s') := by
  have hb := readExactAux_ofAes S fuel s n acc
  rw [readOfA_eq, readExactAux_readOf]
  generalize Model.Layers.readExactAux (Model.ofAes S) fuel s n = q at hb ⊢
  obtain ⟨r, s'⟩ := q
  cases r with
  | ok bs => rw [hb]; rfl
  | err e => rw [hb]; rfl
  | panic => obtain ⟨m, hm⟩ := hb; rw [hm]; rfl

theorem read_exact_readOfA (S : Src σ) (s : σ) (buf : Bytes) :
    @Rs.L.read_exact σ (readOfA S) s buf =
      match readExact S s buf.length with
      | (.ok bs, s') => (.ok (), s', bs)
      | (.err (.io e), s') => (.err e, s', buf)
      | (_, s') => (.panic, s', buf) := by
  unfold Rs.L.read_exact readExact
  have h := readExactAux_readOfA S buf.length s buf.length []
  rcases h1 : @Rs.L.readExactAux σ (readOfA S) buf.length s buf.length with ⟨r, s'⟩
  rw [h1] at h
  rcases h2 : readExactAux S buf.length s buf.length [] with ⟨r2, s2⟩
  rw [h2] at h
  cases r <;> obtain ⟨h3, rfl⟩ := Prod.mk.inj h <;> cases r2 <;> cases h3 <;> rfl

theorem xorBytes_len (a b : Bytes) (h : a.length = b.length) : (xorBytes a b).length = a.length := by
  rw [xorBytes_length, h, Nat.min_self]

theorem slice0 (b : Bytes) {n : Nat} (hn : n < 2 ^ 64) :
    Rs.slice b 0 (UInt64.ofNat n) = if n ≤ b.length then some (b.take n) else none := by
  unfold Rs.slice
  rw [U64.toNat_ofNat hn]
  by_cases h : n ≤ b.length <;> simp [h]

theorem splice0_length (buf new : Bytes) (h : new.length ≤ buf.length) :
    (Rs.L.splice buf 0 new).length = buf.length := by
  simp [Rs.L.splice]; omega

theorem splice0_take (buf new : Bytes) : (Rs.L.splice buf 0 new).take new.length = new := by
  simp [Rs.L.splice]

/-- the caller's buffer after the inner read into `&mut buf[0..n]` starts with the delivered bytes -/
theorem buf1_take (bs buf : Bytes) (n : Nat) (hn : n ≤ buf.length) (hb : bs.length ≤ n) :
    (Rs.L.splice buf 0 ((bs ++ (buf.take n).drop bs.length).take n)).take bs.length = bs := by
  have h1 : (buf.take n).length = n := by simp [List.length_take, hn]
  have h2 := filled_take bs (buf.take n) (by rw [h1]; exact hb)
  have h3 := filled_length bs (buf.take n)
  rw [h1] at h2 h3
  simp only [Rs.L.splice, UInt64.toNat_zero, List.take_zero, List.nil_append, Nat.zero_add]
  rw [List.take_append_of_le_length (by rw [h3]; exact hb)]
  exact h2

theorem buf1_length (bs buf : Bytes) (n : Nat) (hn : n ≤ buf.length) :
    (Rs.L.splice buf 0 ((bs ++ (buf.take n).drop bs.length).take n)).length = buf.length := by
  have h1 : (buf.take n).length = n := by simp [List.length_take, hn]
  have h3 := filled_length bs (buf.take n)
  rw [h1] at h3
  apply splice0_length
  rw [h3]; exact hn

/-! ### `AesReaderValid::read` -/

/-- a model state as the generated structure (the ghost fields are not part of the code), for ANY
implementation `D` of `Box<dyn AesCipher>` whose states are given by `emb key ctr` -/
def toGenD (D : Rs.AesDyn) (emb : Bytes → CtrState → D.Cipher) (v : Valid σ) : @Gen.AesReaderValid D σ :=
  @Gen.AesReaderValid.mk D σ v.inner (UInt64.ofNat v.dataRemaining) (emb v.key v.ctr) ⟨v.hmacKey, v.hmacMsg⟩
    v.finalized

/-- `toGenD` at `dynOf P`: the model's key stream as the cipher -/
def toGen (P : AesPrims) (v : Valid σ) : @Gen.AesReaderValid (dynOf P) σ := toGenD (dynOf P) (fun k st => (k, st)) v

/-- `D` run from `emb key ctr` does what the model's key stream does (on targets below 2^64 bytes) -/
def DynOk (P : AesPrims) (D : Rs.AesDyn) (emb : Bytes → CtrState → D.Cipher) (key : Bytes) (ctr : CtrState) : Prop :=
  ∀ bs : Bytes, bs.length < 2 ^ 64 →
    D.crypt_in_place (emb key ctr) bs =
      match cryptInPlace P key ctr bs with
      | .ok (out, st) => some (out, emb key st)
      | _ => none

theorem dynOf_ok (P : AesPrims) (key : Bytes) (ctr : CtrState) : DynOk P (dynOf P) (fun k st => (k, st)) key ctr :=
  fun _ _ => rfl

/-- what the caller sees of a generated `read`, in the vocabulary of `Model.Aes` -/
def outRead : Rs.IoRes UInt64 → Bytes → Out Bytes
  | .ok c, buf => .ok (buf.take c.toNat)
  | .err e, _ => .err (.io e)
  | .panic, _ => .panic ""

/-- `read_exact` of the generated code over a model source, by what the model's `readExact` returns: the bytes, an I/O
error kind, or a panic -/
theorem read_exact_cases (S : Src σ) (s : σ) (buf : Bytes) {n : Nat} (hb : buf.length = n) :
    (∃ bs s', readExact S s n = (.ok bs, s') ∧ @Rs.L.read_exact σ (readOfA S) s buf = (.ok (), s', bs)) ∨
    (∃ e s', readExact S s n = (.err (.io e), s') ∧ @Rs.L.read_exact σ (readOfA S) s buf = (.err e, s', buf)) ∨
    (∃ m s', readExact S s n = (.panic m, s') ∧ @Rs.L.read_exact σ (readOfA S) s buf = (.panic, s', buf)) := by
  subst hb
  rw [read_exact_readOfA]
  rcases h : readExact S s buf.length with ⟨r, s'⟩
  rcases r with bs | e | m
  · exact .inl ⟨bs, s', rfl, rfl⟩
  · obtain ⟨k, rfl⟩ := readExact_err_io S s s' _ e h
    exact .inr (.inl ⟨k, s', rfl, rfl⟩)
  · exact .inr (.inr ⟨m, s', rfl, rfl⟩)

section
variable [Rs.AesPrims] [D : Rs.AesDyn] {R : Type} [Rs.Read R]

/-- the block "finalize, read the stored code, compare" that the generated `read` has at both places where the
ciphertext is used up; `cnt` is what the call returns if the codes agree.  (The catch-all arms are the translator's: with
`| none` resp. `| .err` spelt out the two `match`es are other terms and the folding in `gen_read_eq` is no `rfl`.) -/
def genFinish (self : Gen.AesReaderValid R) (cnt : UInt64) (buf : Bytes) :
    Rs.IoRes UInt64 × Gen.AesReaderValid R × Bytes :=
  let r := Rs.L.read_exact self.reader (Rs.vecZeros Gen.AUTH_CODE_LENGTH)
  match r.1 with
  | .ok _ =>
    let h := Rs.Hmac.finalize_reset self.hmac
    let self' := { self with reader := r.2.1, hmac := h.2, finalized := true }
    match Rs.slice h.1 0 Gen.AUTH_CODE_LENGTH with
    | some t => if !Rs.L.bytesEq t r.2.2 then (.err (Rs.ioKind .InvalidData), self', buf) else (.ok cnt, self', buf)
    | _ => (.panic, self', buf)
  | _ => (r.1.fail, { self with reader := r.2.1, finalized := true }, buf)

/-- `AesReaderValid::read` as generated, for any inner reader, primitives and cipher, with the early returns as the
arms of a case analysis and the two copies of the final block folded into `genFinish`: the shape of
`Model.Aes.Valid.read_eq`.  The tests are `bif`: a tie rewrites them with `Bool.cond_pos` / `cond_neg` along its path,
and no `Decidable` instance has to agree. -/
theorem gen_read_eq (self : Gen.AesReaderValid R) (buf : Bytes) : self.read buf =
    bif self.data_remaining == 0 then (bif self.finalized then (.ok 0, self, buf) else genFinish self 0 buf) else
    match Rs.slice buf 0 (min self.data_remaining (Rs.len buf)) with
    | none => (.panic, self, buf)
    | some t8 =>
      match Rs.L.read self.reader t8 with
      | (.ok rd, s1, b1) =>
        let buf1 := Rs.L.splice buf 0 b1
        bif rd == 0 && min self.data_remaining (Rs.len buf) != 0 then
          (.err (Rs.ioKind .UnexpectedEof), { self with reader := s1 }, buf1) else
        match Rs.Arith.sub self.data_remaining rd with
        | none => (.panic, { self with reader := s1 }, buf1)
        | some dr' =>
          match Rs.slice buf1 0 rd with
          | none => (.panic, { self with reader := s1, data_remaining := dr' }, buf1)
          | some t14 =>
            match D.crypt_in_place self.cipher t14 with
            | none => (.panic, { self with reader := s1, data_remaining := dr', hmac := self.hmac.update t14 }, buf1)
            | some (pt, c') =>
              let self2 : Gen.AesReaderValid R := ⟨s1, dr', c', self.hmac.update t14, self.finalized⟩
              bif dr' == 0 then
                bif self.finalized then (.panic, self2, Rs.L.splice buf1 0 pt)
                else genFinish self2 rd (Rs.L.splice buf1 0 pt)
              else (.ok rd, self2, Rs.L.splice buf1 0 pt)
      | (r, s1, b1) => (r.fail, { self with reader := s1 }, Rs.L.splice buf 0 b1) := by
  unfold Gen.AesReaderValid.read
  simp only [Id.run, Rs.L.id_pure, Rs.as', Rs.As.cast, id]
  -- every call and test on the way is split on both sides at once; what is left at the end of a path is `rfl`
  cases self.data_remaining == 0
  · cases Rs.slice buf 0 (min self.data_remaining (Rs.len buf)) with
    | none => rfl
    | some t8 =>
      dsimp only
      rcases Rs.L.read self.reader t8 with ⟨r, s1, b1⟩
      cases r with
      | ok rd =>
        dsimp only
        cases (rd == 0 && min self.data_remaining (Rs.len buf) != 0)
        · cases Rs.Arith.sub self.data_remaining rd with
          | none => rfl
          | some dr' =>
            dsimp only
            cases Rs.slice (Rs.L.splice buf 0 b1) 0 rd with
            | none => rfl
            | some t14 =>
              dsimp only
              rcases D.crypt_in_place self.cipher t14 with _ | ⟨pt, c'⟩
              · rfl
              · dsimp only
                cases dr' == 0
                · rfl
                · cases self.finalized <;> rfl
        · rfl
      | err e => rfl
      | panic => rfl
  · cases self.finalized <;> rfl

end

/-- the final block of the generated `read` is the model's `Valid.finish` (`cnt`, `buf`: what the call returns if the
codes agree) -/
theorem genFinish_eq (P : AesPrims) (hW : P.WF) (D : Rs.AesDyn) (emb : Bytes → CtrState → D.Cipher) (S : Src σ)
    (v : Valid σ) (cnt : UInt64) (buf out : Bytes) (hout : buf.take cnt.toNat = out) :
    (fun g : Rs.IoRes UInt64 × @Gen.AesReaderValid D σ × Bytes => (outRead g.1 g.2.2, g.2.1))
        (@genFinish (primsOf P) D σ (readOfA S) (toGenD D emb v) cnt buf) =
      (eraseMsg (v.finish P S out).1, toGenD D emb (v.finish P S out).2) := by
  subst hout
  have hsl : Rs.slice (P.hmac v.hmacKey v.hmacMsg) 0 Gen.AUTH_CODE_LENGTH =
      some ((P.hmac v.hmacKey v.hmacMsg).take AUTH_CODE_LENGTH) := by
    unfold Rs.slice
    rw [show Gen.AUTH_CODE_LENGTH.toNat = 10 by decide, hW.hmac_len]
    simp [AUTH_CODE_LENGTH]
  unfold Valid.finish genFinish
  rcases read_exact_cases S v.inner (Rs.vecZeros Gen.AUTH_CODE_LENGTH) (n := AUTH_CODE_LENGTH) rfl with
    ⟨code, s2, hre, hg⟩ | ⟨k, s2, hre, hg⟩ | ⟨m, s2, hre, hg⟩
  · simp only [toGenD, hre, hg, Rs.Hmac.finalize_reset, show @Rs.AesPrims.hmac (primsOf P) = P.hmac from rfl, hsl]
    by_cases heq : (P.hmac v.hmacKey v.hmacMsg).take AUTH_CODE_LENGTH = code
    · simp [heq, Rs.L.bytesEq, outRead, eraseMsg, Valid.compared]
    · simp [heq, Rs.L.bytesEq, outRead, eraseMsg, Rs.ioKind, Valid.compared]
  · simp [toGenD, hre, hg, outRead, eraseMsg, Rs.IoRes.fail, Valid.closed]
  · simp [toGenD, hre, hg, outRead, eraseMsg, Rs.IoRes.fail, Valid.closed]

/-- **`AesReaderValid::read` is the model's `Valid.read`**, as an equation between state transformers:
same outcome (bytes / error kind / panic) and same successor state, for every inner reader, every
primitive triple, every state and every buffer.  `hSl` follows from the `Read` contract of `S` (its left disjunct: the
inner call gets a buffer of `min data_remaining buf.len()` bytes); it leaves out only the case of
`tie_aes_read_overlong`, where both sides panic, at states that differ. -/
theorem tie_aes_read_dyn (P : AesPrims) (hW : P.WF) (D : Rs.AesDyn) (emb : Bytes → CtrState → D.Cipher)
    (S : Src σ) (v : Valid σ) (buf : Bytes) (hD : DynOk P D emb v.key v.ctr)
    (hbuf : buf.length < 2 ^ 64) (hrem : v.dataRemaining < 2 ^ 64) (hin : SmallA S)
    (hSl : ∀ bs s', S.rd v.inner (min v.dataRemaining buf.length) = (.ok bs, s') →
      bs.length ≤ buf.length ∨ v.dataRemaining < bs.length) :
    (fun g : Rs.IoRes UInt64 × @Gen.AesReaderValid D σ × Bytes => (outRead g.1 g.2.2, g.2.1))
        (@Gen.AesReaderValid.read (primsOf P) D σ (readOfA S) (toGenD D emb v) buf) =
      (eraseMsg (Valid.read P S v buf.length).1, toGenD D emb (Valid.read P S v buf.length).2) := by
  letI := primsOf P
  letI := readOfA S
  rw [gen_read_eq, Valid.read_eq]
  dsimp only [toGenD]
  rw [U64.ofNat_beq_zero hrem]
  by_cases h0 : v.dataRemaining = 0
  · rw [decide_eq_true h0, cond_true, if_pos h0]
    rcases Bool.eq_false_or_eq_true v.finalized with hf | hf
    · rw [Bool.cond_pos hf, if_pos hf]; rfl
    · rw [Bool.cond_neg hf, if_neg (Bool.eq_false_iff.mp hf)]
      exact genFinish_eq P hW D emb S v 0 buf [] rfl
  · have hn : min v.dataRemaining buf.length ≤ buf.length := Nat.min_le_right _ _
    have hn0 : min v.dataRemaining buf.length < 2 ^ 64 := Nat.lt_of_le_of_lt hn hbuf
    rw [decide_eq_false h0, cond_false, if_neg h0, show Rs.len buf = UInt64.ofNat buf.length from rfl,
      U64.min_ofNat hrem hbuf, slice0 buf hn0, if_pos hn]
    dsimp only
    rw [read_readOfA, List.length_take_of_le hn]
    rcases hr : S.rd v.inner (min v.dataRemaining buf.length) with ⟨r, s'⟩
    cases r with
    | err k => rfl
    | ok bs =>
      have hs := hin _ _ _ _ hr
      dsimp only
      rw [bne, U64.ofNat_beq_zero hs, U64.ofNat_beq_zero hn0, ← decide_not, ← Bool.decide_and, U64.sub_ofNat hrem hs]
      by_cases hE : bs.length = 0 ∧ ¬ min v.dataRemaining buf.length = 0
      · rw [decide_eq_true hE, cond_true, if_pos hE]; rfl
      rw [decide_eq_false hE, cond_false, if_neg hE]
      by_cases hle : bs.length ≤ v.dataRemaining
      · -- not more than `data_remaining`, so by `hSl` not more than the buffer holds
        have hlb : bs.length ≤ buf.length := (hSl bs s' hr).resolve_right (Nat.not_lt.mpr hle)
        rw [if_pos hle, if_neg (Nat.not_lt.mpr hle), if_neg (Nat.not_lt.mpr hlb)]
        dsimp only
        rw [slice0 _ hs, buf1_length bs buf _ hn, if_pos hlb, buf1_take bs buf _ hn (Nat.le_min.mpr ⟨hle, hlb⟩)]
        dsimp only
        rw [hD bs hs]
        rcases hcr : cryptInPlace P v.key v.ctr bs with ⟨pt, ctr'⟩ | e | m
        · have hpt (b : Bytes) : (Rs.L.splice b 0 pt).take (UInt64.ofNat bs.length).toNat = pt := by
            rw [U64.toNat_ofNat hs, ← cryptLoop_length P v.key _ _ _ _ _ hcr]; exact splice0_take _ _
          dsimp only
          rw [U64.ofNat_beq_zero (Nat.lt_of_le_of_lt (Nat.sub_le _ _) hrem)]
          by_cases hr0 : v.dataRemaining - bs.length = 0
          · rw [decide_eq_true hr0, cond_true, if_pos hr0]
            rcases Bool.eq_false_or_eq_true v.finalized with hf | hf
            · rw [Bool.cond_pos hf, if_pos hf]; rfl
            · rw [Bool.cond_neg hf, if_neg (Bool.eq_false_iff.mp hf)]
              exact genFinish_eq P hW D emb S (v.adv s' bs ctr') _ _ pt (hpt _)
          · rw [decide_eq_false hr0, cond_false, if_neg hr0]
            exact congrArg (fun x => (Out.ok x, _)) (hpt _)
        · exact absurd hcr (cryptLoop_no_err P v.key _ _ _ e)
        · rfl
      · rw [if_neg hle, if_pos (Nat.lt_of_not_le hle)]; rfl

/-- `tie_aes_read_dyn` with the model's key stream as the cipher -/
theorem tie_aes_read (P : AesPrims) (hW : P.WF) (S : Src σ) (v : Valid σ) (buf : Bytes)
    (hbuf : buf.length < 2 ^ 64) (hrem : v.dataRemaining < 2 ^ 64) (hin : SmallA S)
    (hSl : ∀ bs s', S.rd v.inner (min v.dataRemaining buf.length) = (.ok bs, s') →
      bs.length ≤ buf.length ∨ v.dataRemaining < bs.length) :
    (fun g : Rs.IoRes UInt64 × @Gen.AesReaderValid (dynOf P) σ × Bytes => (outRead g.1 g.2.2, g.2.1))
        (@Gen.AesReaderValid.read (primsOf P) (dynOf P) σ (readOfA S) (toGen P v) buf) =
      (eraseMsg (Valid.read P S v buf.length).1, toGen P (Valid.read P S v buf.length).2) :=
  tie_aes_read_dyn P hW (dynOf P) (fun k st => (k, st)) S v buf (dynOf_ok P v.key v.ctr) hbuf hrem hin hSl

/-- The case excluded by `hSl` above: the inner reader returns MORE than the buffer holds (and not more
than `data_remaining`).  Source and model both panic at `&buf[0..read]`; the source has already executed
`self.data_remaining -= read`, the model's state at that panic has not (the state after a panic is not
observable; the model keeps its invariant there). -/
theorem tie_aes_read_overlong (P : AesPrims) (S : Src σ) (v : Valid σ) (buf : Bytes)
    (hbuf : buf.length < 2 ^ 64) (hrem : v.dataRemaining < 2 ^ 64) (hin : SmallA S)
    (bs : Bytes) (s' : σ) (hr : S.rd v.inner (min v.dataRemaining buf.length) = (.ok bs, s'))
    (h1 : buf.length < bs.length) (h2 : bs.length ≤ v.dataRemaining) :
    (@Gen.AesReaderValid.read (primsOf P) (dynOf P) σ (readOfA S) (toGen P v) buf).1 = .panic ∧
      ∃ m, (Valid.read P S v buf.length).1 = .panic m := by
  have h0 : ¬ v.dataRemaining = 0 := by omega
  have hs := hin _ _ _ _ hr
  have hn : min v.dataRemaining buf.length ≤ buf.length := Nat.min_le_right _ _
  have hn0 : min v.dataRemaining buf.length < 2 ^ 64 := Nat.lt_of_le_of_lt hn hbuf
  obtain ⟨m, e⟩ := read_over P S v buf.length h0 hr (by omega)
  refine ⟨?_, m, by rw [e]⟩
  letI := primsOf P
  letI := dynOf P
  letI := readOfA S
  rw [gen_read_eq]
  dsimp only [toGen, toGenD]
  rw [U64.ofNat_beq_zero hrem, decide_eq_false h0, cond_false, show Rs.len buf = UInt64.ofNat buf.length from rfl,
    U64.min_ofNat hrem hbuf, slice0 buf hn0, if_pos hn]
  dsimp only
  rw [read_readOfA, List.length_take_of_le hn, hr]
  dsimp only
  rw [bne, U64.ofNat_beq_zero hs, decide_eq_false (by omega : ¬ bs.length = 0), Bool.false_and, cond_false,
    U64.sub_ofNat hrem hs, if_pos h2]
  dsimp only
  rw [slice0 _ hs, buf1_length bs buf _ hn, if_neg (by omega)]

end ZipVerif.Tie.AesLayer
