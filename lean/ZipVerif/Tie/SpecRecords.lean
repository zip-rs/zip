import ZipVerif.Gen.Spec
import ZipVerif.Model.Records
import ZipVerif.Tie.Types
/-
Tie obligations for the end-of-central-directory records (translator tier T3): the serialisers
`rs2lean` prints from /repo/src/spec.rs (`Gen.CentralDirectoryEnd.write`,
`Gen.Zip64CentralDirectoryEnd.write`, `Gen.Zip64CentralDirectoryEndLocator.write`) hand exactly the
model's chunk lists (`eocdChunks`, `eocd64Chunks`, `locatorChunks`) to the sink, one chunk per Rust
call, in order, for every record value; `record_too_small` is the model's predicate.
A source edit that swaps, drops, retypes or adds a field write, or changes a signature or the
constant record size, breaks one of these.

The file is also the home of the conversions from generated to model values that the other Tie modules state their
theorems with: the three records (`eocdOf`, `eocd64Of`, `locatorOf`: the parser ties of `Tie/Parsers.lean`), errors
(`zerrOf`), outcomes of the model (`ofOut`) and the cast `x.len() as u16` (`len_as_u16`), both for `Tie/Records.lean`.
-/
set_option linter.unusedSimpArgs false

namespace ZipVerif.Tie.SpecRecords
open ZipVerif ZipVerif.Model

def zerrOf : Rs.ZipErr → ZErr
  | .Io .Other => .io .other
  | .Io .InvalidData => .io .invalidData
  | .Io .InvalidInput => .io .invalidInput
  | .Io .UnexpectedEof => .io .unexpectedEof
  | .Io .WriteZero => .io .writeZero
  | .Io .BrokenPipe => .io .brokenPipe
  | .InvalidArchive => .invalidArchive
  | .UnsupportedArchive => .unsupportedArchive
  | .FileNotFound => .fileNotFound
  | .PasswordRequired => .passwordRequired

/-- Outcome of a translated writer function as the model states it: the chunk list on success,
the error, or a panic (the model's panic-site string is not part of the comparison). -/
def outcome {α} (x : Rs.W Bytes α) : Option (Except ZErr (α × List Bytes)) :=
  match x with
  | ⟨some (.ok a), l⟩ => some (.ok (a, l))
  | ⟨some (.error e), _⟩ => some (.error (zerrOf e))
  | ⟨none, _⟩ => none

/-- The same projection of a model outcome. -/
def ofOut {α} : Out α → Option (Except ZErr α)
  | .ok a => some (.ok a)
  | .err e => some (.error e)
  | .panic _ => none

@[simp] theorem outcome_ok {α} (a : α) (l : List Bytes) :
    outcome (⟨some (.ok a), l⟩ : Rs.W Bytes α) = some (.ok (a, l)) := rfl

/-- `x.len() as u16` -/
theorem len_as_u16 (bs : Bytes) : Rs.as' UInt16 (Rs.len bs) = UInt16.ofNat bs.length := by
  apply UInt16.toNat_inj.mp
  simp only [Rs.as', Rs.As.cast, Rs.len, UInt64.toNat_toUInt16, UInt64.toNat_ofNat',
    UInt16.toNat_ofNat']
  omega

def eocdOf (e : Gen.CentralDirectoryEnd) : Eocd :=
  { diskNumber := e.disk_number, diskWithCd := e.disk_with_central_directory,
    filesOnDisk := e.number_of_files_on_this_disk, files := e.number_of_files,
    cdSize := e.central_directory_size, cdOffset := e.central_directory_offset,
    comment := e.zip_file_comment }

def eocd64Of (e : Gen.Zip64CentralDirectoryEnd) : Eocd64 :=
  { versionMadeBy := e.version_made_by, versionNeeded := e.version_needed_to_extract,
    diskNumber := e.disk_number, diskWithCd := e.disk_with_central_directory,
    filesOnDisk := e.number_of_files_on_this_disk, files := e.number_of_files,
    cdSize := e.central_directory_size, cdOffset := e.central_directory_offset }

def locatorOf (l : Gen.Zip64CentralDirectoryEndLocator) : Locator :=
  { diskWithCd := l.disk_with_central_directory, eocd64Offset := l.end_of_central_directory_offset,
    disks := l.number_of_disks }

theorem tie_eocd_write (e : Gen.CentralDirectoryEnd) :
    Gen.CentralDirectoryEnd.write (ω := Bytes) e = ⟨some (.ok ()), eocdChunks (eocdOf e)⟩ := by
  simp only [Gen.CentralDirectoryEnd.write, Rs.W.write_u16, Rs.W.write_u32, Rs.W.write_all,
    Rs.W.emit, Rs.Sink.ofBytes, Rs.W.bind_def, Rs.W.bind_ok, Rs.W.pre_mk, Rs.W.pure_def,
    List.cons_append, List.nil_append, len_as_u16, Rs.le16, Rs.le32, id,
    Tie.Types.tie_eocd_sig, eocdChunks, eocdOf]

theorem tie_eocd64_write (e : Gen.Zip64CentralDirectoryEnd) :
    Gen.Zip64CentralDirectoryEnd.write (ω := Bytes) e = ⟨some (.ok ()), eocd64Chunks (eocd64Of e)⟩ := by
  simp only [Gen.Zip64CentralDirectoryEnd.write, Rs.W.write_u16, Rs.W.write_u32, Rs.W.write_u64,
    Rs.W.emit, Rs.Sink.ofBytes, Rs.W.bind_def, Rs.W.bind_ok, Rs.W.pre_mk, Rs.W.pure_def,
    List.cons_append, List.nil_append, Rs.le16, Rs.le32, Rs.le64, id,
    Tie.Types.tie_eocd64_sig, eocd64Chunks, eocd64Of]

theorem tie_locator_write (l : Gen.Zip64CentralDirectoryEndLocator) :
    Gen.Zip64CentralDirectoryEndLocator.write (ω := Bytes) l =
      ⟨some (.ok ()), locatorChunks (locatorOf l)⟩ := by
  simp only [Gen.Zip64CentralDirectoryEndLocator.write, Rs.W.write_u32, Rs.W.write_u64,
    Rs.W.emit, Rs.Sink.ofBytes, Rs.W.bind_def, Rs.W.bind_ok, Rs.W.pre_mk, Rs.W.pure_def,
    List.cons_append, List.nil_append, Rs.le32, Rs.le64, id,
    Tie.Types.tie_locator_sig, locatorChunks, locatorOf]

theorem tie_record_too_small (e : Gen.CentralDirectoryEnd) :
    Gen.CentralDirectoryEnd.record_too_small e = some (eocdOf e).recordTooSmall := rfl

end ZipVerif.Tie.SpecRecords
