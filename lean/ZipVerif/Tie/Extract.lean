import ZipVerif.Gen.ReadExtract
import ZipVerif.Gen.StreamExtract
import ZipVerif.Tie.Accessors
import ZipVerif.Lemmas.Extract
/-
Tie obligations for the two extractors (tier T6, EXTRACT mode of rs2lean; vocabulary `Basic/RsX.lean`):
`ZipArchive::extract` with its loop `place_entries` and `apply_unix_modes` (src/read.rs), `ZipStreamReader::extract` with
the visitor `Extractor` declared in its body (src/read/stream.rs).  `rs2lean` prints `Gen/ReadExtract.lean` and
`Gen/StreamExtract.lean` from these sources: the order `by_index(i)?` /
`enclosed_name().ok_or(InvalidArchive("Invalid file path"))?` / `path_depth` / `directory.join(filepath)`; directory
versus file by `name().ends_with('/')`; `create_dir_all` of the
directory resp. of `outpath.parent()` (the seekable extractor only when `!p.exists()`, the streaming one always);
`File::create`, `io::copy`; the recorded mode only PUSHED as (depth, path, mode); after all entries
`apply_unix_modes`: `sort_by_key(Reverse(depth))` (stable) and `set_permissions` for each, the first failure ends
the run.  `enclosed_name`, `name`, `unix_mode`, `path_depth` are the LAYER-mode translations tied in `Tie/Paths.lean`,
`Tie/Mangled.lean`, `Tie/Accessors.lean`; they are CALLED by the generated code here.

The two ties, `tie_extract_seek` and `tie_extract_stream`, are equations
`Gen.ZipArchive.extract … fs = ofModel (Model.Extract.extractSeek c root views fs)` resp.
`Gen.ZipStreamReader.extract … fs = ofModel (Model.Extract.extractStream c root views metas fs)`
of (filesystem afterwards, outcome) for every configuration `c` (privileged or not, umask), every
initial filesystem, every target directory and EVERY behaviour of the archive reader: `hs` / `files` is what
`by_index(i)` / `read_zipfile_from_stream` answers per entry (an error or a handle - any `Gen.ZipFile` value), `content`
what `io::copy` then receives from a handle and whether the read fails at the end; the `EntryView`s the model is
given are computed from these (`viewOf`: the name decoded from the handle, the bytes, the read error, `unix_mode()`).

The filesystem stays the model: the named parameters of the generated code are instantiated with EXACTLY the operations
of `Spec/FS.lean` the model uses (`fsOps`: `createDirAll`, `createFile` + `writeAt`, `setPermissions`, `pathExists`) and
with the path arithmetic `Model/Extract.lean` documents for std on Unix (`KPath`: reversed components of
`root.join(name)`, a final ".", a trailing '/'; `parent` drops the last component and both flags).  Trusted here,
as in the model's header: that this is what std/the kernel do (validated by the `fs` correspondence stream: op
`fs.extract`, `lean/Driver/Ops/Fs.lean`).

Assumptions (trusted base):
  * `io::copy(&mut file, &mut outfile)` writes to the file description `File::create` returned everything the handle
    delivers before it ends or fails (`copy`), and returns the handle with its metadata unchanged (`ZipFile::read`
    touches only the reader fields).
  * the error of `by_index` / of the visit passes through unchanged; `From<io::Error>` is the identity on the model's
    error type (`errOps.io = id`: the model does not distinguish `ZipError::Io(e)` from `e`); `InvalidArchive(msg)` is
    `Err.invalidPath` exactly for the message "Invalid file path" (another message is another value: `noCentral`).
  * `ZipStreamReader::visit` is `streamOps`: `visit_file` for the local entries in order (an entry that cannot be
    opened ends the visit with its error), then at least one central record, `visit_additional_metadata` for each in
    order; when it fails, the visitor is as the last callback that returned `Ok` left it (a callback that fails has
    not touched it: `rs2lean` checks that its writes follow its last `?`, `Basic/RsX.lean`).  That shape is what
    `Tie/Visit.lean` (`tie_visit`) proves about the translated `visit` for every visitor; the entry drain between
    rounds acts on the stream only.
  * the `Drop` of an entry handle does not touch the filesystem.
Hypotheses: `HandlesOk` / `MetasOk` - the name of every handle is a Rust `String` (UTF-8 of some `n`) shorter than
2^64 - 1 characters; fewer than 2^64 entries (`usize`; `tie_extract_seek` only).  `tie_apply_unix_modes` on its own asks
`PendOk` (depths fit `usize`, modes `u32`), which the two ties derive from `HandlesOk` / `MetasOk`.
-/

namespace ZipVerif.Tie.Extract
open ZipVerif ZipVerif.Spec ZipVerif.Model ZipVerif.Spec.Paths ZipVerif.Model.Paths ZipVerif.Spec.FS ZipVerif.Spec.Tree
open ZipVerif.Model.Extract ZipVerif.Tie.Paths ZipVerif.Tie.Mangled ZipVerif.Tie.Accessors

/-- a path as the kernel will see it -/
structure KPath where
  r : List Comp
  dot : Bool
  slash : Bool
  deriving DecidableEq

def dirOf (root : Path) : KPath := ⟨root.reverse.map Comp.normal, false, false⟩

def kpath (root : Path) (n : Name) : KPath := ⟨joinedR root n, tailDot n, endsSlash n⟩

def liftIo : FS × Option FsErr → FS × Rs.XOut Err Unit
  | (fs, none) => (fs, .ok ())
  | (fs, some e) => (fs, .err (.fs e))

def fsOps (c : Cfg) (content : Gen.ZipFile → Bytes × Option SrcErr) : Rs.FsOps FS KPath Gen.ZipFile Path Err where
  join d rel := match utf8Strict rel with
    | some n => ⟨(relComps n).reverse ++ d.r, tailDot n, endsSlash n⟩
    | none => d
  parent p := match p.r with
    | [] => none
    | _ :: up => some ⟨up, false, false⟩
  «exists» p fs := pathExists c fs p.r
  create_dir_all p := fun fs => liftIo (createDirAll c p.r p.dot fs)
  file_create p := fun fs =>
    match createFile c fs (dotted p.r p.dot) p.slash with
    | .error e => (fs, .err (.fs e))
    | .ok (fs2, tgt) => (fs2, .ok tgt)
  copy f tgt := fun fs =>
    match (content f).2 with
    | none => (writeAt fs tgt (content f).1, .ok (UInt64.ofNat (content f).1.length, f))
    | some se => (writeAt fs tgt (content f).1, .err (.src se))
  set_permissions p m := fun fs =>
    match setPermissions c fs (dotted p.r p.dot) p.slash m.toNat with
    | .ok fs' => (fs', .ok ())
    | .error e => (fs, .err (.fs e))

def errOps : Rs.ErrOps Err Err where
  io := id
  invalid_archive s := if s = "Invalid file path" then .invalidPath else .noCentral

def srcOps (hs : List (Except SrcErr Gen.ZipFile)) : Rs.SrcOps FS Gen.ZipFile Err where
  len := UInt64.ofNat hs.length
  by_index i := fun fs =>
    match hs[i.toNat]? with
    | some (.ok f) => (fs, .ok f)
    | some (.error e) => (fs, .err (.src e))
    | none => (fs, .panic)

def nameOf (f : Gen.ZipFile) : Name := (utf8Strict f.data.get.file_name).getD []

def viewOf (content : Gen.ZipFile → Bytes × Option SrcErr) : Except SrcErr Gen.ZipFile → EntryView
  | .error e => { name := [], openErr := some e }
  | .ok f => { name := nameOf f, data := (content f).1, readErr := (content f).2, mode := (view f).unixMode.map (·.toNat) }

def ofModel : FS × Option Err → FS × Rs.XOut Err Unit
  | (fs, none) => (fs, .ok ())
  | (fs, some e) => (fs, .err e)

theorem bind_apply {W E α β} (x : Rs.X W E α) (f : α → Rs.X W E β) (w : W) :
    (x >>= f) w = match x w with
      | (w1, .ok a) => f a w1
      | (w1, .err e) => (w1, .err e)
      | (w1, .panic) => (w1, .panic) := rfl

theorem pure_apply {W E α} (a : α) (w : W) : (pure a : Rs.X W E α) w = (w, .ok a) := rfl


theorem lift_some_bind {W E α β} (a : α) (f : α → Rs.X W E β) : (Rs.X.lift (some a) >>= f) = f a := rfl
theorem okOr_some_bind {W E α β} (a : α) (e : E) (f : α → Rs.X W E β) : (Rs.X.okOr (some a) e >>= f) = f a := rfl
theorem okOr_none_bind {W E α β} (e : E) (f : α → Rs.X W E β) (w : W) :
    (Rs.X.okOr (none : Option α) e >>= f) w = (w, .err e) := rfl

theorem lift_some_apply {W E α} (a : α) (w : W) : (Rs.X.lift (some a) : Rs.X W E α) w = (w, .ok a) := rfl
theorem lift_none_apply {W E α} (w : W) : (Rs.X.lift (none : Option α) : Rs.X W E α) w = (w, .panic) := rfl
theorem okOr_some_apply {W E α} (a : α) (e : E) (w : W) : (Rs.X.okOr (some a) e : Rs.X W E α) w = (w, .ok a) := rfl
theorem okOr_none_apply {W E α} (e : E) (w : W) : (Rs.X.okOr (none : Option α) e : Rs.X W E α) w = (w, .err e) := rfl
theorem observe_apply {W E α} (g : W → α) (w : W) : (Rs.X.observe g : Rs.X W E α) w = (w, .ok (g w)) := rfl
theorem io_apply {W E IoE α} (conv : IoE → E) (x : Rs.X W IoE α) (w : W) :
    Rs.X.io conv x w = match x w with
      | (w1, .ok a) => (w1, .ok a)
      | (w1, .err e) => (w1, .err (conv e))
      | (w1, .panic) => (w1, .panic) := rfl

/-- `?` on an `io::Result`: `From<io::Error>` is the identity on the model's error type -/
theorem io_id {W α} (x : Rs.X W Err α) : Rs.X.io errOps.io x = x := by
  funext w
  rw [io_apply]
  rcases x w with ⟨w1, _ | _ | _⟩ <;> rfl

theorem endsWith_slash (n : Name) : Rs.Str.endsWithAscii (utf8Encode n) 47 = isDirName n := by
  unfold Rs.Str.endsWithAscii isDirName
  rcases List.eq_nil_or_concat n with h | ⟨r, c, h⟩
  · subst h; rfl
  · subst h
    rw [List.concat_eq_append, encode_append]
    have hc : utf8Encode [c] = utf8EncodeChar c := by simp [utf8Encode]
    rw [hc, List.getLast?_append, List.getLast?_concat]
    cases hl : (utf8EncodeChar c).getLast? with
    | none => exact absurd (List.getLast?_eq_none_iff.mp hl) (encodeChar_ne_nil c)
    | some b =>
      have hb : b ∈ utf8EncodeChar c := List.mem_of_getLast? hl
      -- the last byte is 0x2F exactly when the last character is '/'
      have hgoal : (b == (47 : UInt8)) = (c == '/') := by
        rw [Bool.eq_iff_iff, beq_iff_eq, beq_iff_eq]
        constructor
        · rintro rfl; exact char_eq_of_toNat ((ascii_mem_encodeChar (by decide)).mp hb)
        · rintro rfl; simpa [show utf8EncodeChar '/' = [47] from by decide] using hb
      have e47 : UInt8.ofNat 47 = (47 : UInt8) := rfl
      show ((some b).or (utf8Encode r).getLast? == some (UInt8.ofNat 47)) = (some c == some '/')
      rw [e47]
      simpa using hgoal

/-- the invariant of a Rust `String` (well-formed UTF-8) and of its length (`usize`).  `n.length + 1`: the hypothesis of
`Tie/Paths.tie_enclosed_name` / `tie_path_depth`, whose `usize` depth counter must not wrap over the at most
`n.length + 1` components of `n` (`Lemmas/Paths.components_length_le`). -/
def NameOk (bs : Bytes) : Prop := ∃ n : Name, bs = utf8Encode n ∧ n.length + 1 < 2 ^ 64

theorem join_encode (c : Cfg) (content) (root : Path) (n : Name) :
    (fsOps c content).join (dirOf root) (utf8Encode n) = kpath root n := by
  show (match utf8Strict (utf8Encode n) with
    | some n => (⟨(relComps n).reverse ++ (dirOf root).r, tailDot n, endsSlash n⟩ : KPath)
    | none => dirOf root) = _
  rw [strict_encode]
  rfl

theorem cda_apply (c : Cfg) (content) (p : KPath) (fs : FS) :
    (fsOps c content).create_dir_all p fs = liftIo (createDirAll c p.r p.dot fs) := rfl
theorem parent_eq (c : Cfg) (content) (p : KPath) :
    (fsOps c content).parent p = match p.r with
      | [] => none
      | _ :: up => some ⟨up, false, false⟩ := rfl
theorem exists_eq (c : Cfg) (content) (p : KPath) (fs : FS) : (fsOps c content).exists p fs = pathExists c fs p.r := rfl
theorem create_apply (c : Cfg) (content) (p : KPath) (fs : FS) :
    (fsOps c content).file_create p fs = match createFile c fs (dotted p.r p.dot) p.slash with
      | .error e => (fs, .err (.fs e))
      | .ok (fs2, tgt) => (fs2, .ok tgt) := rfl
theorem copy_apply (c : Cfg) (content : Gen.ZipFile → Bytes × Option SrcErr) (f : Gen.ZipFile) (tgt : Path) (fs : FS) :
    (fsOps c content).copy f tgt fs = match (content f).2 with
      | none => (writeAt fs tgt (content f).1, .ok (UInt64.ofNat (content f).1.length, f))
      | some se => (writeAt fs tgt (content f).1, .err (.src se)) := rfl
theorem setperm_apply (c : Cfg) (content) (p : KPath) (m : UInt32) (fs : FS) :
    (fsOps c content).set_permissions p m fs = match setPermissions c fs (dotted p.r p.dot) p.slash m.toNat with
      | .ok fs' => (fs', .ok ())
      | .error e => (fs, .err (.fs e)) := rfl

@[simp] theorem kpath_r (root : Path) (n : Name) : (kpath root n).r = joinedR root n := rfl
@[simp] theorem kpath_dot (root : Path) (n : Name) : (kpath root n).dot = tailDot n := rfl
@[simp] theorem kpath_slash (root : Path) (n : Name) : (kpath root n).slash = endsSlash n := rfl

def pendOf (root : Path) (n : Name) (mode : Option UInt32) : List (UInt64 × KPath × UInt32) :=
  match mode with
  | some m => [(UInt64.ofNat (pathDepth n), kpath root n, m)]
  | none => []

def stepRes {σ : Type} (r : FS × Option Err) (st : σ) : FS × Rs.XOut Err σ :=
  match r with
  | (fs1, some e) => (fs1, .err e)
  | (fs1, none) => (fs1, .ok st)

theorem nameOf_eq {f : Gen.ZipFile} {n : Name} (h : f.data.get.file_name = utf8Encode n) : nameOf f = n := by
  unfold nameOf; rw [h, strict_encode]; rfl

/-! ### the block both extractors share

`ZipArchive::place_entries` and `Extractor::visit_file` contain the same text for an accepted entry: the directory,
or the parent (the seekable extractor only when `!p.exists()`: `chk`), `File::create`, `io::copy`.  The `do`
elaborator hands what follows to the block as a join point, hence the continuation `K`. -/

def placeBlock {W P Fh IoE E β : Type} (ops : Rs.FsOps W P Gen.ZipFile Fh IoE) (eo : Rs.ErrOps IoE E) (chk : Bool)
    (outpath : P) (name : Bytes) (file : Gen.ZipFile) (K : Gen.ZipFile → Rs.X W E β) : Rs.X W E β :=
  if Rs.Str.endsWithAscii name 47 = true then do
    let _ ← Rs.X.io eo.io (ops.create_dir_all outpath)
    K file
  else
    have fin : Unit → Rs.X W E β := fun _ => do
      let t9 ← Rs.X.io eo.io (ops.file_create outpath)
      let x ← Rs.X.io eo.io (ops.copy file t9)
      match x with
      | (_, t11) => K t11
    match ops.parent outpath with
    | some p =>
      match chk with
      | true => do
        let t7 ← Rs.X.observe (ops.exists p)
        if (!t7) = true then do
          let _ ← Rs.X.io eo.io (ops.create_dir_all p)
          fin ()
        else fin ()
      | false => do
        let _ ← Rs.X.io eo.io (ops.create_dir_all p)
        fin ()
    | none => fin ()

theorem place_body_eq [Rs.PathOps] {W P Fh IoE E : Type} (ops : Rs.FsOps W P Gen.ZipFile Fh IoE) (eo : Rs.ErrOps IoE E)
    (directory : P) (self : Rs.SrcOps W Gen.ZipFile E) (i : UInt64) (st : List (UInt64 × P × UInt32)) :
    Gen.ZipArchive.place_entries.loop1_body ops eo directory self i st = (do
      let file ← self.by_index i
      let t2 ← Rs.X.lift file.enclosed_name
      let filepath ← Rs.X.okOr t2 (eo.invalid_archive "Invalid file path")
      let depth ← Rs.X.lift (Gen.path_depth filepath)
      let t5 ← Rs.X.lift file.name
      placeBlock ops eo true (ops.join directory filepath) t5 file fun file => do
        let t12 ← Rs.X.lift file.unix_mode
        match t12 with
        | some mode => pure (st ++ [(depth, ops.join directory filepath, mode)])
        | none => pure st) := rfl

theorem visit_file_body_eq [Rs.PathOps] {W P Fh IoE E : Type} (ops : Rs.FsOps W P Gen.ZipFile Fh IoE) (eo : Rs.ErrOps IoE E)
    (self : Gen.ZipStreamReader.extract.Extractor P) (file : Gen.ZipFile) :
    Gen.ZipStreamReader.extract.Extractor.visit_file ops eo self file = (do
      let t1 ← Rs.X.lift file.enclosed_name
      let filepath ← Rs.X.okOr t1 (eo.invalid_archive "Invalid file path")
      let t3 ← Rs.X.lift file.name
      placeBlock ops eo false (ops.join self._0 filepath) t3 file fun file => pure ((), self, file)) := rfl

/-- the block over the model's filesystem is the model's `placeEntry` -/
theorem placeBlock_eq (c : Cfg) (content) (root : Path) (chk : Bool) (f : Gen.ZipFile) {β : Type}
    (K : Gen.ZipFile → Rs.X FS Err β) (fs : FS) :
    placeBlock (fsOps c content) errOps chk (kpath root (nameOf f)) (utf8Encode (nameOf f)) f K fs =
      match placeEntry c chk root (viewOf content (.ok f)) fs with
      | (fs1, none) => K f fs1
      | (fs1, some e) => (fs1, .err e) := by
  unfold placeBlock placeEntry viewOf
  simp only [endsWith_slash, io_id]
  by_cases hd : isDirName (nameOf f)
  · simp only [hd, if_true, bind_apply, cda_apply]
    show _ = match liftFs (createDirAll c (kpath root (nameOf f)).r (kpath root (nameOf f)).dot fs) with
      | (fs1, none) => K f fs1
      | (fs1, some e) => (fs1, .err e)
    rcases createDirAll c (kpath root (nameOf f)).r (kpath root (nameOf f)).dot fs with ⟨fs1, _ | e⟩ <;> rfl
  · simp only [hd, Bool.false_eq_true, if_false, parent_eq, ensureParent, kpath_r]
    -- `outpath.parent()`, `p.exists()`, `create_dir_all(p)`: three ways to reach `File::create`
    rcases hr : joinedR root (nameOf f) with _ | ⟨x, up⟩
    case' cons =>
      cases chk
      case' true =>
        simp only [bind_apply, observe_apply, exists_eq, Bool.true_and]
        by_cases hex : pathExists c fs up
        case' pos => simp only [hex, Bool.not_true, Bool.false_eq_true, if_false, if_true]
        case' neg => simp only [hex, Bool.not_false, if_true, Bool.false_eq_true, if_false]
      case' false => simp only [Bool.false_and, Bool.false_eq_true, if_false]
    all_goals
      try (simp only [bind_apply, cda_apply]
           rcases createDirAll c up false fs with ⟨fs1, _ | e⟩
           case' some => simp [liftIo])
    all_goals
      simp only [liftIo, bind_apply, create_apply, copy_apply, kpath_r, kpath_dot, kpath_slash, hr]
      generalize createFile c _ _ _ = r
      rcases r with e | ⟨fs2, tgt⟩
      · rfl
      · rcases (content f).snd with _ | se <;> rfl

theorem by_index_apply (hs : List (Except SrcErr Gen.ZipFile)) (i : Nat) (hi : i < 2 ^ 64) (fs : FS) :
    (srcOps hs).by_index (UInt64.ofNat i) fs = match hs[i]? with
      | some (.ok f) => (fs, .ok f)
      | some (.error e) => (fs, .err (.src e))
      | none => (fs, .panic) := by
  show (match hs[(UInt64.ofNat i).toNat]? with
    | some (.ok f) => (fs, Rs.XOut.ok f)
    | some (.error e) => (fs, .err (Err.src e))
    | none => (fs, .panic)) = _
  rw [UInt64.toNat_ofNat_of_lt' hi]

theorem body_ok (c : Cfg) (content) (root : Path) (hs : List (Except SrcErr Gen.ZipFile)) (i : Nat) (hi : i < 2 ^ 64) (f : Gen.ZipFile)
    (n : Name) (hname : f.data.get.file_name = utf8Encode n) (hn : n.length + 1 < 2 ^ 64)
    (hf : hs[i]? = some (.ok f)) (st) (fs : FS) :
    @Gen.ZipArchive.place_entries.loop1_body pathOps _ _ _ _ _ (fsOps c content) errOps (dirOf root) (srcOps hs) (UInt64.ofNat i) st fs
      = stepRes (placeFile c true root (viewOf content (.ok f)) fs) (st ++ pendOf root n (view f).unixMode) := by
  have hidx : (srcOps hs).by_index (UInt64.ofNat i) fs = (fs, .ok f) := by
    rw [by_index_apply hs i hi, hf]
  have hnm : nameOf f = n := nameOf_eq hname
  rw [@place_body_eq pathOps]
  simp only [bind_apply, hidx, tie_zipfile_enclosed_name f n hname hn]
  unfold placeFile
  have hv : (viewOf content (.ok f)).name = n := hnm
  simp only [hv, show (viewOf content (Except.ok f)).openErr = none from rfl]
  cases hen : enclosedName n with
  | none => rfl
  | some m =>
    obtain rfl := (enclosedName_eq_some.mp hen).1
    simp only [Option.map_some, lift_some_apply, okOr_some_apply, tie_path_depth m hn, join_encode, tie_name]
    rw [show (view f).fileName = utf8Encode (nameOf f) from hname.trans (congrArg utf8Encode hnm.symm), ← hnm, placeBlock_eq]
    rcases placeEntry c true root (viewOf content (.ok f)) fs with ⟨fs1, _ | e⟩
    · simp only [bind_apply, tie_unix_mode, lift_some_apply, stepRes]
      cases (view f).unixMode <;> simp [pendOf, pure_apply]
    · rfl

theorem body_err (c : Cfg) (content) (root : Path) (hs : List (Except SrcErr Gen.ZipFile)) (i : Nat) (hi : i < 2 ^ 64)
    (e : SrcErr) (hf : hs[i]? = some (.error e)) (st) (fs : FS) :
    @Gen.ZipArchive.place_entries.loop1_body pathOps _ _ _ _ _ (fsOps c content) errOps (dirOf root) (srcOps hs) (UInt64.ofNat i) st fs
      = stepRes (placeFile c true root (viewOf content (.error e)) fs) st := by
  have hidx : (srcOps hs).by_index (UInt64.ofNat i) fs = (fs, .err (.src e)) := by
    rw [by_index_apply hs i hi, hf]
  unfold Gen.ZipArchive.place_entries.loop1_body
  simp only [bind_apply, hidx]
  rfl

/-- the modes an entry list leaves pending, in archive order -/
def pendAll (root : Path) : List (Except SrcErr Gen.ZipFile) → List (UInt64 × KPath × UInt32)
  | [] => []
  | .error _ :: r => pendAll root r
  | .ok f :: r => pendOf root (nameOf f) (view f).unixMode ++ pendAll root r

/-- every handle the archive delivers carries a Rust `String` as its name -/
def HandlesOk (hs : List (Except SrcErr Gen.ZipFile)) : Prop :=
  ∀ f, Except.ok f ∈ hs → NameOk f.data.get.file_name

theorem forN_succ {W E σ : Type} (body : UInt64 → σ → Rs.X W E σ) (n : Nat) (i : UInt64) (s : σ) :
    Rs.X.forN body (n + 1) i s = (body i s >>= fun s' => Rs.X.forN body n (i + 1) s') := rfl

/-- a step of the collector's loop: the world, the vector, the outcome -/
def stepResK {σ : Type} (r : FS × Option Err) (st : σ) : FS × σ × Rs.XOut Err Unit :=
  match r with
  | (fs1, some e) => (fs1, st, .err e)
  | (fs1, none) => (fs1, st, .ok ())

theorem forNK_succ {W E σ : Type} (body : UInt64 → σ → Rs.X W E σ) (n : Nat) (i : UInt64) (s : σ) (w : W) :
    Rs.X.forNK body (n + 1) i s w =
      (match body i s w with
       | (w1, .ok s') => Rs.X.forNK body n (i + 1) s' w1
       | (w1, .err e) => (w1, s, .err e)
       | (w1, .panic) => (w1, s, .panic)) := rfl

/-- the loop of `ZipArchive::place_entries` from index `i` on: the model's `placeFiles` over the remaining entries;
the vector `modes` collects (depth, joined path, mode) of every entry placed completely that records a mode — when
the loop fails, of the entries before the failing one (`placedCount`) -/
theorem loop_eq (c : Cfg) (content) (root : Path) (hs : List (Except SrcErr Gen.ZipFile)) (hlen : hs.length < 2 ^ 64)
    (hok : HandlesOk hs) : ∀ (k i : Nat), i + k = hs.length → ∀ st fs,
    Rs.X.forNK (@Gen.ZipArchive.place_entries.loop1_body pathOps _ _ _ _ _ (fsOps c content) errOps (dirOf root) (srcOps hs))
        k (UInt64.ofNat i) st fs
      = stepResK (placeFiles c true root ((hs.drop i).map (viewOf content)) fs)
          (st ++ pendAll root ((hs.drop i).take (placedCount c true root ((hs.drop i).map (viewOf content)) fs))) := by
  intro k
  induction k with
  | zero =>
    intro i hi st fs
    have : hs.drop i = [] := List.drop_eq_nil_of_le (by omega)
    rw [this]
    simp [Rs.X.forNK, placeFiles, stepResK, pendAll]
  | succ k ih =>
    intro i hi st fs
    have hlt : i < hs.length := by omega
    have hd : hs.drop i = hs[i] :: hs.drop (i + 1) := List.drop_eq_getElem_cons hlt
    have hget : hs[i]? = some hs[i] := List.getElem?_eq_getElem hlt
    rw [forNK_succ, hd, U64.ofNat_succ]
    simp only [List.map_cons, placeFiles, placedCount]
    rcases hh : hs[i] with e | f
    · rw [hh] at hget
      rw [body_err c content root hs i (by omega) e hget]
      simp [placeFile, viewOf, stepRes, stepResK, pendAll]
    · rw [hh] at hget
      obtain ⟨n, hname, hn⟩ := hok f (by rw [← hh]; exact List.getElem_mem hlt)
      rw [body_ok c content root hs i (by omega) f n hname hn hget]
      rcases hp : placeFile c true root (viewOf content (Except.ok f)) fs with ⟨fs1, _ | er⟩
      · simp only [stepRes]
        rw [ih (i + 1) (by omega)]
        simp only [List.take_succ_cons, pendAll, nameOf_eq hname, List.append_assoc]
      · simp [stepRes, stepResK, pendAll]

/-! ### `apply_unix_modes` -/

/-- a pending mode of the model as the triple the source keeps -/
def enc (root : Path) (p : Pending) : UInt64 × KPath × UInt32 :=
  (UInt64.ofNat p.1, kpath root p.2.1, UInt32.ofNat p.2.2)

/-- depths fit `usize`, modes fit `u32` -/
def PendOk (l : List Pending) : Prop := ∀ p ∈ l, p.1 < 2 ^ 64 ∧ p.2.2 < 2 ^ 32

theorem insert_map (root : Path) (key : UInt64 × KPath × UInt32 → Rs.Reverse UInt64) (hk : ∀ x, key x = Rs.Reverse.mk x.1)
    (x : Pending) (hx : x.1 < 2 ^ 64) : ∀ ys : List Pending, PendOk ys →
    Rs.X.insertByKey key (enc root x) (ys.map (enc root)) = (insertMode x ys).map (enc root) := by
  intro ys
  induction ys with
  | nil => intro _; rfl
  | cons y r ih =>
    intro hys
    have hy := hys y (List.mem_cons_self ..)
    have hle : Rs.KeyLe.le (key (enc root x)) (key (enc root y)) = decide (y.1 ≤ x.1) := by
      rw [hk, hk]
      show decide (UInt64.ofNat y.1 ≤ UInt64.ofNat x.1) = _
      rw [decide_eq_decide]
      exact UInt64.ofNat_le_iff_le hy.1 hx
    simp only [List.map_cons, Rs.X.insertByKey, insertMode, hle, decide_eq_true_eq]
    split
    · rfl
    · rw [ih (fun p hp => hys p (List.mem_cons_of_mem _ hp))]
      rfl

theorem sort_map (root : Path) (key : UInt64 × KPath × UInt32 → Rs.Reverse UInt64) (hk : ∀ x, key x = Rs.Reverse.mk x.1) :
    ∀ l : List Pending, PendOk l → Rs.X.sortByKey key (l.map (enc root)) = (sortModes l).map (enc root) := by
  intro l
  induction l with
  | nil => intro _; rfl
  | cons x r ih =>
    intro hl
    have hr : PendOk r := fun p hp => hl p (List.mem_cons_of_mem _ hp)
    simp only [List.map_cons, Rs.X.sortByKey, sortModes, ih hr]
    exact insert_map root key hk x (hl x (List.mem_cons_self ..)).1 _
      (fun p hp => hr p (mem_sortModes.mp hp))

theorem forVec_cons {W E α σ : Type} (x : α) (xs : List α) (body : α → σ → Rs.X W E σ) (s : σ) :
    Rs.X.forVec (x :: xs) body s = (body x s >>= fun s' => Rs.X.forVec xs body s') := rfl

theorem forVec_modes (c : Cfg) (content) (root : Path) : ∀ l : List Pending, PendOk l → ∀ fs,
    Rs.X.forVec (l.map (enc root)) (@Gen.apply_unix_modes.loop1_body pathOps _ _ _ _ Err (fsOps c content) errOps) () fs
      = ofModel (applyModes c root (l.map fun p => (p.2.1, some p.2.2)) fs) := by
  intro l
  induction l with
  | nil => intro _ fs; rfl
  | cons x r ih =>
    intro hl fs
    have hx := hl x (List.mem_cons_self ..)
    have hm : (UInt32.ofNat x.2.2).toNat = x.2.2 := UInt32.toNat_ofNat_of_lt' hx.2
    rw [List.map_cons, forVec_cons, bind_apply]
    unfold Gen.apply_unix_modes.loop1_body
    simp only [enc, bind_apply, setperm_apply, Rs.Permissions.from_mode, kpath_r, kpath_dot, kpath_slash, hm,
      List.map_cons, applyModes, applyMode]
    rcases setPermissions c fs (dotted (joinedR root x.2.1) (tailDot x.2.1)) (endsSlash x.2.1) x.2.2 with e | fs'
    · rfl
    · simp only [pure_apply]
      exact ih (fun p hp => hl p (List.mem_cons_of_mem _ hp)) fs'

theorem tie_apply_unix_modes (c : Cfg) (content) (root : Path) (l : List Pending) (hl : PendOk l) (fs : FS) :
    @Gen.apply_unix_modes pathOps _ _ _ _ Err (fsOps c content) errOps (l.map (enc root)) fs
      = ofModel (applyModes c root ((sortModes l).map fun p => (p.2.1, some p.2.2)) fs) := by
  unfold Gen.apply_unix_modes
  simp only [bind_apply]
  rw [sort_map root _ (fun _ => rfl) l hl, forVec_modes c content root _ (fun p hp => hl p (mem_sortModes.mp hp))]
  generalize applyModes c root _ fs = r
  rcases r with ⟨fs1, _ | e⟩ <;> rfl

/-- The end of both extractors: `apply_unix_modes` is attempted on what was collected; its outcome counts only
when the placing (the visit) has succeeded, otherwise the error of that is returned. -/
theorem finish_apply (c : Cfg) (content) (root : Path) (ms : List (Name × Option Nat)) (hms : PendOk (pendingOf ms))
    (placed : Except Err Unit) (fs1 : FS) :
    (Rs.X.attempt (@Gen.apply_unix_modes pathOps _ _ _ _ Err (fsOps c content) errOps ((pendingOf ms).map (enc root))) >>=
      fun applied => do
        Rs.X.ofRes placed
        Rs.X.io errOps.io (Rs.X.ofRes applied)
        pure ()) fs1 =
    ofModel (match placed with
      | .ok () => applyModes c root (modeOrder ms) fs1
      | .error e => ((applyModes c root (modeOrder ms) fs1).1, some e)) := by
  simp only [bind_apply, Rs.X.attempt, tie_apply_unix_modes c content root _ hms fs1]
  unfold modeOrder
  generalize applyModes c root _ fs1 = r
  rcases r with ⟨fs2, _ | e2⟩ <;> rcases placed with e | ⟨⟩ <;> rfl

/-! ### `ZipArchive::extract` -/

theorem foldl_depth_le (cs : List Comp) : ∀ d, cs.foldl depthStep d ≤ d + cs.length := by
  induction cs with
  | nil => intro d; simp
  | cons x r ih =>
    intro d
    have h1 : depthStep d x ≤ d + 1 := by cases x <;> simp [depthStep] <;> omega
    have := ih (depthStep d x)
    simp only [List.foldl_cons, List.length_cons]
    omega

theorem pathDepth_lt (n : Name) (hn : n.length + 1 < 2 ^ 64) : pathDepth n < 2 ^ 64 := by
  have h1 := foldl_depth_le (components n) 0
  have h2 := components_length_le n
  unfold pathDepth
  omega

/-- what the model is given: name and mode of every entry -/
def metaOf (content : Gen.ZipFile → Bytes × Option SrcErr) (hs : List (Except SrcErr Gen.ZipFile)) : List (Name × Option Nat) :=
  (hs.map (viewOf content)).map fun e => (e.name, e.mode)

theorem pend_cons (root : Path) (n : Name) (hn : n.length + 1 < 2 ^ 64) (md : Option UInt32)
    (rest : List (Name × Option Nat)) (P : List (UInt64 × KPath × UInt32))
    (ih : P = (pendingOf rest).map (enc root) ∧ PendOk (pendingOf rest)) :
    pendOf root n md ++ P = (pendingOf ((n, md.map (·.toNat)) :: rest)).map (enc root) ∧
      PendOk (pendingOf ((n, md.map (·.toNat)) :: rest)) := by
  rcases md with _ | md
  · exact ih
  · refine ⟨by simp [pendOf, pendingOf, enc, ih.1], fun p hp => ?_⟩
    rcases List.mem_cons.mp hp with rfl | h
    · exact ⟨pathDepth_lt n hn, md.toNat_lt⟩
    · exact ih.2 p h

theorem pendAll_eq (root : Path) (content) : ∀ hs : List (Except SrcErr Gen.ZipFile), HandlesOk hs →
    pendAll root hs = (pendingOf (metaOf content hs)).map (enc root) ∧ PendOk (pendingOf (metaOf content hs)) := by
  intro hs
  induction hs with
  | nil => intro _; exact ⟨rfl, fun p hp => by cases hp⟩
  | cons h r ih =>
    intro hok
    have ih' := ih (fun f hf => hok f (List.mem_cons_of_mem _ hf))
    rcases h with e | f
    · exact ih'
    · obtain ⟨n, hname, hn⟩ := hok f (List.mem_cons_self ..)
      have := pend_cons root n hn (view f).unixMode _ _ ih'
      rwa [← nameOf_eq hname] at this

theorem handlesOk_take {hs : List (Except SrcErr Gen.ZipFile)} (hok : HandlesOk hs) (n : Nat) : HandlesOk (hs.take n) :=
  fun f hf => hok f (List.mem_of_mem_take hf)

theorem metaOf_take (content) (hs : List (Except SrcErr Gen.ZipFile)) (n : Nat) :
    metaOf content (hs.take n) = ((hs.map (viewOf content)).take n).map fun e => (e.name, e.mode) := by
  unfold metaOf
  rw [List.map_take]

/-- **`ZipArchive::extract` is the model's `extractSeek`**: for every filesystem state, every behaviour of the archive
reader (`hs`: what `by_index(i)` answers; `content`: what `io::copy` receives from a handle and whether the read then
fails) and every target directory. -/
theorem tie_extract_seek (c : Cfg) (content : Gen.ZipFile → Bytes × Option SrcErr) (root : Path)
    (hs : List (Except SrcErr Gen.ZipFile)) (hlen : hs.length < 2 ^ 64) (hok : HandlesOk hs) (fs : FS) :
    @Gen.ZipArchive.extract pathOps _ _ _ _ _ (fsOps c content) errOps (srcOps hs) (dirOf root) fs
      = ofModel (extractSeek c root (hs.map (viewOf content)) fs) := by
  unfold Gen.ZipArchive.extract Gen.ZipArchive.place_entries extractSeek
  have hl : Rs.X.forRangeK (0 : UInt64) (srcOps hs).len
      (@Gen.ZipArchive.place_entries.loop1_body pathOps _ _ _ _ _ (fsOps c content) errOps (dirOf root) (srcOps hs)) [] fs
      = stepResK (placeFiles c true root (hs.map (viewOf content)) fs)
          (pendAll root (hs.take (placedCount c true root (hs.map (viewOf content)) fs))) := by
    have h0 : ((srcOps hs).len.toNat - (0 : UInt64).toNat) = hs.length := by
      show (UInt64.ofNat hs.length).toNat - 0 = _
      rw [UInt64.toNat_ofNat_of_lt' hlen]; rfl
    unfold Rs.X.forRangeK
    rw [h0]
    have := loop_eq c content root hs hlen hok hs.length 0 (by omega) [] fs
    simpa using this
  rw [bind_apply]
  simp only [Rs.X.keep, hl]
  rcases hpf : placeFiles c true root (hs.map (viewOf content)) fs with ⟨fs1, _ | e⟩
  · have hcnt : placedCount c true root (hs.map (viewOf content)) fs = hs.length := by
      rw [placedCount_ok hpf, List.length_map]
    have ⟨h1, h2⟩ := pendAll_eq root content hs hok
    simp only [stepResK, hcnt, List.take_length, h1]
    exact finish_apply c content root _ h2 _ fs1
  · have ⟨h1, h2⟩ := pendAll_eq root content _ (handlesOk_take hok (placedCount c true root (hs.map (viewOf content)) fs))
    rw [metaOf_take] at h1 h2
    simp only [stepResK, h1]
    exact finish_apply c content root _ h2 _ fs1

/-! ### `ZipStreamReader::extract` -/

abbrev Extractor := Gen.ZipStreamReader.extract.Extractor KPath

/-- `visit_file` for the local entries, in stream order; an entry that cannot be opened ends the visit -/
def filesLoop {V : Type} (vf : V → Gen.ZipFile → Rs.X FS Err (Unit × V × Gen.ZipFile)) :
    List (Except SrcErr Gen.ZipFile) → V → Rs.X.K FS Err V
  | [], v => fun w => (w, v, .ok ())
  | .error e :: _, v => fun w => (w, v, .err (.src e))
  | .ok f :: r, v => fun w =>
    match vf v f w with
    | (w1, .ok x) => filesLoop vf r x.2.1 w1
    | (w1, .err e) => (w1, v, .err e)
    | (w1, .panic) => (w1, v, .panic)

/-- `visit_additional_metadata` for the central records, in order -/
def metasLoop {V : Type} (vm : V → Gen.ZipStreamFileMetadata → Rs.X FS Err (Unit × V)) :
    List Gen.ZipStreamFileMetadata → V → Rs.X.K FS Err V
  | [], v => fun w => (w, v, .ok ())
  | m :: r, v => fun w =>
    match vm v m w with
    | (w1, .ok x) => metasLoop vm r x.2 w1
    | (w1, .err e) => (w1, v, .err e)
    | (w1, .panic) => (w1, v, .panic)

/-- `ZipStreamReader::visit` as far as the extractor sees it (its shape is the subject of `Tie/Visit.lean`,
`tie_visit`): the file rounds, then - at least one - central record, each shown to the visitor once; together with
the visitor as the last complete callback left it -/
def streamOps {V : Type} (files : List (Except SrcErr Gen.ZipFile)) (metas : List Gen.ZipStreamFileMetadata) :
    Rs.StreamOps FS Gen.ZipFile Gen.ZipStreamFileMetadata Err V where
  visit vf vm v := fun w =>
    match filesLoop vf files v w with
    | (w1, v1, .ok ()) =>
      (match metas with
       | [] => (w1, v1, .err .noCentral)
       | _ => metasLoop vm metas v1 w1)
    | r => r

def nameOfM (m : Gen.ZipStreamFileMetadata) : Name := (utf8Strict m._0.file_name).getD []

def metaView (m : Gen.ZipStreamFileMetadata) : Name × Option Nat := (nameOfM m, (sview m).unixMode.map (·.toNat))

def MetasOk (ms : List Gen.ZipStreamFileMetadata) : Prop := ∀ m ∈ ms, NameOk m._0.file_name

theorem visit_file_eq (c : Cfg) (content) (root : Path) (l) (f : Gen.ZipFile)
    (n : Name) (hname : f.data.get.file_name = utf8Encode n) (hn : n.length + 1 < 2 ^ 64) (fs : FS) :
    @Gen.ZipStreamReader.extract.Extractor.visit_file pathOps _ _ _ _ _ (fsOps c content) errOps ⟨dirOf root, l⟩ f fs
      = stepRes (placeFile c false root (viewOf content (.ok f)) fs) ((), (⟨dirOf root, l⟩ : Extractor), f) := by
  have hnm : nameOf f = n := nameOf_eq hname
  rw [@visit_file_body_eq pathOps]
  simp only [bind_apply, tie_zipfile_enclosed_name f n hname hn]
  unfold placeFile
  have hv : (viewOf content (.ok f)).name = n := hnm
  simp only [hv, show (viewOf content (Except.ok f)).openErr = none from rfl]
  cases hen : enclosedName n with
  | none => rfl
  | some m =>
    obtain rfl := (enclosedName_eq_some.mp hen).1
    simp only [Option.map_some, lift_some_apply, okOr_some_apply, join_encode, tie_name]
    rw [show (view f).fileName = utf8Encode (nameOf f) from hname.trans (congrArg utf8Encode hnm.symm), ← hnm, placeBlock_eq]
    rcases placeEntry c false root (viewOf content (.ok f)) fs with ⟨fs1, _ | e⟩ <;> rfl

theorem nameOfM_eq {m : Gen.ZipStreamFileMetadata} {n : Name} (h : m._0.file_name = utf8Encode n) : nameOfM m = n := by
  unfold nameOfM; rw [h, strict_encode]; rfl

theorem visit_meta_eq (c : Cfg) (content) (root : Path) (l) (m : Gen.ZipStreamFileMetadata)
    (n : Name) (hname : m._0.file_name = utf8Encode n) (hn : n.length + 1 < 2 ^ 64) (fs : FS) :
    @Gen.ZipStreamReader.extract.Extractor.visit_additional_metadata pathOps _ _ _ _ _ (fsOps c content) errOps ⟨dirOf root, l⟩ m fs
      = match enclosedName n with
        | none => (fs, .err .invalidPath)
        | some _ => (fs, .ok ((), (⟨dirOf root, l ++ pendOf root n (sview m).unixMode⟩ : Extractor))) := by
  unfold Gen.ZipStreamReader.extract.Extractor.visit_additional_metadata
  simp only [bind_apply, tie_stream_enclosed_name m n hname hn, tie_stream_unix_mode]
  cases hen : enclosedName n with
  | none =>
    simp only [Option.map_none, lift_some_apply, okOr_none_apply]
    rfl
  | some k =>
    obtain rfl := (enclosedName_eq_some.mp hen).1
    simp only [Option.map_some, lift_some_apply, okOr_some_apply, join_encode]
    rcases hm : (sview m).unixMode with _ | md
    · simp [pendOf, pure_apply]
    · simp [pendOf, pure_apply, bind_apply, tie_path_depth k hn, lift_some_apply]

theorem files_eq (c : Cfg) (content) (root : Path) : ∀ (files : List (Except SrcErr Gen.ZipFile)), HandlesOk files → ∀ l fs,
    filesLoop (@Gen.ZipStreamReader.extract.Extractor.visit_file pathOps _ _ _ _ _ (fsOps c content) errOps) files ⟨dirOf root, l⟩ fs
      = stepResK (placeFiles c false root (files.map (viewOf content)) fs) (⟨dirOf root, l⟩ : Extractor) := by
  intro files
  induction files with
  | nil => intro _ l fs; rfl
  | cons h r ih =>
    intro hok l fs
    rcases h with e | f
    · rfl
    · obtain ⟨n, hname, hn⟩ := hok f (List.mem_cons_self ..)
      simp only [filesLoop, visit_file_eq c content root l f n hname hn, List.map_cons, placeFiles]
      rcases placeFile c false root (viewOf content (Except.ok f)) fs with ⟨fs1, _ | er⟩
      · simp only [stepRes]
        exact ih (fun f hf => hok f (List.mem_cons_of_mem _ hf)) l fs1
      · rfl

/-- the modes the central records leave pending, in central-directory order -/
def pendAllM (root : Path) : List Gen.ZipStreamFileMetadata → List (UInt64 × KPath × UInt32)
  | [] => []
  | m :: r => pendOf root (nameOfM m) (sview m).unixMode ++ pendAllM root r

theorem metas_eq (c : Cfg) (content) (root : Path) : ∀ (metas : List Gen.ZipStreamFileMetadata), MetasOk metas → ∀ l fs,
    metasLoop (@Gen.ZipStreamReader.extract.Extractor.visit_additional_metadata pathOps _ _ _ _ _ (fsOps c content) errOps)
        metas ⟨dirOf root, l⟩ fs
      = (fs, (⟨dirOf root, l ++ pendAllM root (metas.take (checkedCount (metas.map metaView)))⟩ : Extractor),
          match checkMetas (metas.map metaView) with
          | some e => .err e
          | none => .ok ()) := by
  intro metas
  induction metas with
  | nil => intro _ l fs; simp [metasLoop, checkMetas, checkedCount, pendAllM]
  | cons m r ih =>
    intro hok l fs
    obtain ⟨n, hname, hn⟩ := hok m (List.mem_cons_self ..)
    have hnm := nameOfM_eq hname
    simp only [metasLoop, visit_meta_eq c content root l m n hname hn, List.map_cons, checkMetas, checkedCount, metaView, hnm]
    cases hen : enclosedName n with
    | none => simp [pendAllM]
    | some k =>
      simp only []
      rw [ih (fun m hm => hok m (List.mem_cons_of_mem _ hm))]
      simp only [List.take_succ_cons, pendAllM, hnm, List.append_assoc]

theorem metasOk_take {ms : List Gen.ZipStreamFileMetadata} (h : MetasOk ms) (n : Nat) : MetasOk (ms.take n) :=
  fun m hm => h m (List.mem_of_mem_take hm)

theorem pendAllM_eq (root : Path) : ∀ metas : List Gen.ZipStreamFileMetadata, MetasOk metas →
    pendAllM root metas = (pendingOf (metas.map metaView)).map (enc root) ∧ PendOk (pendingOf (metas.map metaView)) := by
  intro metas
  induction metas with
  | nil => intro _; exact ⟨rfl, fun p hp => by cases hp⟩
  | cons m r ih =>
    intro hok
    obtain ⟨n, hname, hn⟩ := hok m (List.mem_cons_self ..)
    have := pend_cons root n hn (sview m).unixMode _ _ (ih (fun f hf => hok f (List.mem_cons_of_mem _ hf)))
    rwa [← nameOfM_eq hname] at this

/-- **`ZipStreamReader::extract` is the model's `extractStream`**: for every filesystem state, every sequence of local
entries the stream delivers (`files`, with what `io::copy` receives from each: `content`) and every sequence of
central records (`metas`), `visit` being `streamOps`. -/
theorem tie_extract_stream (c : Cfg) (content : Gen.ZipFile → Bytes × Option SrcErr) (root : Path)
    (files : List (Except SrcErr Gen.ZipFile)) (metas : List Gen.ZipStreamFileMetadata)
    (hok : HandlesOk files) (hmok : MetasOk metas) (fs : FS) :
    @Gen.ZipStreamReader.extract pathOps _ _ _ _ _ (fsOps c content) errOps (streamOps files metas) (dirOf root) fs
      = ofModel (extractStream c root (files.map (viewOf content)) (metas.map metaView) fs) := by
  unfold Gen.ZipStreamReader.extract extractStream
  rw [bind_apply]
  simp only [streamOps, Rs.X.keep, files_eq c content root files hok [] fs]
  rcases placeFiles c false root (files.map (viewOf content)) fs with ⟨fs1, _ | e⟩
  · simp only [stepResK]
    rcases metas with _ | ⟨m, r⟩
    · exact finish_apply c content root [] (fun p hp => by cases hp) _ fs1
    · simp only [metas_eq c content root (m :: r) hmok [] fs1, List.nil_append]
      rcases hcm : checkMetas ((m :: r).map metaView) with _ | e
      · have hcnt : checkedCount ((m :: r).map metaView) = (m :: r).length := by
          rw [checkedCount_ok hcm, List.length_map]
        have ⟨h1, h2⟩ := pendAllM_eq root (m :: r) hmok
        simp only [hcnt, List.take_length, h1]
        exact finish_apply c content root _ h2 _ fs1
      · have ⟨h1, h2⟩ := pendAllM_eq root _ (metasOk_take hmok (checkedCount ((m :: r).map metaView)))
        rw [List.map_take] at h1 h2
        simp only [h1]
        exact finish_apply c content root _ h2 _ fs1
  · exact finish_apply c content root [] (fun p hp => by cases hp) _ fs1

end ZipVerif.Tie.Extract
