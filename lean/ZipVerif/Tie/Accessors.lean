import ZipVerif.Gen.ReadPaths
import ZipVerif.Gen.StreamPaths
import ZipVerif.Tie.Records
import ZipVerif.Tie.Mangled
/-
Tie obligations for the metadata accessors of the public handle `ZipFile` (read.rs; tier T6, LAYER mode of
rs2lean, which prints them in `Gen/ReadPaths.lean`): every accessor equals the corresponding field
of the model's view `FileData` of the entry's `ZipFileData` (`Tie.Records.dataOf`, the record `Tie.Parsers` /
`Tie.ReaderGlue` prove the parsers fill), the plain projections by `rfl`.  Those with logic: `version_made_by` is the
pair (`v / 10`, `v % 10`) of the low byte of "version made by" (never a panic); `is_dir` / `is_file` are
`Model.Paths.isDir` of the name - its last character is '/' or '\' -, for a name that is the UTF-8 of some `n`
(hypothesis `hname`); `unix_mode` is `FileData.unixMode` (through `Tie.Types.tie_unix_mode`); `data_start` is the value
of the `AtomicU64` cell (`load`).

So C03's "the reader reports … with the names, comments, sizes, CRC, method, timestamp, attributes/Unix mode, extra
data and offsets recorded there" rests on translated code from the parser to the accessor: swapping two accessors,
returning another field or changing the `/ 10` split breaks an obligation here.

The accessors of the streaming reader's `ZipStreamFileMetadata` (read/stream.rs: `name`, `name_raw`, `is_dir`, `is_file`,
`comment`, `data_start`, `unix_mode`; `Gen/StreamPaths.lean`) are tied the same way (`tie_stream_*`).

Trusted vocabulary: `Cow<ZipFileData>` auto-deref = `Rs.Cow.get`; `AtomicU64::load` of types.rs = the field's value
(the main translation holds the cell as its value; the stores are C20's subject); `str::chars().rev().next()` = the
last character of the strictly decoded string (`Rs.Str.chars`, `Basic/RsPath.lean`).
-/

namespace ZipVerif.Tie.Accessors
open ZipVerif ZipVerif.Spec ZipVerif.Model ZipVerif.Spec.Paths ZipVerif.Model.Paths ZipVerif.Tie.Records

/-- the model's view of the entry behind a handle -/
def view (f : Gen.ZipFile) : FileData := dataOf f.data.get

theorem tie_version_made_by (f : Gen.ZipFile) :
    Gen.ZipFile.version_made_by f = some ((view f).versionMadeBy / 10, (view f).versionMadeBy % 10) := by
  unfold Gen.ZipFile.version_made_by
  simp only [Rs.Arith.div, Rs.Arith.rem, Id.run, Rs.L.id_pure]
  have h10 : ((10 : UInt8) = 0) = False := by decide
  simp only [h10, if_false]
  rfl

theorem tie_name (f : Gen.ZipFile) : Gen.ZipFile.name f = some (view f).fileName := rfl
theorem tie_name_raw (f : Gen.ZipFile) : Gen.ZipFile.name_raw f = some (view f).fileNameRaw := rfl
theorem tie_comment (f : Gen.ZipFile) : Gen.ZipFile.comment f = some (view f).fileComment := rfl
theorem tie_compression (f : Gen.ZipFile) :
    (Gen.ZipFile.compression f).map Tie.Types.methodOf = some (view f).method := rfl
theorem tie_compressed_size (f : Gen.ZipFile) : Gen.ZipFile.compressed_size f = some (view f).compressedSize := rfl
theorem tie_size (f : Gen.ZipFile) : Gen.ZipFile.size f = some (view f).uncompressedSize := rfl
theorem tie_last_modified (f : Gen.ZipFile) :
    (Gen.ZipFile.last_modified f).map Tie.DateTime.toModel = some (view f).time := rfl
theorem tie_crc32 (f : Gen.ZipFile) : Gen.ZipFile.crc32 f = some (view f).crc32 := rfl
theorem tie_extra_data (f : Gen.ZipFile) : Gen.ZipFile.extra_data f = some (view f).extraField := rfl
theorem tie_data_start (f : Gen.ZipFile) : Gen.ZipFile.data_start f = some (view f).dataStart := rfl
theorem tie_header_start (f : Gen.ZipFile) : Gen.ZipFile.header_start f = some (view f).headerStart := rfl
theorem tie_central_header_start (f : Gen.ZipFile) :
    Gen.ZipFile.central_header_start f = some (view f).centralHeaderStart := rfl

theorem chars_encode (n : Name) : Rs.Str.chars (utf8Encode n) = n := by
  unfold Rs.Str.chars
  rw [strict_encode]

theorem tie_is_dir (f : Gen.ZipFile) (n : Name) (hname : (view f).fileName = utf8Encode n) :
    Gen.ZipFile.is_dir f = some (isDir n) := by
  unfold Gen.ZipFile.is_dir
  rw [tie_name]
  simp only [Id.run, Rs.L.id_pure, hname, chars_encode, List.head?_reverse]
  unfold isDir
  cases n.getLast? <;> rfl

theorem tie_is_file (f : Gen.ZipFile) (n : Name) (hname : (view f).fileName = utf8Encode n) :
    Gen.ZipFile.is_file f = some (!isDir n) := by
  unfold Gen.ZipFile.is_file
  rw [tie_is_dir f n hname]
  rfl

example : isDir "a/b/".toList = true ∧ isDir "a\\".toList = true ∧ isDir "a/b".toList = false ∧ isDir [] = false := by
  decide

theorem tie_unix_mode (f : Gen.ZipFile) : Gen.ZipFile.unix_mode f = some (view f).unixMode := by
  unfold Gen.ZipFile.unix_mode
  rw [Tie.Types.tie_unix_mode f.data.get (view f) ⟨rfl, rfl, rfl, rfl, rfl, rfl⟩]
  rfl

/-! ### the same accessors of the streaming reader's `ZipStreamFileMetadata` (read/stream.rs) -/

def sview (m : Gen.ZipStreamFileMetadata) : FileData := dataOf m._0

theorem tie_stream_name (m : Gen.ZipStreamFileMetadata) : Gen.ZipStreamFileMetadata.name m = some (sview m).fileName := rfl
theorem tie_stream_name_raw (m : Gen.ZipStreamFileMetadata) :
    Gen.ZipStreamFileMetadata.name_raw m = some (sview m).fileNameRaw := rfl
theorem tie_stream_comment (m : Gen.ZipStreamFileMetadata) :
    Gen.ZipStreamFileMetadata.comment m = some (sview m).fileComment := rfl
theorem tie_stream_data_start (m : Gen.ZipStreamFileMetadata) :
    Gen.ZipStreamFileMetadata.data_start m = some (sview m).dataStart := rfl

theorem tie_stream_is_dir (m : Gen.ZipStreamFileMetadata) (n : Name) (hname : (sview m).fileName = utf8Encode n) :
    Gen.ZipStreamFileMetadata.is_dir m = some (isDir n) := by
  unfold Gen.ZipStreamFileMetadata.is_dir
  rw [tie_stream_name]
  simp only [Id.run, Rs.L.id_pure, hname, chars_encode, List.head?_reverse]
  unfold isDir
  cases n.getLast? <;> rfl

theorem tie_stream_is_file (m : Gen.ZipStreamFileMetadata) (n : Name) (hname : (sview m).fileName = utf8Encode n) :
    Gen.ZipStreamFileMetadata.is_file m = some (!isDir n) := by
  unfold Gen.ZipStreamFileMetadata.is_file
  rw [tie_stream_is_dir m n hname]
  rfl

theorem tie_stream_unix_mode (m : Gen.ZipStreamFileMetadata) :
    Gen.ZipStreamFileMetadata.unix_mode m = some (sview m).unixMode := by
  unfold Gen.ZipStreamFileMetadata.unix_mode
  rw [Tie.Types.tie_unix_mode m._0 (sview m) ⟨rfl, rfl, rfl, rfl, rfl, rfl⟩]
  rfl

end ZipVerif.Tie.Accessors
