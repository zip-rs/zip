import ZipVerif.Tie.WriterCompose
import ZipVerif.Lemmas.ViewInv
/-
The script-level tie on a FAULT-FREE sink, with raw copies of ANY chunking among the covered calls.

`Tie/WriterCompose.grun_sim` concludes that the run of the translated methods and the model's `runCalls` end on EQUAL
devices - for every fault index, where the device's I/O call counter decides which call fails.  A raw copy whose
reader delivers several chunks is several sink writes in the source (`io::copy`: one `write_all` per chunk) and one
in the model's `Call.rawCopy`, so the counters differ and such a copy is not a covered call there.  Without a fault
the counter is never looked at: `Lemmas/ViewInv.vinv_step` - every model call, run fault-free from two devices with
the same bytes at the same position (`SameView`), ends with the same outcome on devices with the same bytes at the
same position.

  vstep_sim   one covered call (`VCall`: a `GCall`, or `raw_copy_file_rename` from a reader that delivers ANY chunks
              of a stream not longer than the entry's `compressed_size`), fault index `none`, the translated side on
              `d`, the model on any `d2` with the same view: `OVF`, or same outcome (panic sites erased), corresponding
              state, same view afterwards (`step_sim` resp. `Tie/RawCopyAcc.raw_copy_any_chunking`, then `vinv_step`).
  vrun_sim    a whole script: `OVF`, or the outcomes and the final writer state of `Props.C12.runCalls` on the mapped
              call list (a multi-chunk copy is mapped to `Call.rawCopy` of the WHOLE stream), and final devices with
              the same bytes at the same position.
-/
set_option linter.unusedSimpArgs false
set_option linter.unusedVariables false

namespace ZipVerif.Tie.WriterCompose
open ZipVerif ZipVerif.Model ZipVerif.Tie.Records ZipVerif.Tie.WriterSM
open ZipVerif.Props.C12 (Call step runCalls mapStep inv_step)

inductive VCall
  | base (c : GCall)
  /-- `raw_copy_file_rename(file, name)`; `chunks`: what the raw reader's successive reads deliver -/
  | rawCopyChunks (now : Gen.DateTime) (file : Rs.C.ZipFile Gen.ZipFileData) (name : Bytes) (chunks : List Bytes)

def VCall.toCall : VCall → Call
  | .base c => WriterCompose.toCall c
  | .rawCopyChunks _ file n chunks => .rawCopy (dataOf file.data) chunks.flatten n

def vstep (ext : Rs.S.Ext) (c : VCall) (g : Gen.ZipWriter) : M (Except ZErr (Option Nat) × Gen.ZipWriter) :=
  match c with
  | .base c => gstep ext c g
  | .rawCopyChunks now file n _ =>
    okMap (fun _ => none) <$> Rs.S.run (Gen.ZipWriter.raw_copy_file_rename ext now g file n)

/-- the side conditions of one call (those of `grun_sim`; for a chunked copy: the reader delivers the chunks, the
stream is not longer than the entry's `compressed_size` - the raw reader is an `io::Take` of that limit) -/
def VFits (ext : Rs.S.Ext) (g : Gen.ZipWriter) (c : VCall) (d : Dev) : Prop :=
  match c with
  | .base c => Fits g c ∧ DevFits ext g c none d
  | .rawCopyChunks _ file n chunks => Sized g ∧ n.length < 18446744073709551616 ∧ Delivers file.raw chunks ∧
      chunks.flatten.length ≤ file.data.compressed_size.toNat

theorem vstep_sim (ext : Rs.S.Ext) (ha : AccOk ext.accept) (c : VCall) (g : Gen.ZipWriter) (hI : Inv (absW g))
    (hadm : c.toCall.Admissible) (d d2 : Dev) (hfit : VFits ext g c d) (hv : SameView d d2) :
    (vstep ext c g none d).1 = .panic Rs.S.OVF ∨
      (eraseOut ((absRO <$> vstep ext c g) none d).1 = eraseOut (step ext.toWExt c.toCall (absW g) none d2).1 ∧
        SameView (vstep ext c g none d).2 (step ext.toWExt c.toCall (absW g) none d2).2) := by
  obtain ⟨o, e, e2, h1, h2, hv2⟩ := (vinv_step ext.toWExt c.toCall (absW g)).run d d2 hv
  cases c with
  | base c =>
    rcases step_sim ext ha c g hI hadm hfit.1 none d hfit.2 with h | ⟨h, _⟩
    · exact Or.inl h
    · right
      have h1' : step ext.toWExt (WriterCompose.toCall c) (absW g) none d = (o, e) := h1
      simp only [erase, h1', Prod.mk.injEq] at h
      rw [show step ext.toWExt (VCall.toCall (.base c)) (absW g) none d2 = (o, e2) from h2]
      refine ⟨h.1, ?_⟩
      have hdev : ((absRO <$> gstep ext c g) none d).2 = (gstep ext c g none d).2 := by rw [map_apply]
      show SameView (gstep ext c g none d).2 e2
      rw [← hdev, h.2]
      exact hv2
  | rawCopyChunks now file n chunks =>
    obtain ⟨hs, hn, hraw, hlen⟩ := hfit
    have hto : TimeOk (dataOf file.data).time := hadm
    rcases raw_copy_any_chunking ext ha now g hI file n chunks hs.last hn hto hraw hlen d with h | ⟨ho, hb, hp⟩
    · left
      show ((okMap (fun _ => none) <$> Rs.S.run (Gen.ZipWriter.raw_copy_file_rename ext now g file n)) none d).1 = _
      rw [map_apply, h]
    · right
      have h1' : mapStep (fun _ => none) (rawCopy ext.toWExt (dataOf file.data) chunks.flatten n) (absW g) none d =
          (o, e) := h1
      rw [show step ext.toWExt (VCall.toCall (.rawCopyChunks now file n chunks)) (absW g) none d2 = (o, e2) from h2]
      rw [mapStep_eq, Model.M.bind_apply] at h1'
      show eraseOut ((absRO <$> (okMap (fun _ => none) <$>
          Rs.S.run (Gen.ZipWriter.raw_copy_file_rename ext now g file n))) none d).1 = eraseOut o ∧
        SameView ((okMap (fun _ => none) <$>
          Rs.S.run (Gen.ZipWriter.raw_copy_file_rename ext now g file n)) none d).2 e2
      simp only [map_apply] at ho ⊢
      rcases hx : Rs.S.run (Gen.ZipWriter.raw_copy_file_rename ext now g file n) none d with ⟨ox, dx⟩
      rcases hy : rawCopy ext.toWExt (dataOf file.data) chunks.flatten n (absW g) none d with ⟨oy, dy⟩
      rw [hx] at ho hb hp
      rw [hy] at ho hb hp h1'
      simp only at ho hb hp h1' ⊢
      have hview : SameView dx e2 := by
        have he : e = dy := by
          cases oy <;> simp only [Model.M.pure_apply, Prod.mk.injEq] at h1' <;> exact h1'.2.symm
        subst he
        exact ⟨by rw [hv2.1, hb], by rw [hv2.2, hp]⟩
      refine ⟨?_, hview⟩
      rcases eraseOut_eq ho with e | ⟨s, s', e1, e2⟩
      · subst e
        cases ox <;> simp only [Model.M.pure_apply, Prod.mk.injEq] at h1' <;> rw [← h1'.1] <;>
          simp only [eraseOut, absRO, absR, okMap]
      · subst e2
        simp only [Prod.mk.injEq] at h1'
        rw [← h1'.1]
        cases ox with
        | ok a => cases e1
        | err z => cases e1
        | panic z => simp only [eraseOut]

/-- Run a sequence of covered calls on the GENERATED methods, fault-free (the shape of `grun` at `fa = none`). -/
def vrun (ext : Rs.S.Ext) : List VCall → Gen.ZipWriter → Dev → List (Out (Option Nat)) × Gen.ZipWriter × Dev
  | [], g, d => ([], g, d)
  | c :: cs, g, d =>
    match vstep ext c g none d with
    | (.ok (.ok v, g'), d') =>
      let r := vrun ext cs g' d'
      (.ok v :: r.1, r.2)
    | (.ok (.error e, g'), d') =>
      let r := vrun ext cs g' d'
      (.err e :: r.1, r.2)
    | (.err e, d') =>
      let r := vrun ext cs g d'
      (.err e :: r.1, r.2)
    | (.panic site, d') => ([.panic site], g, d')

def VFitsRun (ext : Rs.S.Ext) : List VCall → Gen.ZipWriter → Dev → Prop
  | [], _, _ => True
  | c :: cs, g, d =>
    VFits ext g c d ∧
    match vstep ext c g none d with
    | (.ok (_, g'), d') => VFitsRun ext cs g' d'
    | (.err _, d') => VFitsRun ext cs g d'
    | (.panic _, _) => True

theorem vrun_sim (ext : Rs.S.Ext) (ha : AccOk ext.accept) (calls : List VCall)
    (hadm : ∀ c ∈ calls, c.toCall.Admissible) :
    ∀ (g : Gen.ZipWriter), Inv (absW g) → ∀ (d d2 : Dev), SameView d d2 → VFitsRun ext calls g d →
      Out.panic Rs.S.OVF ∈ (vrun ext calls g d).1 ∨
      ((vrun ext calls g d).1.map eraseOut =
          (runCalls ext.toWExt (calls.map VCall.toCall) (absW g) none d2).1.map eraseOut ∧
        absW (vrun ext calls g d).2.1 = (runCalls ext.toWExt (calls.map VCall.toCall) (absW g) none d2).2.1 ∧
        SameView (vrun ext calls g d).2.2 (runCalls ext.toWExt (calls.map VCall.toCall) (absW g) none d2).2.2) := by
  induction calls with
  | nil => intro g _ d d2 hv _; right; exact ⟨rfl, rfl, hv⟩
  | cons c cs ih =>
    intro g hI d d2 hv hfits
    have ih' := ih (fun c' h' => hadm c' (by simp [h']))
    obtain ⟨hfit, hrest⟩ := hfits
    have hc := hadm c (by simp)
    have hsim := vstep_sim ext ha c g hI hc d d2 hfit hv
    have hinv := inv_step ext.toWExt c.toCall hc (absW g) hI none d2
    unfold Model.Sat at hinv
    simp only [List.map_cons, vrun, runCalls]
    rcases hx : vstep ext c g none d with ⟨o, d1⟩
    rw [hx] at hrest
    rcases hsim with hsim | ⟨hsim, hview⟩
    · left
      rw [hx] at hsim
      simp only at hsim
      subst hsim
      simp only [List.mem_singleton]
    · rw [map_apply, hx] at hsim
      rw [hx] at hview
      rcases hy : step ext.toWExt c.toCall (absW g) none d2 with ⟨o', d2'⟩
      rw [hy] at hsim hinv hview
      simp only at hsim hview
      rcases eraseOut_eq hsim with e | ⟨s, s', e1, e2⟩
      · subst e
        cases o with
        | ok r =>
          obtain ⟨r, g'⟩ := r
          simp only [absRO] at hinv hrest ⊢
          rcases ih' g' hinv d1 d2' hview hrest with h | ⟨h1, h2, h3⟩
          · left; cases r <;> exact List.mem_cons_of_mem _ h
          · right; cases r <;> exact ⟨by simp only [List.map_cons, h1], h2, h3⟩
        | err e => exact hinv.elim
        | panic s => right; exact ⟨rfl, rfl, hview⟩
      · subst e2
        cases o with
        | ok r => cases e1
        | err e => cases e1
        | panic s => right; exact ⟨rfl, rfl, hview⟩

end ZipVerif.Tie.WriterCompose
