import ZipVerif.Gen.ReadStream
import ZipVerif.Tie.Drain
import ZipVerif.Tie.Parsers
/-
Tie obligations for `ZipStreamReader::visit` and `parse_central_directory` (src/read/stream.rs; translator tier T6,
HANDLE mode `rs2lean/src/t6r3.rs`, vocabulary `Basic/RsH.lean`), THE VISITOR A PARAMETER
(`Rs.Visitor`: the two callbacks as arbitrary `M`-computations over the visitor's state).

`tie_visit` is an equation `Gen.ZipStreamReader.visit vis ext fuel v = visitModel vis ext fuel v`.  Its right-hand side
is NOT a definition of `Model/`: `fileRound`, `centralRound` and `visitModel` are defined here, over the translated
handle `Gen.ZipFile`, and still call the translated `Gen.read_zipfile_from_stream` (tied to `Model.streamHeader` by
`Tie/StreamGlue`) and `Gen.central_header_to_zip_file_inner` (tied to `centralHeaderInner` by `Tie/Parsers`).  They
differ from the translation in what happens to the handle: `file.drain_stream()?` is `Drain.drainModel`
(`attempt (retried (drainE rem))`, by `tie_drain_stream`), the `Drop` after a visitor's `Err` is `Drain.dropModel` (the
silent `retried (drain rem)`, by `tie_drop`), and the `Drop` at the end of a round is gone: it finds nothing left
(`drop_noop`, `drainModel_noMore`).  This is the shape of `Model.visitFile` / `visitEntry` / `streamCentralLoop`
(Model/Reader.lean), for EVERY visitor.

Hypothesis `VisOk vis fuel` (about the visitor, explicit): the handle a `visit_file` callback gives back satisfies the
handle invariant "pending decryption layer XOR built reader" (a real visitor can only call the handle's public
methods, which keep it) and the limit of its `Take` is below the fuel.  What is NOT done here: instantiating the visitor
with the model's consumer (`Consume`: `takeLoop c.chunk p p` + `Ext.consume`) to obtain `streamVisitC` itself
(`Tie/VisitC.lean`), and the
`Interrupted` retry inside `read_exact` of the header / central reads (the READ-mode vocabulary `M.readExact` models
every failure as a hard one; `Model.visitFile` wraps them in `retried`): on devices that fail with another kind, and on
failure-free runs, `retried` is the identity (`M.retried_hard`).
-/
open ZipVerif ZipVerif.Model ZipVerif.Tie.Drain

namespace ZipVerif.Tie.Visit

abbrev GExt := Rs.ReadExt Gen.ZipCryptoValidator Gen.AesMode
abbrev Vis (V : Type) := Rs.Visitor V Gen.ZipFile Gen.ZipFileData

/-- nothing is left to drain: the handle borrows its entry, or its `Take` is gone -/
def NoMore (z : Gen.ZipFile) : Prop := (∃ a, z.data = .Borrowed a) ∨ innerTake z = none

/-- the handle invariant `by_index*` / `read_zipfile_from_stream` establish and the handle's own methods keep: a
pending decryption layer XOR a built reader -/
def HandleOk (z : Gen.ZipFile) : Prop := z.reader = .NoReader ∨ z.crypto_reader = none

/-- What the Tie asks of a visitor: the handle it gives back satisfies the handle invariant (a real visitor can only
call the handle's public methods) and its `Take` is within the fuel: `limit + 2` is the bound of `Drain.loop_retried`
(`limit` rounds that read, the round that breaks, one round lost to a retried `Interrupted`). -/
def VisOk {V : Type} (vis : Vis V) (fuel : Nat) : Prop :=
  ∀ v f fa d r v' f' d', vis.visit_file v f fa d = (.ok (r, v', f'), d') →
    HandleOk f' ∧ ∀ t, innerTake f' = some t → t.limit.toNat + 2 ≤ fuel

theorem drop_noop (fuel : Nat) (z : Gen.ZipFile) (h : NoMore z) : Gen.ZipFile.drop fuel z = pure z := by
  unfold Gen.ZipFile.drop
  dsimp only
  rcases h with ⟨a, ha⟩ | h
  · obtain ⟨data, cr, rd⟩ := z
    cases ha
    rfl
  · rw [drain_stream_drained fuel z h]
    rfl

theorem drainModel_noMore {z z' : Gen.ZipFile} (hz : HandleOk z) {fa : Option Nat} {d d' : Dev} {r : Except ZErr Unit}
    (h : drainModel z fa d = (.ok (r, z'), d')) : NoMore z' := by
  cases hd : z.data with
  | Borrowed a =>
    unfold drainModel at h
    rw [hd] at h
    cases h
    exact Or.inl ⟨a, hd⟩
  | Owned a =>
    cases ht : innerTake z with
    | none =>
      unfold drainModel at h
      rw [hd, ht] at h
      cases h
      exact Or.inr ht
    | some t =>
      rw [drainModel_owned hd ht, M.bind_apply] at h
      rcases hx : M.attempt (M.retried (drainE t.limit.toNat)) fa d with ⟨_ | _ | _, d1⟩ <;> rw [hx] at h <;> cases h
      exact Or.inr (innerTake_drained z hz)

/-- The body of the first loop of `visit`: `None` from `read_zipfile_from_stream` ends the loop; else the visitor;
when it returns `Err` the handle is dropped and the error is `visit`'s; otherwise `drain_stream`, a read error
RETURNED. -/
def fileRound {V : Type} (vis : Vis V) (ext : GExt) (v : V) : M (Rs.Step V (Unit × V)) := do
  let h ← Gen.read_zipfile_from_stream ext
  match h with
  | none => pure (.brk v)
  | some file => do
    let (r, v', file') ← vis.visit_file v file
    match r with
    | .error e => do
      let _ ← dropModel file'
      M.throw e
    | .ok _ => do
      let (r2, _) ← drainModel file'
      match r2 with
      | .error e => M.throw e
      | .ok _ => pure (.next v')

theorem tie_visit_file_round {V : Type} (vis : Vis V) (ext : GExt) (fuel : Nat) (hv : VisOk vis fuel) (v : V) :
    Gen.ZipStreamReader.visit.loop1_body vis ext fuel v = fileRound vis ext v := by
  funext fa d
  refine M.bind_congr_at fun h d1 _ => ?_
  cases h with
  | none => rfl
  | some file =>
    refine M.bind_congr_at fun ⟨r, v', f'⟩ d2 h2 => ?_
    obtain ⟨hok, hfuel⟩ := hv v file fa d1 r v' f' d2 h2
    cases r with
    | error e =>
      show (Gen.ZipFile.drop fuel f' >>= fun _ => M.throw e) fa d2 = _
      rw [tie_drop fuel f' hfuel]
    | ok u =>
      show (Gen.ZipFile.drain_stream fuel f' >>= _) fa d2 = _
      rw [tie_drain_stream fuel f' hfuel]
      refine M.bind_congr_at fun ⟨r2, z'⟩ d3 h3 => ?_
      have hnm := drainModel_noMore hok h3
      cases r2 with
      | error e =>
        show (Gen.ZipFile.drop fuel z' >>= fun _ => M.throw e) fa d3 = _
        rw [drop_noop fuel z' hnm]
        rfl
      | ok u =>
        show (Gen.ZipFile.drop fuel z' >>= fun _ => pure (Rs.Step.next v')) fa d3 = _
        rw [drop_noop fuel z' hnm]
        rfl

/-- The body of the second loop of `visit` (`parse_central_directory` inlined): the next signature; anything but the
central signature ends the loop; else the rest of the record, then the visitor, whose error is `visit`'s. -/
def centralRound {V : Type} (vis : Vis V) (v : V) : M (Rs.Step V (Unit × V)) := do
  let sig ← M.readU32
  if sig != Gen.CENTRAL_DIRECTORY_HEADER_SIGNATURE then pure (.brk v) else do
    let m ← Gen.central_header_to_zip_file_inner 0 0
    let (r, v') ← vis.visit_additional_metadata v m
    match r with
    | .error e => M.throw e
    | .ok _ => pure (.next v')

theorem tie_visit_central_round {V : Type} (vis : Vis V) (ext : GExt) (fuel : Nat) (v : V) :
    Gen.ZipStreamReader.visit.loop2_body vis ext fuel v = centralRound vis v := by
  unfold Gen.ZipStreamReader.visit.loop2_body centralRound Gen.ZipStreamReader.parse_central_directory
  rw [bind_assoc]
  refine bind_congr fun sig => ?_
  dsimp only
  split
  · rfl
  · rw [bind_assoc]
    refine bind_congr fun m => ?_
    rw [pure_bind]
    refine bind_congr fun x => ?_
    rcases x with ⟨_ | _, v'⟩ <;> rfl

/-- **`ZipStreamReader::visit`**: the `visit_file` rounds until `read_zipfile_from_stream` has consumed the central
directory's signature; the rest of the FIRST central record and its callback; the further records, each once, until
another signature: the shape of `Model.streamVisitC` (`visitEntries`, then `visitCentral`). -/
def visitModel {V : Type} (vis : Vis V) (ext : GExt) (fuel : Nat) (v : V) : M (Unit × V) := do
  let e1 ← Rs.H.loop (fileRound vis ext) fuel v
  match e1 with
  | .ret r => pure r
  | .done v1 => do
    let first ← Gen.central_header_to_zip_file_inner 0 0
    let (r, v2) ← vis.visit_additional_metadata v1 first
    match r with
    | .error e => M.throw e
    | .ok _ => do
      let e2 ← Rs.H.loop (centralRound vis) fuel v2
      match e2 with
      | .ret r => pure r
      | .done v3 => pure ((), v3)

theorem tie_visit {V : Type} (vis : Vis V) (ext : GExt) (fuel : Nat) (hv : VisOk vis fuel) (v : V) :
    Gen.ZipStreamReader.visit vis ext fuel v = visitModel vis ext fuel v := by
  have e1 : Gen.ZipStreamReader.visit.loop1_body vis ext fuel = fileRound vis ext :=
    funext (tie_visit_file_round vis ext fuel hv)
  have e2 : Gen.ZipStreamReader.visit.loop2_body vis ext fuel = centralRound vis :=
    funext (tie_visit_central_round vis ext fuel)
  unfold Gen.ZipStreamReader.visit visitModel
  rw [e1, e2]
  refine bind_congr fun le => ?_
  cases le with
  | ret r => rfl
  | done v1 =>
    refine bind_congr fun first => bind_congr fun ⟨r, v2⟩ => ?_
    cases r with
    | error e => rfl
    | ok u =>
      refine bind_congr fun le2 => ?_
      cases le2 <;> rfl

end ZipVerif.Tie.Visit
