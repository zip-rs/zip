import ZipVerif.Gen.TypesTime
import ZipVerif.Tie.DateTime
/-
Tie obligations for the conversions between `zip::DateTime` and `time::OffsetDateTime` (types.rs, feature `time`):
`DateTime::to_time`, `impl TryFrom<OffsetDateTime> for DateTime`, and `DateTime::default`; tier T6, LAYER mode of
rs2lean; vocabulary `Basic/RsTime.lean`.  `rs2lean` prints all three in `Gen/TypesTime.lean` from the source: the
year window `>= 1980 && <= 2107`, the field extraction with its casts, `Month::try_from(self.month)?`,
`Date::from_calendar_date(self.year as i32, .., self.day)?`, `Time::from_hms(..)?`,
`PrimitiveDateTime::new(date, time).assume_utc()`.

* `tie_to_time`: `to_time` = `Model.DateTime.toTimeO` (hence `toTime`): `Ok` of the six fields with offset UTC and
  nanosecond 0 exactly when the model's calendar accepts them, `Err(ComponentRange)` otherwise; never a panic.
* `tie_try_from`: `try_from` = `Model.DateTime.tryFromO` (hence `tryFromCal`): `Err(DateTimeRangeError)` outside
  1980..=2107, the truncated fields inside; the offset and the nanoseconds are not looked at.
* `tie_default`: `DateTime::default()` = `Model.DateTime.default`.

The `time` crate's calendar is the NAMED PARAMETER `Rs.TimeOps` of the generated code, instantiated here (`timeOps`)
with the calendar of `Model/DateTime.lean`: `Date::from_calendar_date` accepts exactly `Cal.dateValid` (year within
±9999, month 1..12, day 1..`Spec.Dos.daysInMonth`), `Time::from_hms` exactly `Cal.timeValid`; an `OffsetDateTime` is
an `OCal` (wall-clock fields in its own offset, nanoseconds, offset), `assume_utc` gives offset 0 and nanosecond 0 -
what the `dos.dim` / `dos.totime` / `off2` correspondence ops compare with the `time` crate.  Trusted besides:
`Month` is its number (`Basic/RsTime.lean`).  Hypothesis of `tie_try_from`: the year fits `i32` (the type of
`OffsetDateTime::year()`; the `time` crate's years are within ±999999).
-/

namespace ZipVerif.Tie.TimeConv
open ZipVerif ZipVerif.Model ZipVerif.Tie.DateTime

/-- the parameter `Rs.TimeOps` of the generated code := the calendar of `Model/DateTime.lean` -/
@[instance_reducible] def timeOps : Rs.TimeOps where
  Date := Int × Nat × Nat
  Time := Nat × Nat × Nat
  PrimitiveDateTime := Cal
  OffsetDateTime := OCal
  from_calendar_date y m d :=
    if (Cal.mk y.toInt m.n.toNat d.toNat 0 0 0).dateValid then .ok (y.toInt, m.n.toNat, d.toNat) else .error {}
  from_hms h m s :=
    if (Cal.mk 0 0 0 h.toNat m.toNat s.toNat).timeValid then .ok (h.toNat, m.toNat, s.toNat) else .error {}
  pdt_new d t := ⟨d.1, d.2.1, d.2.2, t.1, t.2.1, t.2.2⟩
  assume_utc c := ⟨c, 0, 0⟩
  year o := Int32.ofInt o.cal.year
  month o := ⟨UInt8.ofNat o.cal.month⟩
  day o := UInt8.ofNat o.cal.day
  hour o := UInt8.ofNat o.cal.hour
  minute o := UInt8.ofNat o.cal.minute
  second o := UInt8.ofNat o.cal.second

theorem tie_default : Gen.DateTime.default = some (ofModel DateTime.default) := rfl

/-! ### `to_time` -/

theorem u16_as_i32 (x : UInt16) : (Rs.as' Int32 x).toInt = x.toNat := by
  show (x.toUInt32.toInt32).toInt = x.toNat
  have h := x.toNat_lt
  have e : x.toUInt32.toNat = x.toNat := UInt16.toNat_toUInt32 x
  unfold Int32.toInt
  rw [UInt32.toBitVec_toInt32, BitVec.toInt]
  simp only [UInt32.toNat_toBitVec, e]
  omega

theorem valid_split (c : Cal) : c.valid = (c.dateValid && c.timeValid) := by
  simp only [Cal.valid, Cal.dateValid, Cal.timeValid, Bool.and_assoc]

/-- `Month::try_from` refuses exactly the months the calendar refuses -/
theorem month_try_from (x : DateTime) (h : ¬ (1 ≤ x.month ∧ x.month ≤ 12)) : x.cal.dateValid = false := by
  rw [Bool.eq_false_iff]
  intro hv
  simp only [Cal.dateValid, DateTime.cal, Bool.and_eq_true] at hv
  apply h
  have h1 : 1 ≤ x.month.toNat := of_decide_eq_true hv.1.2.1
  have h2 : x.month.toNat ≤ 12 := of_decide_eq_true hv.1.2.2
  constructor
  · rw [UInt8.le_iff_toNat_le]; exact h1
  · rw [UInt8.le_iff_toNat_le]; exact h2

theorem from_calendar_date_eq (x : Gen.DateTime) :
    @Rs.TimeOps.from_calendar_date timeOps (Rs.as' Int32 x.year) ⟨x.month⟩ x.day =
      if (toModel x).cal.dateValid then .ok ((x.year.toNat : Int), x.month.toNat, x.day.toNat) else .error {} := by
  show (if (Cal.mk (Rs.as' Int32 x.year).toInt x.month.toNat x.day.toNat 0 0 0).dateValid then _ else _) = _
  rw [u16_as_i32]
  rfl

theorem from_hms_eq (x : Gen.DateTime) :
    @Rs.TimeOps.from_hms timeOps x.hour x.minute x.second =
      if (toModel x).cal.timeValid then .ok (x.hour.toNat, x.minute.toNat, x.second.toNat) else .error {} := rfl

theorem tie_to_time (x : Gen.DateTime) :
    @Gen.DateTime.to_time timeOps x =
      some (match (toModel x).toTimeO with
        | some o => Except.ok o
        | none => Except.error {}) := by
  unfold Gen.DateTime.to_time DateTime.toTimeO DateTime.toTime
  simp only [Id.run, Rs.L.id_pure, Rs.L.id_bind, Rs.Month.try_from, valid_split]
  by_cases hm : 1 ≤ x.month ∧ x.month ≤ 12
  · rw [if_pos hm]
    simp only [from_calendar_date_eq, from_hms_eq]
    cases h1 : (toModel x).cal.dateValid
    · rfl
    · cases h2 : (toModel x).cal.timeValid <;> rfl
  · rw [if_neg hm, month_try_from (toModel x) hm]
    rfl

/-! ### `try_from` -/

theorem i32_ge (y : Int) (h1 : -2 ^ 31 ≤ y) (h2 : y < 2 ^ 31) (k : Nat) (hk : (k : Int) < 2 ^ 31) :
    (Int32.ofInt y ≥ Int32.ofInt k ↔ (k : Int) ≤ y) ∧ (Int32.ofInt y ≤ Int32.ofInt k ↔ y ≤ (k : Int)) := by
  have e1 := Int32.toInt_ofInt_of_le h1 h2
  have e2 : (Int32.ofInt (k : Int)).toInt = k := Int32.toInt_ofInt_of_le (by omega) hk
  constructor
  · show Int32.ofInt k ≤ Int32.ofInt y ↔ _
    rw [Int32.le_iff_toInt_le, e1, e2]
  · rw [Int32.le_iff_toInt_le, e1, e2]

theorem i32_as_u16 (y : Int) (h1 : 0 ≤ y) (h2 : y < 2 ^ 31) :
    Rs.as' UInt16 (Int32.ofInt y) = UInt16.ofNat y.toNat := by
  show (Int32.ofInt y).toUInt32.toUInt16 = UInt16.ofNat y.toNat
  apply UInt16.toNat_inj.mp
  rw [UInt32.toNat_toUInt16, UInt16.toNat_ofNat']
  have : (Int32.ofInt y).toUInt32.toNat = y.toNat := by
    rw [← UInt32.toNat_toBitVec, Int32.toBitVec_toUInt32, Int32.toBitVec_ofInt, BitVec.toNat_ofInt]
    omega
  rw [this]

theorem tie_try_from (o : OCal) (h1 : -2 ^ 31 ≤ o.cal.year) (h2 : o.cal.year < 2 ^ 31) :
    @Gen.DateTime.try_from timeOps o =
      some (match DateTime.tryFromO o with
        | some x => Except.ok (ofModel x)
        | none => Except.error {}) := by
  unfold Gen.DateTime.try_from DateTime.tryFromO DateTime.tryFromCal
  simp only [Id.run, Rs.L.id_pure]
  show (if (decide (Int32.ofInt o.cal.year ≥ Int32.ofInt (1980 : Nat)) && decide (Int32.ofInt o.cal.year ≤ Int32.ofInt (2107 : Nat))) = true
      then some (Except.ok (Gen.DateTime.mk (Rs.as' UInt16 (Int32.ofInt o.cal.year)) _ _ _ _ _)) else _) = _
  have hb : (decide (Int32.ofInt o.cal.year ≥ Int32.ofInt (1980 : Nat)) && decide (Int32.ofInt o.cal.year ≤ Int32.ofInt (2107 : Nat))) =
      decide (1980 ≤ o.cal.year ∧ o.cal.year ≤ 2107) := by
    rw [Bool.eq_iff_iff]
    simp only [Bool.and_eq_true, decide_eq_true_eq]
    rw [(i32_ge _ h1 h2 1980 (by decide)).1, (i32_ge _ h1 h2 2107 (by decide)).2]
    rfl
  rw [hb]
  by_cases hy : 1980 ≤ o.cal.year ∧ o.cal.year ≤ 2107
  · rw [if_pos hy, i32_as_u16 _ (by omega) h2]
    simp only [hy, decide_true, if_true]
    rfl
  · rw [if_neg hy]
    simp only [hy, decide_false, Bool.false_eq_true, if_false]

example : DateTime.tryFromO ⟨⟨2024, 2, 29, 23, 59, 58⟩, 5, 3600⟩ = some ⟨2024, 2, 29, 23, 59, 58⟩ ∧
    (DateTime.mk 2024 2 29 23 59 58).toTimeO = some ⟨⟨2024, 2, 29, 23, 59, 58⟩, 0, 0⟩ ∧
    (DateTime.mk 2100 2 29 0 0 0).toTimeO = none ∧ DateTime.tryFromO ⟨⟨2108, 1, 1, 0, 0, 0⟩, 0, 0⟩ = none := by decide +kernel

end ZipVerif.Tie.TimeConv
