import ZipVerif.Tie.WriterSM
import ZipVerif.Tie.RawCopy
import ZipVerif.Tie.AlignedDev
import ZipVerif.Tie.WriteAcc
import ZipVerif.Tie.RawCopyAcc
import ZipVerif.Props.C12
/-
COMPOSITION of the step-wise writer ties (`Tie/WriterSM.lean`) with the writer invariant
(`Lemmas/WriterSat.lean`: `Inv`, `inv_init`; `Props/C12.lean`: `inv_step`, `Call.Admissible`).

`Tie/WriterSM.lean` ties each translated `&mut self` method of `ZipWriter` to the model's step under
hypotheses on the object it is called on.  Those hypotheses are of three kinds; this module discharges the
first two and makes the third an explicit, per-step side condition of a SCRIPT-LEVEL theorem:

  (1) consequences of the writer invariant - `writing_to_file → files ≠ []` (`tie_write`, `sim_write_all`),
      the DOS-representable time of every recorded entry (`FileOK`, second half; `sim_finalize`, `sim_finish`,
      `sim_drop`).  `hinv_of_inv`, `fileOK_of_inv`: from `Inv (absW g)`.
  (2) consequences of `Call.Admissible` - the DOS-representable time of the entry a call creates
      (`htime` of `sim_start_entry`, `sim_start_file`, …).  `htime_of_admissible`.
  (3) where the model counts in `Nat` and the source in `u64` / `usize` (`Fits g c`): the lengths of the
      object's `Vec`s and of the call's slices are Rust-representable (`≤ isize::MAX`, resp. `< 2^64`), the
      open entry's `data_start + extra_field.len()` and `header_start + 34 + file_name.len()` fit `u64`,
      `bytes_written + buf.len()` fits `u64`.  None of these follows from `Inv` (the model has no bounds);
      all of them hold of every value a Rust program can hold on a sink below 2^63 bytes.

`step_sim` is the tie of ONE call of the covered alphabet `GCall`: the generated method the call runs (`gstep`) against
the model's dispatch `Props.C12.step` of the mapped call, in `SimAt` form (the statement of `Sim` at one fault index
and device).  `grun_sim` folds it over a list of calls from any object with the invariant (`grun_sim_fresh`: from
`fresh`, the value of `ZipWriter::new`, `absW fresh = WState.init`), the side conditions (3) holding before every call
(`FitsRun`): the generated run either stops with `OVF` or has the per-call outcomes, final object and final device of
`Props.C12.runCalls`.  `grun_no_panic` transfers `Props.C12.writer_no_panic` through it, as an example.

So the archive-level theorems of Props/C01, C02, C12 - stated about `runCalls ext calls WState.init fa d` - are,
for `calls = cs.map toCall`, statements about the run of the translated methods `grun ext cs fresh fa d`.

COVERED calls (the methods are translated, `Gen/Writer.lean`): start_file, start_file_with_extra_data, write
(`write_all`), end_local_start_central_extra_data, end_extra_data, add_directory, add_symlink, set_comment,
finish, drop, raw_copy_file_rename from a source whose raw reader delivers the entry in ONE read
(`GCall.rawCopy`, `Tie/RawCopyAcc.sim_raw_copy_one_acc`: an entry of at most 8 KiB; a longer copy is several sink writes in
the source and one in the model's `Call.rawCopy` - equal on a fault-free sink, `raw_copy_chunking_invisible`, but not
under every fault index, so it is not a covered call), and start_file_aligned (`GCall.startFileAligned`,
`Tie/AlignedDev.sim_start_file_aligned_at`): its tie holds on the runs that satisfy a POSITION BOUND - the sink
position after the new entry's local header is at most 2^64 - 65540 (`AlignedDev.PosBound`, stated on the model's
run; the source adds the pad and the extra-field length to that position in checked `u64`) -, so `step_sim` is a
statement at ONE fault index and device (`SimAt`) and the bound is the per-step side condition `DevFits` of
`FitsRun` (`True` for every other call).  Scripts that start from `ZipWriter::new_append` instead of
`new`: `Tie/AppendCompose.lean` (`inv_new_append`, `append_grun_sim`).

The vocabulary `Rs.S.switch_to` the generated methods call is PROVED equal to the translated
`GenericZipWriter::switch_to` (`Tie/SwitchTo.lean`), `Rs.S.zc_finish` is linked with the translated
`ZipCryptoWriter::finish` (`Tie/ZcFinish.lean`).

The arguments of a `GCall` are generated values (`Gen.FileOptions`); `toCall` maps them with `optOf`.  The model's
alphabet is larger (compression levels outside `i32`): those calls have no Rust counterpart.

ASSUMED here (beside the vocabulary of `Tie/WriterSM.lean`): `AccOk ext.accept` - the encoder's `write` takes at
most what it is offered and never answers `Ok(0)` to a non-empty buffer (`WriteZero` for `write_all`); NOT
assumed: `ext.accept b = b.length`.  The model's `Call.write` is `write_all` over an encoder that
takes everything; `Tie/WriteAcc.lean` proves the source's `write_all` loop over the translated `write` equal to it
for every such accept function (`sim_write_all_acc`, from `WriterSM.sim_write_all_gw` - the loop is
`GW.writeAllLoop ext.accept`, the one-call tie `tie_write_acc` iterated - and `writeData_acc_M`), with ONE exception that is a per-step side condition of `.write`
(`NoRefusal` in `ArgFits`): an entry that crosses 4 GiB without `large_file` WHILE an encoder is in front of the
sink - both sides refuse, but the source after the chunk that crossed the limit, the model after the whole buffer
(different byte counter / CRC register in the closed writer: `Lemmas/ShortWrite.Refusal`).  `add_symlink` and
`start_file_aligned` and `raw_copy_file_rename` write through a storer / into the extra field, where the accept
function is not consulted (`sim_add_symlink_acc`, `AlignedDev.sim_wr`, `Tie/RawCopyAcc.sim_raw_copy_one_acc`).
Raw copies of SEVERAL chunks: `Tie/RawCopyAcc.raw_copy_any_chunking` - on a fault-free sink the translated method
has the outcome, final state, sink bytes and position of `Call.rawCopy` of the whole stream for ANY chunking; the
two devices differ in the I/O call counter, so it is not a covered call of `grun_sim` (equal devices, every fault
index) but of the fault-free script tie `Tie/WriterComposeView.vrun_sim` (devices compared by bytes and position);
`dropFields`: what dropping the fields of a `ZipWriter` does after `Drop::drop` returned (flate2 / bzip2
encoders finish into the sink from their destructors) is the model's `dropInner` - external code;
`fresh` is the struct literal of `ZipWriter::new` written by hand (`new` is not translated).
-/
set_option linter.unusedSimpArgs false
set_option linter.unusedVariables false

namespace ZipVerif.Tie.WriterCompose
open ZipVerif ZipVerif.Model ZipVerif.Tie.Records ZipVerif.Tie.WriterSM
open ZipVerif.Props.C12 (Call step runCalls mapStep inv_step)

/-- One public `ZipWriter` call whose method is translated, with generated argument values. -/
inductive GCall
  | startFile (name : Bytes) (o : Gen.FileOptions)
  | startFileWithExtraData (name : Bytes) (o : Gen.FileOptions)
  | write (buf : Bytes)
  | endLocalStartCentral
  | endExtraData
  | addDirectory (name : Bytes) (o : Gen.FileOptions)
  | addSymlink (name target : Bytes) (o : Gen.FileOptions)
  | setComment (c : Bytes)
  | finish
  | drop
  /-- `raw_copy_file_rename(file, name)` from a source entry whose raw reader delivers its bytes `raw` in ONE read
  (`now`: the wall clock `FileOptions::default()` reads and the method overwrites) -/
  | rawCopy (now : Gen.DateTime) (file : Rs.C.ZipFile Gen.ZipFileData) (name raw : Bytes)
  | startFileAligned (name : Bytes) (o : Gen.FileOptions) (align : UInt16)

def toCall : GCall → Call
  | .startFile n o => .startFile n (optOf o)
  | .startFileWithExtraData n o => .startFileWithExtraData n (optOf o)
  | .write b => .write b
  | .endLocalStartCentral => .endLocalStartCentral
  | .endExtraData => .endExtraData
  | .addDirectory n o => .addDirectory n (optOf o)
  | .addSymlink n t o => .addSymlink n t (optOf o)
  | .setComment c => .setComment c
  | .finish => .finish
  | .drop => .drop
  | .rawCopy _ file n raw => .rawCopy (dataOf file.data) raw n
  | .startFileAligned n o a => .startFileAligned n (optOf o) a

/-- the value `ZipWriter::new(sink)` builds -/
def fresh : Gen.ZipWriter :=
  { inner := Model.Inner.storer none, files := [],
    stats := { hasher := Rs.Hasher.new, start := 0, bytes_written := 0 },
    writing_to_file := false, writing_to_extra_field := false,
    writing_to_central_extra_field_only := false, writing_raw := false, comment := [] }

theorem absW_fresh : absW fresh = WState.init := rfl

theorem inv_fresh : Inv (absW fresh) := Model.inv_init

def okMap {α β σ : Type} (f : α → β) (r : Except ZErr α × σ) : Except ZErr β × σ := (r.1.map f, r.2)

/-- Dropping the fields of the object after `Drop::drop` returned (external: the encoders' destructors). -/
def dropFields (ext : WExt) (g : Gen.ZipWriter) : M (Except ZErr (Option Nat) × Gen.ZipWriter) :=
  match g.inner with
  | .compressor m l none pending =>
    if m == .deflated || m == .bzip2 then do
      let _ ← M.attempt (M.writeAll (ext.compress m l pending))
      pure (.ok none, { g with inner := .closed })
    else pure (.ok none, g)
  | _ => pure (.ok none, g)

/-- Dispatch of one covered call on the GENERATED methods; success carries the returned offset, if any. -/
def gstep (ext : Rs.S.Ext) (c : GCall) (g : Gen.ZipWriter) : M (Except ZErr (Option Nat) × Gen.ZipWriter) :=
  match c with
  | .startFile n o => okMap (fun _ => none) <$> Rs.S.run (Gen.ZipWriter.start_file ext g n o)
  | .startFileWithExtraData n o =>
    okMap (fun v => some v.toNat) <$> Rs.S.run (Gen.ZipWriter.start_file_with_extra_data ext g n o)
  | .write b => okMap (fun _ => none) <$> Rs.S.run (Rs.S.write_all (Gen.ZipWriter.write ext) (b.length + 1) g b)
  | .endLocalStartCentral =>
    okMap (fun v => some v.toNat) <$> Rs.S.run (Gen.ZipWriter.end_local_start_central_extra_data ext g)
  | .endExtraData => okMap (fun v => some v.toNat) <$> Rs.S.run (Gen.ZipWriter.end_extra_data ext g)
  | .addDirectory n o => okMap (fun _ => none) <$> Rs.S.run (Gen.ZipWriter.add_directory ext g n o)
  | .addSymlink n t o => okMap (fun _ => none) <$> Rs.S.run (Gen.ZipWriter.add_symlink ext g n t o)
  | .setComment c => okMap (fun _ => none) <$> Rs.S.run (Gen.ZipWriter.set_comment ext g c)
  | .finish => okMap (fun _ => none) <$> Rs.S.run (Gen.ZipWriter.finish ext g)
  | .drop => Rs.S.run (Gen.ZipWriter.drop ext g) >>= fun p => dropFields ext.toWExt p.2
  | .rawCopy now file n _ =>
    okMap (fun _ => none) <$> Rs.S.run (Gen.ZipWriter.raw_copy_file_rename ext now g file n)
  | .startFileAligned n o a =>
    okMap (fun v => some v.toNat) <$> Rs.S.run (Gen.ZipWriter.start_file_aligned ext g n o a)

/-! ### (3) the `Nat` / `u64` side conditions -/

def LastFits (g : Gen.ZipWriter) : Prop :=
  ∀ f, g.files.getLast? = some f →
    f.extra_field.length ≤ 9223372036854775807 ∧
    f.data_start.toNat + f.extra_field.length < 18446744073709551616 ∧
    f.header_start.toNat + 34 + f.file_name.length < 18446744073709551616

structure Sized (g : Gen.ZipWriter) : Prop where
  last : LastFits g
  extras : ∀ f, f ∈ g.files → f.extra_field.length ≤ 9223372036854775807
  nfiles : g.files.length < 18446744073709551616
  comment : g.comment.length < 18446744073709551616

def ArgFits (g : Gen.ZipWriter) : GCall → Prop
  | .startFile n _ => n.length < 18446744073709551616
  | .startFileWithExtraData n _ => n.length < 18446744073709551616
  | .write b => b.length < 9223372036854775808 ∧
      g.stats.bytes_written.toNat + b.length < 18446744073709551616 ∧ NoRefusal g b
  | .addDirectory n _ => n.length + 1 < 18446744073709551616
  | .addSymlink n t _ => n.length < 18446744073709551616 ∧ t.length < 9223372036854775808
  | .rawCopy _ file n raw => n.length < 18446744073709551616 ∧ Delivers file.raw [raw]
  | .startFileAligned n _ _ => n.length < 18446744073709551616
  | _ => True

def Fits (g : Gen.ZipWriter) (c : GCall) : Prop := Sized g ∧ ArgFits g c

def DevFits (ext : Rs.S.Ext) (g : Gen.ZipWriter) (c : GCall) (fa : Option Nat) (d : Dev) : Prop :=
  match c with
  | .startFileAligned n o _ => AlignedDev.PosBound ext.toWExt n (optOf o) (absW g) fa d
  | _ => True

theorem sized_fresh : Sized fresh :=
  ⟨fun f h => (by cases h), fun f h => (by cases h), (by decide), (by decide)⟩

/-! ### (1), (2): the tie hypotheses that follow from `Inv` and `Call.Admissible` -/

theorem hinv_of_inv (g : Gen.ZipWriter) (hI : Inv (absW g)) : g.writing_to_file = true → g.files ≠ [] := by
  intro h hnil
  have := hI.fileFiles h
  simp only [absW, hnil, List.map_nil, ne_eq, not_true_eq_false] at this

theorem fileOK_of_inv (g : Gen.ZipWriter) (hI : Inv (absW g)) (hs : Sized g) : ∀ f, f ∈ g.files → FileOK f := by
  intro f hf
  refine ⟨hs.extras f hf, datepart_of_timeOk _ (hI.times (dataOf f) ?_)⟩
  simp only [absW, List.mem_map]
  exact ⟨f, hf, rfl⟩

theorem htime_of_admissible (c : GCall) (hc : (toCall c).Admissible) :
    match c with
    | .startFile _ o | .startFileWithExtraData _ o | .addDirectory _ o | .addSymlink _ _ o =>
      (Tie.DateTime.toModel o.last_modified_time).datepart ≠ none
    | .rawCopy _ file _ _ => (Tie.DateTime.toModel file.data.last_modified_time).datepart ≠ none
    | _ => True := by
  cases c <;> simp only [toCall, Call.Admissible] at hc ⊢
  · exact datepart_of_timeOk _ hc
  · exact datepart_of_timeOk _ hc.1
  · exact datepart_of_timeOk _ hc
  · exact datepart_of_timeOk _ hc
  · exact datepart_of_timeOk _ hc

theorem LastFits.extra {g : Gen.ZipWriter} (h : LastFits g) : ∀ f, g.files.getLast? = some f →
    f.extra_field.length ≤ 9223372036854775807 ∧
    f.data_start.toNat + f.extra_field.length < 18446744073709551616 ∧
    f.header_start.toNat + 28 < 18446744073709551616 := by
  intro f hf
  obtain ⟨h1, h2, h3⟩ := h f hf
  exact ⟨h1, h2, by omega⟩

def absRO (r : Except ZErr (Option Nat) × Gen.ZipWriter) : Except ZErr (Option Nat) × WState := (r.1, absW r.2)

theorem mapStep_eq {α β} (f : α → β) (st : Step α) (s : WState) :
    mapStep f st s = (st s >>= fun p => pure (p.1.map f, p.2)) := by
  unfold mapStep
  refine bind_congr fun p => ?_
  rfl

/-- a method tie becomes the tie of the dispatched call -/
theorem Sim.toStep {α α' : Type} {φ : Except ZErr α × Gen.ZipWriter → Except ZErr α' × WState}
    {P : Except ZErr α × Gen.ZipWriter → Prop} {X : M (Except ZErr α × Gen.ZipWriter)} {st : Step α'} {s : WState}
    (a : α → Option Nat) (a' : α' → Option Nat) (h : Sim φ P X (st s))
    (hφ : ∀ r, (φ r).2 = absW r.2 ∧ (φ r).1.map a' = r.1.map a) :
    Sim absRO (fun _ => True) (okMap a <$> X) (mapStep a' st s) := by
  rw [mapStep_eq, map_eq_pure_bind]
  refine Sim.bind h fun r _ => Sim.leaf ?_ trivial
  obtain ⟨h1, h2⟩ := hφ r
  simp only [absRO, okMap, h1, h2]

theorem absR_ok {α} (a : α → Option Nat) (r : Except ZErr α × Gen.ZipWriter) :
    (absR r).2 = absW r.2 ∧ (absR r).1.map a = r.1.map a := ⟨rfl, rfl⟩

theorem absRn_ok (r : Except ZErr UInt64 × Gen.ZipWriter) :
    (absRn r).2 = absW r.2 ∧ (absRn r).1.map some = r.1.map (fun v => some v.toNat) := by
  refine ⟨rfl, ?_⟩
  rcases r with ⟨r, g⟩
  cases r <;> rfl

theorem dropFields_eq (ext : WExt) (g : Gen.ZipWriter) :
    absRO <$> dropFields ext g = (dropInner ext (absW g) >>= fun q => pure (q.1.map (fun _ => none), q.2)) := by
  unfold dropFields dropInner
  have hi : (absW g).inner = g.inner := rfl
  rw [hi]
  cases g.inner with
  | closed => rfl
  | storer e => rfl
  | compressor m l enc pending =>
    cases enc with
    | some e => rfl
    | none =>
      dsimp only
      split
      · simp only [map_eq_pure_bind, bind_assoc, pure_bind]; rfl
      · rfl

theorem step_drop_eq (ext : WExt) (s : WState) :
    step ext .drop s = (dropBody ext s >>= fun p => dropInner ext p.2 >>= fun q =>
      pure (q.1.map (fun _ => none), q.2)) := by
  show mapStep _ (dropWriter ext) s = _
  rw [mapStep_eq, dropWriter_eq, bind_assoc]

theorem SimAt.toStep {α α' : Type} {φ : Except ZErr α × Gen.ZipWriter → Except ZErr α' × WState}
    {P : Except ZErr α × Gen.ZipWriter → Prop} {X : M (Except ZErr α × Gen.ZipWriter)} {st : Step α'} {s : WState}
    {fa : Option Nat} {d : Dev}
    (a : α → Option Nat) (a' : α' → Option Nat) (h : AlignedDev.SimAt φ P X (st s) fa d)
    (hφ : ∀ r, (φ r).2 = absW r.2 ∧ (φ r).1.map a' = r.1.map a) :
    AlignedDev.SimAt absRO (fun _ => True) (okMap a <$> X) (mapStep a' st s) fa d := by
  rw [mapStep_eq, map_eq_pure_bind]
  refine AlignedDev.SimAt.bind h fun r d1 _ _ _ => AlignedDev.SimAt.of_sim (Sim.leaf ?_ trivial)
  obtain ⟨h1, h2⟩ := hφ r
  simp only [absRO, okMap, h1, h2]

/-- **One covered call**: under the invariant, admissibility of the call and the `u64` side conditions the
generated method is simulated by the model's dispatch of the call - on every fault index and device (`SimAt`: the
statement of `Sim` for one run), for `start_file_aligned` on those that satisfy the position bound `DevFits`. -/
theorem step_sim (ext : Rs.S.Ext) (hacc : AccOk ext.accept) (c : GCall) (g : Gen.ZipWriter)
    (hI : Inv (absW g)) (hadm : (toCall c).Admissible) (hfit : Fits g c) (fa : Option Nat) (d : Dev)
    (hdev : DevFits ext g c fa d) :
    AlignedDev.SimAt absRO (fun _ => True) (gstep ext c g) (step ext.toWExt (toCall c) (absW g)) fa d := by
  obtain ⟨hs, ha⟩ := hfit
  have htime := htime_of_admissible c hadm
  cases c with
  | startFile n o =>
    exact AlignedDev.SimAt.of_sim (Sim.toStep _ _ (sim_start_file ext g n o hs.last ha htime) (absR_ok _))
  | startFileWithExtraData n o =>
    exact AlignedDev.SimAt.of_sim (Sim.toStep _ _ (sim_start_file_with_extra_data ext g n o hs.last ha htime) absRn_ok)
  | write b =>
    exact AlignedDev.SimAt.of_sim
      (Sim.toStep _ _ (sim_write_all_acc ext hacc g b ha.1 ha.2.1 (hinv_of_inv g hI) ha.2.2) (absR_ok _))
  | endLocalStartCentral =>
    exact AlignedDev.SimAt.of_sim (Sim.toStep _ _ (sim_end_local_start_central ext g hs.last.extra) absRn_ok)
  | endExtraData =>
    exact AlignedDev.SimAt.of_sim (Sim.toStep _ _ (sim_end_extra_data ext g hs.last.extra) absRn_ok)
  | addDirectory n o =>
    exact AlignedDev.SimAt.of_sim (Sim.toStep _ _ (sim_add_directory ext g n o hs.last ha htime) (absR_ok _))
  | addSymlink n t o =>
    exact AlignedDev.SimAt.of_sim
      (Sim.toStep _ _ (sim_add_symlink_acc ext hacc g n t o hI hs.last ha.1 ha.2 hadm) (absR_ok _))
  | setComment c =>
    refine AlignedDev.SimAt.of_sim ?_
    simp only [gstep, toCall, step, tie_set_comment, map_pure]
    exact Sim.leaf rfl trivial
  | finish =>
    exact AlignedDev.SimAt.of_sim
      (Sim.toStep _ _ (sim_finish ext g hs.last (fileOK_of_inv g hI hs) hs.nfiles hs.comment) (absR_ok _))
  | drop =>
    refine AlignedDev.SimAt.of_sim ?_
    simp only [gstep, toCall]
    rw [step_drop_eq]
    refine Sim.bind (sim_drop ext g hs.last (fileOK_of_inv g hI hs) hs.nfiles hs.comment) fun p _ => ?_
    have := dropFields_eq ext.toWExt p.2
    exact (Sim.of_erase (by rw [this]; rfl)).mono fun _ _ => trivial
  | rawCopy now file n raw =>
    exact AlignedDev.SimAt.of_sim
      (Sim.toStep _ _ (sim_raw_copy_one_acc ext hacc now g hI file n raw hs.last ha.1 hadm ha.2) (absR_ok _))
  | startFileAligned n o a =>
    exact SimAt.toStep _ _ (AlignedDev.sim_start_file_aligned_at ext hacc g hI hs.last n ha o hadm.1 hadm.2 a fa d hdev)
      absRn_ok

/-- Run a sequence of covered calls on the GENERATED methods (the shape of `Props.C12.runCalls`). -/
def grun (ext : Rs.S.Ext) :
    List GCall → Gen.ZipWriter → Option Nat → Dev → List (Out (Option Nat)) × Gen.ZipWriter × Dev
  | [], g, _, d => ([], g, d)
  | c :: cs, g, fa, d =>
    match gstep ext c g fa d with
    | (.ok (.ok v, g'), d') =>
      let r := grun ext cs g' fa d'
      (.ok v :: r.1, r.2)
    | (.ok (.error e, g'), d') =>
      let r := grun ext cs g' fa d'
      (.err e :: r.1, r.2)
    | (.err e, d') =>
      let r := grun ext cs g fa d'
      (.err e :: r.1, r.2)
    | (.panic site, d') => ([.panic site], g, d')

/-- the side conditions (3) hold before every call of the generated run -/
def FitsRun (ext : Rs.S.Ext) : List GCall → Gen.ZipWriter → Option Nat → Dev → Prop
  | [], _, _, _ => True
  | c :: cs, g, fa, d =>
    Fits g c ∧ DevFits ext g c fa d ∧
    match gstep ext c g fa d with
    | (.ok (_, g'), d') => FitsRun ext cs g' fa d'
    | (.err _, d') => FitsRun ext cs g fa d'
    | (.panic _, _) => True

/-- **Script-level tie.**  For every list of covered, admissible calls, from every object with the invariant,
on every device and fault index, the side conditions holding along the run: the run of the GENERATED methods
either stops with the `u64`-position panic `OVF`, or has the outcomes (up to the panic-site string), the
final object and the final device of the model's `runCalls`. -/
theorem grun_sim (ext : Rs.S.Ext) (hacc : AccOk ext.accept) (calls : List GCall)
    (hadm : ∀ c ∈ calls, (toCall c).Admissible) :
    ∀ (g : Gen.ZipWriter), Inv (absW g) → ∀ (fa : Option Nat) (d : Dev), FitsRun ext calls g fa d →
      Out.panic Rs.S.OVF ∈ (grun ext calls g fa d).1 ∨
      ((grun ext calls g fa d).1.map eraseOut =
          (runCalls ext.toWExt (calls.map toCall) (absW g) fa d).1.map eraseOut ∧
        absW (grun ext calls g fa d).2.1 = (runCalls ext.toWExt (calls.map toCall) (absW g) fa d).2.1 ∧
        (grun ext calls g fa d).2.2 = (runCalls ext.toWExt (calls.map toCall) (absW g) fa d).2.2) := by
  induction calls with
  | nil => intro g _ fa d _; right; exact ⟨rfl, rfl, rfl⟩
  | cons c cs ih =>
    intro g hI fa d hfits
    have ih' := ih (fun c' h' => hadm c' (by simp [h']))
    obtain ⟨hfit, hdev, hrest⟩ := hfits
    have hc := hadm c (by simp)
    have hsim := step_sim ext hacc c g hI hc hfit fa d hdev
    unfold AlignedDev.SimAt at hsim
    have hinv := inv_step ext.toWExt (toCall c) hc (absW g) hI fa d
    unfold Model.Sat at hinv
    simp only [List.map_cons, grun, runCalls]
    rcases hx : gstep ext c g fa d with ⟨o, d1⟩
    rw [hx] at hrest
    rcases hsim with hsim | ⟨hsim, _⟩
    · left
      rw [hx] at hsim
      simp only at hsim
      subst hsim
      simp only [List.mem_singleton]
    · simp only [erase, map_apply, hx] at hsim
      rcases hy : step ext.toWExt (toCall c) (absW g) fa d with ⟨o', d2⟩
      rw [hy] at hsim hinv
      simp only [Prod.mk.injEq] at hsim
      obtain ⟨ho, hd⟩ := hsim
      subst hd
      rcases eraseOut_eq ho with e | ⟨s, s', e1, e2⟩
      · subst e
        cases o with
        | ok r =>
          obtain ⟨r, g'⟩ := r
          simp only [absRO] at hinv hrest ⊢
          rcases ih' g' hinv fa d1 hrest with h | ⟨h1, h2, h3⟩
          · left; cases r <;> exact List.mem_cons_of_mem _ h
          · right; cases r <;> exact ⟨by simp only [List.map_cons, h1], h2, h3⟩
        | err e => exact hinv.elim
        | panic s => right; exact ⟨rfl, rfl, rfl⟩
      · subst e2
        cases o with
        | ok r => cases e1
        | err e => cases e1
        | panic s => right; exact ⟨rfl, rfl, rfl⟩

/-- The fresh-writer instance: `runCalls … WState.init`, the form the archive-level theorems use. -/
theorem grun_sim_fresh (ext : Rs.S.Ext) (hacc : AccOk ext.accept) (calls : List GCall)
    (hadm : ∀ c ∈ calls, (toCall c).Admissible) (fa : Option Nat) (d : Dev)
    (hfits : FitsRun ext calls fresh fa d) :
    Out.panic Rs.S.OVF ∈ (grun ext calls fresh fa d).1 ∨
      ((grun ext calls fresh fa d).1.map eraseOut =
          (runCalls ext.toWExt (calls.map toCall) WState.init fa d).1.map eraseOut ∧
        absW (grun ext calls fresh fa d).2.1 = (runCalls ext.toWExt (calls.map toCall) WState.init fa d).2.1 ∧
        (grun ext calls fresh fa d).2.2 = (runCalls ext.toWExt (calls.map toCall) WState.init fa d).2.2) :=
  grun_sim ext hacc calls hadm fresh inv_fresh fa d hfits

/-- `Props.C12.writer_no_panic`, transferred: no call of the GENERATED run panics, other than by `OVF`,
when the run ends on a device in the `u64` range. -/
theorem grun_no_panic (ext : Rs.S.Ext) (hacc : AccOk ext.accept) (calls : List GCall)
    (hadm : ∀ c ∈ calls, (toCall c).Admissible) (fa : Option Nat) (d : Dev)
    (hfits : FitsRun ext calls fresh fa d)
    (hd : Props.C12.Dev.InRange (grun ext calls fresh fa d).2.2) :
    Out.panic Rs.S.OVF ∈ (grun ext calls fresh fa d).1 ∨ ∀ o ∈ (grun ext calls fresh fa d).1, o.isPanic = false := by
  rcases grun_sim_fresh ext hacc calls hadm fa d hfits with h | ⟨h1, _, h3⟩
  · exact Or.inl h
  · right
    have hadm' : ∀ c ∈ calls.map toCall, c.Admissible := by
      intro c hc
      obtain ⟨c0, hc0, rfl⟩ := List.mem_map.mp hc
      exact hadm c0 hc0
    rw [h3] at hd
    have hnp := Props.C12.writer_no_panic ext.toWExt (calls.map toCall) hadm' fa d hd
    intro o ho
    have : eraseOut o ∈ (runCalls ext.toWExt (calls.map toCall) WState.init fa d).1.map eraseOut := by
      rw [← h1]; exact List.mem_map_of_mem ho
    obtain ⟨o', ho', he⟩ := List.mem_map.mp this
    have := hnp o' ho'
    cases o <;> cases o' <;> simp_all [eraseOut, Out.isPanic]

/-- a concrete script satisfies the side conditions -/
example : FitsRun ⟨⟨fun _ _ b => b, fun _ b => b⟩, List.length, fun _ => Nat.le_refl _⟩
    [.setComment [1, 2]] fresh none (Dev.ofBytes []) :=
  ⟨⟨sized_fresh, trivial⟩, trivial, trivial⟩

end ZipVerif.Tie.WriterCompose
