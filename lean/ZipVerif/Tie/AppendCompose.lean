import ZipVerif.Tie.AppendOpen
import ZipVerif.Tie.WriterCompose
import ZipVerif.Props.C11
/-
SCRIPTS THAT START FROM `ZipWriter::new_append`.

`Tie/WriterCompose.lean` (`grun_sim`) composes the step-wise ties of the translated writer methods along a call
list from EVERY start object `g` with `Inv (absW g)`; `Tie/AppendOpen.lean` (`tie_new_append`) proves the
translated `new_append` equal to `Model.newAppend` through `absW`; `Props/C11.lean` (`append_establishes_inv`)
proves that every state `Model.newAppend` returns satisfies `Inv`.  Here the three are put together:

  inv_new_append      every object the TRANSLATED `new_append` returns satisfies the writer invariant (through
                      `absW`), on every device below 2^64 bytes and for every fault index;
  append_grun_sim     open for append with the translated `new_append`, then run any list of covered, admissible
                      calls on the translated methods, ONE fault index for the whole scenario: either the run
                      stops with the u64-position panic `OVF`, or `new_append` returned the model's state and the
                      per-call outcomes, the final object and the final device are those of `Props.C12.runCalls`
                      from that state - so C02 / C11 / C13's append theorems (stated about `newAppend` followed by
                      `runCalls`) speak about the run of the translated code.

Hypotheses: those of the two ties - `NamesFit` (a decoded name's length fits `usize`), the archive is shorter
than 2^64 bytes, `AccOk ext.accept` (any accept function of the encoders, not only `ext.accept b = b.length`),
admissible calls, and the `Nat`/`u64` side conditions `FitsRun` along the generated run (re-assumed before every
call, as in `grun_sim`).
-/
set_option linter.unusedVariables false

namespace ZipVerif.Tie.AppendCompose
open ZipVerif ZipVerif.Model ZipVerif.Tie.Records ZipVerif.Tie.WriterSM ZipVerif.Tie.WriterCompose
open ZipVerif.Tie.AppendOpen
open ZipVerif.Props.C12 (Call step runCalls)

theorem new_append_state (hn : NamesFit) (fa : Option Nat) (d : Dev) (hd : d.buf.length < 2 ^ 64)
    (g : Gen.ZipWriter) (d' : Dev) (h : Gen.ZipWriter.new_append fa d = (.ok g, d')) :
    Model.newAppend fa d = (.ok (absW g), d') := by
  have t := tie_new_append hn fa d hd
  rw [map_apply, h] at t
  exact t.symm

theorem inv_new_append (hn : NamesFit) (fa : Option Nat) (d : Dev) (hd : d.buf.length < 2 ^ 64)
    (g : Gen.ZipWriter) (d' : Dev) (h : Gen.ZipWriter.new_append fa d = (.ok g, d')) :
    Inv (absW g) :=
  (Props.C11.append_establishes_inv fa d).2.2 _ _ (new_append_state hn fa d hd g d' h)

theorem new_append_no_panic (hn : NamesFit) (fa : Option Nat) (d : Dev) (hd : d.buf.length < 2 ^ 64) :
    ∀ s, (Gen.ZipWriter.new_append fa d).1 ≠ .panic s := by
  intro s hp
  have t := tie_new_append hn fa d hd
  rw [map_apply, hp] at t
  have := (Props.C11.append_establishes_inv fa d).1
  rw [← t] at this
  exact this rfl

theorem append_grun_sim (ext : Rs.S.Ext) (hacc : AccOk ext.accept) (calls : List GCall)
    (hadm : ∀ c ∈ calls, (toCall c).Admissible) (hn : NamesFit)
    (fa : Option Nat) (d : Dev) (hd : d.buf.length < 2 ^ 64)
    (g : Gen.ZipWriter) (d1 : Dev) (h : Gen.ZipWriter.new_append fa d = (.ok g, d1))
    (hfits : FitsRun ext calls g fa d1) :
    Model.newAppend fa d = (.ok (absW g), d1) ∧
    (Out.panic Rs.S.OVF ∈ (grun ext calls g fa d1).1 ∨
      ((grun ext calls g fa d1).1.map eraseOut =
          (runCalls ext.toWExt (calls.map toCall) (absW g) fa d1).1.map eraseOut ∧
        absW (grun ext calls g fa d1).2.1 = (runCalls ext.toWExt (calls.map toCall) (absW g) fa d1).2.1 ∧
        (grun ext calls g fa d1).2.2 = (runCalls ext.toWExt (calls.map toCall) (absW g) fa d1).2.2)) :=
  ⟨new_append_state hn fa d hd g d1 h,
   grun_sim ext hacc calls hadm g (inv_new_append hn fa d hd g d1 h) fa d1 hfits⟩

end ZipVerif.Tie.AppendCompose
