import ZipVerif.Props.C12
/-
C02 — Every archive the writer emits is a valid, self-consistent ZIP file.

This file rests on C12 alone: an input the format cannot represent is REJECTED — before any byte is
written and without touching the writer — for every state, every sink and every fault index.  The
structural half ("the sink holds `Spec.Zip.build l`", from which the
consistency clauses follow by construction) is `Props/C02.lean` / `Props/C02Full.lean`, on top of
`Lemmas/WL*.lean`; the serialiser obligations `Tie/Records.lean`, `Tie/SpecRecords.lean` (regenerated
translation of every header writer = the model's serialisers, field by field) and the independent
strict parser of the `write`/`append`/`rawcopy` streams tie the model's serialisers to the code.
-/

namespace ZipVerif.Props.C02Base
open ZipVerif ZipVerif.Model

/-- A name longer than 65535 bytes is refused by `start_entry` (hence by `start_file`,
`add_directory`, `add_symlink`, `raw_copy_file`): `Err`, the writer unchanged, no I/O call made. -/
theorem name_too_long_rejected (ext : WExt) (name : Bytes) (o : FileOptions)
    (raw : Option (UInt32 × UInt64 × UInt64)) (h : name.length > 65535) (s : WState)
    (fa : Option Nat) (d : Dev) :
    startEntry ext name o raw s fa d = (.ok (.error .invalidArchive, s), d) := by
  unfold startEntry
  simp only [h, if_true]
  rfl

theorem start_file_name_too_long (ext : WExt) (name : Bytes) (o : FileOptions)
    (h : name.length > 65535) (s : WState) (fa : Option Nat) (d : Dev) :
    startFile ext name o s fa d = (.ok (.error .invalidArchive, s), d) := by
  unfold startFile
  rw [M.bind_apply, name_too_long_rejected ext name _ none h]
  rfl

theorem add_symlink_name_too_long (ext : WExt) (name target : Bytes) (o : FileOptions)
    (h : name.length > 65535) (s : WState) (fa : Option Nat) (d : Dev) :
    addSymlink ext name target o s fa d = (.ok (.error .invalidArchive, s), d) := by
  unfold addSymlink
  rw [M.bind_apply, name_too_long_rejected ext name _ none h]
  rfl

theorem raw_copy_name_too_long (ext : WExt) (src : FileData) (raw name : Bytes)
    (h : name.length > 65535) (s : WState) (fa : Option Nat) (d : Dev) :
    rawCopy ext src raw name s fa d = (.ok (.error .invalidArchive, s), d) := by
  unfold rawCopy
  rw [M.bind_apply, name_too_long_rejected ext name _ _ h]
  rfl

/-- An archive comment longer than 65535 bytes makes `finish()` fail before anything is written
(the open entry is not even closed), the writer unchanged: the caller can shorten it and retry. -/
theorem comment_too_long_rejected (ext : WExt) (s : WState) (h : s.comment.length > 65535)
    (fa : Option Nat) (d : Dev) :
    finish ext s fa d = (.ok (.error .invalidArchive, s), d) := by
  unfold finish finalize
  rw [M.bind_apply]
  simp only [h, if_true]
  rfl

/-- Extra data that do not fit the 16-bit length field (together with the 20-byte ZIP64 record of a
`large_file` entry) are refused by `end_extra_data`'s validation. -/
theorem extra_too_long_rejected (f : FileData)
    (h : f.extraField.length + (if f.largeFile then 20 else 0) > 65535) :
    validateExtraData f = .error (.io .invalidData) :=
  C12.validate_rejects_too_long f h

/-- The central header writer refuses (before its first write) an entry whose central extra field
together with the ZIP64 record would exceed 65535 bytes. -/
theorem central_extra_too_long_rejected (f : FileData)
    (h : (centralZip64Bytes f).length + f.extraField.length > 65535) :
    centralHeaderChunks f = .err .invalidArchive := by
  unfold centralHeaderChunks
  simp only [h, if_true]

/-- The length hypothesis holds of 65536 bytes and fails of 65535; the model is run on a 65536-byte name and
comment in `Props/C02.lean` (last example). -/
example : (List.replicate 65536 (0x61 : UInt8)).length > 65535 := by rw [List.length_replicate]; omega
example : ¬ (List.replicate 65535 (0x61 : UInt8)).length > 65535 := by rw [List.length_replicate]; omega

end ZipVerif.Props.C02Base
