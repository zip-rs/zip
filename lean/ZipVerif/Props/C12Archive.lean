import ZipVerif.Props.C01
import ZipVerif.Props.C02Full
/-
C12 at ARCHIVE level — the clause of the property that speaks of the output:

  "the output of `finish()` contains exactly the entries whose creation succeeded, with exactly the bytes
   whose `write` returned Ok; raw copies hold the source's raw bytes."

The expected contents are computed here from the calls and their outcomes by a small fold (`madeOf`: no ghost,
no device, no sizes; `succeeded` also asks whether `start_file`'s method has an encoder): a start call that
returned `Ok` opens an entry (closing the previous one), a `write` that returned `Ok` while an entry that accepts data is open appends its buffer,
everything else — misuse calls, failed calls, writes in the wrong state — changes nothing.  The theorem:
for ANY admissible Level-1 script from a fresh writer, if `finish` returns `Ok`, re-opening the sink
yields exactly one entry per element of `madeOf`, in call order, with that name, those stored bytes
(`dataOf`: the plaintext itself for `Stored`, the encoder's output otherwise; the raw bytes for a raw
copy) and that plaintext when decoded.

Level 1 (`WL.Level1`, `Lemmas/WLRun.lean`) = the alphabet without the two calls that open extra-data mode
(`start_file_with_extra_data`, `start_file_aligned`), without the ZipCrypto option, and without `finish` / `drop`
inside the script (the theorems apply `finish` to the state the script ends in); a raw copy is given as many raw
bytes as its source records (`raw.length = compressedSize`).  `Level1R` (`Lemmas/WLGood.lean`) adds what reading
back needs of a raw copy's source: it is not a WinZip-AES entry (method 99).  The same clause for the full
alphabet (Level 2) is `Props/C12ArchiveFull.lean`; §5 here states the weaker form that needs no
expectation fold: the archive is the layout the Level-2 ghost computes, and re-opening returns its
entries, in order, with their stored bytes (`C02Full.write_read_roundtrip_full`).
-/

namespace ZipVerif.Props.C12Archive
open ZipVerif ZipVerif.Model ZipVerif.Spec.Zip ZipVerif.WL
open ZipVerif.Props.C12 (Call step runCalls)

/-! ## 1. What the calls and their outcomes say the archive contains -/

/-- An entry as the successful calls describe it. -/
structure Made where
  /-- the name given to the start call (a directory's name with its `/`) -/
  name : Bytes
  /-- the options `start_entry` received -/
  opts : FileOptions
  /-- CRC and sizes handed over by a raw copy -/
  rawv : Option (UInt32 × UInt64 × UInt64)
  isRaw : Bool
  /-- the plaintext: the buffers of the `write` calls that returned `Ok` while the entry was open, in
  order (a symlink: its target; a raw copy: the raw bytes of the source) -/
  bytes : Bytes
  /-- whether `write` is accepted while the entry is open -/
  accepts : Bool

def opened? : Call → Option Made
  | .startFile n o => some ⟨n, fileOpts o, none, false, [], true⟩
  | .addDirectory n o => some ⟨dirName n, dirOpts o, none, false, [], false⟩
  | .addSymlink n t o => some ⟨n, linkOpts o, none, false, t, false⟩
  | .rawCopy src raw n => some ⟨n, rawOpts src, rawVals src, true, raw, true⟩
  | _ => none

/-- "the call returned `Ok`" (for `start_file` it additionally asks that the method has an encoder,
`writable`, the test the ghost's `StartRow.startFile` makes — `start_file` returns `Err` otherwise, so on a run
of the writer this is the same thing) -/
def succeeded : Call → Out (Option Nat) → Bool
  | .startFile _ o, out => okO out && writable (fileOpts o).method
  | _, out => okO out

/-- One call: finished entries and the open one. -/
def madeStep (st : List Made × Option Made) (c : Call) (out : Out (Option Nat)) : List Made × Option Made :=
  match opened? c with
  | some m =>
    if m.name.length > 65535 then st            -- refused before anything happens (always `Err`)
    else if succeeded c out then (st.1 ++ st.2.toList, some m)
    else st
  | none =>
    match c, st.2 with
    | .write b, some m =>
      if m.accepts && okO out && !m.isRaw then (st.1, some { m with bytes := m.bytes ++ b }) else st
    | _, _ => st

def madeFold : List Made × Option Made → List Call → List (Out (Option Nat)) → List Made × Option Made
  | st, c :: cs, o :: os => madeFold (madeStep st c o) cs os
  | st, _, _ => st

def madeOf (calls : List Call) (outs : List (Out (Option Nat))) : List Made :=
  let st := madeFold ([], none) calls outs
  st.1 ++ st.2.toList

/-! ### The misuse facts, on the expectation -/

theorem failed_write_contributes_nothing (st : List Made × Option Made) (b : Bytes) (e : ZErr) :
    madeStep st (.write b) (.err e) = st := by
  unfold madeStep
  simp only [opened?]
  split <;> simp [okO]

/-- A `write` while no entry is open, or while a directory / symlink is open, contributes nothing. -/
theorem stray_write_contributes_nothing (l : List Made) (b : Bytes) (out : Out (Option Nat)) :
    madeStep (l, none) (.write b) out = (l, none) ∧
    ∀ m, m.accepts = false → madeStep (l, some m) (.write b) out = (l, some m) := by
  refine ⟨rfl, fun m hm => ?_⟩
  unfold madeStep
  simp [opened?, hm]

theorem refused_start_creates_nothing (st : List Made × Option Made) (c : Call) (e : ZErr) :
    madeStep st c (.err e) = st := by
  unfold madeStep
  cases c <;> simp [opened?, succeeded] <;> (try split) <;> simp [okO]

/-- A raw copy's bytes are the source's raw bytes: later `write`s do not touch them. -/
theorem raw_copy_bytes_fixed (l : List Made) (m : Made) (hr : m.isRaw = true) (b : Bytes)
    (out : Out (Option Nat)) : madeStep (l, some m) (.write b) out = (l, some m) := by
  unfold madeStep
  simp [opened?, hr]

theorem other_calls_contribute_nothing (st : List Made × Option Made) (out : Out (Option Nat)) :
    madeStep st .endExtraData out = st ∧ madeStep st .endLocalStartCentral out = st ∧
    (∀ c, madeStep st (.setComment c) out = st) := by
  refine ⟨?_, ?_, fun c => ?_⟩ <;> (unfold madeStep; simp [opened?])

/-! ## 2. The ghost agrees with the expectation -/

def AgreeOpen (m : Made) (o : OpenRec) : Prop :=
  o.raw = m.isRaw ∧ o.wf = m.accepts ∧ o.plain = m.bytes ∧ ∃ hs ds, o.f = mkRec m.name m.opts m.rawv hs ds

/-- an origin of the ghost is an expected entry: same kind, same bytes, and the record `start_entry`
pushed for it carries the call's name and options (at some header offset) -/
def MadeRel (m : Made) : Origin → Prop
  | .written f p => m.isRaw = false ∧ p = m.bytes ∧ ∃ hs ds, f = mkRec m.name m.opts m.rawv hs ds
  | .raw f p => m.isRaw = true ∧ p = m.bytes ∧ ∃ hs ds, f = mkRec m.name m.opts m.rawv hs ds
  | .old => False

theorem AgreeOpen.rel {m : Made} {o : OpenRec} (h : AgreeOpen m o) : MadeRel m o.origin := by
  obtain ⟨h1, _, h3, h4⟩ := h
  unfold OpenRec.origin
  cases hr : o.raw
  · simp only [Bool.false_eq_true, if_false]; exact ⟨by rw [← h1, hr], h3, h4⟩
  · simp only [if_true]; exact ⟨by rw [← h1, hr], h3, h4⟩

def Agree (g : Ghost) (org : List Origin) (st : List Made × Option Made) : Prop :=
  Forall2 MadeRel st.1 org ∧
  match g, st.2 with
  | .idle _ _ _, none => True
  | .opened _ _ _ o, some m => AgreeOpen m o
  | _, _ => False

theorem Agree.cases {g : Ghost} {org : List Origin} {st : List Made × Option Made} (h : Agree g org st) :
    (∃ D gap c, g = .idle D gap c ∧ st.2 = none) ∨
    ∃ D gap c o m, g = .opened D gap c o ∧ st.2 = some m ∧ AgreeOpen m o := by
  obtain ⟨_, h2⟩ := h
  revert h2
  cases g <;> cases st.2 <;> intro h2 <;> first | exact False.elim h2 | skip
  · exact Or.inl ⟨_, _, _, rfl, rfl⟩
  · exact Or.inr ⟨_, _, _, _, _, rfl, rfl, h2⟩

theorem Agree.closed {g : Ghost} {org : List Origin} {st : List Made × Option Made} (h : Agree g org st) :
    Forall2 MadeRel (st.1 ++ st.2.toList) (g.closeOrigins org) := by
  rcases h.cases with ⟨_, _, _, rfl, hs⟩ | ⟨_, _, _, _, _, rfl, hs, h2⟩
  · rw [hs]; simpa [Ghost.closeOrigins] using h.1
  · rw [hs]; exact h.1.snoc (AgreeOpen.rel h2)

theorem startRow_opened {out : Out (Option Nat)} {c : Call} {n : Bytes} {o : FileOptions}
    {raw : Option (UInt32 × UInt64 × UInt64)} {ok : Bool} {mk : FileData → OpenRec}
    (h : StartRow out c n o raw ok mk) :
    ∃ m, opened? c = some m ∧ m.name = n ∧ succeeded c out = ok ∧
      ∀ hs ds, AgreeOpen m (mk (mkRec n o raw hs ds)) := by
  cases h <;> exact ⟨_, rfl, rfl, rfl, fun hs ds => ⟨rfl, rfl, rfl, hs, ds, rfl⟩⟩

theorem madeStep_inert (st : List Made × Option Made) {c : Call} (h : Inert c) (out : Out (Option Nat)) :
    madeStep st c out = st := by
  cases c <;> first | exact h.elim | (unfold madeStep; simp [opened?])

/-- **One call**: if the ghost survives it, ghost / origins / expectation stay in step. -/
theorem agree_step (ext : WExt) {g : Ghost} {org : List Origin} {st : List Made × Option Made}
    (h : Agree g org st) (c : Call) (out : Out (Option Nat))
    (ha' : (ghostStep ext g c out).alive) :
    Agree (ghostStep ext g c out) (originStep ext g c out org) (madeStep st c out) := by
  unfold originStep
  have hstay : madeStep st c out = st → ghostStep ext g c out = g →
      Agree (ghostStep ext g c out) (orgNext g (ghostStep ext g c out) org) (madeStep st c out) := by
    intro e1 e2; rw [e1, e2, orgNext_self]; exact h
  -- the four shapes of a step that the ghost survives
  obtain ⟨_, ⟨n, o, raw, ok, mk, hrow, hs⟩ | ⟨b, rfl, hw⟩ | ⟨c', rfl, e⟩ | ⟨hin, e⟩⟩ := ghostStep_shape ext ha'
  -- a start call: refused for its name (nothing moves), or it closes the open entry and opens its own
  · obtain ⟨m, hm, rfl, rfl, hmk⟩ := startRow_opened hrow
    rcases hs with ⟨hn, e⟩ | ⟨es, gap, cm, f, hn, hok, hst, e⟩
    · exact hstay (by unfold madeStep; rw [hm]; exact if_pos hn) e
    · obtain ⟨hs, ds, rfl⟩ := Ghost.start_rec hst
      have hms : madeStep st c out = (st.1 ++ st.2.toList, some m) := by
        unfold madeStep; rw [hm]; dsimp only; rw [if_neg hn, hok, if_pos rfl]
      rw [hms, e, orgNext_close (Ghost.start_close hst)]
      exact ⟨h.closed, hmk hs ds⟩
  -- `write`: `Ok` on an open entry that accepts data (appended, unless the entry is a raw copy), or stray (nothing moves)
  · rcases hw with ⟨D, gap, cm, o, rfl, hwf, hok, e⟩ | ⟨hnw, e⟩
    · rcases h.cases with ⟨_, _, _, hg, _⟩ | ⟨_, _, _, _, m0, hg, hs2, k1, k2, k3, k4⟩
      · cases hg
      cases hg
      have hstep : madeStep st (.write b) out =
          (if !m0.isRaw then (st.1, some { m0 with bytes := m0.bytes ++ b }) else st) := by
        unfold madeStep; simp [opened?, hs2, ← k2, hwf, hok]
      have horg : orgNext (.opened D gap cm o) (.opened D gap cm (o.write b)) org = org := by
        simp [orgNext]
      rw [e, hstep, horg]
      unfold OpenRec.write
      cases hr : o.raw with
      | true =>
        have : m0.isRaw = true := by rw [← k1]; exact hr
        simp only [this, Bool.not_true, Bool.false_eq_true, if_false, if_true]
        exact ⟨h.1, by rw [hs2]; exact ⟨this.symm, k2, k3, k4⟩⟩
      | false =>
        have : m0.isRaw = false := by rw [← k1]; exact hr
        simp only [this, Bool.not_false, if_true, Bool.false_eq_true, if_false]
        exact ⟨h.1, ⟨rfl, k2, by show o.plain ++ b = m0.bytes ++ b; rw [k3], k4⟩⟩
    · refine hstay ?_ e
      rcases h.cases with ⟨D, gap, c0, rfl, hs2⟩ | ⟨D, gap, c0, o, m0, rfl, hs2, h2⟩
      · unfold madeStep; simp [opened?, hs2]
      · have hacc : m0.accepts = false := by rw [← h2.2.1]; exact hnw _ _ _ _ rfl
        unfold madeStep; simp [opened?, hs2, hacc]
  -- `set_comment`: only the ghost's comment moves
  · have hst : madeStep st (.setComment c') out = st := by unfold madeStep; simp [opened?]
    rw [hst, e]
    rcases h.cases with ⟨D, gap, c0, rfl, hs2⟩ | ⟨D, gap, c0, o, m0, rfl, hs2, h2⟩
    · exact ⟨h.1, by rw [hs2]; trivial⟩
    · exact ⟨by simpa [orgNext, Ghost.setComment] using h.1, by rw [hs2]; exact h2⟩
  -- the `Inert` calls move neither side
  · exact hstay (madeStep_inert st hin out) e

theorem agree_run (ext : WExt) : ∀ (calls : List Call) (outs : List (Out (Option Nat))) (g : Ghost)
    (org : List Origin) (st : List Made × Option Made), Agree g org st →
    (ghostOf ext g calls outs).alive →
    Agree (ghostOf ext g calls outs) (originsOf ext g org calls outs) (madeFold st calls outs)
  | [], outs, g, org, st, h, _ => by cases outs <;> exact h
  | c :: cs, [], g, org, st, h, _ => h
  | c :: cs, o :: os, g, org, st, h, ha =>
    agree_run ext cs os _ _ _
      (agree_step ext h c o (ghostOf_alive_back ext cs os _ ha)) ha

/-- When the ghost of a run from a fresh writer is alive at the end, the origins of the entries it emits ARE
the expected entries `madeOf calls outs`, in call order. -/
theorem origins_are_made (ext : WExt) (calls : List Call) (outs : List (Out (Option Nat)))
    (ha : (ghostOf ext (.idle [] [] []) calls outs).alive) :
    Forall2 MadeRel (madeOf calls outs)
      ((ghostOf ext (.idle [] [] []) calls outs).closeOrigins
        (originsOf ext (.idle [] [] []) [] calls outs)) := by
  exact (agree_run ext calls outs _ _ _ (show Agree (.idle [] [] []) [] ([], none) from ⟨.nil, trivial⟩) ha).closed

/-! ## 3. The archive contains exactly the expected entries -/

/-- the stored bytes of an expected entry: the raw bytes of a raw copy; for an entry written through the
writer the plaintext itself (`Stored`) or the encoder's output on the whole plaintext -/
def Made.stored (ext : WExt) (m : Made) : Bytes :=
  if m.isRaw then m.bytes
  else if m.opts.method = .stored then m.bytes
  else ext.compress m.opts.method (effLevel m.opts.method m.opts.level) m.bytes

/-- **What the emitted entry of an expected entry is**: the call's name and method; for an entry written
through the writer the CRC-32 and length of exactly the bytes whose `write` returned `Ok`; for a raw copy
the source's CRC and sizes; and the stored bytes `m.stored`. -/
theorem made_entry (ext : WExt) {m : Made} {org : Origin} {e : Spec.Zip.Entry}
    (hm : MadeRel m org) (ho : OriginRel ext org e) :
    e.name = m.name ∧ e.method = m.opts.method.toU16 ∧ e.data = m.stored ext ∧
    e.externalAttrs = (m.opts.permissions.getD 0o100644) <<< 16 ∧ e.time = m.opts.time.timepart ∧
    (m.isRaw = false → e.crc = Spec.Crc32.crc32 m.bytes ∧ e.usize = UInt64.ofNat m.bytes.length) ∧
    (m.isRaw = true → e.crc = (m.rawv.getD (0, 0, 0)).1 ∧ e.usize = (m.rawv.getD (0, 0, 0)).2.2) := by
  cases org with
  | old => exact hm.elim
  | written f p =>
    obtain ⟨h1, h2, hs, ds, hf⟩ := hm
    obtain ⟨dp, gap, _, he⟩ := ho
    subst he hf h2
    refine ⟨rfl, rfl, ?_, rfl, rfl, ?_, ?_⟩
    · show dataOf ext _ _ = _
      unfold Made.stored dataOf
      rw [h1]; rfl
    · intro _; exact ⟨rfl, rfl⟩
    · intro h; rw [h1] at h; cases h
  | raw f p =>
    obtain ⟨h1, h2, hs, ds, hf⟩ := hm
    obtain ⟨dp, gap, _, he⟩ := ho
    subst he hf h2
    refine ⟨rfl, rfl, ?_, rfl, rfl, ?_, ?_⟩
    · unfold Made.stored
      rw [h1]; rfl
    · intro h; rw [h1] at h; cases h
    · intro _; exact ⟨rfl, rfl⟩

/-- **C12, archive level, Level 1.**  A fresh writer and ANY admissible `Level1R`
call sequence — legal or not: calls in the wrong state, calls that failed, stray writes all included.
If `finish` returns `Ok` (and the archive embeds no false signature, `hS`, stays below 2^63 bytes, `hsize`,
and so does every entry's uncompressed size, `hu` — a raw copy carries its source's), then, `hg` naming the
layout `es`, `gap`, `c` that the ghost of the calls closes to, the sink is that layout's bytes and
re-opening it yields EXACTLY one entry per element of `madeOf calls outs` — the start calls that
returned `Ok` — in call order; entry `i` has the name, method, time and permissions of its call, CRC and
size of exactly the bytes whose `write` returned `Ok` while it was open (a raw copy: the source's values),
and `by_index_raw(i)` returns its stored bytes `m.stored` (a raw copy: the raw bytes, verbatim). -/
theorem finish_output_exact (ext : WExt) (calls : List Call) (hc : ∀ c ∈ calls, Level1R c)
    (ha : ∀ c ∈ calls, c.Admissible) (es : List Spec.Zip.Entry) (gap c : Bytes)
    (hg : (C01.finalGhost ext calls).close ext = some (es, gap, c))
    (v : Option Nat) (s' : WState) (d' : Dev)
    (hfin : step ext .finish (runCalls ext calls WState.init none (Dev.ofBytes [])).2.1 none
      (runCalls ext calls WState.init none (Dev.ofBytes [])).2.2 = (.ok (.ok v, s'), d'))
    (hS : C03.NoFalseSig (layoutOf es gap c []))
    (hsize : (build (layoutOf es gap c [])).length < 2 ^ 63)
    (hu : ∀ e ∈ es, e.usize.toNat < 2 ^ 63) :
    let made := madeOf calls (runCalls ext calls WState.init none (Dev.ofBytes [])).1
    d'.buf = build (layoutOf es gap c []) ∧
    ∃ a d1, openArchive.runPure (Dev.ofBytes d'.buf) = (.ok a, d1) ∧
      a.files.length = made.length ∧ es.length = made.length ∧
      ∀ (i : Nat) (m : Made), made[i]? = some m →
        ∃ e off chs ds d2, es[i]? = some e ∧ a.files[i]? = some (viewEntry e off 0 chs) ∧
          e.name = m.name ∧ e.method = m.opts.method.toU16 ∧ e.data = m.stored ext ∧
          e.externalAttrs = (m.opts.permissions.getD 0o100644) <<< 16 ∧ e.time = m.opts.time.timepart ∧
          (m.isRaw = false → e.crc = Spec.Crc32.crc32 m.bytes ∧ e.usize = UInt64.ofNat m.bytes.length) ∧
          (m.isRaw = true → e.crc = (m.rawv.getD (0, 0, 0)).1 ∧ e.usize = (m.rawv.getD (0, 0, 0)).2.2) ∧
          (byIndexRaw a i).runPure d1 = (.ok (ds, m.stored ext), d2) := by
  intro made
  obtain ⟨hbuf, hF, _, horg, d1, hopen, hd1, _, _, hfiles, hlen⟩ :=
    C01.write_read_roundtrip ext calls hc ha es gap c hg v s' d' hfin hS hsize hu
  have hmade : Forall2 MadeRel made (C01.finalOrigins ext calls) :=
    origins_are_made ext calls _ (alive_of_close hg)
  have hl1 := WL.Forall2.length_eq hmade
  have hl2 := WL.Forall2.length_eq horg
  refine ⟨hbuf, archiveOf (layoutOf es gap c []), d1, hopen, by rw [hlen]; omega, by omega, ?_⟩
  intro i m hi
  obtain ⟨org, ho1, hr1⟩ := Forall2.get_left hmade i m hi
  obtain ⟨e, he, hr2⟩ := Forall2.get_left horg i org ho1
  obtain ⟨off, chs, _, hv⟩ := C03.entry_view (layoutOf es gap c []) i e he
  obtain ⟨ds, d2, hraw, _⟩ := C01.roundtrip_entry_raw hF i e he d1 hd1
  obtain ⟨k1, k2, k3, k4, k5, k6, k7⟩ := made_entry ext hr1 hr2
  exact ⟨e, off, chs, ds, d2, he, hv, k1, k2, k3, k4, k5, k6, k7, by rw [← k3]; exact hraw⟩

/-- **Reading entry `i` of that layout returns exactly the bytes whose `write` returned `Ok`** (an unencrypted
entry written through the writer, the codec round-tripping on its plaintext — the identity for `Stored`).  Stated
over `archiveOf (layoutOf es gap c [])` and under `Layout.Fits`: `C01.write_read_roundtrip` provides both,
`finish_output_exact` exports neither. -/
theorem finish_output_plaintext (wext : WExt) (rext : Ext) (calls : List Call)
    (es : List Spec.Zip.Entry) (gap c : Bytes)
    (hg : (C01.finalGhost wext calls).close wext = some (es, gap, c))
    (hF : (layoutOf es gap c []).Fits) (i : Nat) (m : Made)
    (hi : (madeOf calls (runCalls wext calls WState.init none (Dev.ofBytes [])).1)[i]? = some m)
    (hraw : m.isRaw = false) (henc : m.opts.encryptWith = none) (hw : writable m.opts.method = true)
    (hcodec : rext.decode m.opts.method (m.stored wext) = .ok m.bytes)
    (pw : Option Bytes) (d : Dev) (hd : d.buf = build (layoutOf es gap c [])) :
    ∃ ds d', (byIndexRead rext (archiveOf (layoutOf es gap c [])) i pw).runPure d =
        (.ok (.ok (ds, .ok m.bytes)), d') := by
  have hmade := origins_are_made wext calls (runCalls wext calls WState.init none (Dev.ofBytes [])).1
    (alive_of_close hg)
  have horg : Forall2 (OriginRel wext) (C01.finalOrigins wext calls) es :=
    traced_final (traced_run wext calls _ _ _ (traced_init wext [] [])) hg
  obtain ⟨org, ho1, hr1⟩ := Forall2.get_left hmade i m hi
  obtain ⟨e, he, hr2⟩ := Forall2.get_left horg i org ho1
  cases org with
  | old => exact hr1.elim
  | raw f p => rw [hr1.1] at hraw; cases hraw
  | written f p =>
    obtain ⟨_, h2, hs, ds0, hf⟩ := hr1
    subst h2
    have hstored : dataOf wext f m.bytes = m.stored wext := by
      unfold Made.stored dataOf; rw [hraw, hf]; rfl
    obtain ⟨ds, d', h, _⟩ := C01.roundtrip_entry_plain wext rext hF i e he f m.bytes hr2
      (by rw [hf]; show m.opts.encryptWith.isSome = false; rw [henc]; rfl)
      (by rw [hf]; exact hw) (by rw [hstored, hf]; exact hcodec) pw d hd
    exact ⟨ds, d', h⟩

/-! ## 4. Misuse at archive level -/

/-- On the ghost: a `write` that returned `Err` on an open entry that accepts data kills it; so does a
`start_file` that returned `Err` although the name fits and the ghost could have started the entry (the previous
entry was already closed when `start_entry` failed).  Of the start calls only `start_file` is covered. -/
theorem refused_calls_poison (ext : WExt) (D : List Spec.Zip.Entry) (gap c : Bytes) (o : OpenRec) (e : ZErr) :
    (o.wf = true → ∀ b, ghostStep ext (.opened D gap c o) (.write b) (.err e) = .dead) ∧
    (∀ g n opts, n.length ≤ 65535 → (g.start ext n (fileOpts opts) none).isSome →
      ghostStep ext g (.startFile n opts) (.err e) = .dead ∨ ¬ g.alive) := by
  refine ⟨fun hwf b => ?_, fun g n opts hn hst => ?_⟩
  · show Ghost.writeStep b false (.opened D gap c o) = .dead
    simp [Ghost.writeStep, hwf]
  · by_cases ha : g.alive
    · left
      show ghostStepRet ext g _ _ = .dead
      rw [ghostStep_alive ext ha]
      show startG ext g n (fileOpts opts) none (okO (.err e) && _) _ = .dead
      unfold startG
      rw [if_neg (by omega)]
      obtain ⟨x, hx⟩ := Option.isSome_iff_exists.mp hst
      rw [hx]
      simp [okO]
    · exact Or.inr ha

/-- Once the ghost of an admissible Level-1 script is dead (as `refused_calls_poison` leaves it), no archive
comes out: `finish` returns an error, without I/O, and the writer stays as it is. -/
theorem poisoned_finish_fails (ext : WExt) (calls : List Call) (hc : ∀ c ∈ calls, Level1 c)
    (ha : ∀ c ∈ calls, c.Admissible) (hg : C01.finalGhost ext calls = .dead) :
    ∃ e, finish ext (runCalls ext calls WState.init none (Dev.ofBytes [])).2.1 =
      pure (.error e, (runCalls ext calls WState.init none (Dev.ofBytes [])).2.1) :=
  C01.dead_finish_fails ext calls hc ha 0 _ _ _ inv_init lay_init_empty hg

/-- A start refused for its over-long name has no effect whatever: no I/O, writer unchanged
(`C02.unrepresentable_rejected`), expectation unchanged. -/
theorem long_name_no_effect (ext : WExt) (s : WState) (n : Bytes) (o : FileOptions) (hn : n.length > 65535)
    (st : List Made × Option Made) (out : Out (Option Nat)) :
    startFile ext n o s = pure (.error .invalidArchive, s) ∧ madeStep st (.startFile n o) out = st := by
  refine ⟨(C02.unrepresentable_rejected ext s).1 n o hn, ?_⟩
  unfold madeStep
  simp only [opened?]
  rw [if_pos hn]

/-! ## 5. The full alphabet (Level 2), without the expectation fold

For scripts that use extra-data mode, aligned files or ZipCrypto: the sink is the layout the Level-2
ghost (`ghostOf2`, `Lemmas/WL2Run.lean`) computes, re-opening it returns exactly those entries, in
order, and `by_index_raw` their stored bytes.  That the entries are one per successful start call with
exactly the `Ok`-written bytes is proved above for Level-1 scripts and in `Props/C12ArchiveFull.lean`
for the full alphabet. -/
theorem finish_output_full (ext : WExt) (calls : List Call) (hc : ∀ c ∈ calls, Level2R c)
    (es : List Spec.Zip.Entry) (gap c : Bytes)
    (hg : (C02Full.finalGhost2 ext calls).close ext = some (es, gap, c))
    (v : Option Nat) (s' : WState) (d' : Dev)
    (hfin : step ext .finish (runCalls ext calls WState.init none (Dev.ofBytes [])).2.1 none
      (runCalls ext calls WState.init none (Dev.ofBytes [])).2.2 = (.ok (.ok v, s'), d'))
    (hS : C03.NoFalseSig (layoutOf es gap c []))
    (hsize : (build (layoutOf es gap c [])).length < 2 ^ 63)
    (hu : ∀ e ∈ es, e.usize.toNat < 2 ^ 63)
    (hcx : ∀ e ∈ es, e.centralExtra.length + 28 ≤ 0xFFFF) :
    d'.buf = build (layoutOf es gap c []) ∧
    ∃ a d1, openArchive.runPure (Dev.ofBytes d'.buf) = (.ok a, d1) ∧ a.comment = c ∧
      a.files = viewOf (layoutOf es gap c []) ∧ a.files.length = es.length ∧
      ∀ (i : Nat) e, es[i]? = some e → ∃ ds d2, (byIndexRaw a i).runPure d1 = (.ok (ds, e.data), d2) := by
  obtain ⟨h1, _, d1, h2, _, h4, h5, h6, h7⟩ :=
    C02Full.write_read_roundtrip_full ext calls hc es gap c hg v s' d' hfin hS hsize hu hcx
  exact ⟨h1, _, d1, h2, h4, h5, h6, h7⟩

/-! ## 6. A script full of misuse, evaluated: outcomes, expectation, hypotheses of the theorem, read-back -/

open ZipVerif.Props.C01 (wext1 rext1 script1 script2 srcRec finishDev finalGhost)

/-- A script full of misuse: a write before any entry, a stray `end_extra_data`, a write after a raw copy
(dead bytes), a write into a symlink.  Every call is Level-1 and admissible. -/
def messy : List Call :=
  [.write [9], .startFile [0x61] (C12.opts .stored none), .write [1, 2], .endExtraData, .write [3],
   .rawCopy srcRec [0xA, 0xB, 0xC] [0x72], .write [0x99],
   .addSymlink [0x6c] [0x61] (C12.opts .stored none), .write [8]]

private theorem messy_ok : ∀ c ∈ messy, Level1R c ∧ c.Admissible := by decide +kernel

example : ∀ c ∈ messy, Level1R c ∧ c.Admissible := messy_ok

/-- the outcomes of the run (3 of the 9 calls are refused) and the expectation computed from
calls and outcomes alone: three entries, with exactly the accepted bytes -/
example :
    let outs := (runCalls wext1 messy WState.init none (Dev.ofBytes [])).1
    outs.map okO == [false, true, true, false, true, true, true, true, false] &&
    (madeOf messy outs).map (fun m => (m.name, m.bytes, m.isRaw)) ==
      [([0x61], [1, 2, 3], false), ([0x72], [0xA, 0xB, 0xC], true), ([0x6c], [0x61], false)] = true := by decide +kernel

/-- the hypotheses of `finish_output_exact` hold on `messy` -/
example :
    (match (finalGhost wext1 messy).close wext1 with
     | some (es, gap, c) =>
       decide (Spec.Zip.NoFalseSig (layoutOf es gap c [])) &&
       decide ((build (layoutOf es gap c [])).length < 2 ^ 63) &&
       decide (∀ e ∈ es, e.usize.toNat < 2 ^ 63) && (finishDev wext1 messy).isSome
     | none => false) = true := by decide +kernel

/-- on the sink `messy` leaves, the model's reader returns the three expected entries with their stored bytes -/
example :
    (match finishDev wext1 messy with
     | some d' =>
       (match openArchive.runPure (Dev.ofBytes d'.buf) with
        | (.ok a, d1) =>
          a.files.map (·.fileName) == [[0x61], [0x72], [0x6c]] &&
          (List.range 3).map (fun i => match ((byIndexRaw a i).runPure d1).1 with
            | .ok (_, b) => b | _ => [0xFF]) == [[1, 2, 3], [0xA, 0xB, 0xC], [0x61]]
        | _ => false)
     | none => false) = true := by
  -- the reader is evaluated on the layout's bytes, which the sink equals (`C01.finishDev_sink`):
  -- reading the sink itself, a tower of `writeAt`s, is several times dearer
  have hev : (match (finalGhost wext1 messy).close wext1, finishDev wext1 messy with
     | some (es, gap, c), some _ =>
       (match openArchive.runPure (Dev.ofBytes (build (layoutOf es gap c []))) with
        | (.ok a, d1) =>
          a.files.map (·.fileName) == [[0x61], [0x72], [0x6c]] &&
          (List.range 3).map (fun i => match ((byIndexRaw a i).runPure d1).1 with
            | .ok (_, b) => b | _ => [0xFF]) == [[1, 2, 3], [0xA, 0xB, 0xC], [0x61]]
        | _ => false)
     | _, _ => false) = true := by decide +kernel
  split at hev
  next es gap c d' hg hd =>
    rw [hd]
    dsimp only
    rw [C01.finishDev_sink (fun c h => (messy_ok c h).1.level1) (fun c h => (messy_ok c h).2) hg hd]
    exact hev
  · cases hev

end ZipVerif.Props.C12Archive
