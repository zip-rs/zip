import ZipVerif.Lemmas.Layers
import ZipVerif.Lemmas.Crc32
import ZipVerif.Lemmas.EntryBridge
import ZipVerif.Lemmas.EntryBridgeAes
/-
C04 — A read that completes successfully returned uncorrupted data.

`make_reader` (read.rs:319-351) wraps EVERY decoder in `Crc32Reader`, for the seekable reader
(`by_index*`) and the streaming one (`read_zipfile_from_stream`) alike, so the first theorem - which
assumes nothing at all about what is underneath the CRC layer - covers every method, every crypto
reader and both readers.
-/

namespace ZipVerif.Props.C04
open ZipVerif ZipVerif.Spec ZipVerif.Model.Layers

variable {σ κ : Type}

/-- **Soundness of a completed read.** For ANY inner reader (no contract needed: a reader that
returns too large a count makes the layer panic, which is not a successful read) and ANY sequence
`pre` of earlier calls with arbitrary buffer sizes, zeros included, successful or failed: if the next
read, with a non-empty buffer, returns `Ok(0)`, then the entry is AE-2 or the CRC-32 of all bytes
handed to the caller so far equals the declared CRC. -/
theorem crcReader_eof_sound (inner : Src σ) (check : UInt32) (ae2 : Bool) (s : σ) (pre : List Nat)
    (n : Nat) (hn : 0 < n)
    (h : ((crcLayer inner check ae2).rd (run (crcLayer inner check ae2) (s, Crc32.init) pre).2 n).1
        = .ok []) :
    ae2 = true ∨
      Crc32.crc32 (delivered (run (crcLayer inner check ae2) (s, Crc32.init) pre).1) = check := by
  have hreg := crc_run_register inner check ae2 s Crc32.init pre
  rcases crcLayer_ok_nil hn h with h1 | h1
  · exact Or.inl h1
  · right
    rw [Crc32.crc32_eq_finalize, ← hreg]
    exact h1

/-- The invariant behind `crcReader_eof_sound`: the hasher state is the fold of exactly the bytes returned. -/
theorem crc_register_invariant (inner : Src σ) (check : UInt32) (ae2 : Bool) (s : σ)
    (reqs : List Nat) :
    (run (crcLayer inner check ae2) (s, Crc32.init) reqs).2.2 =
      Crc32.updateBytes Crc32.init (delivered (run (crcLayer inner check ae2) (s, Crc32.init) reqs).1) :=
  crc_run_register inner check ae2 s Crc32.init reqs

/-- `crcReader_eof_sound` for a whole entry reader, any method (`c` is an arbitrary decoder, nothing assumed
about it), any crypto layer underneath: a read-to-end loop that ends with a clean EOF has returned
bytes whose CRC-32 is the declared one, unless AE-2. -/
theorem entry_read_sound (inner : Src σ) (check : UInt32) (ae2 : Bool) (s : σ) (reqs : List Nat)
    {b : Bytes} {s' : σ × UInt32}
    (h : readToEnd (crcLayer inner check ae2) (s, Crc32.init) reqs = some (b, .eof, s')) :
    ae2 = true ∨ Crc32.crc32 b = check := by
  obtain ⟨pre, n, rfl, hn, hrd⟩ := readToEnd_run h
  exact crcReader_eof_sound inner check ae2 s pre n hn (by rw [hrd])

/-- **What a zero-length read does** (crc32.rs:47-49, since the repair `fix: zero-length reads of an entry
return Ok(0) without consulting the decoder`): it returns `Ok(0)` at once - the inner reader
is not consulted, the check is not evaluated, hasher and inner state are unchanged. It is therefore
neither an end-of-file signal nor a way to skip the check. -/
theorem zero_len_read_is_not_eof (inner : Src σ) (check : UInt32) (ae2 : Bool) (st : σ × UInt32) :
    (crcLayer inner check ae2).rd st 0 = (.ok [], st) :=
  crcLayer_rd_zero st

/-- At the end of a stream whose CRC does NOT match, a zero-length read still returns `Ok(0)`, any number
of times, and every non-empty read reports the mismatch. -/
theorem zero_len_read_at_bad_eof (inner : Src σ) (check : UInt32) {s : σ}
    (h : Denotes inner s [] .eof) (reg : UInt32) (hbad : check ≠ Crc32.finalize reg) :
    (crcLayer inner check false).rd (s, reg) 0 = (.ok [], (s, reg)) ∧
    (∀ n, 0 < n → ∃ s', (crcLayer inner check false).rd (s, reg) n = (.err .other, (s', reg))) := by
  constructor
  · exact crcLayer_rd_zero _
  · intro n hn
    obtain ⟨s', e, _⟩ := Model.Layers.eof_sticky h n
    refine ⟨s', ?_⟩
    rw [crcLayer_rd_ok (by omega) e, if_pos ⟨rfl, hbad, rfl⟩]

/-! ## Corruption is detected -/

/-- A Stored entry whose `Take` ends cleanly, on bytes with another CRC-32 than the declared one: those bytes,
then "Invalid checksum". -/
private theorem stored_bad_crc (inner : Src σ) {s : σ} {A : Bytes} {o : Term} (csize : Nat) (declared : UInt32)
    (h : Denotes inner s A o) (heof : takeTerm csize A o = .eof)
    (hbad : Crc32.crc32 (A.take csize) ≠ declared) :
    Denotes (entryPipeline storedCodec inner declared false) ((s, csize), Crc32.init)
      (A.take csize) (.err .other) := by
  have hd := Model.Layers.crc_denotes (take inner) declared false (Model.Layers.take_denotes inner csize h)
  have e : crcTerm declared false (takeBytes csize A) .eof = .err .other := by simp [crcTerm, takeBytes, hbad]
  rwa [heof, e] at hd

/-- **Stored payload corruption.** Whatever reader holds the (damaged) archive bytes `data' ++ tail`
from the entry's data start - any short-read behaviour - if the CRC-32 of the damaged payload differs
from the declared CRC and the entry is not AE-2, the entry reader delivers the damaged bytes and
then fails: its denotation ends in `Err("Invalid checksum")`. -/
theorem stored_corruption_detected (inner : Src σ) {s : σ} (data' tail : Bytes) {o : Term}
    (declared : UInt32) (h : Denotes inner s (data' ++ tail) o)
    (hbad : Crc32.crc32 data' ≠ declared) :
    Denotes (entryPipeline storedCodec inner declared false) ((s, data'.length), Crc32.init)
      data' (.err .other) := by
  have e : (data' ++ tail).take data'.length = data' := List.take_left' rfl
  have hd := stored_bad_crc inner data'.length declared h (by simp [takeTerm]) (by rw [e]; exact hbad)
  rwa [e] at hd

/-- Observable form of `stored_corruption_detected`: every read loop over the damaged entry, with any buffer
sizes, ends in an error no later than end-of-file - and it does end once it has made more than `data'.length`
non-empty reads. -/
theorem stored_corruption_read_fails (inner : Src σ) {s : σ} (data' tail : Bytes) {o : Term}
    (declared : UInt32) (h : Denotes inner s (data' ++ tail) o)
    (hbad : Crc32.crc32 data' ≠ declared) (reqs : List Nat) :
    (∀ b t s', readToEnd (entryPipeline storedCodec inner declared false)
        ((s, data'.length), Crc32.init) reqs = some (b, t, s') → t = .err .other) ∧
    (data'.length < nonzero reqs →
      (readToEnd (entryPipeline storedCodec inner declared false)
        ((s, data'.length), Crc32.init) reqs).isSome = true) := by
  have hd := stored_corruption_detected inner data' tail declared h hbad
  exact ⟨fun b t s' hr => (denotes_readToEnd hd hr).2.1, fun hn => denotes_readToEnd_terminates hd hn⟩

/-- **CRC field corruption.** Intact payload, declared CRC changed to anything else: error. -/
theorem crc_field_corruption_detected (inner : Src σ) {s : σ} (data tail : Bytes) {o : Term}
    (declared' : UInt32) (h : Denotes inner s (data ++ tail) o)
    (hbad : declared' ≠ Crc32.crc32 data) :
    Denotes (entryPipeline storedCodec inner declared' false) ((s, data.length), Crc32.init)
      data (.err .other) :=
  stored_corruption_detected inner data tail declared' h (fun e => hbad e.symm)

/-! ### Every method: the decoder is an ARBITRARY reader

Chunk independence of the decoder on EVERY stream, damaged ones included (`Codec.ChunkIndependentNZ`),
is not assumed: the real decoders do not satisfy it (`pickyCodec_not_chunk_independent` shows the
failure on a model decoder of the same kind), and damaged streams are where it would matter.  What
follows needs no hypothesis on the decoder at all: it may error early or late, end early, or hand out
garbage, and all of that may depend on the buffer sizes. -/

/-- **Soundness at entry level, every method, unencrypted entries**: `c` is any decoder (its `layer`
is an arbitrary function from readers to readers - nothing is assumed, not even determinism in the
schedule), `inner` any reader holding the archive from the entry's data start, `csize` the compressed
size in the central record: a read loop with any buffer sizes that ends with a clean end-of-file has
returned bytes whose CRC-32 is the declared one (or the entry is AE-2). -/
theorem entry_read_sound_any_method (c : Codec) (inner : Src σ) (check : UInt32) (ae2 : Bool)
    (s : σ) (csize : Nat) (reqs : List Nat) {b : Bytes} {s' : c.St (σ × Nat) × UInt32}
    (h : readToEnd (entryPipeline c inner check ae2) (c.init (s, csize), Crc32.init) reqs
      = some (b, .eof, s')) :
    ae2 = true ∨ Crc32.crc32 b = check :=
  entry_read_sound (c.layer (take inner)) check ae2 (c.init (s, csize)) reqs h

/-- `entry_read_sound_any_method` for ZipCrypto entries (any cipher step `dec`, any decoder); they are never AE-2,
so the CRC always matches. -/
theorem entry_read_sound_zipcrypto (c : Codec) (dec : κ → UInt8 → UInt8 × κ) (inner : Src σ)
    (check : UInt32) (s : σ) (lim : Nat) (k : κ) (reqs : List Nat) {b : Bytes}
    {s' : c.St ((σ × Nat) × κ) × UInt32}
    (h : readToEnd (entryPipelineZc c dec inner check) (c.init ((s, lim), k), Crc32.init) reqs
      = some (b, .eof, s')) :
    Crc32.crc32 b = check := by
  rcases entry_read_sound (c.layer (zipCryptoLayer dec (take inner))) check false
    (c.init ((s, lim), k)) reqs h with h1 | h1
  · cases h1
  · exact h1

/-- **Corruption of stored / compressed data, every method: detected unless CRC-32 collides.**
Two reads of "the same entry" (same declared CRC, not AE-2): one over the intact archive (reader
`inner₁`), one over a damaged copy (reader `inner₂`, which may also fragment differently), with any
two decoder behaviours and any two buffer schedules.  If the damage changes what the read returns in
a way CRC-32 sees (`crc32 b₂ ≠ crc32 b₁`) the damaged read does NOT end with a clean end-of-file: a
finished loop has ended in an error. -/
theorem damage_detected_unless_collision {σ₁ σ₂ : Type} (c₁ c₂ : Codec) (inner₁ : Src σ₁)
    (inner₂ : Src σ₂) (check : UInt32) (s₁ : σ₁) (s₂ : σ₂) (csize₁ csize₂ : Nat)
    (reqs₁ reqs₂ : List Nat) {b₁ b₂ : Bytes} {t₂ : Term} {e₁ : c₁.St (σ₁ × Nat) × UInt32}
    {e₂ : c₂.St (σ₂ × Nat) × UInt32}
    (h₁ : readToEnd (entryPipeline c₁ inner₁ check false) (c₁.init (s₁, csize₁), Crc32.init) reqs₁
      = some (b₁, .eof, e₁))
    (h₂ : readToEnd (entryPipeline c₂ inner₂ check false) (c₂.init (s₂, csize₂), Crc32.init) reqs₂
      = some (b₂, t₂, e₂))
    (hdiff : Crc32.crc32 b₂ ≠ Crc32.crc32 b₁) :
    t₂ ≠ .eof := by
  intro ht
  subst ht
  rcases entry_read_sound_any_method c₁ inner₁ check false s₁ csize₁ reqs₁ h₁ with h | h
  · cases h
  rcases entry_read_sound_any_method c₂ inner₂ check false s₂ csize₂ reqs₂ h₂ with h' | h'
  · cases h'
  exact hdiff (h'.trans h.symm)

/-- A damaged read whose output differs from the intact one in exactly one byte (hence in one bit) does
not end with a clean end-of-file - no CRC-32 collision is possible (`crc32_detects_single_byte`). -/
theorem decoded_single_byte_change_detected (c : Codec) (inner : Src σ) (s : σ) (csize : Nat)
    (reqs : List Nat) (p q : Bytes) (a b : UInt8) (hab : a ≠ b) {t : Term}
    {e : c.St (σ × Nat) × UInt32}
    (h : readToEnd (entryPipeline c inner (Crc32.crc32 (p ++ a :: q)) false)
      (c.init (s, csize), Crc32.init) reqs = some (p ++ b :: q, t, e)) :
    t ≠ .eof := by
  intro ht
  subst ht
  rcases entry_read_sound_any_method c inner _ false s csize reqs h with h1 | h1
  · cases h1
  · exact Crc32.crc32_detects_single_byte p q a b hab h1.symm

/-- **Corruption of the declared CRC, every method.** Same reader below (any decoder over any
archive reader), same buffer sizes: if the read completes with declared CRC `check`, then with any
other declared CRC it returns the same bytes and fails with "Invalid checksum". -/
theorem crc_field_corruption_detected_any_method (c : Codec) (inner : Src σ) (check check' : UInt32)
    (hne : check' ≠ check) (s : σ) (csize : Nat) (reqs : List Nat) {b : Bytes}
    {e : c.St (σ × Nat) × UInt32}
    (h : readToEnd (entryPipeline c inner check false) (c.init (s, csize), Crc32.init) reqs
      = some (b, .eof, e)) :
    ∃ e', readToEnd (entryPipeline c inner check' false) (c.init (s, csize), Crc32.init) reqs
      = some (b, .err .other, e') :=
  readToEnd_crc_other_check (c.layer (take inner)) check check' hne reqs _ _ h

/-- **CRC-32 detects every single-byte substitution** (hence every single-bit flip): two messages
that differ in exactly one byte have different CRC-32. Not a 1 − 2⁻³² statement: the register update
is a bijection in the register and injective in the byte. -/
theorem crc32_detects_single_byte (p q : Bytes) (a b : UInt8) (hab : a ≠ b) :
    Crc32.crc32 (p ++ a :: q) ≠ Crc32.crc32 (p ++ b :: q) :=
  Crc32.crc32_detects_single_byte p q a b hab

/-- **Any single-byte (or single-bit) damage inside a Stored payload always surfaces as a read
error**, through every reader and every schedule (`stored_corruption_detected` with `crc32_detects_single_byte`). -/
theorem stored_single_byte_damage_detected (inner : Src σ) {s : σ} (p q tail : Bytes) (a b : UInt8)
    {o : Term} (hab : a ≠ b) (h : Denotes inner s ((p ++ b :: q) ++ tail) o) :
    Denotes (entryPipeline storedCodec inner (Crc32.crc32 (p ++ a :: q)) false)
      ((s, (p ++ b :: q).length), Crc32.init) (p ++ b :: q) (.err .other) :=
  stored_corruption_detected inner (p ++ b :: q) tail _ h
    (fun e => crc32_detects_single_byte p q a b hab e.symm)

/-- Truncated payload (the archive ends inside the entry's data): the reader delivers what is there
and then fails unless the CRC of the truncated data happens to equal the declared one. -/
theorem truncated_payload_detected (inner : Src σ) {s : σ} (part : Bytes) (csize : Nat)
    (declared : UInt32) (h : Denotes inner s part .eof) (hbad : Crc32.crc32 part ≠ declared)
    (hshort : part.length < csize) :
    Denotes (entryPipeline storedCodec inner declared false) ((s, csize), Crc32.init)
      part (.err .other) := by
  have e : part.take csize = part := List.take_of_length_le (by omega)
  have hd := stored_bad_crc inner csize declared h (Model.takeTerm_eof _ _) (by rw [e]; exact hbad)
  rwa [e] at hd

/-! ## Archive level: every entry of every byte string accepted as an archive

The theorems above speak about the entry reader `Crc32Reader(decoder(Take(reader)))` with free
parameters `check`, `csize`.  `Model/Reader.lean` describes what `ZipArchive::new` + `by_index` do with an
arbitrary byte string, but reads the entry in one go (`takeAll`, pure `Ext.decode`, `crcCheck`).
`Lemmas/EntryBridge.lean` connects the two; here the consequences for C04, with the parameters
`by_index` really uses: `crc32` and `compressed_size` of the parsed CENTRAL record, the bytes behind the
data start computed from the LOCAL header. -/

/-- **C04 for the seekable reader, all byte strings, all unencrypted entries, all methods.**
`bs` is ANY byte string `ZipArchive::new` accepts (valid or damaged), `i` any index, `by_index` hands
out the entry with `read_to_end` outcome `res` (in the reader model).  Then
(1) if `res` is a success its bytes have the CRC-32 the central record declares;
(2) call by call: over ANY reader holding the archive's bytes from the data start (any short reads),
    with ANY decoder behaviour `c` (nothing assumed: damaged input, schedule dependent, …) and ANY
    caller buffers, a loop that ends with a clean end-of-file has returned bytes with that CRC-32;
(3) the two descriptions agree whenever `c` is the decoder `ext` summarises on this entry's stored
    bytes (`CodecFor`: a theorem for Stored, `Codec.IntactOK` for intact compressed entries): every
    finished loop returns `res` - same bytes on success, an error iff an error. -/
theorem archive_entry_sound (ext : Model.Ext) (bs : Bytes) {fa₀ : Option Nat} {a : Model.Archive}
    {d₀ : Model.Dev} (hopen : Model.openArchive fa₀ (Model.Dev.ofBytes bs) = (.ok a, d₀))
    {i : Nat} {data : Model.FileData} (hfile : a.files[i]? = some data)
    (henc : data.encrypted = false) {pw : Option Bytes} {fa : Option Nat} {d' : Model.Dev} {ds : Nat}
    {res : Out Bytes} (h : Model.byIndexRead ext a i pw fa d₀ = (.ok (.ok (ds, res)), d')) :
    (∀ content, res = .ok content → Crc32.crc32 content = data.crc32) ∧
    (∀ {σ : Type} (c : Codec) (inner : Src σ) (s : σ) (reqs : List Nat) (b : Bytes)
        (e : c.St (σ × Nat) × UInt32),
      readToEnd (entryPipeline c inner data.crc32 false)
        (c.init (s, data.compressedSize.toNat), Crc32.init) reqs = some (b, .eof, e) →
      Crc32.crc32 b = data.crc32) ∧
    (∀ {σ : Type} (c : Codec),
      Model.CodecFor ext data.method c ((bs.drop ds).take data.compressedSize.toNat) →
      ∀ (inner : Src σ) (s : σ), Denotes inner s (bs.drop ds) .eof →
      ∀ (reqs : List Nat) (b : Bytes) (t : Term) (e : c.St (σ × Nat) × UInt32),
        readToEnd (entryPipeline c inner data.crc32 false)
          (c.init (s, data.compressedSize.toNat), Crc32.init) reqs = some (b, t, e) →
        res = Model.outOfLoop (b, t)) := by
  have hbuf : d₀.buf = bs := Model.openArchive_buf hopen
  refine ⟨?_, ?_, ?_⟩
  · intro content hc
    rw [Model.byIndexRead_plain_inv hfile henc h] at hc
    exact Model.bind_crcCheck_ok hc
  · intro σ c inner s reqs b e hr
    rcases entry_read_sound_any_method c inner data.crc32 false s _ reqs hr with h1 | h1
    · cases h1
    · exact h1
  · intro σ c hc inner s hin reqs b t e hr
    rw [← hbuf] at hc hin
    exact Model.entry_bridge hfile henc h c hc inner s hin reqs hr

/-- **C04 for the streaming reader** (`read_zipfile_from_stream`), any byte stream: the entry's CRC
and size come from the LOCAL record `f`, the bytes are those behind it. -/
theorem stream_entry_sound (ext : Model.Ext) {fa : Option Nat} {d d' : Model.Dev}
    {f : Model.FileData} {res : Out Bytes}
    (h : Model.streamEntry ext fa d = (.ok (some (f, res)), d')) :
    (∀ content, res = .ok content → Crc32.crc32 content = f.crc32) ∧
    (∀ {σ : Type} (c : Codec) (inner : Src σ) (s : σ) (reqs : List Nat) (b : Bytes)
        (e : c.St (σ × Nat) × UInt32),
      readToEnd (entryPipeline c inner f.crc32 false)
        (c.init (s, f.compressedSize.toNat), Crc32.init) reqs = some (b, .eof, e) →
      Crc32.crc32 b = f.crc32) ∧
    (∃ d1, Model.streamHeader fa d = (.ok (some f), d1) ∧ d1.buf = d.buf ∧
      ∀ {σ : Type} (c : Codec),
        Model.CodecFor ext f.method c ((d.buf.drop d1.pos).take f.compressedSize.toNat) →
      ∀ (inner : Src σ) (s : σ), Denotes inner s (d.buf.drop d1.pos) .eof →
      ∀ (reqs : List Nat) (b : Bytes) (t : Term) (e : c.St (σ × Nat) × UInt32),
        readToEnd (entryPipeline c inner f.crc32 false)
          (c.init (s, f.compressedSize.toNat), Crc32.init) reqs = some (b, t, e) →
        res = Model.outOfLoop (b, t)) := by
  obtain ⟨d1, h1, hb, hres⟩ := Model.streamEntry_inv h
  refine ⟨?_, ?_, ⟨d1, h1, hb, ?_⟩⟩
  · intro content hc
    rw [hres] at hc
    exact Model.bind_crcCheck_ok hc
  · intro σ c inner s reqs b e hr
    rcases entry_read_sound_any_method c inner f.crc32 false s _ reqs hr with h1 | h1
    · cases h1
    · exact h1
  · intro σ c hc inner s hin reqs b t e hr
    rw [hres, hb]
    exact Model.pipeline_eq_decode_crc ext f.method c _ _ _ hc inner s hin reqs hr

/-- **C04 for WinZip-AES entries of every byte string accepted as an archive** (seekable reader,
`by_index_decrypt`, the crate's own AES layer: `Model.cryptoExt`).  `by_index_decrypt(i, pw)` hands out entry `i`
(encryption flag, AES extra record `(mode, vv)`) with `read_to_end` outcome `res`.  Then, for every short-read
schedule `sched` of a reader holding the entry's stored bytes, `AesReader::validate` hands out `aesReader .. sc`, and
(1) if `res` is a success: payload and authentication code are all there and the code IS the HMAC-SHA1 of the
    payload under the key derived from `pw` and the salt (`aesCodeOk`: AE-1 and AE-2 alike), and for AE-1 the
    bytes have the CRC-32 the central record declares (for AE-2 the format has no CRC; `make_reader` skips it);
(2) call by call, ANY decoder behaviour `c` on top of `AesReaderValid`, ANY caller buffers: a loop over
    `Crc32Reader(decoder(AesReaderValid))` that ends with a clean end-of-file has, for AE-1, returned bytes with
    the declared CRC-32;
(3) if the code is not the HMAC of the payload, or bytes are missing: `res` is an I/O error and no run - AES layer
    or `ZipFile::read` with any error-propagating decoder and `finish_crypto` - reaches a successful end-of-file
    (`Aes.NeverEof`): a completed read of an AE-2 entry has a verified MAC;
(4) `AesVerdict`: the one-shot and the call-by-call descriptions agree (every finished loop returns `res` when
    `c` is the decoder `ext` summarises on the decrypted stream). -/
theorem archive_entry_sound_aes (P : Model.Aes.AesPrims) (hW : P.WF)
    (decode : Model.Method → Bytes → Out Bytes) (bs : Bytes)
    {fa₀ : Option Nat} {a : Model.Archive} {d₀ : Model.Dev}
    (hopen : Model.openArchive fa₀ (Model.Dev.ofBytes bs) = (.ok a, d₀))
    {i : Nat} {data : Model.FileData} (hfile : a.files[i]? = some data)
    (henc : data.encrypted = true) {mode : Model.AesMode} {vv : Model.AesVendorVersion}
    (haes : data.aesMode = some (mode, vv)) {pw : Bytes} {fa : Option Nat}
    {d' : Model.Dev} {ds : Nat} {res : Out Bytes}
    (h : Model.byIndexRead (Model.cryptoExt P decode) a i (some pw) fa d₀ = (.ok (.ok (ds, res)), d')) :
    ∃ L, Model.Aes.dataLength (Model.aesModeView mode) data.compressedSize.toNat = some L ∧
    ∀ sched : List Nat, ∃ sc,
      Model.Aes.validate P Model.Aes.listSrc (Model.aesModeView mode) (some L)
          ⟨(bs.drop ds).take data.compressedSize.toNat, sched⟩ pw =
        (.ok (some (Model.aesReader P pw mode ((bs.drop ds).take data.compressedSize.toNat) L sc)),
          ⟨Model.aesBody mode ((bs.drop ds).take data.compressedSize.toNat), sc⟩) ∧
      (∀ content, res = .ok content →
        L + Model.Aes.AUTH_CODE_LENGTH ≤
          (Model.aesBody mode ((bs.drop ds).take data.compressedSize.toNat)).length ∧
        Model.aesCodeOk P pw mode ((bs.drop ds).take data.compressedSize.toNat) L ∧
        (vv = .ae1 → Crc32.crc32 content = data.crc32)) ∧
      (∀ (c : Codec) (reqs : List Nat) (b : Bytes) (e : c.St (Model.Aes.Valid Model.Aes.ListSrc) × UInt32),
        readToEnd (Model.entryPipelineAes c P Model.Aes.listSrc data.crc32 (vv == .ae2))
          (c.init (Model.aesReader P pw mode ((bs.drop ds).take data.compressedSize.toNat) L sc), Crc32.init) reqs
          = some (b, .eof, e) →
        vv = .ae1 → Crc32.crc32 b = data.crc32) ∧
      (¬ (L + Model.Aes.AUTH_CODE_LENGTH ≤
            (Model.aesBody mode ((bs.drop ds).take data.compressedSize.toNat)).length ∧
          Model.aesCodeOk P pw mode ((bs.drop ds).take data.compressedSize.toNat) L) →
        (∃ k, res = .err (.io k)) ∧
        Model.Aes.NeverEof P (Model.aesReader P pw mode ((bs.drop ds).take data.compressedSize.toNat) L sc)) ∧
      Model.AesVerdict P (Model.cryptoExt P decode) data.method data.crc32 (vv == .ae2) pw mode
        ((bs.drop ds).take data.compressedSize.toNat) L
        (Model.aesReader P pw mode ((bs.drop ds).take data.compressedSize.toNat) L sc) res := by
  have hbuf : d₀.buf = bs := Model.openArchive_buf hopen
  obtain ⟨ds', ⟨d1, hf1, _, _⟩, L, hdl, _, _, hA⟩ := Model.entry_bridge_aes hW hfile henc haes h
  obtain ⟨ds2, d2, hf2, _, _, hr⟩ := Model.byIndexRead_aes_inv hfile henc haes h
  obtain rfl : ds' = ds := by
    rw [hf1] at hf2
    cases hf2
    rcases hr with ⟨_, _, hh⟩ | ⟨_, hh⟩ <;> cases hh
    rfl
  rw [hbuf] at hA
  refine ⟨L, hdl, fun sched => ?_⟩
  obtain ⟨_, sc, hv, hV⟩ := (hA sched).2 res rfl
  refine ⟨sc, hv, ?_, ?_, fun hbad => hV.damaged hbad, hV⟩
  · intro content hc
    by_cases hgood : L + Model.Aes.AUTH_CODE_LENGTH ≤
          (Model.aesBody mode ((bs.drop ds').take data.compressedSize.toNat)).length ∧
        Model.aesCodeOk P pw mode ((bs.drop ds').take data.compressedSize.toNat) L
    · refine ⟨hgood.1, hgood.2, fun hv1 => ?_⟩
      obtain ⟨pt, cfin, _, hres, _⟩ := hV.intact hgood.1 hgood.2
      subst hv1
      rw [hres] at hc
      exact Model.bind_crcCheck_ok hc
    · obtain ⟨⟨k, hk⟩, _⟩ := hV.damaged hgood
      rw [hk] at hc; cases hc
  · intro c reqs b e hr hv1
    subst hv1
    rcases entry_read_sound (c.layer (Model.aesSrc P Model.Aes.listSrc)) data.crc32 false _ reqs hr with h1 | h1
    · cases h1
    · exact h1

/-- The hypotheses of `archive_entry_sound_aes` on a concrete archive (`Model.aesExArchive`, AE-2: no CRC, the MAC
decides), and the two outcomes: intact - content handed out, same bytes call by call; one ciphertext byte
changed - accepted as an archive, but neither description reads the entry to a successful end. -/
example :
    Model.aesOpenRead Model.aesExArchive [0x70, 0x77] [0, 2] [2, 0, 1, 9, 9] =
      some (42, some [1, 2, 3, 4, 5], some [1, 2, 3, 4, 5]) ∧
    Model.aesOpenRead (Model.aesExArchive.set 53 0) [0x70, 0x77] [0, 2] [2, 0, 1, 9, 9] = some (42, none, none) ∧
    Model.exPrims.WF :=
  ⟨Model.aesOpenRead_intact, Model.aesOpenRead_damaged, Model.exPrims_wf⟩

/-- Hypotheses of `stored_corruption_detected` on a concrete instance: a reader delivering one byte
at a time, payload `[1,2,4]` where `[1,2,3]` was declared. -/
example : Denotes scripted ⟨[1, 2, 4] ++ [9], [1], [1], none⟩ ([1, 2, 4] ++ [9]) .eof ∧
    Crc32.crc32 [1, 2, 4] ≠ Crc32.crc32 [1, 2, 3] :=
  ⟨scripted_denotes _, by decide +kernel⟩

/-- The run of `stored_corruption_read_fails` on that instance: bytes `[1,2,4]` are delivered, then the error, with
zero-length reads interleaved. -/
example :
    (readToEnd (entryPipeline storedCodec scripted (Crc32.crc32 [1, 2, 3]) false)
      (((⟨[1, 2, 4, 9], [1], [1], none⟩ : Scripted), 3), Crc32.init) [0, 2, 0, 2, 0, 2, 2]).map
        (fun r => (r.1, r.2.1)) = some ([1, 2, 4], Term.err .other) := by
  decide +kernel

/-- `crcReader_eof_sound` is not vacuous: an intact entry does reach `Ok(0)` on a non-empty read. -/
example :
    ((crcLayer scripted (Crc32.crc32 [1, 2, 3]) false).rd
      (run (crcLayer scripted (Crc32.crc32 [1, 2, 3]) false)
        ((⟨[1, 2, 3], [2], [2], none⟩ : Scripted), Crc32.init) [0, 5, 5]).2 4).1 = .ok [] := by
  decide +kernel

/-- AE-2: the check is skipped - a wrong CRC still ends with a clean EOF (covered by the MAC, C16). -/
example :
    (readToEnd (crcLayer scripted 12345 true)
      ((⟨[1, 2, 3], [], [], none⟩ : Scripted), Crc32.init) [4, 4]).map
        (fun r => (r.1, r.2.1)) = some ([1, 2, 3], Term.eof) := by
  decide +kernel

/-- A single flipped bit: `0x31` → `0x30`. -/
example : Crc32.crc32 [0x31, 0x32] ≠ Crc32.crc32 [0x30, 0x32] :=
  crc32_detects_single_byte [] [0x32] 0x31 0x30 (by decide)

/-- `entry_read_sound_any_method` / `damage_detected_unless_collision` with a decoder whose behaviour
on damaged input DOES depend on the buffer sizes (`pickyCodec`: a chunk containing a byte outside the
format is rejected as a whole).  Stored bytes `[1, 2, 0x83]` where `[1, 2, 3]` was written: with
1-byte buffers two bytes come out before the error, with a 4-byte buffer none - an error both times. -/
example :
    (readToEnd (entryPipeline pickyCodec scripted (Crc32.crc32 [1, 2, 3]) false)
      (pickyCodec.init ((⟨[1, 2, 0x83, 9], [], [], none⟩ : Scripted), 3), Crc32.init) [1, 1, 1, 1]).map
        (fun r => (r.1, r.2.1)) = some ([1, 2], Term.err .invalidData) ∧
    (readToEnd (entryPipeline pickyCodec scripted (Crc32.crc32 [1, 2, 3]) false)
      (pickyCodec.init ((⟨[1, 2, 0x83, 9], [], [], none⟩ : Scripted), 3), Crc32.init) [4, 4]).map
        (fun r => (r.1, r.2.1)) = some ([], Term.err .invalidData) ∧
    (readToEnd (entryPipeline pickyCodec scripted (Crc32.crc32 [1, 2, 3]) false)
      (pickyCodec.init ((⟨[1, 2, 3, 9], [], [], none⟩ : Scripted), 3), Crc32.init) [4, 4]).map
        (fun r => (r.1, r.2.1)) = some ([1, 2, 3], Term.eof) := by
  decide +kernel

/-- `crc_field_corruption_detected_any_method`, instance: the intact run above with the declared CRC
changed. -/
example :
    (readToEnd (entryPipeline pickyCodec scripted (Crc32.crc32 [1, 2, 3] ^^^ 1) false)
      (pickyCodec.init ((⟨[1, 2, 3, 9], [], [], none⟩ : Scripted), 3), Crc32.init) [4, 4]).map
        (fun r => (r.1, r.2.1)) = some ([1, 2, 3], Term.err .other) := by
  decide +kernel

/-- The hypotheses of `archive_entry_sound` on a concrete archive, and its three conclusions observed:
accepted, entry 0 handed out with data start 31 and content "Z"; the call-by-call read over a reader
delivering one byte at a time, with zero-length buffers interleaved, returns the same. -/
example : Model.openReadBoth Model.oneEntry 0 [1] [0, 3, 0, 3] = some (31, [0x5a], some ([0x5a], .eof)) :=
  Model.openReadBoth_oneEntry

/-- One bit of the payload flipped (`Z` -> `[`): `openReadBoth` has nothing to report - the reader model
hands out no content for the entry. -/
example : Model.openReadBoth (Model.oneEntry.set 31 0x5b) 0 [1] [0, 3, 0, 3] = none := by decide +kernel

end ZipVerif.Props.C04
