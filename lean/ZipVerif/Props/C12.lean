import ZipVerif.Lemmas.WriterSat
import ZipVerif.Lemmas.WriterTrack
import ZipVerif.Lemmas.WriterValid
import ZipVerif.Lemmas.AlignedSat
import ZipVerif.Lemmas.ExtraBridge
/-
C12 — Any order of writer calls is safe; misuse is reported, not absorbed.

Defined here, and imported by the Lemmas and property files that speak of call sequences: the writer's call
alphabet `Call`, its dispatch on the model `step`, `runCalls`, `Call.Admissible`; further the bookkeeping
fragment (`Call.InFragment`, `logOf`) and the concrete scripts `d11`, `misuse`.  Then the property theorems, which
speak of the writer's state and of what each call returns.  The clause about the OUTPUT of `finish` (what a reader
finds in the sink) is in `Props/C12Archive.lean` (Level-1 scripts) and `Props/C12ArchiveFull.lean` (whole alphabet).
The total triples `Sat` / `MSat` over the I/O monad, the invariant `Inv` and the per-function lemmas are in
`Lemmas/WriterSat.lean` (local extra-field mode and the aligned start in `Lemmas/AlignedSat.lean`); the partial-correctness
triple `WSat`, closed-writer behaviour and the bookkeeping relation `Track` in `Lemmas/WriterTrack.lean`; `Refused`,
`Ready` and the per-function lemmas behind the `*_succeeds` theorems of this file in `Lemmas/WriterValid.lean`.
-/

namespace ZipVerif.Props.C12
open ZipVerif ZipVerif.Model

/-! ### The call alphabet -/

/-- One public `ZipWriter` call (`set_comment` takes the raw bytes; a raw copy is given the source
entry's metadata and the bytes its raw reader delivers). -/
inductive Call
  | startFile (name : Bytes) (o : FileOptions)
  | startFileWithExtraData (name : Bytes) (o : FileOptions)
  | startFileAligned (name : Bytes) (o : FileOptions) (align : UInt16)
  | write (buf : Bytes)
  | endLocalStartCentral
  | endExtraData
  | addDirectory (name : Bytes) (o : FileOptions)
  | addSymlink (name target : Bytes) (o : FileOptions)
  | setComment (c : Bytes)
  | rawCopy (src : FileData) (raw : Bytes) (name : Bytes)
  | finish
  | drop

/-- Forget the kind of the success value (`Unit` or the returned offset). -/
def mapStep {α β} (f : α → β) (st : Step α) : Step β := fun s => do
  let (r, s') ← st s
  pure (r.map f, s')

/-- Dispatch of one call on the model (`Model/Writer.lean`); success carries the returned offset, if any. -/
def step (ext : WExt) : Call → Step (Option Nat)
  | .startFile n o => mapStep (fun _ => none) (startFile ext n o)
  | .startFileWithExtraData n o => mapStep some (startFileWithExtraData ext n o)
  | .startFileAligned n o a => mapStep some (startFileAligned ext n o a)
  | .write b => mapStep (fun _ => none) (writeData b)
  | .endLocalStartCentral => mapStep some (endLocalStartCentral ext)
  | .endExtraData => mapStep some (endExtraData ext)
  | .addDirectory n o => mapStep (fun _ => none) (addDirectory ext n o)
  | .addSymlink n t o => mapStep (fun _ => none) (addSymlink ext n t o)
  | .setComment c => fun s => pure (.ok none, { s with comment := c })
  | .rawCopy src raw n => mapStep (fun _ => none) (rawCopy ext src raw n)
  | .finish => mapStep (fun _ => none) (finish ext)
  | .drop => mapStep (fun _ => none) (dropWriter ext)

/-- Run a call sequence from state `s` on device `d` with injected-fault index `fa` (the device's
call counter runs through the whole sequence, so `fa = some k` fails the I/O call made when `d.calls = k`:
on a fresh device the (k+1)-th of the run).
Returns the per-call outcomes, the final writer state and the final device.  A panic ends the run
(unwinding); its device is the one the panic happened on. -/
def runCalls (ext : WExt) : List Call → WState → Option Nat → Dev → List (Out (Option Nat)) × WState × Dev
  | [], s, _, d => ([], s, d)
  | c :: cs, s, fa, d =>
    match step ext c s fa d with
    | (.ok (.ok v, s'), d') =>
      let r := runCalls ext cs s' fa d'
      (.ok v :: r.1, r.2)
    | (.ok (.error e, s'), d') =>
      let r := runCalls ext cs s' fa d'
      (.err e :: r.1, r.2)
    | (.err e, d') =>            -- never produced by a call (`step_total`); kept total as in the driver
      let r := runCalls ext cs s fa d'
      (.err e :: r.1, r.2)
    | (.panic site, d') => ([.panic site], s, d')

/-- What the property's quantifier admits: timestamps are `DateTime` values of the public API
(year ≥ 1980, see C18 `datepart_no_underflow`), and the experimental encryption option is used with
`start_file` (+ `write`), `add_directory`, `add_symlink` — not with the extra-data calls
(`encryption_with_extra_data_panics` below shows that this restriction is necessary). -/
def Call.Admissible : Call → Prop
  | .startFile _ o => TimeOk o.time
  | .startFileWithExtraData _ o => TimeOk o.time ∧ o.encryptWith = none
  | .startFileAligned _ o _ => TimeOk o.time ∧ o.encryptWith = none
  | .addDirectory _ o => TimeOk o.time
  | .addSymlink _ _ o => TimeOk o.time
  | .rawCopy src _ _ => TimeOk src.time
  | _ => True

instance : DecidablePred Call.Admissible := fun c => by
  cases c <;> unfold Call.Admissible <;> unfold TimeOk <;> infer_instance

/-! ### The invariant is established by `new` and preserved by every call -/

theorem inv_init : Inv WState.init := Model.inv_init

theorem mapStep_sat {α β} (f : α → β) (st : Step α) (s : WState) (fa : Option Nat) (d : Dev)
    (Q : Except ZErr α × WState → Dev → Prop) (Q' : Except ZErr β × WState → Dev → Prop)
    (h : Sat (st s) fa d Q) (hq : ∀ r s' d', Q (r, s') d' → Q' (r.map f, s') d') :
    Sat (mapStep f st s) fa d Q' := by
  unfold mapStep
  apply Sat.bind
  apply Sat.mono h
  intro ⟨r, s'⟩ d' hr
  exact Sat.pure (hq r s' d' hr)

/-- Every `_sat` lemma has a postcondition `Post P`, whose first half is the invariant. -/
private theorem mapStep_inv {α β} (f : α → β) (st : Step α) (s : WState) (fa : Option Nat) (d : Dev)
    {P : α → WState → Dev → Prop} (h : Sat (st s) fa d (Post P)) :
    Sat (mapStep f st s) fa d (fun rs _ => Inv rs.2) :=
  mapStep_sat f st s fa d _ _ h fun _ _ _ h => h.1

/-- **Every admissible call preserves the invariant** — from every `Inv` state, on every device,
for every injected fault; it returns `Ok`/`Err` (never a device-level escape), and it can only
panic on a device whose position has left the `u64` range. -/
theorem inv_step (ext : WExt) (c : Call) (hc : c.Admissible) (s : WState) (hI : Inv s)
    (fa : Option Nat) (d : Dev) : Sat (step ext c s) fa d (fun rs _ => Inv rs.2) := by
  cases c with
  | startFile n o => exact mapStep_inv _ _ s fa d (startFile_sat ext n o hc s hI fa d)
  | startFileWithExtraData n o => exact mapStep_inv _ _ s fa d (startFileWithExtraData_satH ext n o hc.1 hc.2 s hI fa d)
  | startFileAligned n o a => exact mapStep_inv _ _ s fa d (startFileAligned_sat ext n o a hc.1 hc.2 s hI fa d)
  | write b => exact mapStep_inv _ _ s fa d (writeData_sat b s hI fa d)
  | endLocalStartCentral => exact mapStep_inv _ _ s fa d (endLocalStartCentral_sat ext s hI fa d)
  | endExtraData => exact mapStep_inv _ _ s fa d (endExtraData_sat ext s hI fa d)
  | addDirectory n o => exact mapStep_inv _ _ s fa d (addDirectory_sat ext n o hc s hI fa d)
  | addSymlink n t o => exact mapStep_inv _ _ s fa d (addSymlink_sat ext n t o hc s hI fa d)
  | setComment c =>
    exact Sat.pure { hI with }
  | rawCopy src raw n => exact mapStep_inv _ _ s fa d (rawCopy_sat ext src raw n hc s hI fa d)
  | finish => exact mapStep_inv _ _ s fa d (finish_sat ext s hI fa d)
  | drop => exact mapStep_inv _ _ s fa d (dropWriter_sat ext s hI fa d)

/-- A call never escapes with a device-level error: an I/O failure inside a call is that call's
`Err` (with the writer state reached so far), as in the Rust code's `?`. -/
theorem step_total (ext : WExt) (c : Call) (hc : c.Admissible) (s : WState) (hI : Inv s)
    (fa : Option Nat) (d : Dev) (e : ZErr) (d' : Dev) : step ext c s fa d ≠ (.err e, d') := by
  intro h
  have := inv_step ext c hc s hI fa d
  unfold Sat at this
  rw [h] at this
  exact this

/-- A device whose position is a `u64` (every device a Rust `Seek` can describe). -/
def Dev.InRange (d : Dev) : Prop := d.pos < 18446744073709551616

/-- Induction over the call list: the run ends in an `Inv` state, and any panic outcome comes with a
final device outside the `u64` range. -/
theorem run_inv (ext : WExt) (calls : List Call) (hc : ∀ c ∈ calls, c.Admissible) :
    ∀ (s : WState), Inv s → ∀ (fa : Option Nat) (d : Dev),
      Inv (runCalls ext calls s fa d).2.1 ∧
      ((∃ o ∈ (runCalls ext calls s fa d).1, o.isPanic = true) → Huge (runCalls ext calls s fa d).2.2) := by
  induction calls with
  | nil => intro s hI fa d; exact ⟨hI, fun ⟨o, ho, _⟩ => by cases ho⟩
  | cons c cs ih =>
    intro s hI fa d
    have hstep := inv_step ext c (hc c (by simp)) s hI fa d
    have ih' := ih (fun c' h' => hc c' (by simp [h']))
    -- the run after a call that returned: its outcome `o` is no panic, the rest is the induction hypothesis
    have rest : ∀ (o : Out (Option Nat)) (s' : WState) (d' : Dev), o.isPanic = false → Inv s' →
        Inv (runCalls ext cs s' fa d').2.1 ∧
        ((∃ o' ∈ o :: (runCalls ext cs s' fa d').1, o'.isPanic = true) → Huge (runCalls ext cs s' fa d').2.2) := by
      intro o s' d' ho hI'
      obtain ⟨h1, h2⟩ := ih' s' hI' fa d'
      refine ⟨h1, ?_⟩
      rintro ⟨o', ho', hp⟩
      rcases List.mem_cons.mp ho' with h | h
      · rw [h, ho] at hp; cases hp
      · exact h2 ⟨o', h, hp⟩
    unfold Sat at hstep
    unfold runCalls
    split at hstep
    · next r d' heq =>
      obtain ⟨r1, s'⟩ := r
      cases r1 with
      | ok v => rw [heq]; exact rest (.ok v) s' d' rfl hstep
      | error e => rw [heq]; exact rest (.err e) s' d' rfl hstep
    · exact hstep.elim
    · next site d' heq =>
      rw [heq]
      exact ⟨hI, fun _ => hstep⟩

theorem run_no_panic (ext : WExt) (calls : List Call) (hc : ∀ c ∈ calls, c.Admissible) (s : WState) (hI : Inv s)
    (fa : Option Nat) (d : Dev) (hd : Dev.InRange (runCalls ext calls s fa d).2.2) :
    ∀ o ∈ (runCalls ext calls s fa d).1, o.isPanic = false := by
  intro o ho
  cases hp : o.isPanic
  · rfl
  · have := (run_inv ext calls hc s hI fa d).2 ⟨o, ho, hp⟩
    unfold Huge at this
    unfold Dev.InRange at hd
    omega

/-- **No call of any call sequence panics.**  For every sequence of admissible calls — legal or not
— from a fresh writer, on every sink, for every injected I/O fault: no call's outcome is a panic
(the sink's position being a `u64`, as it is for every Rust `Seek`). -/
theorem writer_no_panic (ext : WExt) (calls : List Call) (hc : ∀ c ∈ calls, c.Admissible)
    (fa : Option Nat) (d : Dev) (hd : Dev.InRange (runCalls ext calls WState.init fa d).2.2) :
    ∀ o ∈ (runCalls ext calls WState.init fa d).1, o.isPanic = false :=
  run_no_panic ext calls hc WState.init inv_init fa d hd

/-! ### Documented misuse returns an error: one lemma per misuse -/

/-- Writing data while no file is open (before any file, after `add_directory`, after
`add_symlink`, after `finish`) is `Err(io::ErrorKind::Other, "No file has been started")`, and the
writer is unchanged. -/
theorem write_without_file_is_error (buf : Bytes) (hb : buf ≠ []) (s : WState)
    (h : s.writingToFile = false) : writeData buf s = pure (.error (.io .other), s) := by
  have : buf.isEmpty = false := by cases buf <;> simp_all
  rw [writeData_eq, this, h]
  rfl

theorem write_before_any_file_is_error (buf : Bytes) (hb : buf ≠ []) :
    writeData buf WState.init = pure (.error (.io .other), WState.init) :=
  write_without_file_is_error buf hb _ rfl

/-- Writing after a directory: whenever `add_directory` succeeds, a non-empty `write` that follows it fails
with `io::ErrorKind::Other` and leaves the writer unchanged. -/
theorem write_after_directory_is_error (ext : WExt) (name : Bytes) (o : FileOptions) (ho : TimeOk o.time)
    (s : WState) (hI : Inv s) (fa : Option Nat) (d : Dev) :
    Sat (addDirectory ext name o s) fa d (fun rs _ => rs.1 = .ok () →
      ∀ buf, buf ≠ [] → writeData buf rs.2 = pure (.error (.io .other), rs.2)) := by
  apply Sat.mono (addDirectory_sat ext name o ho s hI fa d)
  intro rs d' ⟨_, h⟩ hok buf hb
  exact write_without_file_is_error buf hb _ (h () hok)

theorem write_after_symlink_is_error (ext : WExt) (name target : Bytes) (o : FileOptions)
    (ho : TimeOk o.time) (s : WState) (hI : Inv s) (fa : Option Nat) (d : Dev) :
    Sat (addSymlink ext name target o s) fa d (fun rs _ => rs.1 = .ok () →
      ∀ buf, buf ≠ [] → writeData buf rs.2 = pure (.error (.io .other), rs.2)) := by
  apply Sat.mono (addSymlink_sat ext name target o ho s hI fa d)
  intro rs d' ⟨_, h⟩ hok buf hb
  exact write_without_file_is_error buf hb _ (h () hok)

/-- Writing after `finish`: whenever `finish` succeeds the writer is closed, so that a non-empty `write`
that follows it fails with `io::ErrorKind::Other`, and so does a further `finish`; neither changes the writer. -/
theorem write_after_finish_is_error (ext : WExt) (s : WState) (hI : Inv s) (fa : Option Nat) (d : Dev) :
    Sat (finish ext s) fa d (fun rs _ => rs.1 = .ok () →
      (∀ buf, buf ≠ [] → writeData buf rs.2 = pure (.error (.io .other), rs.2)) ∧
      ∃ e, finish ext rs.2 = pure (.error e, rs.2)) := by
  apply Sat.mono (finish_sat ext s hI fa d)
  intro rs d' ⟨_, h⟩ hok
  exact ⟨fun buf hb => write_without_file_is_error buf hb _ (h () hok).2, finish_closed ext (h () hok).1⟩

/-- `end_extra_data` without `start_file_with_extra_data` is
`Err(io::ErrorKind::Other, "Not writing to extra field")`; the writer is unchanged. -/
theorem end_extra_data_not_begun_is_error (ext : WExt) (s : WState) (h : s.writingToExtraField = false) :
    endExtraData ext s = pure (.error (.io .other), s) := by
  unfold endExtraData; simp [h]

/-- `end_local_start_central_extra_data` without `start_file_with_extra_data` is the same error (it is
`end_extra_data`'s, called first); the writer is unchanged. -/
theorem end_local_not_begun_is_error (ext : WExt) (s : WState) (h : s.writingToExtraField = false) :
    endLocalStartCentral ext s = pure (.error (.io .other), s) := by
  unfold endLocalStartCentral
  rw [end_extra_data_not_begun_is_error ext s h]
  rfl

/-- Extra data that `validate_extra_data` refuses makes `end_extra_data` return that error; nothing
is written and the writer is unchanged (it stays in extra-data mode). -/
theorem invalid_extra_data_is_error (ext : WExt) (s : WState) (f : FileData) (e : ZErr)
    (hwe : s.writingToExtraField = true) (hcl : s.inner ≠ .closed)
    (hf : s.files.getLast? = some f) (hv : validateExtraData f = .error e) :
    endExtraData ext s = pure (.error e, s) := by
  unfold endExtraData
  have : s.inner.isClosed = false := by
    cases hi : s.inner <;> simp_all [Inner.isClosed]
  simp [hwe, this, hf, hv]

/-- What `validate_extra_data` refuses (1): a record that overruns the 16-bit length field together
with the ZIP64 record reserved for `large_file` — `InvalidData`. -/
theorem validate_rejects_too_long (f : FileData)
    (h : f.extraField.length + (if f.largeFile then 20 else 0) > 65535) :
    validateExtraData f = .error (.io .invalidData) := by
  unfold validateExtraData; rw [if_pos h]

/-- What `validate_extra_data` refuses (2), malformed: non-empty extra data of fewer than 4 bytes, too short
for the first record header. -/
theorem validate_rejects_truncated_header (f : FileData) (h1 : f.extraField ≠ [])
    (h4 : f.extraField.length < 4) : validateExtraData f = .error (.io .other) := by
  unfold validateExtraData
  have : ¬ (f.extraField.length + (if f.largeFile then 20 else 0) > 65535) := by split <;> omega
  rw [if_neg this]
  unfold validateExtraDataLoop
  have : f.extraField.isEmpty = false := by cases h : f.extraField <;> simp_all
  simp [this, h4]

/-- What `validate_extra_data` refuses (3), reserved: a first record whose header ID is the ZIP64 ID, an
ID ≤ 31, or one of the IDs of APPNOTE 4.5.2 / 4.6.1 (the table `reservedExtraIds`). -/
theorem validate_rejects_reserved (f : FileData) (a b c d : UInt8) (rest : Bytes)
    (hx : f.extraField = a :: b :: c :: d :: rest)
    (hk : mk16 a b = 0x0001 ∨ mk16 a b ≤ 31 ∨ validateExtraDataLoop.reservedExtraIds.contains (mk16 a b) = true) :
    ∃ e, validateExtraData f = .error e := by
  unfold validateExtraData
  by_cases hlen : f.extraField.length + (if f.largeFile then 20 else 0) > 65535
  · rw [if_pos hlen]; exact ⟨_, rfl⟩
  · rw [if_neg hlen, hx, validateLoop_header]
    by_cases h1 : (mk16 a b == 0x0001) = true
    · rw [if_pos h1]; exact ⟨_, rfl⟩
    · rw [if_neg h1]
      have : (decide (mk16 a b ≤ 31) || validateExtraDataLoop.reservedExtraIds.contains (mk16 a b)) = true := by
        rcases hk with h | h | h
        · exact absurd (by rw [h]; rfl) h1
        · simp [h]
        · rw [h]; simp
      rw [if_pos this]
      exact ⟨_, rfl⟩

/-- What `validate_extra_data` refuses (4), malformed: a first record whose declared size runs past the end of the data. -/
theorem validate_rejects_overlong_record (f : FileData) (a b c d : UInt8) (rest : Bytes)
    (hx : f.extraField = a :: b :: c :: d :: rest) (hs : (mk16 c d).toNat > rest.length) :
    ∃ e, validateExtraData f = .error e := by
  have h := Align.validateExtraData_malformed f.largeFile [] nofun _
    (.overrun (mk16 a b).toNat (mk16 c d).toNat rest (mk16 a b).toNat_lt (mk16 c d).toNat_lt hs)
  rw [Align.u16le_mk16, Align.u16le_mk16,
    show Spec.Extra.encodeAll [] ++ ([a, b] ++ [c, d] ++ rest) = f.extraField from hx.symm] at h
  rcases h with h | h <;> exact ⟨_, Lemmas.ExtraBridge.validate_of_align (r := .error _) h⟩

/-- **An unsupported method, or a level outside the range of a compressing method, makes
`start_file` return an error** — from every state, on every sink, for every injected fault. -/
theorem refused_start_is_error (ext : WExt) (name : Bytes) (o : FileOptions) (ho : TimeOk o.time)
    (hr : Refused o.method o.level) (s : WState) (hI : Inv s) (fa : Option Nat) (d : Dev) :
    Sat (startFile ext name o s) fa d (fun rs _ => ∃ e, rs.1 = .error e) := by
  unfold startFile
  apply Sat.bind
  apply Sat.mono (startEntry_sat ext name (withFilePerm o 0o644 0o100000) none ho s hI fa d)
  intro ⟨r, s1⟩ d1 ⟨hI1, hp⟩
  cases r with
  | error e => exact Sat.pure ⟨e, rfl⟩
  | ok u =>
    obtain ⟨_, _, _, _, hin, _⟩ := hp () rfl
    obtain ⟨enc, henc⟩ : ∃ enc, s1.inner = .storer enc := by
      rw [hin]; cases (withFilePerm o 0o644 0o100000).encryptWith <;> exact ⟨_, rfl⟩
    dsimp only
    rw [switchTo_refuses ext (withFilePerm o 0o644 0o100000).method (withFilePerm o 0o644 0o100000).level s1 enc henc hr]
    exact Sat.pure ⟨_, rfl⟩

/-- When `switch_to` refuses the method / level after the entry's header was written
(`start_entry` succeeded), `start_file` returns `UnsupportedArchive`, the entry stays in `files` and
the writer is left closed — so that every later `finish` fails (`finish_closed`) and the
half-created entry never reaches an archive. -/
theorem rejected_start_poisons (ext : WExt) (name : Bytes) (o : FileOptions)
    (hr : Refused o.method o.level) (s s1 : WState) (fa : Option Nat) (d d1 : Dev)
    (enc : Option EncState) (hin : s1.inner = .storer enc)
    (hse : startEntry ext name (withFilePerm o 0o644 0o100000) none s fa d = (.ok (.ok (), s1), d1)) :
    startFile ext name o s fa d = (.ok (.error .unsupportedArchive, { s1 with inner := .closed }), d1) ∧
    ∃ e, finish ext { s1 with inner := .closed } = pure (.error e, { s1 with inner := .closed }) := by
  refine ⟨?_, finish_closed ext rfl⟩
  unfold startFile
  dsimp only
  rw [M.bind_apply, hse]
  dsimp only
  rw [switchTo_refuses ext (withFilePerm o 0o644 0o100000).method (withFilePerm o 0o644 0o100000).level s1 enc hin hr]
  rfl

/-- Documented quirk (an observation, not a misuse): `Stored` with a compression level is silently
accepted by `start_file`, because `switch_to` returns early when the writer already is a storer. -/
theorem stored_level_is_accepted (ext : WExt) (l : Option Int) (s : WState) (enc : Option EncState)
    (hin : s.inner = .storer enc) : switchTo ext .stored l s = pure (.ok (), s) :=
  switchTo_stored ext l s enc hin

/-- The state-independent misuses in one statement: from every writer state,
a non-empty `write` with no file open, `end_extra_data` / `end_local_start_central_extra_data`
never begun, and `end_extra_data` on extra data that `validate_extra_data` refuses each return an
error and leave the writer as it was; a refused method / level closes a storer with
`UnsupportedArchive`; `finish` on a closed writer returns an error and leaves it closed.  (The
state-dependent ones — write after `add_directory` / `add_symlink` / `finish`, refused `start_file`,
poisoning — are the lemmas above, over `Sat` but for `rejected_start_poisons`.) -/
theorem misuse_is_error (ext : WExt) (s : WState) :
    (∀ buf, buf ≠ [] → s.writingToFile = false → writeData buf s = pure (.error (.io .other), s)) ∧
    (s.writingToExtraField = false → endExtraData ext s = pure (.error (.io .other), s)) ∧
    (s.writingToExtraField = false → endLocalStartCentral ext s = pure (.error (.io .other), s)) ∧
    (∀ f e, s.writingToExtraField = true → s.inner ≠ .closed → s.files.getLast? = some f →
      validateExtraData f = .error e → endExtraData ext s = pure (.error e, s)) ∧
    (∀ c l enc, s.inner = .storer enc → Refused c l →
      switchTo ext c l s = pure (.error .unsupportedArchive, { s with inner := .closed })) ∧
    (s.inner = .closed → ∃ e, finish ext s = pure (.error e, s)) :=
  ⟨fun buf hb h => write_without_file_is_error buf hb s h,
   end_extra_data_not_begun_is_error ext s,
   end_local_not_begun_is_error ext s,
   fun f e hwe hcl hf hv => invalid_extra_data_is_error ext s f e hwe hcl hf hv,
   fun c l enc hin hr => switchTo_refuses ext c l s enc hin hr,
   fun h => finish_closed ext h⟩

/-! ### Every call that is valid in its state succeeds (fault-free sink) -/

/-- `write` succeeds whenever a file is open and the writer is not closed, as long as the entry
stays within 4 GiB or was started with `large_file(true)` (in extra-data mode: always). -/
theorem write_succeeds (buf : Bytes) (s : WState) (hI : Inv s) (hwf : s.writingToFile = true)
    (hcl : s.inner ≠ .closed)
    (hsz : s.writingToExtraField = true ∨
      ∀ f, s.files.getLast? = some f → f.largeFile = true ∨ s.statsBytes + buf.length ≤ 0xFFFFFFFF)
    (d : Dev) : Sat (writeData buf s) none d (fun rs _ => rs.1 = .ok ()) := by
  obtain ⟨f, hf⟩ := exists_getLast? (hI.fileFiles hwf)
  rw [writeData_eq, hwf, Inner.isClosed_eq_false hcl, hf]
  split
  · exact Sat.pure rfl
  rw [if_neg (by simp), if_neg (by simp)]
  split
  · exact Sat.pure rfl
  next hwe =>
  refine Sat.io (MSat.mono (MSat.writeAll ..) fun _ d1 _ => ?_) (fun h => absurd rfl h)
  -- the 4 GiB check of the statistics update passes
  have : ¬ ((decide (s.statsBytes + buf.length > 0xFFFFFFFF) && !f.largeFile) = true) := by
    rcases hsz.resolve_left hwe f hf with h | h
    · simp [h]
    · simp; omega
  dsimp only
  rw [if_neg this]
  exact Sat.pure rfl

/-- `end_extra_data` succeeds in extra-data mode on an open writer whose buffered extra data is
valid and whose method / level is not refused. -/
theorem end_extra_data_succeeds (ext : WExt) (s : WState) (hI : Inv s) (f : FileData)
    (hwe : s.writingToExtraField = true) (hcl : s.inner ≠ .closed) (hf : s.files.getLast? = some f)
    (hv : validateExtraData f = .ok ()) (hr : ¬ Refused f.method f.level) (d : Dev) :
    Sat (endExtraData ext s) none d (fun rs _ => ∃ ds, rs.1 = .ok ds) := by
  refine (endExtraData_sat ext s hI none d).of_wsat ?_
  unfold endExtraData
  have hnc : s.inner.isClosed = false := by
    cases hi : s.inner <;> first | rfl | exact absurd hi hcl
  rw [if_neg (by simp [hwe]), if_neg (by simp [hnc])]
  simp only [hf, hv]
  split
  · split
    · next hin =>
      apply WSat.io_none (MSat.writeAll _ none d); intro _ d1 _
      split
      · exact WSat.panic
      · next e h =>
        obtain ⟨el, hel⟩ := localExtraLen_ok (f := { f with dataStart := UInt64.ofNat (f.dataStart.toNat + f.extraField.length) }) (validate_len hv)
        rw [hel] at h; cases h
      · apply WSat.io_none (MSat.seekStart _ none d1); intro _ d2 _
        apply WSat.io_none (MSat.writeAll _ none d2); intro _ d3 _
        apply WSat.io_none (MSat.seekStart _ none d3); intro _ d4 _
        obtain ⟨i, hi⟩ := switchTo_accepts ext f.method f.level
          { s with statsStart := f.dataStart.toNat + f.extraField.length,
                   files := setLast s.files { f with dataStart := UInt64.ofNat (f.dataStart.toNat + f.extraField.length) } }
          none hin hr
        rw [hi]
        exact WSat.pure ⟨_, rfl⟩
    · exact WSat.panic
  · exact WSat.pure ⟨_, rfl⟩

/-- **`start_file` succeeds** between entries (`Ready`), for a name that fits its 16-bit length
field, a timestamp of the public API and a method / level that is not refused. -/
theorem start_file_succeeds (ext : WExt) (name : Bytes) (o : FileOptions) (s : WState) (hI : Inv s)
    (d : Dev) (hr : Ready s d) (hn : name.length ≤ 65535) (ho : TimeOk o.time)
    (hm : ¬ Refused o.method o.level) :
    Sat (startFile ext name o s) none d (fun rs _ => rs.1 = .ok ()) := by
  refine (startFile_sat ext name o ho s hI none d).of_wsat ?_
  unfold startFile
  refine WSat.step_ok (startEntry_ready ext name (withFilePerm o 0o644 0o100000) none s hI d hr hn ho)
    fun s1 d1 _ hp => ?_
  obtain ⟨enc, henc⟩ : ∃ enc, s1.inner = .storer enc := by
    rw [hp.1.2.2.2.2.1]; cases (withFilePerm o 0o644 0o100000).encryptWith <;> exact ⟨_, rfl⟩
  dsimp only
  obtain ⟨i, hi⟩ := switchTo_accepts ext (withFilePerm o 0o644 0o100000).method (withFilePerm o 0o644 0o100000).level s1 enc henc hm
  rw [hi]
  exact WSat.pure rfl

/-- **`add_directory` succeeds** between entries; the `+ 1` in `hn` is the `/` it appends to a name that
ends in neither `/` nor `\`, the sum being what has to fit the 16-bit length field. -/
theorem add_directory_succeeds (ext : WExt) (name : Bytes) (o : FileOptions) (s : WState) (hI : Inv s)
    (d : Dev) (hr : Ready s d) (hn : name.length + 1 ≤ 65535) (ho : TimeOk o.time) :
    Sat (addDirectory ext name o s) none d (fun rs _ => rs.1 = .ok ()) := by
  refine (addDirectory_sat ext name o ho s hI none d).of_wsat ?_
  unfold addDirectory
  dsimp only
  refine WSat.step_ok (startEntry_ready ext _ _ none s hI d hr (by split <;> (try simp only [List.length_append, List.length_cons, List.length_nil]) <;> omega) (by exact ho))
    fun s1 d1 _ _ => WSat.pure rfl

/-- **`start_file_with_extra_data` succeeds** between entries (any method: it is only switched to by
`end_extra_data`). -/
theorem start_file_with_extra_data_succeeds (ext : WExt) (name : Bytes) (o : FileOptions) (s : WState)
    (hI : Inv s) (d : Dev) (hr : Ready s d) (hn : name.length ≤ 65535) (ho : TimeOk o.time)
    (henc : o.encryptWith = none) :
    Sat (startFileWithExtraData ext name o s) none d (fun rs _ => ∃ v, rs.1 = .ok v) := by
  refine (startFileWithExtraData_satH ext name o ho henc s hI none d).of_wsat ?_
  unfold startFileWithExtraData
  refine WSat.step_ok (startEntry_ready ext name (withFilePerm o 0o644 0o100000) none s hI d hr hn ho)
    fun s1 d1 _ _ => ?_
  dsimp only
  split
  · exact WSat.panic
  · exact WSat.pure ⟨_, rfl⟩

/-- **`finish` succeeds** between entries when the comment and every entry's central extra field fit
their 16-bit length fields: 65507 = 65535 − 28 leaves room for the largest central ZIP64 record (4 + 3·8 bytes,
`centralZip64Bytes_length`), which the central header puts in front of the entry's extra data. -/
theorem finish_succeeds (ext : WExt) (s : WState) (hI : Inv s) (d : Dev) (hr : Ready s d)
    (hc : s.comment.length ≤ 65535) (hx : ∀ f ∈ s.files, f.extraField.length ≤ 65507) :
    Sat (finish ext s) none d (fun rs _ => rs.1 = .ok ()) := by
  refine (finish_sat ext s hI none d).of_wsat ?_
  unfold finish
  apply WSat.bind
  refine WSat.mono (finalize_tail (R := fun rs => rs.1 = .ok () ∧ rs.2.inner = .storer none) (Nat.not_lt.mpr hc)
    (WSat.mono ((finishFile_sat ext s hI none d).toWSat.and (finishFile_ready ext s d hr)) ?_)) ?_
  · intro rs _ ⟨⟨_, hp⟩, hok, hex⟩
    refine ⟨⟨hok, (hp () hok).1⟩, fun _ g hg => ?_⟩
    obtain ⟨f, hf, he⟩ := hex g hg
    rw [he]; exact hx f hf
  · intro ⟨r, s1⟩ d1 ⟨hok, hin⟩
    dsimp only at hok hin ⊢
    subst hok
    dsimp only
    rw [hin]
    exact WSat.pure rfl

/-- `set_comment` always succeeds (the length is only checked by `finish`). -/
theorem set_comment_succeeds (ext : WExt) (c : Bytes) (s : WState) :
    step ext (.setComment c) s = pure (.ok none, { s with comment := c }) := rfl

/-- Dropping the writer never fails and never panics, whatever state it is in and whatever the sink
does: `Drop` finalizes unless the writer is closed and discards the error. -/
theorem drop_succeeds (ext : WExt) (s : WState) (hI : Inv s) (fa : Option Nat) (d : Dev) :
    Sat (dropWriter ext s) fa d (fun rs _ => rs.1 = .ok ()) := by
  unfold dropWriter
  split
  · exact Sat.pure rfl
  · apply Sat.bind
    apply Sat.mono (finalize_sat ext s hI fa d)
    intro ⟨r, s1⟩ d1 ⟨hI1, _⟩
    exact Sat.mono (dropInner_sat' ext s1 hI1 fa d1) (fun _ _ h => h.2)

/-- **`add_symlink` succeeds** between entries (the target fits 32 bits or `large_file` is set). -/
theorem add_symlink_succeeds (ext : WExt) (name target : Bytes) (o : FileOptions) (s : WState) (hI : Inv s)
    (d : Dev) (hr : Ready s d) (hn : name.length ≤ 65535) (ho : TimeOk o.time)
    (ht : o.largeFile = true ∨ target.length ≤ 0xFFFFFFFF) :
    Sat (addSymlink ext name target o s) none d (fun rs _ => rs.1 = .ok ()) := by
  refine (addSymlink_sat ext name target o ho s hI none d).of_wsat ?_
  unfold addSymlink
  dsimp only
  refine WSat.step_ok (startEntry_ready ext name _ none s hI d hr hn (by exact ho))
    fun s1 d1 hI1 ⟨⟨_, _, _, _, hin, _⟩, hsb, f, _, hf, _, _, hlf⟩ => ?_
  dsimp only
  apply WSat.bind
  have hncl : s1.inner ≠ .closed := by rw [hin]; split <;> nofun
  apply WSat.mono (write_succeeds target { s1 with writingToFile := true }
    (hI1.enterFile (ne_nil_of_getLast? hf) _) rfl hncl (Or.inr fun g hg => ?_) d1).toWSat
  · intro ⟨r2, s2⟩ d2 hok2
    dsimp only at hok2 ⊢
    subst hok2
    exact WSat.pure rfl
  · cases hf.symm.trans hg
    rcases ht with h | h
    · exact Or.inl (hlf.trans h)
    · right; show s1.statsBytes + target.length ≤ 0xFFFFFFFF; rw [hsb]; omega

/-- **`raw_copy_file` succeeds** between entries (for raw data below 4 GiB; larger sources are
declared `large_file` by the call itself when their recorded sizes say so). -/
theorem raw_copy_succeeds (ext : WExt) (src : FileData) (raw name : Bytes) (s : WState) (hI : Inv s)
    (d : Dev) (hr : Ready s d) (hn : name.length ≤ 65535) (ho : TimeOk src.time)
    (ht : raw.length ≤ 0xFFFFFFFF) :
    Sat (rawCopy ext src raw name s) none d (fun rs _ => rs.1 = .ok ()) := by
  refine (rawCopy_sat ext src raw name ho s hI none d).of_wsat ?_
  unfold rawCopy
  dsimp only
  refine WSat.step_ok (startEntry_ready ext name _ _ s hI d hr hn (by exact ho))
    fun s1 d1 hI1 ⟨⟨_, _, _, _, hin, _⟩, hsb, f, _, hf, _⟩ => ?_
  have hncl : s1.inner ≠ .closed := by rw [hin]; nofun
  exact (write_succeeds raw { s1 with writingToFile := true, writingRaw := true }
    (hI1.enterFile (ne_nil_of_getLast? hf) true) rfl hncl (Or.inr fun g _ => Or.inr (by
      show s1.statsBytes + raw.length ≤ 0xFFFFFFFF; rw [hsb]; omega)) d1).toWSat

/- Left out: there is no success statement for `start_file_aligned` and
`end_local_start_central_extra_data`, and `Ready` does not cover a writer whose current entry is compressed or
encrypted (the bytes `finish_file` still has to flush depend on the external encoder). -/

/-! ### `ZipWriter.files` tracks the calls that succeeded -/

/-- The fragment of the alphabet covered by `files_track_calls_partial`: everything except the two
calls that open extra-data mode and `drop` (which consumes the writer in Rust). -/
def Call.InFragment : Call → Prop
  | .startFileWithExtraData _ _ => False
  | .startFileAligned _ _ _ => False
  | .drop => False
  | _ => True

instance : DecidablePred Call.InFragment := fun c => by
  cases c <;> unfold Call.InFragment <;> infer_instance

/-- What a call that returned `o` contributes to the expected archive contents. -/
def logStep (log : List Entry) : Call → Out (Option Nat) → List Entry
  | .startFile n _, .ok _ => log ++ [⟨n, [], none⟩]
  | .addDirectory n _, .ok _ => log ++ [⟨dirName n, [], none⟩]
  | .addSymlink n t _, .ok _ => log ++ [⟨n, t, none⟩]
  | .rawCopy src _ n, .ok _ => log ++ [⟨n, [], some src⟩]
  | .write b, .ok _ => appendData log b
  | _, _ => log

def logOf : List Entry → List Call → List (Out (Option Nat)) → List Entry
  | log, c :: cs, o :: os => logOf (logStep log c o) cs os
  | log, _, _ => log

def outcomeOf : Except ZErr (Option Nat) → Out (Option Nat)
  | .ok v => .ok v
  | .error e => .err e

theorem mapStep_wsat {α β} (f : α → β) (st : Step α) (s : WState) (fa : Option Nat) (d : Dev)
    (Q : Except ZErr α × WState → Dev → Prop) (Q' : Except ZErr β × WState → Dev → Prop)
    (h : WSat (st s) fa d Q) (hq : ∀ r s' d', Q (r, s') d' → Q' (r.map f, s') d') :
    WSat (mapStep f st s) fa d Q' := by
  unfold mapStep
  apply WSat.bind
  apply WSat.mono h
  intro ⟨r, s'⟩ d' hr
  exact WSat.pure (hq r s' d' hr)

theorem mapStep_pure {α β} (f : α → β) (st : Step α) (s s' : WState) (r : Except ZErr α)
    (h : st s = pure (r, s')) : mapStep f st s = pure (r.map f, s') := by
  unfold mapStep; rw [h]; rfl

/-- A call of the fragment on a closed writer does no I/O and leaves it closed. -/
theorem step_closed (ext : WExt) (c : Call) (hc : c.InFragment) {s : WState} (h : s.inner = .closed) :
    ∃ r s', step ext c s = pure (r, s') ∧ s'.inner = .closed := by
  cases c with
  | startFile n o => obtain ⟨e, he⟩ := startFile_closed ext n o h; exact ⟨_, s, mapStep_pure _ _ _ _ _ he, h⟩
  | startFileWithExtraData n o => exact hc.elim
  | startFileAligned n o a => exact hc.elim
  | write b => obtain ⟨r, he⟩ := writeData_closed b h; exact ⟨_, s, mapStep_pure _ _ _ _ _ he, h⟩
  | endLocalStartCentral =>
    obtain ⟨e, he⟩ := endLocalStartCentral_closed ext h; exact ⟨_, s, mapStep_pure _ _ _ _ _ he, h⟩
  | endExtraData => obtain ⟨e, he⟩ := endExtraData_closed ext h; exact ⟨_, s, mapStep_pure _ _ _ _ _ he, h⟩
  | addDirectory n o => obtain ⟨e, he⟩ := addDirectory_closed ext n o h; exact ⟨_, s, mapStep_pure _ _ _ _ _ he, h⟩
  | addSymlink n t o => obtain ⟨e, he⟩ := addSymlink_closed ext n t o h; exact ⟨_, s, mapStep_pure _ _ _ _ _ he, h⟩
  | setComment cm => exact ⟨_, _, rfl, h⟩
  | rawCopy src raw n => obtain ⟨e, he⟩ := rawCopy_closed ext src raw n h; exact ⟨_, s, mapStep_pure _ _ _ _ _ he, h⟩
  | finish => obtain ⟨e, he⟩ := finish_closed ext h; exact ⟨_, s, mapStep_pure _ _ _ _ _ he, h⟩
  | drop => exact hc.elim

/-- The calls that start an entry `e`: success appends `e` to the log, an error leaves it. -/
private theorem track_start {α} (f : α → Option Nat) (st : Step α) (c : Call) (log : List Entry) (e : Entry)
    (s : WState) (d : Dev) (hok : ∀ v, logStep log c (.ok v) = log ++ [e]) (herr : ∀ z, logStep log c (.err z) = log)
    (h : WSat (st s) none d (TPost log fun _ s' => Tr (log ++ [e]) s')) :
    WSat (mapStep f st s) none d (fun rs _ => Track (logStep log c (outcomeOf rs.1)) rs.2) := by
  refine mapStep_wsat f st s none d _ _ h fun r s' d' h => ?_
  cases r with
  | error z => exact (herr z).symm ▸ h
  | ok u => exact (hok (f u)).symm ▸ Or.inr h

/-- On a fault-free sink every call of the fragment keeps `ZipWriter.files` in step with the log of
successful calls — or leaves the writer poisoned (closed), after which `finish` can only fail. -/
theorem track_step (ext : WExt) (c : Call) (hc : c.InFragment) (log : List Entry) (s : WState)
    (hT : Track log s) (d : Dev) :
    WSat (step ext c s) none d (fun rs _ => Track (logStep log c (outcomeOf rs.1)) rs.2) := by
  rcases hT with hcl | hT
  · -- poisoned: every call leaves the writer closed
    obtain ⟨r, s', he, hcl'⟩ := step_closed ext c hc hcl
    rw [he]
    exact WSat.pure (Or.inl hcl')
  · cases c with
    | startFile n o =>
      exact track_start _ _ _ log _ s d (fun _ => rfl) (fun _ => rfl) (startFile_track ext n o log s hT d)
    | startFileWithExtraData n o => exact hc.elim
    | startFileAligned n o a => exact hc.elim
    | write b =>
      apply mapStep_wsat _ _ s none d _ _ (writeData_track b log s hT d)
      intro r s' d' h
      cases r with
      | error e =>
        rcases h with h | ⟨_, h⟩
        · exact Or.inl h
        · exact Or.inr (h ▸ hT)
      | ok u => exact Or.inr h
    | endLocalStartCentral =>
      rw [show step ext .endLocalStartCentral s = _ from
        mapStep_pure _ _ _ _ _ (end_local_not_begun_is_error ext s hT.noExtra)]
      exact WSat.pure (Or.inr hT)
    | endExtraData =>
      rw [show step ext .endExtraData s = _ from
        mapStep_pure _ _ _ _ _ (end_extra_data_not_begun_is_error ext s hT.noExtra)]
      exact WSat.pure (Or.inr hT)
    | addDirectory n o =>
      exact track_start _ _ _ log _ s d (fun _ => rfl) (fun _ => rfl) (addDirectory_track ext n o log s hT d)
    | addSymlink n t o =>
      exact track_start _ _ _ log _ s d (fun _ => rfl) (fun _ => rfl) (addSymlink_track ext n t o log s hT d)
    | setComment cm => exact WSat.pure (Or.inr { hT with })
    | rawCopy src raw n =>
      exact track_start _ _ _ log _ s d (fun _ => rfl) (fun _ => rfl) (rawCopy_track ext src raw n log s hT d)
    | finish =>
      apply mapStep_wsat _ _ s none d _ _ (finish_track ext log s hT d)
      intro r s' d' h
      cases r with
      | error e => exact h
      | ok u => exact Or.inl h.2
    | drop => exact hc.elim

theorem logOf_nil_outs (log : List Entry) (cs : List Call) : logOf log cs [] = log := by
  cases cs <;> rfl

theorem tr_init : Tr [] WState.init :=
  ⟨rfl, by simp [WState.init], Or.inl ⟨rfl, rfl, rfl⟩⟩

theorem run_track (ext : WExt) (calls : List Call) (hc : ∀ c ∈ calls, c.InFragment) :
    ∀ (log : List Entry) (s : WState), Track log s → ∀ (d : Dev),
      Track (logOf log calls (runCalls ext calls s none d).1) (runCalls ext calls s none d).2.1 := by
  induction calls with
  | nil => intro log s hT d; exact hT
  | cons c cs ih =>
    intro log s hT d
    have hstep := track_step ext c (hc c (by simp)) log s hT d
    have ih' := ih (fun c' h' => hc c' (by simp [h']))
    unfold runCalls
    split
    · next v s' d' heq =>
      have := hstep.elim heq
      exact ih' _ s' this d'
    · next e s' d' heq =>
      have := hstep.elim heq
      exact ih' _ s' this d'
    · next e d' heq =>
      exact ih' _ s (by cases c <;> exact hT) d'
    · next site d' heq =>
      show Track (logOf (logStep log c (.panic site)) cs []) s
      rw [logOf_nil_outs]
      cases c <;> exact hT

/-- **`files_track_calls` (partial: the fragment without `start_file_with_extra_data`,
`start_file_aligned` and `drop`; fault-free sink).**  After any call sequence of the fragment, legal
or not, from a fresh writer: if `finish()` then succeeds, the central directory that was written
(`ZipWriter.files`) is exactly the list of entries whose creation succeeded, in order, each entry
started through the writer with `crc32 = CRC-32 (bytes successfully written to it)` and
`uncompressed_size = their number`, each raw copy with its source's CRC, sizes and method.

The archive-level form — re-opening the sink after `finish` yields these entries — needs the reader model
and is `C12Archive.finish_output_exact` for Level-1 scripts and `C12ArchiveFull.finish_output_exact_full`
for the whole alphabet, where bytes written in extra-data mode go to the extra field instead of the
content.  The `ZipWriter.files` form (`Forall2 Closed`) is stated for this fragment only. -/
theorem files_track_calls_partial (ext : WExt) (calls : List Call) (hc : ∀ c ∈ calls, c.InFragment)
    (d : Dev) (v : Option Nat) (s' : WState) (d' : Dev)
    (hfin : step ext .finish (runCalls ext calls WState.init none d).2.1 none
      (runCalls ext calls WState.init none d).2.2 = (.ok (.ok v, s'), d')) :
    Forall2 Closed (logOf [] calls (runCalls ext calls WState.init none d).1) s'.files := by
  have hT := run_track ext calls hc [] WState.init (Or.inr tr_init) d
  generalize logOf [] calls (runCalls ext calls WState.init none d).1 = log at hT ⊢
  generalize (runCalls ext calls WState.init none d).2.1 = s at hT hfin
  generalize (runCalls ext calls WState.init none d).2.2 = d0 at hfin
  rcases hT with hcl | hT
  · obtain ⟨e, he⟩ := finish_closed ext hcl
    have h2 : step ext .finish s = pure (.error e, s) := mapStep_pure _ _ _ _ _ he
    rw [h2] at hfin
    cases hfin
  · have h3 := (mapStep_wsat (fun _ => (none : Option Nat)) (finish ext) s none d0 _
      (fun rs _ => ∀ v, rs.1 = .ok v → Forall2 Closed log rs.2.files)
      (finish_track ext log s hT d0) (by
        intro r s1 d1 h
        cases r with
        | error e => intro v hv; cases hv
        | ok u => intro v _; exact h.1)).elim hfin
    exact h3 v rfl

/-! ### Non-vacuity: concrete runs, evaluated by the kernel -/

/-- outcome classes, for comparing runs -/
inductive Cls | ok | err | panic
  deriving DecidableEq, Repr

def cls : Out (Option Nat) → Cls
  | .ok _ => .ok
  | .err _ => .err
  | .panic _ => .panic

/-- an arbitrary instance of the external code (identity "compressor" / "cipher") -/
def ext0 : WExt := ⟨fun _ _ b => b, fun _ b => b⟩

def opts (m : Method) (l : Option Int) : FileOptions :=
  { method := m, level := l, time := DateTime.default, permissions := none, largeFile := false,
    encryptWith := none }

def classes (calls : List Call) : List Cls :=
  (runCalls ext0 calls WState.init none (Dev.ofBytes [])).1.map cls

/-- The D11 sequence (level out of range given to `start_file_with_extra_data`): the start succeeds,
`end_extra_data` reports the refusal and closes the writer, `finish` then fails with BrokenPipe —
`[ok, err, err]`, no panic (before the `fix:` commit the third call panicked in `get_plain`). -/
def d11 : List Call :=
  [.startFileWithExtraData [0x78] (opts .deflated (some 99)), .endExtraData, .finish]

example : ∀ c ∈ d11, c.Admissible := by decide
example : classes d11 = [.ok, .err, .err] := by decide +kernel

/-- `writer_no_panic` instantiated: its hypotheses hold on this run (the final sink position is a
`u64`), also when the 3rd I/O call of the run is made to fail. -/
example : ∀ o ∈ (runCalls ext0 d11 WState.init (some 2) (Dev.ofBytes [])).1, o.isPanic = false :=
  writer_no_panic ext0 d11 (by decide) (some 2) (Dev.ofBytes []) (by unfold Dev.InRange; decide +kernel)

/-- A misuse sequence: write before any file, end extra data never begun, then a legal file, a
directory, a write after the directory, `finish`, a write and a second `finish` after it. -/
def misuse : List Call :=
  [.write [1], .endExtraData, .startFile [0x61] (opts .stored none), .write [1, 2, 3],
   .addDirectory [0x64] (opts .stored none), .write [4], .finish, .write [5], .finish]

example : ∀ c ∈ misuse, c.Admissible ∧ c.InFragment := by decide
example : classes misuse = [.err, .err, .ok, .ok, .ok, .err, .ok, .err, .err] := by decide +kernel

/-- Unsupported method, Bzip2 level 0 (D10: refused, not a panic inside the encoder), Stored with a
level (accepted). -/
example : classes [.startFile [0x61] (opts (.unsupported 1) none), .finish] = [.err, .err] := by
  decide +kernel
example : classes [.startFile [0x61] (opts .bzip2 (some 0)), .finish] = [.err, .err] := by
  decide +kernel
example : classes [.startFile [0x61] (opts .stored (some 99)), .finish] = [.ok, .ok] := by
  decide +kernel
example : Refused .deflated (some 99) ∧ Refused .bzip2 (some 0) ∧ Refused .aes none ∧
    ¬ Refused .deflated none ∧ ¬ Refused .zstd (some (-5)) ∧ ¬ Refused .stored (some 99) := by decide

/-- The restriction in `Call.Admissible` is necessary: with the experimental encryption option,
`start_file_with_extra_data` followed by `end_extra_data` reaches `get_plain`'s panic (recorded in
DESIGN.md, outside the property's quantifier). -/
theorem encryption_with_extra_data_panics :
    classes [.startFileWithExtraData [0x78] { opts .stored none with encryptWith := some [1] },
      .endExtraData] = [.ok, .panic] := by decide +kernel

/-- The `TimeOk` clauses of `Call.Admissible` are necessary: a timestamp before 1980 — which no `DateTime`
constructor produces (C18) — panics in `datepart`. -/
theorem year_before_1980_panics :
    classes [.startFile [0x61] { opts .stored none with time := ⟨1979, 1, 1, 0, 0, 0⟩ }] = [.panic] := by
  decide +kernel

example (d : Dev) : Ready WState.init d := ⟨rfl, rfl, Or.inr (fun f h => by simp [WState.init] at h)⟩

/-- A concrete instance of `files_track_calls_partial`: the central directory after
`start_file("a")`, `write([1,2,3])`, `add_directory("d")`, `finish`. -/
example :
    ((runCalls ext0 [.startFile [0x61] (opts .stored none), .write [1, 2, 3],
        .addDirectory [0x64] (opts .stored none), .finish] WState.init none (Dev.ofBytes [])).2.1.files.map
      fun f => (f.fileName, f.crc32, f.uncompressedSize)) =
    [([0x61], Spec.Crc32.crc32 [1, 2, 3], 3), ([0x64, 0x2f], 0, 0)] := by decide +kernel

/-! ### `Write::flush` (outside the call alphabet)

`impl Write for ZipWriter` has a second method besides `write`: `flush`.  It is not a constructor of `Call`
(adding one would touch every induction over call lists in C01/C02/C10/C12/C13/C14); it is modelled by
`Model.flushWriter`, answered by the driver from the model state (`Driver/Ops/Write.lean`, token `fl`) in the
harness streams `write` / `callseq` / `fault`, and these three facts are what the property needs of it: it never
panics and never changes the writer, a closed writer reports the misuse, an open one succeeds on a fault-free sink. -/

/-- `flush` leaves the writer state as it is — whatever it returns, from every state (no invariant
needed), on every device, under every injected fault — and it does not panic.  Hence it can be
interleaved anywhere in a call sequence without affecting `inv_step` / `writer_no_panic`. -/
theorem flush_keeps_state (s : WState) (fa : Option Nat) (d : Dev) :
    Sat (flushWriter s) fa d (fun rs _ => rs.2 = s) := by
  unfold flushWriter
  split
  · exact Sat.pure rfl
  · exact Sat.io (MSat.mono (MSat.flush fa d) fun _ _ _ => Sat.pure rfl) fun _ _ _ => rfl
  · exact Sat.pure rfl
  · exact Sat.pure rfl

/-- Misuse is reported: `flush` on a closed writer (after `finish`, or after a call that closed it) is
`Err(BrokenPipe)`, without touching the sink. -/
theorem flush_closed_is_error (s : WState) (h : s.inner = .closed) (fa : Option Nat) (d : Dev) :
    flushWriter s fa d = (.ok (.error (.io .brokenPipe), s), d) := by
  unfold flushWriter; rw [h]; rfl

/-- `flush` reports an error on a closed writer only: on a fault-free sink `flush` on a writer that is not
closed returns `Ok`. -/
theorem flush_open_ok (s : WState) (h : s.inner ≠ .closed) (d : Dev) :
    ∃ d', flushWriter s none d = (.ok (.ok (), s), d') := by
  unfold flushWriter
  cases hi : s.inner with
  | closed => exact absurd hi h
  | storer enc =>
    cases enc with
    | none => exact ⟨_, rfl⟩
    | some e => exact ⟨d, rfl⟩
  | compressor m l enc pending => exact ⟨d, rfl⟩

/-- after a successful `finish` the writer is closed, so `flush` is refused (with `finish_closed`) -/
example (d : Dev) : flushWriter { WState.init with inner := .closed } none d =
    (.ok (.error (.io .brokenPipe), { WState.init with inner := .closed }), d) :=
  flush_closed_is_error _ rfl none d


end ZipVerif.Props.C12
