import ZipVerif.Props.C12Archive
import ZipVerif.Lemmas.AppendClosed
/-
C14 at ARCHIVE level — raw copies and their neighbours.  (`Props/C14.lean` has the single call: the record it
creates and the bytes that reach the sink; `Props/C14Base.lean` the central record on the writer model alone.
This file imports neither: it stands on `Props/C12Archive.lean`.)

* **Neighbouring entries are unaffected.**  For scripts `pre ++ [raw_copy src raw name] ++ post` and
   `pre ++ post`, run by a fresh writer, whose Level-1 ghosts (`C01.finalGhost`) both close — for Level-1
   scripts followed by a successful `finish` the sinks are then the layouts of the ghosts' entries
   (`C01.writer_emits_layout_fresh`); that step is not part of the statement —
   the entries of the first archive, with the copy removed, have the same CONTENT as the entries of the
   second — name, method, DOS time and date, CRC, sizes, stored bytes,
   extra data, attributes, flags, local ZIP64 choice: everything except what depends on the position of
   the entry in the file (`gapBefore`, the version-needed values, which look at the header offset, and the
   offset-dependent part of the central ZIP64 record).  Proved through the expectation fold of
   `Props/C12Archive.lean` (`madeOf`): on a run whose ghost survives, the expectation is a function of the
   CALLS alone (`madeFold_eq_A`), and the entry of the emitted layout is a function of the expected entry
   up to its header offset (`entry_content`).
   Side condition `StartsFresh` (it is necessary — see the counterexample): `post` is empty or begins with a
   start call whose name is not over-long; a `write` directly behind the copy would go to the copy's dead
   bytes in one script and to the previous entry in the other.
* **The copy decodes to the same content**: `by_index` on the destination entry and on the source entry
   return the same `decode method data` under the same CRC check, for every method the reader decodes
   and an unencrypted source; for a method it cannot decode both fail with `UnsupportedArchive` while
   `by_index_raw` returns identical bytes.
* Finding: a raw copy of a ZipCrypto-ENCRYPTED entry loses the encryption flag (witness at the end).
-/

namespace ZipVerif.Props.C14Archive
open ZipVerif ZipVerif.Model ZipVerif.Spec.Zip ZipVerif.WL
open ZipVerif.Props.C12 (Call step runCalls)
open ZipVerif.Props.C12Archive

/-! ## 1. On a surviving run the expectation depends on the calls alone -/

/-- `madeStep` with every start call with a legal name and every accepted `write` taken as successful -/
def madeStepA (st : List Made × Option Made) (c : Call) : List Made × Option Made :=
  match opened? c with
  | some m => if m.name.length > 65535 then st else (st.1 ++ st.2.toList, some m)
  | none =>
    match c, st.2 with
    | .write b, some m =>
      if m.accepts && !m.isRaw then (st.1, some { m with bytes := m.bytes ++ b }) else st
    | _, _ => st

def madeFoldA : List Made × Option Made → List Call → List Made × Option Made
  | st, c :: cs => madeFoldA (madeStepA st c) cs
  | st, [] => st

def madeOfA (calls : List Call) : List Made :=
  (madeFoldA ([], none) calls).1 ++ (madeFoldA ([], none) calls).2.toList

/-- One call on a run whose ghost survives it: the outcome is determined. -/
theorem madeStep_eq_A (ext : WExt) {g : Ghost} {org : List Origin} {st : List Made × Option Made}
    (h : Agree g org st) (c : Call) (out : Out (Option Nat)) (ha' : (ghostStep ext g c out).alive) :
    madeStep st c out = madeStepA st c := by
  obtain ⟨_, ⟨n, o, raw, ok, mk, hrow, hs⟩ | ⟨b, rfl, hw⟩ | ⟨c', rfl, _⟩ | ⟨hin, _⟩⟩ := ghostStep_shape ext ha'
  · obtain ⟨m, hm, rfl, rfl, _⟩ := startRow_opened hrow
    unfold madeStep madeStepA
    rw [hm]
    dsimp only
    rcases hs with ⟨hn, _⟩ | ⟨_, _, _, _, hn, hok, _, _⟩
    · rw [if_pos hn, if_pos hn]
    · rw [if_neg hn, if_neg hn, hok]; rfl
  · rcases h.cases with ⟨D, gap, c0, rfl, hs2⟩ | ⟨D, gap, c0, o, m0, rfl, hs2, h2⟩
    · unfold madeStep madeStepA; simp [opened?, hs2]
    · rcases hw with ⟨_, _, _, _, _, _, hok, _⟩ | ⟨hnw, _⟩
      · unfold madeStep madeStepA; simp [opened?, hs2, hok]
      · have hacc : m0.accepts = false := by rw [← h2.2.1]; exact hnw _ _ _ _ rfl
        unfold madeStep madeStepA; simp [opened?, hs2, hacc]
  · unfold madeStep madeStepA; simp [opened?]
  · cases c <;> first | exact hin.elim | (unfold madeStep madeStepA; simp [opened?])

theorem madeFold_eq_A (ext : WExt) : ∀ (calls : List Call) (outs : List (Out (Option Nat))) (g : Ghost)
    (org : List Origin) (st : List Made × Option Made), Agree g org st → outs.length = calls.length →
    (ghostOf ext g calls outs).alive → madeFold st calls outs = madeFoldA st calls
  | [], outs, g, org, st, _, _, _ => by cases outs <;> rfl
  | c :: cs, [], g, org, st, _, hl, _ => by simp at hl
  | c :: cs, o :: os, g, org, st, h, hl, ha => by
    have ha1 := ghostOf_alive_back ext cs os _ ha
    show madeFold (madeStep st c o) cs os = madeFoldA (madeStepA st c) cs
    rw [← madeStep_eq_A ext h c o ha1]
    exact madeFold_eq_A ext cs os _ _ _ (agree_step ext h c o ha1) (by simpa using hl) ha

/-- a run whose ghost is alive at the end did not panic: there is one outcome per call -/
theorem alive_run_length (ext : WExt) : ∀ (calls : List Call) (s : WState) (fa : Option Nat) (d : Dev)
    (g : Ghost), (ghostOf ext g calls (runCalls ext calls s fa d).1).alive →
    (runCalls ext calls s fa d).1.length = calls.length
  | [], _, _, _, _, _ => rfl
  | c :: cs, s, fa, d, g, ha => by
    unfold runCalls at ha ⊢
    split at ha
    · simp only [List.length_cons]; rw [alive_run_length ext cs _ fa _ _ ha]
    · simp only [List.length_cons]; rw [alive_run_length ext cs _ fa _ _ ha]
    · simp only [List.length_cons]; rw [alive_run_length ext cs _ fa _ _ ha]
    · exfalso
      have : ghostOf ext g (c :: cs) [Out.panic ‹String›] = .lost := by
        show ghostOf ext (ghostStep ext g c (.panic _)) cs [] = .lost
        cases cs <;> rfl
      rw [this] at ha
      exact ha

/-- **On a run of a fresh writer whose ghost is alive at the end, the expected entries are a function of the
calls alone.** -/
theorem madeOf_eq_A (ext : WExt) (calls : List Call)
    (ha : (C01.finalGhost ext calls).alive) :
    madeOf calls (runCalls ext calls WState.init none (Dev.ofBytes [])).1 = madeOfA calls := by
  unfold madeOf madeOfA
  rw [madeFold_eq_A ext calls _ (.idle [] [] []) [] ([], none) ⟨.nil, trivial⟩
    (alive_run_length ext calls _ _ _ _ ha) ha]

/-! ## 2. Inserting a raw copy into the expectation -/

theorem madeStepA_prefix (l : List Made) (cur : Option Made) (c : Call) :
    madeStepA (l, cur) c = (l ++ (madeStepA ([], cur) c).1, (madeStepA ([], cur) c).2) := by
  unfold madeStepA
  cases ho : opened? c with
  | some m => dsimp only; split <;> simp
  | none =>
    dsimp only
    cases c <;> cases cur <;> simp <;> split <;> simp

theorem madeFoldA_prefix : ∀ (calls : List Call) (l : List Made) (cur : Option Made),
    madeFoldA (l, cur) calls = (l ++ (madeFoldA ([], cur) calls).1, (madeFoldA ([], cur) calls).2)
  | [], l, cur => by simp [madeFoldA]
  | c :: cs, l, cur => by
    have e1 : madeFoldA (l, cur) (c :: cs) = madeFoldA (madeStepA (l, cur) c) cs := rfl
    have e2 : madeFoldA ([], cur) (c :: cs) = madeFoldA (madeStepA ([], cur) c) cs := rfl
    rw [e1, e2, madeStepA_prefix]
    generalize madeStepA ([], cur) c = p
    obtain ⟨X, cur1⟩ := p
    rw [madeFoldA_prefix cs (l ++ X) cur1, madeFoldA_prefix cs X cur1]
    simp [List.append_assoc]

theorem madeFoldA_append : ∀ (a b : List Call) (st : List Made × Option Made),
    madeFoldA st (a ++ b) = madeFoldA (madeFoldA st a) b
  | [], _, _ => rfl
  | _ :: cs, b, _ => madeFoldA_append cs b _

def StartsFresh (post : List Call) : Prop :=
  post = [] ∨ ∃ c rest m, post = c :: rest ∧ opened? c = some m ∧ m.name.length ≤ 65535

def copyMade (src : FileData) (raw name : Bytes) : Made := ⟨name, rawOpts src, rawVals src, true, raw, true⟩

/-- **Inserting `raw_copy` inserts exactly one expected entry and changes no other.** -/
theorem madeOfA_insert (pre post : List Call) (src : FileData) (raw name : Bytes)
    (hn : name.length ≤ 65535) (hp : StartsFresh post) :
    ∃ k, k ≤ (madeOfA (pre ++ post)).length ∧
      madeOfA (pre ++ [.rawCopy src raw name] ++ post) =
        (madeOfA (pre ++ post)).take k ++ copyMade src raw name :: (madeOfA (pre ++ post)).drop k := by
  unfold madeOfA
  rw [madeFoldA_append, madeFoldA_append, madeFoldA_append]
  generalize madeFoldA ([], none) pre = st0
  obtain ⟨l, cur⟩ := st0
  have hcopy : madeFoldA (l, cur) [.rawCopy src raw name] = (l ++ cur.toList, some (copyMade src raw name)) := by
    show madeStepA (l, cur) (.rawCopy src raw name) = _
    unfold madeStepA
    simp only [opened?]
    rw [if_neg (by show ¬ name.length > 65535; omega)]
    rfl
  rw [hcopy]
  -- the fold state is (closed entries, open entry): the copy closes `cur` and is itself the open one.  A start
  -- call `c` next closes the copy in turn, both scripts go on from the same open entry `m`, and the rest of the
  -- fold only appends behind the closed list (`madeFoldA_prefix`): the copy sits at index `(l ++ cur.toList).length`
  rcases hp with hp | ⟨c, rest, m, hp, ho, hm⟩
  · subst hp
    refine ⟨(l ++ cur.toList).length, by simp [madeFoldA], ?_⟩
    show (l ++ cur.toList) ++ [copyMade src raw name] =
      (l ++ cur.toList).take (l ++ cur.toList).length ++ copyMade src raw name :: (l ++ cur.toList).drop _
    rw [List.take_length, List.drop_length]
  · subst hp
    have h1 : madeFoldA (l, cur) (c :: rest) = madeFoldA (l ++ cur.toList, some m) rest := by
      show madeFoldA (madeStepA (l, cur) c) rest = _
      unfold madeStepA; rw [ho]; dsimp only; rw [if_neg (by omega)]
    have h2 : madeFoldA (l ++ cur.toList, some (copyMade src raw name)) (c :: rest) =
        madeFoldA (l ++ cur.toList ++ [copyMade src raw name], some m) rest := by
      show madeFoldA (madeStepA _ c) rest = _
      unfold madeStepA; rw [ho]; dsimp only; rw [if_neg (by omega)]; rfl
    rw [h1, h2, madeFoldA_prefix rest (l ++ cur.toList ++ [copyMade src raw name]),
      madeFoldA_prefix rest (l ++ cur.toList)]
    generalize l ++ cur.toList = X
    generalize madeFoldA ([], some m) rest = R
    refine ⟨X.length, by simp, ?_⟩
    show (X ++ [copyMade src raw name] ++ R.1) ++ R.2.toList =
      ((X ++ R.1) ++ R.2.toList).take X.length ++ copyMade src raw name :: ((X ++ R.1) ++ R.2.toList).drop X.length
    rw [List.append_assoc X R.1, List.take_left' rfl, List.drop_left' rfl]
    simp

/-! ## 3. The emitted entry is a function of the expected entry, up to its position -/

/-- Everything of an entry that does not depend on where it lies in the file. -/
structure Content where
  name : Bytes
  method : UInt16
  time : UInt16
  date : UInt16
  crc : UInt32
  usize : UInt64
  data : Bytes
  flags : UInt16
  madeBy : UInt16
  externalAttrs : UInt32
  internalAttrs : UInt16
  localExtra : Bytes
  centralExtra : Bytes
  comment : Bytes
  localZip64 : Bool
  hasDesc : Bool
  z64 : Bool × Bool × Bool
  deriving DecidableEq

def contentOf (e : Spec.Zip.Entry) : Content :=
  ⟨e.name, e.method, e.time, e.date, e.crc, e.usize, e.data, e.flags, e.madeBy, e.externalAttrs,
   e.internalAttrs, e.localExtra, e.centralExtra, e.comment, e.localZip64, e.hasDesc, e.z64⟩

/-- the content an expected entry is emitted with (`dp` = the DOS date of its timestamp) -/
def madeContent (ext : WExt) (m : Made) (dp : UInt16) : Content :=
  let f := mkRec m.name m.opts m.rawv 0 0
  ⟨m.name, m.opts.method.toU16, m.opts.time.timepart, dp,
   if m.isRaw then (m.rawv.getD (0, 0, 0)).1 else Spec.Crc32.crc32 m.bytes,
   if m.isRaw then (m.rawv.getD (0, 0, 0)).2.2 else UInt64.ofNat m.bytes.length,
   m.stored ext, flagOf f, (System.unix.discr <<< 8) ||| DEFAULT_VERSION.toUInt16,
   (m.opts.permissions.getD 0o100644) <<< 16, 0, [], [], [], m.opts.largeFile, false, (false, false, false)⟩

theorem entry_content (ext : WExt) {m : Made} {org : Origin} {e : Spec.Zip.Entry}
    (hm : MadeRel m org) (ho : OriginRel ext org e) :
    ∃ dp, m.opts.time.datepart = some dp ∧ contentOf e = madeContent ext m dp := by
  cases org with
  | old => exact hm.elim
  | written f p =>
    obtain ⟨h1, h2, hs, ds, hf⟩ := hm
    obtain ⟨dp, gap, hdp, he⟩ := ho
    subst he hf h2
    refine ⟨dp, hdp, ?_⟩
    unfold contentOf madeContent Made.stored
    simp only [h1, Bool.false_eq_true, if_false]
    rfl
  | raw f p =>
    obtain ⟨h1, h2, hs, ds, hf⟩ := hm
    obtain ⟨dp, gap, hdp, he⟩ := ho
    subst he hf h2
    refine ⟨dp, hdp, ?_⟩
    unfold contentOf madeContent Made.stored
    simp only [h1, if_true]
    rfl

def madeContentD (ext : WExt) (m : Made) : Content := madeContent ext m (m.opts.time.datepart.getD 0)

theorem Forall2.map_eq {α β γ} {R : α → β → Prop} {f : α → γ} {g : β → γ} {l1 : List α} {l2 : List β}
    (h : Forall2 R l1 l2) (hfg : ∀ a b, R a b → f a = g b) : l1.map f = l2.map g := by
  induction h with
  | nil => rfl
  | cons hab _ ih => simp [hfg _ _ hab, ih]

/-- **The contents of the emitted entries are the contents of the expected entries**, whatever the
positions. -/
theorem emitted_contents (ext : WExt) (calls : List Call) (es : List Spec.Zip.Entry) (gap c : Bytes)
    (hg : (C01.finalGhost ext calls).close ext = some (es, gap, c)) :
    es.map contentOf = (madeOfA calls).map (madeContentD ext) := by
  have hmade := origins_are_made ext calls (runCalls ext calls WState.init none (Dev.ofBytes [])).1
    (alive_of_close hg)
  rw [madeOf_eq_A ext calls (alive_of_close hg)] at hmade
  have horg : Forall2 (OriginRel ext) (C01.finalOrigins ext calls) es :=
    traced_final (traced_run ext calls _ _ _ (traced_init ext [] [])) hg
  have key : ∀ (ms : List Made) (os : List Origin) (es : List Spec.Zip.Entry),
      Forall2 MadeRel ms os → Forall2 (OriginRel ext) os es →
      es.map contentOf = ms.map (madeContentD ext) := by
    intro ms os es h1
    induction h1 generalizing es with
    | nil => intro h2; cases h2; rfl
    | cons hab _ ih =>
      intro h2
      cases h2 with
      | cons hbc hrest =>
        obtain ⟨dp, hdp, hc⟩ := entry_content ext hab hbc
        simp only [List.map_cons, ih _ hrest, hc, madeContentD, hdp, Option.getD_some]
  exact key _ _ _ hmade horg

/-! ## 4. Neighbours of a raw copy are unaffected -/

/-- The Level-1 ghosts of both scripts, run by a fresh writer, close (`hA`, `hB`; for Level-1 scripts followed
by a successful `finish`, `C01.writer_emits_layout_fresh` says the sinks are then the layouts of `esA` resp.
`esB` — neither is assumed here, the statement is about the ghosts' entries).  Then `esA` is `esB` with
one entry inserted — the copy, whose content is the source's values and `raw` — and every other entry has
the SAME content in both archives: name, method, time, date, CRC, uncompressed size, stored bytes, flags,
made-by, attributes, extra data, local ZIP64 choice. -/
theorem raw_copy_neighbours_unaffected (ext : WExt) (pre post : List Call) (src : FileData)
    (raw name : Bytes) (hn : name.length ≤ 65535) (hp : StartsFresh post)
    (esA esB : List Spec.Zip.Entry) (gapA gapB cA cB : Bytes)
    (hA : (C01.finalGhost ext (pre ++ [.rawCopy src raw name] ++ post)).close ext = some (esA, gapA, cA))
    (hB : (C01.finalGhost ext (pre ++ post)).close ext = some (esB, gapB, cB)) :
    ∃ k, k ≤ esB.length ∧ esA.length = esB.length + 1 ∧
      esA.map contentOf =
        (esB.map contentOf).take k ++ madeContentD ext (copyMade src raw name) :: (esB.map contentOf).drop k := by
  obtain ⟨k, hk, hins⟩ := madeOfA_insert pre post src raw name hn hp
  have eA := emitted_contents ext _ esA gapA cA hA
  have eB := emitted_contents ext _ esB gapB cB hB
  have hlB : esB.length = (madeOfA (pre ++ post)).length := by
    have := congrArg List.length eB; simpa using this
  refine ⟨k, by omega, ?_, ?_⟩
  · have := congrArg List.length eA
    rw [hins] at this
    simp only [List.length_map, List.length_append, List.length_cons, List.length_take, List.length_drop] at this
    omega
  · rw [eA, eB, hins]
    simp only [List.map_append, List.map_cons, List.map_take, List.map_drop]

theorem copy_content (ext : WExt) (src : FileData) (raw name : Bytes) :
    let c := madeContentD ext (copyMade src raw name)
    c.name = name ∧ c.method = src.method.toU16 ∧ c.crc = src.crc32 ∧ c.usize = src.uncompressedSize ∧
    c.data = raw ∧ c.time = src.time.timepart ∧
    c.externalAttrs = (src.unixMode.getD 0o100644) <<< 16 := ⟨rfl, rfl, rfl, rfl, rfl, rfl, rfl⟩

/-- **The side condition is necessary**: with a `write` directly behind the copy, that write goes to the
copy's dead bytes in one script and into the previous entry in the other. -/
example :
    let pre : List Call := [.startFile [0x61] (C12.opts .stored none), .write [1]]
    let post : List Call := [.write [2]]
    (madeOfA (pre ++ [.rawCopy C01.srcRec [0xA, 0xB, 0xC] [0x72]] ++ post)).map (·.bytes) = [[1], [0xA, 0xB, 0xC]] ∧
    (madeOfA (pre ++ post)).map (·.bytes) = [[1, 2]] := by decide +kernel

def preX : List Call := [.startFile [0x61] (C12.opts .stored none), .write [1, 2]]
def postX : List Call := [.addSymlink [0x6c] [0x61] (C12.opts .stored none), .write [8]]

example : StartsFresh postX := Or.inr ⟨_, _, _, rfl, rfl, by decide⟩

/-- `raw_copy_neighbours_unaffected` on the concrete scripts `preX`, `postX`: its hypotheses hold (both ghosts
close; `postX` begins with a start call, the example above) and its conclusion is evaluated — the archive
with the copy is the other one with the copy's entry inserted at index 1.  The last conjunct compares the
three header offsets of `esA` with the two of `esB` followed by a 0: it holds whatever the offsets are and
does not measure by how much the symlink's header moves. -/
example :
    (match (C01.finalGhost C01.wext1 (preX ++ [.rawCopy C01.srcRec [0xA, 0xB, 0xC] [0x72]] ++ postX)).close C01.wext1,
       (C01.finalGhost C01.wext1 (preX ++ postX)).close C01.wext1 with
     | some (esA, _, _), some (esB, _, _) =>
       esA.map contentOf == (esB.map contentOf).take 1 ++
         madeContentD C01.wext1 (copyMade C01.srcRec [0xA, 0xB, 0xC] [0x72]) :: (esB.map contentOf).drop 1 &&
       esA.map (·.gapBefore) == [[], [], []] && esA.length == 3 &&
       -- positions DO differ: the symlink's header moves by the length of the copy
       (localOffsets esA 0 != localOffsets esB 0 ++ [0])
     | _, _ => false) = true := by decide +kernel

/-! ## 5. The copy decodes to the same content -/

/-- the record `raw_copy_file` pushes for the source entry `eS` of an archive (whatever the offsets) -/
def IsCopyOf (f : FileData) (eS : Spec.Zip.Entry) : Prop :=
  ∃ name offS preS chs hs ds,
    f = mkRec name (rawOpts (viewEntry eS offS preS chs)) (rawVals (viewEntry eS offS preS chs)) hs ds

theorem copy_entry_values (ext : WExt) (eS e : Spec.Zip.Entry) (f : FileData) (hf : IsCopyOf f eS)
    (hrel : OriginRel ext (.raw f eS.data) e) :
    e.method = eS.method ∧ e.crc = eS.crc ∧ e.usize = eS.usize ∧ e.data = eS.data ∧ e.time = eS.time ∧
    e.date = eS.date ∧ (e.flagsOut &&& 1 == 1) = false := by
  obtain ⟨name, offS, preS, chs, hs, ds, hf⟩ := hf
  obtain ⟨dp, gap, hdp, he⟩ := hrel
  subst he hf
  have hd : (DateTime.fromMsdos eS.date eS.time).datepart = some dp := hdp
  rw [(DateTime.fromMsdos_parts eS.date eS.time).1] at hd
  cases hd
  refine ⟨method_roundtrip eS.method, rfl, rfl, rfl, (DateTime.fromMsdos_parts eS.date eS.time).2, rfl, ?_⟩
  show (flagOf _ &&& 1 == 1) = false
  exact flagOf_plain _ rfl

/-- Entry `j` of the source archive (`lS`), unencrypted, copied raw into a
writer whose finished archive is `layoutOf es gap c []` with the copy at index `i`.  For every method the
reader can decode, `by_index` on the copy and on the source return the SAME result: the decoder applied
to the same stored bytes, passed through the CRC check against the same CRC — whatever `Ext.decode` is. -/
theorem raw_copy_decodes_same (wext : WExt) (rext : Ext) (lS : Layout) (hFS : lS.Fits) (j : Nat)
    (eS : Spec.Zip.Entry) (heS : lS.entries[j]? = some eS)
    (hencS : (eS.flagsOut &&& 1 == 1) = false) (hdec : (Method.fromU16 eS.method).decodable = true)
    (es : List Spec.Zip.Entry) (gap c : Bytes) (hFD : (layoutOf es gap c []).Fits)
    (i : Nat) (e : Spec.Zip.Entry) (he : es[i]? = some e) (f : FileData) (hf : IsCopyOf f eS)
    (hrel : OriginRel wext (.raw f eS.data) e) (pwS pwD : Option Bytes)
    (dS dD : Dev) (hdS : dS.buf = build lS) (hdD : dD.buf = build (layoutOf es gap c [])) :
    ∃ (R : Out Bytes) (posS posD : Nat) (dS' dD' : Dev),
      R = (rext.decode (Method.fromU16 eS.method) eS.data >>= fun x => crcCheck false eS.crc x) ∧
      (byIndexRead rext (archiveOf lS) j pwS).runPure dS = (.ok (.ok (posS, R)), dS') ∧
      (byIndexRead rext (archiveOf (layoutOf es gap c [])) i pwD).runPure dD = (.ok (.ok (posD, R)), dD') := by
  obtain ⟨k1, k2, _, k4, _, _, k7⟩ := copy_entry_values wext eS e f hf hrel
  obtain ⟨offS, dS', _, hS, _⟩ := C03.reader_entry_read rext lS hFS j eS heS pwS hencS hdec dS hdS
  obtain ⟨offD, dD', _, hD, _⟩ := C03.reader_entry_read rext (layoutOf es gap c []) hFD i e he pwD k7
    (by rw [k1]; exact hdec) dD hdD
  rw [k1, k2, k4] at hD
  exact ⟨_, _, _, dS', dD', rfl, hS, hD⟩

/-- **For a method the reader cannot decode** (`Unsupported(v)`), `by_index` on the raw copy and on its
unencrypted source both fail with `UnsupportedArchive`, while `by_index_raw` returns identical bytes on both
sides (the setting of `raw_copy_decodes_same`). -/
theorem raw_copy_unsupported_same (wext : WExt) (rext : Ext) (lS : Layout) (hFS : lS.Fits) (j : Nat)
    (eS : Spec.Zip.Entry) (heS : lS.entries[j]? = some eS)
    (hencS : (eS.flagsOut &&& 1 == 1) = false) (v : UInt16) (hm : Method.fromU16 eS.method = .unsupported v)
    (es : List Spec.Zip.Entry) (gap c : Bytes) (hFD : (layoutOf es gap c []).Fits)
    (i : Nat) (e : Spec.Zip.Entry) (he : es[i]? = some e) (f : FileData) (hf : IsCopyOf f eS)
    (hrel : OriginRel wext (.raw f eS.data) e) (pwS pwD : Option Bytes)
    (dS dD : Dev) (hdS : dS.buf = build lS) (hdD : dD.buf = build (layoutOf es gap c [])) :
    (∃ dS' dD', (byIndexRead rext (archiveOf lS) j pwS).runPure dS = (.err .unsupportedArchive, dS') ∧
      (byIndexRead rext (archiveOf (layoutOf es gap c [])) i pwD).runPure dD = (.err .unsupportedArchive, dD')) ∧
    (∃ pS pD dS' dD', (byIndexRaw (archiveOf lS) j).runPure dS = (.ok (pS, eS.data), dS') ∧
      (byIndexRaw (archiveOf (layoutOf es gap c [])) i).runPure dD = (.ok (pD, eS.data), dD')) := by
  obtain ⟨k1, _, _, k4, _, _, k7⟩ := copy_entry_values wext eS e f hf hrel
  obtain ⟨⟨dS1, hS1, _⟩, ⟨pS, dS2, hS2⟩⟩ := C03.unsupported_is_per_entry rext lS hFS j eS heS pwS
    (by rw [hencS]; simp) v hm dS hdS
  obtain ⟨⟨dD1, hD1, _⟩, ⟨pD, dD2, hD2⟩⟩ := C03.unsupported_is_per_entry rext (layoutOf es gap c []) hFD i e he pwD
    (by rw [k7]; simp) v (by rw [k1]; exact hm) dD hdD
  rw [k4] at hD2
  exact ⟨⟨dS1, dD1, hS1, hD1⟩, ⟨pS, pD, dS2, dD2, hS2, hD2⟩⟩

/-! ## 6. Finding: a raw copy of an ENCRYPTED entry loses the encryption flag -/

/-- `raw_copy_file` builds its options from `FileOptions::default()`: `encrypt_with` is `None`, so
`start_entry` pushes a record with `encrypted = false` whatever the source says.  The hypothesis
"unencrypted source" of `raw_copy_decodes_same` is therefore necessary: the copy of a ZipCrypto entry holds
the ciphertext (12-byte header included) but its general-purpose bit 0 is clear.  On the source `by_index`
without a password answers `PasswordRequired`; on the copy it "succeeds" and hands the ciphertext to the
decoder, and the CRC check (against the plaintext's CRC) then fails. -/
theorem copy_never_encrypted (src : FileData) (name : Bytes) (hs : Nat) (ds : UInt64) :
    (mkRec name (rawOpts src) (rawVals src) hs ds).encrypted = false ∧
    (flagOf (mkRec name (rawOpts src) (rawVals src) hs ds) &&& 1 == 1) = false :=
  ⟨rfl, flagOf_plain _ rfl⟩

/-- an encrypted variant of C01's source record -/
def srcEnc : FileData := { C01.srcRec with encrypted := true, method := .stored, compressedSize := 3 }

/-- **Witness** (model run): raw-copy the encrypted `srcEnc`, finish, re-open: the entry is reported as NOT
encrypted, with the source's CRC; reading it without a password does not answer `PasswordRequired` (as it
does for every entry flagged encrypted) but hands the stored bytes — for a real source: the ciphertext —
to the decoder and the CRC check, which rejects them (in this toy source the three "stored bytes" are not
a ciphertext of anything; what matters is the path taken: decode + CRC instead of `PasswordRequired`). -/
theorem finding_raw_copy_drops_encryption :
    srcEnc.encrypted = true ∧
    (match C01.finishDev C01.wext1 [.rawCopy srcEnc [0xA, 0xB, 0xC] [0x72]] with
     | some d' =>
       (match openArchive.runPure (Dev.ofBytes d'.buf) with
        | (.ok a, d1) =>
          a.files.map (·.encrypted) == [false] && a.files.map (·.crc32) == [srcEnc.crc32] &&
          (match ((byIndexRead C01.rext1 a 0 none).runPure d1).1 with
           | .ok (.ok (_, .err (.io .other))) => true
           | _ => false)
        | _ => false)
     | none => false) = true := by decide +kernel

end ZipVerif.Props.C14Archive
