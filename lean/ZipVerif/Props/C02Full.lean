import ZipVerif.Lemmas.WL2Origin
import ZipVerif.Lemmas.ReadWf
import ZipVerif.Props.C02
/-
C02 (full alphabet) — the writer emits a layout, for EVERY call of `ZipWriter`.

Level 2 of the development behind `Props/C01.lean` / `Props/C02.lean`: extra-data mode
(`start_file_with_extra_data`, `write` into the extra field, `end_local_start_central_extra_data`,
`end_extra_data`), `start_file_aligned`, and the ZipCrypto option.  The ghost (`WL.Ghost2`,
`WL.ghostStep2`, Lemmas/WL2Run.lean) computes from the calls and their outcomes the entries of the
archive — here with local extra data `lx`, central extra data `cx` and, for encrypted entries, the stored
bytes `zcEncrypt pw (11 zero bytes ++ [crc >>> 24] ++ payload)`.
-/

namespace ZipVerif.Props.C02Full
open ZipVerif ZipVerif.Model ZipVerif.Spec.Zip ZipVerif.WL
open ZipVerif.Props.C12 (Call step runCalls)

/-- **`writer_emits_layout_full`** (general form: from any writer state / device in step with a ghost
state — a fresh writer, or the state `new_append` returns).  After any script over the WHOLE call
alphabet (`Level2` = `Call.Admissible` + consistent raw copies, no `finish` / `Drop` inside the
script), if the ghost closes and `finish` returns `Ok`: the live part of the sink is exactly
`build (layoutOf es gap c [])`, the whole sink is that layout with the stale rest as `trailing`, the
comment fits, the writer is closed. -/
theorem writer_emits_layout_full (ext : WExt) (calls : List Call) (hc : ∀ c ∈ calls, Level2 c)
    (r : Nat) (g0 : Ghost2) (s0 : WState) (d0 : Dev) (hI : Inv s0) (h0 : Lay2 r g0 s0 d0)
    (es : List Spec.Zip.Entry) (gap c : Bytes)
    (hg : (ghostOf2 ext g0 calls (runCalls ext calls s0 none d0).1).close ext = some (es, gap, c))
    (v : Option Nat) (s' : WState) (d' : Dev)
    (hfin : step ext .finish (runCalls ext calls s0 none d0).2.1 none
      (runCalls ext calls s0 none d0).2.2 = (.ok (.ok v, s'), d')) :
    d'.buf.take d'.pos = build (layoutOf es gap c []) ∧
    d'.buf = build (layoutOf es gap c (d'.buf.drop d'.pos)) ∧
    d'.pos ≤ d'.buf.length ∧ d'.buf.length ≤ d'.pos + r ∧
    c.length ≤ 65535 ∧ s'.inner = .closed :=
  C01.emits_of_finish ext (finish_ghost2 ext (run_lay2 ext calls hc r g0 s0 d0 hI h0) hg) hfin

def finalGhost2 (ext : WExt) (calls : List Call) : Ghost2 :=
  ghostOf2 ext (.idle [] [] []) calls (runCalls ext calls WState.init none (Dev.ofBytes [])).1

/-- **`writer_emits_layout_full`, fresh writer**: the sink is exactly `build (layoutOf es gap c [])`. -/
theorem writer_emits_layout_full_fresh (ext : WExt) (calls : List Call) (hc : ∀ c ∈ calls, Level2 c)
    (es : List Spec.Zip.Entry) (gap c : Bytes)
    (hg : (finalGhost2 ext calls).close ext = some (es, gap, c))
    (v : Option Nat) (s' : WState) (d' : Dev)
    (hfin : step ext .finish (runCalls ext calls WState.init none (Dev.ofBytes [])).2.1 none
      (runCalls ext calls WState.init none (Dev.ofBytes [])).2.2 = (.ok (.ok v, s'), d')) :
    d'.buf = build (layoutOf es gap c []) ∧ c.length ≤ 65535 ∧ s'.inner = .closed := by
  obtain ⟨h1, _, h3, h4, h5, h6⟩ := writer_emits_layout_full ext calls hc 0 _ _ _ inv_init lay2_init_empty
    es gap c hg v s' d' hfin
  refine ⟨?_, h5, h6⟩
  rw [← h1, List.take_of_length_le (by omega)]

/-- the sink `C01.finishDev` returns, in terms of the Level-2 ghost -/
theorem finishDev_sink_full {ext : WExt} {calls : List Call} (hc : ∀ c ∈ calls, Level2 c)
    {es : List Spec.Zip.Entry} {gap c : Bytes} {d' : Dev}
    (hg : (finalGhost2 ext calls).close ext = some (es, gap, c)) (hd : C01.finishDev ext calls = some d') :
    d'.buf = build (layoutOf es gap c []) := by
  obtain ⟨v, s', hfin⟩ := C01.finishDev_some hd
  exact (writer_emits_layout_full_fresh ext calls hc es gap c hg v s' d' hfin).1

/-! ## The output is a readable layout; round trip -/

/-- Every entry of the emitted layout has a name that fits its length
field, no comment, local and central extra data that are well-formed record sequences without the
identifiers a reader interprets (established by `validate_extra_data`) and fit the local header's length
field, a method other than the AES pseudo-method, no data descriptor; the layout is `Readable`. -/
theorem writer_output_valid_full (ext : WExt) (calls : List Call) (hc : ∀ c ∈ calls, Level2R c)
    (es : List Spec.Zip.Entry) (gap c : Bytes)
    (hg : (finalGhost2 ext calls).close ext = some (es, gap, c))
    (v : Option Nat) (s' : WState) (d' : Dev)
    (hfin : step ext .finish (runCalls ext calls WState.init none (Dev.ofBytes [])).2.1 none
      (runCalls ext calls WState.init none (Dev.ofBytes [])).2.2 = (.ok (.ok v, s'), d')) :
    d'.buf = build (layoutOf es gap c []) ∧ (∀ e ∈ es, EntryOk2 e) ∧ c.length ≤ 65535 ∧
    (layoutOf es gap c []).Readable := by
  obtain ⟨hbuf, hclen, _⟩ := writer_emits_layout_full_fresh ext calls (fun c h => (hc c h).1) es gap c hg
    v s' d' hfin
  have hgood : Good2 (finalGhost2 ext calls) :=
    good2_run ext calls _ _ hc (show Good2 (.idle [] [] []) from fun e he => by cases he)
  have hes := hgood.fin (Ghost2.close_fin hg).1
  exact ⟨hbuf, hes, hclen, fun e he => (hes e he).readable⟩

/-- The archive a script over the whole alphabet produces opens with
`ZipArchive::new` (under the property's `NoFalseSig`, the size bounds, and room for a ZIP64 record next
to the central extra data), which returns the entries of the layout in order and the comment; and
`by_index_raw(i)` returns the stored bytes of entry `i` — for an encrypted entry the ZipCrypto
ciphertext `zcEncrypt pw (…)` (`encrypted_entry_data`). -/
theorem write_read_roundtrip_full (ext : WExt) (calls : List Call) (hc : ∀ c ∈ calls, Level2R c)
    (es : List Spec.Zip.Entry) (gap c : Bytes)
    (hg : (finalGhost2 ext calls).close ext = some (es, gap, c))
    (v : Option Nat) (s' : WState) (d' : Dev)
    (hfin : step ext .finish (runCalls ext calls WState.init none (Dev.ofBytes [])).2.1 none
      (runCalls ext calls WState.init none (Dev.ofBytes [])).2.2 = (.ok (.ok v, s'), d'))
    (hS : C03.NoFalseSig (layoutOf es gap c []))
    (hsize : (build (layoutOf es gap c [])).length < 2 ^ 63)
    (hu : ∀ e ∈ es, e.usize.toNat < 2 ^ 63)
    (hcx : ∀ e ∈ es, e.centralExtra.length + 28 ≤ 0xFFFF) :
    d'.buf = build (layoutOf es gap c []) ∧ (layoutOf es gap c []).Fits ∧
    ∃ d1, openArchive.runPure (Dev.ofBytes d'.buf) = (.ok (archiveOf (layoutOf es gap c [])), d1) ∧
      d1.buf = build (layoutOf es gap c []) ∧
      (archiveOf (layoutOf es gap c [])).comment = c ∧
      (archiveOf (layoutOf es gap c [])).files = viewOf (layoutOf es gap c []) ∧
      (archiveOf (layoutOf es gap c [])).files.length = es.length ∧
      ∀ (i : Nat) e, es[i]? = some e → ∃ ds d2,
        (byIndexRaw (archiveOf (layoutOf es gap c [])) i).runPure d1 = (.ok (ds, e.data), d2) := by
  obtain ⟨hbuf, hes, hclen, _⟩ := writer_output_valid_full ext calls hc es gap c hg v s' d' hfin
  obtain ⟨hF, hR⟩ := layout_fits_readable2 gap c [] hes hclen hsize hu hcx
  obtain ⟨d1, h1, h2⟩ := C03.reader_on_wf _ hF hR hS (Or.inl rfl)
  refine ⟨hbuf, hF, d1, by rw [hbuf]; exact h1, h2, rfl, rfl, (C03.archive_fields _).2.2.2, ?_⟩
  intro i e he
  obtain ⟨off, d2, _, h, _⟩ := C03.reader_entry_raw _ hF i e he d1 h2
  exact ⟨_, d2, h⟩

/-- What `Drop` leaves after a script over the whole alphabet is the layout `finish` leaves
(`writer_emits_layout_full`), the comment fitting: `finalize` then succeeds and leaves the plain storer
behind, so dropping the fields writes nothing; cf. `C01.finish_eq_drop`. -/
theorem drop_emits_layout_full (ext : WExt) (calls : List Call) (hc : ∀ c ∈ calls, Level2 c)
    (r : Nat) (g0 : Ghost2) (s0 : WState) (d0 : Dev) (hI : Inv s0) (h0 : Lay2 r g0 s0 d0)
    (es : List Spec.Zip.Entry) (gap c : Bytes) (hclen : c.length ≤ 65535)
    (hg : (ghostOf2 ext g0 calls (runCalls ext calls s0 none d0).1).close ext = some (es, gap, c))
    (v : Option Nat) (s' : WState) (d' : Dev)
    (hfin : step ext .drop (runCalls ext calls s0 none d0).2.1 none
      (runCalls ext calls s0 none d0).2.2 = (.ok (.ok v, s'), d')) :
    d'.buf.take d'.pos = build (layoutOf es gap c []) ∧
    d'.buf = build (layoutOf es gap c (d'.buf.drop d'.pos)) :=
  C01.emits_of_drop ext (drop_ghost2 ext (run_lay2 ext calls hc r g0 s0 d0 hI h0) hg (by omega)) hfin

/-! ## Origins: the plaintext of every entry -/

def finalOrigins2 (ext : WExt) (calls : List Call) : List Origin2 :=
  (finalGhost2 ext calls).closeOrigins
    (originsOf2 ext (.idle [] [] []) [] calls (runCalls ext calls WState.init none (Dev.ofBytes [])).1)

/-- **One origin per emitted entry, in order**: for every entry of the layout, the record
`start_entry` pushed for it, its password (if encrypted), the local and central extra data, and the
plaintext the `write` calls delivered — `OriginRel2` says the entry IS `specEntry` of those. -/
theorem emitted_origins_full (ext : WExt) (calls : List Call) (es : List Spec.Zip.Entry) (gap c : Bytes)
    (hg : (finalGhost2 ext calls).close ext = some (es, gap, c)) :
    Forall2 (OriginRel2 ext) (finalOrigins2 ext calls) es :=
  traced2_final (traced2_run ext calls _ _ _ (fun _ => .nil)) (Ghost2.close_fin hg).1

/-- **Reading an unencrypted entry returns its plaintext** — also for entries written in extra-data or
aligned mode (their local extra data are skipped through the local header's own length field).  Codec
round trip as in `C01.roundtrip_entry_plain`. -/
theorem roundtrip_entry_plain_full (wext : WExt) (rext : Ext) {es : List Spec.Zip.Entry} {gap c : Bytes}
    (hF : (layoutOf es gap c []).Fits) (i : Nat) (e : Spec.Zip.Entry) (he : es[i]? = some e)
    (f : FileData) (lx cx plain : Bytes) (hrel : OriginRel2 wext (.written f none lx cx plain) e)
    (henc : f.encrypted = false) (hw : writable f.method = true)
    (hcodec : rext.decode f.method (dataOf wext f plain) = .ok plain)
    (pw : Option Bytes) (d : Dev) (hd : d.buf = build (layoutOf es gap c [])) :
    ∃ ds d', (byIndexRead rext (archiveOf (layoutOf es gap c [])) i pw).runPure d =
        (.ok (.ok (ds, .ok plain)), d') ∧ d'.buf = build (layoutOf es gap c []) := by
  obtain ⟨dp, gap0, _, hre⟩ := hrel
  have hm : Method.fromU16 e.method = f.method := by rw [hre]; exact C01.fromU16_toU16 hw
  refine C03.reader_entry_decoded rext _ hF i e he pw ?_ ?_ plain ?_ ?_ d hd
  · rw [hre]; exact flagOf_plain _ henc
  · rw [hm]; cases hf : f.method <;> simp_all [writable, Method.decodable]
  · rw [hm, hre]; exact hcodec
  · rw [hre]; rfl

theorem flagOf_no_desc (f : FileData) : (flagOf f &&& 0x0008 != 0) = false := by
  unfold flagOf
  cases isAscii f.fileName <;> cases f.encrypted <;> decide

/-- **Reading a ZipCrypto entry with its password returns its plaintext.**  The reader hands the stored
bytes — `zcEncrypt pw (11 zero bytes ++ [crc >>> 24] ++ payload)` — and the check byte (the CRC's high
byte: the entry has no data descriptor) to its cipher; under the cipher round trip (`hcipher`: decrypting
what the writer's cipher produced for that buffer returns the payload — for the PKWARE cipher this is
`Props.C15.decrypt_encrypt` together with `writer_emits_pkware`) and the codec round trip, `by_index`
with the password read to the end returns exactly the plaintext; the CRC check passes. -/
theorem roundtrip_entry_zc_full (wext : WExt) (rext : Ext) {es : List Spec.Zip.Entry} {gap c : Bytes}
    (hF : (layoutOf es gap c []).Fits) (i : Nat) (e : Spec.Zip.Entry) (he : es[i]? = some e)
    (f : FileData) (pw lx cx plain : Bytes) (hrel : OriginRel2 wext (.written f (some pw) lx cx plain) e)
    (henc : f.encrypted = true) (hw : writable f.method = true)
    (hcipher : rext.zipCrypto pw (Spec.Crc32.crc32 plain >>> 24).toUInt8
      (wext.zcEncrypt pw (zcPlain (Spec.Crc32.crc32 plain) (dataOf wext f plain))) =
        .ok (some (dataOf wext f plain)))
    (hcodec : rext.decode f.method (dataOf wext f plain) = .ok plain)
    (d : Dev) (hd : d.buf = build (layoutOf es gap c [])) :
    ∃ ds d', (byIndexRead rext (archiveOf (layoutOf es gap c [])) i (some pw)).runPure d =
        (.ok (.ok (ds, .ok plain)), d') ∧ d'.buf = build (layoutOf es gap c []) := by
  obtain ⟨dp, gap0, _, hre⟩ := hrel
  have hm : Method.fromU16 e.method = f.method := by rw [hre]; exact C01.fromU16_toU16 hw
  have hdec : (Method.fromU16 e.method).decodable = true := by
    rw [hm]; cases hf : f.method <;> simp_all [writable, Method.decodable]
  have hfl := (encrypted_entry wext f cx plain pw dp gap0 lx f.versionNeeded henc).2.2.2
  obtain ⟨off, _, hrun⟩ := runs_byIndexRead_zc rext (layoutOf es gap c []) hF i e he pw
    (by rw [hre]; exact hfl) (by rw [hre]; exact flagOf_no_desc _) hdec (dataOf wext f plain)
    (by rw [hre]; exact hcipher) d.pos
  obtain ⟨d', h3, h4, _⟩ := hrun d hd rfl
  refine ⟨e.dataStart off 0, d', ?_, h4⟩
  rw [h3, hm, hcodec]
  have : e.crc = Spec.Crc32.crc32 plain := by rw [hre]; rfl
  simp [crcCheck, this, layoutOf]

/-! ## Extra data, alignment, encryption -/

/-- **Where the extra data end up**: the entry closed from an open entry (data phase, not a raw copy)
carries the bytes `end_extra_data` wrote behind the header as its LOCAL extra data and the extra field
of the record as its CENTRAL extra data; its CRC / sizes are those of the plaintext. -/
theorem extra_placement {ext : WExt} {o : Open2} (hraw : o.raw = false)
    {done : List Spec.Zip.Entry} {gap : Bytes} {es : List Spec.Zip.Entry} {gap' : Bytes}
    (hf : o.finData ext done gap = .ok es gap') :
    ∃ e, es = done ++ [e] ∧ e.localExtra = o.lx ∧ e.centralExtra = o.cx ∧ e.name = o.f.fileName ∧
      e.crc = Spec.Crc32.crc32 o.plain ∧ e.usize = UInt64.ofNat o.plain.length ∧
      e.data = dataOf2 ext o.f o.enc o.plain ∧ e.gapBefore = gap := by
  obtain ⟨dp, _, _, hes⟩ := finData_entry hraw hf
  exact ⟨_, hes, rfl, rfl, rfl, rfl, rfl, rfl, rfl⟩

/-- **What `validate_extra_data` establishes** is (more than) what the layout specification asks of an
extra field: complete records, none with identifier 0x0001 or 0x9901 (validation also refuses
0..31 and every defined or registered identifier — `Props.C17.validate_extra_iff`). -/
theorem validate_gives_extraOk (f : FileData) (h : validateExtraData f = .ok ()) :
    ExtraOk f.extraField ∧ f.extraField.length + (if f.largeFile then 20 else 0) ≤ 65535 :=
  ⟨validate_extraOk h, validate_len h⟩

/-- **`start_file_aligned`, archive level**: when the call succeeds (it leaves the new entry `o4` in its
data phase) the entry's data start — `o4.dataStart es gap` — is a multiple of the alignment; and in the
emitted archive the stored bytes of the entry closed from `o4` lie exactly at that offset. -/
theorem aligned_data_in_archive (ext : WExt) (a : UInt16) (es : List Spec.Zip.Entry) (gap c : Bytes)
    (f : FileData) (o4 o5 : Open2) (ha : 1 ≤ a.toNat)
    (h : alignedAfter a es gap c f = .opened es gap c o4) (hph : o4.phase = .data)
    -- `o5`: the same entry after the `write` calls (same record, same local extra data)
    (h5 : o5.f = o4.f ∧ o5.lx = o4.lx ∧ o5.raw = false)
    (es' : List Spec.Zip.Entry) (gap' : Bytes) (hf : o5.finData ext es gap = .ok es' gap')
    (rest : List Spec.Zip.Entry) (gapCd cm : Bytes) :
    ∃ e tail, es' = es ++ [e] ∧ (o4.dataStart es gap) % a.toNat = 0 ∧
      (build (layoutOf (es ++ e :: rest) gapCd cm [])).drop (o4.dataStart es gap) = e.data ++ tail := by
  obtain ⟨hal, _, _⟩ := aligned_dataStart a es gap c f o4 ha h hph
  obtain ⟨dp, _, _, hes⟩ := finData_entry h5.2.2 hf
  obtain ⟨tail, ht⟩ := C02.offsets_point_to_headers es rest
    (specEntry (closedRec o5.f o5.cx o5.plain (dataOf2 ext o5.f o5.enc o5.plain)) dp gap o5.lx
      (dataOf2 ext o5.f o5.enc o5.plain) o5.f.versionNeeded) gapCd cm
  have hoff := specEntry_data_offset (closedRec o5.f o5.cx o5.plain (dataOf2 ext o5.f o5.enc o5.plain)) dp gap
    o5.lx (dataOf2 ext o5.f o5.enc o5.plain) o5.f.versionNeeded
  have hds : o4.dataStart es gap = ((localsBytes es).length +
      (specEntry (closedRec o5.f o5.cx o5.plain (dataOf2 ext o5.f o5.enc o5.plain)) dp gap o5.lx
        (dataOf2 ext o5.f o5.enc o5.plain) o5.f.versionNeeded).gapBefore.length) +
      (localRecord (specEntry (closedRec o5.f o5.cx o5.plain (dataOf2 ext o5.f o5.enc o5.plain)) dp gap o5.lx
        (dataOf2 ext o5.f o5.enc o5.plain) o5.f.versionNeeded)).length := by
    have hh : hdrLen (closedRec o5.f o5.cx o5.plain (dataOf2 ext o5.f o5.enc o5.plain)) = hdrLen o4.f := by
      rw [← h5.1]; rfl
    unfold Open2.dataStart
    rw [← h5.2.1]
    omega
  refine ⟨_, tail, hes, hal, ?_⟩
  rw [hds, ← List.drop_drop, ht, List.drop_left' rfl]

/-- **Encrypted entries** (`WL.encrypted_entry`): stored bytes = `zcEncrypt pw (11 zero bytes ++
[crc >>> 24] ++ payload)`, CRC = the plaintext's, flag bit 0 set.  `Props.C15.writer_emits_pkware`
identifies `zcEncrypt` on this buffer with the PKWARE encryption under the password's keys. -/
theorem encrypted_entry_data (ext : WExt) (f : FileData) (cx plain pw : Bytes) (dp : UInt16)
    (gap lx : Bytes) (lv : UInt16) (henc : f.encrypted = true) :
    let e := specEntry (closedRec f cx plain (dataOf2 ext f (some pw) plain)) dp gap lx
      (dataOf2 ext f (some pw) plain) lv
    e.data = ext.zcEncrypt pw (zcPlain (Spec.Crc32.crc32 plain) (dataOf ext f plain)) ∧
    e.crc = Spec.Crc32.crc32 plain ∧ e.usize = UInt64.ofNat plain.length ∧
    (e.flagsOut &&& 1 == 1) = true :=
  encrypted_entry ext f cx plain pw dp gap lx lv henc

def xrec : Bytes := le16 0xcafe ++ le16 3 ++ [1, 2, 3]

/-- extra data split between local and central header, then an aligned file -/
def scriptX : List Call :=
  [.startFileWithExtraData [0x78] (C12.opts .deflated none), .write xrec, .endLocalStartCentral,
   .write (le16 0xbeef ++ le16 1 ++ [9]), .endExtraData, .write [5, 6, 7],
   .startFileAligned [0x79] (C12.opts .stored none) 64, .write [1, 2]]

/-- a ZipCrypto file, extra data shared by local and central header, an encrypted directory, a comment -/
def scriptY : List Call :=
  [.startFile [0x7a] { C12.opts .stored none with encryptWith := some [0x70, 0x77] }, .write [8, 8],
   .startFileWithExtraData [0x77] (C12.opts .stored none), .write xrec,
   .addDirectory [0x64] { C12.opts .stored none with encryptWith := some [1] }, .setComment [0x21]]

/-- a toy codec and cipher: "compression" appends a marker, "encryption" flips bits and appends the password -/
def wext2 : WExt := ⟨fun _ _ b => b ++ [0xEE], fun pw b => b.map (· ^^^ 0x55) ++ pw⟩

private theorem scriptXY_ok : ∀ c ∈ scriptX ++ scriptY, Level2R c := by decide

example : ∀ c ∈ scriptX ++ scriptY, Level2R c := scriptXY_ok

example :
    (match (finalGhost2 wext2 scriptX).close wext2, C01.finishDev wext2 scriptX with
     | some (es, gap, c), some d' =>
       d'.buf == build (layoutOf es gap c []) &&
       es.map Spec.Zip.Entry.name == [[0x78], [0x79]] &&
       es.map Spec.Zip.Entry.localExtra == [xrec, padRecord 51] &&
       es.map Spec.Zip.Entry.centralExtra == [le16 0xbeef ++ le16 1 ++ [9], []] &&
       es.map Spec.Zip.Entry.data == [[5, 6, 7, 0xEE], [1, 2]] &&
       -- the aligned entry's data start at a multiple of 64 in the bytes the model produced
       (d'.buf.drop 128).take 2 == [1, 2] && 128 % 64 == 0
     | _, _ => false) = true := by
  -- the sink from `writer_emits_layout_full_fresh`; the rest, read off the layout, by evaluation
  -- (entry 0 takes 30 + 1 + 7 + 4 = 42 bytes and the second header 30 + 1, so the data would start at 73: the
  -- next multiple of 64 is 128, and the 55 bytes up to it are a padding record of 4 + 51)
  have hev : (match (finalGhost2 wext2 scriptX).close wext2, C01.finishDev wext2 scriptX with
     | some (es, gap, c), some _ =>
       es.map Spec.Zip.Entry.name == [[0x78], [0x79]] &&
       es.map Spec.Zip.Entry.localExtra == [xrec, padRecord 51] &&
       es.map Spec.Zip.Entry.centralExtra == [le16 0xbeef ++ le16 1 ++ [9], []] &&
       es.map Spec.Zip.Entry.data == [[5, 6, 7, 0xEE], [1, 2]] &&
       ((build (layoutOf es gap c [])).drop 128).take 2 == [1, 2] && 128 % 64 == 0
     | _, _ => false) = true := by decide +kernel
  split at hev
  next es gap c d' hg hd =>
    rw [finishDev_sink_full (fun c h => (scriptXY_ok c (List.mem_append_left _ h)).1) hg hd, beq_self_eq_true,
      Bool.true_and]
    exact hev
  · cases hev

example :
    (match (finalGhost2 wext2 scriptY).close wext2, C01.finishDev wext2 scriptY with
     | some (es, gap, c), some d' =>
       d'.buf == build (layoutOf es gap c []) && c == [0x21] &&
       es.map Spec.Zip.Entry.name == [[0x7a], [0x77], [0x64, 0x2f]] &&
       es.map Spec.Zip.Entry.localExtra == [[], xrec, []] &&
       es.map Spec.Zip.Entry.centralExtra == [[], xrec, []] &&
       es.map Spec.Zip.Entry.flags == [1, 0, 1] &&
       (es.map Spec.Zip.Entry.data)[0]? ==
         some (wext2.zcEncrypt [0x70, 0x77] (zcPlain (Spec.Crc32.crc32 [8, 8]) [8, 8]))
     | _, _ => false) = true := by
  have hev : (match (finalGhost2 wext2 scriptY).close wext2, C01.finishDev wext2 scriptY with
     | some (es, _, c), some _ =>
       c == [0x21] &&
       es.map Spec.Zip.Entry.name == [[0x7a], [0x77], [0x64, 0x2f]] &&
       es.map Spec.Zip.Entry.localExtra == [[], xrec, []] &&
       es.map Spec.Zip.Entry.centralExtra == [[], xrec, []] &&
       es.map Spec.Zip.Entry.flags == [1, 0, 1] &&
       (es.map Spec.Zip.Entry.data)[0]? ==
         some (wext2.zcEncrypt [0x70, 0x77] (zcPlain (Spec.Crc32.crc32 [8, 8]) [8, 8]))
     | _, _ => false) = true := by decide +kernel
  split at hev
  next es gap c d' hg hd =>
    rw [finishDev_sink_full (fun c h => (scriptXY_ok c (List.mem_append_right _ h)).1) hg hd, beq_self_eq_true,
      Bool.true_and]
    exact hev
  · cases hev

/-- invalid extra data (a trailing byte) make the implicit `end_extra_data` of the next call fail: the
call returns an error and the ghost — like the writer — is unchanged (still in extra-data mode) -/
example :
    (match finalGhost2 wext2 [.startFileWithExtraData [0x77] (C12.opts .stored none), .write (xrec ++ [4]),
        .addDirectory [0x64] (C12.opts .stored none)] with
     | .opened _ _ _ o => o.phase == .localX && o.cx == xrec ++ [4]
     | _ => false) = true := by decide +kernel

/-- the reader-side inverse of the toy cipher: strip the password, flip the bits back, compare the check
byte (position 11 of the 12-byte header), drop the header -/
def rext2 : Ext :=
  { decode := fun m b => if m = .stored then .ok b else .ok b.dropLast
    zipCrypto := fun pw check raw =>
      let dec := (raw.take (raw.length - pw.length)).map (· ^^^ 0x55)
      if dec[11]? == some check then .ok (some (dec.drop 12)) else .ok none
    aes := fun _ _ _ _ => .ok none }

/-- the origins of `scriptY`: a ZipCrypto entry with its password and plaintext, an entry whose extra data
are in both headers, an encrypted directory; the hypotheses of `roundtrip_entry_zc_full` (cipher and
codec round trip) hold for the first one -/
example :
    (match finalOrigins2 wext2 scriptY with
     | [.written f1 (some pw1) lx1 cx1 p1, .written f2 none lx2 cx2 p2, .written _ (some pw3) _ _ p3] =>
       f1.fileName == [0x7a] && pw1 == [0x70, 0x77] && p1 == [8, 8] && lx1 == [] && cx1 == [] &&
       f1.encrypted && writable f1.method &&
       f2.fileName == [0x77] && lx2 == xrec && cx2 == xrec && p2 == [] &&
       pw3 == [1] && p3 == [] &&
       (match rext2.zipCrypto pw1 (Spec.Crc32.crc32 p1 >>> 24).toUInt8
           (wext2.zcEncrypt pw1 (zcPlain (Spec.Crc32.crc32 p1) (dataOf wext2 f1 p1))) with
        | .ok (some pt) => pt == dataOf wext2 f1 p1
        | _ => false) &&
       (match rext2.decode f1.method (dataOf wext2 f1 p1) with | .ok b => b == p1 | _ => false)
     | _ => false) = true := by decide +kernel

/-- the reader model, given the password, decrypts entry 0 of the bytes the writer model produced for `scriptY` -/
example :
    (match C01.finishDev wext2 scriptY with
     | some d' =>
       (match openArchive.runPure (Dev.ofBytes d'.buf) with
        | (.ok a, d1) =>
          a.files.map (·.encrypted) == [true, false, true] &&
          (match ((byIndexRead rext2 a 0 (some [0x70, 0x77])).runPure d1).1 with
           | .ok (.ok (_, .ok content)) => content == [8, 8]
           | _ => false)
        | _ => false)
     | none => false) = true := by
  -- the reader is evaluated on the layout's bytes, which the sink equals (`writer_emits_layout_full_fresh`):
  -- reading the sink itself, a tower of `writeAt`s, is several times dearer
  have hev : (match (finalGhost2 wext2 scriptY).close wext2, C01.finishDev wext2 scriptY with
     | some (es, gap, c), some _ =>
       (match openArchive.runPure (Dev.ofBytes (build (layoutOf es gap c []))) with
        | (.ok a, d1) =>
          a.files.map (·.encrypted) == [true, false, true] &&
          (match ((byIndexRead rext2 a 0 (some [0x70, 0x77])).runPure d1).1 with
           | .ok (.ok (_, .ok content)) => content == [8, 8]
           | _ => false)
        | _ => false)
     | _, _ => false) = true := by decide +kernel
  split at hev
  next es gap c d' hg hd =>
    rw [hd]
    dsimp only
    rw [finishDev_sink_full (fun c h => (scriptXY_ok c (List.mem_append_right _ h)).1) hg hd]
    exact hev
  · cases hev

end ZipVerif.Props.C02Full
