import ZipVerif.Props.C01
import ZipVerif.Props.C02
import ZipVerif.Props.C08
/-
C08 at ARCHIVE level — archives beyond the 16/32-bit limits stay correct.

`Props/C08.lean` is about single records (the ZIP64 extended-information record, the 32-bit slots, the
two size guards).  Here the same property is stated on whole archives, without materialising any payload:
everything is said about the layout `L = layoutOf es gap c []` that `C01.writer_emits_layout` proves the
sink to be, for arbitrary (possibly astronomically long) `es` and `data`.

(a) more than 0xFFFF entries, or a central directory size / offset above 0xFFFFFFFF: the ZIP64 end record
    and locator are present with the TRUE count / size / offset, the classic end record carries the
    saturated values, and the reader returns ALL entries;
(b) an entry whose uncompressed size, compressed size or local-header offset is ≥ 0xFFFFFFFF: its central
    record carries the ZIP64 record with exactly the needed fields in APPNOTE order, the reader reports
    the true 64-bit values and `by_index_raw` returns its stored bytes from the true offset; a
    `large_file` entry's local header has the 0xFFFFFFFF markers and the 20-byte local ZIP64 record (4-byte head,
    two 8-byte sizes);
(c) what cannot be represented is refused: the writer is poisoned / stuck and `finish` fails.

(a), the read-back of (b) and the `finish` failures of (c) are instances / compositions of C01, C02, C03; the record
shapes of (b) unfold `Spec/Zip.lean`; the guards of `Props/C08.lean` are cited in (c), not used.
-/

namespace ZipVerif.Props.C08Archive
open ZipVerif ZipVerif.Model ZipVerif.Spec.Zip ZipVerif.WL
open ZipVerif.Props.C12 (Call step runCalls)

/-! ## (a) The end records of an archive over the limits -/

/-- The test of `ZipWriter::finalize` for writing the ZIP64 end record and locator (write.rs:890-891):
`files.len() > 0xFFFF || central_size.max(central_start) > 0xFFFFFFFF`. -/
def OverLimit (es : List Spec.Zip.Entry) (gap : Bytes) : Prop :=
  es.length > 0xFFFF ∨ (centralBytes es (localOffsets es 0)).length > 0xFFFFFFFF ∨
    (localsBytes es).length + gap.length > 0xFFFFFFFF

instance (es : List Spec.Zip.Entry) (gap : Bytes) : Decidable (OverLimit es gap) := by
  unfold OverLimit; infer_instance

/-- **ZIP64 end record and locator carry the TRUE values.**  Over a limit, the emitted layout has
`needs64`, and `end64` is the 56-byte ZIP64 end record (version 46/46, disk numbers 0) with the true
entry count (twice), central directory size and offset as 64-bit values, followed by the 20-byte locator
pointing at `offset + size` with 1 disk; the classic end record holds the saturated 16/32-bit values. -/
theorem zip64_end_true_values (es : List Spec.Zip.Entry) (gap c : Bytes) (h : OverLimit es gap) :
    let L := layoutOf es gap c []
    L.needs64 = true ∧
    L.end64 =
      le32 sigEocd64 ++ le64 44 ++ le16 46 ++ le16 46 ++ le32 0 ++ le32 0 ++
      le64 (UInt64.ofNat es.length) ++ le64 (UInt64.ofNat es.length) ++
      le64 (UInt64.ofNat (centralBytes es (localOffsets es 0)).length) ++
      le64 (UInt64.ofNat ((localsBytes es).length + gap.length)) ++
      le32 sigLocator ++ le32 0 ++
      le64 (UInt64.ofNat ((localsBytes es).length + gap.length + (centralBytes es (localOffsets es 0)).length)) ++
      le32 1 ∧
    L.eocd =
      le32 sigEocd ++ le16 0 ++ le16 0 ++
      le16 (if es.length > 0xFFFF then 0xFFFF else UInt16.ofNat es.length) ++
      le16 (if es.length > 0xFFFF then 0xFFFF else UInt16.ofNat es.length) ++
      le32 (if (centralBytes es (localOffsets es 0)).length > 0xFFFFFFFF then 0xFFFFFFFF
            else UInt32.ofNat (centralBytes es (localOffsets es 0)).length) ++
      le32 (if (localsBytes es).length + gap.length > 0xFFFFFFFF then 0xFFFFFFFF
            else UInt32.ofNat ((localsBytes es).length + gap.length)) ++
      le16 (UInt16.ofNat c.length) ++ c := by
  intro L
  have hn : L.needs64 = true := by
    have := (C02.zip64_end_iff_needed es gap c).mpr h
    cases hh : L.needs64 with
    | true => rfl
    | false => exact absurd (by simp [Layout.end64, L, hh] : (layoutOf es gap c []).end64 = []) this
  refine ⟨hn, ?_, C02.eocd_fields es gap c⟩
  unfold Layout.end64
  rw [hn]
  rfl

/-- Below every limit of the end record (`¬ OverLimit`) the emitted layout has neither ZIP64 end record nor
locator. -/
theorem no_zip64_end_below (es : List Spec.Zip.Entry) (gap c : Bytes) (h : ¬ OverLimit es gap) :
    (layoutOf es gap c []).end64 = [] := by
  exact Classical.byContradiction fun hne => h ((C02.zip64_end_iff_needed es gap c).mp hne)

/-- **The reader returns ALL entries** of an emitted layout, `C03.reader_on_wf` with no bound on `es.length`:
in particular over the limits (more than 65535 entries), where `ZipArchive::new` follows the locator to the
ZIP64 end record and takes the 64-bit count — the statement a count clamped to 16 bits would break. -/
theorem over_limit_read_back (es : List Spec.Zip.Entry) (gap c : Bytes)
    (hF : (layoutOf es gap c []).Fits) (hR : (layoutOf es gap c []).Readable)
    (hS : C03.NoFalseSig (layoutOf es gap c [])) :
    ∃ d', openArchive.runPure (Dev.ofBytes (build (layoutOf es gap c []))) =
        (.ok (archiveOf (layoutOf es gap c [])), d') ∧
      (archiveOf (layoutOf es gap c [])).files = viewOf (layoutOf es gap c []) ∧
      (archiveOf (layoutOf es gap c [])).files.length = es.length := by
  obtain ⟨d', h1, _⟩ := C03.reader_on_wf _ hF hR hS (Or.inl rfl)
  exact ⟨d', h1, rfl, (C03.archive_fields _).2.2.2⟩

/-- **Archive level, end to end**: a fresh writer, any Level-1 script, `finish` returns `Ok`, and the
result is over a limit.  Then the sink is the layout, which has `needs64` (its ZIP64 end records are those of
`zip64_end_true_values`), and re-opening it yields exactly `es.length` entries, in order, one per origin. -/
theorem over_limit_roundtrip (ext : WExt) (calls : List Call) (hc : ∀ c ∈ calls, Level1R c)
    (ha : ∀ c ∈ calls, c.Admissible) (es : List Spec.Zip.Entry) (gap c : Bytes)
    (hg : (C01.finalGhost ext calls).close ext = some (es, gap, c))
    (v : Option Nat) (s' : WState) (d' : Dev)
    (hfin : step ext .finish (runCalls ext calls WState.init none (Dev.ofBytes [])).2.1 none
      (runCalls ext calls WState.init none (Dev.ofBytes [])).2.2 = (.ok (.ok v, s'), d'))
    (hS : C03.NoFalseSig (layoutOf es gap c []))
    (hsize : (build (layoutOf es gap c [])).length < 2 ^ 63)
    (hu : ∀ e ∈ es, e.usize.toNat < 2 ^ 63) (hbig : OverLimit es gap) :
    d'.buf = build (layoutOf es gap c []) ∧ (layoutOf es gap c []).needs64 = true ∧
    Forall2 (OriginRel ext) (C01.finalOrigins ext calls) es ∧
    ∃ d1, openArchive.runPure (Dev.ofBytes d'.buf) = (.ok (archiveOf (layoutOf es gap c [])), d1) ∧
      (archiveOf (layoutOf es gap c [])).files = viewOf (layoutOf es gap c []) ∧
      (archiveOf (layoutOf es gap c [])).files.length = es.length := by
  obtain ⟨h1, _, _, h4, d1, h5, _, _, _, h9, h10⟩ :=
    C01.write_read_roundtrip ext calls hc ha es gap c hg v s' d' hfin hS hsize hu
  exact ⟨h1, (zip64_end_true_values es gap c hbig).1, h4, d1, h5, h9, h10⟩

/-! ## (b) Entries beyond 32 bits -/

/-- Every entry the writer emits puts into the central ZIP64 record exactly the fields that do not fit
(nothing is forced): `z64 = (false, false, false)`. -/
theorem emitted_z64 (f : FileData) (dp : UInt16) (gap lx data : Bytes) (lv : UInt16) :
    (specEntry f dp gap lx data lv).z64 = (false, false, false) := rfl

/-- **The central ZIP64 extended-information record: exactly the needed fields, in APPNOTE order**
(uncompressed size, compressed size, local-header offset), with the length of what follows; the three
32-bit slots of the central header hold 0xFFFFFFFF exactly for those fields and the value otherwise. -/
theorem central_zip64_exact (e : Spec.Zip.Entry) (hz : e.z64 = (false, false, false)) (off : UInt64) :
    let u := decide (e.usize ≥ 0xFFFFFFFF); let c := decide (e.csize ≥ 0xFFFFFFFF)
    let o := decide (off ≥ 0xFFFFFFFF)
    let n : Nat := (if u then 8 else 0) + (if c then 8 else 0) + (if o then 8 else 0)
    e.zU = u ∧ e.zC = c ∧ e.zO off = o ∧
    e.centralZ64 off =
      (if n = 0 then [] else
        le16 1 ++ le16 (UInt16.ofNat n) ++ (if u then le64 e.usize else []) ++
        (if c then le64 e.csize else []) ++ (if o then le64 off else [])) ∧
    (e.centralExtraAll off = e.centralZ64 off ++ e.centralExtra) := by
  intro u c o n
  have h1 : e.zU = u := by simp [Entry.zU, hz, u]
  have h2 : e.zC = c := by simp [Entry.zC, hz, c]
  have h3 : e.zO off = o := by simp [Entry.zO, hz, o]
  refine ⟨h1, h2, h3, ?_, rfl⟩
  unfold Entry.centralZ64
  rw [h1, h2, h3]

/-- Where the three 32-bit slots and the ZIP64 record (head of `centralExtraAll`) sit in the central header:
`Spec.Zip.centralRecord_eq`, restated. -/
theorem central_record_layout (e : Spec.Zip.Entry) (off : UInt64) :
    centralRecord e off =
      le32 sigCentral ++ (le16 e.madeBy ++ (le16 e.versionNeeded ++ (le16 e.flagsOut ++ (le16 e.method ++
      (le16 e.time ++ (le16 e.date ++ (le32 e.crc ++
      (le32 (if e.zC then 0xFFFFFFFF else lo32 e.csize) ++
      (le32 (if e.zU then 0xFFFFFFFF else lo32 e.usize) ++
      (le16 (UInt16.ofNat e.name.length) ++ (le16 (UInt16.ofNat (e.centralExtraAll off).length) ++
      (le16 (UInt16.ofNat e.comment.length) ++ (le16 0 ++ (le16 e.internalAttrs ++ (le32 e.externalAttrs ++
      (le32 (if e.zO off then 0xFFFFFFFF else lo32 off) ++
      (e.name ++ (e.centralExtraAll off ++ e.comment)))))))))))))))))) :=
  centralRecord_eq e off

/-- **A `large_file` entry's local header**: both 32-bit size slots hold 0xFFFFFFFF and the extra field is
the 20-byte local ZIP64 record: id 1, length 16, uncompressed size, compressed size — in that order. -/
theorem large_file_local_header (f : FileData) (dp : UInt16) (gap data : Bytes) (lv : UInt16)
    (hl : f.largeFile = true) :
    localRecord (specEntry f dp gap [] data lv) =
      le32 sigLocal ++ le16 lv ++ le16 (flagOf f) ++ le16 f.method.toU16 ++ le16 f.time.timepart ++ le16 dp ++
      le32 f.crc32 ++ le32 0xFFFFFFFF ++ le32 0xFFFFFFFF ++
      le16 (UInt16.ofNat f.fileName.length) ++ le16 20 ++ f.fileName ++
      (le16 1 ++ le16 16 ++ le64 f.uncompressedSize ++ le64 (UInt64.ofNat data.length)) := by
  unfold localRecord specEntry
  have hd : (Desc.none != Desc.none) = false := by decide
  simp only [Entry.hasDesc, Entry.flagsOut, Entry.csize, hd, hl, Bool.false_eq_true, if_false, if_true,
    Option.getD_some, List.append_nil]
  simp only [List.append_assoc]
  rfl

/-- **The local header of an entry not declared `large_file`**: the two 32-bit size slots hold the values (their
low 32 bits) and there is no local ZIP64 record. -/
theorem small_file_local_header (f : FileData) (dp : UInt16) (gap data : Bytes) (lv : UInt16)
    (hl : f.largeFile = false) :
    localRecord (specEntry f dp gap [] data lv) =
      le32 sigLocal ++ le16 lv ++ le16 (flagOf f) ++ le16 f.method.toU16 ++ le16 f.time.timepart ++ le16 dp ++
      le32 f.crc32 ++ le32 (lo32 (UInt64.ofNat data.length)) ++ le32 (lo32 f.uncompressedSize) ++
      le16 (UInt16.ofNat f.fileName.length) ++ le16 0 ++ f.fileName := by
  unfold localRecord specEntry
  have hd : (Desc.none != Desc.none) = false := by decide
  simp only [Entry.hasDesc, Entry.flagsOut, Entry.csize, hd, hl, Bool.false_eq_true, if_false,
    Option.getD_some, List.append_nil]
  simp only [List.append_assoc]
  rfl

/-- **Reading a ≥ 4 GiB entry back**: entry `i` of the emitted archive — whatever its sizes and offset —
is reported with the TRUE 64-bit uncompressed size, compressed size (= number of stored bytes) and
local-header offset, `large_file` set exactly when a size went through the ZIP64 record, and
`by_index_raw(i)` returns exactly its stored bytes, found at the true offset. -/
theorem big_entry_read_back (es : List Spec.Zip.Entry) (gap c : Bytes)
    (hF : (layoutOf es gap c []).Fits) (i : Nat) (e : Spec.Zip.Entry) (he : es[i]? = some e)
    (d : Dev) (hd : d.buf = build (layoutOf es gap c [])) :
    ∃ off chs d', (localOffsets es 0)[i]? = some off ∧
      (archiveOf (layoutOf es gap c [])).files[i]? = some (viewEntry e off 0 chs) ∧
      (viewEntry e off 0 chs).uncompressedSize = e.usize ∧
      (viewEntry e off 0 chs).compressedSize = UInt64.ofNat e.data.length ∧
      (viewEntry e off 0 chs).headerStart = UInt64.ofNat off ∧
      (viewEntry e off 0 chs).largeFile = (e.zU || e.zC) ∧
      (byIndexRaw (archiveOf (layoutOf es gap c [])) i).runPure d = (.ok (e.dataStart off 0, e.data), d') ∧
      e.dataStart off 0 = off + 30 + e.name.length + e.localExtraAll.length := by
  obtain ⟨off, chs, h1, h2⟩ := C03.entry_view (layoutOf es gap c []) i e he
  obtain ⟨off', d', h1', h3, _⟩ := C03.reader_entry_raw (layoutOf es gap c []) hF i e he d hd
  have : off' = off := by rw [h1] at h1'; cases h1'; rfl
  subst this
  refine ⟨off', chs, d', h1, h2, rfl, rfl, rfl, rfl, h3, ?_⟩
  simp [Entry.dataStart]

/-! ## (c) What cannot be represented is refused -/

/-- **The 4 GiB plaintext guard, on the archive.**  A `write` that would take an entry not declared
`large_file` past 0xFFFFFFFF plaintext bytes fails and closes the writer (`C08.large_write_rejected`);
a `write` that returns an error on an open entry accepting data (`o.wf`) makes the expected archive `dead`. -/
theorem failed_write_poisons (ext : WExt) (D : List Spec.Zip.Entry) (gap c : Bytes) (o : OpenRec)
    (hwf : o.wf = true) (b : Bytes) (e : ZErr) :
    ghostStep ext (.opened D gap c o) (.write b) (.err e) = .dead := by
  show Ghost.writeStep b false (.opened D gap c o) = .dead
  simp [Ghost.writeStep, hwf]

/-- A poisoned writer (expected archive `dead`) cannot produce an archive: `finish` returns an error without
any I/O. -/
theorem poisoned_cannot_finish (ext : WExt) (calls : List Call) (hc : ∀ c ∈ calls, Level1 c)
    (ha : ∀ c ∈ calls, c.Admissible) (hg : C01.finalGhost ext calls = .dead) :
    ∃ e, finish ext (runCalls ext calls WState.init none (Dev.ofBytes [])).2.1 =
      pure (.error e, (runCalls ext calls WState.init none (Dev.ofBytes [])).2.1) :=
  C01.dead_finish_fails ext calls hc ha 0 _ _ _ inv_init lay_init_empty hg

/-- **The compressed-size guard, on the archive.**  An entry not declared `large_file` whose STORED bytes
exceed 0xFFFFFFFF cannot be closed (`C08.compressed_overflow_rejected`: refused before the header is
touched); the writer is stuck and every `finish` — directly on the open entry, or later — fails. -/
theorem oversized_entry_cannot_finish (ext : WExt) (calls : List Call) (hc : ∀ c ∈ calls, Level1 c)
    (ha : ∀ c ∈ calls, c.Admissible) (ss n : Nat) (wf : Bool)
    (hg : C01.finalGhost ext calls = .stuck ss n wf ∨
      (C01.finalGhost ext calls).stuckAt ext = some (ss, n, wf))
    (rs : Except ZErr Unit × WState) (d' : Dev)
    (hfin : finish ext (runCalls ext calls WState.init none (Dev.ofBytes [])).2.1 none
      (runCalls ext calls WState.init none (Dev.ofBytes [])).2.2 = (.ok rs, d')) :
    ∃ e, rs.1 = .error e := by
  rcases hg with hg | hg
  · exact C01.stuck_finish_fails ext calls hc ha 0 _ _ _ inv_init lay_init_empty ss n wf hg rs d' hfin
  · exact C01.overflow_finish_fails ext calls hc ha 0 _ _ _ inv_init lay_init_empty ss n wf hg rs d' hfin

/-- When the ghost refuses to close an entry: not `large_file`, and more than 0xFFFFFFFF stored bytes (or
plaintext bytes).  An entry declared `large_file` is never refused for its size. -/
theorem close_refused_iff (ext : WExt) (D : List Spec.Zip.Entry) (gap : Bytes) (o : OpenRec) (dp : UInt16)
    (hdp : o.f.time.datepart = some dp) (hraw : o.raw = false) :
    closeRec ext D gap o = none ↔
      (o.f.largeFile = false ∧ (UInt64.ofNat (dataOf ext o.f o.plain).length > ZIP64_BYTES_THR ∨
        o.plain.length > 0xFFFFFFFF)) := by
  unfold closeRec
  rw [hdp]
  simp only [hraw, Bool.false_eq_true, if_false]
  split <;> simp_all

/-! ## Instances of (a) and (b) -/

/-- 65536 entries are over the limit, whatever they are — no payload is materialised. -/
example (e : Spec.Zip.Entry) (gap : Bytes) : OverLimit (List.replicate 65536 e) gap :=
  Or.inl (by rw [List.length_replicate]; decide)

/-- the end records of such an archive: `needs64`, true count 65536 in the ZIP64 record, 0xFFFF in the
classic one -/
example (e : Spec.Zip.Entry) :
    (layoutOf (List.replicate 65536 e) [] [] []).needs64 = true ∧
    ((layoutOf (List.replicate 65536 e) [] [] []).end64.drop 24).take 8 = le64 65536 ∧
    ((layoutOf (List.replicate 65536 e) [] [] []).eocd.drop 8).take 4 = [0xFF, 0xFF, 0xFF, 0xFF] := by
  obtain ⟨h1, h2, h3⟩ := zip64_end_true_values (List.replicate 65536 e) [] []
    (Or.inl (by rw [List.length_replicate]; decide))
  refine ⟨h1, ?_, ?_⟩
  · rw [h2, List.length_replicate]; rfl
  · rw [h3, List.length_replicate]; rfl

/-- an entry claiming 4 GiB + 1 of content at offset 5 GiB: the ZIP64 record carries exactly (uncompressed
size, offset), in that order; the compressed size (5) stays in its 32-bit slot -/
example :
    let e : Spec.Zip.Entry := { C03.exA with usize := 0x100000001 }
    e.centralZ64 0x140000000 = le16 1 ++ le16 16 ++ le64 0x100000001 ++ le64 0x140000000 ∧
    ((centralRecord e 0x140000000).drop 20).take 8 = le32 5 ++ le32 0xFFFFFFFF ∧
    ((centralRecord e 0x140000000).drop 42).take 4 = le32 0xFFFFFFFF := by decide +kernel

example :
    let f : FileData := { (default : FileData) with largeFile := true, uncompressedSize := 7, fileName := [0x61] }
    (localRecord (specEntry f 0x21 [] [] [1, 2, 3] 45)).drop 18 =
      le32 0xFFFFFFFF ++ le32 0xFFFFFFFF ++ le16 1 ++ le16 20 ++ [0x61] ++
        (le16 1 ++ le16 16 ++ le64 7 ++ le64 3) := by decide +kernel

end ZipVerif.Props.C08Archive
