import ZipVerif.Props.C12
/-
C14 — Raw copy transfers an entry bit-exactly without recompression.

This file rests on C12 alone, on the writer model and a fault-free sink.
`raw_copy_record_keeps_source_values`: after ANY further calls of the fragment and a successful
  `finish()`, the central-directory record of a raw copy carries its source's CRC-32, compressed and
  uncompressed sizes and method (nothing is recomputed from the bytes that flowed through the writer),
  while ordinary entries carry the CRC-32 / length of their own bytes — neighbours are unaffected.
The byte-level statement (the sink holds the source's raw bytes verbatim behind a header pre-filled from
the source's metadata; the stored path, no encoder) is `Props/C14.lean` / `Props/C14Archive.lean`.
-/

namespace ZipVerif.Props.C14Base
open ZipVerif ZipVerif.Model

def IsRawCopyOf (e : Entry) (src : FileData) : Prop := e.raw = some src

/-- **The record of a raw copy carries the source's values; every other record its own.**  For every
call sequence of the fragment (raw copies interleaved with ordinary entries in any order, misuse
included) after which `finish()` succeeds: entry `i` of the directory written is — for a raw copy —
the source's CRC-32, sizes and method under the requested name, and — for an ordinary entry — the
CRC-32 and length of the bytes written to it. -/
theorem raw_copy_record_keeps_source_values (ext : WExt) (calls : List C12.Call)
    (hc : ∀ c ∈ calls, c.InFragment) (d : Dev) (v : Option Nat) (s' : WState) (d' : Dev)
    (hfin : C12.step ext .finish (C12.runCalls ext calls WState.init none d).2.1 none
      (C12.runCalls ext calls WState.init none d).2.2 = (.ok (.ok v, s'), d'))
    (i : Nat) (e : Entry)
    (he : (C12.logOf [] calls (C12.runCalls ext calls WState.init none d).1)[i]? = some e) :
    ∃ f, s'.files[i]? = some f ∧ f.fileName = e.name ∧
      match e.raw with
      | some src => f.crc32 = src.crc32 ∧ f.compressedSize = src.compressedSize ∧
          f.uncompressedSize = src.uncompressedSize ∧ f.method = src.method
      | none => f.crc32 = Spec.Crc32.crc32 e.data ∧ f.uncompressedSize = UInt64.ofNat e.data.length := by
  have h := C12.files_track_calls_partial ext calls hc d v s' d' hfin
  obtain ⟨f, hf, hcl⟩ := h.get_left i e he
  refine ⟨f, hf, hcl.1, ?_⟩
  have h2 := hcl.2
  cases hr : e.raw with
  | none => rw [hr] at h2; exact h2
  | some src => rw [hr] at h2; exact h2

end ZipVerif.Props.C14Base
