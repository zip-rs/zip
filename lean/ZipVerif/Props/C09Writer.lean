import ZipVerif.Lemmas.ShortWrite
import ZipVerif.Lemmas.EntryBridgeCrypto
import ZipVerif.Props.C01
/-
C09 — Results do not depend on how I/O is chunked: the WRITER STATE MACHINE over a short-writing sink.

`Props/C09.lean` has the reader side, the metadata parsers and the single writes (`write_all_absorbs_short_writes`,
`header_writes_absorb_short_writes`).  Here: whole sequences of writer calls (the `Call` alphabet of C12).
This file rests on the writer's state-machine development (`Props/C01`, `Props/C12`, `Lemmas/ShortWrite`), which
`Props/C09.lean` does not import; neither file imports the other, both fill the namespace `Props.C09`.

`Model/ShortWrite.lean` holds the writer a second time, generic over its I/O vocabulary (`GW.*` over
`WriterIO`).  It is proved EQUAL to the writer model at the model monad (`GW.step_M`: the functions the translated
`impl ZipWriter` is tied to in `Tie/WriterSM`), and run over the same device with an ARBITRARY short-write
schedule: `write_all` is the real retry loop, `ZipWriter::write` is ONE call on the sink / encoder that
accounts the count ACCEPTED (`GW.write`, the shape of the translated `Gen.ZipWriter.write`), the caller's
`write_all` loops on top of it, and the encoder in front of the sink may itself take fewer bytes than offered
(`acc`, any function with `AccOk`).
-/

deriving instance DecidableEq for ZipVerif.Out

namespace ZipVerif.Props.C09
open ZipVerif ZipVerif.Model ZipVerif.Props.C12

/-- **The generic writer at the model monad, its encoder taking every buffer whole (`acc := length`), IS the
writer model** (every call of the alphabet, every state, every device and fault index): an equation between
`M` computations. -/
theorem generic_writer_is_model (ext : WExt) (c : Call) (s : WState) :
    (GW.step (fun x => x.length) ext c s : M _) = Props.C12.step ext c s :=
  GW.step_M ext c s

/-- **The data path accounts what was accepted.**  `write_all(buf)` through `ZipWriter::write` over a sink
with any short-write schedule and an encoder with any accept counts, against the model's `writeData`
(whole write, whole accept), from any writer state: same outcome, same writer state afterwards (CRC
register, byte count, contents of the encoder / of the ZipCrypto buffer), same sink bytes and position - or
both refuse the entry for the 4 GiB limit (`Err(Other)`, writer closed), or both panic at the same site
(only in the unreachable states without an open entry). -/
theorem write_all_through_writer_short_write_independent {acc : Bytes → Nat} (ha : AccOk acc)
    (buf : Bytes) (s : WState) :
    SimS (Model.writeData buf s) (GW.writeData acc buf s : MS _) :=
  GW.simS_writeData ha buf s

/-- **Every sequence of writer calls, any state, any sink position, any schedule** - the general form.
Running the call list over the short-writing device and over the whole-write device from the same bytes at
the same position: (1) the per-call outcomes are identical, the final writer states are identical and the
sinks hold the same bytes at the same position; or (2) up to some call everything was identical and that
call was refused by both for the 4 GiB limit (`GW.RefusedAt`); or (3) the outcomes are identical and the last
one is a panic (never, for admissible calls: C12 `writer_no_panic`). -/
theorem writer_calls_short_write_sim {acc : Bytes → Nat} (ha : AccOk acc) (ext : WExt) (sch : Nat → Nat)
    (calls : List Call) (s : WState) (d sd : Dev) (hb : sd.buf = d.buf) (hp : sd.pos = d.pos) :
    ((runCalls ext calls s none d).1 = (GW.runCallsS acc ext calls s sch sd).1 ∧
      (runCalls ext calls s none d).2.1 = (GW.runCallsS acc ext calls s sch sd).2.1 ∧
      (GW.runCallsS acc ext calls s sch sd).2.2.buf = (runCalls ext calls s none d).2.2.buf ∧
      (GW.runCallsS acc ext calls s sch sd).2.2.pos = (runCalls ext calls s none d).2.2.pos) ∨
    GW.RefusedAt acc ext sch calls s d sd ∨
    ((runCalls ext calls s none d).1 = (GW.runCallsS acc ext calls s sch sd).1 ∧
      ∃ site, Out.panic site ∈ (runCalls ext calls s none d).1) :=
  GW.run_sim ha ext sch calls s d sd ⟨hb, hp⟩

/-- **What the caller is told never depends on the schedule.**  Every call sequence (admissible or not),
from every writer state, over every sink: the per-call outcomes over the short-writing sink are those of the
whole-write run - also after a 4 GiB refusal (a closed writer answers every call without I/O, as a function
of the call, its two mode flags and the comment length: `GW.step_closed`, `GW.closedStep`), and up to and
including a panic. -/
theorem writer_outcomes_short_write_independent {acc : Bytes → Nat} (ha : AccOk acc) (ext : WExt)
    (sch : Nat → Nat) (calls : List Call) (s : WState) (d sd : Dev) (hb : sd.buf = d.buf) (hp : sd.pos = d.pos) :
    (GW.runCallsS acc ext calls s sch sd).1 = (runCalls ext calls s none d).1 :=
  (GW.run_outcomes ha ext sch calls s d sd ⟨hb, hp⟩).symm

/-- **The archive a writer produces is byte-identical however the sink accepts short writes.**  A fresh
writer, any admissible call sequence (C12's quantifier), any sink contents and position to start from, any
short-write schedule of the sink, any accept counts of the encoders: if no call of the whole-write run
failed with `io::ErrorKind::Other` (the kind of the 4 GiB refusal), then over the short-writing sink every
call returns the same outcome (the same offsets, the same errors), the writer ends in the same state and the
sink holds exactly the same bytes, at the same position. -/
theorem writer_archive_short_write_independent {acc : Bytes → Nat} (ha : AccOk acc) (ext : WExt)
    (sch : Nat → Nat) (calls : List Call) (hc : ∀ c ∈ calls, c.Admissible) (d : Dev)
    (hd : Dev.InRange (runCalls ext calls WState.init none d).2.2)
    (hno : Out.err (.io .other) ∉ (runCalls ext calls WState.init none d).1) :
    (GW.runCallsS acc ext calls WState.init sch d).1 = (runCalls ext calls WState.init none d).1 ∧
    (GW.runCallsS acc ext calls WState.init sch d).2.1 = (runCalls ext calls WState.init none d).2.1 ∧
    (GW.runCallsS acc ext calls WState.init sch d).2.2.buf = (runCalls ext calls WState.init none d).2.2.buf ∧
    (GW.runCallsS acc ext calls WState.init sch d).2.2.pos = (runCalls ext calls WState.init none d).2.2.pos := by
  rcases GW.run_sim ha ext sch calls WState.init d d ⟨rfl, rfl⟩ with ⟨h1, h2, h3, h4⟩ | h | ⟨_, site, h⟩
  · exact ⟨h1.symm, h2.symm, h3, h4⟩
  · exact absurd (GW.refusedAt_mem calls _ _ _ h) hno
  · have := writer_no_panic ext calls hc none d hd _ h
    cases this

/-- `writer_archive_short_write_independent` when every call of the whole-write run succeeded (the writer
produced an archive): the short-writing sink sees the same outcomes and ends with the same bytes. -/
theorem writer_success_short_write_independent {acc : Bytes → Nat} (ha : AccOk acc) (ext : WExt)
    (sch : Nat → Nat) (calls : List Call) (hc : ∀ c ∈ calls, c.Admissible) (d : Dev)
    (hd : Dev.InRange (runCalls ext calls WState.init none d).2.2)
    (hok : ∀ o ∈ (runCalls ext calls WState.init none d).1, ∃ v, o = .ok v) :
    (GW.runCallsS acc ext calls WState.init sch d).1 = (runCalls ext calls WState.init none d).1 ∧
    (GW.runCallsS acc ext calls WState.init sch d).2.2.buf = (runCalls ext calls WState.init none d).2.2.buf := by
  have := writer_archive_short_write_independent ha ext sch calls hc d hd
    (fun h => by obtain ⟨v, hv⟩ := hok _ h; cases hv)
  exact ⟨this.1, this.2.2.1⟩

/-- Two schedules (two sinks with different short-write behaviour, two encoders with different accept
counts) give the same archive. -/
theorem writer_schedules_agree {acc₁ acc₂ : Bytes → Nat} (ha₁ : AccOk acc₁) (ha₂ : AccOk acc₂) (ext : WExt)
    (sch₁ sch₂ : Nat → Nat) (calls : List Call) (hc : ∀ c ∈ calls, c.Admissible) (d : Dev)
    (hd : Dev.InRange (runCalls ext calls WState.init none d).2.2)
    (hno : Out.err (.io .other) ∉ (runCalls ext calls WState.init none d).1) :
    (GW.runCallsS acc₁ ext calls WState.init sch₁ d).1 = (GW.runCallsS acc₂ ext calls WState.init sch₂ d).1 ∧
    (GW.runCallsS acc₁ ext calls WState.init sch₁ d).2.2.buf =
      (GW.runCallsS acc₂ ext calls WState.init sch₂ d).2.2.buf := by
  obtain ⟨a1, _, a3, _⟩ := writer_archive_short_write_independent ha₁ ext sch₁ calls hc d hd hno
  obtain ⟨b1, _, b3, _⟩ := writer_archive_short_write_independent ha₂ ext sch₂ calls hc d hd hno
  exact ⟨a1.trans b1.symm, a3.trans b3.symm⟩

/-! ### The excluded case is real: a 4 GiB refusal leaves schedule-dependent bytes behind

FULL STATEMENT (false): "for every call sequence the sink holds the same bytes under every schedule".
`ZipWriter::write` checks the 4 GiB limit after EACH `write` call of the caller's `write_all` loop, so a
sink that accepts the buffer in pieces is refused after the first piece that crosses the limit, a sink that
takes it whole after the whole buffer.  Both runs return the same error and leave the writer closed (no
archive can be finished either way); only the number of stray bytes in the sink differs. -/

/-- A writer state as it is after 4 GiB − 2 bytes have been written to a Stored entry without
`large_file` (the byte count is set directly; the hasher value plays no role). -/
def nearLimit : WState :=
  let s := (runCalls ext0 [.startFile [0x61] (opts .stored none)] WState.init none (Dev.ofBytes [])).2.1
  { s with statsBytes := 4294967294 }

-- The sink stands at 31 = 30 + 1, behind the local header of `a`.  The header bytes are not in `buf` (a write
-- behind the end fills with zeros, `writeAt`): the lengths 35 and 33 below are 31 + 4 and 31 + 2.
def refusalWhole := runCalls ext0 [.write [1, 2, 3, 4], .finish] nearLimit none { buf := [], pos := 31, calls := 0 }
def refusalShort := GW.runCallsS (fun b => b.length) ext0 [.write [1, 2, 3, 4], .finish] nearLimit (fun _ => 1)
  { buf := [], pos := 31, calls := 0 }

/-- `write_all([1,2,3,4])`, then `finish()`, in the state `nearLimit`: both runs are refused with `Err(Other)`
and then answer `BrokenPipe`; the whole-write sink has received all four bytes, the sink that accepts one byte
per call only two. -/
theorem refusal_bytes_depend_on_schedule :
    refusalWhole.1 = [.err (.io .other), .err (.io .brokenPipe)] ∧
    refusalShort.1 = [.err (.io .other), .err (.io .brokenPipe)] ∧
      refusalWhole.2.2.buf.length = 35 ∧ refusalShort.2.2.buf.length = 33 ∧
      refusalWhole.2.1.inner = .closed ∧ refusalShort.2.1.inner = .closed := by
  decide +kernel

/-! ### Runs in which short writes occur, evaluated -/

theorem accOk_min3 : AccOk (fun b => min b.length 3) :=
  ⟨fun b => Nat.min_le_left _ _, fun b hb => by
    have : 0 < b.length := List.length_pos_iff.mpr hb
    omega⟩

theorem accOk_whole : AccOk (fun b => b.length) :=
  AccOk.whole

def demo : List Call :=
  [.startFile [0x61] (opts .stored none), .write [1, 2, 3, 4, 5], .write [6, 7],
   .addDirectory [0x64] (opts .stored none),
   .startFile [0x62] (opts .deflated none), .write [8, 9, 10, 11, 12, 13, 14], .finish]

example : ∀ c ∈ demo, c.Admissible := by decide

def demoWhole := runCalls ext0 demo WState.init none (Dev.ofBytes [])
def demoShort := GW.runCallsS (fun b => min b.length 3) ext0 demo WState.init (fun k => 1 + k % 3) (Dev.ofBytes [])

-- `writer_archive_short_write_independent` observed: a sink taking 1, 2, 3, 1, 2, 3 … bytes per call
-- and an encoder taking at most 3 bytes per call produce the archive of the whole-write run, byte for byte,
-- with the same outcomes; the short run needed more sink calls (so short writes did occur).
-- 272 = 108 + 142 + 22: local parts (30 + 1 + 7) + (30 + 2) + (30 + 1 + 7) (`ext0` compresses by the identity, the
-- directory is named `d/`), central headers (46 + 1) + (46 + 2) + (46 + 1), end record 22.
example :
    demoWhole.1 = demoShort.1 ∧ demoWhole.2.2.buf = demoShort.2.2.buf ∧
      demoWhole.1.map cls = [.ok, .ok, .ok, .ok, .ok, .ok, .ok] ∧ demoWhole.2.2.calls < demoShort.2.2.calls ∧
      demoWhole.2.2.buf.length = 272 := by
  -- outcomes, call counts and the theorem's hypotheses by evaluation; the length is read off the layout the sink
  -- equals (`finishDev_sink`), not off the sink
  have hev : demoWhole.1.map cls = [.ok, .ok, .ok, .ok, .ok, .ok, .ok] ∧ demoWhole.2.2.calls < demoShort.2.2.calls := by
    decide +kernel
  have hd : Dev.InRange demoWhole.2.2 := by unfold Dev.InRange; decide +kernel
  have hl : (match (C01.finalGhost ext0 demo.dropLast).close ext0, C01.finishDev ext0 demo.dropLast with
      | some (es, gap, c), some _ => (Spec.Zip.build (WL.layoutOf es gap c [])).length == 272
      | _, _ => false) = true := by decide +kernel
  have hlen : demoWhole.2.2.buf.length = 272 := by
    split at hl
    next es gap c d' hg hf =>
      have hb := C01.finishDev_sink (ext := ext0) (calls := demo.dropLast) (by decide) (by decide) hg hf
      have hr := C01.finishDev_run hf (by decide +kernel)
      have hdemo : demo = demo.dropLast ++ [.finish] := rfl
      rw [show demoWhole = runCalls ext0 (demo.dropLast ++ [.finish]) WState.init none (Dev.ofBytes []) from
        congrArg (fun cs => runCalls ext0 cs WState.init none (Dev.ofBytes [])) hdemo, hr, hb]
      exact beq_iff_eq.mp hl
    · cases hl
  unfold demoWhole demoShort at *
  have hok : ∀ o ∈ (runCalls ext0 demo WState.init none (Dev.ofBytes [])).1, ∃ v, o = .ok v := by
    intro o ho
    have hc := List.mem_map_of_mem (f := cls) ho
    rw [hev.1] at hc
    cases o <;> simp [cls] at hc
    exact ⟨_, rfl⟩
  obtain ⟨h1, h2⟩ := writer_success_short_write_independent accOk_min3 ext0 (fun k => 1 + k % 3) demo (by decide)
    (Dev.ofBytes []) hd hok
  exact ⟨h1.symm, h2.symm, hev.1, hev.2, hlen⟩

/-- The C15 cipher as the writer's `zcEncrypt`. -/
def wextZc : WExt := ⟨fun _ _ b => b, fun pw b => (ZipCrypto.encryptAll (ZipCrypto.derive pw) b).1⟩

/-- The ZipCrypto archive of C09's reader-side example (`Model.zcEntry`) is what the writer model produces for
`start_file("a", encrypt_with "pw"); write([1,2,3,4,5]); finish()` - over the whole-write sink and over a sink
accepting 1, 2, 3, 1, … bytes per call. -/
theorem writer_produces_zcEntry :
    (runCalls wextZc [.startFile [0x61] { opts .stored none with encryptWith := some [0x70, 0x77] },
      .write [1, 2, 3, 4, 5], .finish] WState.init none (Dev.ofBytes [])).2.2.buf = Model.zcEntry ∧
    (GW.runCallsS (fun b => b.length) wextZc [.startFile [0x61] { opts .stored none with encryptWith := some [0x70, 0x77] },
      .write [1, 2, 3, 4, 5], .finish] WState.init (fun k => 1 + k % 3) (Dev.ofBytes [])).2.2.buf = Model.zcEntry := by
  -- the bytes of the whole-write run by evaluation; the short-write run has them by the theorem, whose hypotheses are evaluated
  have hev : (runCalls wextZc [.startFile [0x61] { opts .stored none with encryptWith := some [0x70, 0x77] },
      .write [1, 2, 3, 4, 5], .finish] WState.init none (Dev.ofBytes [])).2.2.buf = Model.zcEntry ∧
      (runCalls wextZc [.startFile [0x61] { opts .stored none with encryptWith := some [0x70, 0x77] },
        .write [1, 2, 3, 4, 5], .finish] WState.init none (Dev.ofBytes [])).1.all (·.isOk) = true ∧
      Dev.InRange (runCalls wextZc [.startFile [0x61] { opts .stored none with encryptWith := some [0x70, 0x77] },
        .write [1, 2, 3, 4, 5], .finish] WState.init none (Dev.ofBytes [])).2.2 := by unfold Dev.InRange; decide +kernel
  refine ⟨hev.1, ((writer_success_short_write_independent accOk_whole wextZc _ _ (by decide) _ hev.2.2 ?_).2).trans hev.1⟩
  intro o ho
  have := List.all_eq_true.mp hev.2.1 o ho
  cases o with
  | ok v => exact ⟨v, rfl⟩
  | err e => cases this
  | panic p => cases this

end ZipVerif.Props.C09
