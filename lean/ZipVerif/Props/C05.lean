import ZipVerif.Lemmas.ReaderBounds
import ZipVerif.Lemmas.CryptoExtTotal
/-
C05 — Untrusted bytes never crash, hang or exhaust memory in the readers.

The property theorems, the script language they quantify over (`Step`, `runScript`: any sequence of reader calls on
one input) and the adversarial inputs of section 4, which `Props/C11.lean` and `Tie/VisitCKind.lean` reuse.

What is proved here is proved about the MODEL, for every byte string, every fault index and every
external decoder that does not itself panic.  The model is tied to the crate by translation (Tie/Parsers,
ReaderGlue, ReaderGlue2, StreamGlue, Drain, Visit, the layer ties: every reader function on the open / by_index /
stream paths is generated from the source) and by the `read` correspondence stream (outcome classes must agree on liars / truncations / substitutions / random
bytes, both readers and `new_append`).  Memory in BYTES and wall time are MEASURED by the harness
(`read.mem` op: counting global allocator, peak during `ZipArchive::new` against `K·len + C`); the
theorems below bound them in ELEMENTS (entries, loop iterations, buffer lengths).
-/

namespace ZipVerif.Props.C05
open ZipVerif ZipVerif.Model

/-! ## 1. No panic: every reader entry point, on every input -/

/-- `ZipArchive::new` never panics — any bytes, any device position, any injected I/O fault. -/
theorem open_total (fa : Option Nat) (d : Dev) : ¬ (openArchive fa d).1.isPanic = true :=
  openArchive_noPanic.elim fa d

/-- `by_index` / `by_index_decrypt` followed by `read_to_end`: neither the call nor the read of the
returned handle panics, for every archive value (not only those `openArchive` can produce), index and
password.  `DevSane` (input shorter than 2^63 bytes) is what makes `find_content`'s
`header_start + 30 + n + m` (read.rs:255) unreachable as an overflow. -/
theorem by_index_total (ext : Ext) (hext : ExtNoPanic ext) (a : Archive) (i : Nat)
    (pw : Option Bytes) (fa : Option Nat) (d : Dev) (hd : DevSane d) :
    ¬ (byIndexRead ext a i pw fa d).1.isPanic = true ∧
    ∀ ds res d', byIndexRead ext a i pw fa d = (.ok (.ok (ds, res)), d') → ¬ res.isPanic = true :=
  ⟨byIndexRead_noPanicOn ext hext a i pw fa d hd,
   fun _ _ _ h => (byIndexRead_inner ext hext a i pw).elim h⟩

/-- `by_name` / `by_name_decrypt` followed by `read_to_end`: no panic in the lookup, the call or the read of
the returned handle, whether the archive has the name or not. -/
theorem by_name_total (ext : Ext) (hext : ExtNoPanic ext) (a : Archive) (name : Bytes)
    (pw : Option Bytes) (fa : Option Nat) (d : Dev) (hd : DevSane d) :
    ¬ (byNameRead ext a name pw fa d).1.isPanic = true ∧
    ∀ ds res d', byNameRead ext a name pw fa d = (.ok (.ok (ds, res)), d') → ¬ res.isPanic = true :=
  ⟨byNameRead_noPanicOn ext hext a name pw fa d hd,
   fun _ _ _ h => (byNameRead_inner ext hext a name pw).elim h⟩

/-- `by_index_raw` followed by `read_to_end`. -/
theorem by_index_raw_total (a : Archive) (i : Nat) (fa : Option Nat) (d : Dev) (hd : DevSane d) :
    ¬ (byIndexRaw a i fa d).1.isPanic = true :=
  byIndexRaw_noPanicOn a i fa d hd

/-- `ZipStreamReader::visit` reading every entry to the end: no panic in the walk and none in any
entry's `read_to_end` outcome. -/
theorem stream_total (ext : Ext) (hext : ExtNoPanic ext) (fa : Option Nat) (d : Dev) :
    ¬ (streamVisit ext fa d).1.isPanic = true ∧
    ∀ files metas d', streamVisit ext fa d = (.ok (files, metas), d') →
      ∀ x ∈ files, ¬ x.2.isPanic = true :=
  ⟨(streamVisit_noPanic ext).elim fa d, fun _ _ _ h => (streamVisit_inner ext hext).elim h⟩

/-- `ZipWriter::new_append` never panics and does not modify the bytes it is given. -/
theorem append_open_total (fa : Option Nat) (d : Dev) :
    ¬ (newAppend fa d).1.isPanic = true ∧ (newAppend fa d).2.buf = d.buf :=
  ⟨newAppend_noPanic.elim fa d, newAppend_readOnly.elim fa d⟩

/-- After a successful `new_append` the writer stands inside the input: at the directory start,
which is at most `cde_start_pos ≤ len - 22` — under every fault index too (since the D22 repair the
final, repositioning seek reports its failure: `Ok` means the writer stands on the directory start).
What `finish()` later adds is therefore bounded by the records it writes, not by a number read from
the input. -/
theorem append_open_position_bounded {fa : Option Nat} {d d' : Dev} {s : WState}
    (h : newAppend fa d = (.ok s, d')) :
    d'.buf = d.buf ∧ d'.pos + 22 ≤ d.buf.length :=
  newAppend_position_bounded h

/-- `NoPanic` is not trivially true: it is false of the panic action itself, whatever its string (the one here
is free text).  The reader model has one panic site of its own, the overflow of `find_content`'s `data_start`
addition (read.rs:255; in `Model.findContent` under the string "rs2lean: checked operation"), which is why
`DevSane` is a hypothesis of the `by_index*` / `by_name*` theorems. -/
theorem noPanic_not_vacuous : ¬ NoPanic (M.panic "read.rs:201 data_start overflow" : M Nat) :=
  fun h => M.panic_noPanic_false h

/-! ### Scripts: any sequence of reader calls on one input -/

/-- One call of the reader API (entry-opening calls include reading the entry to its end). -/
inductive Step
  /-- `ZipArchive::new` on the bytes -/
  | openArchive
  /-- `by_index(i)` (`pw = none`) or `by_index_decrypt(i, pw)`, then `read_to_end` -/
  | byIndex (i : Nat) (pw : Option Bytes)
  /-- `by_index_raw(i)`, then `read_to_end` -/
  | byIndexRaw (i : Nat)
  /-- `by_name(name)` / `by_name_decrypt(name, pw)`, then `read_to_end` -/
  | byName (name : Bytes) (pw : Option Bytes)
  /-- `ZipStreamReader::new(bytes).visit(..)` reading every entry -/
  | stream
  /-- `ZipWriter::new_append(bytes)` -/
  | appendOpen

/-- The script state: the device, and the archive most recently opened on it (if any). -/
structure State where
  dev : Dev
  archive : Option Archive

/-- Run an `M` action as a script step: did it panic (at the outer level or, through `inner`, inside
the value it returned), and the device it leaves. -/
def observe {α} (x : M α) (inner : α → Bool) (fa : Option Nat) (d : Dev) : Bool × Dev :=
  match x fa d with
  | (.ok a, d') => (inner a, d')
  | (.err _, d') => (false, d')
  | (.panic _, d') => (true, d')

/-- The `read_to_end` outcome inside a `by_index*` result. -/
def pwInner : PwResult (Nat × Out Bytes) → Bool
  | .ok (_, res) => res.isPanic
  | .invalidPassword => false

/-- One step: `(panicked?, next state)`.  Entry calls without an open archive are no-ops (there is no
handle to call them on); a failed `openArchive` keeps the previous archive. -/
def runStep (ext : Ext) (fa : Option Nat) (s : State) : Step → Bool × State
  | .openArchive =>
    match Model.openArchive fa s.dev with
    | (.ok a, d') => (false, ⟨d', some a⟩)
    | (.err _, d') => (false, ⟨d', s.archive⟩)
    | (.panic _, d') => (true, ⟨d', s.archive⟩)
  | .byIndex i pw =>
    match s.archive with
    | none => (false, s)
    | some a => let r := observe (byIndexRead ext a i pw) pwInner fa s.dev; (r.1, ⟨r.2, some a⟩)
  | .byIndexRaw i =>
    match s.archive with
    | none => (false, s)
    | some a => let r := observe (byIndexRaw a i) (fun _ => false) fa s.dev; (r.1, ⟨r.2, some a⟩)
  | .byName name pw =>
    match s.archive with
    | none => (false, s)
    | some a => let r := observe (byNameRead ext a name pw) pwInner fa s.dev; (r.1, ⟨r.2, some a⟩)
  | .stream =>
    let r := observe (streamVisit ext) (fun v => v.1.any fun x => x.2.isPanic) fa s.dev
    (r.1, ⟨r.2, s.archive⟩)
  | .appendOpen =>
    let r := observe newAppend (fun _ => false) fa s.dev
    (r.1, ⟨r.2, s.archive⟩)

/-- Did any step of the script panic? -/
def runScript (ext : Ext) (fa : Option Nat) : State → List Step → Bool
  | _, [] => false
  | s, st :: rest => (runStep ext fa s st).1 || runScript ext fa (runStep ext fa s st).2 rest

private theorem observe_spec {α} {x : M α} {inner : α → Bool} {fa : Option Nat} {d : Dev}
    (hnp : ¬ (x fa d).1.isPanic = true) (hro : ReadOnly x)
    (hin : ∀ a d', x fa d = (.ok a, d') → inner a = false) :
    (observe x inner fa d).1 = false ∧ (observe x inner fa d).2.buf = d.buf := by
  have hb := hro.elim fa d
  unfold observe
  generalize hr : x fa d = r at hnp hb hin
  obtain ⟨(a | e | s), d'⟩ := r
  · exact ⟨hin a d' rfl, hb⟩
  · exact ⟨rfl, hb⟩
  · exact (hnp rfl).elim

private theorem pwInner_false {r : PwResult (Nat × Out Bytes)} (h : PwResult.InnerNoPanic r) :
    pwInner r = false := by
  cases r with
  | invalidPassword => rfl
  | ok p =>
    obtain ⟨ds, res⟩ := p
    cases hres : res.isPanic with
    | false => exact hres
    | true => exact (h hres).elim

/-- One step neither panics nor changes the bytes (so the next step sees a sane device again). -/
theorem step_total (ext : Ext) (hext : ExtNoPanic ext) (fa : Option Nat) (s : State)
    (hd : DevSane s.dev) (st : Step) :
    (runStep ext fa s st).1 = false ∧ (runStep ext fa s st).2.dev.buf = s.dev.buf := by
  have hbi : ∀ a i pw,
      (observe (byIndexRead ext a i pw) pwInner fa s.dev).1 = false ∧
      (observe (byIndexRead ext a i pw) pwInner fa s.dev).2.buf = s.dev.buf := fun a i pw =>
    observe_spec (byIndexRead_noPanicOn ext hext a i pw fa s.dev hd) (byIndexRead_readOnly ext a i pw)
      fun r d' h => pwInner_false ((byIndexRead_inner ext hext a i pw).elim h)
  cases st with
  | openArchive =>
    have hnp := open_total fa s.dev
    have hb := openArchive_readOnly.elim fa s.dev
    unfold runStep
    generalize Model.openArchive fa s.dev = r at hnp hb
    obtain ⟨(a | e | p), d'⟩ := r
    · exact ⟨rfl, hb⟩
    · exact ⟨rfl, hb⟩
    · exact (hnp rfl).elim
  | byIndex i pw =>
    unfold runStep
    cases s.archive with
    | none => exact ⟨rfl, rfl⟩
    | some a => exact hbi a i pw
  | byIndexRaw i =>
    unfold runStep
    cases s.archive with
    | none => exact ⟨rfl, rfl⟩
    | some a =>
      exact observe_spec (byIndexRaw_noPanicOn a i fa s.dev hd) (byIndexRaw_readOnly a i)
        fun _ _ _ => rfl
  | byName name pw =>
    unfold runStep
    cases s.archive with
    | none => exact ⟨rfl, rfl⟩
    | some a =>
      exact observe_spec (byNameRead_noPanicOn ext hext a name pw fa s.dev hd)
        (byNameRead_readOnly ext a name pw)
        fun r d' h => pwInner_false ((byNameRead_inner ext hext a name pw).elim h)
  | stream =>
    unfold runStep
    refine observe_spec ((streamVisit_noPanic ext).elim fa s.dev) (streamVisit_readOnly ext) ?_
    intro v d' h
    have hv := (streamVisit_inner ext hext).elim h
    cases hany : (v.1.any fun x => x.2.isPanic) with
    | false => rfl
    | true =>
      obtain ⟨x, hx, hp⟩ := List.any_eq_true.mp hany
      exact (hv x hx hp).elim
  | appendOpen =>
    unfold runStep
    exact observe_spec (newAppend_noPanic.elim fa s.dev) newAppend_readOnly fun _ _ _ => rfl

/-- **C05, panic-freedom.**  For every byte string shorter than 2^63, every panic-free external
codec/decryption layer, every fault index, every (even unreachable) starting archive value and every
sequence of `open / by_index(_decrypt) / by_index_raw / by_name(_decrypt) / stream visit / new_append`
calls with arbitrary indices, names and passwords: no step panics — neither the call nor reading the
returned entry to its end. -/
theorem reader_total (ext : Ext) (hext : ExtNoPanic ext) (fa : Option Nat) (script : List Step) :
    ∀ (s : State), DevSane s.dev → runScript ext fa s script = false := by
  induction script with
  | nil => intro s _; rfl
  | cons st rest ih =>
    intro s hd
    obtain ⟨h1, h2⟩ := step_total ext hext fa s hd st
    unfold runScript
    rw [h1, Bool.false_or]
    apply ih
    unfold DevSane at hd ⊢
    rw [h2]
    exact hd

theorem reader_total_bytes (ext : Ext) (hext : ExtNoPanic ext) (bytes : Bytes)
    (hlen : bytes.length < 2 ^ 63) (fa : Option Nat) (script : List Step) :
    runScript ext fa ⟨Dev.ofBytes bytes, none⟩ script = false :=
  reader_total ext hext fa script _ hlen

/-- Interrupted writes and downloads: a prefix of any byte string (in particular of a valid archive)
is a byte string, so everything above applies to it. -/
theorem prefix_is_ordinary_input (ext : Ext) (hext : ExtNoPanic ext) (bytes : Bytes)
    (hlen : bytes.length < 2 ^ 63) (n : Nat) (fa : Option Nat) (script : List Step) :
    runScript ext fa ⟨Dev.ofBytes (bytes.take n), none⟩ script = false := by
  apply reader_total_bytes ext hext
  rw [List.length_take]
  omega

/-! ### The crate's own decryption layers

`ExtNoPanic` above quantifies over the reader's whole environment.  Three of its four fields are not about external
code at all: `zipCrypto` speaks of `ext.zipCrypto`, which stands for src/zipcrypto.rs, `aes` and `aesStream` of
`ext.aes`, which stands for src/aes.rs + src/aes_ctr.rs (only `decode` is about the decompressors), and with
`storedExt` (every decryption = `UnsupportedArchive`) "with or without a password" covers the glue only.
`Model.cryptoExt P decode` (Model/CryptoExt.lean) plugs in the models of the two layers - the functions the
translated layer methods are tied to (Tie/ZcLayer.lean, Tie/AesLayer.lean) - and `Lemmas/CryptoExtTotal.lean` proves
`ExtNoPanic` for it.  What remains assumed is code outside the crate: the decompressors do not panic, and PBKDF2 /
the AES block function / HMAC-SHA1 return outputs of their fixed lengths (`AesPrims.WF`; in Rust: facts of the
types). -/

/-- The decryption layers never panic: any password, any declared mode and size, any bytes. -/
theorem crypto_layers_total (P : Aes.AesPrims) (hW : P.WF) (decode : Method → Bytes → Out Bytes)
    (hdec : ∀ m bs, ¬ (decode m bs).isPanic = true) : ExtNoPanic (cryptoExt P decode) :=
  cryptoExt_noPanic P hW decode hdec

/-- **C05, panic-freedom, with the crate's own ZipCrypto and AES layers in place**: every script of
`open / by_index(_decrypt) / by_index_raw / by_name(_decrypt) / stream visit / new_append` calls with arbitrary
indices, names and PASSWORDS on arbitrary bytes - the call, the password check, the decryption of the whole
entry, the authentication-code check, decoding and the CRC check. -/
theorem reader_total_crypto (P : Aes.AesPrims) (hW : P.WF) (decode : Method → Bytes → Out Bytes)
    (hdec : ∀ m bs, ¬ (decode m bs).isPanic = true) (fa : Option Nat) (script : List Step) :
    ∀ (s : State), DevSane s.dev → runScript (cryptoExt P decode) fa s script = false :=
  reader_total _ (cryptoExt_noPanic P hW decode hdec) fa script

/-- `reader_total_crypto` on every prefix of every byte string (interrupted write or download): with the crate's own
ZipCrypto and AES layers in place no step of any script panics. -/
theorem reader_total_crypto_prefix (P : Aes.AesPrims) (hW : P.WF) (decode : Method → Bytes → Out Bytes)
    (hdec : ∀ m bs, ¬ (decode m bs).isPanic = true) (bytes : Bytes) (hlen : bytes.length < 2 ^ 63) (n : Nat)
    (fa : Option Nat) (script : List Step) :
    runScript (cryptoExt P decode) fa ⟨Dev.ofBytes (bytes.take n), none⟩ script = false :=
  prefix_is_ordinary_input _ (cryptoExt_noPanic P hW decode hdec) bytes hlen n fa script

/-- "Encrypted entries shorter than their crypto header" are errors, for every password: ZipCrypto below 12
bytes is `UnexpectedEof`, AES below salt + 2 + 10 is `InvalidData` (D4) before a byte is read. -/
theorem short_encrypted_entry_is_error (P : Aes.AesPrims) (pw : Bytes) :
    (∀ check raw, raw.length < 12 → zipCryptoLayer pw check raw = .err (.io .unexpectedEof)) ∧
    (∀ mode (csize : UInt64) raw, csize.toNat < 12 + (aesModeView mode).saltLength →
      aesLayer P pw mode csize raw = .err (.io .invalidData)) :=
  ⟨fun c raw h => zipCryptoLayer_short pw c raw h, fun m cs raw h => aesLayer_short P pw m cs raw h⟩

/-- Primitives for evaluation: all-zero outputs of the right lengths (the theorems hold for every `P` with `WF`;
these make `decide` able to run the layers). -/
def zeroPrims : Aes.AesPrims where
  pbkdf2 _ _ n := List.replicate n 0
  block _ _ := List.replicate 16 0
  hmac _ _ := List.replicate 20 0

theorem zeroPrims_wf : zeroPrims.WF :=
  ⟨fun _ _ _ => List.length_replicate .., fun _ _ => List.length_replicate ..,
   fun _ _ => List.length_replicate ..⟩

/-- Stored-only decoding, as in `storedExt`, but with the decryption layers in place. -/
def cryptoStoredExt : Ext := cryptoExt zeroPrims (fun _ raw => .ok raw)

example : ExtNoPanic cryptoStoredExt := crypto_layers_total zeroPrims zeroPrims_wf _ (fun _ _ h => by cases h)

/-- The hypothesis `ExtNoPanic` is satisfiable: the Stored-only `Ext` is panic-free. -/
example : ExtNoPanic storedExt := storedExt_noPanic
/-- The hypothesis `DevSane` holds of small devices. -/
example : DevSane (Dev.ofBytes [0x50, 0x4b, 0x05, 0x06]) := by
  show 4 < 2 ^ 63
  omega

/-! ## 2. Termination: every fuel parameter of the model is adequate

All model functions are total by construction (structural recursion or fuel).  Fuel is adequate when
giving MORE fuel never changes the result: then the fuel-exhaustion branch never cuts short a loop the
real code would continue. -/

/-- Backward EOCD search (spec.rs:77-91), as called by `findAndParseEocd`: with file length `len ≥ 22`
the fuel `len - 22 - bound + 1` can be increased arbitrarily without changing anything.  (The `0`
branch is reached only at `pos = bound - 1`, where the `while pos >= bound` test fails too, with the
same error.) -/
theorem eocd_search_fuel_adequate (len extra : Nat) :
    findEocdLoop (len - (22 + 65535)) (len - 22 - (len - (22 + 65535)) + 1 + extra) (len - 22) =
      findEocdLoop (len - (22 + 65535)) (len - 22 - (len - (22 + 65535)) + 1) (len - 22) :=
  findEocdLoop_fuel_mono _ _ _ _ (by omega)

/-- General form: any fuel covering the positions `pos, pos-1, …, bound`. -/
theorem eocd_search_fuel_adequate_gen (bound fuel pos extra : Nat) (h : pos + 1 - bound ≤ fuel) :
    findEocdLoop bound (fuel + extra) pos = findEocdLoop bound fuel pos :=
  findEocdLoop_fuel_mono bound fuel pos extra h

/-- The backward search probes at most 65 536 positions, whatever the file length: the left side is the fuel
`findAndParseEocd` passes to `findEocdLoop` (the expression of `eocd_search_fuel_adequate`). -/
theorem eocd_search_steps (len : Nat) : len - 22 - (len - (22 + 65535)) + 1 ≤ 65536 := by
  omega

/-- Forward ZIP64 search (spec.rs:163-199), as called by `findEocd64`: fuel beyond `upper + 1 - nominal`
changes nothing. -/
theorem zip64_search_fuel_adequate (nominal upper extra : Nat) :
    findEocd64Loop nominal upper (upper + 1 - nominal + extra) nominal = findEocd64 nominal upper :=
  findEocd64Loop_fuel_mono nominal upper _ _ _ (Nat.le_refl _)

/-- The forward ZIP64 search makes at most `len` iterations: `get_directory_counts` calls it with
`upper = cde_start_pos - 60` after a successful backward search, which found `cde_start_pos + 22 ≤ len`; the left
side is the fuel of `findEocd64` at that `upper`. -/
theorem zip64_search_steps {fa : Option Nat} {d d' : Dev} {e : Eocd} {cde : Nat}
    (h : findAndParseEocd fa d = (.ok (e, cde), d')) (nominal : Nat) :
    (cde - 60) + 1 - nominal ≤ d.buf.length := by
  have := findAndParseEocd_cde_le h
  omega

/-- `parse_extra_field`: the model's fuel `extra.length + 1` is adequate (each iteration consumes at
least the 4-byte record header). -/
theorem extra_field_fuel_adequate (f : FileData) (extraBytes : Bytes) (more : Nat) :
    parseExtraField (extraBytes.length + 1 + more) f extraBytes =
      parseExtraField (extraBytes.length + 1) f extraBytes :=
  parseExtraField_fuel_mono _ f extraBytes more (Nat.lt_succ_self _)

/-- Streaming reader: the fuels `len/30 + 1` (entries: ≥ 30 bytes each) and `len/46 + 1` (central
records: ≥ 46 bytes each) used by `streamVisit` are adequate — any larger fuels give the same result,
on every device and under every fault. -/
theorem stream_fuel_adequate (ext : Ext) (fa : Option Nat) (d : Dev) (k1 k2 : Nat) :
    streamVisitFuel ext (d.buf.length / 30 + 1 + k1) (d.buf.length / 46 + 1 + k2) fa d =
      streamVisit ext fa d :=
  (streamVisitFuel_mono ext fa d k1 k2).trans (streamVisit_eq_fuel ext fa d).symm

/-- The two loops of `streamVisit` separately (this one: the entries; `stream_central_fuel_adequate`: the central
records), in terms of the bytes left on the device. -/
theorem stream_entries_fuel_adequate (ext : Ext) (fuel extra : Nat) (fa : Option Nat) (d : Dev)
    (h : d.buf.length - d.pos < 30 * fuel) :
    streamEntries ext (fuel + extra) fa d = streamEntries ext fuel fa d :=
  streamEntries_fuel_mono ext fuel extra fa d h

theorem stream_central_fuel_adequate (fuel extra : Nat) (fa : Option Nat) (d : Dev)
    (h : d.buf.length - d.pos < 46 * fuel) :
    streamCentralLoop (fuel + extra) fa d = streamCentralLoop fuel fa d :=
  streamCentralLoop_fuel_mono fuel extra fa d h

/-- The central-directory loop of `ZipArchive::new` runs `number_of_files` times in the code — a
64-bit number taken from the input.  It stops at the first error, and every successful header
consumes ≥ 46 existing bytes: for every declared count above `len/46` the loop behaves exactly as
the loop of `len/46 + 1` iterations, which fails. -/
theorem central_loop_iters (off n : Nat) (fa : Option Nat) (d : Dev)
    (hn : d.buf.length / 46 + 1 ≤ n) :
    ∃ e d', readCentralLoop off (d.buf.length / 46 + 1) fa d = (.err e, d') ∧
      readCentralLoop off n fa d = (.err e, d') :=
  readCentralLoop_iters off n fa d hn

/-- `n` successful iterations of the central-directory loop of `ZipArchive::new` need `46·n` bytes after the
directory start. -/
theorem central_loop_consumes (off n : Nat) {fa : Option Nat} {d d' : Dev} {files : List FileData}
    (h : readCentralLoop off n fa d = (.ok files, d')) :
    files.length = n ∧ d.pos + 46 * n ≤ d'.pos ∧ (0 < n → d'.pos ≤ d.buf.length) := by
  obtain ⟨h1, _, h2, h3⟩ := readCentralLoop_ok off n h
  exact ⟨h1, h2, h3⟩

/-! ## 3. Memory, in elements -/

/- `Tie/ReaderGlue.lean` (`tie_zip_archive_new`) shows that the TRANSLATED `ZipArchive::new` requests exactly the
capacity `Model.fileCapacity` that `openArchiveAlloc` reports. -/

/-- The pre-allocation, in elements: every reserved slot is paid for by 46 input bytes lying between the declared
start of the directory and the end record, and the end record starts at `cde_start_pos ≤ len - 22` whenever the
EOCD search succeeded.  A declared count of 2^64 - 1 reserves nothing; so does any count when the directory is
declared to start behind the end record.  (D21: the unrepaired code
compared the count with `cde_start_pos`, which only gave `capacity ≤ cde_start_pos`, one slot per input BYTE —
`prealloc_bound_old_guard_witness` below.) -/
theorem prealloc_bound (numberOfFiles directoryStart : Nat) {fa : Option Nat} {d d' : Dev} {e : Eocd} {cde : Nat}
    (h : findAndParseEocd fa d = (.ok (e, cde), d')) :
    fileCapacity numberOfFiles cde directoryStart * 46 ≤ cde - directoryStart ∧ cde + 22 ≤ d.buf.length := by
  refine ⟨?_, findAndParseEocd_cde_le h⟩
  unfold fileCapacity
  split <;> omega

/-- Corollary in terms of the input length alone: at most `(len - 22) / 46` elements. -/
theorem prealloc_le_len_div_46 (numberOfFiles directoryStart : Nat) {fa : Option Nat} {d d' : Dev} {e : Eocd}
    {cde : Nat} (h : findAndParseEocd fa d = (.ok (e, cde), d')) :
    fileCapacity numberOfFiles cde directoryStart ≤ (d.buf.length - 22) / 46 := by
  obtain ⟨h1, h2⟩ := prealloc_bound numberOfFiles directoryStart h
  rw [Nat.le_div_iff_mul_le (by omega)]
  omega

example : fileCapacity 18446744073709551615 1000 0 = 0 := by decide
example : fileCapacity 3 1000 0 = 3 := by decide
/-- exactly as many as fit: 21 headers of 46 bytes in 1000 bytes -/
example : fileCapacity 21 1000 0 = 21 ∧ fileCapacity 22 1000 0 = 0 := by decide
/-- the directory start counts: only 100 bytes are left for headers -/
example : fileCapacity 3 1000 900 = 0 ∧ fileCapacity 2 1000 900 = 2 := by decide
/-- a directory declared to start behind the end record has room for no header -/
example : fileCapacity 1 1000 2000 = 0 := by decide

/-- What the guard looked like before the repair D21: the count compared with the position of the end record. -/
def fileCapacityOldGuard (numberOfFiles cdeStartPos : Nat) : Nat :=
  if numberOfFiles > cdeStartPos then 0 else numberOfFiles

/-- The witness of D21: with an end record at offset 8 000 076 a declared count of 8 000 076 was reserved in
full — 8 000 076 elements (≈ 1.9 GB) for an 8 MB input, 46 times what the repaired guard allows for ANY count
at that offset (173914 = 8000076 / 46, rounded down; the declared directory start is 0, the most favourable). -/
theorem prealloc_bound_old_guard_witness :
    fileCapacityOldGuard 8000076 8000076 = 8000076 ∧ fileCapacity 8000076 8000076 0 = 0 ∧
    ∀ n, fileCapacity n 8000076 0 ≤ 173914 := by
  refine ⟨by decide, by decide, fun n => ?_⟩
  unfold fileCapacity
  split <;> omega

/-- The capacity `ZipArchive::new` requests before it has validated a single central header
(`openArchiveAlloc` is the model function the translated source is tied to): 46 input bytes per reserved element,
hence at most `len / 46` elements whatever count and directory offset the archive declares; the archive that is
finally returned holds at most `len / 46` entries as well. -/
theorem open_prealloc_bound {fa : Option Nat} {d d' : Dev} {a : Archive} {cap : Nat}
    (h : openArchiveAlloc fa d = (.ok (a, cap), d')) :
    cap * 46 + 22 ≤ d.buf.length ∧ cap ≤ d.buf.length / 46 ∧ a.files.length ≤ d.buf.length / 46 := by
  obtain ⟨hfiles, e, cde, d1, n, ds, h1, hcap⟩ := openArchiveAlloc_bounds h
  have hb := prealloc_bound n ds h1
  have h46 : cap * 46 + 22 ≤ d.buf.length := by omega
  refine ⟨h46, ?_, by omega⟩
  rw [Nat.le_div_iff_mul_le (by omega)]
  omega

/-- The transient buffers of the parsers (`vec![0; n]`) have a 16-bit length: the lengths come from `u16`
fields, and a successful `read_exact(n)` returns exactly `n` bytes; stated for the archive comment and for the
name and extra field of a central header. -/
theorem transient_alloc_bound :
    (∀ (n : UInt16), n.toNat ≤ 65535) ∧
    (∀ n fa d r d', M.readExact n fa d = (.ok r, d') → r.length = n) ∧
    (∀ fa d e d', parseEocd fa d = (.ok e, d') → e.comment.length ≤ 65535) ∧
    (∀ off fa d f d', centralHeader off fa d = (.ok f, d') →
      f.fileNameRaw.length ≤ 65535 ∧ f.extraField.length ≤ 65535) :=
  ⟨u16_le, fun _ _ _ _ _ h => (M.readExact_ok_inv h).1,
   fun _ _ _ _ h => parseEocd_comment_len.elim h,
   fun off _ _ _ _ h => (centralHeader_raw_len off).elim h⟩

/-- An opened archive holds at most `len / 46` entries (the second conjunct follows from the first). -/
theorem entries_bound {fa : Option Nat} {d d' : Dev} {a : Archive}
    (h : openArchive fa d = (.ok a, d')) :
    a.files.length ≤ d.buf.length / 46 ∧ a.files.length ≤ d.buf.length / 46 + 1 := by
  have := openArchive_entries_bound h
  omega

/-! ## 4. Non-vacuity: adversarial inputs evaluated through the model -/

/-- Outcome class of a model run (the strings of the correspondence protocol). -/
def outcome {α} : Out α → String
  | .ok _ => "ok"
  | .err e => Out.className e
  | .panic _ => "panic"

def isErr {α} : Out α → Bool
  | .err _ => true
  | _ => false

def okEntries : Out Archive → Option Nat
  | .ok a => some a.files.length
  | _ => none

example : outcome (openArchive.runPure (Dev.ofBytes [])).1 = "err invalid" := by decide +kernel

/-- 21 bytes: one short of the smallest archive -/
example : outcome (openArchive.runPure (Dev.ofBytes (List.replicate 21 0))).1 = "err invalid" := by
  decide +kernel

/-- The 22-byte empty archive opens, with no entries. -/
def emptyZip : Bytes := [0x50, 0x4b, 0x05, 0x06] ++ List.replicate 18 0

example : okEntries (openArchive.runPure (Dev.ofBytes emptyZip)).1 = some 0 := by decide +kernel

/-- `open_prealloc_bound` is not vacuous: the tied function succeeds on it, requesting no memory. -/
example : (match (openArchiveAlloc.runPure (Dev.ofBytes emptyZip)).1 with
    | .ok (a, cap) => a.files.length == 0 && cap == 0
    | _ => false) = true := by decide +kernel

/-- Every proper prefix of it is rejected (an interrupted write), by all three openers. -/
example : ∀ n < 22,
    outcome (openArchive.runPure (Dev.ofBytes (emptyZip.take n))).1 = "err invalid" ∧
    outcome (newAppend.runPure (Dev.ofBytes (emptyZip.take n))).1 = "err invalid" ∧
    (outcome ((streamVisit storedExt).runPure (Dev.ofBytes (emptyZip.take n))).1 = "err invalid" ∨
     outcome ((streamVisit storedExt).runPure (Dev.ofBytes (emptyZip.take n))).1 = "err io:eof") := by
  decide +kernel

/-- A liar: 65 535 entries declared (on-disk count 0xFFFF), central directory "at offset 0".  The
capacity guard reserves nothing (65535 > (cde_start_pos - directory_start) / 46 = 0) and the first header fails. -/
def liarCount : Bytes :=
  [0x50, 0x4b, 0x05, 0x06, 0, 0, 0, 0, 0xff, 0xff, 0xff, 0xff, 0, 0, 0, 0, 0, 0, 0, 0, 0, 0]

example : outcome (openArchive.runPure (Dev.ofBytes liarCount)).1 = "err invalid" := by decide +kernel
example : outcome (newAppend.runPure (Dev.ofBytes liarCount)).1 = "err invalid" := by decide +kernel
example : outcome ((streamVisit storedExt).runPure (Dev.ofBytes liarCount)).1 = "err invalid" := by
  decide +kernel
example : fileCapacity 65535 0 0 = 0 := by decide

/-- A liar entry whose local header offset is 2^64 - 1: `find_content` fails with `UnexpectedEof`
at the signature read — the overflowing addition of read.rs:255 is never evaluated. -/
def farEntry : FileData := { (default : FileData) with headerStart := 0xFFFFFFFFFFFFFFFF }

example : outcome ((byIndexRead storedExt ⟨[farEntry], 0, []⟩ 0 none).runPure
    (Dev.ofBytes emptyZip)).1 = "err io:eof" := by decide +kernel
example : outcome ((byIndexRaw ⟨[farEntry], 0, []⟩ 0).runPure (Dev.ofBytes emptyZip)).1 =
    "err io:eof" := by decide +kernel
example : outcome ((byIndexRaw ⟨[farEntry], 0, []⟩ 7).runPure (Dev.ofBytes emptyZip)).1 =
    "err notfound" := by decide +kernel

/-- A script over the liar: nothing panics (evaluated, not just proved). -/
example : runScript storedExt none ⟨Dev.ofBytes liarCount, some ⟨[farEntry], 0, []⟩⟩
    [.openArchive, .byIndex 0 none, .byIndexRaw 0, .byName [] (some [1]), .stream, .appendOpen] =
    false := by decide +kernel

/-- A shorter script over the liar (no archive value to start from) under an injected I/O fault at each of the
call indices 0 … 39: an instance of `reader_total_bytes`, not an evaluation. -/
example : ∀ k < 40, runScript storedExt (some k) ⟨Dev.ofBytes liarCount, none⟩
    [.openArchive, .stream, .appendOpen] = false :=
  fun k _ => reader_total_bytes storedExt storedExt_noPanic liarCount (by decide) (some k) _

/-- A well-formed one-entry archive (`a` = "Z", Stored), 101 bytes. -/
def oneEntry : Bytes :=
  [0x50, 0x4b, 0x3, 0x4, 0x14, 0x0, 0x0, 0x0, 0x0, 0x0, 0x0, 0x0, 0x21, 0x0, 0x67, 0x57, 0xbc, 0x59,
   0x1, 0x0, 0x0, 0x0, 0x1, 0x0, 0x0, 0x0, 0x1, 0x0, 0x0, 0x0, 0x61, 0x5a,
   0x50, 0x4b, 0x1, 0x2, 0x14, 0x0, 0x14, 0x0, 0x0, 0x0, 0x0, 0x0, 0x0, 0x0, 0x21, 0x0, 0x67, 0x57,
   0xbc, 0x59, 0x1, 0x0, 0x0, 0x0, 0x1, 0x0, 0x0, 0x0, 0x1, 0x0, 0x0, 0x0, 0x0, 0x0, 0x0, 0x0, 0x0,
   0x0, 0x0, 0x0, 0x0, 0x0, 0x0, 0x0, 0x0, 0x0, 0x61,
   0x50, 0x4b, 0x5, 0x6, 0x0, 0x0, 0x0, 0x0, 0x1, 0x0, 0x1, 0x0, 0x2f, 0x0, 0x0, 0x0, 0x20, 0x0, 0x0,
   0x0, 0x0, 0x0]

/-- Open, then read entry 0 — `some (data_start, content)`. -/
def openAndRead (bytes : Bytes) (i : Nat) : Option (Nat × Bytes) :=
  match openArchive.runPure (Dev.ofBytes bytes) with
  | (.ok a, d) =>
    match (byIndexRead storedExt a i none).runPure d with
    | (.ok (.ok (ds, .ok content)), _) => some (ds, content)
    | _ => none
  | _ => none

example : okEntries (openArchive.runPure (Dev.ofBytes oneEntry)).1 = some 1 := by decide +kernel
example : openAndRead oneEntry 0 = some (31, [0x5a]) := by decide +kernel

/-- `open_prealloc_bound` on an archive that does reserve: one entry declared, 47 bytes between the directory start
(32) and the end record (79) - room for exactly one header -, one slot requested, one entry returned. -/
example : (match (openArchiveAlloc.runPure (Dev.ofBytes oneEntry)).1 with
    | .ok (a, cap) => a.files.length == 1 && cap == 1
    | _ => false) = true := by decide +kernel
example : fileCapacity 1 79 32 = 1 ∧ fileCapacity 2 79 32 = 0 := by decide

/-- The calls of the property statement, in one script. -/
def fullScript : List Step :=
  [.openArchive, .byIndex 0 none, .byIndexRaw 0, .byName [0x61] none, .byIndex 0 (some [0x70]),
   .stream, .appendOpen]

/-- Cut points: every third length plus the record boundaries (32 = end of the entry, 79 = end of
the central directory, 100 = last byte missing). -/
def cuts : List Nat := (List.range 101).filter fun n => n % 3 == 0 || n == 32 || n == 79 || n == 100

/-- Proper prefixes (an interrupted download): the seekable opener and `new_append` answer with an
error (evaluated); the streaming reader does not panic (`stream_total`; it succeeds once the central record is
complete). -/
example : cuts.all (fun n =>
    isErr (openArchive.runPure (Dev.ofBytes (oneEntry.take n))).1 &&
    isErr (newAppend.runPure (Dev.ofBytes (oneEntry.take n))).1 &&
    !((streamVisit storedExt).runPure (Dev.ofBytes (oneEntry.take n))).1.isPanic) = true := by
  have hev : cuts.all (fun n =>
      isErr (openArchive.runPure (Dev.ofBytes (oneEntry.take n))).1 &&
      isErr (newAppend.runPure (Dev.ofBytes (oneEntry.take n))).1) = true := by decide +kernel
  rw [List.all_eq_true] at hev ⊢
  intro n hn
  rw [hev n hn, Bool.true_and, Bool.not_eq_true', Bool.eq_false_iff]
  exact (stream_total storedExt storedExt_noPanic none _).1

/-- `fullScript` over each of the prefixes of `oneEntry` in `cuts` has no panicking step
(`prefix_is_ordinary_input`, whose hypotheses hold here). -/
example : cuts.all (fun n =>
    !runScript storedExt none ⟨Dev.ofBytes (oneEntry.take n), none⟩ fullScript) = true :=
  List.all_eq_true.mpr fun n _ => by
    rw [prefix_is_ordinary_input storedExt storedExt_noPanic oneEntry (by decide) n none fullScript]; rfl

/-- Single-byte substitutions by 0xFF (signatures, counts, sizes, offsets, lengths): `reader_total_bytes`. -/
example : cuts.all (fun p =>
    !runScript storedExt none ⟨Dev.ofBytes (oneEntry.set p 0xff), none⟩ fullScript) = true :=
  List.all_eq_true.mpr fun p _ => by
    rw [reader_total_bytes storedExt storedExt_noPanic (oneEntry.set p 0xff) (by rw [List.length_set]; decide) none
      fullScript]; rfl

/-! ### Passwords on adversarial entries, evaluated through the model -/

/-- A local header (no name, no extra field) followed by 40 zero bytes of "data".  Under `zeroPrims` the zero
bytes are a VALID AES payload for every password (derived keys, key stream and authentication code are all
zero), so every branch of the AES layer is reached by varying the declared size alone. -/
def cryptoDev : Bytes := [0x50, 0x4b, 0x03, 0x04] ++ List.replicate 26 0 ++ List.replicate 40 0

/-- An entry at offset 0 with the encryption flag, an AES-256/AE-2 record and a declared size of `k`. -/
def aesEntry (k : Nat) : FileData :=
  { (default : FileData) with encrypted := true, compressedSize := UInt64.ofNat k,
                              aesMode := some (.aes256, .ae2) }

/-- An entry at offset 0 with the encryption flag, a declared size of `k` and no AES record: the ZipCrypto path
(check byte = high byte of the CRC = 0). -/
def zcEntry (k : Nat) : FileData :=
  { (default : FileData) with encrypted := true, compressedSize := UInt64.ofNat k }

/-- Outcome class of `by_index_decrypt(0, pw)` + `read_to_end` on a one-entry archive value. -/
def decryptOutcome (f : FileData) (pw : Option Bytes) : String :=
  match (byIndexRead cryptoStoredExt ⟨[f], 0, []⟩ 0 pw).runPure (Dev.ofBytes cryptoDev) with
  | (.ok (.ok (_, res)), _) => "read " ++ outcome res
  | (.ok .invalidPassword, _) => "invalidpw"
  | (.err e, _) => Out.className e
  | (.panic _, _) => "panic"

/-- AES-256 needs 16 + 2 + 10 = 28 bytes: every shorter declared size is `InvalidData` (D4: was an overflow
panic), 28 is the empty entry, 40 uses all the bytes there are, 41 and more find the authentication code cut
short (`UnexpectedEof`, D9), the maximal size too. -/
example : (List.range 28).all (fun k => decryptOutcome (aesEntry k) (some [0x70]) == "err io:invaliddata") = true := by
  decide +kernel
example : decryptOutcome (aesEntry 28) (some [0x70]) = "read ok" := by decide +kernel
example : decryptOutcome (aesEntry 40) (some []) = "read ok" := by decide +kernel
example : decryptOutcome (aesEntry 41) (some [0x70]) = "read err io:eof" := by decide +kernel
example : decryptOutcome (aesEntry 0xFFFFFFFFFFFFFFFF) (some [0x70]) = "read err io:eof" := by decide +kernel
/-- no password on an encrypted entry; a password on an entry whose flag is clear is ignored (AES record
without the flag: `InvalidPassword`, D2: was an unwrap panic) -/
example : decryptOutcome (aesEntry 30) none = "err passwordrequired" := by decide +kernel
example : decryptOutcome { aesEntry 30 with encrypted := false } (some [0x70]) = "invalidpw" := by decide +kernel

/-- ZipCrypto entries of every length 0 … 13: below the 12-byte header `UnexpectedEof`; from 12 on the check
byte decides. -/
example : (List.range 12).all (fun k => decryptOutcome (zcEntry k) (some [0x70]) == "err io:eof") = true := by
  decide +kernel
example : decryptOutcome (zcEntry 12) (some [0x70]) = "invalidpw" := by decide +kernel
/-- the password `[4]` passes the check byte on these bytes: the empty entry reads (CRC of nothing = 0 = declared),
the 13-byte one delivers a byte whose CRC-32 is not the declared one -/
example : decryptOutcome (zcEntry 12) (some [4]) = "read ok" := by decide +kernel
example : decryptOutcome (zcEntry 13) (some [4]) = "read err io:other" := by decide +kernel

/-- Whole scripts with passwords over these entries, every declared size 0 … 44, also under an injected fault:
no panicking step (`reader_total_crypto`, whose hypotheses hold for `zeroPrims`). -/
example : (List.range 45).all (fun k =>
    !runScript cryptoStoredExt none ⟨Dev.ofBytes cryptoDev, some ⟨[aesEntry k, zcEntry k], 0, []⟩⟩
      [.byIndex 0 (some [0x70]), .byIndex 1 (some [0x70]), .byName [] (some []), .byIndex 0 none,
       .byIndexRaw 0, .byIndex 1 (some [1, 2, 3])]) = true :=
  List.all_eq_true.mpr fun k _ => by
    rw [Bool.not_eq_true']
    exact reader_total_crypto zeroPrims zeroPrims_wf _ (fun _ _ h => by cases h) none _ _
      (show cryptoDev.length < 2 ^ 63 by decide)
example : (List.range 12).all (fun fk =>
    !runScript cryptoStoredExt (some fk) ⟨Dev.ofBytes cryptoDev, some ⟨[aesEntry 40, zcEntry 20], 0, []⟩⟩
      [.byIndex 0 (some [0x70]), .byIndex 1 (some [0x70])]) = true :=
  List.all_eq_true.mpr fun fk _ => by
    rw [Bool.not_eq_true']
    exact reader_total_crypto zeroPrims zeroPrims_wf _ (fun _ _ h => by cases h) (some fk) _ _
      (show cryptoDev.length < 2 ^ 63 by decide)

/-! ### D16 (found by this property's stream, fixed in the crate and mirrored in the model)

`new_append` used to accept an empty ZIP64 archive whose central directory offset points far beyond
the input: opening was panic-free and cheap, but the writer it returned stood at that offset, so
`finish()` / `Drop` wrote there (4 GiB zero fill from the 98-byte witness below, a capacity-overflow
panic or an allocation abort for larger offsets).  The code now rejects `directory_start >
cde_start_pos`; `append_open_position_bounded` is the corresponding theorem. -/

/-- ZIP64 end record (0 entries, directory "at" 2^32), locator, end record with 0xFFFFFFFF markers. -/
def appendBeyond : Bytes :=
  [0x50, 0x4b, 0x06, 0x06, 0x2c, 0, 0, 0, 0, 0, 0, 0, 0x2d, 0, 0x2d, 0, 0, 0, 0, 0, 0, 0, 0, 0,
   0, 0, 0, 0, 0, 0, 0, 0, 0, 0, 0, 0, 0, 0, 0, 0, 0, 0, 0, 0, 0, 0, 0, 0, 0, 0, 0, 0, 1, 0, 0, 0,
   0x50, 0x4b, 0x06, 0x07, 0, 0, 0, 0, 0, 0, 0, 0, 0, 0, 0, 0, 1, 0, 0, 0,
   0x50, 0x4b, 0x05, 0x06, 0, 0, 0, 0, 0, 0, 0, 0, 0, 0, 0, 0, 0xff, 0xff, 0xff, 0xff, 0, 0]

/-- `(entries, writer position)` after a successful `new_append`. -/
def appendOpenView (bytes : Bytes) : Option (Nat × Nat) :=
  match newAppend.runPure (Dev.ofBytes bytes) with
  | (.ok s, d) => some (s.files.length, d.pos)
  | _ => none

example : appendBeyond.length = 98 := by decide
example : appendOpenView appendBeyond = none := by decide +kernel
example : outcome (newAppend.runPure (Dev.ofBytes appendBeyond)).1 = "err invalid" := by decide +kernel
example : okEntries (openArchive.runPure (Dev.ofBytes appendBeyond)).1 = some 0 := by decide +kernel

end ZipVerif.Props.C05
