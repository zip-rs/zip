import ZipVerif.Lemmas.ReadWf
import ZipVerif.Lemmas.AppendOpen
import ZipVerif.Props.C03
/-
C03, weakened hypothesis — archives whose central extra data contain FURTHER ZIP64 (0x0001) records
behind the one the format prescribes are read faithfully too.

`Layout.ReadableZ` (Lemmas/CentralParseZ.lean) replaces `Layout.Readable`: per entry, at the offset the
layout gives it, `e.centralExtra` is a well-formed record sequence without identifier 0x9901 in which
0x0001 records are allowed provided none of the entry's real uncompressed size, compressed size and
local-header offset is exactly 0xFFFFFFFF (`ExtraOkZ`); and the method is not 99.  Foreign producers may
emit further 0x0001 records; before the D20 repair this crate's own `new_append` + `finish` did (the old
ZIP64 record stayed inside the re-hydrated extra field and a new one was written in front of it).

Why the reader copes: `parse_extra_field` takes 8 bytes from a 0x0001 record for each field whose CURRENT
value equals 0xFFFFFFFF; after the first record the fields hold the real values, so a later record takes
nothing and is skipped by its length (`Model.parseExtraZ_ok_aux`).  Why the side condition is needed: see
the witness at the end of this file.
-/

namespace ZipVerif.Props.C03Z
open ZipVerif ZipVerif.Model ZipVerif.Spec.Zip

/-- `ReadableZ` generalises `Readable`: every theorem below contains its C03 counterpart. -/
theorem readable_imp_readableZ (l : Layout) (h : l.Readable) : l.ReadableZ :=
  Spec.Zip.readable_imp_readableZ l h

theorem extraOk_imp_extraOkZ (e : Entry) (off : UInt64) (h : ExtraOk e.centralExtra) : ExtraOkZ e off :=
  extraOkZ_of_extraOk e off h

/-- What `ExtraOkZ` says when a 0x0001 record is present: the three real values differ from 0xFFFFFFFF. -/
theorem noThr_iff (e : Entry) (off : UInt64) :
    noThr e off = true ↔ e.usize ≠ 0xFFFFFFFF ∧ e.csize ≠ 0xFFFFFFFF ∧ off ≠ 0xFFFFFFFF := by
  unfold noThr
  simp only [Bool.and_eq_true, bne_iff_ne, ne_eq, and_assoc]

/-- **The central-header parser on an `ExtraOkZ` entry** returns the same view as for an `ExtraOk` one —
`large_file` included (a skipped ZIP64 record does not set it). -/
theorem central_header_viewZ (e : Entry) (off ao p : Nat) (hf : e.Fits)
    (hx : ExtraOkZ e (UInt64.ofNat off)) (hm : e.method ≠ 99) (ho : off + ao < 2 ^ 64) :
    Parses (centralHeader ao) p (centralRecord e (UInt64.ofNat off)) (viewEntry e off ao p) :=
  parses_centralHeaderZ e off ao p hf hx hm ho

/-- The statement of `C03.reader_on_wf` under `ReadableZ`. -/
theorem reader_on_wfZ (l : Layout) (hF : l.Fits) (hR : l.ReadableZ) (hS : Spec.Zip.NoFalseSig l)
    (ht : l.trailing = [] ∨ l.needs64 = false) :
    ∃ d', openArchive.runPure (Dev.ofBytes (build l)) = (.ok (archiveOf l), d') ∧
      d'.buf = build l := by
  obtain ⟨d', h1, h2, _⟩ := open_of_loop l hF hS ht (runs_centralLoopZ l hF hR) 0 (Dev.ofBytes (build l)) rfl rfl
  exact ⟨d', h1, h2⟩

/-- `C03.reader_on_wf` is the special case. -/
theorem reader_on_wf_corollary (l : Layout) (hF : l.Fits) (hR : l.Readable) (hS : Spec.Zip.NoFalseSig l)
    (ht : l.trailing = [] ∨ l.needs64 = false) :
    ∃ d', openArchive.runPure (Dev.ofBytes (build l)) = (.ok (archiveOf l), d') ∧ d'.buf = build l :=
  reader_on_wfZ l hF (readable_imp_readableZ l hR) hS ht

/-- **End to end under `ReadableZ`**: open, then read entry `i` raw (`C03.reader_entry_raw` asks nothing
of the extra data). -/
theorem open_then_read_rawZ (l : Layout) (hF : l.Fits) (hR : l.ReadableZ) (hS : Spec.Zip.NoFalseSig l)
    (ht : l.trailing = [] ∨ l.needs64 = false) (i : Nat) (e : Entry) (he : l.entries[i]? = some e) :
    ∃ a d1 off d2, openArchive.runPure (Dev.ofBytes (build l)) = (.ok a, d1) ∧
      a.files = viewOf l ∧ a.offset = l.pre.length ∧ a.comment = l.comment ∧
      (localOffsets l.entries 0)[i]? = some off ∧
      (byIndexRaw a i).runPure d1 = (.ok (e.dataStart off l.pre.length, e.data), d2) := by
  obtain ⟨d1, h1, hb⟩ := reader_on_wfZ l hF hR hS ht
  obtain ⟨off, d2, h2, h3, _⟩ := C03.reader_entry_raw l hF i e he d1 hb
  exact ⟨archiveOf l, d1, off, d2, h1, rfl, rfl, rfl, h2, h3⟩

/-- `C13.newAppend_on_layout` under `ReadableZ`: `new_append` re-hydrates the
same views (minus their ZIP64 extra records, D20) from a foreign archive with redundant ZIP64 records. -/
theorem newAppend_on_layoutZ (l : Layout) (hF : l.Fits) (hN : ∀ e ∈ l.entries, AppendNameFits e)
    (hR : l.ReadableZ) (hS : Spec.Zip.NoFalseSig l)
    (ht : l.trailing = [] ∨ l.needs64 = false) :
    ∃ d', newAppend.runPure (Dev.ofBytes (build l)) =
        (.ok { WState.init with files := (viewOf l).map appendRecord, comment := l.comment,
                                writingRaw := true }, d') ∧
      d'.buf = build l ∧ d'.pos = l.cdStart :=
  Model.newAppend_on_layoutZ l hF hN hR hS ht

open ZipVerif.Props.C03 (exA exB exL)

/-- `exA` with a SECOND ZIP64 record (uncompressed size 5 again) in its foreign extra data and the
compressed size forced through the prescribed first record: not `Readable`, but `ReadableZ`; the model
reads it as the view of the layout. -/
def exAz : Entry :=
  { exA with z64 := (false, true, false), centralExtra := le16 1 ++ le16 8 ++ le64 5 ++ le16 0x5455 ++ le16 1 ++ [3] }

def exLz : Layout := { exL with entries := [exAz, exB] }

example : exLz.Fits ∧ ¬ exLz.Readable ∧ exLz.ReadableZ ∧ Spec.Zip.NoFalseSig exLz ∧ exLz.needs64 = false := by
  decide +kernel

example :
    (match (openArchive.runPure (Dev.ofBytes (build exLz))).1 with
     | .ok a => a.files == viewOf exLz && a.files.map (·.largeFile) == [true, true] &&
        a.files.map (·.compressedSize) == [5, 5] && a.files.map (·.uncompressedSize) == [5, 5]
     | _ => false) = true := by decide +kernel

/-- **The side condition is needed**: `usize = 0xFFFFFFFF` exactly and a further 0x0001 record (carrying
7): the entry is not `ExtraOkZ`, and the reader — having restored the real value 0xFFFFFFFF from the first
record, which EQUALS the placeholder — consumes the second record too and reports 7. -/
def exThr : Entry := { exA with usize := 0xFFFFFFFF, centralExtra := le16 1 ++ le16 8 ++ le64 7 }

example :
    let l : Layout := { exL with entries := [exThr] }
    l.Fits ∧ ¬ l.ReadableZ ∧ Spec.Zip.NoFalseSig l ∧
    (match openArchive.runPure (Dev.ofBytes (build l)) with
     | (.ok a, _) => a.files.map (·.uncompressedSize) == [7] && a.files != viewOf l
     | _ => false) = true := by decide +kernel

end ZipVerif.Props.C03Z
