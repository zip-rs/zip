import ZipVerif.Lemmas.Text
import ZipVerif.Model.Records
import ZipVerif.Lemmas.ParseExtra
/-
C19 — Names and comments decode by the flagged encoding; raw bytes are kept.
Property theorems only; helper lemmas are in `Lemmas/Text.lean` (for `parse_extra_field`:
`Lemmas/ParseExtra.lean`), the model in `Model/Text.lean` and `Model/Records.lean`, the specification
in `Spec/Utf8.lean` (RFC 3629 / Unicode table 3-7) and `Spec/Cp437Ref.lean` (generated from CPython's
cp437 codec).  Decoded text is `List Char` (= Unicode scalar values).
-/

namespace ZipVerif.Props.C19
open ZipVerif ZipVerif.Spec ZipVerif.Model

/-! ### CP437: all 256 byte values -/

/-- **Every one of the 256 bytes** is mapped by the crate's table (model of `to_char`) to the
character of the Unicode consortium CP437 table, and `to_char` does not panic. -/
theorem cp437_table_eq_ref (b : UInt8) : toChar b = .ok (cp437Ref b) :=
  toChar_eq_ref b

/-- Every table value is a Unicode scalar value: `char::from_u32(output).unwrap()` cannot panic. -/
theorem cp437_table_scalar (b : UInt8) :
    (toCharU32 b).toNat.isValidChar ∧ (Rs.charFromU32 (toCharU32 b)).isSome := by
  rw [toCharU32_eq_ref]
  exact ⟨(cp437Ref b).valid, by rw [charFromU32_val]; rfl⟩

/-- On the ASCII half CP437 is the identity (so decoding an ASCII name under either flag agrees). -/
theorem cp437_ascii_identity (b : UInt8) (h : b.toNat < 0x80) : (cp437Ref b).toNat = b.toNat :=
  ref_ascii b h

/-- **ASCII fast path = table path.**  On all-ASCII input `from_utf8(self)` succeeds (its `unwrap`
cannot panic) and yields exactly what mapping `to_char` over the bytes yields. -/
theorem ascii_fast_path_eq (bs : Bytes) (h : allAscii bs = true) :
    utf8Strict bs = some (bs.map cp437Ref) ∧ mapToChar bs = .ok (bs.map cp437Ref) :=
  ⟨strict_ascii bs h, mapToChar_eq_ref bs⟩

/-- `from_cp437` is total on every byte string (both paths) and is the reference decoding. -/
theorem from_cp437_total (bs : Bytes) : fromCp437 bs = .ok (bs.map cp437Ref) :=
  fromCp437_eq_ref bs

/-! ### The flag selects the decoding; decoding never fails; raw bytes are kept -/

/-- The reader's `is_utf8` is bit 11 of the general-purpose flags and nothing else. -/
theorem is_utf8_is_bit11 (flags : UInt16) : isUtf8Flag flags = flags.toNat.testBit 11 := by
  unfold isUtf8Flag
  have h1 : ((1 : UInt16) <<< 11) = 2048 := by decide
  rw [h1]
  have h2 : ((flags &&& 2048) != 0) = decide ((flags &&& 2048).toNat ≠ 0) := by
    by_cases h : flags &&& 2048 = 0
    · rw [h]; rfl
    · have h' : (flags &&& 2048).toNat ≠ 0 := fun e => h (UInt16.toNat_inj.mp e)
      rw [bne_iff_ne.mpr h, decide_eq_true h']
  rw [h2, UInt16.toNat_and]
  have h3 : (2048 : UInt16).toNat = 2 ^ 11 := by decide
  rw [h3]
  cases hb : flags.toNat.testBit 11
  · exact decide_eq_false (fun h => by
      have := (and_two_pow_ne_zero flags.toNat 11).mp h
      rw [hb] at this; cases this)
  · exact decide_eq_true ((and_two_pow_ne_zero flags.toNat 11).mpr hb)

/-- **Flag set → lossy UTF-8; flag clear → CP437; in both modes for every byte string, never an
error or panic.** -/
theorem decode_name_flag (raw : Bytes) :
    decodeName true raw = .ok (utf8Lossy raw) ∧ decodeName false raw = .ok (raw.map cp437Ref) :=
  ⟨rfl, fromCp437_eq_ref raw⟩

/-- Name *and* comment of a central header are decoded under the header's flag, for every flag
word and all raw byte strings; the outcome is always `ok`. -/
theorem central_name_fields (flags : UInt16) (nameRaw commentRaw : Bytes) :
    centralNameFields flags nameRaw commentRaw = .ok
      (if isUtf8Flag flags then ⟨utf8Lossy nameRaw, nameRaw, utf8Lossy commentRaw⟩
       else ⟨nameRaw.map cp437Ref, nameRaw, commentRaw.map cp437Ref⟩) := by
  unfold centralNameFields
  cases isUtf8Flag flags
  · rw [(decode_name_flag nameRaw).2, (decode_name_flag commentRaw).2]; rfl
  · rfl

/-- **The raw-name accessor returns the stored bytes unchanged**, whatever the flag and the bytes. -/
theorem name_raw_verbatim (flags : UInt16) (nameRaw commentRaw : Bytes) :
    ∃ f, centralNameFields flags nameRaw commentRaw = .ok f ∧ f.fileNameRaw = nameRaw := by
  rw [central_name_fields]
  cases isUtf8Flag flags <;> exact ⟨_, rfl, rfl⟩

/-! ### Extra fields never touch the text fields -/

/-- **No extra-field record changes the name, the raw name or the comment.**  `parse_extra_field` (its
model `Model.parseExtraField` of `Model/Records.lean`, equal to the regenerated translation of the source by
`Tie.Parsers.tie_parse_extra_field`) runs AFTER the header parsers decoded the name by the flag; whatever the extra bytes are -
ZIP64, AES, an Info-ZIP Unicode Path (0x7075) or Unicode Comment (0x6375) record with a matching CRC-32,
anything else, well-formed or not, and whether the loop ends normally or in an error - the three text fields
of the entry are the ones the flag-driven decoding produced.  (A reader that lets a 0x7075 record override
the name is not this function: the tie obligation breaks, and the `text.arch` correspondence - archives
whose central and local extra fields carry valid 0x7075 / 0x6375 records - disagrees.) -/
theorem extra_fields_keep_text (fuel : Nat) (f : Model.FileData) (extra : Bytes) :
    (Model.parseExtraField fuel f extra).1.fileName = f.fileName ∧
    (Model.parseExtraField fuel f extra).1.fileNameRaw = f.fileNameRaw ∧
    (Model.parseExtraField fuel f extra).1.fileComment = f.fileComment :=
  -- the three fields are not among those `eraseExtra` blanks out
  ⟨Model.parseExtraField_keeps (·.fileName) (fun _ => rfl) fuel f extra,
   Model.parseExtraField_keeps (·.fileNameRaw) (fun _ => rfl) fuel f extra,
   Model.parseExtraField_keeps (·.fileComment) (fun _ => rfl) fuel f extra⟩

/-! ### UTF-8: encode / lossy decode / strict decode -/

/-- **Lossy decoding inverts encoding, for every string of Unicode scalar values** (unbounded). -/
theorem utf8Lossy_encode (s : List Char) : utf8Lossy (utf8Encode s) = s :=
  lossy_of_chunks (utf8Chunks_encode s)

/-- Strict decoding accepts every encoding and returns the string. -/
theorem utf8Strict_encode (s : List Char) : utf8Strict (utf8Encode s) = some s :=
  strict_encode s

/-- Strict decoding is sound: it accepts *only* encodings (so `utf8Strict`/`utf8Encode` are a
bijection between well-formed byte strings and scalar-value strings). -/
theorem utf8Strict_sound {bs : Bytes} {s : List Char} (h : utf8Strict bs = some s) :
    utf8Encode s = bs :=
  encode_of_chunks bs s h

/-- On well-formed input the lossy decoder replaces nothing. -/
theorem utf8Lossy_valid {bs : Bytes} {s : List Char} (h : utf8Strict bs = some s) :
    utf8Lossy bs = s :=
  lossy_of_chunks (allSome_eq_some h)

/-- On ill-formed input the lossy decoder emits at least one U+FFFD (it does not drop bytes silently). -/
theorem utf8Lossy_invalid {bs : Bytes} (h : utf8Strict bs = none) : replacement ∈ utf8Lossy bs := by
  have key : ∀ l : List (Option Char), allSome l = none →
      replacement ∈ l.map (fun | some c => c | none => replacement) := by
    intro l
    induction l with
    | nil => intro h; cases h
    | cons a l ih =>
      intro h
      cases a with
      | none => exact List.mem_cons_self
      | some a =>
        rw [allSome] at h
        cases hl : allSome l with
        | none => exact List.mem_cons_of_mem _ (ih hl)
        | some t => rw [hl] at h; cases h
  exact key _ h

/-- Each output character consumes at least one input byte (no amplification). -/
theorem utf8Lossy_length_le (bs : Bytes) : (utf8Lossy bs).length ≤ bs.length := by
  unfold utf8Lossy; rw [List.length_map]; exact chunks_length_le bs

/-! ### Writer -/

/-- The writer sets the language-encoding flag iff the name has a character ≥ U+0080 (with or
without the encryption bit). -/
theorem writer_flag_iff (s : List Char) (enc : Bool) :
    isUtf8Flag (writerFlags (utf8Encode s) enc) = true ↔ ∃ c ∈ s, 0x80 ≤ c.toNat := by
  rw [isUtf8Flag_writerFlags, isAscii_encode, Bool.not_eq_true', List.all_eq_false]
  constructor
  · rintro ⟨c, hc, h⟩; exact ⟨c, hc, by rw [decide_eq_true_eq] at h; omega⟩
  · rintro ⟨c, hc, h⟩; exact ⟨c, hc, by rw [decide_eq_true_eq]; omega⟩

/-- A name whose UTF-8 encoding does not fit the 16-bit length field is rejected with
`InvalidArchive` before anything is written (never a success with a truncated length). -/
theorem writer_name_too_long_rejected (s : List Char) (enc : Bool)
    (h : 65535 < (utf8Encode s).length) : writerStoreName s enc = .err .invalidArchive := by
  unfold writerStoreName; simp only; rw [if_pos h]

/-- **Writer round trip, for every Rust string** (`List Char`): unless the name is rejected as too
long, the stored bytes are exactly the UTF-8 encoding of the name, the length field is their length
(the `as u16` cast does not truncate), the flag is set iff the name is not ASCII, and reading the
stored name back under the stored flag returns the same string and the same raw bytes (ASCII names:
flag clear, and CP437 decoding of ASCII is the identity; other names: flag set, and lossy UTF-8
decoding inverts the encoding). -/
theorem writer_name_roundtrip (s : List Char) (enc : Bool) :
    (65535 < (utf8Encode s).length ∧ writerStoreName s enc = .err .invalidArchive) ∨
    ∃ st, writerStoreName s enc = .ok st ∧
      st.bytes = utf8Encode s ∧
      st.lenField.toNat = (utf8Encode s).length ∧
      (isUtf8Flag st.flags = true ↔ ∃ c ∈ s, 0x80 ≤ c.toNat) ∧
      readBackName st = .ok ⟨s, utf8Encode s, []⟩ := by
  by_cases hlong : 65535 < (utf8Encode s).length
  · exact .inl ⟨hlong, writer_name_too_long_rejected s enc hlong⟩
  · right
    have hl : (UInt16.ofNat (utf8Encode s).length).toNat = (utf8Encode s).length :=
      UInt16.toNat_ofNat_of_lt' (by show _ < 65536; omega)
    refine ⟨⟨UInt16.ofNat (utf8Encode s).length, utf8Encode s, writerFlags (utf8Encode s) enc⟩,
      ?_, rfl, hl, writer_flag_iff s enc, ?_⟩
    · unfold writerStoreName; simp only; rw [if_neg hlong]
    · show centralNameFields (writerFlags (utf8Encode s) enc)
        ((utf8Encode s).take (UInt16.ofNat (utf8Encode s).length).toNat) [] = _
      rw [hl, List.take_length, central_name_fields, isUtf8Flag_writerFlags]
      cases h : Rs.isAscii (utf8Encode s)
      · -- not ASCII: flag set, lossy UTF-8
        show Out.ok (NameFields.mk (utf8Lossy (utf8Encode s)) _ (utf8Lossy [])) = _
        rw [utf8Lossy_encode]; rfl
      · -- ASCII: flag clear, CP437 (= strict UTF-8 on ASCII bytes)
        show Out.ok (NameFields.mk ((utf8Encode s).map cp437Ref) _ _) = _
        have h1 := strict_ascii (utf8Encode s) h
        rw [strict_encode] at h1
        rw [← Option.some.inj h1]; rfl

/-- The length guard is load-bearing: with the bare `as u16` cast (the code before the guard was
added) a 65 536-byte name is stored with length field 0 and reads back as the empty name. -/
theorem unguarded_cast_would_truncate :
    readBackName ⟨UInt16.ofNat 65536, List.replicate 65536 0x61, 0⟩ = .ok ⟨[], [], []⟩ := by
  have h0 : (UInt16.ofNat 65536).toNat = 0 := by decide
  show centralNameFields 0 ((List.replicate 65536 0x61).take (UInt16.ofNat 65536).toNat) [] = _
  rw [h0, List.take_zero, central_name_fields]
  rfl

/-! ### Non-vacuity and concrete behaviour -/

/-- 1-, 2-, 3- and 4-byte characters: `a é € 😀`. -/
example : utf8Encode ['a', 'é', '€', '😀'] =
    [0x61, 0xC3, 0xA9, 0xE2, 0x82, 0xAC, 0xF0, 0x9F, 0x98, 0x80] := by decide +kernel
example : utf8Lossy [0x61, 0xC3, 0xA9, 0xE2, 0x82, 0xAC, 0xF0, 0x9F, 0x98, 0x80] =
    ['a', 'é', '€', '😀'] := by decide +kernel
/-- Boundary scalar values of every length class and around the surrogate gap. -/
example : utf8Lossy (utf8Encode [Char.ofNat 0, Char.ofNat 0x7F, Char.ofNat 0x80, Char.ofNat 0x7FF,
    Char.ofNat 0x800, Char.ofNat 0xD7FF, Char.ofNat 0xE000, Char.ofNat 0xFFFF, Char.ofNat 0x10000,
    Char.ofNat 0x10FFFF]) = [Char.ofNat 0, Char.ofNat 0x7F, Char.ofNat 0x80, Char.ofNat 0x7FF,
    Char.ofNat 0x800, Char.ofNat 0xD7FF, Char.ofNat 0xE000, Char.ofNat 0xFFFF, Char.ofNat 0x10000,
    Char.ofNat 0x10FFFF] := by decide +kernel
/-- Truncated 3-byte sequence followed by ASCII: one U+FFFD for the maximal subpart `E2 82`. -/
example : utf8Lossy [0xE2, 0x82, 0x41] = [replacement, 'A'] := by decide +kernel
/-- Truncated 4-byte sequence at the end of input: one U+FFFD for `F0 9F 98`. -/
example : utf8Lossy [0xF0, 0x9F, 0x98] = [replacement] := by decide +kernel
/-- Overlong `C0 80`, surrogate `ED A0 80`, too large `F4 90 80 80`, `F5`: one U+FFFD per byte. -/
example : utf8Lossy [0xC0, 0x80] = [replacement, replacement] := by decide +kernel
example : utf8Lossy [0xED, 0xA0, 0x80] = [replacement, replacement, replacement] := by decide +kernel
example : utf8Lossy [0xF4, 0x90, 0x80, 0x80] =
    [replacement, replacement, replacement, replacement] := by decide +kernel
example : utf8Lossy [0xE0, 0x80, 0x80] = [replacement, replacement, replacement] := by decide +kernel
example : utf8Lossy [0xF5, 0x41, 0x80] = [replacement, 'A', replacement] := by decide +kernel
/-- The example of Unicode ch. 3.9 (table 3-11): `61 F1 80 80 E1 80 C2 62 80 63 80 BF 64`. -/
example : utf8Lossy [0x61, 0xF1, 0x80, 0x80, 0xE1, 0x80, 0xC2, 0x62, 0x80, 0x63, 0x80, 0xBF, 0x64] =
    ['a', replacement, replacement, replacement, 'b', replacement, 'c', replacement, replacement, 'd'] := by
  decide
example : utf8Strict [0x61, 0xC3] = none := by decide +kernel
example : utf8Strict [0xEF, 0xBF, 0xBD] = some [replacement] := by decide +kernel
/-- CP437 of high bytes (the crate's own doc examples): `Cura\x87ao` and box drawing. -/
example : fromCp437 [0x43, 0x75, 0x72, 0x61, 0x87, 0x61, 0x6F] = .ok ['C', 'u', 'r', 'a', 'ç', 'a', 'o'] := by
  rw [from_cp437_total]; exact congrArg Out.ok (by decide +kernel)
example : [0xCC, 0xCD, 0xCD, 0xB9].map cp437Ref = ['╠', '═', '═', '╣'] := by decide +kernel
/-- The same raw bytes read differently under the two flags; the raw name is the same. -/
example : centralNameFields 0x0800 [0xC3, 0xA9] [0xFF] = .ok ⟨['é'], [0xC3, 0xA9], [replacement]⟩ := by
  rw [central_name_fields]; exact congrArg Out.ok (by decide +kernel)
example : centralNameFields 0x0000 [0xC3, 0xA9] [0xFF] = .ok ⟨['├', '⌐'], [0xC3, 0xA9], [Char.ofNat 0xA0]⟩ := by
  rw [central_name_fields]; exact congrArg Out.ok (by decide +kernel)
/-- Writer: ASCII name → flag clear; non-ASCII name → flag bit 11 set; hypotheses of the round trip hold. -/
example : writerStoreName ['a', '.', 't', 'x', 't'] = .ok ⟨5, [0x61, 0x2E, 0x74, 0x78, 0x74], 0⟩ :=
  congrArg Out.ok (by decide +kernel)
example : writerStoreName ['é', '€'] = .ok ⟨5, [0xC3, 0xA9, 0xE2, 0x82, 0xAC], 0x0800⟩ :=
  congrArg Out.ok (by decide +kernel)
example : writerStoreName ['é'] true = .ok ⟨2, [0xC3, 0xA9], 0x0801⟩ := congrArg Out.ok (by decide +kernel)
/-- Both disjuncts of `writer_name_roundtrip` occur: a name that fits, and one that does not. -/
example : ¬ 65535 < (utf8Encode ['é', '€']).length := by decide +kernel
example : 65535 < (utf8Encode (List.replicate 65536 'a')).length := by
  have he : ∀ n, utf8Encode (List.replicate n 'a') = List.replicate n 0x61 := by
    intro n
    induction n with
    | zero => rfl
    | succ n ih => rw [List.replicate_succ, utf8Encode, ih]; rfl
  rw [he, List.length_replicate]; decide

end ZipVerif.Props.C19
