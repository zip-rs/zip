import ZipVerif.Lemmas.AesEntry
import ZipVerif.Lemmas.AesOver
/-
C16 — WinZip-AES entries decrypt correctly and tampering is detected.
The model is `Model/Aes.lean`, its lemmas `Lemmas/Aes*.lean`; the toy primitives, encryptor and decoder
defined here serve the examples. PBKDF2, the AES block function and HMAC-SHA1 are uninterpreted
(`AesPrims`); the only facts used about them are the output lengths (`AesPrims.WF`).
-/

namespace ZipVerif.Props.C16
open ZipVerif ZipVerif.Model.Aes

/-- A toy instance of the primitives for the non-vacuity examples (NOT cryptography). -/
def toy : AesPrims where
  pbkdf2 pw salt n := (List.range n).map fun i =>
    UInt8.ofNat (7 * i + pw.length) + pw.foldl (· + ·) 0 + 3 * salt.foldl (· + ·) 0
  block key inp := (List.range 16).map fun i =>
    UInt8.ofNat (i * 11 + key.length) ^^^ (inp.headD 0) ^^^ (inp.getD 1 0)
  hmac key msg := (List.range 20).map fun i =>
    UInt8.ofNat (i + key.length) ^^^ msg.foldl (· + ·) 0

/-- successful value of an outcome (for `decide`d examples) -/
def okVal {α} : Out α → Option α
  | .ok a => some a
  | _ => none

theorem toy_wf : toy.WF :=
  ⟨fun _ _ _ => (List.length_map _).trans List.length_range, fun _ _ => (List.length_map _).trans List.length_range,
    fun _ _ => (List.length_map _).trans List.length_range⟩

/-! ## The key stream (`aes_ctr.rs`) -/

/-- **Chunking does not matter**: encrypting/decrypting `a ++ b` in one call equals doing `a`, then
`b` from the state the first call left (so any split of a buffer gives the same bytes). -/
theorem ctr_chunk_independent (P : AesPrims) (hW : P.WF) (key : Bytes) (st : CtrState)
    (hg : st.Good) (a b : Bytes) :
    cryptInPlace P key st (a ++ b) =
      (cryptInPlace P key st a >>= fun r1 =>
       cryptInPlace P key r1.2 b >>= fun r2 => Out.ok (r1.1 ++ r2.1, r2.2)) := by
  rw [cryptInPlace_eq_bytes P key hW hg, cryptInPlace_eq_bytes P key hW hg, cryptBytes_append]
  cases h : cryptBytes P key st a with
  | ok r1 =>
    simp only [Out.bind_ok]
    rw [cryptInPlace_eq_bytes P key hW (cryptBytes_keeps_good P key hW hg (c := r1.1) (st' := r1.2) h)]
  | err e => rfl
  | panic m => rfl

example : CtrState.new.Good := ⟨Nat.le_refl _, rfl⟩

/-- **Decrypt ∘ encrypt = id** from the same start state (and the end states agree). -/
theorem ctr_involutive (P : AesPrims) (hW : P.WF) (key : Bytes) (st st' : CtrState) (hg : st.Good)
    (t c : Bytes) (h : cryptInPlace P key st t = .ok (c, st')) :
    cryptInPlace P key st c = .ok (t, st') := by
  rw [cryptInPlace_eq_bytes P key hW hg] at h ⊢
  obtain ⟨ks, hk, rfl⟩ := (cryptBytes_ok_iff P key st t _ st').mp h
  have hl := ksGen_length P key hk
  rw [cryptBytes_ok_iff]
  refine ⟨ks, ?_, (xorBytes_cancel t ks (by omega)).symm⟩
  rw [xorBytes_length, hl, Nat.min_self]
  exact hk

/-- **Key stream byte `i` is byte `i % 16` of AES_k(le128 (i / 16 + 1))**: the counter is a 128-bit
little-endian integer starting at 1, there is no nonce, and nothing else enters. No panic (the
`u128` counter cannot overflow) for any length below 2^64. -/
theorem ctr_block_boundary (P : AesPrims) (hW : P.WF) (key t : Bytes) (ht : t.length < U64) :
    ∃ out st', cryptInPlace P key CtrState.new t = .ok (out, st') ∧ out.length = t.length ∧
      ∀ i (hi : i < t.length), ∃ k, (P.block key (le128 (i / 16 + 1)))[i % 16]? = some k ∧
        out[i]? = some (t[i] ^^^ k) := by
  have hg : CtrState.new.Good := ⟨Nat.le_refl _, rfl⟩
  have hL : t.length < 16 * (t.length / 16 + 1) := Nat.lt_mul_div_succ _ (by decide)
  obtain ⟨st', h1, _, _⟩ := cryptBytes_closed P key hW CtrState.new t (t.length / 16 + 1) hg
    (Nat.le_trans (Nat.le_of_eq (Nat.add_comm t.length 16)) (Nat.add_le_add_left (Nat.le_of_lt hL) 16))
    (Nat.lt_of_le_of_lt (Nat.add_le_add_left (Nat.succ_le_succ
      (Nat.le_trans (Nat.div_le_self _ _) (Nat.le_of_lt ht))) 1) (by decide : 1 + (U64 + 1) < U128))
  have hd : CtrState.new.buffer.drop CtrState.new.pos = [] := rfl
  have hc1 : CtrState.new.counter = 1 := rfl
  rw [hd, List.nil_append, hc1] at h1
  have hkl := ksBlocks_length P key hW 1 (t.length / 16 + 1)
  refine ⟨_, st', by rw [cryptInPlace_eq_bytes P key hW hg, h1], ?_, ?_⟩
  · rw [xorBytes_length, hkl, Nat.min_eq_left (Nat.le_of_lt hL)]
  · intro i hi
    have hlt : i < 16 * (t.length / 16 + 1) := Nat.lt_trans hi hL
    have hb := ksBlocks_getElem? P key hW 1 (t.length / 16 + 1) i hlt
    have hik : i < (ksBlocks P key 1 (t.length / 16 + 1)).length := by rw [hkl]; exact hlt
    refine ⟨(ksBlocks P key 1 (t.length / 16 + 1))[i], ?_, ?_⟩
    · rw [Nat.add_comm, ← hb, List.getElem?_eq_getElem hik]
    · show (List.zipWith _ _ _)[i]? = _
      rw [List.getElem?_zipWith, List.getElem?_eq_getElem hi, List.getElem?_eq_getElem hik]

/-- Distinct block numbers below 2^128 are distinct AES inputs: no key stream block is reused. -/
theorem ctr_counter_distinct {a b : Nat} (ha : a < U128) (hb : b < U128) (h : le128 a = le128 b) :
    a = b := le128_inj ha hb h

-- non-vacuity: 40 bytes in chunks 1 / 16 / 23 and in one go, with the toy block function
example :
    (cryptInPlace toy [1, 2, 3] CtrState.new ((List.range 40).map UInt8.ofNat)).isOk = true ∧
    okVal (cryptInPlace toy [1, 2, 3] CtrState.new ((List.range 40).map UInt8.ofNat)) =
      okVal (cryptInPlace toy [1, 2, 3] CtrState.new ((List.range 1).map UInt8.ofNat) >>= fun r1 =>
       cryptInPlace toy [1, 2, 3] r1.2 (((List.range 40).map UInt8.ofNat).drop 1 |>.take 16) >>= fun r2 =>
       cryptInPlace toy [1, 2, 3] r2.2 (((List.range 40).map UInt8.ofNat).drop 17) >>= fun r3 =>
       Out.ok (r1.1 ++ r2.1 ++ r3.1, r3.2)) := by decide +kernel

-- the first key stream block is AES_k(01 00 … 00), the second AES_k(02 00 … 00)
example : le128 1 = 1 :: List.replicate 15 0 ∧ le128 2 = 2 :: List.replicate 15 0 ∧
    le128 258 = 2 :: 1 :: List.replicate 14 0 := by decide

/-! ## `AesReader::new`, `validate` -/

/-- **Former D4**: an entry shorter than salt + 2 + 10 bytes is an `InvalidData` I/O error at
`validate` (the checked subtraction in `new` yields `None`), before anything is read. -/
theorem aes_short_entry_error {σ} (P : AesPrims) (S : Src σ) (mode : AesMode) (csize : Nat) (s : σ)
    (pw : Bytes) (h : csize < mode.saltLength + 2 + 10) :
    dataLength mode csize = none ∧
      validate P S mode (dataLength mode csize) s pw = (.err (.io .invalidData), s) := by
  have e : dataLength mode csize = none := dataLength_eq_none.mpr (by omega)
  exact ⟨e, by rw [e]; rfl⟩

theorem dataLength_exact (mode : AesMode) (L : Nat) :
    dataLength mode (mode.saltLength + 2 + L + 10) = some L :=
  dataLength_eq_some.mpr ⟨by omega, by omega⟩

example : dataLength .aes128 19 = none ∧ dataLength .aes128 20 = some 0 ∧ dataLength .aes256 28 = some 0 ∧
    dataLength .aes192 0 = none := by decide

/-- **Wrong verifier ⇒ `Ok(None)`** (reported as `InvalidPassword` by `make_crypto_reader`). -/
theorem aes_wrong_verifier {σ} (P : AesPrims) (S : Src σ) (mode : AesMode) (L : Nat) (s s1 s2 : σ)
    (pw salt pvv : Bytes) (h1 : readExact S s mode.saltLength = (.ok salt, s1))
    (h2 : readExact S s1 PWD_VERIFY_LENGTH = (.ok pvv, s2))
    (hne : pvv ≠ (P.pbkdf2 pw salt (2 * mode.keyLength + 2)).drop (2 * mode.keyLength)) :
    validate P S mode (some L) s pw = (.ok none, s2) :=
  validate_rejects P S mode L pw h1 h2 hne

/-! ## `AesReaderValid::read` -/

/-- **End-of-file implies the authentication code was checked — for every declared length, 0
included** (after the repair of K-I).  Any sequence of successful `read` calls (any buffer sizes, any
inner reader — no assumption that it delivers the declared amount, none that it respects the `Read`
contract) that is followed by an `Ok(0)` for a non-empty buffer has, in the state that call leaves:
pulled exactly `L` ciphertext bytes from the inner reader, compared `HMAC(hmac_key, those bytes)[0..10]`
with the ten bytes read after them and found them equal, and returned exactly the CTR decryption of
those bytes.  For `L = 0` the comparison is made by the end-of-file call itself. -/
theorem aes_eof_implies_mac {σ} (P : AesPrims) (hW : P.WF) (S : Src σ) (mode : AesMode) (L : Nat)
    (s s' : σ) (pw : Bytes) (v0 : Valid σ)
    (hv : validate P S mode (some L) s pw = (.ok (some v0), s')) (hL : L < U64)
    (bufs : List Nat) (out : Bytes) (v1 : Valid σ) (hrun : drain P S bufs v0 [] = (.ok out, v1))
    (n : Nat) (hn : 0 < n) (v2 : Valid σ) (heof : Valid.read P S v1 n = (.ok [], v2)) :
    v2.dataRemaining = 0 ∧ v2.ghostCt.length = L ∧
    v2.ghostMac = some ((P.hmac v0.hmacKey v2.ghostCt).take AUTH_CODE_LENGTH,
                        (P.hmac v0.hmacKey v2.ghostCt).take AUTH_CODE_LENGTH) ∧
    cryptInPlace P v0.key CtrState.new v2.ghostCt = .ok (out, v2.ctr) := by
  obtain ⟨L', salt, pvv, s1, hdl, _, _, _, rfl⟩ := validate_ok P S mode _ s s' pw v0 hv
  cases hdl
  have hR := drain_runInv P hW S hL bufs _ v1 [] out (RunInv.init P s' _ _ _) hrun
  have hR2 := hR.step P hW S hL n heof
  rw [List.append_nil] at hR2
  obtain ⟨hrem, hlen, hmac⟩ := hR2.mac_of_fin (read_eof P hW S hL hR.inv hn heof).2
  refine ⟨hrem, hlen, hmac, ?_⟩
  rw [cryptInPlace_eq_bytes P _ hW ⟨Nat.le_refl _, rfl⟩]
  exact hR2.crypt

/-- **An entry without ciphertext** (`data_length = 0`; after the repair of K-I): a `read` that
succeeds has read the ten bytes behind the verifier and found them equal to
`HMAC(hmac_key, "")[0..10]`.  So a declared-empty AE-x entry must carry a valid code over the empty
ciphertext — declaring a non-empty entry empty, or destroying the code of an empty one, is a read
error. -/
theorem aes_empty_entry_mac_checked {σ} (P : AesPrims) (hW : P.WF) (S : Src σ) (mode : AesMode) (s s' : σ)
    (pw : Bytes) (v0 : Valid σ) (hv : validate P S mode (some 0) s pw = (.ok (some v0), s'))
    (n : Nat) (out : Bytes) (v1 : Valid σ) (hr : Valid.read P S v0 n = (.ok out, v1)) :
    out = [] ∧ ∃ code, readExact S s' AUTH_CODE_LENGTH = (.ok code, v1.inner) ∧
      (P.hmac v0.hmacKey []).take AUTH_CODE_LENGTH = code ∧ v1.ghostMac = some (code, code) := by
  obtain ⟨L', salt, pvv, s1, hdl, _, _, _, rfl⟩ := validate_ok P S mode _ s s' pw v0 hv
  cases hdl
  have hc := read_cases P hW S (show 0 < U64 by decide) _ (initValid_inv P s' 0
    ((P.pbkdf2 pw salt (2 * mode.keyLength + 2)).take mode.keyLength)
    (((P.pbkdf2 pw salt (2 * mode.keyLength + 2)).drop mode.keyLength).take mode.keyLength)) n
  rw [hr] at hc
  cases hc with
  | done _ hf => cases hf
  | empty _ _ hfc =>
    cases hfc with
    | ok code s hre heq => exact ⟨rfl, code, hre, heq, by show some _ = some _; rw [heq]⟩
  | mid _ _ _ _ _ hlt => exact absurd hlt (Nat.not_lt_zero _)
  | last _ _ _ _ _ hp hbr => exact absurd hp (by rw [hbr]; exact Nat.lt_irrefl 0)

/-- **The code is checked at most once**: under `Inv`, `finalized` implies `data_remaining = 0`, and then
`read` returns `Ok(0)` at its first line and leaves the state as it is (that `assert!(!finalized)` does not
fire is part of `aes_remaining_inv`). -/
theorem mac_checked_once {σ} (P : AesPrims) (S : Src σ) (L : Nat) (v : Valid σ) (hI : Inv P L v)
    (hf : v.finalized = true) (n : Nat) : Valid.read P S v n = (.ok [], v) :=
  read_done P S v n (hI.fin hf) hf

/-- One `read` call, successful or not, keeps `Inv` (which holds after `validate`: `initValid_inv`). -/
theorem aes_reachable_inv {σ} (P : AesPrims) (hW : P.WF) (S : Src σ) (L : Nat) (hL : L < U64)
    (v : Valid σ) (hI : Inv P L v) (n : Nat) : Inv P L (Valid.read P S v n).2 :=
  (read_cases P hW S hL v hI n).inv hI

/-- **No arithmetic or assertion panic** in a `read` from a state satisfying `Inv`: when the inner reader
keeps the `Read` contract (at most the requested number of bytes), `data_remaining -= read` cannot
underflow, `buf[0..read]` is in range, the `u128` counter cannot overflow and `assert!(!finalized)` cannot
fire. -/
theorem aes_remaining_inv {σ} (P : AesPrims) (hW : P.WF) (S : Src σ) (hC : S.Contract) (L : Nat)
    (hL : L < U64) (v : Valid σ) (hI : Inv P L v) (n : Nat) (m : String) :
    (Valid.read P S v n).1 ≠ .panic m :=
  read_no_panic P hW S hC hL v hI n m

/-- **Former D9**: the inner reader ends before the declared amount was delivered ⇒ `UnexpectedEof`
(not a clean end-of-file). -/
theorem aes_early_eof_error {σ} (P : AesPrims) (hW : P.WF) (S : Src σ) (L : Nat) (hL : L < U64)
    (v : Valid σ) (hI : Inv P L v) (n : Nat) (hn : 0 < n) (hr : 0 < v.dataRemaining) (s' : σ)
    (hrd : S.rd v.inner (min v.dataRemaining n) = (.ok [], s')) :
    (Valid.read P S v n).1 = .err (.io .unexpectedEof) := by
  rw [read_at_eof P S v n s' (by omega) (by omega) hrd]

/-- **Right password**: for an entry `salt ‖ verifier ‖ ct ‖ HMAC(ct)[0..10]` (followed by anything),
under every caller buffer schedule `bufs` and every short-read schedule `sched` of the source: no
call fails, the bytes returned so far are the CTR decryption of the ciphertext consumed so far, and
once the schedule contains `ct.length` non-empty buffers the output is the whole decryption and
every further call is `Ok(0)`. Holds for every length including 0. -/
theorem aes_right_password (P : AesPrims) (hW : P.WF) (mode : AesMode) (pw salt ct rest dk : Bytes)
    (sched bufs : List Nat) (hs : salt.length = mode.saltLength) (hL : ct.length < U64)
    (hdk : dk = P.pbkdf2 pw salt (2 * mode.keyLength + 2)) :
    ∃ v0 s', validate P listSrc mode (some ct.length)
        ⟨salt ++ dk.drop (2 * mode.keyLength) ++
          (ct ++ ((P.hmac ((dk.drop mode.keyLength).take mode.keyLength) ct).take AUTH_CODE_LENGTH ++ rest)), sched⟩ pw
        = (.ok (some v0), s') ∧ v0.key = dk.take mode.keyLength ∧
      ∃ out v1, drain P listSrc bufs v0 [] = (.ok out, v1) ∧
        cryptBytes P (dk.take mode.keyLength) CtrState.new (ct.take (ct.length - v1.dataRemaining)) = .ok (out, v1.ctr) ∧
        (ct.length ≤ posCount bufs →
          cryptInPlace P (dk.take mode.keyLength) CtrState.new ct = .ok (out, v1.ctr) ∧
          ∀ n, (Valid.read P listSrc v1 n).1 = .ok []) := by
  subst hdk
  have hpl : ((P.pbkdf2 pw salt (2 * mode.keyLength + 2)).drop (2 * mode.keyLength)).length = PWD_VERIFY_LENGTH := by
    rw [List.length_drop, hW.pbkdf2_len]; exact Nat.add_sub_cancel_left _ 2
  obtain ⟨sc1, sc2, e1, e2⟩ := validate_list_reads mode.saltLength salt _
    (ct ++ ((P.hmac (((P.pbkdf2 pw salt (2 * mode.keyLength + 2)).drop mode.keyLength).take mode.keyLength) ct).take AUTH_CODE_LENGTH ++ rest))
    sched hs hpl
  have hv := validate_accepts P listSrc mode ct.length pw e1 e2 hW rfl
  refine ⟨_, _, hv, rfl, ?_⟩
  have hi : Intact P (ct ++ ((P.hmac (((P.pbkdf2 pw salt (2 * mode.keyLength + 2)).drop mode.keyLength).take
      mode.keyLength) ct).take AUTH_CODE_LENGTH ++ rest)) ct.length _ :=
    (intact_entry (by rw [List.length_take, hW.hmac_len]; rfl)).mpr rfl
  obtain ⟨out, v1, hd, hI1, hle⟩ := drain_over P hW listSrc hL hi bufs _ []
    (Over.init P listSrc (Model.listSrc_denotes ⟨_, sc2⟩) ct.length _ _)
  refine ⟨out, v1, hd, ?_, ?_⟩
  · have := hI1.run.crypt
    rw [hI1.ghost, List.take_append_of_le_length (Nat.sub_le _ _)] at this
    exact this
  · intro hpc
    have hz : v1.dataRemaining = 0 :=
      Nat.eq_zero_of_le_zero (Nat.le_trans hle (Nat.le_of_eq (Nat.sub_eq_zero_of_le hpc)))
    refine ⟨?_, fun n => ?_⟩
    rotate_left
    · obtain ⟨o, v', hr, _⟩ := hI1.step P hW listSrc hL hi n
      obtain ⟨_, hrem, _, _⟩ := read_ok P hW listSrc hL hI1.run.inv hr
      have : o = [] := List.eq_nil_of_length_eq_zero (Nat.eq_zero_of_add_eq_zero_left (hrem.trans hz))
      rw [hr, this]
    rw [cryptInPlace_eq_bytes P _ hW ⟨Nat.le_refl _, rfl⟩]
    have := hI1.run.crypt
    rw [hI1.ghost, hz, Nat.sub_zero, List.take_left] at this
    exact this

/-- **Tampering is detected no later than end-of-file** (AES layer): if an entry
`salt ‖ verifier ‖ ct ‖ code` (`ct` of any length, empty included) is opened with `pw` and read to a successful
end-of-file under any schedules, then `code = HMAC(k_mac(pw, salt), ct)[0..10]`. Contrapositive: after
any change to salt, ciphertext or code that breaks this equation (which is what HMAC is for) every
run fails — at `validate` (wrong verifier), or with an error from `read` — before or at end-of-file. -/
theorem aes_tamper_detected (P : AesPrims) (hW : P.WF) (mode : AesMode) (pw salt pvv ct code rest : Bytes)
    (sched bufs : List Nat) (hs : salt.length = mode.saltLength) (hp : pvv.length = PWD_VERIFY_LENGTH)
    (hc : code.length = AUTH_CODE_LENGTH) (hL : ct.length < U64)
    (v0 : Valid ListSrc) (s' : ListSrc)
    (hv : validate P listSrc mode (some ct.length) ⟨salt ++ pvv ++ (ct ++ (code ++ rest)), sched⟩ pw
      = (.ok (some v0), s'))
    (out : Bytes) (v1 : Valid ListSrc) (hrun : drain P listSrc bufs v0 [] = (.ok out, v1))
    (n : Nat) (hn : 0 < n) (v2 : Valid ListSrc) (heof : Valid.read P listSrc v1 n = (.ok [], v2)) :
    (P.hmac (((P.pbkdf2 pw salt (2 * mode.keyLength + 2)).drop mode.keyLength).take mode.keyLength) ct).take
        AUTH_CODE_LENGTH = code ∧
      pvv = (P.pbkdf2 pw salt (2 * mode.keyLength + 2)).drop (2 * mode.keyLength) ∧
      cryptInPlace P ((P.pbkdf2 pw salt (2 * mode.keyLength + 2)).take mode.keyLength) CtrState.new ct
        = .ok (out, v2.ctr) := by
  obtain ⟨hrem2, hlen, hmac, hcr⟩ := aes_eof_implies_mac P hW listSrc mode ct.length _ s' pw v0 hv hL
    bufs out v1 hrun n hn v2 heof
  obtain ⟨hpv, sc2, rfl⟩ := validate_list_inv P mode _ pw salt pvv (ct ++ (code ++ rest)) sched hs hp hv
  have hI1 := drain_preserves P listSrc (Over P listSrc _ .eof ct.length _ _)
    (fun _ _ n _ _ hI h => hI.step_ok P hW listSrc hL n h) bufs _ v1 [] out
    (Over.init P listSrc (Model.listSrc_denotes ⟨ct ++ (code ++ rest), sc2⟩) _ _ _) hrun
  have hI2 := hI1.step_ok P hW listSrc hL n heof
  rw [hI2.ghost, hrem2, Nat.sub_zero, List.take_left] at hcr
  exact ⟨(intact_entry hc).mp (hI1.intact_of_eof P hW listSrc hL hn heof), hpv, hcr⟩

/-! ## `ZipFile::read`: any decoder on top of the AES reader (after the fix of D12) -/

/-- **End-of-file of the entry implies the authentication code was checked — for ANY decoder.**
The decoder is an arbitrary strategy (`DecStep`: any number of pulls of any sizes from the AES reader,
any returned bytes, an end-of-file as early as it likes, spurious errors, no `Read` contract towards
its caller); the only assumption is `Decoder.Faithful`: an error of the reader below ends the
decoder's call with an error. Nothing is assumed about the inner byte source or the CRC parameters.
If a sequence of successful `ZipFile::read` calls is followed by `Ok(0)` for a non-empty buffer (on an
entry of any declared length, 0 included), the AES reader is at its end: exactly `L` ciphertext bytes were consumed and
`HMAC(hmac_key, those bytes)[0..10]` was compared with the stored code and found equal. -/
theorem entry_eof_implies_mac {σ δ H} (P : AesPrims) (hW : P.WF) (S : Src σ) (D : Decoder δ)
    (hD : D.Faithful) (upd : H → Bytes → H) (fin : H → UInt32) (mode : AesMode) (L : Nat) (s s' : σ)
    (pw : Bytes) (v0 : Valid σ) (hv : validate P S mode (some L) s pw = (.ok (some v0), s'))
    (hL : L < U64) (d0 : δ) (c0 : CrcSt H) (bufs : List Nat) (out : Bytes)
    (st1 st2 : EntrySt σ δ H)
    (hrun : entryDrain P S D true upd fin bufs ⟨d0, v0, c0⟩ [] = (.ok out, st1))
    (n : Nat) (hn : 0 < n) (heof : entryRead P S D true upd fin st1 n = (.ok [], st2)) :
    st2.aes.dataRemaining = 0 ∧ st2.aes.ghostCt.length = L ∧
    st2.aes.ghostMac = some ((P.hmac v0.hmacKey st2.aes.ghostCt).take AUTH_CODE_LENGTH,
                             (P.hmac v0.hmacKey st2.aes.ghostCt).take AUTH_CODE_LENGTH) :=
  entry_eof_mac P hW S D hD true (fun h => nomatch h) upd fin mode L s s' pw v0 hv hL d0 c0 bufs out st1 st2
    hrun n hn heof

/-- End-of-file of a `Stored` AES entry implies the authentication code was checked (the statement of
`entry_eof_implies_mac` with no decoder; `finish_crypto` does nothing): the entry's `Ok(0)` *is* the AES
reader's. -/
theorem entry_eof_implies_mac_stored {σ H} (P : AesPrims) (hW : P.WF) (S : Src σ)
    (upd : H → Bytes → H) (fin : H → UInt32) (mode : AesMode) (L : Nat) (s s' : σ)
    (pw : Bytes) (v0 : Valid σ) (hv : validate P S mode (some L) s pw = (.ok (some v0), s'))
    (hL : L < U64) (c0 : CrcSt H) (bufs : List Nat) (out : Bytes)
    (st1 st2 : EntrySt σ Unit H)
    (hrun : entryDrain P S storedDec false upd fin bufs ⟨(), v0, c0⟩ [] = (.ok out, st1))
    (n : Nat) (hn : 0 < n) (heof : entryRead P S storedDec false upd fin st1 n = (.ok [], st2)) :
    st2.aes.dataRemaining = 0 ∧ st2.aes.ghostCt.length = L ∧
    st2.aes.ghostMac = some ((P.hmac v0.hmacKey st2.aes.ghostCt).take AUTH_CODE_LENGTH,
                             (P.hmac v0.hmacKey st2.aes.ghostCt).take AUTH_CODE_LENGTH) :=
  entry_eof_mac P hW S storedDec storedDec_faithful false (fun _ => storedDec_storedLike) upd fin mode L s s' pw
    v0 hv hL () c0 bufs out st1 st2 hrun n hn heof

/-- **Tampering is detected no later than end-of-file, at the level of `ZipFile::read`, for every
inner method.** Entry `salt ‖ verifier ‖ ct ‖ code` with `ct` of any length (empty included, after the
repair of K-I); inner method either compressing with an arbitrary `Faithful` decoder, or `Stored` (`StoredLike` pass-through); any CRC parameters (AE-1 or AE-2), any
schedules. If a sequence of successful reads ends with `Ok(0)` for a non-empty buffer then
`code = HMAC(k_mac(pw, salt), ct)[0..10]` and the verifier is the derived one. So after any change of
salt, verifier, ciphertext or code that breaks these equations no run reaches a successful
end-of-file — whatever the decoder makes of the altered bytes. -/
theorem aes_tamper_detected_entry {δ H} (P : AesPrims) (hW : P.WF) (mode : AesMode)
    (pw salt pvv ct code rest : Bytes) (sched bufs : List Nat) (compressing : Bool) (D : Decoder δ)
    (hD : D.Faithful) (hS : compressing = false → D.StoredLike) (upd : H → Bytes → H) (fin : H → UInt32)
    (hs : salt.length = mode.saltLength) (hp : pvv.length = PWD_VERIFY_LENGTH)
    (hc : code.length = AUTH_CODE_LENGTH) (hL : ct.length < U64)
    (v0 : Valid ListSrc) (s' : ListSrc)
    (hv : validate P listSrc mode (some ct.length) ⟨salt ++ pvv ++ (ct ++ (code ++ rest)), sched⟩ pw
      = (.ok (some v0), s'))
    (d0 : δ) (c0 : CrcSt H) (out : Bytes) (st1 st2 : EntrySt ListSrc δ H)
    (hrun : entryDrain P listSrc D compressing upd fin bufs ⟨d0, v0, c0⟩ [] = (.ok out, st1))
    (n : Nat) (hn : 0 < n) (heof : entryRead P listSrc D compressing upd fin st1 n = (.ok [], st2)) :
    (P.hmac (((P.pbkdf2 pw salt (2 * mode.keyLength + 2)).drop mode.keyLength).take mode.keyLength) ct).take
        AUTH_CODE_LENGTH = code ∧
      pvv = (P.pbkdf2 pw salt (2 * mode.keyLength + 2)).drop (2 * mode.keyLength) := by
  obtain ⟨hpv, sc2, rfl⟩ := validate_list_inv P mode _ pw salt pvv (ct ++ (code ++ rest)) sched hs hp hv
  have hQ := over_stable P hW listSrc hL (B := ct ++ (code ++ rest))
    (key := (P.pbkdf2 pw salt (2 * mode.keyLength + 2)).take mode.keyLength)
    (hk := ((P.pbkdf2 pw salt (2 * mode.keyLength + 2)).drop mode.keyLength).take mode.keyLength)
  have h1 := entryDrain_ok P hW listSrc hL hQ D hD compressing upd fin bufs _ st1 [] out
    ⟨[], Over.init P listSrc (Model.listSrc_denotes ⟨ct ++ (code ++ rest), sc2⟩) _ _ _⟩ hrun
  obtain ⟨acc, hI⟩ := (entryRead_ok P hW listSrc hL hQ D hD compressing upd fin st1 st2 n [] h1 heof).1
  exact ⟨(intact_entry hc).mp
    (hI.intact_of_fin (entryRead_eof P hW listSrc hL hQ D hD compressing hS upd fin st1 st2 n hn h1 heof).2), hpv⟩

/-! ## Open-time decisions (`read.rs`) -/

/-- **No password ⇒ the password-required error**, for every entry with the encryption flag. -/
theorem aes_no_password {σ} (P : AesPrims) (S : Src σ) (e : Entry) (s : σ) (he : e.encrypted = true) :
    byIndex P S e s = .err .passwordRequired := by
  unfold byIndex byIndexOpt; rw [he]

/-- **Former D2**: an entry with an AES extra field but a clear encryption flag makes `by_index`
return an error (password-required, or unsupported for method 99 / unknown inner methods) — it used
to unwrap `Ok(Err(InvalidPassword))`; `by_index_decrypt` discards the password and answers
`InvalidPassword`. Neither panics, neither touches the data. -/
theorem aes_flag_clear_no_panic {σ} (P : AesPrims) (S : Src σ) (e : Entry) (s : σ)
    (ha : e.aesMode.isSome = true) (he : e.encrypted = false) :
    (byIndex P S e s = .err .passwordRequired ∨ byIndex P S e s = .err .unsupportedArchive) ∧
    ∀ pw, (∃ r, byIndexDecrypt P S e pw s = .ok r ∧ r matches .invalidPassword) ∨
      byIndexDecrypt P S e pw s = .err .unsupportedArchive := by
  obtain ⟨enc, m, am, cs, crc⟩ := e
  simp only at ha he
  subst he
  cases am with
  | none => cases ha
  | some a =>
    -- every method computes: supported ones end in `invalidPassword`, `aes`/`unsupported` in `unsupportedArchive`
    cases m <;> first
      | exact ⟨.inl rfl, fun _ => .inl ⟨_, rfl, rfl⟩⟩
      | exact ⟨.inr rfl, fun _ => .inr rfl⟩

/-- With the flag set and a password, an AES entry goes to `AesReader::new(..).validate(pw)`:
wrong verifier ⇒ `InvalidPassword`, I/O errors (former D4: too short ⇒ `InvalidData`) are passed on,
and a successful open yields the AES reader tagged with the vendor version of the extra field. -/
theorem aes_open_decrypt {σ} (P : AesPrims) (S : Src σ) (e : Entry) (s : σ) (pw : Bytes)
    (mode : AesMode) (ver : VendorVersion) (ha : e.aesMode = some (mode, ver)) (he : e.encrypted = true)
    (hm : e.method = .stored ∨ e.method = .deflated ∨ e.method = .bzip2 ∨ e.method = .zstd) :
    byIndexDecrypt P S e pw s =
      match (validate P S mode (dataLength mode e.compressedSize) s pw).1 with
      | .err er => .err er
      | .panic m => .panic m
      | .ok none => .ok .invalidPassword
      | .ok (some r) => .ok (.reader (.aes r ver)) := by
  obtain ⟨enc, m, am, cs, crc⟩ := e
  simp only at ha he hm
  subst ha he
  simp only [byIndexDecrypt, byIndexOpt, makeCryptoReader]
  rcases validate P S mode (dataLength mode cs) s pw with ⟨(_ | w) | e | m', s'⟩ <;>
    rcases hm with rfl | rfl | rfl | rfl <;> rfl

/-- **Former D3**: method 99 (no inner method) or an unknown method never reaches a decoder: it is
`UnsupportedArchive` at open. -/
theorem aes_method99_rejected {σ} (P : AesPrims) (S : Src σ) (e : Entry) (s : σ) (pw : Option Bytes)
    (hm : e.method = .aes ∨ ∃ v, e.method = .unsupported v) :
    makeCryptoReader P S e pw s = .err .unsupportedArchive := by
  obtain ⟨enc, m, am, cs, crc⟩ := e
  simp only at hm
  rcases hm with rfl | ⟨v, rfl⟩ <;> rfl

/-- Former D3, the other side: after a successful open `make_reader`'s `panic!` arm is unreachable. -/
theorem make_reader_no_panic {σ} (P : AesPrims) (S : Src σ) (e : Entry) (s : σ) (pw : Option Bytes)
    (r : CryptoReader σ) (h : makeCryptoReader P S e pw s = .ok (.reader r)) :
    makeReaderFlag e.method r = .ok r.isAe2Encrypted := by
  obtain ⟨enc, m, am, cs, crc⟩ := e
  cases m <;> first | rfl | (simp [makeCryptoReader] at h)

/-! ## CRC: enforced for AE-1, ignored for AE-2 -/

/-- The flag handed to `Crc32Reader::new` is exactly "vendor version of the AES extra field = AE-2". -/
theorem crc_flag_is_vendor_version {σ} (P : AesPrims) (S : Src σ) (e : Entry) (s : σ) (pw : Bytes)
    (mode : AesMode) (ver : VendorVersion) (ha : e.aesMode = some (mode, ver))
    (r : CryptoReader σ) (h : makeCryptoReader P S e (some pw) s = .ok (.reader r)) :
    makeReaderFlag e.method r = .ok (decide (ver = .ae2)) := by
  rw [make_reader_no_panic P S e s (some pw) r h]
  obtain ⟨enc, m, am, cs, crc⟩ := e
  simp only at ha
  subst ha
  have : ∃ v, r = .aes v ver := by
    cases m <;> simp only [makeCryptoReader] at h <;>
    first
      | (cases h)
      | (cases hv : validate P S mode (dataLength mode cs) s pw with
         | mk o s' =>
           rw [hv] at h
           cases o with
           | ok x => cases x with
             | none => simp at h
             | some w => simp only [Out.ok.injEq, Opened.reader.injEq] at h; exact ⟨w, h.symm⟩
           | err _ => simp at h
           | panic _ => simp at h)
  obtain ⟨v, rfl⟩ := this
  cases ver <;> rfl

/-- **AE-2: the CRC is ignored** — with the flag set `Crc32Reader::read` never produces its own
error; its result is the inner reader's, whatever the stored CRC says. -/
theorem ae2_crc_ignored {H ι} (upd : H → Bytes → H) (fin : H → UInt32)
    (rd : ι → Nat → Out Bytes × ι) (h : H) (check : UInt32) (i : ι) (n : Nat) (hn : n ≠ 0) :
    (crcRead upd fin rd ⟨h, check, true⟩ i n).1 = (rd i n).1 := by
  unfold crcRead
  rw [if_neg hn]
  cases rd i n with
  | mk o i' => cases o <;> simp

/-- A zero-length read is `Ok(0)` and reaches neither the decoder nor the CRC comparison. -/
theorem crc_empty_buffer {H ι} (upd : H → Bytes → H) (fin : H → UInt32)
    (rd : ι → Nat → Out Bytes × ι) (c : CrcSt H) (i : ι) : crcRead upd fin rd c i 0 = (.ok [], c, i) := by
  unfold crcRead; rw [if_pos rfl]

/-- **AE-1: the CRC is enforced** — at the inner reader's end-of-file a mismatch between the CRC of
everything delivered and the stored CRC is the "Invalid checksum" error, a match passes `Ok(0)` on. -/
theorem ae1_crc_enforced {H ι} (upd : H → Bytes → H) (fin : H → UInt32)
    (rd : ι → Nat → Out Bytes × ι) (h : H) (check : UInt32) (i i' : ι) (n : Nat) (hn : n ≠ 0)
    (heof : rd i n = (.ok [], i')) :
    (fin h ≠ check → (crcRead upd fin rd ⟨h, check, false⟩ i n).1 = .err (.io .other)) ∧
    (fin h = check → (crcRead upd fin rd ⟨h, check, false⟩ i n).1 = .ok []) := by
  unfold crcRead
  rw [if_neg hn, heof]
  constructor <;> intro hc <;> simp [hc]

/-! ## The 0x9901 extra field -/

/-- **Exactly which AES records are accepted** (with some result; what is stored then: `aes_extra_fields`):
data size 7, vendor id "AE" (0x4541), vendor version
1 or 2, strength 1, 2 or 3. -/
theorem aes_extra_parse_spec (len : UInt16) (rest : Bytes) (st : ExtraSt) :
    (∃ k st', aesRec len rest st = (.ok k, st')) ↔
      (len = 7 ∧ ∃ v0 v1 i0 i1 m c0 c1 tail, rest = v0 :: v1 :: i0 :: i1 :: m :: c0 :: c1 :: tail ∧
        mk16 i0 i1 = 0x4541 ∧ (mk16 v0 v1 = 1 ∨ mk16 v0 v1 = 2) ∧ (m = 1 ∨ m = 2 ∨ m = 3)) := by
  unfold aesRec
  constructor
  · rintro ⟨k, st', h⟩
    by_cases hl : len = 7
    rotate_left
    · rw [if_pos hl] at h; cases h
    rw [if_neg (not_not_intro hl)] at h
    rcases rest with _ | ⟨v0, _ | ⟨v1, _ | ⟨i0, _ | ⟨i1, _ | ⟨m, _ | ⟨c0, _ | ⟨c1, tail⟩⟩⟩⟩⟩⟩⟩ <;> try cases h
    dsimp only at h
    by_cases hv : mk16 i0 i1 = 0x4541
    rotate_left
    · rw [if_pos hv] at h; cases h
    rw [if_neg (not_not_intro hv)] at h
    by_cases hver : mk16 v0 v1 ≠ 1 ∧ mk16 v0 v1 ≠ 2
    · rw [if_pos hver] at h; cases h
    rw [if_neg hver] at h
    refine ⟨hl, _, _, _, _, _, _, _, _, rfl, hv, Decidable.or_iff_not_not_and_not.mpr hver, ?_⟩
    by_cases h1 : m = 1
    · exact .inl h1
    by_cases h2 : m = 2
    · exact .inr (.inl h2)
    by_cases h3 : m = 3
    · exact .inr (.inr h3)
    rw [if_neg h1, if_neg h2, if_neg h3] at h; cases h
  · rintro ⟨rfl, v0, v1, i0, i1, m, c0, c1, tail, rfl, hv, hver, hm⟩
    rw [if_neg (not_not_intro rfl)]
    dsimp only
    rw [if_neg (not_not_intro hv), if_neg (fun h => hver.elim h.1 h.2)]
    rcases hm with rfl | rfl | rfl <;> exact ⟨_, _, rfl⟩

/-- What an accepted record stores: the entry's method becomes the record's method field, mode and version
are kept, and the cursor moves exactly the 7 bytes of the record (K-C repaired: `len_left` is decremented in
this arm too; before, 7 further bytes were skipped). -/
theorem aes_extra_fields (v0 v1 m c0 c1 : UInt8) (tail : Bytes) (st : ExtraSt)
    (hver : mk16 v0 v1 = 1 ∨ mk16 v0 v1 = 2) (hm : m = 1 ∨ m = 2 ∨ m = 3) :
    aesRec 7 (v0 :: v1 :: 0x41 :: 0x45 :: m :: c0 :: c1 :: tail) st =
      (.ok 7, { st with
        aesMode := some (if m = 1 then .aes128 else if m = 2 then .aes192 else .aes256,
                         if mk16 v0 v1 = 1 then .ae1 else .ae2),
        method := Method.fromU16 (mk16 c0 c1) }) := by
  unfold aesRec
  rw [if_neg (by decide)]
  simp only
  rw [if_neg (by decide), if_neg (by rcases hver with h | h <;> simp [h])]
  rcases hm with rfl | rfl | rfl <;> simp

/-- Records of other kinds are passed over by their declared length. -/
theorem extra_other_record_skipped (k0 k1 l0 l1 : UInt8) (rest : Bytes) (st : ExtraSt)
    (h1 : mk16 k0 k1 ≠ 0x0001) (h2 : mk16 k0 k1 ≠ 0x9901) :
    parseExtraLoop 0 (k0 :: k1 :: l0 :: l1 :: rest) st = parseExtraLoop (mk16 l0 l1).toNat rest st := by
  rw [parseExtraLoop]
  rw [if_neg h1, if_neg h2]

theorem extra_skip (a b : Bytes) (st : ExtraSt) : parseExtraLoop a.length (a ++ b) st = parseExtraLoop 0 b st := by
  induction a with
  | nil =>
    cases b with
    | nil => rfl
    | cons x t => rfl
  | cons x a ih => simpa [parseExtraLoop] using ih

/-! ## Non-vacuity and edge cases on concrete entries (toy primitives, evaluated by the kernel) -/

def errOf {α} : Out α → Option ZErr
  | .err e => some e
  | _ => none

/-- The independent encryptor, in Lean, over the toy primitives: salt ‖ verifier ‖ ct ‖ code. -/
def toyEntry (mode : AesMode) (pw salt plain : Bytes) : Bytes :=
  let k := mode.keyLength
  let dk := toy.pbkdf2 pw salt (2 * k + 2)
  match cryptInPlace toy (dk.take k) CtrState.new plain with
  | .ok (ct, _) => salt ++ dk.drop (2 * k) ++ (ct ++ (toy.hmac ((dk.drop k).take k) ct).take 10)
  | _ => []

def toyPlain (n : Nat) : Bytes := (List.range n).map fun i => UInt8.ofNat (i * 37 + 5)

/-- open with `pw`, then read with the buffer schedule; `none` = could not open -/
def toyRun (mode : AesMode) (payload : Bytes) (csize : Nat) (pw : Bytes) (sched bufs : List Nat) :
    Option (Out Bytes × Option (Bytes × Bytes) × Nat) :=
  match (validate toy listSrc mode (dataLength mode csize) ⟨payload, sched⟩ pw).1 with
  | .ok (some v) =>
    let r := drain toy listSrc bufs v []
    some (r.1, r.2.ghostMac, r.2.dataRemaining)
  | _ => none

def flipBit (bs : Bytes) (i : Nat) : Bytes := bs.set (i / 8) ((bs.getD (i / 8) 0) ^^^ (1 <<< UInt8.ofNat (i % 8)))

-- right password, lengths 0, 1, 15, 16, 17, 33, byte-wise / odd / large buffers and short reads
example : ∀ n ∈ [0, 1, 15, 16, 17, 33],
    ((toyRun .aes128 (toyEntry .aes128 [1, 2] (toyPlain 8) (toyPlain n)) (8 + 2 + n + 10) [1, 2]
        [0, 2, 0, 1] ([3, 0, 1, 16, 5] ++ List.replicate 30 1)).map fun r => (okVal r.1, r.2.2))
      = some (some (toyPlain n), 0) := by decide +kernel

example : ((toyRun .aes256 (toyEntry .aes256 [9] (toyPlain 16) (toyPlain 40)) (16 + 2 + 40 + 10) [9]
        [] [64, 64]).map fun r => (okVal r.1, r.2.2)) = some (some (toyPlain 40), 0) := by decide +kernel

-- wrong password: rejected at `validate`
example : (validate toy listSrc .aes128 (dataLength .aes128 38)
      ⟨toyEntry .aes128 [1, 2] (toyPlain 8) (toyPlain 18), []⟩ [1, 2, 3]).1 matches .ok none := by
  decide +kernel

-- every single-bit flip of salt / verifier / ciphertext / code of a 3-byte entry (23 bytes, 184 bits):
-- never a successful complete read
example : ∀ i ∈ List.range 184,
    (match toyRun .aes128 (flipBit (toyEntry .aes128 [1, 2] (toyPlain 8) (toyPlain 3)) i) 23 [1, 2] [] [2, 2, 2] with
     | none => true
     | some r => (errOf r.1).isSome) = true := by decide +kernel

-- a flipped ciphertext bit: the first chunks are returned, the last call is the `InvalidData` error
example : (toyRun .aes128 (flipBit (toyEntry .aes128 [1, 2] (toyPlain 8) (toyPlain 3)) 81) 23 [1, 2] [] [2, 2, 2]).map
    (fun r => errOf r.1) = some (some (.io .invalidData)) := by decide +kernel

-- truncated entry (declared 23 bytes, 15 present): `UnexpectedEof`, not a clean end-of-file
example : (toyRun .aes128 ((toyEntry .aes128 [1, 2] (toyPlain 8) (toyPlain 3)).take 12) 23 [1, 2] [] [2, 2, 2]).map
    (fun r => errOf r.1) = some (some (.io .unexpectedEof)) := by decide +kernel

-- the empty-entry edge (after the repair of K-I): the code of an empty entry is compared too - a destroyed
-- one is the `InvalidData` error, the honest one reads as the empty content with the code compared
example : (toyRun .aes128 ((toyEntry .aes128 [1, 2] (toyPlain 8) []).take 10 ++ List.replicate 10 0) 20 [1, 2] [] [4, 4]).map
    (fun r => errOf r.1) = some (some (.io .invalidData)) := by decide +kernel
example : (toyRun .aes128 (toyEntry .aes128 [1, 2] (toyPlain 8) []) 20 [1, 2] [] [4, 4]).map
    (fun r => (okVal r.1, r.2.1.isSome, r.2.2)) = some (some [], true, 0) := by decide +kernel

/-! ### K-I (repaired): "empty" is decided by an attacker-writable field, so it must be authenticated too

Whether an entry is "empty" is decided by `data_length = compressed_size - overhead`, and the compressed
size is a header field outside the authentication code.  Before the repair `read` returned `Ok(0)` at
`data_remaining == 0` without ever comparing the code, so a NON-empty entry could be presented as a
successful empty one (declared compressed size = bare overhead; AE-2: no CRC behind it).  The crate now
verifies the code of an entry without ciphertext before reporting end-of-file
(`aes_empty_entry_mac_checked`), and the tamper theorems above hold for every declared length. -/

/-- The K-I witness as a regression: the honest 6-byte entry reads as its content; the SAME bytes
with the declared compressed size 20 (the overhead of AES-128) are the `InvalidData` error — the ten
bytes standing where the code is read are not `HMAC(k, "")[0..10]`.  Replayed on the crate by
corpus/aes.ops (`csize-field20of21`). -/
theorem declared_empty_regression :
    (toyRun .aes128 (toyEntry .aes128 [1, 2] (toyPlain 8) (toyPlain 6)) 20 [1, 2] [] [4, 4]).map
      (fun r => errOf r.1) = some (some (.io .invalidData)) ∧
    (toyRun .aes128 (toyEntry .aes128 [1, 2] (toyPlain 8) (toyPlain 6)) 26 [1, 2] [] [4, 4]).map
      (fun r => (okVal r.1, r.2.2)) = some (some (toyPlain 6), 0) := by
  decide +kernel

/-- **Tamper detection without a declared-nonempty restriction**, AES layer, for every primitive triple, inner reader and declared length `L ≥ 0`:
a run of successful reads that ends in `Ok(0)` for a non-empty buffer has consumed exactly `L`
ciphertext bytes and compared `HMAC(hmac_key, those bytes)[0..10]` with the stored code, equal. -/
theorem tamper_detected_any_declared_length {σ} (P : AesPrims) (hW : P.WF) (S : Src σ) (mode : AesMode)
    (L : Nat) (s s' : σ) (pw : Bytes) (v0 : Valid σ)
    (hv : validate P S mode (some L) s pw = (.ok (some v0), s')) (hL : L < U64)
    (bufs : List Nat) (out : Bytes) (v1 : Valid σ) (hrun : drain P S bufs v0 [] = (.ok out, v1))
    (n : Nat) (hn : 0 < n) (v2 : Valid σ) (heof : Valid.read P S v1 n = (.ok [], v2)) :
    v2.ghostCt.length = L ∧
    v2.ghostMac = some ((P.hmac v0.hmacKey v2.ghostCt).take AUTH_CODE_LENGTH,
                        (P.hmac v0.hmacKey v2.ghostCt).take AUTH_CODE_LENGTH) :=
  let h := aes_eof_implies_mac P hW S mode L s s' pw v0 hv hL bufs out v1 hrun n hn v2 heof
  ⟨h.2.1, h.2.2.1⟩

/-- Non-vacuity of the hypotheses at `L = 0`: the honest empty entry validates, and its first `read`
with a non-empty buffer is the successful end-of-file. -/
example : ∃ v0 s' v2, validate toy listSrc .aes128 (some 0) ⟨toyEntry .aes128 [1, 2] (toyPlain 8) [], []⟩ [1, 2]
      = (.ok (some v0), s') ∧ drain toy listSrc [] v0 [] = (.ok [], v0) ∧
      Valid.read toy listSrc v0 4 = (.ok [], v2) ∧ v2.ghostMac.isSome = true := by
  refine ⟨_, _, _, rfl, rfl, rfl, ?_⟩
  decide +kernel

/-- A toy decoder whose compressed stream is complete after 3 bytes: it refills 4 bytes at a time
and reports end-of-file once it has seen 3. State = number of bytes seen. -/
def earlyDec : Decoder Nat :=
  ⟨fun seen _ =>
    if 3 ≤ seen then .done (.ok []) seen
    else .pull 4 fun r => match r with
      | .ok bs => .done (.ok bs) (seen + bs.length)
      | .err e => .done (.err e) seen⟩

theorem earlyDec_faithful : earlyDec.Faithful := by
  intro d n
  unfold earlyDec
  simp only
  split
  · exact .done _ _
  · exact .pull _ _ (fun e => ⟨e, d, rfl⟩) (fun bs => .done _ _)

/-- entry with 6 ciphertext bytes whose authentication code has been destroyed -/
def badCodeEntry : Bytes := (toyEntry .aes128 [1, 2] (toyPlain 8) (toyPlain 6)).take 16 ++ List.replicate 10 0

def idUpd : Unit → Bytes → Unit := fun _ _ => ()
def zeroFin : Unit → UInt32 := fun _ => 0

/-- **D12 on the model (pre-fix `ZipFile::read`)** — end-of-file of a *decoder* does not imply
end-of-file of the AES reader: with `earlyDec` over `badCodeEntry` the pre-fix entry read returns 4
bytes and then `Ok(0)` with `data_remaining = 2`, no code was ever compared. -/
theorem d12_decoder_eof_without_mac :
    ∃ v : Valid ListSrc,
      (validate toy listSrc .aes128 (dataLength .aes128 26) ⟨badCodeEntry, []⟩ [1, 2]).1 = .ok (some v) ∧
      let r1 := entryReadPreFix toy listSrc earlyDec idUpd zeroFin ⟨0, v, ⟨(), 0, true⟩⟩ 16
      let r2 := entryReadPreFix toy listSrc earlyDec idUpd zeroFin r1.2 16
      (okVal r1.1).map List.length = some 4 ∧ okVal r2.1 = some [] ∧
      r2.2.aes.dataRemaining = 2 ∧ r2.2.aes.ghostMac = none := by
  refine ⟨_, rfl, ?_⟩
  decide +kernel

/-- **D12 repaired, on the witness of `d12_decoder_eof_without_mac`**: the same two calls through the
current `ZipFile::read`: the second one drains the AES reader
(`finish_crypto`) and reports the `InvalidData` error of the code check instead of end-of-file. -/
theorem d12_fixed_on_witness :
    ∃ v : Valid ListSrc,
      (validate toy listSrc .aes128 (dataLength .aes128 26) ⟨badCodeEntry, []⟩ [1, 2]).1 = .ok (some v) ∧
      let r1 := entryRead toy listSrc earlyDec true idUpd zeroFin ⟨0, v, ⟨(), 0, true⟩⟩ 16
      let r2 := entryRead toy listSrc earlyDec true idUpd zeroFin r1.2 16
      (okVal r1.1).map List.length = some 4 ∧ errOf r2.1 = some (.io .invalidData) ∧
      r2.2.aes.dataRemaining = 0 := by
  refine ⟨_, rfl, ?_⟩
  decide +kernel

/-! ### extra field examples -/

def st99 (cs us : UInt64) : ExtraSt := ⟨us, cs, 0, false, none, .aes⟩

-- the sole AES record (AE-2, AES-256, deflated) of a method-99 entry
example : okVal (parseEntryExtra (st99 100 50) [0x01, 0x99, 7, 0, 2, 0, 0x41, 0x45, 3, 8, 0]) =
    some { st99 100 50 with aesMode := some (.aes256, .ae2), method := .deflated } := by decide

-- preceded by another record (the fixture has an NTFS record in front) and followed by one
example : okVal (parseEntryExtra (st99 100 50)
    ([0x0a, 0, 4, 0, 9, 9, 9, 9] ++ [0x01, 0x99, 7, 0, 1, 0, 0x41, 0x45, 1, 0, 0] ++ [0x55, 0x54, 5, 0, 1, 2, 3, 4, 5])) =
    some { st99 100 50 with aesMode := some (.aes128, .ae1), method := .stored } := by decide

-- method 99 without the record, with a truncated record (the I/O error is swallowed), wrong size
example : errOf (parseEntryExtra (st99 100 50) []) = some .invalidArchive ∧
    errOf (parseEntryExtra (st99 100 50) [0x01, 0x99, 7, 0, 2, 0, 0x41]) = some .invalidArchive ∧
    errOf (parseEntryExtra (st99 100 50) [0x01, 0x99, 8, 0, 2, 0, 0x41, 0x45, 3, 8, 0, 0]) = some .unsupportedArchive ∧
    errOf (parseEntryExtra (st99 100 50) [0x01, 0x99, 7, 0, 3, 0, 0x41, 0x45, 3, 8, 0]) = some .invalidArchive ∧
    errOf (parseEntryExtra (st99 100 50) [0x01, 0x99, 7, 0, 2, 0, 0x41, 0x46, 3, 8, 0]) = some .invalidArchive ∧
    errOf (parseEntryExtra (st99 100 50) [0x01, 0x99, 7, 0, 2, 0, 0x41, 0x45, 4, 8, 0]) = some .invalidArchive := by
  decide

/-- **K-C, repaired** (a C03 / C16 defect of the crate as found: the 0x9901 arm of `parse_extra_field` did not
decrement `len_left`, so 7 further bytes were skipped behind an AES record — an AES record FOLLOWED by the
ZIP64 record lost the ZIP64 sizes, `compressed_size` stayed 0xFFFFFFFF; `fixes/kc-aes-extra-consumed.patch`,
regression `seeded/revert-kc-aes-extra-consumed`).  Now the order of the two records does not matter. -/
theorem kc_aes_zip64_any_order :
    let z64 : Bytes := [1, 0, 16, 0] ++ le64 50 ++ le64 100
    let aes : Bytes := [0x01, 0x99, 7, 0, 2, 0, 0x41, 0x45, 3, 0, 0]
    okVal (parseEntryExtra (st99 0xFFFFFFFF 0xFFFFFFFF) (z64 ++ aes)) =
      some { st99 100 50 with largeFile := true, aesMode := some (.aes256, .ae2), method := .stored } ∧
    okVal (parseEntryExtra (st99 0xFFFFFFFF 0xFFFFFFFF) (aes ++ z64)) =
      some { st99 100 50 with largeFile := true, aesMode := some (.aes256, .ae2), method := .stored } := by
  decide

/-- K-C, repaired: a record of another kind behind the AES record is not misread either (before the repair
the cursor landed 7 bytes into the record that follows). -/
example :
    let aes : Bytes := [0x01, 0x99, 7, 0, 1, 0, 0x41, 0x45, 1, 8, 0]
    let other : Bytes := [0xfe, 0xca, 9, 0, 1, 0, 8, 0, 0xff, 0xff, 0xff, 0xff, 0]
    let z64 : Bytes := [1, 0, 8, 0] ++ le64 77
    okVal (parseEntryExtra (st99 0xFFFFFFFF 5) (aes ++ other ++ z64)) =
      some { st99 77 5 with largeFile := true, aesMode := some (.aes128, .ae1), method := .deflated } := by
  decide

-- open-time decisions on concrete entries
example : byIndex toy listSrc ⟨true, .stored, some (.aes128, .ae2), 40, 0⟩ ⟨[], []⟩ matches .err .passwordRequired := by
  decide
example : byIndex toy listSrc ⟨false, .stored, some (.aes128, .ae2), 40, 0⟩ ⟨[], []⟩ matches .err .passwordRequired := by
  decide
example : byIndexDecrypt toy listSrc ⟨true, .aes, some (.aes128, .ae2), 40, 0⟩ [1] ⟨[], []⟩ matches .err .unsupportedArchive := by
  decide
example : byIndexDecrypt toy listSrc ⟨true, .stored, some (.aes128, .ae2), 19, 0⟩ [1] ⟨toyPlain 19, []⟩
    matches .err (.io .invalidData) := by decide

end ZipVerif.Props.C16
