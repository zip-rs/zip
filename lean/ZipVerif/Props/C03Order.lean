import ZipVerif.Lemmas.OfLayout
/-
C03, generalised layouts: "local/central ordering differences", end-record fields that keep
the real values next to forced ZIP64 records, an extensible data sector in the ZIP64 end record, bytes between
the directory and the ZIP64 end record.

`Spec.Zip.Layout` / `build` lay the central records out in the order of the local records and cannot say any
of this.  `Spec.Zip.LayoutG` (Spec/ZipOrder.lean) adds `cdOrder` (the indices the directory lists, in its own
order), `eocdSaturate`, `end64Ext`, `end64Gap` and — per entry — `z64Place`: the number of foreign central extra
records IN FRONT of the ZIP64 extended information record (APPNOTE 4.5 does not order the records of an extra
field) and its optional 4-byte disk-start field (the record then exists even when it carries nothing else, and
the header's 16-bit disk field holds 0xFFFF).  `buildG` lays the bytes out, `viewOfG` says what a reader must
report: the DIRECTORY's entries in the DIRECTORY's order, each with the offset of its own local header, sizes and
offset taken from the ZIP64 record wherever it sits, the extra field verbatim.
With the identity order and the defaults `buildG` is `build` and `viewOfG` is `viewOf` (`buildG_ofLayout`,
`viewOfG_ofLayout`), and the hypotheses carry over (`LayoutG.ofLayout_fits`, `LayoutG.ofLayout_noFalseSig`,
Lemmas/OfLayout.lean): `reader_on_wf_cd_order (LayoutG.ofLayout l)` says what `C03.reader_on_wf l` says.
`Props/C03.lean` proves its statement from `open_of_loop` and `runs_centralLoopZ` (Lemmas/ReadWf.lean): only the
head of `ZipArchive::new` (`open_head`) is taken as the `ofLayout` instance, the directory loop is walked on the
plain layout under the weaker `ReadableZ`.

The record-sequence argument is `extra_on_centralG` (Lemmas/CentralParseG.lean), which `open_layoutG`
(Lemmas/ReadWfOrder.lean) applies to every listed record: foreign records in front are skipped one by one
(`parseExtra_front`), then comes the 0x0001 record with any subset of its three 64-bit fields — the empty one
included — and the disk-start field, which the reader skips, followed by the remaining foreign records
(`parseExtra_central`, Lemmas/CentralParseZ.lean).
`LayoutG.Fits` has a fourth clause — the extra field of every LISTED central record fits its 16-bit length —
because with the disk-start field the ZIP64 record may have 32 bytes, 4 more than `Entry.Fits` reserves (for plain
layouts it follows from `Entry.Fits`: `fits_ofLayout`).

Central extra fields with a WinZip-AES record (0x9901) are C16's subject and excluded here by `Readable`
(`ExtraOk`, method ≠ 99).  Before the K-C repair (`fixes/kc-aes-extra-consumed.patch`) an AES record IN FRONT of
the ZIP64 record lost the ZIP64 values; `Props.C16.kc_aes_zip64_any_order` is the kernel-checked statement that
it no longer does.
-/

namespace ZipVerif.Props.C03Order
open ZipVerif ZipVerif.Model ZipVerif.Spec.Zip

/-- `ZipArchive::new` on the bytes of ANY generalised layout whose values fit
their fields, whose central extra data are plain record sequences (`Readable`) and which embeds no false
signature returns exactly the entries the central directory lists, IN THE DIRECTORY'S ORDER (whatever the
order of the local records in the file), each with the values of its central record and the offset of its own
local header; `offset()` = prefix length; the comment.  `cdOrder` is unconstrained: a permutation
(`IsPermutation`, the property's "ordering differences"), a sub-list (entries the directory no longer names)
or a list with repetitions. -/
theorem reader_on_wf_cd_order (g : LayoutG) (hF : g.Fits) (hR : g.base.Readable) (hS : NoFalseSigG g)
    (ht : g.base.trailing = [] ∨ g.needs64 = false) :
    ∃ d', openArchive.runPure (Dev.ofBytes (buildG g)) = (.ok (archiveOfG g), d') ∧
      d'.buf = buildG g := by
  obtain ⟨q, hq⟩ := open_layoutG g hF hR hS ht 0
  obtain ⟨d', h1, h2, _⟩ := hq (Dev.ofBytes (buildG g)) rfl rfl
  exact ⟨d', h1, h2⟩

theorem archive_fields (g : LayoutG) :
    (archiveOfG g).offset = g.base.pre.length ∧ (archiveOfG g).comment = g.base.comment ∧
    (archiveOfG g).files = viewOfG g ∧ (archiveOfG g).files.length = g.cdList.length :=
  ⟨rfl, rfl, rfl, viewListP_length _ _ _⟩

/-- What `viewEntryG` says, field by field: everything `viewEntry` says (sizes and offset are the ENTRY's, i.e.
the values the ZIP64 record carries when the 32-bit slots hold the marker), and as extra data the central record's
whole extra field as laid out — the foreign records with the ZIP64 record between them. -/
theorem viewG_fields (e : Entry) (off pre chs : Nat) (pl : Z64Place) :
    (viewEntryG e off pre chs pl).compressedSize = e.csize ∧
    (viewEntryG e off pre chs pl).uncompressedSize = e.usize ∧
    (viewEntryG e off pre chs pl).headerStart = UInt64.ofNat (off + pre) ∧
    (viewEntryG e off pre chs pl).largeFile = (e.zU || e.zC) ∧
    (viewEntryG e off pre chs pl).extraField =
      (splitRecords pl.pos e.centralExtra).1 ++ (e.centralZ64G (UInt64.ofNat off) pl.disk ++
        (splitRecords pl.pos e.centralExtra).2) ∧
    (viewEntryG e off pre chs pl).extraField.length =
      e.centralExtra.length + (e.centralZ64G (UInt64.ofNat off) pl.disk).length ∧
    (viewEntryG e off pre chs pl).fileNameRaw = e.name ∧ (viewEntryG e off pre chs pl).crc32 = e.crc :=
  ⟨rfl, rfl, rfl, rfl, rfl, centralExtraAllG_length e _ pl, rfl, rfl⟩

/-- for a plain layout the fourth clause of `LayoutG.Fits` follows from `Entry.Fits` -/
theorem fits_ofLayout (l : Layout) (h : ∀ e ∈ l.entries, e.Fits) :
    ∀ q ∈ (LayoutG.ofLayout l).cdList, (q.1.1.centralExtraAllG (UInt64.ofNat q.1.2) q.2).length ≤ 0xFFFF :=
  LayoutG.fits4_ofLayout l h

/-! ### which entry is reported at which index -/

/-- When every index of `cdOrder` names an entry (in particular for a permutation): position `i` of the
directory holds entry `cdOrder[i]`. -/
theorem cdList_getElem (g : LayoutG) (hin : ∀ j ∈ g.cdOrder, j < g.base.entries.length)
    (i j : Nat) (e : Entry) (hi : g.cdOrder[i]? = some j) (he : g.base.entries[j]? = some e) :
    ∃ off, (localOffsets g.base.entries 0)[j]? = some off ∧
      g.cdList[i]? = some ((e, off), g.placeOf j) := by
  obtain ⟨off, h1, h2⟩ := placed_getElem_of g.base.entries 0 j e he
  refine ⟨off, h1, ?_⟩
  unfold LayoutG.cdList
  rw [filterMap_getElem_of_isSome _ _ _ (fun x hx => by
    have := hin x hx
    rw [← placed_length g.base.entries 0] at this
    simp [List.getElem?_eq_getElem this]), hi]
  simp [h2]

theorem isPermutation_inRange (g : LayoutG) (hp : g.IsPermutation) :
    ∀ j ∈ g.cdOrder, j < g.base.entries.length := by
  intro j hj
  have := (hp.mem_iff (a := j)).mp hj
  simpa using this

/-- a permuted directory lists every entry exactly once: the reader reports as many entries as the archive has -/
theorem count_of_permutation (g : LayoutG) (hp : g.IsPermutation) :
    (archiveOfG g).files.length = g.base.entries.length := by
  rw [(archive_fields g).2.2.2]
  have hin := isPermutation_inRange g hp
  have hl : g.cdList.length = g.cdOrder.length := by
    unfold LayoutG.cdList
    have : ∀ (l : List Nat), (∀ j ∈ l, j < g.base.entries.length) →
        (l.filterMap fun i => ((placed g.base.entries 0)[i]?).map fun p => (p, g.placeOf i)).length =
          l.length := by
      intro l
      induction l with
      | nil => intro _; rfl
      | cons a l ih =>
        intro h
        have ha := h a (List.mem_cons_self)
        rw [← placed_length g.base.entries 0] at ha
        rw [List.filterMap_cons_some (b := ((placed g.base.entries 0)[a], g.placeOf a))
          (by rw [List.getElem?_eq_getElem ha]; rfl)]
        simp [ih (fun x hx => h x (List.mem_cons_of_mem _ hx))]
    exact this _ hin
  rw [hl, hp.length_eq, List.length_range]

/-- **Entry `i` of the reported list is the view of entry `cdOrder[i]`**, at the offset of that entry's own
local header (shifted by the prefix): names, sizes, CRC, method, time, attributes and comment as recorded in its
central record (`C03.view_fields`, `C03.unix_mode_spec` apply to `viewEntry`, which `viewEntryG` equals in every
field but `extraField`), and as extra data the central record's whole extra field — the foreign records with the
ZIP64 record where the layout places it (`Entry.centralExtraAllG`). -/
theorem entry_view (g : LayoutG) (hin : ∀ j ∈ g.cdOrder, j < g.base.entries.length)
    (i j : Nat) (e : Entry) (hi : g.cdOrder[i]? = some j) (he : g.base.entries[j]? = some e) :
    ∃ off chs, (localOffsets g.base.entries 0)[j]? = some off ∧
      (archiveOfG g).files[i]? = some (viewEntryG e off g.base.pre.length chs (g.placeOf j)) := by
  obtain ⟨off, h1, h2⟩ := cdList_getElem g hin i j e hi he
  obtain ⟨chs, h3⟩ := viewListP_getElem g.base.pre.length g.cdList g.cdStart i ((e, off), g.placeOf j) h2
  exact ⟨off, chs, h1, h3⟩

/-! ### reading entries through the permuted directory -/

/-- **`by_index_raw(i)`** on the archive `reader_on_wf_cd_order` returns: exactly the stored bytes of entry
`cdOrder[i]`, found through the offset its central record carries, from the data start computed out of its
LOCAL header's lengths. -/
theorem reader_entry_raw (g : LayoutG) (hF : g.Fits) (hin : ∀ j ∈ g.cdOrder, j < g.base.entries.length)
    (i j : Nat) (e : Entry) (hi : g.cdOrder[i]? = some j) (he : g.base.entries[j]? = some e)
    (d : Dev) (hd : d.buf = buildG g) :
    ∃ off d', (localOffsets g.base.entries 0)[j]? = some off ∧
      (byIndexRaw (archiveOfG g) i).runPure d = (.ok (e.dataStart off g.base.pre.length, e.data), d') ∧
      d'.buf = buildG g := by
  obtain ⟨off, h1, h2⟩ := cdList_getElem g hin i j e hi he
  obtain ⟨chs, rest, hv, hr, hb, hfe⟩ := (locals_buildG g hF).entry (a := archiveOfG g) rfl h2
  obtain ⟨d', h3, h4, _⟩ := runs_byIndexRaw_at e off _ hv rfl rfl hfe hr hb d.pos d hd rfl
  exact ⟨off, d', h1, h3, h4⟩

/-- **`by_index(i)` read to the end**: the decoder's output on the stored bytes of entry `cdOrder[i]`, gated by
the CRC of its central record. -/
theorem reader_entry_read (ext : Ext) (g : LayoutG) (hF : g.Fits)
    (hin : ∀ j ∈ g.cdOrder, j < g.base.entries.length)
    (i j : Nat) (e : Entry) (hi : g.cdOrder[i]? = some j) (he : g.base.entries[j]? = some e)
    (pw : Option Bytes) (henc : (e.flagsOut &&& 1 == 1) = false)
    (hdec : (Method.fromU16 e.method).decodable = true) (d : Dev) (hd : d.buf = buildG g) :
    ∃ off d', (localOffsets g.base.entries 0)[j]? = some off ∧
      (byIndexRead ext (archiveOfG g) i pw).runPure d =
        (.ok (.ok (e.dataStart off g.base.pre.length,
          ext.decode (Method.fromU16 e.method) e.data >>= fun c => crcCheck false e.crc c)), d') ∧
      d'.buf = buildG g := by
  obtain ⟨off, h1, h2⟩ := cdList_getElem g hin i j e hi he
  obtain ⟨chs, rest, hv, hr, hb, hfe⟩ := (locals_buildG g hF).entry (a := archiveOfG g) rfl h2
  obtain ⟨d', h3, h4, _⟩ := runs_byIndexRead_at ext e off _ hv rfl rfl rfl henc rfl rfl hfe hr hb pw hdec d.pos d hd rfl
  exact ⟨off, d', h1, h3, h4⟩

/-- **End to end**: open the archive, then read the entry the directory lists at position `i`. -/
theorem open_then_read_raw (g : LayoutG) (hF : g.Fits) (hR : g.base.Readable) (hS : NoFalseSigG g)
    (ht : g.base.trailing = [] ∨ g.needs64 = false) (hin : ∀ j ∈ g.cdOrder, j < g.base.entries.length)
    (i j : Nat) (e : Entry) (hi : g.cdOrder[i]? = some j) (he : g.base.entries[j]? = some e) :
    ∃ a d1 off d2, openArchive.runPure (Dev.ofBytes (buildG g)) = (.ok a, d1) ∧
      a.files = viewOfG g ∧ a.offset = g.base.pre.length ∧ a.comment = g.base.comment ∧
      (localOffsets g.base.entries 0)[j]? = some off ∧
      (byIndexRaw a i).runPure d1 = (.ok (e.dataStart off g.base.pre.length, e.data), d2) := by
  obtain ⟨d1, h1, hb⟩ := reader_on_wf_cd_order g hF hR hS ht
  obtain ⟨off, d2, h2, h3, _⟩ := reader_entry_raw g hF hin i j e hi he d1 hb
  exact ⟨archiveOfG g, d1, off, d2, h1, rfl, rfl, rfl, h2, h3⟩

/-! ### the plain layouts are the instance "identity order, defaults" -/

theorem placed_eq_zip : ∀ (es : List Entry) (loc : Nat), placed es loc = es.zip (localOffsets es loc) := by
  intro es
  induction es with
  | nil => intro _; rfl
  | cons e es ih => intro loc; simp [placed, localOffsets, ih]

theorem viewOfG_ofLayout (l : Layout) : viewOfG (LayoutG.ofLayout l) = viewOf l := LayoutG.view_ofLayout l

theorem buildG_ofLayout (l : Layout) : buildG (LayoutG.ofLayout l) = build l := LayoutG.build_ofLayout l

/-! ### non-vacuity: a two-entry archive whose directory lists the SECOND local record first -/

def entryA : Entry :=
  { madeBy := 0x0314, versionNeeded := 20, flags := 0, method := 0, time := 0, date := 0x21, crc := 0xe8b7be43,
    usize := 1, name := [0x61], centralExtra := [], comment := [], internalAttrs := 0,
    externalAttrs := 0x81a40000, z64 := (false, false, false), localExtra := [], localZip64 := false,
    desc := .none, gapBefore := [], data := [0x61] }

def entryB : Entry := { entryA with name := [0x62], data := [0x62, 0x62], usize := 2, crc := 0xb5ae1bae }

/-- local order a, b — central order b, a -/
def reversed : LayoutG :=
  { base := { pre := [], entries := [entryA, entryB], gapBeforeCd := [], comment := [], zip64End := false,
              trailing := [] },
    cdOrder := [1, 0] }

example : reversed.IsPermutation := List.Perm.swap 0 1 []
example : reversed.Fits ∧ reversed.base.Readable ∧ NoFalseSigG reversed ∧ reversed.needs64 = false := by decide +kernel
example : (viewOfG reversed).map (·.fileNameRaw) = [[0x62], [0x61]] := by decide +kernel
example : (viewOfG reversed).map (·.headerStart) = [32, 0] := by decide +kernel
example : buildG reversed ≠ build reversed.base := by decide +kernel

/-- the same layout laid out by the INDEPENDENT Rust builder (harness/src/mkzip.rs, test `f7_witness`; the real
crate opens these bytes and lists b, a): `buildG` agrees byte for byte -/
example : buildG reversed = [80, 75, 3, 4, 20, 0, 0, 0, 0, 0, 0, 0, 33, 0, 67, 190, 183, 232, 1, 0, 0, 0, 1, 0, 0, 0, 1, 0, 0, 0, 97, 97, 80, 75, 3, 4, 20, 0, 0, 0, 0, 0, 0, 0, 33, 0, 174, 27, 174, 181, 2, 0, 0, 0, 2, 0, 0, 0, 1, 0, 0, 0, 98, 98, 98, 80, 75, 1, 2, 20, 3, 20, 0, 0, 0, 0, 0, 0, 0, 33, 0, 174, 27, 174, 181, 2, 0, 0, 0, 2, 0, 0, 0, 1, 0, 0, 0, 0, 0, 0, 0, 0, 0, 0, 0, 164, 129, 32, 0, 0, 0, 98, 80, 75, 1, 2, 20, 3, 20, 0, 0, 0, 0, 0, 0, 0, 33, 0, 67, 190, 183, 232, 1, 0, 0, 0, 1, 0, 0, 0, 1, 0, 0, 0, 0, 0, 0, 0, 0, 0, 0, 0, 164, 129, 0, 0, 0, 0, 97, 80, 75, 5, 6, 0, 0, 0, 0, 2, 0, 2, 0, 94, 0, 0, 0, 65, 0, 0, 0, 0, 0] := by decide +kernel

/-- forced ZIP64 end records, real values kept in the plain end record, an extensible data sector and a gap -/
def unsaturated : LayoutG :=
  { base := { reversed.base with zip64End := true }, cdOrder := [1, 0], eocdSaturate := false,
    end64Ext := [0x65, 0, 2, 0, 0, 0, 7, 7], end64Gap := [1, 2, 3] }

example : unsaturated.Fits ∧ unsaturated.base.Readable ∧ NoFalseSigG unsaturated ∧ unsaturated.needs64 = true ∧
    unsaturated.base.trailing = [] := by decide +kernel

/-- `buildG` agrees byte for byte with the independent Rust builder (same test, `UNSATURATED`) on the ZIP64 variant
too: gap, extensible data sector, real values in the plain end record -/
example : buildG unsaturated = [80, 75, 3, 4, 20, 0, 0, 0, 0, 0, 0, 0, 33, 0, 67, 190, 183, 232, 1, 0, 0, 0, 1, 0, 0, 0, 1, 0, 0, 0, 97, 97, 80, 75, 3, 4, 20, 0, 0, 0, 0, 0, 0, 0, 33, 0, 174, 27, 174, 181, 2, 0, 0, 0, 2, 0, 0, 0, 1, 0, 0, 0, 98, 98, 98, 80, 75, 1, 2, 20, 3, 20, 0, 0, 0, 0, 0, 0, 0, 33, 0, 174, 27, 174, 181, 2, 0, 0, 0, 2, 0, 0, 0, 1, 0, 0, 0, 0, 0, 0, 0, 0, 0, 0, 0, 164, 129, 32, 0, 0, 0, 98, 80, 75, 1, 2, 20, 3, 20, 0, 0, 0, 0, 0, 0, 0, 33, 0, 67, 190, 183, 232, 1, 0, 0, 0, 1, 0, 0, 0, 1, 0, 0, 0, 0, 0, 0, 0, 0, 0, 0, 0, 164, 129, 0, 0, 0, 0, 97, 1, 2, 3, 80, 75, 6, 6, 52, 0, 0, 0, 0, 0, 0, 0, 45, 0, 45, 0, 0, 0, 0, 0, 0, 0, 0, 0, 2, 0, 0, 0, 0, 0, 0, 0, 2, 0, 0, 0, 0, 0, 0, 0, 94, 0, 0, 0, 0, 0, 0, 0, 65, 0, 0, 0, 0, 0, 0, 0, 101, 0, 2, 0, 0, 0, 7, 7, 80, 75, 6, 7, 0, 0, 0, 0, 162, 0, 0, 0, 0, 0, 0, 0, 1, 0, 0, 0, 80, 75, 5, 6, 0, 0, 0, 0, 2, 0, 2, 0, 94, 0, 0, 0, 65, 0, 0, 0, 0, 0] := by decide +kernel

/-! ### non-vacuity: the ZIP64 record BEHIND foreign records, with the disk-start field -/

/-- entry a with two foreign central records (0x5455, 0xcafe) and compressed size + offset forced through the
ZIP64 record -/
def entryAz : Entry :=
  { entryA with centralExtra := [0x55, 0x54, 1, 0, 7, 0xfe, 0xca, 2, 0, 8, 9], z64 := (false, true, true) }

/-- entry b with one foreign central record; its ZIP64 record will hold the disk-start field only -/
def entryBz : Entry := { entryB with centralExtra := [0x0a, 0, 0, 0] }

/-- local order a, b — central order b, a; a's ZIP64 record behind its FIRST foreign record, b's behind its only
one (position 5 is clamped to the number of records); both carry the disk-start field -/
def placedZ64 : LayoutG :=
  { base := { pre := [], entries := [entryAz, entryBz], gapBeforeCd := [], comment := [], zip64End := false,
              trailing := [] },
    cdOrder := [1, 0],
    z64Place := [{ pos := 1, disk := some 0 }, { pos := 5, disk := some 0 }] }

example : placedZ64.Fits ∧ placedZ64.base.Readable ∧ NoFalseSigG placedZ64 ∧ placedZ64.needs64 = false ∧
    placedZ64.IsPermutation := ⟨by decide +kernel, by decide +kernel, by decide +kernel, by decide +kernel,
      List.Perm.swap 0 1 []⟩

/-- the extra fields as laid out: b = foreign record, then a ZIP64 record of 4 bytes (disk number); a = UT record,
ZIP64 record of 20 bytes (compressed size 1, offset 0, disk 0), then the 0xcafe record -/
example : (viewOfG placedZ64).map (·.extraField) =
    [[0x0a, 0, 0, 0, 1, 0, 4, 0, 0, 0, 0, 0],
     [0x55, 0x54, 1, 0, 7, 1, 0, 20, 0, 1, 0, 0, 0, 0, 0, 0, 0, 0, 0, 0, 0, 0, 0, 0, 0, 0, 0, 0, 0,
      0xfe, 0xca, 2, 0, 8, 9]] := by decide +kernel

/-- what the reader must report for the entries of `placedZ64`: the real sizes and offsets, taken from the ZIP64
records wherever they sit -/
example : (viewOfG placedZ64).map (fun f => (f.fileNameRaw, f.compressedSize, f.uncompressedSize, f.headerStart,
    f.largeFile)) = [([0x62], 2, 2, 32, false), ([0x61], 1, 1, 0, true)] := by decide +kernel

/-- the same layout laid out by the INDEPENDENT Rust builder (harness/src/mkzip.rs, test `f7_witness`, `PLACED`;
the real crate opens these bytes and reports a with compressed size 1, size 1, header offset 0): `buildG` agrees
byte for byte -/
example : buildG placedZ64 = [80, 75, 3, 4, 20, 0, 0, 0, 0, 0, 0, 0, 33, 0, 67, 190, 183, 232, 1, 0, 0, 0, 1, 0, 0, 0, 1, 0, 0, 0, 97, 97, 80, 75, 3, 4, 20, 0, 0, 0, 0, 0, 0, 0, 33, 0, 174, 27, 174, 181, 2, 0, 0, 0, 2, 0, 0, 0, 1, 0, 0, 0, 98, 98, 98, 80, 75, 1, 2, 20, 3, 20, 0, 0, 0, 0, 0, 0, 0, 33, 0, 174, 27, 174, 181, 2, 0, 0, 0, 2, 0, 0, 0, 1, 0, 12, 0, 0, 0, 255, 255, 0, 0, 0, 0, 164, 129, 32, 0, 0, 0, 98, 10, 0, 0, 0, 1, 0, 4, 0, 0, 0, 0, 0, 80, 75, 1, 2, 20, 3, 20, 0, 0, 0, 0, 0, 0, 0, 33, 0, 67, 190, 183, 232, 255, 255, 255, 255, 1, 0, 0, 0, 1, 0, 35, 0, 0, 0, 255, 255, 0, 0, 0, 0, 164, 129, 255, 255, 255, 255, 97, 85, 84, 1, 0, 7, 1, 0, 20, 0, 1, 0, 0, 0, 0, 0, 0, 0, 0, 0, 0, 0, 0, 0, 0, 0, 0, 0, 0, 0, 254, 202, 2, 0, 8, 9, 80, 75, 5, 6, 0, 0, 0, 0, 2, 0, 2, 0, 141, 0, 0, 0, 65, 0, 0, 0, 0, 0] := by decide +kernel

end ZipVerif.Props.C03Order
