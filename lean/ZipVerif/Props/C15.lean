import ZipVerif.Lemmas.ZipCrypto
import ZipVerif.Tie.ZipCrypto
/-
C15 — ZipCrypto entries: right password decrypts, none/wrong is refused.
The model is `Model/ZipCrypto.lean`, the reference cipher `Spec/Pkware.lean` (over `Spec/Crc32.lean`); the
lemmas are in `Lemmas/ZipCrypto.lean`, the regenerated table comes through `Tie/ZipCrypto.lean`.

Not claimed: "the plaintext does not appear in the file" (not a theorem about a stream cipher; the
harness reports it as an observation), and anything about the compressors (the payload here is the
already-compressed byte string the writer buffers; for Stored it is the content itself).
-/

namespace ZipVerif.Props.C15
open ZipVerif ZipVerif.Spec ZipVerif.Model.ZipCrypto

/-! ### The table and the cipher are the standard ones -/

/-- The crate's literal `CRCTABLE` (as regenerated from the source on this run) holds, at every `u8`
index, the CRC-32 remainder computed bit by bit from the polynomial 0xEDB88320; it has 256 entries,
so the `u8` index never goes out of bounds. -/
theorem crctable_eq_spec (i : UInt8) :
    Gen.CRCTABLE.size = 256 ∧ Gen.CRCTABLE[i.toNat]? = some (Crc32.tableEntry i) :=
  ⟨Tie.ZipCrypto.tie_crctable_size, Tie.ZipCrypto.tie_crctable i⟩

/-- The table-driven byte update the cipher uses is the bit-serial CRC-32 division. -/
theorem crc_update_eq_bitwise (c : UInt32) (b : UInt8) : crc32 c b = Crc32.updateBitwise c b := by
  rw [crc32_eq_spec]; exact Crc32.updateByte_eq_bitwise c b

/-- APPNOTE computes the key-stream byte from `temp = Key(2) | 2`, the crate from `| 3`:
the products `temp * (temp ^ 1)` are the same number. -/
theorem or2_or3_same_product (n : Nat) :
    (n ||| 2) * ((n ||| 2) ^^^ 1) = (n ||| 3) * ((n ||| 3) ^^^ 1) :=
  or2_or3_product n

/-- **The crate's cipher is the APPNOTE 6.1 cipher**: same initial keys, same `update_keys`, same
`decrypt_byte` (including `| 2` vs `| 3` and the 16-bit wrapping product), hence the same key state
after any password and the same bulk encryption / decryption. -/
theorem keys_eq_spec (k : Keys) (b : UInt8) (pw bs : Bytes) :
    toSpec Keys.new = Pkware.initKeys ∧
    toSpec (k.update b) = Pkware.updateKeys (toSpec k) b ∧
    k.streamByte = Pkware.decryptByte (toSpec k) ∧
    toSpec (derive pw) = Pkware.keysFor pw ∧
    (encryptAll k bs).1 = Pkware.encrypt (toSpec k) bs ∧
    (decryptAll k bs).1 = Pkware.decrypt (toSpec k) bs :=
  ⟨new_eq_spec, update_eq_spec k b, streamByte_eq_spec k, derive_eq_spec pw, encryptAll_eq_spec k bs,
    decryptAll_eq_spec k bs⟩

/-! ### Round trip of the cipher -/

/-- **Decryption inverts encryption from every key state, for every byte string**, and both sides
end in the same key state. -/
theorem decrypt_encrypt (k : Keys) (p : Bytes) :
    decryptAll k (encryptAll k p).1 = (p, (encryptAll k p).2) :=
  decryptAll_encryptAll k p

/-- Encryption inverts decryption from every key state, for every byte string (with `decrypt_encrypt`:
encryption under a key state is a bijection on byte strings). -/
theorem encrypt_decrypt (k : Keys) (c : Bytes) :
    encryptAll k (decryptAll k c).1 = (c, (decryptAll k c).2) :=
  encryptAll_decryptAll k c

/-- Ciphertext has the length of the plaintext (12 header bytes + payload for an entry). -/
theorem encrypt_length (k : Keys) (p : Bytes) : (encryptAll k p).1.length = p.length :=
  encryptAll_length k p

/-! ### Writer -/

/-- What the writer has buffered after `start_entry` and any sequence of `write` calls. -/
theorem writer_buffer (pw : Bytes) (writes : List Bytes) :
    writes.foldl Writer.write (Writer.start pw) =
      ⟨List.replicate 12 0 ++ writes.flatten, derive pw⟩ := by
  have gen : ∀ (w : Writer), writes.foldl Writer.write w = ⟨w.buffer ++ writes.flatten, w.keys⟩ := by
    induction writes with
    | nil => intro w; simp
    | cons x xs ih => intro w; rw [List.foldl_cons, ih]; simp [Writer.write]
  rw [gen]; rfl

theorem writerHeader_ok (crc : UInt32) : Pkware.HeaderOk (writerHeader crc) (Pkware.checkByte false crc 0) :=
  ⟨rfl, rfl⟩

/-- **The bytes stored for an encrypted entry are the APPNOTE encryption, under the password's keys,
of (11 zero bytes ++ [crc >>> 24] ++ payload)** — for every password, every sequence of writes and
every CRC; in particular `finish` does not panic. This is the formal content of "an independent
PKWARE implementation decrypts it with that password". -/
theorem writer_emits_pkware (pw : Bytes) (writes : List Bytes) (crc : UInt32) :
    writeEntry pw writes crc = .ok (Pkware.encryptEntry pw (writerHeader crc) writes.flatten) := by
  unfold writeEntry Writer.finish
  rw [writer_buffer]
  have hl : 11 < (List.replicate 12 (0 : UInt8) ++ writes.flatten).length := by
    rw [List.length_append, List.length_replicate]; omega
  rw [if_pos hl, encryptAll_eq_spec, derive_eq_spec, shr24_toUInt8]
  rfl

/-- `buffer[11]` in `finish` panics exactly on a buffer shorter than 12 bytes. -/
theorem finish_panics_iff (w : Writer) (crc : UInt32) :
    (w.finish crc).isPanic = true ↔ w.buffer.length < 12 := by
  unfold Writer.finish
  by_cases h : 11 < w.buffer.length
  · rw [if_pos h]; simp [Out.isPanic]; omega
  · rw [if_neg h]; simp [Out.isPanic]; omega

/-- `finish` does not panic on a writer created by `start_entry`, whatever is written afterwards: its
buffer starts with the 12 header bytes, so `buffer[11]` is in bounds (`finish_panics_iff`). -/
theorem writer_no_panic (pw : Bytes) (writes : List Bytes) (crc : UInt32) :
    (writeEntry pw writes crc).isPanic = false := by
  rw [writer_emits_pkware]; rfl

/-- The panic branch is real in the model (a `ZipCryptoWriter` built by hand with an empty buffer). -/
example : ((Writer.mk [] Keys.new).finish 0).isPanic = true := by decide

/-! ### Reading with the right password -/

/-- Any entry that follows APPNOTE 6.1 — stored bytes = encryption under the password's keys of a
12-byte header whose last byte is the validator's byte, followed by the payload — validates and
decrypts to exactly the payload.  Covers entries of other producers, with either check-byte rule. -/
theorem pkware_entry_decrypts (pw hdr payload : Bytes) (v : Validator)
    (h : Pkware.HeaderOk hdr v.byte) :
    decrypt pw v (Pkware.encryptEntry pw hdr payload) = .ok (some payload) := by
  obtain ⟨hl, hc⟩ := h
  unfold decrypt Reader.validate Reader.new Pkware.encryptEntry
  rw [← derive_eq_spec, ← encryptAll_eq_spec, encryptAll_append]
  simp only []
  rw [rdN_append' 12 _ _ (by rw [encryptAll_length, hl])]
  simp only [decryptAll_encryptAll, hc, if_true, Reader.readAll]

/-- **Right password**: what the writer stored validates against the CRC validator and decrypts to
exactly the bytes that were written, for every password, payload, write pattern and CRC value. -/
theorem read_right_password (pw : Bytes) (writes : List Bytes) (crc : UInt32) :
    ∃ stored, writeEntry pw writes crc = .ok stored ∧
      decrypt pw (.pkzipCrc32 crc) stored = .ok (some writes.flatten) := by
  refine ⟨_, writer_emits_pkware pw writes crc, ?_⟩
  apply pkware_entry_decrypts
  have hb : (Validator.pkzipCrc32 crc).byte = Pkware.checkByte false crc 0 := shr24_toUInt8 crc
  rw [hb]
  exact writerHeader_ok crc

/-- Right password through `by_index_decrypt`: an entry the writer produced (flag bit 0 set, no data
descriptor) opens with its password as a ZipCrypto reader whose full read is the payload. -/
theorem open_right_password (pw : Bytes) (writes : List Bytes) (crc : UInt32) (t : UInt16) :
    ∃ stored r, writeEntry pw writes crc = .ok stored ∧
      openEntry (some pw) true false crc t stored = .ok (.zipCrypto r) ∧
      r.readAll = writes.flatten := by
  obtain ⟨stored, hw, hd⟩ := read_right_password pw writes crc
  obtain ⟨r, hv, hr⟩ := decrypt_ok_some hd
  refine ⟨stored, r, hw, ?_, hr⟩
  unfold openEntry openDecision makeCryptoReader chooseValidator
  simp only [Bool.false_eq_true, if_false]
  rw [hv]

/-- **Entries of other producers, both check-byte rules.** Stored bytes that follow APPNOTE 6.1 with
the PKZIP rule (no data descriptor: last header byte = high byte of the CRC) or the Info-ZIP rule
(bit 3 set: high byte of the DOS modification time) open with the password, and the reader
delivers exactly the payload; for a Stored entry whose declared CRC is the payload's, the complete
read returns the payload. -/
theorem foreign_entry_decrypts (pw hdr payload : Bytes) (dd : Bool) (crc : UInt32) (t : UInt16)
    (h : Pkware.HeaderOk hdr (Pkware.checkByte dd crc t)) :
    (∃ r, openEntry (some pw) true dd crc t (Pkware.encryptEntry pw hdr payload) = .ok (.zipCrypto r) ∧
      r.readAll = payload) ∧
    (Crc32.crc32 payload = crc →
      readStoredEntry (some pw) true dd crc t (Pkware.encryptEntry pw hdr payload) = .ok (some payload)) := by
  have hb : (chooseValidator dd crc t).byte = Pkware.checkByte dd crc t := by
    cases dd
    · exact shr24_toUInt8 crc
    · exact shr8_toUInt8 t
  have hd := pkware_entry_decrypts pw hdr payload (chooseValidator dd crc t) (by rw [hb]; exact h)
  obtain ⟨r, hv, hr⟩ := decrypt_ok_some hd
  have ho : ∃ r, openEntry (some pw) true dd crc t (Pkware.encryptEntry pw hdr payload) =
      .ok (.zipCrypto r) ∧ r.readAll = payload := by
    refine ⟨r, ?_, hr⟩
    unfold openEntry openDecision makeCryptoReader
    simp only []
    rw [hv]
  refine ⟨ho, ?_⟩
  intro hc
  obtain ⟨r, h1, h2⟩ := ho
  unfold readStoredEntry
  rw [h1]
  simp only []
  rw [h2, crcCheckedRead_ok hc]
  rfl

/-- **Reads may be split arbitrarily** (current tree: `read` decrypts exactly the bytes the inner
reader returned): any sequence of inner read sizes that covers the input yields the same plaintext
as one read of everything. -/
theorem read_chunking_irrelevant (r : Reader) (sizes : List Nat) (h : r.file.length ≤ sizes.sum) :
    r.readWith sizes = r.readAll := by
  induction sizes generalizing r with
  | nil =>
    have : r.file = [] := List.eq_nil_of_length_eq_zero (by simpa using h)
    unfold Reader.readWith Reader.readAll; rw [this]; rfl
  | cons n ns ih =>
    unfold Reader.readWith Reader.read
    simp only []
    rw [ih _ (by simp only [List.length_drop, List.sum_cons] at h ⊢; omega)]
    unfold Reader.readAll
    simp only []
    conv => rhs; rw [← List.take_append_drop n r.file, decryptAll_append]

/-! ### The open-time decisions of read.rs -/

/-- **No password on an encrypted entry**: `by_index_decrypt`-less opening fails with the
password-required error, whatever the entry contains (also through `by_index` / `by_name`). -/
theorem no_password_refused (dd : Bool) (crc : UInt32) (t : UInt16) (raw : Bytes) :
    openEntry none true dd crc t raw = .err .passwordRequired ∧
    byIndex true dd crc t raw = .err .passwordRequired := ⟨rfl, rfl⟩

/-- **A password given for an entry that is not encrypted is discarded**: the entry opens as
plaintext, exactly as without a password. -/
theorem password_ignored_when_not_encrypted (pw : Bytes) (dd : Bool) (crc : UInt32) (t : UInt16)
    (raw : Bytes) :
    openEntry (some pw) false dd crc t raw = .ok (.plaintext raw) ∧
    openEntry (some pw) false dd crc t raw = openEntry none false dd crc t raw := ⟨rfl, rfl⟩

/-- **Validator choice** is the APPNOTE / Info-ZIP rule: with the data-descriptor flag (bit 3) the
check byte is the high byte of the DOS time, otherwise the high byte of the CRC. -/
theorem validator_choice (dd : Bool) (crc : UInt32) (t : UInt16) :
    (chooseValidator dd crc t).byte = Pkware.checkByte dd crc t ∧
    chooseValidator true crc t = .infoZipMsdosTime t ∧
    chooseValidator false crc t = .pkzipCrc32 crc := by
  refine ⟨?_, rfl, rfl⟩
  cases dd
  · exact shr24_toUInt8 crc
  · exact shr8_toUInt8 t

/-- **All 256 check-byte outcomes**: for every key state, every 11 leading header bytes and every
value `c` of the 12th plaintext header byte, `validate` accepts iff `c` is the validator's byte
(and then hands over the rest of the input with the keys advanced over the header); otherwise it
reports a wrong password. Never an error or a panic once 12 bytes are there. -/
theorem check_byte_all (k : Keys) (hdr11 rest : Bytes) (c : UInt8) (v : Validator)
    (h : hdr11.length = 11) :
    Reader.validate ⟨(encryptAll k (hdr11 ++ [c])).1 ++ rest, k⟩ v =
      if c = v.byte then .ok (some ⟨rest, (encryptAll k (hdr11 ++ [c])).2⟩) else .ok none := by
  unfold Reader.validate
  simp only []
  rw [rdN_append' 12 _ _ (by rw [encryptAll_length, List.length_append, h]; rfl)]
  simp only [decryptAll_encryptAll]
  have e : (hdr11 ++ [c])[11]? = some c := by
    rw [List.getElem?_append_right (by omega), h]; rfl
  rw [e]
  by_cases hc : c = v.byte
  · rw [if_pos hc, if_pos (by rw [hc])]
  · rw [if_neg hc, if_neg (by intro x; exact hc (Option.some.inj x))]

/-- Every check byte is reachable by a chosen CRC (resp. DOS time), so the 256 outcomes above are
all realised by entries. -/
theorem check_byte_reachable (c : UInt8) :
    (Validator.pkzipCrc32 (c.toUInt32 <<< 24)).byte = c ∧
    (Validator.infoZipMsdosTime (c.toUInt16 <<< 8)).byte = c := by
  have hc := c.toNat_lt
  constructor <;> apply UInt8.toNat_inj.mp
  -- a byte shifted to the top of the word and back: nothing is lost on the way up
  · show ((c.toUInt32 <<< 24) >>> 24).toUInt8.toNat = c.toNat
    rw [UInt32.toNat_toUInt8, UInt32.toNat_shiftRight, UInt32.toNat_shiftLeft, UInt8.toNat_toUInt32]
    show (c.toNat <<< 24 % 2 ^ 32) >>> 24 % 2 ^ 8 = c.toNat
    rw [Nat.shiftLeft_eq, Nat.mod_eq_of_lt (show c.toNat * 2 ^ 24 < 2 ^ 8 * 2 ^ 24 from Nat.mul_lt_mul_of_pos_right hc (by decide)), Nat.shiftRight_eq_div_pow,
      Nat.mul_div_cancel _ (by decide), Nat.mod_eq_of_lt hc]
  · show ((c.toUInt16 <<< 8) >>> 8).toUInt8.toNat = c.toNat
    rw [UInt16.toNat_toUInt8, UInt16.toNat_shiftRight, UInt16.toNat_shiftLeft, UInt8.toNat_toUInt16]
    show (c.toNat <<< 8 % 2 ^ 16) >>> 8 % 2 ^ 8 = c.toNat
    rw [Nat.shiftLeft_eq, Nat.mod_eq_of_lt (show c.toNat * 2 ^ 8 < 2 ^ 8 * 2 ^ 8 from Nat.mul_lt_mul_of_pos_right hc (by decide)), Nat.shiftRight_eq_div_pow,
      Nat.mul_div_cancel _ (by decide), Nat.mod_eq_of_lt hc]

/-- A short entry (fewer than 12 stored bytes) is an I/O error (`UnexpectedEof`), not a panic. -/
theorem short_header_is_eof (r : Reader) (v : Validator) (h : r.file.length < 12) :
    r.validate v = .err (.io .unexpectedEof) := by
  unfold Reader.validate rdN
  rw [if_neg (by omega)]

/-! ### Wrong password -/

/-- The wrong-password clause of the property **as written** ("a different password is either rejected
up front or ends in a read error, never a completed read of other bytes"), over the model: for an
entry the writer produced from `data` under `pw`, reading it under any other password never completes
with bytes other than `data`. -/
def WrongPasswordClause : Prop :=
  ∀ (pw wrong data stored d : Bytes), wrong ≠ pw →
    writeEntry pw [data] (Crc32.crc32 data) = .ok stored →
    readStoredEntry (some wrong) true false (Crc32.crc32 data) 0 stored = .ok (some d) → d = data

/-- **The literal clause is FALSE (format-inherent; known finding K-H zipcrypto-crc-collision).**
ZipCrypto has no authentication besides the 1-byte header check and the CRC-32 of the plaintext: a
wrong password that passes the check byte (1 in 256) and whose decryption happens to have the declared
CRC-32 (1 in 2^32) completes with other bytes.  Kernel-checked witness (replayed on the crate by
`corpus/zc.ops`): password "correct horse", content 93 ce 56 00 00 08 42 1c (CRC-32 0x5a854337); the
password "wrong-205" passes the check and decrypts the entry to 3d f7 5f b8 de 38 34 8e, whose CRC-32 is
0x5a854337 as well. No repair exists inside the format; what holds instead is
`wrong_password_never_completes_other_partial`. -/
theorem wrong_password_clause_false : ¬ WrongPasswordClause := by
  intro h
  have w : ∃ stored,
      writeEntry [0x63, 0x6f, 0x72, 0x72, 0x65, 0x63, 0x74, 0x20, 0x68, 0x6f, 0x72, 0x73, 0x65]
        [[0x93, 0xce, 0x56, 0x00, 0x00, 0x08, 0x42, 0x1c]]
        (Crc32.crc32 [0x93, 0xce, 0x56, 0x00, 0x00, 0x08, 0x42, 0x1c]) = .ok stored ∧
      readStoredEntry (some [0x77, 0x72, 0x6f, 0x6e, 0x67, 0x2d, 0x32, 0x30, 0x35]) true false
        (Crc32.crc32 [0x93, 0xce, 0x56, 0x00, 0x00, 0x08, 0x42, 0x1c]) 0 stored =
        .ok (some [0x3d, 0xf7, 0x5f, 0xb8, 0xde, 0x38, 0x34, 0x8e]) :=
    ⟨[0x72, 0xd0, 0x0c, 0xfd, 0x00, 0xff, 0xba, 0x04, 0x6f, 0x88, 0x33, 0xee, 0x6a, 0x59, 0x8e, 0xc9,
      0xa2, 0xa4, 0xc8, 0x60], by decide +kernel⟩
  obtain ⟨stored, hw, hr⟩ := w
  have := h _ _ _ _ _ (by decide) hw hr
  exact absurd this (by decide)

/-- The witness spelled out: both byte strings have the declared CRC-32. -/
example : Crc32.crc32 [0x93, 0xce, 0x56, 0x00, 0x00, 0x08, 0x42, 0x1c] = 0x5a854337 ∧
    Crc32.crc32 [0x3d, 0xf7, 0x5f, 0xb8, 0xde, 0x38, 0x34, 0x8e] = 0x5a854337 := by decide +kernel

/-- **What holds instead of the wrong-password clause** (`_partial`: weaker than the property's wording,
which `wrong_password_clause_false` refutes): whatever password is supplied — right, wrong or none —
reading a Stored entry never panics (`open_never_panics`), a password whose decrypted 12th header
byte differs from the validator's byte is rejected up front (`check_byte_all`: exactly one of the 256
byte values passes, i.e. the check byte admits 1/256 of wrong passwords), and **a read that completes
returns bytes whose CRC-32 is the declared one**.  The CRC layer (C04, modelled here by
`crcCheckedRead`) is what refuses the rest.  A *different* completed plaintext is therefore exactly a
CRC-32 collision with the declared value under a password passing the check byte: about 2^-40 per
random (password, wrong password) pair, so not reachable by random testing but constructible.

Full statement (false, kept visible): `WrongPasswordClause`. -/
theorem wrong_password_never_completes_other_partial (pw : Option Bytes) (enc dd : Bool) (crc : UInt32)
    (t : UInt16) (raw d : Bytes)
    (h : readStoredEntry pw enc dd crc t raw = .ok (some d)) : Crc32.crc32 d = crc := by
  unfold readStoredEntry at h
  split at h
  · exact crcCheckedRead_complete (o := .ok _) h
  · exact crcCheckedRead_complete (o := .ok _) h
  · cases h
  · cases h
  · cases h

/-! ### Every method (the decoder is a parameter) -/

/-- For a Stored entry the decoder is the identity: `readEntry` is `readStoredEntry`. -/
theorem readEntry_stored (pw : Option Bytes) (enc dd : Bool) (crc : UInt32) (t : UInt16) (raw : Bytes) :
    readEntry Out.ok pw enc dd crc t raw = readStoredEntry pw enc dd crc t raw := by
  unfold readEntry readStoredEntry
  cases openEntry pw enc dd crc t raw with
  | ok o => cases o <;> rfl
  | err e => rfl
  | panic s => rfl

/-- **Right password, every method**: the writer buffers the compressor's output `comp`; if the
decoder maps `comp` back to `data` (codec round trip: external code, hypothesis) and the declared CRC
is `data`'s, then what the writer stored opens with the password and the complete read returns exactly
`data` — for every password, compressed payload, write pattern and DOS time. -/
theorem read_right_password_any_method (decode : Bytes → Out Bytes) (pw : Bytes) (writes : List Bytes)
    (data : Bytes) (t : UInt16) (hd : decode writes.flatten = .ok data) :
    ∃ stored, writeEntry pw writes (Crc32.crc32 data) = .ok stored ∧
      readEntry decode (some pw) true false (Crc32.crc32 data) t stored = .ok (some data) := by
  obtain ⟨stored, r, hw, ho, hr⟩ := open_right_password pw writes (Crc32.crc32 data) t
  refine ⟨stored, hw, ?_⟩
  unfold readEntry
  rw [ho]
  simp only []
  rw [hr, hd]
  simp only [Out.bind_ok, crcCheckedRead_ok rfl]
  rfl

/-- Non-vacuity: a toy codec (compress = reverse) through the whole path, password "pw". -/
example : ∃ stored, writeEntry [0x70, 0x77] [[3, 2], [1]] (Crc32.crc32 [1, 2, 3]) = .ok stored ∧
    readEntry (fun b => .ok b.reverse) (some [0x70, 0x77]) true false (Crc32.crc32 [1, 2, 3]) 0 stored =
      .ok (some [1, 2, 3]) :=
  read_right_password_any_method (fun b => .ok b.reverse) _ _ _ _ rfl

/-- **Any password, every method, any decoder** (`_partial` for the same reason as
`wrong_password_never_completes_other_partial`): a read
that completes returned bytes whose CRC-32 is the declared one; a decoder error or a CRC mismatch is
the read's error; nothing panics unless the decoder does. -/
theorem completed_read_has_declared_crc_partial (decode : Bytes → Out Bytes) (pw : Option Bytes)
    (enc dd : Bool) (crc : UInt32) (t : UInt16) (raw d : Bytes)
    (h : readEntry decode pw enc dd crc t raw = .ok (some d)) : Crc32.crc32 d = crc := by
  unfold readEntry at h
  split at h
  · exact crcCheckedRead_complete h
  · exact crcCheckedRead_complete h
  · cases h
  · cases h
  · cases h

/-- `validate` has exactly three outcomes: `io:eof`, wrong password, or a valid reader. -/
theorem validate_outcomes (r : Reader) (v : Validator) :
    r.validate v = .err (.io .unexpectedEof) ∨ r.validate v = .ok none ∨
      ∃ r', r.validate v = .ok (some r') := by
  unfold Reader.validate
  cases rdN 12 r.file with
  | none => exact Or.inl rfl
  | some x =>
    simp only []
    split
    · exact Or.inr (Or.inr ⟨_, rfl⟩)
    · exact Or.inr (Or.inl rfl)

/-- Opening with any password on any stored bytes never panics: the result is a ZipCrypto reader,
`InvalidPassword`, `io:eof` (entry shorter than its header), plaintext, or password-required. -/
theorem open_never_panics (pw : Option Bytes) (enc dd : Bool) (crc : UInt32) (t : UInt16) (raw : Bytes) :
    (openEntry pw enc dd crc t raw).isPanic = false := by
  unfold openEntry openDecision makeCryptoReader
  cases pw <;> cases enc <;> simp only [] <;> try rfl
  rename_i pw
  rcases validate_outcomes (Reader.new raw pw) (chooseValidator dd crc t) with h | h | ⟨r', h⟩ <;>
    rw [h] <;> rfl

/-! ### Non-vacuity: concrete instances (the same vectors are replayed on the implementation by the
`zc` stream; the ciphertext below is also what CPython's `zipfile` decrypter inverts) -/

/-- Password "pw", content 01 02 03 (CRC-32 0x55BC801D): the stored bytes. -/
example : writeEntry [0x70, 0x77] [[1, 2, 3]] 0x55BC801D =
    .ok [0xe3, 0xc1, 0xad, 0xd0, 0x90, 0xc1, 0xc8, 0x17, 0xc2, 0x8c, 0xf3, 0x64, 0xb1, 0x0f, 0xec] := by
  decide +kernel

example : Crc32.crc32 [1, 2, 3] = 0x55BC801D := by decide

/-- Right password, PKZIP validator: the payload comes back; split writes give the same bytes. -/
example : decrypt [0x70, 0x77] (.pkzipCrc32 0x55BC801D)
    [0xe3, 0xc1, 0xad, 0xd0, 0x90, 0xc1, 0xc8, 0x17, 0xc2, 0x8c, 0xf3, 0x64, 0xb1, 0x0f, 0xec] =
    .ok (some [1, 2, 3]) := by decide +kernel
example : writeEntry [0x70, 0x77] [[1], [], [2, 3]] 0x55BC801D = writeEntry [0x70, 0x77] [[1, 2, 3]] 0x55BC801D := by
  decide +kernel

/-- Info-ZIP validator (bit 3): the same header byte 0x55 is matched against the DOS time 0x55xx. -/
example : decrypt [0x70, 0x77] (.infoZipMsdosTime 0x5512)
    [0xe3, 0xc1, 0xad, 0xd0, 0x90, 0xc1, 0xc8, 0x17, 0xc2, 0x8c, 0xf3, 0x64, 0xb1, 0x0f, 0xec] =
    .ok (some [1, 2, 3]) := by decide +kernel

/-- A wrong password ("px") is rejected by the check byte. -/
example : decrypt [0x70, 0x78] (.pkzipCrc32 0x55BC801D)
    [0xe3, 0xc1, 0xad, 0xd0, 0x90, 0xc1, 0xc8, 0x17, 0xc2, 0x8c, 0xf3, 0x64, 0xb1, 0x0f, 0xec] =
    .ok none := by decide +kernel

/-- The wrong password 00 1f *passes* the 1-byte check (decrypts the header to …55) and yields
9f ca 25, which the CRC gate then refuses: a read error, not a completed read of other bytes. -/
example : readStoredEntry (some [0x00, 0x1f]) true false 0x55BC801D 0
    [0xe3, 0xc1, 0xad, 0xd0, 0x90, 0xc1, 0xc8, 0x17, 0xc2, 0x8c, 0xf3, 0x64, 0xb1, 0x0f, 0xec] =
    .err (.io .other) := by decide +kernel

/-- Right password through the whole reading path. -/
example : readStoredEntry (some [0x70, 0x77]) true false 0x55BC801D 0
    [0xe3, 0xc1, 0xad, 0xd0, 0x90, 0xc1, 0xc8, 0x17, 0xc2, 0x8c, 0xf3, 0x64, 0xb1, 0x0f, 0xec] =
    .ok (some [1, 2, 3]) := by decide +kernel

/-- The hypotheses of `foreign_entry_decrypts` are satisfiable with both rules. -/
example : Pkware.HeaderOk (List.replicate 11 7 ++ [0x55]) (Pkware.checkByte false 0x55BC801D 0) ∧
    Pkware.HeaderOk (List.replicate 11 7 ++ [0x55]) (Pkware.checkByte true 0 0x5512) := by
  unfold Pkware.HeaderOk; decide

/-- An 11-byte encrypted entry: `io:eof` from `validate`, through `by_index_decrypt` as well. -/
example : openEntry (some [0x70, 0x77]) true false 0 0 (List.replicate 11 0xAA) =
    .err (.io .unexpectedEof) := by decide +kernel

/-- Empty and binary passwords are ordinary passwords. -/
example : derive [] = Keys.new := rfl
example : derive [0x00] ≠ derive [] ∧ derive [0xff, 0x00] ≠ derive [0xff] := by decide +kernel

/-- A short read pattern (1 byte at a time, then a 0-byte read, then the rest). -/
example (r : Reader) (h : r.file.length = 5) : r.readWith [1, 1, 0, 1, 7] = r.readAll :=
  read_chunking_irrelevant r _ (by rw [h]; decide)

/-- `check_byte_all` instantiated: with the header 0…0 ++ [c] only c = 0x55 opens a CRC-0x55…… entry. -/
example : Reader.validate ⟨(encryptAll Keys.new (List.replicate 11 0 ++ [0x54])).1 ++ [9], Keys.new⟩
    (.pkzipCrc32 0x55BC801D) = .ok none := by
  rw [check_byte_all Keys.new (List.replicate 11 0) [9] 0x54 _ rfl]; rfl

end ZipVerif.Props.C15
