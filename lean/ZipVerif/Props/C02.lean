import ZipVerif.Props.C01
/-
C02 — The writer's output is a valid archive (Level 1).

By `C01.writer_emits_layout` the sink after `finish` IS `Spec.Zip.build (WL.layoutOf es gap c [])`.
The facts below are the self-consistency properties of that output, each as a short theorem:
every value is representable (`writer_output_valid`), local and central record of an entry agree,
the UTF-8 flag is set exactly for non-ASCII names, offsets / counts / sizes in the central directory
and the end records are the computed ones and point where they should, ZIP64 records are present
exactly when needed, CRC and sizes are those of the plaintext, and what cannot be represented is
rejected with an error before anything is written (`unrepresentable_rejected`).

`Props/C02Base.lean` states the rejections on C12 alone, call by call on every sink and fault index;
`Props/C02Full.lean` has the layout and validity theorems for the whole call alphabet (extra data,
alignment, ZipCrypto).
-/

namespace ZipVerif.Props.C02
open ZipVerif ZipVerif.Model ZipVerif.Spec.Zip ZipVerif.WL
open ZipVerif.Props.C12 (Call step runCalls)

/-! ## The output is a representable, readable layout -/

/-- After any Level-1 script from a fresh writer, if `finish` returns
`Ok`: the sink is the layout computed from the calls; every entry's name fits its 16-bit length
field, there are no entry comments, no extra data, no data descriptors, no forced ZIP64 fields, no
encryption bit, the method is not the AES pseudo-method; the archive comment fits its length field. -/
theorem writer_output_valid (ext : WExt) (calls : List Call) (hc : ∀ c ∈ calls, Level1R c)
    (ha : ∀ c ∈ calls, c.Admissible) (es : List Spec.Zip.Entry) (gap c : Bytes)
    (hg : (C01.finalGhost ext calls).close ext = some (es, gap, c))
    (v : Option Nat) (s' : WState) (d' : Dev)
    (hfin : step ext .finish (runCalls ext calls WState.init none (Dev.ofBytes [])).2.1 none
      (runCalls ext calls WState.init none (Dev.ofBytes [])).2.2 = (.ok (.ok v, s'), d')) :
    d'.buf = build (layoutOf es gap c []) ∧ (∀ e ∈ es, EntryOk e) ∧ c.length ≤ 65535 ∧
    (layoutOf es gap c []).Readable := by
  obtain ⟨hbuf, hclen, _⟩ := C01.writer_emits_layout_fresh ext calls (fun c h => (hc c h).level1) ha
    es gap c hg v s' d' hfin
  have hgood : Good (C01.finalGhost ext calls) :=
    good_run ext calls _ _ hc (show Good (.idle [] [] []) from fun e he => by cases he)
  exact ⟨hbuf, hgood.close hg, hclen, fun e he => (hgood.close hg e he).readable⟩

/-- Under the size bounds (archive and every plaintext below 2^63 bytes) every value of the layout emitted from
`EntryOk` entries fits the field it is stored in (`Layout.Fits`). -/
theorem writer_output_fits {es : List Spec.Zip.Entry} (gap c : Bytes) (hes : ∀ e ∈ es, EntryOk e)
    (hc : c.length ≤ 65535) (hsize : (build (layoutOf es gap c [])).length < 2 ^ 63)
    (hu : ∀ e ∈ es, e.usize.toNat < 2 ^ 63) : (layoutOf es gap c []).Fits :=
  (layout_fits_readable gap c [] hes hc hsize hu).1

/-! ## Local and central record of an entry agree -/

theorem localRecord_fields (e : Spec.Zip.Entry) (hd : e.desc = .none) :
    localRecord e =
      le32 sigLocal ++ (le16 (e.localVersion.getD e.versionNeeded) ++ (le16 e.flags ++ (le16 e.method ++
      (le16 e.time ++ (le16 e.date ++ (le32 e.crc ++
      ((if e.localZip64 then le32 0xFFFFFFFF ++ le32 0xFFFFFFFF
        else le32 (lo32 e.csize) ++ le32 (lo32 e.usize)) ++
      (le16 (UInt16.ofNat e.name.length) ++ (le16 (UInt16.ofNat e.localExtraAll.length) ++
      (e.name ++ e.localExtraAll)))))))))) := by
  unfold localRecord Entry.localExtraAll Entry.flagsOut Entry.hasDesc
  rw [hd]
  simp only [bne_self_eq_false, Bool.false_eq_true, if_false, List.append_assoc]

/-- Flags, method, time, date and CRC stand at offset 6 of the local and at
offset 8 of the central record, and are the same 12 bytes; the names are the same bytes, with the same
length field; and — unless the entry goes through ZIP64 — so are the two 32-bit sizes. -/
theorem local_central_agree (e : Spec.Zip.Entry) (hd : e.desc = .none) (off : UInt64) :
    ((localRecord e).drop 6).take 12 = ((centralRecord e off).drop 8).take 12 ∧
    ((localRecord e).drop 26).take 2 = ((centralRecord e off).drop 28).take 2 ∧
    ((localRecord e).drop 30).take e.name.length = ((centralRecord e off).drop 46).take e.name.length ∧
    (e.localZip64 = false → e.zU = false → e.zC = false →
      ((localRecord e).drop 18).take 8 = ((centralRecord e off).drop 20).take 8) := by
  have hfo : e.flagsOut = e.flags := by simp [Entry.flagsOut, Entry.hasDesc, hd]
  -- with the `if` of the local sizes pushed into the two fields, every prefix is a list of known length
  have hif : ∀ (c : Bool) (a b a' b' : UInt32), (if c then le32 a ++ le32 b else le32 a' ++ le32 b') =
      le32 (if c then a else a') ++ le32 (if c then b else b') := by
    intro c a b a' b'; cases c <;> rfl
  rw [localRecord_fields e hd, centralRecord_eq, hfo, hif]
  generalize e.localExtraAll = X
  generalize e.centralExtraAll off ++ e.comment = Y
  refine ⟨?_, ?_, ?_, ?_⟩
  · simp only [le16, le32, List.cons_append, List.nil_append, List.drop_succ_cons, List.drop_zero,
      List.take_succ_cons, List.take_zero]
  · simp only [le16, le32, List.cons_append, List.nil_append, List.drop_succ_cons, List.drop_zero,
      List.take_succ_cons, List.take_zero]
  · simp only [le16, le32, List.cons_append, List.nil_append, List.drop_succ_cons, List.drop_zero,
      List.take_left']
  · intro h1 h2 h3
    rw [h1, h2, h3]
    simp only [le16, le32, List.cons_append, List.nil_append, List.drop_succ_cons, List.drop_zero,
      List.take_succ_cons, List.take_zero, Bool.false_eq_true, if_false]

/-! ## UTF-8 flag ⇔ name not ASCII -/

/-- Bit 11 of the flag word both header writers emit is set exactly when the
name contains a byte ≥ 0x80 (`String::is_ascii` is false). -/
theorem utf8_flag_iff (f : FileData) : (flagOf f &&& 0x0800 != 0) = !isAscii f.fileName := by
  unfold flagOf
  cases isAscii f.fileName <;> cases f.encrypted <;> decide

theorem emitted_flags (f : FileData) (dp : UInt16) (gap lx data : Bytes) (lv : UInt16) :
    (specEntry f dp gap lx data lv).flagsOut = flagOf f := rfl

/-! ## Offsets, counts and sizes are the computed ones -/

/-- The end-of-central-directory record of the emitted layout, field by field: entry count, size and
offset of the central directory (saturated to 0xFFFF / 0xFFFFFFFF when ZIP64 records carry the true
values), comment length and comment. -/
theorem eocd_fields (es : List Spec.Zip.Entry) (gap c : Bytes) :
    (layoutOf es gap c []).eocd =
      le32 sigEocd ++ le16 0 ++ le16 0 ++
      le16 (if es.length > 0xFFFF then 0xFFFF else UInt16.ofNat es.length) ++
      le16 (if es.length > 0xFFFF then 0xFFFF else UInt16.ofNat es.length) ++
      le32 (if (centralBytes es (localOffsets es 0)).length > 0xFFFFFFFF then 0xFFFFFFFF
            else UInt32.ofNat (centralBytes es (localOffsets es 0)).length) ++
      le32 (if (localsBytes es).length + gap.length > 0xFFFFFFFF then 0xFFFFFFFF
            else UInt32.ofNat ((localsBytes es).length + gap.length)) ++
      le16 (UInt16.ofNat c.length) ++ c := by
  unfold Layout.eocd
  rw [layoutOf_count, layoutOf_cdOffset, layoutOf_cdSize]
  simp only [layoutOf, Bool.false_or, decide_eq_true_eq]

/-- The central directory really starts at the recorded offset and has the recorded size; the end
records follow it. -/
theorem central_directory_placed (es : List Spec.Zip.Entry) (gap c : Bytes) :
    (build (layoutOf es gap c [])).drop ((localsBytes es).length + gap.length) =
      centralBytes es (localOffsets es 0) ++
        ((layoutOf es gap c []).end64 ++ ((layoutOf es gap c []).eocd ++ [])) := by
  have h := drop_cdStart (layoutOf es gap c [])
  rwa [show (layoutOf es gap c []).cdStart = (localsBytes es).length + gap.length by
    simp [Layout.cdStart, layoutOf_cdOffset]; rfl] at h

/-- Every recorded local-header offset points at that entry's local header, which is followed by its
data: for the entry after `es1`, the offset `localOffsets` computes (and `centralBytes` records) is the
position of its `localRecord`. -/
theorem offsets_point_to_headers (es1 es2 : List Spec.Zip.Entry) (e : Spec.Zip.Entry) (gap c : Bytes) :
    ∃ rest, (build (layoutOf (es1 ++ e :: es2) gap c [])).drop
        ((localsBytes es1).length + e.gapBefore.length) = localRecord e ++ (e.data ++ rest) := by
  obtain ⟨rest, h⟩ := drop_local (layoutOf (es1 ++ e :: es2) gap c []) es1 es2 e rfl
  refine ⟨rest, ?_⟩
  rw [← h]
  congr 1
  simp [layoutOf]

/-! ## ZIP64 records exactly when needed -/

/-- **ZIP64 end records are present exactly when needed**: more than 0xFFFF entries, or a central
directory size or offset above 0xFFFFFFFF. -/
theorem zip64_end_iff_needed (es : List Spec.Zip.Entry) (gap c : Bytes) :
    ((layoutOf es gap c []).end64 ≠ [] ↔
      (es.length > 0xFFFF ∨ (centralBytes es (localOffsets es 0)).length > 0xFFFFFFFF ∨
       (localsBytes es).length + gap.length > 0xFFFFFFFF)) := by
  have hn := layoutOf_needs64 es gap c []
  unfold Layout.end64
  cases h : (layoutOf es gap c []).needs64 with
  | true =>
    rw [h] at hn
    simp only [if_true]
    constructor
    · intro _
      rcases Bool.or_eq_true_iff.mp hn.symm with h1 | h1
      · left; exact of_decide_eq_true h1
      · have := of_decide_eq_true h1; omega
    · intro _; simp [le32]
  | false =>
    rw [h] at hn
    simp only [Bool.false_eq_true, if_false, ne_eq, not_true_eq_false, false_iff]
    obtain ⟨h1, h2⟩ := Bool.or_eq_false_iff.mp hn.symm
    have h1' : ¬ es.length > 0xFFFF := of_decide_eq_false h1
    have h2' := of_decide_eq_false h2
    omega

/-- **The central ZIP64 extended-information record of an emitted entry is present exactly when one
of its three values (sizes, header offset) is 0xFFFFFFFF or more**, the value that marks a 32-bit field
as moved to the record (which of them it then holds: `Spec.Zip.Entry.centralZ64`). -/
theorem central_zip64_iff_needed (e : Spec.Zip.Entry) (hz : e.z64 = (false, false, false)) (off : UInt64) :
    (e.centralZ64 off = [] ↔ (e.usize < 0xFFFFFFFF ∧ e.csize < 0xFFFFFFFF ∧ off < 0xFFFFFFFF)) := by
  unfold Entry.centralZ64 Entry.zU Entry.zC Entry.zO
  rw [hz]
  simp only [Bool.false_or]
  -- the three comparisons fix the record's length field `n`; it is 0, and the record empty, only when all three fail
  by_cases h1 : e.usize ≥ (0xFFFFFFFF : UInt64) <;>
  by_cases h2 : e.csize ≥ (0xFFFFFFFF : UInt64) <;>
  by_cases h3 : off ≥ (0xFFFFFFFF : UInt64) <;>
  simp [h1, h2, h3, le16, UInt64.not_le.mp, UInt64.not_lt] <;>
  first
  | exact ⟨UInt64.not_le.mp h1, UInt64.not_le.mp h2, UInt64.not_le.mp h3⟩
  | (intro h; try exact absurd h (UInt64.not_lt.mpr ‹_›))
  | skip

/-- The local ZIP64 record is present exactly for entries started with `large_file(true)`. -/
theorem local_zip64_iff_large (f : FileData) (dp : UInt16) (gap data : Bytes) (lv : UInt16) :
    (specEntry f dp gap [] data lv).localZip64 = f.largeFile ∧
    (specEntry f dp gap [] data lv).localExtraAll.length = (if f.largeFile then 20 else 0) := by
  refine ⟨rfl, ?_⟩
  unfold Entry.localExtraAll
  cases h : f.largeFile <;> simp [specEntry, h]

/-! ## Stored CRC and sizes are those of the plaintext -/

/-- For an entry started through the writer: the recorded CRC-32 is the
CRC-32 of the plaintext delivered by `write`, the uncompressed size its length, the compressed size
the length of the stored bytes, which are the plaintext itself for `Stored` and the encoder's output
otherwise. -/
theorem stored_crc_size (ext : WExt) (e : Spec.Zip.Entry) (f : FileData) (plain : Bytes)
    (h : OriginRel ext (.written f plain) e) :
    e.crc = Spec.Crc32.crc32 plain ∧ e.usize = UInt64.ofNat plain.length ∧
    e.csize = UInt64.ofNat e.data.length ∧ e.name = f.fileName ∧ e.method = f.method.toU16 ∧
    (f.method = .stored → e.data = plain) ∧
    (f.method ≠ .stored → e.data = ext.compress f.method (effLevel f.method f.level) plain) := by
  obtain ⟨dp, gap, _, he⟩ := h
  subst he
  refine ⟨rfl, rfl, rfl, rfl, rfl, ?_, ?_⟩
  · intro hm; show dataOf ext f plain = plain; rw [dataOf, if_pos hm]
  · intro hm; show dataOf ext f plain = _; rw [dataOf, if_neg hm]

/-- A raw copy keeps its source's CRC, sizes and method, and stores exactly the copied bytes. -/
theorem raw_copy_values (ext : WExt) (e : Spec.Zip.Entry) (f : FileData) (data : Bytes)
    (h : OriginRel ext (.raw f data) e) :
    e.crc = f.crc32 ∧ e.usize = f.uncompressedSize ∧ e.data = data ∧ e.method = f.method.toU16 := by
  obtain ⟨dp, gap, _, he⟩ := h
  subst he
  exact ⟨rfl, rfl, rfl, rfl⟩

/-! ## What cannot be represented is rejected -/

/-- A name longer than 65535 bytes makes `start_file`,
`add_directory` (for the name with its `/`), `add_symlink` and `raw_copy_file` return
`Err(InvalidArchive)` without any I/O and without changing the writer; a comment longer than 65535
bytes makes `finish` do the same. -/
theorem unrepresentable_rejected (ext : WExt) (s : WState) :
    (∀ n o, n.length > 65535 → startFile ext n o s = pure (.error .invalidArchive, s)) ∧
    (∀ n o, (dirName n).length > 65535 → addDirectory ext n o s = pure (.error .invalidArchive, s)) ∧
    (∀ n t o, n.length > 65535 → addSymlink ext n t o s = pure (.error .invalidArchive, s)) ∧
    (∀ src raw n, n.length > 65535 → rawCopy ext src raw n s = pure (.error .invalidArchive, s)) ∧
    (s.comment.length > 65535 → finish ext s = pure (.error .invalidArchive, s)) := by
  have hse : ∀ n o raw, n.length > 65535 →
      startEntry ext n o raw s = pure (.error .invalidArchive, s) := by
    intro n o raw h; unfold startEntry; rw [if_pos h]
  refine ⟨?_, ?_, ?_, ?_, finish_long_comment ext s⟩
  · intro n o h; unfold startFile; dsimp only; rw [hse _ _ _ h]; rfl
  · intro n o h
    unfold addDirectory
    show (startEntry ext (dirName n) _ none s >>= _) = _
    rw [hse _ _ _ h]; rfl
  · intro n t o h; unfold addSymlink; dsimp only; rw [hse _ _ _ h]; rfl
  · intro src raw n h; unfold rawCopy; dsimp only; rw [hse _ _ _ h]; rfl

theorem rejected_no_io {α} (r : α) (fa : Option Nat) (d : Dev) : (pure r : M α) fa d = (.ok r, d) := rfl

/-- the entries `script1` of C01 emits satisfy `EntryOk`, agree locally/centrally (hypothesis
`desc = none`), and carry no ZIP64 records -/
example :
    (match (C01.finalGhost C01.wext1 C01.script1).close C01.wext1 with
     | some (es, gap, c) =>
       es.all (fun e => e.desc == .none && e.centralExtra == [] && e.localExtra == [] &&
         e.name.length ≤ 0xFFFF && e.method != 99 && (e.centralZ64 0).isEmpty) &&
       (layoutOf es gap c []).end64.isEmpty
     | none => false) = true := by decide +kernel

/-- a non-ASCII name sets bit 11, an ASCII one does not -/
example : flagOf { (default : FileData) with fileName := [0xc3, 0xa9] } = 0x0800 ∧
    flagOf { (default : FileData) with fileName := [0x61] } = 0 := by decide

/-- the rejections of `unrepresentable_rejected` happen on concrete input: a 65536-byte name, a
65536-byte comment -/
example :
    (C12.classes [.startFile (List.replicate 65536 0x61) (C12.opts .stored none)]) = [.err] ∧
    (C12.classes [.setComment (List.replicate 65536 0x61), .finish]) = [.ok, .err] ∧
    (runCalls C12.ext0 [.setComment (List.replicate 65536 0x61), .finish] WState.init none
      (Dev.ofBytes [])).2.2.buf = [] := by
  -- the length is all that matters (`unrepresentable_rejected`), and `length_replicate` gives it without building the list
  have h : ∀ n : Bytes, n.length > 65535 →
      (C12.classes [.startFile n (C12.opts .stored none)]) = [.err] ∧
      (C12.classes [.setComment n, .finish]) = [.ok, .err] ∧
      (runCalls C12.ext0 [.setComment n, .finish] WState.init none (Dev.ofBytes [])).2.2.buf = [] := by
    intro n hn
    have s1 : step C12.ext0 (.startFile n (C12.opts .stored none)) WState.init none (Dev.ofBytes []) =
        (.ok (.error .invalidArchive, WState.init), Dev.ofBytes []) := by
      show C12.mapStep _ _ _ _ _ = _
      unfold C12.mapStep
      rw [(unrepresentable_rejected C12.ext0 WState.init).1 n _ hn]; rfl
    have s2 : step C12.ext0 (.setComment n) WState.init none (Dev.ofBytes []) =
        (.ok (.ok none, { WState.init with comment := n }), Dev.ofBytes []) := rfl
    have s3 : step C12.ext0 .finish { WState.init with comment := n } none (Dev.ofBytes []) =
        (.ok (.error .invalidArchive, { WState.init with comment := n }), Dev.ofBytes []) := by
      show C12.mapStep _ _ _ _ _ = _
      unfold C12.mapStep
      rw [(unrepresentable_rejected C12.ext0 _).2.2.2.2 hn]; rfl
    simp only [C12.classes, runCalls, s1, s2, s3]
    exact ⟨rfl, rfl, rfl⟩
  exact h _ (by rw [List.length_replicate]; decide)

end ZipVerif.Props.C02
