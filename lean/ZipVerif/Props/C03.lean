import ZipVerif.Lemmas.ReadWf
/-
C03 — Well-formed archives from other producers are read faithfully.

The statements — opening (`reader_on_wf`), reading entries (`reader_entry_*`), lookup by name — over every layout
`l` of the format specification; the arguments are `Lemmas/ReadWf.lean` (`ZipArchive::new` and `by_index*` on
`build l`) and what it imports.  `Props/C03Z.lean` restates the opening
under the weaker `ReadableZ` (redundant ZIP64 records), `Props/C03Order.lean` for layouts whose directory has its
own order.

* the producer is `Spec.Zip.build : Layout → Bytes` (Spec/Zip.lean, written from APPNOTE, validated
  against an independent Rust builder, the real crate and CPython `zipfile` by the `spec` stream);
* what the reader must report is `Spec.Zip.viewOf` (Spec/ZipView.lean), written from the layout alone;
* the reader is `Model.openArchive`, `Model.byIndexRaw`, `Model.byIndexRead`, `Model.byNameRead`,
  `Model.Archive.indexOfName` (Model/Reader.lean; tied to the crate by TRANSLATION — Tie/Parsers, Tie/ReaderGlue, ReaderGlue2, ReaderApi, Accessors: `ZipArchive::new`, `find_content`, `by_index*`, `by_name*`, the accessors — and by the `read` stream).
-/

namespace ZipVerif.Props.C03
open ZipVerif ZipVerif.Model ZipVerif.Spec.Zip

/-! ## 0. Hypotheses -/

/-- **"Names/comments do not embed ZIP record signatures"** — `Spec.Zip.NoFalseSig` (defined in
Spec/ZipView.lean so that the driver can evaluate it); its explicit form is `noFalseSig_iff` below. -/
abbrev NoFalseSig (l : Layout) : Prop := Spec.Zip.NoFalseSig l

/-- The explicit, decidable form the reader's control flow needs (DESIGN §4.3):
(i)   the real end record lies inside the 65557-byte search window, and no end-of-central-directory
      signature starts at any offset after the real record's start and ≤ len − 22;
(ii)  without ZIP64 end records: the four bytes at `len − (42 + comment.length)`, where
      `get_directory_counts` probes for a ZIP64 locator, are not the locator signature;
(iii) with ZIP64 end records: no ZIP64 end-record signature in `[nominal, real)`, the range the forward
      search scans first (empty without a prefix). -/
theorem noFalseSig_iff (l : Layout) :
    NoFalseSig l ↔
      (l.comment.length + l.trailing.length ≤ 65535 ∧
      (∀ k, k < l.comment.length + l.trailing.length →
        u32At (build l) (l.eocdPos + 1 + k) ≠ some sigEocd) ∧
      (l.needs64 = false → 42 + l.comment.length ≤ (build l).length →
        u32At (build l) ((build l).length - 42 - l.comment.length) ≠ some sigLocator) ∧
      (l.needs64 = true → ∀ k, k < l.pre.length →
        u32At (build l) (l.cdOffset + l.cdSize + k) ≠ some sigEocd64)) := Iff.rfl

/-- Part (i) holds when nothing follows the 22 fixed bytes of the end record. -/
theorem noFalseSig_i_of_empty_comment (l : Layout) (hc : l.comment = []) (ht : l.trailing = []) :
    l.comment.length + l.trailing.length ≤ 65535 ∧
    (∀ k, k < l.comment.length + l.trailing.length →
      u32At (build l) (l.eocdPos + 1 + k) ≠ some sigEocd) := by
  rw [hc, ht]; exact ⟨by decide, fun k hk => absurd hk (by simp)⟩

/-- No ZIP64 records, empty comment, nothing trailing: only the locator probe (ii) remains. -/
theorem noFalseSig_of_empty_comment (l : Layout) (hc : l.comment = []) (ht : l.trailing = [])
    (h64 : l.needs64 = false)
    (hprobe : 42 ≤ (build l).length → u32At (build l) ((build l).length - 42) ≠ some sigLocator) :
    NoFalseSig l := by
  obtain ⟨h1, h2⟩ := noFalseSig_i_of_empty_comment l hc ht
  refine ⟨h1, h2, fun _ hl => ?_, (fun h => by rw [h64] at h; cases h)⟩
  rw [hc, List.length_nil, Nat.add_zero] at hl
  rw [hc, List.length_nil, Nat.sub_zero]
  exact hprobe hl

/-- An archive that consists of the end record alone (no entries, no prefix, no comment). -/
theorem noFalseSig_of_empty_archive (l : Layout) (hc : l.comment = []) (ht : l.trailing = [])
    (h64 : l.needs64 = false) (hlen : (build l).length < 42) : NoFalseSig l :=
  noFalseSig_of_empty_comment l hc ht h64 (fun h => absurd h (by omega))

/-- ZIP64 end records, empty comment, no prefix: the hypothesis is vacuous. -/
theorem noFalseSig_of_zip64_no_prefix (l : Layout) (hc : l.comment = []) (ht : l.trailing = [])
    (h64 : l.needs64 = true) (hp : l.pre = []) : NoFalseSig l := by
  obtain ⟨h1, h2⟩ := noFalseSig_i_of_empty_comment l hc ht
  refine ⟨h1, h2, (fun h => by rw [h64] at h; cases h), fun _ k hk => ?_⟩
  rw [hp] at hk; exact absurd hk (by simp)

/-- **Usable form: "names, comments and data do not embed ZIP record signatures".**  `NoFalseSig` holds
when (i) the end record's remaining 18 fixed bytes ++ comment ++ trailing bytes do not contain the
end-record signature, (ii) an archive without ZIP64 records contains no locator signature anywhere,
(iii) a ZIP64 archive has no prefix, or contains no ZIP64 end-record signature before the real one. -/
theorem noFalseSig_of_no_embedded_signature (l : Layout)
    (hwin : l.comment.length + l.trailing.length ≤ 65535)
    (h1 : ¬ le32 sigEocd <:+: (l.eocd ++ l.trailing).tail)
    (h2 : l.needs64 = false → ¬ le32 sigLocator <:+: build l)
    (h3 : l.needs64 = true → l.pre = [] ∨ ¬ le32 sigEocd64 <:+: (build l).take (l.end64Pos + 3)) :
    NoFalseSig l :=
  noFalseSig_of_no_embedded l hwin h1 h2 h3

/-! ## 1. Opening: (R) of DESIGN §4.3 -/

/-- For every layout whose values fit their fields (`Fits`), whose central extra
data are plain record sequences and whose entries are not WinZip-AES (`Readable`), and which embeds
no false signature (`NoFalseSig`): `ZipArchive::new` on the bytes an independent producer lays out
returns exactly the entries of the central directory, in order, each with the values recorded there
(`viewOf`), `offset()` = the length of the prepended data, and the archive comment; the device still
holds the archive.  Covered: any prefix, gaps between records, local headers that disagree with the
central ones (descriptors with zeroed fields, local ZIP64 records, different local extra data), each
of the 2^3 subsets of ZIP64 extended-information fields per entry (forced or needed), ZIP64 end
records (forced or needed; nothing may follow the comment then), and — without ZIP64 end records —
arbitrary bytes after the comment. -/
theorem reader_on_wf (l : Layout) (hF : l.Fits) (hR : l.Readable) (hS : NoFalseSig l)
    (ht : l.trailing = [] ∨ l.needs64 = false) :
    ∃ d', openArchive.runPure (Dev.ofBytes (build l)) = (.ok (archiveOf l), d') ∧
      d'.buf = build l := by
  obtain ⟨d', h1, h2, _⟩ := open_of_loop l hF hS ht (runs_centralLoopZ l hF (readable_imp_readableZ l hR)) 0
    (Dev.ofBytes (build l)) rfl rfl
  exact ⟨d', h1, h2⟩

theorem archive_fields (l : Layout) :
    (archiveOf l).offset = l.pre.length ∧ (archiveOf l).comment = l.comment ∧
    (archiveOf l).files = viewOf l ∧ (archiveOf l).files.length = l.entries.length :=
  ⟨rfl, rfl, rfl, viewList_length _ _ _ _⟩

/-- Garbage after the comment of an archive without ZIP64 records (the property's own restriction). -/
theorem trailing_garbage_ok (l : Layout) (hF : l.Fits) (hR : l.Readable) (hS : NoFalseSig l)
    (h64 : l.needs64 = false) :
    ∃ d', openArchive.runPure (Dev.ofBytes (build l)) = (.ok (archiveOf l), d') ∧ d'.buf = build l :=
  reader_on_wf l hF hR hS (Or.inr h64)

/-- Entry `i` of the reported list is the view of entry `i` of the central directory, at the offset the
layout computes for it (shifted by the prefix) — names, sizes, CRC, method, time, attributes, extra data
and comment as recorded in the CENTRAL record. -/
theorem entry_view (l : Layout) (i : Nat) (e : Entry) (he : l.entries[i]? = some e) :
    ∃ off chs, (localOffsets l.entries 0)[i]? = some off ∧
      (archiveOf l).files[i]? = some (viewEntry e off l.pre.length chs) := by
  obtain ⟨off, h1, h2⟩ := l.listed_getElem he
  obtain ⟨chs, h3⟩ := viewListP_getElem l.pre.length l.listed l.cdStart i _ h2
  rw [Layout.listed, viewListP_placed, viewEntryG_default] at h3
  exact ⟨off, chs, h1, h3⟩

/-- The reported values, spelled out (each by unfolding `viewEntry`): central sizes/CRC/method/time
are authoritative, `header_start` is shifted by the prefix. -/
theorem view_fields (e : Entry) (off pre chs : Nat) :
    let v := viewEntry e off pre chs
    v.crc32 = e.crc ∧ v.compressedSize = e.csize ∧ v.uncompressedSize = e.usize ∧
    v.method = Method.fromU16 e.method ∧ v.time = DateTime.fromMsdos e.date e.time ∧
    v.fileNameRaw = e.name ∧ v.externalAttributes = e.externalAttrs ∧
    v.headerStart = UInt64.ofNat (off + pre) ∧ v.centralHeaderStart = UInt64.ofNat chs ∧
    v.system = System.fromU8 (e.madeBy >>> 8).toUInt8 ∧ v.versionMadeBy = e.madeBy.toUInt8 ∧
    v.encrypted = (e.flagsOut &&& 1 == 1) ∧ v.usingDataDescriptor = (e.flagsOut &&& 8 != 0) :=
  ⟨rfl, rfl, rfl, rfl, rfl, rfl, rfl, rfl, rfl, rfl, rfl, rfl, rfl⟩

/-- Extra data are returned verbatim: the central record's whole extra field, i.e. the ZIP64 record
the layout needed (if any) followed by the foreign extra records. -/
theorem extra_verbatim (e : Entry) (off pre chs : Nat) :
    (viewEntry e off pre chs).extraField = e.centralZ64 (UInt64.ofNat off) ++ e.centralExtra := rfl

/-- The extra data returned are the foreign records and nothing else when no field of the entry goes through
ZIP64 (the central record then has no ZIP64 record). -/
theorem extra_verbatim_plain (e : Entry) (off pre chs : Nat)
    (h : e.zU = false ∧ e.zC = false ∧ e.zO (UInt64.ofNat off) = false) :
    (viewEntry e off pre chs).extraField = e.centralExtra := by
  rw [extra_verbatim]
  simp [Entry.centralZ64, h.1, h.2.1, h.2.2]

/-- Names and entry comments are decoded by the flagged encoding (bit 11; C19 says what
`decodeToUtf8` is), the raw name is kept; the archive comment is kept raw. -/
theorem comment_decoded (e : Entry) (off pre chs : Nat) :
    let utf8 : Bool := e.flagsOut &&& 0x0800 != 0
    (viewEntry e off pre chs).fileComment = Text.decodeToUtf8 utf8 e.comment ∧
    (viewEntry e off pre chs).fileName = Text.decodeToUtf8 utf8 e.name ∧
    (viewEntry e off pre chs).fileNameRaw = e.name := ⟨rfl, rfl, rfl⟩

/-- **Attributes → Unix mode**: Unix hosts `attrs >> 16`; DOS hosts from the directory / read-only
bits; other hosts and all-zero attributes none. -/
theorem unix_mode_spec (e : Entry) (off pre chs : Nat) :
    (viewEntry e off pre chs).unixMode.map UInt32.toNat = unixModeSpec e.madeBy e.externalAttrs :=
  unixMode_eq_spec (viewEntry e off pre chs) e.madeBy rfl

/-- Attributes → Unix mode (`unixModeSpec`) for any entry record, not only a view of a layout's entry, whose host
system is the upper byte of `version made by`. -/
theorem unix_mode_spec_general (f : FileData) (madeBy : UInt16)
    (hs : f.system = System.fromU8 (madeBy >>> 8).toUInt8) :
    f.unixMode.map UInt32.toNat = unixModeSpec madeBy f.externalAttributes :=
  unixMode_eq_spec f madeBy hs

example : unixModeSpec 0x0314 ((0o100644 : UInt32) <<< 16) = some 0o100644 := by decide
example : unixModeSpec 0x0014 0x10 = some 0o40775 := by decide
example : unixModeSpec 0x0014 0x20 = some 0o100664 := by decide
example : unixModeSpec 0x0014 0x01 = some 0o444 := by decide
example : unixModeSpec 0x0a14 0x10 = none := by decide
example : unixModeSpec 0x0314 0 = none := by decide

/-! ## 2. Reading entries: (R′) -/

/-- On the archive `reader_on_wf` returns and any device holding the archive
(in particular the one `reader_on_wf` returns), `by_index_raw(i)` read to the end yields exactly the
stored bytes of entry `i`, and the data start is computed from the LOCAL header's own name and extra
lengths (prefix + offset + 30 + local name length + local extra length) — so descriptor entries with
zeroed local sizes, local ZIP64 records and local extra data that differ from the central record's
are all read correctly: the compressed size comes from the central record. -/
theorem reader_entry_raw (l : Layout) (hF : l.Fits) (i : Nat) (e : Entry)
    (he : l.entries[i]? = some e) (d : Dev) (hd : d.buf = build l) :
    ∃ off d', (localOffsets l.entries 0)[i]? = some off ∧
      (byIndexRaw (archiveOf l) i).runPure d = (.ok (e.dataStart off l.pre.length, e.data), d') ∧
      d'.buf = build l := by
  obtain ⟨off, h1, h2⟩ := runs_byIndexRaw l hF i e he d.pos
  obtain ⟨d', h3, h4, _⟩ := h2 d hd rfl
  exact ⟨off, d', h1, h3, h4⟩

/-- **End to end**: open the foreign archive, then read entry `i` raw on the archive value and the
device `ZipArchive::new` returned. -/
theorem open_then_read_raw (l : Layout) (hF : l.Fits) (hR : l.Readable) (hS : NoFalseSig l)
    (ht : l.trailing = [] ∨ l.needs64 = false) (i : Nat) (e : Entry) (he : l.entries[i]? = some e) :
    ∃ a d1 off d2, openArchive.runPure (Dev.ofBytes (build l)) = (.ok a, d1) ∧
      a.files = viewOf l ∧ a.offset = l.pre.length ∧ a.comment = l.comment ∧
      (localOffsets l.entries 0)[i]? = some off ∧
      (byIndexRaw a i).runPure d1 = (.ok (e.dataStart off l.pre.length, e.data), d2) := by
  obtain ⟨d1, h1, hb⟩ := reader_on_wf l hF hR hS ht
  obtain ⟨off, d2, h2, h3, _⟩ := reader_entry_raw l hF i e he d1 hb
  exact ⟨archiveOf l, d1, off, d2, h1, rfl, rfl, rfl, h2, h3⟩

theorem data_start_spec (e : Entry) (off pre : Nat) :
    e.dataStart off pre = pre + off + 30 + e.name.length +
      ((if e.localZip64 then 20 else 0) + e.localExtra.length) := by
  unfold Entry.dataStart Entry.localExtraAll
  cases e.localZip64 <;> simp <;> omega

/-- **Decoding entries, modulo the external decoders**: for an unencrypted entry with a method the
crate has a decoder for, `by_index(i)` (any or no password) read to the end yields what the decoder
makes of the stored bytes, passed through the CRC check against the CENTRAL record's CRC. -/
theorem reader_entry_read (ext : Ext) (l : Layout) (hF : l.Fits) (i : Nat) (e : Entry)
    (he : l.entries[i]? = some e) (pw : Option Bytes)
    (henc : (e.flagsOut &&& 1 == 1) = false) (hdec : (Method.fromU16 e.method).decodable = true)
    (d : Dev) (hd : d.buf = build l) :
    ∃ off d', (localOffsets l.entries 0)[i]? = some off ∧
      (byIndexRead ext (archiveOf l) i pw).runPure d =
        (.ok (.ok (e.dataStart off l.pre.length,
          ext.decode (Method.fromU16 e.method) e.data >>= fun c => crcCheck false e.crc c)), d') ∧
      d'.buf = build l := by
  obtain ⟨off, h1, h2⟩ := runs_byIndexRead ext l hF i e he pw henc hdec d.pos
  obtain ⟨d', h3, h4, _⟩ := h2 d hd rfl
  exact ⟨off, d', h1, h3, h4⟩

theorem reader_entry_decoded (ext : Ext) (l : Layout) (hF : l.Fits) (i : Nat) (e : Entry)
    (he : l.entries[i]? = some e) (pw : Option Bytes)
    (henc : (e.flagsOut &&& 1 == 1) = false) (hdec : (Method.fromU16 e.method).decodable = true)
    (content : Bytes) (hc : ext.decode (Method.fromU16 e.method) e.data = .ok content)
    (hcrc : Spec.Crc32.crc32 content = e.crc) (d : Dev) (hd : d.buf = build l) :
    ∃ ds d', (byIndexRead ext (archiveOf l) i pw).runPure d = (.ok (.ok (ds, .ok content)), d') ∧
      d'.buf = build l := by
  obtain ⟨off, d', _, h2, h3⟩ := reader_entry_read ext l hF i e he pw henc hdec d hd
  refine ⟨e.dataStart off l.pre.length, d', ?_, h3⟩
  rw [h2, hc]
  simp [crcCheck, hcrc]

/-- An unencrypted stored entry whose recorded CRC is the CRC-32 of its
bytes reads back as exactly those bytes.  (`Stored` is the identity pass-through; the model routes it
through `Ext.decode` like the other methods, hence the hypothesis `hst`.) -/
theorem reader_entry_stored (ext : Ext) (hst : ∀ b, ext.decode .stored b = .ok b)
    (l : Layout) (hF : l.Fits) (i : Nat) (e : Entry) (he : l.entries[i]? = some e)
    (pw : Option Bytes) (henc : (e.flagsOut &&& 1 == 1) = false) (hm : e.method = 0)
    (hcrc : e.crc = Spec.Crc32.crc32 e.data) (d : Dev) (hd : d.buf = build l) :
    ∃ ds d', (byIndexRead ext (archiveOf l) i pw).runPure d = (.ok (.ok (ds, .ok e.data)), d') ∧
      d'.buf = build l := by
  have hm' : Method.fromU16 e.method = .stored := by rw [hm]; rfl
  exact reader_entry_decoded ext l hF i e he pw henc (by rw [hm']; rfl) e.data
    (by rw [hm']; exact hst _) hcrc.symm d hd

/-- **An unsupported method is an error on that entry only**: the archive opens (`reader_on_wf` asks
nothing of the methods except "not 99"), the raw bytes of the entry are readable (`reader_entry_raw`),
`by_index` on it fails with `UnsupportedArchive`, and every other entry reads as usual
(`reader_entry_read` / `reader_entry_stored` mention entry `i` only). -/
theorem unsupported_is_per_entry (ext : Ext) (l : Layout) (hF : l.Fits) (i : Nat) (e : Entry)
    (he : l.entries[i]? = some e) (pw : Option Bytes)
    (hpw : (pw.isNone && (e.flagsOut &&& 1 == 1)) = false) (v : UInt16)
    (hm : Method.fromU16 e.method = .unsupported v) (d : Dev) (hd : d.buf = build l) :
    (∃ d', (byIndexRead ext (archiveOf l) i pw).runPure d = (.err .unsupportedArchive, d') ∧
      d'.buf = build l) ∧
    (∃ ds d', (byIndexRaw (archiveOf l) i).runPure d = (.ok (ds, e.data), d')) := by
  constructor
  · obtain ⟨q, h⟩ := runs_byIndexRead_unsupported ext l hF i e he pw hpw v hm d.pos
    obtain ⟨d', h1, h2, _⟩ := h d hd rfl
    exact ⟨d', h1, h2⟩
  · obtain ⟨off, d', _, h, _⟩ := reader_entry_raw l hF i e he d hd
    exact ⟨_, d', h⟩

example : Method.fromU16 1 = .unsupported 1 := by decide
example : Method.fromU16 14 = .unsupported 14 := by decide

/-! ## 3. Lookup -/

/-- Lookup by name yields index `i` exactly when entry `i` has that (decoded) name
and no later entry has: with duplicate names the LAST one wins. -/
theorem by_name_last (a : Archive) (name : Bytes) (i : Nat) :
    a.indexOfName name = some i ↔
      ((∃ f, a.files[i]? = some f ∧ f.fileName = name) ∧
        ∀ j g, i < j → a.files[j]? = some g → g.fileName ≠ name) :=
  indexOfName_eq_some a name i

theorem by_name_is_by_index (ext : Ext) (a : Archive) (name : Bytes) (i : Nat) (pw : Option Bytes)
    (h : a.indexOfName name = some i) : byNameRead ext a name pw = byIndexRead ext a i pw := by
  unfold byNameRead; rw [h]

/-- On a layout: the name of entry `i`, decoded by its flag, finds entry `i` iff no later entry decodes
to the same name. -/
theorem by_name_last_layout (l : Layout) (i : Nat) (e : Entry) (he : l.entries[i]? = some e)
    (hlast : ∀ j e', i < j → l.entries[j]? = some e' →
      Text.decodeToUtf8 (e'.flagsOut &&& 0x0800 != 0) e'.name ≠
        Text.decodeToUtf8 (e.flagsOut &&& 0x0800 != 0) e.name) :
    (archiveOf l).indexOfName (Text.decodeToUtf8 (e.flagsOut &&& 0x0800 != 0) e.name) = some i := by
  rw [by_name_last]
  obtain ⟨off, chs, _, h⟩ := entry_view l i e he
  refine ⟨⟨_, h, rfl⟩, ?_⟩
  intro j g hj hg
  have hjl : j < l.entries.length := by
    rcases Nat.lt_or_ge j l.entries.length with h' | h'
    · exact h'
    · have : (archiveOf l).files.length ≤ j := by rw [(archive_fields l).2.2.2]; exact h'
      rw [List.getElem?_eq_none this] at hg; cases hg
  obtain ⟨off', chs', _, h'⟩ := entry_view l j l.entries[j] (List.getElem?_eq_getElem hjl)
  rw [h'] at hg
  cases hg
  exact hlast j _ hj (List.getElem?_eq_getElem hjl)

/-- A name no entry has is `FileNotFound`. -/
theorem by_name_absent (ext : Ext) (a : Archive) (name : Bytes) (pw : Option Bytes)
    (h : ∀ f ∈ a.files, f.fileName ≠ name) (d : Dev) :
    a.indexOfName name = none ∧ (byNameRead ext a name pw).runPure d = (.err .fileNotFound, d) := by
  have hn := (indexOfName_eq_none a name).mpr h
  refine ⟨hn, ?_⟩
  unfold byNameRead; rw [hn]; rfl

/-- An index ≥ `len()` is `FileNotFound` (no I/O happens). -/
theorem by_index_out_of_range (ext : Ext) (a : Archive) (i : Nat) (pw : Option Bytes)
    (h : a.files.length ≤ i) (d : Dev) :
    (byIndexRead ext a i pw).runPure d = (.err .fileNotFound, d) ∧
    (byIndexRaw a i).runPure d = (.err .fileNotFound, d) := by
  have hn : a.files[i]? = none := List.getElem?_eq_none h
  constructor
  · unfold byIndexRead; rw [hn]; rfl
  · unfold byIndexRaw; rw [hn]; rfl

/-! ## 4. Non-vacuity: concrete layouts satisfying every hypothesis, evaluated through the model -/

/-- "a.txt", stored, Unix 0644 -/
def exA : Entry :=
  { madeBy := 0x0314, versionNeeded := 20, flags := 0, method := 0, time := 0x6000, date := 0x5821,
    crc := 0x3610a686, usize := 5, name := [0x61, 0x2e, 0x74, 0x78, 0x74], centralExtra := [], comment := [],
    internalAttrs := 0, externalAttrs := 0x81A40000, z64 := (false, false, false), localExtra := [],
    localZip64 := false, desc := .none, gapBefore := [], data := [0x68, 0x65, 0x6c, 0x6c, 0x6f] }

/-- "b", written by a streaming producer: data descriptor (local CRC/sizes zero), a foreign extra record
in the central header only, another one in the local header only, compressed size forced into ZIP64,
made on DOS with the directory-less archive bit, 3 junk bytes before its local header, an entry comment -/
def exB : Entry :=
  { madeBy := 0x0014, versionNeeded := 45, flags := 0x0800, method := 0, time := 0, date := 0x21,
    crc := 0x3610a686, usize := 5, name := [0x62],
    centralExtra := le16 0x5455 ++ le16 5 ++ [1, 0, 0, 0, 0], comment := [0x63],
    internalAttrs := 1, externalAttrs := 0x20, z64 := (false, true, false),
    localExtra := le16 0x7875 ++ le16 2 ++ [9, 9], localZip64 := false, desc := .sig32,
    gapBefore := [0xde, 0xad, 0xbe], data := [0x68, 0x65, 0x6c, 0x6c, 0x6f] }

def exL : Layout :=
  { pre := [0x23, 0x21, 0x2f, 0x62, 0x0a], entries := [exA, exB], gapBeforeCd := [0],
    comment := [0x68, 0x69], zip64End := false, trailing := [] }

example : exL.Fits ∧ exL.Readable ∧ NoFalseSig exL ∧ exL.needs64 = false := by decide +kernel


/-- The model computes on `build exL` what `reader_on_wf`, `reader_entry_raw` and `by_name_last` say (kernel
evaluation of `ZipArchive::new` and lookup by name here, of `by_index_raw` in the next example, on the 251-byte
archive). -/
example :
    (match (openArchive.runPure (Dev.ofBytes (build exL))).1 with
     | .ok a => a.offset == 5 && a.comment == [0x68, 0x69] && a.files == viewOf exL &&
        a.files.map (·.fileName) == [[0x61, 0x2e, 0x74, 0x78, 0x74], [0x62]] &&
        a.files.map (·.compressedSize) == [5, 5] && a.files.map (·.largeFile) == [false, true] &&
        a.files.map (·.unixMode) == [some 0o100644, some 0o100664] &&
        a.indexOfName [0x62] == some 1 && a.indexOfName [0x63] == none
     | _ => false) = true := by decide +kernel

example :
    (match ((byIndexRaw (archiveOf exL) 1).runPure (Dev.ofBytes (build exL))).1 with
     | .ok (ds, raw) => ds == exB.dataStart (exA.localBytes.length + 3) 5 && raw == exB.data
     | _ => false) = true := by decide +kernel

example : (build exL).length = 251 := by decide +kernel

/-- The entries of `exL` with forced ZIP64 end records (locator + ZIP64 end record found behind the
5-byte prefix by the forward search). -/
def exL64 : Layout := { exL with zip64End := true, end64Versions := (0x031e, 45) }
/-- `exL` with garbage after the comment (the archive has no ZIP64 records). -/
def exLg : Layout := { exL with trailing := [0x50, 0x4b, 0x00, 0x00, 0xff] }

private theorem exL64_ok : exL64.Fits ∧ exL64.Readable ∧ NoFalseSig exL64 ∧ exL64.needs64 = true ∧ exL64.trailing = [] := by
  decide +kernel
private theorem exLg_ok : exLg.Fits ∧ exLg.Readable ∧ NoFalseSig exLg ∧ exLg.needs64 = false := by decide +kernel

example : exL64.Fits ∧ exL64.Readable ∧ NoFalseSig exL64 ∧ exL64.needs64 = true ∧ exL64.trailing = [] :=
  exL64_ok
example : exLg.Fits ∧ exLg.Readable ∧ NoFalseSig exLg ∧ exLg.needs64 = false := exLg_ok

/-- `reader_on_wf` / `trailing_garbage_ok` apply: the reader returns `archiveOf`, whose fields are evaluated -/
example :
    (match (openArchive.runPure (Dev.ofBytes (build exL64))).1 with
     | .ok a => a.offset == 5 && a.files == viewOf exL64 && a.files.length == 2
     | _ => false) = true := by
  obtain ⟨hF, hR, hS, _, ht⟩ := exL64_ok
  obtain ⟨d', h, _⟩ := reader_on_wf exL64 hF hR hS (Or.inl ht)
  rw [h]
  dsimp only
  decide +kernel

example :
    (match (openArchive.runPure (Dev.ofBytes (build exLg))).1 with
     | .ok a => a.offset == 5 && a.files == viewOf exLg && a.comment == [0x68, 0x69]
     | _ => false) = true := by
  obtain ⟨hF, hR, hS, h64⟩ := exLg_ok
  obtain ⟨d', h, _⟩ := trailing_garbage_ok exLg hF hR hS h64
  rw [h]
  dsimp only
  decide +kernel

/-- hypotheses of the entry theorems on these entries: stored, unencrypted, recorded CRC = CRC-32 of
the data; entry 1 is a descriptor entry whose LOCAL extra data (6 bytes) differ from the central ones
(9 + 12 bytes), so its data start needs the local lengths -/
example : exL.entries[1]? = some exB := rfl
example : exB.method = 0 ∧ (exB.flagsOut &&& 1 == 1) = false ∧
    exB.crc = Spec.Crc32.crc32 exB.data ∧ (Method.fromU16 exB.method).decodable = true ∧
    exB.localExtraAll.length = 6 ∧ (exB.centralExtraAll 43).length = 21 ∧
    (localOffsets exL.entries 0)[1]? = some 43 ∧ exB.dataStart 43 5 = 85 := by decide +kernel

/-- duplicate names: lookup finds the last one (`by_name_last_layout`'s hypothesis holds for index 1,
fails for index 0) -/
def exDup : Layout := { exL with entries := [exA, { exA with data := [0x21], usize := 1, crc := 0x9BD366AE }] }

example : exDup.Fits ∧ exDup.Readable ∧ NoFalseSig exDup ∧
    (archiveOf exDup).indexOfName exA.name = some 1 ∧
    (archiveOf exDup).indexOfName [0x7a] = none := by decide +kernel

/-- the sufficient condition "no embedded signatures" on the same layouts -/
example : ¬ le32 sigEocd <:+: (exL.eocd ++ exL.trailing).tail ∧ ¬ le32 sigLocator <:+: build exL ∧
    ¬ le32 sigEocd64 <:+: (build exL64).take (exL64.end64Pos + 3) := by decide +kernel

/-- The restriction "garbage after the comment only without ZIP64 records" is real: one trailing byte
after a ZIP64 archive moves the locator probe off the locator, the reader falls back to the
0xFFFF/0xFFFFFFFF placeholders of the end record and rejects the archive. -/
def exL64g : Layout := { exL64 with trailing := [0] }

example : exL64g.Fits ∧ exL64g.Readable ∧ NoFalseSig exL64g ∧
    ¬ (exL64g.trailing = [] ∨ exL64g.needs64 = false) := by decide +kernel
example :
    (match (openArchive.runPure (Dev.ofBytes (build exL64g))).1 with
     | .err .invalidArchive => true
     | _ => false) = true := by decide +kernel

/-- `NoFalseSig` is not vacuous the other way either: a comment that embeds an end-record signature
violates (i), and the reader indeed goes wrong on it (it finds the embedded record first). -/
def exBad : Layout :=
  { exL with comment := le32 sigEocd ++ [0, 0, 0, 0, 0, 0, 0, 0, 0, 0, 0, 0, 0, 0, 0, 0, 0, 0] }

example : exBad.Fits ∧ exBad.Readable ∧ ¬ NoFalseSig exBad := by decide +kernel
example :
    (match (openArchive.runPure (Dev.ofBytes (build exBad))).1 with
     | .ok a => a.files == viewOf exBad
     | _ => false) = false := by decide +kernel

end ZipVerif.Props.C03
