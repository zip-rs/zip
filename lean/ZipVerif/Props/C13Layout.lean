import ZipVerif.Lemmas.WLGoodP
import ZipVerif.Lemmas.AppendClosed
import ZipVerif.Props.C01
import ZipVerif.Props.C02Full
import ZipVerif.Props.C03Z
/-
C13 (layout level) — appending to an existing archive: what the appended calls and `finish` leave in the
sink (the opening half, what `new_append` returns, is `Props/C13.lean`; the D20 defect and its test vectors
are `Props/C13LayoutZ.lean`).

`WL.append_open_is_base_stateZ` (Lemmas/AppendClosed.lean): `new_append` on `build l` (entries
`AppendClean`) lands in the `.idle` case of the writer invariant `Lay` with `done = appendNormAll l`,
`gap = appendGap l`.  `C01.writer_emits_layout` (stated for any ghost): from there, any Level-1 script and
a successful `finish` leave `build (layoutOf es gap c stale)` in the sink.  Composed here:
`append_emits_layout` (`append_emits_layout_exact`: `stale` is what the old archive held there;
`append_emits_layout_full`: the whole call alphabet, through `C02Full`); the old entries are kept, in order,
in front of the new ones (`append_keeps_old`, `old_fields_kept`); reading back with C03 (`append_read_back`;
in `append_read_back_discharged` `Readable` of the result is proved, not assumed); the result is again a
layout of `AppendClean` entries (`append_iterates`); the empty script (`append_nothing`); the archive comment
(`comment_kept`).
The base need only be `ReadableZ` (Lemmas/CentralParseZ.lean).  `append_emits_layout`, `append_nothing` and
`append_read_back` are the `Readable` instances of the statements with suffix `Z` (`append_base` of
`append_base_both`); every other statement that needs a readable base asks `ReadableZ` only.
-/

namespace ZipVerif.Props.C13Layout
open ZipVerif ZipVerif.Model ZipVerif.Spec.Zip ZipVerif.WL
open ZipVerif.Props.C12 (Call step runCalls)

/-! ## The base state -/

theorem viewList_timeOk (pre : Nat) : ∀ (es : List Spec.Zip.Entry) (loc chs : Nat),
    ∀ f ∈ viewList pre es loc chs, TimeOk f.time := by
  intro es
  induction es with
  | nil => intro _ _ f hf; cases hf
  | cons e es ih =>
    intro loc chs f hf
    rcases List.mem_cons.mp hf with h | h
    · rw [h]; exact timeOk_fromMsdos _ _
    · exact ih _ _ f h

/-- the ghost a writer opened with `new_append` on `build l` starts from -/
def baseGhost (l : Layout) : Ghost := .idle (appendNormAll l) (appendGap l) l.comment

/-- the Level-2 ghost a writer opened with `new_append` on `build l` starts from -/
def baseGhost2 (l : Layout) : Ghost2 := .idle (appendNormAll l) (appendGap l) l.comment

/-- The state `new_append` returns on `build l` (`ReadableZ` base) satisfies the C12 invariant and is in
step with the idle ghost of either level. -/
theorem append_base_both (l : Layout) (hF : l.Fits) (hR : l.ReadableZ) (hS : NoFalseSig l)
    (ht : l.trailing = [] ∨ l.needs64 = false)
    (hall : ∀ e ∈ l.entries, AppendClean e ∧ e.centralExtra.length + 56 ≤ 0xFFFF) :
    ∃ s0 d0, newAppend.runPure (Dev.ofBytes (build l)) = (.ok s0, d0) ∧
      d0.buf = build l ∧ d0.pos = l.cdStart ∧ Inv s0 ∧
      Lay ((build l).length - l.cdStart) (baseGhost l) s0 d0 ∧
      Lay2 ((build l).length - l.cdStart) (baseGhost2 l) s0 d0 := by
  obtain ⟨s, d, h1, h2, h3, h4, h5, h6, h7, h8, h9, h10, h11, h12⟩ :=
    append_open_is_base_stateZ l hF hR hS ht hall
  have hle : d.pos ≤ d.buf.length := by
    rw [h2, h3, build_length]; unfold Layout.eocdPos; omega
  refine ⟨s, d, h1, h2, h3, ?_, ?_, ?_⟩
  · refine inv_idle h8 h9 h10 h11 ?_
    rw [h6]
    intro f hf
    obtain ⟨g, hg, rfl⟩ := List.mem_map.mp hf
    exact viewList_timeOk _ _ _ _ g hg
  · have := lay_idle_intro hle h4 h5 h8 h9 h10 h12
    rw [h7, h2, h3] at this
    exact this
  · have := lay2_idle_intro hle h4 h5 h8 h9 h10 h11 h12
    rw [h7, h2, h3] at this
    exact this

/-- **The state `new_append` returns on `build l` is in step with `baseGhost l`** (the `.idle` case of the
writer invariant `Lay`; at most `(build l).length - l.cdStart` stale bytes — the old central directory and
end records — follow the live part), and satisfies the C12 invariant. -/
theorem append_base (l : Layout) (hF : l.Fits) (hR : l.Readable) (hS : NoFalseSig l)
    (ht : l.trailing = [] ∨ l.needs64 = false)
    (hall : ∀ e ∈ l.entries, AppendClean e ∧ e.centralExtra.length + 56 ≤ 0xFFFF) :
    ∃ s0 d0, newAppend.runPure (Dev.ofBytes (build l)) = (.ok s0, d0) ∧
      d0.buf = build l ∧ d0.pos = l.cdStart ∧ Inv s0 ∧
      Lay ((build l).length - l.cdStart) (baseGhost l) s0 d0 := by
  obtain ⟨s, d, h1, h2, h3, hI, hL, _⟩ := append_base_both l hF (readable_imp_readableZ l hR) hS ht hall
  exact ⟨s, d, h1, h2, h3, hI, hL⟩

/-! ## Appending emits a layout -/

/-- `append_emits_layout` for a base that is only `ReadableZ` (`append_base_both` takes one). -/
theorem append_emits_layoutZ (ext : WExt) (l : Layout) (hF : l.Fits) (hR : l.ReadableZ)
    (hS : NoFalseSig l) (ht : l.trailing = [] ∨ l.needs64 = false)
    (hall : ∀ e ∈ l.entries, AppendClean e ∧ e.centralExtra.length + 56 ≤ 0xFFFF)
    (calls : List Call) (hc : ∀ c ∈ calls, Level1 c) (ha : ∀ c ∈ calls, c.Admissible) :
    ∃ s0 d0, newAppend.runPure (Dev.ofBytes (build l)) = (.ok s0, d0) ∧
      ∀ (es : List Spec.Zip.Entry) (gap c : Bytes),
        (ghostOf ext (baseGhost l) calls (runCalls ext calls s0 none d0).1).close ext = some (es, gap, c) →
      ∀ (v : Option Nat) (s' : WState) (d' : Dev),
        step ext .finish (runCalls ext calls s0 none d0).2.1 none (runCalls ext calls s0 none d0).2.2 =
          (.ok (.ok v, s'), d') →
        d'.buf = build (layoutOf es gap c (d'.buf.drop d'.pos)) ∧
        d'.buf.take d'.pos = build (layoutOf es gap c []) ∧
        (d'.buf.drop d'.pos).length ≤ (build l).length - l.cdStart ∧
        c.length ≤ 65535 ∧ s'.inner = .closed := by
  obtain ⟨s0, d0, h1, _, _, hI, hL, _⟩ := append_base_both l hF hR hS ht hall
  refine ⟨s0, d0, h1, ?_⟩
  intro es gap c hg v s' d' hfin
  obtain ⟨k1, k2, k3, k4, k5, k6⟩ := C01.writer_emits_layout ext calls hc ha _ _ s0 d0 hI hL es gap c hg
    v s' d' hfin
  refine ⟨k2, k1, ?_, k5, k6⟩
  rw [List.length_drop]
  omega

/-- After `new_append` on `build l`, any Level-1 script and a successful
`finish`: the sink is `build (layoutOf es gap c stale)`, where `es`, `gap`, `c` are computed from `l`
and the calls by the ghost fold started at `baseGhost l`, and `stale` is what is left of the old end of
the archive behind the new end record (nothing when the archive grew). -/
theorem append_emits_layout (ext : WExt) (l : Layout) (hF : l.Fits) (hR : l.Readable)
    (hS : NoFalseSig l) (ht : l.trailing = [] ∨ l.needs64 = false)
    (hall : ∀ e ∈ l.entries, AppendClean e ∧ e.centralExtra.length + 56 ≤ 0xFFFF)
    (calls : List Call) (hc : ∀ c ∈ calls, Level1 c) (ha : ∀ c ∈ calls, c.Admissible) :
    ∃ s0 d0, newAppend.runPure (Dev.ofBytes (build l)) = (.ok s0, d0) ∧
      ∀ (es : List Spec.Zip.Entry) (gap c : Bytes),
        (ghostOf ext (baseGhost l) calls (runCalls ext calls s0 none d0).1).close ext = some (es, gap, c) →
      ∀ (v : Option Nat) (s' : WState) (d' : Dev),
        step ext .finish (runCalls ext calls s0 none d0).2.1 none (runCalls ext calls s0 none d0).2.2 =
          (.ok (.ok v, s'), d') →
        d'.buf = build (layoutOf es gap c (d'.buf.drop d'.pos)) ∧
        d'.buf.take d'.pos = build (layoutOf es gap c []) ∧
        (d'.buf.drop d'.pos).length ≤ (build l).length - l.cdStart ∧
        c.length ≤ 65535 ∧ s'.inner = .closed :=
  append_emits_layoutZ ext l hF (readable_imp_readableZ l hR) hS ht hall calls hc ha

/-- **`append_emits_layoutZ` with the stale bytes named** (`C01.writer_emits_layout_exact`): the sink is the new layout
followed by what `build l` held behind its end; nothing, when the archive grew. -/
theorem append_emits_layout_exact (ext : WExt) (l : Layout) (hF : l.Fits) (hR : l.ReadableZ)
    (hS : NoFalseSig l) (ht : l.trailing = [] ∨ l.needs64 = false)
    (hall : ∀ e ∈ l.entries, AppendClean e ∧ e.centralExtra.length + 56 ≤ 0xFFFF)
    (calls : List Call) (hc : ∀ c ∈ calls, Level1 c) (ha : ∀ c ∈ calls, c.Admissible) :
    ∃ s0 d0, newAppend.runPure (Dev.ofBytes (build l)) = (.ok s0, d0) ∧
      ∀ (es : List Spec.Zip.Entry) (gap c : Bytes),
        (ghostOf ext (baseGhost l) calls (runCalls ext calls s0 none d0).1).close ext = some (es, gap, c) →
      ∀ (v : Option Nat) (s' : WState) (d' : Dev),
        step ext .finish (runCalls ext calls s0 none d0).2.1 none (runCalls ext calls s0 none d0).2.2 =
          (.ok (.ok v, s'), d') →
        d'.buf = build (layoutOf es gap c ((build l).drop (build (layoutOf es gap c [])).length)) ∧
        d'.buf.drop d'.pos = (build l).drop (build (layoutOf es gap c [])).length := by
  obtain ⟨s0, d0, h1, hb, _, hI, hL, _⟩ := append_base_both l hF hR hS ht hall
  refine ⟨s0, d0, h1, fun es gap c hg v s' d' hfin => ?_⟩
  rw [← hb]
  exact C01.writer_emits_layout_exact ext calls hc ha _ _ _ _ s0 d0 hI hL es gap c hg v s' d' hfin

/-! ## Level 2: the whole call alphabet after `new_append` -/

/-- `append_emits_layout` for scripts over the WHOLE call alphabet
(`Level2`: extra-data mode, aligned files, ZipCrypto, …), for a `ReadableZ` (in particular `Readable`)
base: after `new_append` on `build l`, the script and a successful `finish`, the sink is
`build (layoutOf es gap c stale)` with `es`, `gap`, `c` computed by the Level-2 ghost fold started at
`baseGhost2 l`. -/
theorem append_emits_layout_full (ext : WExt) (l : Layout) (hF : l.Fits) (hR : l.ReadableZ)
    (hS : NoFalseSig l) (ht : l.trailing = [] ∨ l.needs64 = false)
    (hall : ∀ e ∈ l.entries, AppendClean e ∧ e.centralExtra.length + 56 ≤ 0xFFFF)
    (calls : List Call) (hc : ∀ c ∈ calls, Level2 c) :
    ∃ s0 d0, newAppend.runPure (Dev.ofBytes (build l)) = (.ok s0, d0) ∧
      ∀ (es : List Spec.Zip.Entry) (gap c : Bytes),
        (ghostOf2 ext (baseGhost2 l) calls (runCalls ext calls s0 none d0).1).close ext = some (es, gap, c) →
      ∀ (v : Option Nat) (s' : WState) (d' : Dev),
        step ext .finish (runCalls ext calls s0 none d0).2.1 none (runCalls ext calls s0 none d0).2.2 =
          (.ok (.ok v, s'), d') →
        d'.buf = build (layoutOf es gap c (d'.buf.drop d'.pos)) ∧
        d'.buf.take d'.pos = build (layoutOf es gap c []) ∧
        (d'.buf.drop d'.pos).length ≤ (build l).length - l.cdStart ∧
        c.length ≤ 65535 ∧ s'.inner = .closed := by
  obtain ⟨s, d, h1, _, _, hI, _, hL⟩ := append_base_both l hF hR hS ht hall
  refine ⟨s, d, h1, ?_⟩
  intro es gap c hg v s' d' hfin
  obtain ⟨k1, k2, k3, k4, k5, k6⟩ := C02Full.writer_emits_layout_full ext calls hc _ _ s d hI hL es gap c hg
    v s' d' hfin
  refine ⟨k2, k1, ?_, k5, k6⟩
  rw [List.length_drop]
  omega

/-! ## The old entries are kept, in order, in front of the new ones -/

/-- **The entries of the appended archive start with the (normalised) old entries**, whatever the script. -/
theorem append_keeps_old (ext : WExt) (l : Layout) (calls : List Call) (outs : List (Out (Option Nat)))
    (es : List Spec.Zip.Entry) (gap c : Bytes)
    (hg : (ghostOf ext (baseGhost l) calls outs).close ext = some (es, gap, c)) :
    appendNormAll l <+: es := by
  have h1 := (done_prefix_run ext calls outs (baseGhost l) (alive_of_close hg)).2
  exact List.IsPrefix.trans h1 (close_prefix hg)

theorem appendNormList_map {α} (p q : Spec.Zip.Entry → α) (pre : Nat)
    (h : ∀ e off, p (appendNorm e off pre) = q e) : ∀ (es : List Spec.Zip.Entry) (loc : Nat),
    (appendNormList pre es loc).map p = es.map q := by
  intro es
  induction es with
  | nil => intro _; rfl
  | cons e es ih =>
    intro loc
    show p (appendNorm e _ pre) :: (appendNormList pre es _).map p = _
    rw [h, ih]; rfl

theorem appendNormAll_map {α} (p q : Spec.Zip.Entry → α) (l : Layout)
    (h : ∀ e off, p (appendNorm e off l.pre.length) = q e)
    (hg : ∀ (e : Spec.Zip.Entry) g, p { e with gapBefore := g } = p e) :
    (appendNormAll l).map p = l.entries.map q := by
  unfold appendNormAll
  rw [← appendNormList_map p q l.pre.length h l.entries 0]
  cases appendNormList l.pre.length l.entries 0 with
  | nil => rfl
  | cons e es => show p _ :: es.map p = p e :: es.map p; rw [hg]

/-- **What is kept of an old entry**: its stored bytes (hence its compressed size), CRC, uncompressed size,
method, DOS time and date and external attributes (hence its Unix mode) are unchanged; its name becomes the
DECODED name (for an `AppendClean` entry: the same bytes).  Entry by entry, the local extra data and the
descriptor as well: `C13.appendNorm_fields`. -/
theorem old_fields_kept (l : Layout) :
    (appendNormAll l).map Spec.Zip.Entry.data = l.entries.map Spec.Zip.Entry.data ∧
    (appendNormAll l).map Spec.Zip.Entry.crc = l.entries.map Spec.Zip.Entry.crc ∧
    (appendNormAll l).map Spec.Zip.Entry.usize = l.entries.map Spec.Zip.Entry.usize ∧
    (appendNormAll l).map Spec.Zip.Entry.method = l.entries.map Spec.Zip.Entry.method ∧
    (appendNormAll l).map Spec.Zip.Entry.time = l.entries.map Spec.Zip.Entry.time ∧
    (appendNormAll l).map Spec.Zip.Entry.date = l.entries.map Spec.Zip.Entry.date ∧
    (appendNormAll l).map Spec.Zip.Entry.externalAttrs = l.entries.map Spec.Zip.Entry.externalAttrs ∧
    (appendNormAll l).map Spec.Zip.Entry.name =
      l.entries.map (fun e => Text.decodeToUtf8 (e.flagsOut &&& 0x0800 != 0) e.name) :=
  ⟨appendNormAll_map _ _ l (fun _ _ => rfl) (fun _ _ => rfl),
   appendNormAll_map _ _ l (fun _ _ => rfl) (fun _ _ => rfl),
   appendNormAll_map _ _ l (fun _ _ => rfl) (fun _ _ => rfl),
   appendNormAll_map _ _ l (fun _ _ => rfl) (fun _ _ => rfl),
   appendNormAll_map _ _ l (fun _ _ => rfl) (fun _ _ => rfl),
   appendNormAll_map _ _ l (fun _ _ => rfl) (fun _ _ => rfl),
   appendNormAll_map _ _ l (fun _ _ => rfl) (fun _ _ => rfl),
   appendNormAll_map _ _ l (fun _ _ => rfl) (fun _ _ => rfl)⟩

/-- For `AppendClean` entries the names are kept byte for byte. -/
theorem old_names_kept (l : Layout) (hall : ∀ e ∈ l.entries, AppendClean e) :
    (appendNormAll l).map Spec.Zip.Entry.name = l.entries.map Spec.Zip.Entry.name := by
  rw [(old_fields_kept l).2.2.2.2.2.2.2]
  apply List.map_congr_left
  intro e he
  exact (hall e he).1

/-- The name clause of the property as far as it holds (`_partial`): for a base with an unflagged non-ASCII
name the FULL statement "every old name is kept byte for byte in both records" is false — known finding
K-A2, kernel-checked witness `C13.ka2_names_disagree_witness`; the decoded name (what this crate's reader
reports) is kept for every base (`old_fields_kept`). -/
theorem old_names_kept_partial (l : Layout) (hall : ∀ e ∈ l.entries, AppendClean e) :
    (appendNormAll l).map Spec.Zip.Entry.name = l.entries.map Spec.Zip.Entry.name :=
  old_names_kept l hall

/-! ## Reading the appended archive back -/

/-- `append_read_back` under `ReadableZ` of the new layout (`C03Z.reader_on_wfZ`). -/
theorem append_read_backZ (es : List Spec.Zip.Entry) (gap c stale : Bytes) (d' : Dev)
    (hbuf : d'.buf = build (layoutOf es gap c stale))
    (hF : (layoutOf es gap c stale).Fits) (hR : (layoutOf es gap c stale).ReadableZ)
    (hS : NoFalseSig (layoutOf es gap c stale))
    (ht : stale = [] ∨ (layoutOf es gap c stale).needs64 = false) :
    ∃ d1, openArchive.runPure (Dev.ofBytes d'.buf) = (.ok (archiveOf (layoutOf es gap c stale)), d1) ∧
      d1.buf = build (layoutOf es gap c stale) ∧
      (archiveOf (layoutOf es gap c stale)).offset = 0 ∧
      (archiveOf (layoutOf es gap c stale)).comment = c ∧
      (archiveOf (layoutOf es gap c stale)).files = viewOf (layoutOf es gap c stale) ∧
      (∀ (i : Nat) e, es[i]? = some e → ∃ off chs,
        (archiveOf (layoutOf es gap c stale)).files[i]? = some (viewEntry e off 0 chs)) ∧
      (∀ (i : Nat) e, es[i]? = some e → ∃ ds d2,
        (byIndexRaw (archiveOf (layoutOf es gap c stale)) i).runPure d1 = (.ok (ds, e.data), d2)) := by
  obtain ⟨d1, h1, h2⟩ := C03Z.reader_on_wfZ _ hF hR hS ht
  refine ⟨d1, by rw [hbuf]; exact h1, h2, rfl, rfl, rfl, ?_, ?_⟩
  · intro i e he
    obtain ⟨off, chs, _, h⟩ := C03.entry_view (layoutOf es gap c stale) i e he
    exact ⟨off, chs, h⟩
  · intro i e he
    obtain ⟨off, d2, _, h, _⟩ := C03.reader_entry_raw (layoutOf es gap c stale) hF i e he d1 h2
    exact ⟨_, d2, h⟩

/-- The appended archive, read with `ZipArchive::new` (C03 `reader_on_wf`, under
`Fits` / `Readable` / `NoFalseSig` of the NEW layout, and nothing stale or no ZIP64 end records):
`offset() = 0`, the comment is `c`, the entries are the views of `es` in order — the old entries first
(`append_keeps_old`) — and `by_index_raw(i)` returns the stored bytes of entry `i` (for an old entry:
its old stored bytes, `old_fields_kept`). -/
theorem append_read_back (es : List Spec.Zip.Entry) (gap c stale : Bytes) (d' : Dev)
    (hbuf : d'.buf = build (layoutOf es gap c stale))
    (hF : (layoutOf es gap c stale).Fits) (hR : (layoutOf es gap c stale).Readable)
    (hS : NoFalseSig (layoutOf es gap c stale))
    (ht : stale = [] ∨ (layoutOf es gap c stale).needs64 = false) :
    ∃ d1, openArchive.runPure (Dev.ofBytes d'.buf) = (.ok (archiveOf (layoutOf es gap c stale)), d1) ∧
      d1.buf = build (layoutOf es gap c stale) ∧
      (archiveOf (layoutOf es gap c stale)).offset = 0 ∧
      (archiveOf (layoutOf es gap c stale)).comment = c ∧
      (archiveOf (layoutOf es gap c stale)).files = viewOf (layoutOf es gap c stale) ∧
      (∀ (i : Nat) e, es[i]? = some e → ∃ off chs,
        (archiveOf (layoutOf es gap c stale)).files[i]? = some (viewEntry e off 0 chs)) ∧
      (∀ (i : Nat) e, es[i]? = some e → ∃ ds d2,
        (byIndexRaw (archiveOf (layoutOf es gap c stale)) i).runPure d1 = (.ok (ds, e.data), d2)) :=
  append_read_backZ es gap c stale d' hbuf hF (readable_imp_readableZ _ hR) hS ht

/-! ## `Readable` of the appended archive, discharged (the point of the D20 repair)

`new_append` drops the inherited ZIP64 extra records (`strip_zip64_extra_field`), so the normalised old
entries are `Readable` whatever ZIP64 records the base carried — for a `Readable` base and even for a
`ReadableZ` one (redundant ZIP64 records in the foreign extra data) — with no condition on sizes or
offsets; the entries the writer adds are `Readable` as before. -/

/-- what is asked of the record `start_entry` pushes: no extra data yet, not WinZip-AES -/
def ZRec (f : FileData) : Prop := f.extraField = [] ∧ f.method.toU16 ≠ 99

theorem zSpec : GoodSpec Spec.Zip.Entry.Readable ZRec :=
  ⟨fun f dp gap data lv h => ⟨by
      show ExtraOk f.extraField
      rw [h.1]; decide, h.2⟩,
   fun _ _ _ h => h⟩

/-- a decidable sufficient condition on a call: the method it asks for is not code 99 -/
def ZCall : Call → Prop
  | .startFile _ o => o.method.toU16 ≠ 99
  | .rawCopy src _ _ => src.method.toU16 ≠ 99
  | _ => True

instance : DecidablePred ZCall := fun c => by cases c <;> unfold ZCall <;> infer_instance

theorem zCall_callQ {c : Call} (h : ZCall c) : CallQ ZRec c := by
  cases c with
  | startFile n o => exact fun _ _ => ⟨rfl, h⟩
  | addDirectory n o => exact fun _ _ => ⟨rfl, show (0 : UInt16) ≠ 99 by decide⟩
  | addSymlink n t o => exact fun _ _ => ⟨rfl, show (0 : UInt16) ≠ 99 by decide⟩
  | rawCopy src raw n => exact fun _ _ => ⟨rfl, h⟩
  | _ => trivial

/-- **Every entry of the appended archive is `Readable`** for a `ReadableZ` (in particular: `Readable`)
base — ZIP64 entries included — and calls that do not ask for method 99. -/
theorem append_entries_readable (ext : WExt) (l : Layout) (hR : l.ReadableZ)
    (calls : List Call) (hz : ∀ c ∈ calls, ZCall c) (outs : List (Out (Option Nat)))
    (es : List Spec.Zip.Entry) (gap c : Bytes)
    (hg : (ghostOf ext (baseGhost l) calls outs).close ext = some (es, gap, c)) :
    ∀ e ∈ es, e.Readable := by
  have h0 : GoodP Spec.Zip.Entry.Readable ZRec (baseGhost l) := appendNormAll_readable l hR
  exact Keeps.close (zSpec.keep ext) (goodP_run zSpec ext calls outs _ (fun c hc => zCall_callQ (hz c hc)) h0) hg

/-- The appended archive is a `Readable` layout, for a `ReadableZ` base and calls that do not ask for
method 99 (`append_entries_readable`, as a statement about `layoutOf`). -/
theorem appended_readable (ext : WExt) (l : Layout) (hR : l.ReadableZ)
    (calls : List Call) (hz : ∀ c ∈ calls, ZCall c) (outs : List (Out (Option Nat)))
    (es : List Spec.Zip.Entry) (gap c stale : Bytes)
    (hg : (ghostOf ext (baseGhost l) calls outs).close ext = some (es, gap, c)) :
    (layoutOf es gap c stale).Readable :=
  append_entries_readable ext l hR calls hz outs es gap c hg

/-- **`append_read_back`, `Readable` discharged.**  For any `ReadableZ` base (so: any `Readable` base,
whatever ZIP64 records it has), the appended archive is read back by `ZipArchive::new` as the views of
its entries and `by_index_raw` returns their stored bytes; what is left to check on the result is only
`Fits` and `NoFalseSig`. -/
theorem append_read_back_discharged (ext : WExt) (l : Layout) (hR : l.ReadableZ)
    (calls : List Call) (hz : ∀ c ∈ calls, ZCall c) (outs : List (Out (Option Nat)))
    (es : List Spec.Zip.Entry) (gap c stale : Bytes)
    (hg : (ghostOf ext (baseGhost l) calls outs).close ext = some (es, gap, c))
    (d' : Dev) (hbuf : d'.buf = build (layoutOf es gap c stale))
    (hF : (layoutOf es gap c stale).Fits) (hS : NoFalseSig (layoutOf es gap c stale))
    (ht : stale = [] ∨ (layoutOf es gap c stale).needs64 = false) :
    ∃ d1, openArchive.runPure (Dev.ofBytes d'.buf) = (.ok (archiveOf (layoutOf es gap c stale)), d1) ∧
      d1.buf = build (layoutOf es gap c stale) ∧
      (archiveOf (layoutOf es gap c stale)).offset = 0 ∧
      (archiveOf (layoutOf es gap c stale)).comment = c ∧
      (archiveOf (layoutOf es gap c stale)).files = viewOf (layoutOf es gap c stale) ∧
      (∀ (i : Nat) e, es[i]? = some e → ∃ off chs,
        (archiveOf (layoutOf es gap c stale)).files[i]? = some (viewEntry e off 0 chs)) ∧
      (∀ (i : Nat) e, es[i]? = some e → ∃ ds d2,
        (byIndexRaw (archiveOf (layoutOf es gap c stale)) i).runPure d1 = (.ok (ds, e.data), d2)) :=
  append_read_back es gap c stale d' hbuf hF (appended_readable ext l hR calls hz outs es gap c stale hg) hS ht

/-! ## Iteration: the result can be appended to again -/

theorem appendNorm_clean (e : Spec.Zip.Entry) (off pre : Nat) (h : AppendClean e) :
    AppendClean (appendNorm e off pre) := by
  have hname : (appendNorm e off pre).name = e.name := h.1
  have hflags : (appendNorm e off pre).flagsOut = e.flagsOut := by
    rw [appendNorm_flagsOut e off pre 0]
    show ((if !isAscii (Text.decodeToUtf8 (e.flagsOut &&& 0x0800 != 0) e.name) then (0x0800 : UInt16) else 0) |||
      (if (e.flagsOut &&& 1 == 1) then 1 else 0)) ||| (if (e.flagsOut &&& 0x0008 != 0) then 8 else 0) = e.flagsOut
    rw [h.1]
    exact h.2.symm
  unfold AppendClean
  rw [hflags, hname]
  exact h

theorem appendNormAll_clean (l : Layout) (hall : ∀ e ∈ l.entries, AppendClean e) :
    ∀ e ∈ appendNormAll l, AppendClean e := by
  intro e he
  obtain ⟨x, hx, off, g, rfl⟩ := mem_appendNormAll he
  exact appendNorm_clean x off l.pre.length (hall x hx)

/-- names given to the start calls are Rust `String`s: well-formed UTF-8 -/
def Utf8Names : Call → Prop :=
  CallQ (fun f => (Spec.utf8Strict f.fileName).isSome = true)

/-- When the new names are valid UTF-8 (they are Rust `String`s), every entry of
the appended archive is again `AppendClean`: the result is again a layout `new_append` can continue
(`append_base` applies to it, given `Fits` / `Readable` / `NoFalseSig` and small extra fields). -/
theorem append_iterates (ext : WExt) (l : Layout) (hall : ∀ e ∈ l.entries, AppendClean e)
    (calls : List Call) (hu : ∀ c ∈ calls, Utf8Names c) (outs : List (Out (Option Nat)))
    (es : List Spec.Zip.Entry) (gap c : Bytes)
    (hg : (ghostOf ext (baseGhost l) calls outs).close ext = some (es, gap, c)) :
    ∀ e ∈ es, AppendClean e := by
  have hS : GoodSpec AppendClean (fun f => (Spec.utf8Strict f.fileName).isSome = true) :=
    ⟨fun f dp gap data lv h => specEntry_appendClean f dp gap [] data lv h, fun _ _ _ h => h⟩
  have h0 : GoodP AppendClean (fun f => (Spec.utf8Strict f.fileName).isSome = true) (baseGhost l) :=
    appendNormAll_clean l hall
  exact Keeps.close (hS.keep ext) (goodP_run hS ext calls outs _ hu h0) hg

/-- **`append_iterates`, with `Readable`**: the result is again a layout of `AppendClean`, `Readable`
entries — `append_base` applies to it once more given only `Fits` / `NoFalseSig` and small extra fields;
ZIP64 entries of the base are no obstacle (D20). -/
theorem append_iterates_readable (ext : WExt) (l : Layout) (hR : l.ReadableZ)
    (hall : ∀ e ∈ l.entries, AppendClean e)
    (calls : List Call) (hu : ∀ c ∈ calls, Utf8Names c) (hz : ∀ c ∈ calls, ZCall c)
    (outs : List (Out (Option Nat))) (es : List Spec.Zip.Entry) (gap c stale : Bytes)
    (hg : (ghostOf ext (baseGhost l) calls outs).close ext = some (es, gap, c)) :
    (∀ e ∈ es, AppendClean e) ∧ (layoutOf es gap c stale).Readable :=
  ⟨append_iterates ext l hall calls hu outs es gap c hg,
   appended_readable ext l hR calls hz outs es gap c stale hg⟩

/-! ## Appending nothing -/

/-- `append_nothing` for a base that is only `ReadableZ`. -/
theorem append_nothingZ (ext : WExt) (l : Layout) (hF : l.Fits) (hR : l.ReadableZ)
    (hS : NoFalseSig l) (ht : l.trailing = [] ∨ l.needs64 = false)
    (hall : ∀ e ∈ l.entries, AppendClean e ∧ e.centralExtra.length + 56 ≤ 0xFFFF) :
    ∃ s0 d0, newAppend.runPure (Dev.ofBytes (build l)) = (.ok s0, d0) ∧
      ∀ (v : Option Nat) (s' : WState) (d' : Dev),
        step ext .finish s0 none d0 = (.ok (.ok v, s'), d') →
        d'.buf = build (layoutOf (appendNormAll l) (appendGap l) l.comment (d'.buf.drop d'.pos)) ∧
        d'.buf.take d'.pos = build (layoutOf (appendNormAll l) (appendGap l) l.comment []) := by
  obtain ⟨s0, d0, h1, h2⟩ := append_emits_layoutZ ext l hF hR hS ht hall [] (fun _ h => by cases h)
    (fun _ h => by cases h)
  refine ⟨s0, d0, h1, ?_⟩
  intro v s' d' hfin
  obtain ⟨k1, k2, _⟩ := h2 (appendNormAll l) (appendGap l) l.comment rfl v s' d' hfin
  exact ⟨k1, k2⟩

/-- `new_append` followed directly by `finish`: the sink is the layout of the
normalised old entries with the old comment; what is left of the old end of the archive is `stale`. -/
theorem append_nothing (ext : WExt) (l : Layout) (hF : l.Fits) (hR : l.Readable)
    (hS : NoFalseSig l) (ht : l.trailing = [] ∨ l.needs64 = false)
    (hall : ∀ e ∈ l.entries, AppendClean e ∧ e.centralExtra.length + 56 ≤ 0xFFFF) :
    ∃ s0 d0, newAppend.runPure (Dev.ofBytes (build l)) = (.ok s0, d0) ∧
      ∀ (v : Option Nat) (s' : WState) (d' : Dev),
        step ext .finish s0 none d0 = (.ok (.ok v, s'), d') →
        d'.buf = build (layoutOf (appendNormAll l) (appendGap l) l.comment (d'.buf.drop d'.pos)) ∧
        d'.buf.take d'.pos = build (layoutOf (appendNormAll l) (appendGap l) l.comment []) :=
  append_nothingZ ext l hF (readable_imp_readableZ l hR) hS ht hall

/-- the archive comment the ghost carries -/
def cmt : Ghost → Option Bytes
  | .idle _ _ c => some c
  | .opened _ _ c _ => some c
  | _ => none

theorem close_cmt {ext : WExt} {g : Ghost} {es : List Spec.Zip.Entry} {gap c : Bytes}
    (h : g.close ext = some (es, gap, c)) : cmt g = some c := by
  cases g with
  | dead => cases h
  | stuck ss n wf => cases h
  | lost => cases h
  | idle D gap0 c0 => cases h; rfl
  | opened D gap0 c0 o =>
    simp only [Ghost.close] at h
    split at h
    · cases h; rfl
    · cases h

/-- Only `set_comment` changes the comment: any other call that leaves the ghost idle or open leaves
its comment as it was. -/
theorem comment_kept_step (ext : WExt) (g : Ghost) (c : Call) (out : Out (Option Nat))
    (hc : ∀ c', c ≠ .setComment c') (ha' : (ghostStep ext g c out).alive) :
    cmt (ghostStep ext g c out) = cmt g := by
  obtain ⟨_, ⟨n, o, raw, ok, mk, _, ⟨_, e⟩ | ⟨es, gap, cm, f, _, _, hst, e⟩⟩ |
    ⟨b, _, ⟨D, gap, cm, o, rfl, _, _, e⟩ | ⟨_, e⟩⟩ | ⟨c', hc', _⟩ | ⟨_, e⟩⟩ := ghostStep_shape ext ha'
  -- in the order of `ghostStep_shape`: a start call refused for its name (ghost unchanged), or opening an entry
  -- behind `g.close`, whose comment is `g`'s (`close_cmt`); a `write` into the open entry, or one that is ignored;
  -- `set_comment`, excluded by `hc`; an `Inert` call
  · rw [e]
  · rw [e, close_cmt (Ghost.start_close hst)]; rfl
  · rw [e]; rfl
  · rw [e]
  · exact absurd hc' (hc c')
  · rw [e]

/-- **The comment is kept unless `set_comment` replaced it**: a script without `set_comment` appended to
`build l` finishes with the old comment. -/
theorem comment_kept (ext : WExt) (l : Layout) : ∀ (calls : List Call) (outs : List (Out (Option Nat)))
    (g : Ghost), cmt g = some l.comment → (∀ c ∈ calls, ∀ c', c ≠ .setComment c') →
    ∀ (es : List Spec.Zip.Entry) (gap cm : Bytes),
      (ghostOf ext g calls outs).close ext = some (es, gap, cm) → cm = l.comment
  | [], outs, g, hg, _, es, gap, cm, h => by
    have h' : g.close ext = some (es, gap, cm) := by cases outs <;> exact h
    have := close_cmt h'
    rw [hg] at this
    exact (Option.some.inj this).symm
  | c :: cs, [], g, hg, _, es, gap, cm, h => by
    have := close_cmt (show g.close ext = some (es, gap, cm) from h)
    rw [hg] at this
    exact (Option.some.inj this).symm
  | c :: cs, o :: os, g, hg, hc, es, gap, cm, h => by
    have hal : (ghostStep ext g c o).alive :=
      (done_prefix_run ext cs os _ (alive_of_close h)).1
    have h1 := comment_kept_step ext g c o (hc c (by simp)) hal
    exact comment_kept ext l cs os _ (by rw [h1, hg]) (fun c' h' => hc c' (by simp [h'])) es gap cm h

open ZipVerif.Props.C01 (wext1 script1 script2 finishDev finalGhost)

/-- The archive `script1` of C01 produces is a layout `append_base` applies to (its hypotheses hold), and
appending `script2` to it through the model gives what the ghost started at `baseGhost` computes. -/
example :
    (match (finalGhost wext1 script1).close wext1 with
     | some (es, gap, c) =>
       let l := layoutOf es gap c []
       decide (l.Fits) && decide (l.Readable) && decide (NoFalseSig l) &&
       decide (∀ e ∈ l.entries, AppendClean e ∧ e.centralExtra.length + 56 ≤ 0xFFFF) &&
       (match newAppend.runPure (Dev.ofBytes (build l)) with
        | (.ok s0, d0) =>
          let run := runCalls wext1 script2 s0 none d0
          (match (ghostOf wext1 (baseGhost l) script2 run.1).close wext1,
             step wext1 .finish run.2.1 none run.2.2 with
           | some (es', gap', c'), (.ok (.ok _, _), d') =>
             d'.buf == build (layoutOf es' gap' c' (d'.buf.drop d'.pos)) && es'.length == 5 &&
             c' == c && (es'.take 3).map Spec.Zip.Entry.data == es.map Spec.Zip.Entry.data
           | _, _ => false)
        | _ => false)
     | none => false) = true := by
  -- the hypotheses of `append_emits_layout`, and what it does not say, by evaluation; the sink from the theorem
  have hev : (match (finalGhost wext1 script1).close wext1 with
     | some (es, gap, c) =>
       let l := layoutOf es gap c []
       decide (l.Fits) && decide (l.Readable) && decide (NoFalseSig l) &&
       decide (∀ e ∈ l.entries, AppendClean e ∧ e.centralExtra.length + 56 ≤ 0xFFFF) &&
       (match newAppend.runPure (Dev.ofBytes (build l)) with
        | (.ok s0, d0) =>
          let run := runCalls wext1 script2 s0 none d0
          (match (ghostOf wext1 (baseGhost l) script2 run.1).close wext1,
             step wext1 .finish run.2.1 none run.2.2 with
           | some (es', _, c'), (.ok (.ok _, _), _) =>
             es'.length == 5 && c' == c && (es'.take 3).map Spec.Zip.Entry.data == es.map Spec.Zip.Entry.data
           | _, _ => false)
        | _ => false)
     | none => false) = true := by decide +kernel
  have hl : ∀ c ∈ script2, Level1 c ∧ c.Admissible := by decide
  rcases hX : (finalGhost wext1 script1).close wext1 with _ | ⟨es, gap, c⟩
  · rw [hX] at hev; cases hev
  rw [hX] at hev
  dsimp only at hev ⊢
  simp only [Bool.and_eq_true, decide_eq_true_eq] at hev
  obtain ⟨⟨⟨⟨hF, hR⟩, hS⟩, hall⟩, hrest⟩ := hev
  obtain ⟨s0, d0, h1, h2⟩ := append_emits_layout wext1 (layoutOf es gap c []) hF hR hS (Or.inl rfl) hall script2
    (fun c h => (hl c h).1) (fun c h => (hl c h).2)
  rw [h1] at hrest ⊢
  dsimp only at hrest ⊢
  rw [decide_eq_true hF, decide_eq_true hR, decide_eq_true hS, decide_eq_true hall]
  split at hrest
  next es' gap' c' v s' d' hg hs =>
    simp only [Bool.true_and, Bool.and_eq_true, beq_iff_eq] at hrest ⊢
    exact ⟨⟨⟨(h2 es' gap' c' hg v s' d' hs).1, hrest.1.1⟩, hrest.1.2⟩, hrest.2⟩
  · cases hrest

example : ∀ c ∈ script2, Utf8Names c := by
  intro c hc
  simp only [script2, List.mem_cons, List.mem_nil_iff, or_false] at hc
  rcases hc with h | h | h <;> subst h
  · intro hs ds; show (Spec.utf8Strict [0x72]).isSome = true; decide
  · trivial
  · intro hs ds; show (Spec.utf8Strict [0x6c]).isSome = true; decide

end ZipVerif.Props.C13Layout
