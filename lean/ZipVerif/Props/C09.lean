import ZipVerif.Lemmas.Layers
import ZipVerif.Lemmas.EntryBridge
import ZipVerif.Lemmas.EntryBridgeCrypto
import ZipVerif.Lemmas.EntryBridgeAes
import ZipVerif.Lemmas.ShortRead
/-
C09 — Results do not depend on how I/O is chunked.
The layer model is `Model/Layers.lean`, its lemmas `Lemmas/Layers.lean`; the archive-level theorems rest
on `Lemmas/EntryBridge*.lean` (layer model ↔ reader model) and `Lemmas/ShortRead.lean` (the parsers over
short-reading devices).  Whole sequences of writer calls over a short-writing sink are in
`Props/C09Writer.lean` (same namespace; it rests on `Props/C01`, `Props/C12` and `Lemmas/ShortWrite`, which this
file does not import).

Reading: `Denotes src s B o` is the schedule-free meaning of a reader ("delivers exactly `B`, then
ends with `o`, for every sequence of caller buffer sizes, zeros included"); every short-read
behaviour is some source, so a theorem `∀ inner, Denotes inner … → Denotes (layer inner) …` covers
every fragmentation of the underlying reads. `denotes_readToEnd` turns a denotation into the
observable statement about read loops.
-/

namespace ZipVerif.Props.C09
open ZipVerif ZipVerif.Spec ZipVerif.Model.Layers

variable {σ κ ω : Type}

/-! ## Reader layers -/

/-- `std::io::Take`: delivers the first `lim` bytes; ends cleanly at the limit, otherwise as the
inner reader ends. -/
theorem take_denotes (inner : Src σ) {s : σ} {B : Bytes} {o : Term} (lim : Nat)
    (h : Denotes inner s B o) :
    Denotes (take inner) (s, lim) (B.take lim) (takeTerm lim B o) :=
  Model.Layers.take_denotes inner lim h

/-- `Crc32Reader` needs its inner reader to behave on non-empty requests only (zero-length reads
are answered without consulting it). -/
theorem crc_denotes_nz (inner : Src σ) (check : UInt32) (ae2 : Bool) {s : σ} {B : Bytes} {o : Term}
    (h : Denotes (guardZero inner) s B o) :
    Denotes (crcLayer inner check ae2) (s, Crc32.init) B (crcTerm check ae2 B o) :=
  Model.Layers.crc_denotes_nz inner check ae2 h

/-- `Crc32Reader`: delivers the same bytes; a clean end becomes `Err("Invalid checksum")` exactly
when the CRC-32 of everything delivered differs from the declared one and the entry is not AE-2. -/
theorem crc_denotes (inner : Src σ) (check : UInt32) (ae2 : Bool) {s : σ} {B : Bytes} {o : Term}
    (h : Denotes inner s B o) :
    Denotes (crcLayer inner check ae2) (s, Crc32.init) B (crcTerm check ae2 B o) :=
  Model.Layers.crc_denotes inner check ae2 h

/-- Any count-preserving per-byte stateful transform (the AES-CTR layer instantiates this):
delivers the transform of the whole stream, same end. -/
theorem map_layer_denotes (f : κ → UInt8 → UInt8 × κ) (inner : Src σ) (k : κ) {s : σ} {B : Bytes}
    {o : Term} (h : Denotes inner s B o) :
    Denotes (statefulMapLayer f inner) (s, k) (mapBytes f k B) o :=
  Model.Layers.map_layer_denotes f inner k h

/-- The transform itself is chunk independent (`crypt (a ++ b) = crypt a ; crypt b` with the state
carried over). -/
theorem map_chunk_independent (f : κ → UInt8 → UInt8 × κ) (k : κ) (xs ys : Bytes) :
    mapBytes f k (xs ++ ys) = mapBytes f k xs ++ mapBytes f (mapKey f k xs) ys :=
  mapBytes_append f k xs ys

/-- `ZipCryptoReaderValid` (current code): delivers the decryption of the whole stream. -/
theorem zipcrypto_denotes (dec : κ → UInt8 → UInt8 × κ) (inner : Src σ) (k : κ) {s : σ}
    {B : Bytes} {o : Term} (h : Denotes inner s B o) :
    Denotes (zipCryptoLayer dec inner) (s, k) (mapBytes dec k B) o :=
  Model.Layers.map_layer_denotes dec inner k h

/-- `ZipCryptoReader::validate`: acceptance of the password and the reader it yields depend only on
the stream's bytes. -/
theorem zipcrypto_validate_schedule_independent (dec : κ → UInt8 → UInt8 × κ) (inner : Src σ)
    {s : σ} {B : Bytes} {o : Term} (k : κ) (expect : UInt8) (h : Denotes inner s B o) :
    (12 ≤ B.length → (mapBytes dec k (B.take 12))[11]? = some expect →
      ∃ s', zcValidate dec inner s k expect = .valid (s', mapKey dec k (B.take 12)) ∧
        Denotes (zipCryptoLayer dec inner) (s', mapKey dec k (B.take 12))
          (mapBytes dec (mapKey dec k (B.take 12)) (B.drop 12)) o) ∧
    (12 ≤ B.length → (mapBytes dec k (B.take 12))[11]? ≠ some expect →
      zcValidate dec inner s k expect = .wrongPassword) ∧
    (B.length < 12 → zcValidate dec inner s k expect = .err (exactErr o)) :=
  zcValidate_denotes dec inner k expect h

/-- Stored entries have no decoder: the codec hypothesis is a theorem for them. -/
theorem stored_codec_chunk_independent : storedCodec.ChunkIndependent :=
  ⟨fun _ _ _ _ h => h⟩

/-! ## Pipelines -/

/-! ### Compressed methods: what is asked of the external decoders

`Codec.ChunkIndependentNZ` - chunk independence of the decoder on EVERY compressed stream, damaged ones
included - is a hypothesis flate2 / bzip2 / zstd do not satisfy (on damaged input the point where they
notice depends on the buffer sizes; `picky_codec_separates` below is a model decoder of that kind), so it
is not what the pipeline theorems ask for:

* `pipeline_denotes_codec` / `pipeline_denotes_zipcrypto` need chunk independence on THE ONE stream the
  entry holds (`Codec.ChunkIndependentOn`, implied by `ChunkIndependentNZ`: `codec_on_of_nz`);
* `pipeline_denotes_intact` instantiates it for archives whose stored bytes are an encoder's output,
  under `Codec.IntactOK` - chunk independence of decoding WELL-FORMED streams, the only thing assumed
  about flate2 / bzip2 / zstd;
* for damaged compressed streams schedule independence is NOT claimed (it is false for the real
  decoders: the error may come earlier or later, zstd may even end cleanly with fewer bytes); what
  holds for them under every schedule is C04 (`entry_read_sound_any_method`,
  `damage_detected_unless_collision`). -/

/-- **Entry pipeline, any method.** Whatever reader holds the archive bytes `A` from the entry's data
start (any short-read behaviour), if the decoder is chunk independent on the entry's compressed
stream `A.take csize` (for NON-EMPTY requests: `Crc32Reader` answers zero-length reads itself), the
entry reader `Crc32Reader(decoder(Take(csize)))` delivers the decoding of that stream and ends with
the CRC verdict - for every schedule of caller buffers, zeros included. -/
theorem pipeline_denotes_codec (c : Codec) (inner : Src σ) {s : σ} {A : Bytes} {o : Term}
    (csize : Nat) (hc : c.ChunkIndependentOn (A.take csize) (takeTerm csize A o))
    (check : UInt32) (ae2 : Bool) (h : Denotes inner s A o) :
    Denotes (entryPipeline c inner check ae2) (c.init (s, csize), Crc32.init)
      (c.decode (A.take csize) (takeTerm csize A o)).1
      (crcTerm check ae2 (c.decode (A.take csize) (takeTerm csize A o)).1
        (c.decode (A.take csize) (takeTerm csize A o)).2) :=
  Model.Layers.crc_denotes_nz _ check ae2 (hc _ _ (Model.Layers.take_denotes inner csize h))

/-- **Intact entries, any method, modulo `Codec.IntactOK`.** The archive holds, from the entry's data
start, at least `csize` bytes and the first `csize` are what the encoder made of the payload `p`:
under every short-read behaviour of the archive reader and every schedule of caller buffers the entry
reader delivers exactly `p` and ends with the CRC verdict on `p`. -/
theorem pipeline_denotes_intact (c : Codec) (encode : Bytes → Bytes) (hc : c.IntactOK encode)
    (inner : Src σ) {s : σ} {A : Bytes} {o : Term} (csize : Nat) (check : UInt32) (ae2 : Bool)
    (p : Bytes) (h : Denotes inner s A o) (hA : A.take csize = encode p) (hlen : csize ≤ A.length) :
    Denotes (entryPipeline c inner check ae2) (c.init (s, csize), Crc32.init) p
      (crcTerm check ae2 p .eof) := by
  have ht : takeTerm csize A o = .eof := by simp only [takeTerm, hlen, if_true]
  have h1 := pipeline_denotes_codec c inner csize (by rw [ht, hA]; exact hc.chunk p) check ae2 h
  rw [ht, hA, hc.roundtrip p] at h1
  exact h1

/-- **Intact entry with the right CRC in the central record** (`pipeline_denotes_intact` at
`check = crc32 p`): every read loop returns the payload and a clean end-of-file, so two loops (different
fragmentation below, different buffers above) agree. -/
theorem intact_entry_reads_payload (c : Codec) (encode : Bytes → Bytes) (hc : c.IntactOK encode)
    (inner : Src σ) {s : σ} {A : Bytes} {o : Term} (csize : Nat) (ae2 : Bool) (p : Bytes)
    (h : Denotes inner s A o) (hA : A.take csize = encode p) (hlen : csize ≤ A.length)
    {reqs : List Nat} {b : Bytes} {t : Term} {e : c.St (σ × Nat) × UInt32}
    (hr : readToEnd (entryPipeline c inner (Crc32.crc32 p) ae2) (c.init (s, csize), Crc32.init) reqs
      = some (b, t, e)) :
    b = p ∧ t = .eof := by
  have hd := pipeline_denotes_intact c encode hc inner csize (Crc32.crc32 p) ae2 p h hA hlen
  have ht : crcTerm (Crc32.crc32 p) ae2 p .eof = .eof := by simp [crcTerm]
  rw [ht] at hd
  obtain ⟨h1, h2, _⟩ := denotes_readToEnd hd hr
  exact ⟨h1, h2⟩

/-- The all-streams hypothesis implies the per-stream one. -/
theorem codec_on_of_nz (c : Codec) (hc : c.ChunkIndependentNZ) (C : Bytes) (o : Term) :
    c.ChunkIndependentOn C o :=
  hc.on C o

/-- **The per-stream hypothesis is strictly weaker, and the difference is exactly the real decoders'
behaviour**: `pickyCodec` (rejects a whole chunk that contains a byte outside its format, so the
number of bytes delivered before the error depends on the chunking) is chunk independent on every
stream inside its format and violates the all-streams hypothesis. -/
theorem picky_codec_separates :
    (∀ C o, C.all (· < 0x80) = true → pickyCodec.ChunkIndependentOn C o) ∧
      ¬ pickyCodec.ChunkIndependentNZ :=
  ⟨fun _ o hC => pickyCodec_on_intact hC o, pickyCodec_not_chunk_independent⟩

/-- **Defect D13 (fixed by 80de80b): before the fix a zero-length read reached the decoder.** With a
decoder that fails zero-length reads while output is outstanding - the observed behaviour of the
zstd 0.11 decoder - the pre-fix entry reader is NOT schedule independent: the same one-byte entry
reads fine with buffers `[4096, 4096]` and fails with `[0, 4096]`. -/
theorem crc_prefix_zero_len_read_breaks_zstd_entry :
    ∃ (st : Scripted) (check : UInt32) (r₁ r₂ : List Nat),
      (readToEnd (crcLayerPreFix zeroLenErrScripted check false) (st, Crc32.init) r₁).map
          (fun r => (r.1, r.2.1)) = some ([0xc0], Term.eof) ∧
      (readToEnd (crcLayerPreFix zeroLenErrScripted check false) (st, Crc32.init) r₂).map
          (fun r => (r.1, r.2.1)) = some ([], Term.err .other) :=
  ⟨⟨[0xc0], [], [], none⟩, Crc32.crc32 [0xc0], [4096, 4096], [0, 4096], by decide +kernel,
    by decide +kernel⟩

/-- The current `Crc32Reader` (`crcLayer`, with the fix of D13) over the same decoder and the same one-byte
entry reads fine with zero-length buffers interleaved. -/
example :
    (readToEnd (crcLayer zeroLenErrScripted (Crc32.crc32 [0xc0]) false)
        ((⟨[0xc0], [], [], none⟩ : Scripted), Crc32.init) [0, 4096, 0, 4096]).map
          (fun r => (r.1, r.2.1)) = some ([0xc0], Term.eof) := by
  decide +kernel

/-- **Stored entries, no assumption.** -/
theorem pipeline_denotes_stored (inner : Src σ) {s : σ} {A : Bytes} {o : Term} (csize : Nat)
    (check : UInt32) (ae2 : Bool) (h : Denotes inner s A o) :
    Denotes (entryPipeline storedCodec inner check ae2) ((s, csize), Crc32.init)
      (A.take csize) (crcTerm check ae2 (A.take csize) (takeTerm csize A o)) :=
  pipeline_denotes_codec storedCodec inner csize (storedCodec_on _ _) check ae2 h

/-- ZipCrypto entries (after validation), any method: as `pipeline_denotes_codec`, the compressed
stream being the decryption of the first `lim` bytes. -/
theorem pipeline_denotes_zipcrypto (c : Codec) (dec : κ → UInt8 → UInt8 × κ) (inner : Src σ) {s : σ}
    {A : Bytes} {o : Term} (lim : Nat) (k : κ)
    (hc : c.ChunkIndependentOn (mapBytes dec k (A.take lim)) (takeTerm lim A o))
    (check : UInt32) (h : Denotes inner s A o) :
    Denotes (entryPipelineZc c dec inner check) (c.init ((s, lim), k), Crc32.init)
      (c.decode (mapBytes dec k (A.take lim)) (takeTerm lim A o)).1
      (crcTerm check false (c.decode (mapBytes dec k (A.take lim)) (takeTerm lim A o)).1
        (c.decode (mapBytes dec k (A.take lim)) (takeTerm lim A o)).2) :=
  Model.Layers.crc_denotes_nz _ check false
    (hc _ _ (Model.Layers.map_layer_denotes dec _ k (Model.Layers.take_denotes inner lim h)))

/-- Intact ZipCrypto entries, any method, modulo `Codec.IntactOK`: the decryption of the stored bytes
is the encoder's output for `p`. -/
theorem pipeline_denotes_zipcrypto_intact (c : Codec) (encode : Bytes → Bytes)
    (hc : c.IntactOK encode) (dec : κ → UInt8 → UInt8 × κ) (inner : Src σ) {s : σ} {A : Bytes}
    {o : Term} (lim : Nat) (k : κ) (check : UInt32) (p : Bytes) (h : Denotes inner s A o)
    (hA : mapBytes dec k (A.take lim) = encode p) (hlen : lim ≤ A.length) :
    Denotes (entryPipelineZc c dec inner check) (c.init ((s, lim), k), Crc32.init) p
      (crcTerm check false p .eof) := by
  have ht : takeTerm lim A o = .eof := by simp only [takeTerm, hlen, if_true]
  have h1 := pipeline_denotes_zipcrypto c dec inner lim k (by rw [ht, hA]; exact hc.chunk p) check h
  rw [ht, hA, hc.roundtrip p] at h1
  exact h1

/-- Stored + ZipCrypto, no assumption. -/
theorem pipeline_denotes_stored_zipcrypto (dec : κ → UInt8 → UInt8 × κ) (inner : Src σ) {s : σ}
    {A : Bytes} {o : Term} (lim : Nat) (k : κ) (check : UInt32) (h : Denotes inner s A o) :
    Denotes (entryPipelineZc storedCodec dec inner check) (((s, lim), k), Crc32.init)
      (mapBytes dec k (A.take lim))
      (crcTerm check false (mapBytes dec k (A.take lim)) (takeTerm lim A o)) :=
  pipeline_denotes_zipcrypto storedCodec dec inner lim k (storedCodec_on _ _) check h

/-! ## From denotations to what a caller observes -/

/-- **Schedule independence, observable form.** Two readers with the same denotation - e.g. the same
pipeline over two underlying readers that fragment their reads differently - driven by two arbitrary
lists of buffer sizes (zeros allowed): whenever both read-to-end loops finish they have returned the
same bytes and ended the same way. -/
theorem read_loops_agree {σ₁ σ₂ : Type} {src₁ : Src σ₁} {src₂ : Src σ₂} {s₁ : σ₁} {s₂ : σ₂}
    {B : Bytes} {o : Term} (h₁ : Denotes src₁ s₁ B o) (h₂ : Denotes src₂ s₂ B o)
    {reqs₁ reqs₂ : List Nat} {b₁ b₂ : Bytes} {t₁ t₂ : Term} {e₁ : σ₁} {e₂ : σ₂}
    (r₁ : readToEnd src₁ s₁ reqs₁ = some (b₁, t₁, e₁))
    (r₂ : readToEnd src₂ s₂ reqs₂ = some (b₂, t₂, e₂)) :
    b₁ = b₂ ∧ t₁ = t₂ := by
  obtain ⟨hb1, ht1, _⟩ := denotes_readToEnd h₁ r₁
  obtain ⟨hb2, ht2, _⟩ := denotes_readToEnd h₂ r₂
  exact ⟨hb1.trans hb2.symm, ht1.trans ht2.symm⟩

/-- A read loop returns exactly the denotation. -/
theorem read_loop_returns_denotation {src : Src σ} {s : σ} {B : Bytes} {o : Term}
    (h : Denotes src s B o) {reqs : List Nat} {b : Bytes} {t : Term} {s' : σ}
    (hr : readToEnd src s reqs = some (b, t, s')) :
    b = B ∧ t = o ∧ (t = .eof → Denotes src s' [] .eof) :=
  denotes_readToEnd h hr

/-- The loop does finish: more than `B.length` non-empty buffers suffice, however many zero-length
reads are interleaved. -/
theorem read_loop_terminates {src : Src σ} {s : σ} {B : Bytes} {o : Term} (h : Denotes src s B o)
    {reqs : List Nat} (hn : B.length < nonzero reqs) : (readToEnd src s reqs).isSome = true :=
  denotes_readToEnd_terminates h hn

/-- After end-of-file every further read, of any size, returns 0 bytes - forever. -/
theorem eof_sticky {src : Src σ} {s : σ} (h : Denotes src s [] .eof) (reqs : List Nat) :
    ∀ r ∈ (run src s reqs).1, r = .ok [] :=
  eof_sticky_run h reqs

/-- Metadata is read with `read_exact`: over any short-read behaviour it returns the same `n` bytes
and leaves the rest of the stream, or fails with `UnexpectedEof` (or the stream's own error). -/
theorem read_exact_schedule_independent {src : Src σ} {o : Term} {s : σ} {B : Bytes}
    (h : Denotes src s B o) (n : Nat) :
    (n ≤ B.length → ∃ s', readExact src s n = (.ok (B.take n), s') ∧ Denotes src s' (B.drop n) o) ∧
    (B.length < n → ∃ s', readExact src s n = (.err (exactErr o), s')) :=
  readExact_denotes h n

/-- Two readers holding the same bytes give the same `read_exact` result. -/
theorem read_exact_agree {σ₁ σ₂ : Type} {src₁ : Src σ₁} {src₂ : Src σ₂} {s₁ : σ₁} {s₂ : σ₂}
    {B : Bytes} {o : Term} (h₁ : Denotes src₁ s₁ B o) (h₂ : Denotes src₂ s₂ B o) (n : Nat) :
    (readExact src₁ s₁ n).1 = (readExact src₂ s₂ n).1 := by
  by_cases hn : n ≤ B.length
  · obtain ⟨_, e1, _⟩ := (readExact_denotes h₁ n).1 hn
    obtain ⟨_, e2, _⟩ := (readExact_denotes h₂ n).1 hn
    rw [e1, e2]
  · obtain ⟨_, e1⟩ := (readExact_denotes h₁ n).2 (by omega)
    obtain ⟨_, e2⟩ := (readExact_denotes h₂ n).2 (by omega)
    rw [e1, e2]

/-! ## Archive level: the entries `by_index` / the streaming reader hand out

`Lemmas/EntryBridge.lean` connects the call-by-call layer model with the reader model
(`Model/Reader.lean`: `byIndexRead`, `streamEntry`), so the pipeline theorems apply to every entry of
every byte string `ZipArchive::new` accepts, with the parameters `by_index` takes from the parsed
central record. -/

/-- **Bytes of an entry do not depend on chunking - seekable reader, every accepted byte string.**
`by_index` hands out unencrypted entry `i` with read-to-end result `res`; `c` is the decoder `ext`
summarises on this entry's stored bytes (`CodecFor`: a theorem for Stored - `codecFor_stored` -, for
compressed methods the hypothesis on intact streams - `codecFor_intact`).  Two readers holding the
archive's bytes from the data start, with arbitrary and different short-read behaviour, read with two
arbitrary buffer schedules (zeros included): both loops return the same bytes and end the same way,
namely as `res` says; after a clean end every further read returns 0 bytes. -/
theorem archive_entry_chunk_independent {σ₁ σ₂ : Type} (ext : Model.Ext) (bs : Bytes)
    {fa₀ : Option Nat} {a : Model.Archive} {d₀ : Model.Dev}
    (hopen : Model.openArchive fa₀ (Model.Dev.ofBytes bs) = (.ok a, d₀))
    {i : Nat} {data : Model.FileData} (hfile : a.files[i]? = some data)
    (henc : data.encrypted = false) {pw : Option Bytes} {fa : Option Nat} {d' : Model.Dev} {ds : Nat}
    {res : Out Bytes} (h : Model.byIndexRead ext a i pw fa d₀ = (.ok (.ok (ds, res)), d'))
    (c : Codec)
    (hc : Model.CodecFor ext data.method c ((bs.drop ds).take data.compressedSize.toNat))
    (inner₁ : Src σ₁) (s₁ : σ₁) (h₁ : Denotes inner₁ s₁ (bs.drop ds) .eof)
    (inner₂ : Src σ₂) (s₂ : σ₂) (h₂ : Denotes inner₂ s₂ (bs.drop ds) .eof)
    {reqs₁ reqs₂ : List Nat} {b₁ b₂ : Bytes} {t₁ t₂ : Term} {e₁ : c.St (σ₁ × Nat) × UInt32}
    {e₂ : c.St (σ₂ × Nat) × UInt32}
    (r₁ : readToEnd (entryPipeline c inner₁ data.crc32 false)
      (c.init (s₁, data.compressedSize.toNat), Crc32.init) reqs₁ = some (b₁, t₁, e₁))
    (r₂ : readToEnd (entryPipeline c inner₂ data.crc32 false)
      (c.init (s₂, data.compressedSize.toNat), Crc32.init) reqs₂ = some (b₂, t₂, e₂)) :
    b₁ = b₂ ∧ t₁ = t₂ ∧ res = Model.outOfLoop (b₁, t₁) ∧
      (t₁ = .eof → ∀ more, ∀ r ∈ (run (entryPipeline c inner₁ data.crc32 false) e₁ more).1,
        r = .ok []) := by
  have hbuf : d₀.buf = bs := Model.openArchive_buf hopen
  have hd₁ := pipeline_denotes_codec c inner₁ data.compressedSize.toNat
    (by rw [Model.takeTerm_eof]; exact hc.chunk) data.crc32 false h₁
  have hd₂ := pipeline_denotes_codec c inner₂ data.compressedSize.toNat
    (by rw [Model.takeTerm_eof]; exact hc.chunk) data.crc32 false h₂
  obtain ⟨hb, ht⟩ := read_loops_agree hd₁ hd₂ r₁ r₂
  obtain ⟨_, _, hst⟩ := denotes_readToEnd hd₁ r₁
  refine ⟨hb, ht, ?_, fun hte more => eof_sticky_run (hst hte) more⟩
  rw [← hbuf] at hc h₁
  exact Model.entry_bridge hfile henc h c hc inner₁ s₁ h₁ reqs₁ r₁

/-- **Bytes of an entry do not depend on chunking - streaming reader.**  As `archive_entry_chunk_independent`,
for an entry `read_zipfile_from_stream` hands out (`Model.streamEntry`): parameters from the LOCAL record, bytes
behind the header. -/
theorem stream_entry_chunk_independent {σ₁ σ₂ : Type} (ext : Model.Ext) {fa : Option Nat}
    {d d' : Model.Dev} {f : Model.FileData} {res : Out Bytes}
    (h : Model.streamEntry ext fa d = (.ok (some (f, res)), d')) :
    ∃ d1, Model.streamHeader fa d = (.ok (some f), d1) ∧ d1.buf = d.buf ∧
    ∀ (c : Codec), Model.CodecFor ext f.method c ((d.buf.drop d1.pos).take f.compressedSize.toNat) →
    ∀ (inner₁ : Src σ₁) (s₁ : σ₁), Denotes inner₁ s₁ (d.buf.drop d1.pos) .eof →
    ∀ (inner₂ : Src σ₂) (s₂ : σ₂), Denotes inner₂ s₂ (d.buf.drop d1.pos) .eof →
    ∀ (reqs₁ reqs₂ : List Nat) (b₁ b₂ : Bytes) (t₁ t₂ : Term) (e₁ : c.St (σ₁ × Nat) × UInt32)
      (e₂ : c.St (σ₂ × Nat) × UInt32),
      readToEnd (entryPipeline c inner₁ f.crc32 false)
        (c.init (s₁, f.compressedSize.toNat), Crc32.init) reqs₁ = some (b₁, t₁, e₁) →
      readToEnd (entryPipeline c inner₂ f.crc32 false)
        (c.init (s₂, f.compressedSize.toNat), Crc32.init) reqs₂ = some (b₂, t₂, e₂) →
      b₁ = b₂ ∧ t₁ = t₂ ∧ res = Model.outOfLoop (b₁, t₁) := by
  obtain ⟨d1, h1, hb, hres⟩ := Model.streamEntry_inv h
  refine ⟨d1, h1, hb, ?_⟩
  intro c hc inner₁ s₁ h₁ inner₂ s₂ h₂ reqs₁ reqs₂ b₁ b₂ t₁ t₂ e₁ e₂ r₁ r₂
  have hd₁ := pipeline_denotes_codec c inner₁ f.compressedSize.toNat
    (by rw [Model.takeTerm_eof]; exact hc.chunk) f.crc32 false h₁
  have hd₂ := pipeline_denotes_codec c inner₂ f.compressedSize.toNat
    (by rw [Model.takeTerm_eof]; exact hc.chunk) f.crc32 false h₂
  obtain ⟨hbb, ht⟩ := read_loops_agree hd₁ hd₂ r₁ r₂
  refine ⟨hbb, ht, ?_⟩
  rw [hres, hb]
  exact Model.pipeline_eq_decode_crc ext f.method c _ _ _ hc inner₁ s₁ h₁ reqs₁ r₁

/-- **Bytes of a ZipCrypto entry do not depend on chunking - seekable reader, every accepted byte string.**
The reader model with the crate's own decryption layer (`Model.cryptoExt`: one shot over the whole entry)
answers `by_index_decrypt(i, pw)` on a ZipCrypto entry with `r`.  Two readers holding the archive's bytes from
the data start, with arbitrary and different short-read behaviour:

* `r = Err(InvalidPassword)`: `ZipCryptoReader::validate` (a `read_exact` of the 12-byte header through the
  `Take`) rejects the password over both;
* `r = Ok(file)` with read-to-end result `res`: `validate` accepts over both, and two read loops over
  `Crc32Reader(decoder(ZipCryptoReaderValid(Take(..))))` with two arbitrary buffer schedules (zeros included)
  return the same bytes and end the same way, namely as `res` says - under `CodecFor` for the decoder on the
  DECRYPTED stream (a theorem for Stored: `codecFor_available`). -/
theorem archive_entry_chunk_independent_zipcrypto {σ₁ σ₂ : Type} (P : Model.Aes.AesPrims)
    (decode : Model.Method → Bytes → Out Bytes) (bs : Bytes)
    {fa₀ : Option Nat} {a : Model.Archive} {d₀ : Model.Dev}
    (hopen : Model.openArchive fa₀ (Model.Dev.ofBytes bs) = (.ok a, d₀))
    {i : Nat} {data : Model.FileData} (hfile : a.files[i]? = some data)
    (henc : data.encrypted = true) (haes : data.aesMode = none) {pw : Bytes} {fa : Option Nat}
    {d' : Model.Dev} {r : Model.PwResult (Nat × Out Bytes)}
    (h : Model.byIndexRead (Model.cryptoExt P decode) a i (some pw) fa d₀ = (.ok r, d')) :
    ∃ ds, ∀ (inner₁ : Src σ₁) (s₁ : σ₁), Denotes inner₁ s₁ (bs.drop ds) .eof →
      ∀ (inner₂ : Src σ₂) (s₂ : σ₂), Denotes inner₂ s₂ (bs.drop ds) .eof →
      (r = .invalidPassword →
        zcValidate Model.ZipCrypto.decryptByte (take inner₁) (s₁, data.compressedSize.toNat)
          (Model.ZipCrypto.derive pw) (Model.zcCheck data) = .wrongPassword ∧
        zcValidate Model.ZipCrypto.decryptByte (take inner₂) (s₂, data.compressedSize.toNat)
          (Model.ZipCrypto.derive pw) (Model.zcCheck data) = .wrongPassword) ∧
      (∀ res, r = .ok (ds, res) →
        ∃ st₁ st₂ pt,
          zcValidate Model.ZipCrypto.decryptByte (take inner₁) (s₁, data.compressedSize.toNat)
            (Model.ZipCrypto.derive pw) (Model.zcCheck data) = .valid st₁ ∧
          zcValidate Model.ZipCrypto.decryptByte (take inner₂) (s₂, data.compressedSize.toNat)
            (Model.ZipCrypto.derive pw) (Model.zcCheck data) = .valid st₂ ∧
          Model.zipCryptoLayer pw (Model.zcCheck data) ((bs.drop ds).take data.compressedSize.toNat) = .ok (some pt) ∧
          ∀ (c : Codec), Model.CodecFor (Model.cryptoExt P decode) data.method c pt →
          ∀ (reqs₁ reqs₂ : List Nat) (b₁ b₂ : Bytes) (t₁ t₂ : Term)
            (e₁ : c.St ((σ₁ × Nat) × Model.ZipCrypto.Keys) × UInt32)
            (e₂ : c.St ((σ₂ × Nat) × Model.ZipCrypto.Keys) × UInt32),
            readToEnd (entryPipelineZc c Model.ZipCrypto.decryptByte inner₁ data.crc32) (c.init st₁, Crc32.init)
              reqs₁ = some (b₁, t₁, e₁) →
            readToEnd (entryPipelineZc c Model.ZipCrypto.decryptByte inner₂ data.crc32) (c.init st₂, Crc32.init)
              reqs₂ = some (b₂, t₂, e₂) →
            b₁ = b₂ ∧ t₁ = t₂ ∧ res = Model.outOfLoop (b₁, t₁)) := by
  have hbuf : d₀.buf = bs := Model.openArchive_buf hopen
  obtain ⟨ds, _, hA⟩ := Model.entry_bridge_zipcrypto hfile henc haes h
  rw [hbuf] at hA
  refine ⟨ds, ?_⟩
  intro inner₁ s₁ h₁ inner₂ s₂ h₂
  obtain ⟨hA1, hA2⟩ := hA σ₁ inner₁ s₁ h₁
  obtain ⟨hB1, hB2⟩ := hA σ₂ inner₂ s₂ h₂
  refine ⟨fun hinv => ⟨hA2 hinv, hB2 hinv⟩, fun res hres => ?_⟩
  obtain ⟨st₁, hv₁, pt, hpt, hden₁, hrun₁⟩ := hA1 res hres
  obtain ⟨st₂, hv₂, pt', hpt', hden₂, hrun₂⟩ := hB1 res hres
  cases hpt.symm.trans hpt'
  refine ⟨st₁, st₂, pt, hv₁, hv₂, hpt, ?_⟩
  intro c hc reqs₁ reqs₂ b₁ b₂ t₁ t₂ e₁ e₂ r₁ r₂
  have q₁ := hrun₁ c hc reqs₁ b₁ t₁ e₁ r₁
  obtain ⟨hb, ht⟩ := read_loops_agree (hc.denotes hden₁ data.crc32 false) (hc.denotes hden₂ data.crc32 false) r₁ r₂
  exact ⟨hb, ht, q₁⟩

/-- **Bytes of a WinZip-AES entry do not depend on chunking - seekable reader, every accepted byte string.**
The reader model with the crate's own AES layer (`Model.cryptoExt`: `validate` and a read-to-end over a
never-short byte list, one fixed pair of buffers) answers `by_index_decrypt(i, pw)` on an entry with the
encryption flag and an AES extra record with `r`.  Two readers holding the entry's stored bytes with two
arbitrary short-read schedules `sched₁`, `sched₂`:

* `r = Err(InvalidPassword)`: `AesReader::validate` answers `Ok(None)` over both;
* `r = Ok(file)` with read-to-end result `res`: `validate` accepts over both and hands out the readers
  `aesReader .. sc₁` / `.. sc₂`; `AesVerdict` holds for both (code right: `AesReaderValid` DENOTES the
  decryption of the payload, for every schedule of caller buffers; code wrong / bytes missing: `res` is the I/O
  error and NO run reaches a successful end-of-file, `Aes.NeverEof`); and when the code is right, two read
  loops over `Crc32Reader(decoder(AesReaderValid(..)))` with two arbitrary buffer schedules (zeros included)
  return the same bytes and end the same way, namely as `res` says - under `CodecFor` for the decoder on the
  DECRYPTED stream (a theorem for Stored: `codecFor_available`). -/
theorem archive_entry_chunk_independent_aes (P : Model.Aes.AesPrims) (hW : P.WF)
    (decode : Model.Method → Bytes → Out Bytes) (bs : Bytes)
    {fa₀ : Option Nat} {a : Model.Archive} {d₀ : Model.Dev}
    (hopen : Model.openArchive fa₀ (Model.Dev.ofBytes bs) = (.ok a, d₀))
    {i : Nat} {data : Model.FileData} (hfile : a.files[i]? = some data)
    (henc : data.encrypted = true) {mode : Model.AesMode} {vv : Model.AesVendorVersion}
    (haes : data.aesMode = some (mode, vv)) {pw : Bytes} {fa : Option Nat}
    {d' : Model.Dev} {r : Model.PwResult (Nat × Out Bytes)}
    (h : Model.byIndexRead (Model.cryptoExt P decode) a i (some pw) fa d₀ = (.ok r, d')) :
    ∃ ds L, Model.Aes.dataLength (Model.aesModeView mode) data.compressedSize.toNat = some L ∧
    ∀ sched₁ sched₂ : List Nat,
      (r = .invalidPassword →
        (Model.Aes.validate P Model.Aes.listSrc (Model.aesModeView mode) (some L)
          ⟨(bs.drop ds).take data.compressedSize.toNat, sched₁⟩ pw).1 = .ok none ∧
        (Model.Aes.validate P Model.Aes.listSrc (Model.aesModeView mode) (some L)
          ⟨(bs.drop ds).take data.compressedSize.toNat, sched₂⟩ pw).1 = .ok none) ∧
      (∀ res, r = .ok (ds, res) → ∃ sc₁ sc₂,
        Model.Aes.validate P Model.Aes.listSrc (Model.aesModeView mode) (some L)
            ⟨(bs.drop ds).take data.compressedSize.toNat, sched₁⟩ pw =
          (.ok (some (Model.aesReader P pw mode ((bs.drop ds).take data.compressedSize.toNat) L sc₁)),
            ⟨Model.aesBody mode ((bs.drop ds).take data.compressedSize.toNat), sc₁⟩) ∧
        Model.Aes.validate P Model.Aes.listSrc (Model.aesModeView mode) (some L)
            ⟨(bs.drop ds).take data.compressedSize.toNat, sched₂⟩ pw =
          (.ok (some (Model.aesReader P pw mode ((bs.drop ds).take data.compressedSize.toNat) L sc₂)),
            ⟨Model.aesBody mode ((bs.drop ds).take data.compressedSize.toNat), sc₂⟩) ∧
        Model.AesVerdict P (Model.cryptoExt P decode) data.method data.crc32 (vv == .ae2) pw mode
          ((bs.drop ds).take data.compressedSize.toNat) L
          (Model.aesReader P pw mode ((bs.drop ds).take data.compressedSize.toNat) L sc₁) res ∧
        Model.AesVerdict P (Model.cryptoExt P decode) data.method data.crc32 (vv == .ae2) pw mode
          ((bs.drop ds).take data.compressedSize.toNat) L
          (Model.aesReader P pw mode ((bs.drop ds).take data.compressedSize.toNat) L sc₂) res ∧
        (L + Model.Aes.AUTH_CODE_LENGTH ≤
            (Model.aesBody mode ((bs.drop ds).take data.compressedSize.toNat)).length →
          Model.aesCodeOk P pw mode ((bs.drop ds).take data.compressedSize.toNat) L →
          ∃ pt cfin, Model.Aes.cryptBytes P (Model.aesKey P pw mode ((bs.drop ds).take data.compressedSize.toNat))
              Model.Aes.CtrState.new
              ((Model.aesBody mode ((bs.drop ds).take data.compressedSize.toNat)).take L) = .ok (pt, cfin) ∧
          ∀ (c : Codec), Model.CodecFor (Model.cryptoExt P decode) data.method c pt →
          ∀ (reqs₁ reqs₂ : List Nat) (b₁ b₂ : Bytes) (t₁ t₂ : Term)
            (e₁ e₂ : c.St (Model.Aes.Valid Model.Aes.ListSrc) × UInt32),
            readToEnd (Model.entryPipelineAes c P Model.Aes.listSrc data.crc32 (vv == .ae2))
              (c.init (Model.aesReader P pw mode ((bs.drop ds).take data.compressedSize.toNat) L sc₁), Crc32.init)
              reqs₁ = some (b₁, t₁, e₁) →
            readToEnd (Model.entryPipelineAes c P Model.Aes.listSrc data.crc32 (vv == .ae2))
              (c.init (Model.aesReader P pw mode ((bs.drop ds).take data.compressedSize.toNat) L sc₂), Crc32.init)
              reqs₂ = some (b₂, t₂, e₂) →
            b₁ = b₂ ∧ t₁ = t₂ ∧ res = Model.outOfLoop (b₁, t₁))) := by
  have hbuf : d₀.buf = bs := Model.openArchive_buf hopen
  obtain ⟨ds, _, L, hdl, _, _, hA⟩ := Model.entry_bridge_aes hW hfile henc haes h
  rw [hbuf] at hA
  refine ⟨ds, L, hdl, ?_⟩
  intro sched₁ sched₂
  obtain ⟨hA1, hA2⟩ := hA sched₁
  obtain ⟨hB1, hB2⟩ := hA sched₂
  refine ⟨fun hinv => ⟨(hA1 hinv).2, (hB1 hinv).2⟩, fun res hres => ?_⟩
  obtain ⟨_, sc₁, hv₁, hV₁⟩ := hA2 res hres
  obtain ⟨_, sc₂, hv₂, hV₂⟩ := hB2 res hres
  refine ⟨sc₁, sc₂, hv₁, hv₂, hV₁, hV₂, ?_⟩
  intro hlen hcode
  obtain ⟨pt, cfin, hpt, hres₁, hden₁⟩ := hV₁.intact hlen hcode
  obtain ⟨pt', cfin', hpt', _, hden₂⟩ := hV₂.intact hlen hcode
  cases hpt.symm.trans hpt'
  refine ⟨pt, cfin, hpt, ?_⟩
  intro c hc reqs₁ reqs₂ b₁ b₂ t₁ t₂ e₁ e₂ r₁ r₂
  obtain ⟨hb, ht⟩ :=
    read_loops_agree (hc.denotes hden₁ data.crc32 (vv == .ae2)) (hc.denotes hden₂ data.crc32 (vv == .ae2)) r₁ r₂
  refine ⟨hb, ht, ?_⟩
  rw [hres₁]
  exact Model.layer_eq_decode_crc (Model.cryptoExt P decode) data.method c pt data.crc32 (vv == .ae2) hc _ _
    hden₁ reqs₁ r₁

/-- The hypotheses of `archive_entry_chunk_independent_aes` on a concrete archive (`Model.aesExArchive`: accepted,
entry 0 with flag and AES record, handed out for the password "pw" with data start 42), and its conclusion
observed under two short-read schedules of the byte source and two buffer schedules (zeros included). -/
example :
    Model.aesOpenRead Model.aesExArchive [0x70, 0x77] [0, 2] [2, 0, 1, 9, 9] =
      some (42, some [1, 2, 3, 4, 5], some [1, 2, 3, 4, 5]) ∧
    Model.aesOpenRead Model.aesExArchive [0x70, 0x77] [] [1, 1, 0, 1, 1, 1, 4] =
      some (42, some [1, 2, 3, 4, 5], some [1, 2, 3, 4, 5]) ∧ Model.exPrims.WF :=
  ⟨Model.aesOpenRead_runs.1, Model.aesOpenRead_runs.2.1, Model.exPrims_wf⟩

/-- `CodecFor` for Stored entries is a theorem (no decoder), for compressed entries whose stored bytes
are an encoder's output it follows from `Codec.IntactOK`. -/
theorem codecFor_available (ext : Model.Ext) :
    (∀ C, (∀ x, ext.decode .stored x = .ok x) → Model.CodecFor ext .stored storedCodec C) ∧
    (∀ (m : Model.Method) (c : Codec) (encode : Bytes → Bytes) (p : Bytes), c.IntactOK encode →
      ext.decode m (encode p) = .ok p → Model.CodecFor ext m c (encode p)) :=
  ⟨fun C hst => Model.codecFor_stored ext hst C,
   fun m c encode p hc hdec => Model.codecFor_intact ext m c encode hc p hdec⟩

/-! ## Metadata under short reads of the underlying reader

The reader model's monad runs over a never-short `Cursor`.  `Model/ShortRead.lean` runs the SAME
parsers (`G.openArchive` … written generically over their I/O vocabulary and proved EQUAL to the
model's parsers at `M`: `G.openArchive_M`) over the same device with an arbitrary short-read schedule
`sch` (call number `k` delivers at most `max (sch k) 1` bytes, i.e. any non-empty prefix of what is
available) and the real `read_exact` retry loop. -/

/-- **The metadata do not depend on how the underlying reader splits its reads.**  For every byte
string and every short-read schedule, `ZipArchive::new` over the short-reading reader ends exactly as
over the `Cursor`: the same archive value (entries in order, offset, comment) or the same error, and
the reader is left on the same bytes at the same position. -/
theorem open_archive_short_read_independent (bs : Bytes) (sch : Nat → Nat) :
    ∃ o d' sd', Model.openArchive none (Model.Dev.ofBytes bs) = (o, d') ∧
      (Model.G.openArchive : Model.MS Model.Archive) sch (Model.Dev.ofBytes bs) = (o, sd') ∧
      sd'.buf = d'.buf ∧ sd'.pos = d'.pos := by
  have h := Model.G.sim_openArchive.elim sch (Model.Dev.ofBytes bs) (Model.Dev.ofBytes bs) ⟨rfl, rfl⟩
  rw [Model.G.openArchive_M] at h
  exact h

/-- Two schedules give the same view. -/
theorem open_archive_schedules_agree (bs : Bytes) (sch₁ sch₂ : Nat → Nat) :
    ((Model.G.openArchive : Model.MS Model.Archive) sch₁ (Model.Dev.ofBytes bs)).1 =
      ((Model.G.openArchive : Model.MS Model.Archive) sch₂ (Model.Dev.ofBytes bs)).1 := by
  obtain ⟨o₁, _, _, e₁, f₁, _⟩ := open_archive_short_read_independent bs sch₁
  obtain ⟨o₂, _, _, e₂, f₂, _⟩ := open_archive_short_read_independent bs sch₂
  rw [f₁, f₂]
  rw [e₁] at e₂
  exact (Prod.mk.inj e₂).1

/-- The local-header reads of `by_index` (`find_content`) do not depend on the short-read schedule either:
same data start or same error as over the `Cursor`, from any state of the reader, and the reader is left at
the same position - where the entry's data path (`archive_entry_chunk_independent`) takes over, for which the
short-reading device is one of the readers (`short_device_denotes`). -/
theorem find_content_short_read_independent (f : Model.FileData) (sch : Nat → Nat)
    (d sd : Model.Dev) (hb : sd.buf = d.buf) (hp : sd.pos = d.pos) :
    ∃ o d' sd', Model.findContent f none d = (o, d') ∧
      (Model.G.findContent f : Model.MS Nat) sch sd = (o, sd') ∧
      sd'.buf = d'.buf ∧ sd'.pos = d'.pos := by
  have h := (Model.G.sim_findContent f).elim sch d sd ⟨hb, hp⟩
  rw [Model.G.findContent_M] at h
  exact h

/-- **Streaming reader, one header** (`read_zipfile_from_stream` up to the construction of the entry; no
seek is ever issued): from any state of the reader, over any short-read schedule, the same local record -
or "central directory reached", or the same error - and the reader is left at the same position. -/
theorem stream_header_short_read_independent (sch : Nat → Nat) (d sd : Model.Dev) (hb : sd.buf = d.buf)
    (hp : sd.pos = d.pos) :
    ∃ o d' sd', Model.streamHeader none d = (o, d') ∧
      (Model.G.streamHeader : Model.MS (Option Model.FileData)) sch sd = (o, sd') ∧
      sd'.buf = d'.buf ∧ sd'.pos = d'.pos := by
  have h := Model.G.sim_streamHeader.elim sch d sd ⟨hb, hp⟩
  rw [Model.G.streamHeader_M] at h
  exact h

/-- **Streaming reader, the whole visit** (`ZipStreamReader::visit`: every entry in stream order - header,
then its data drained to the end of its `Take`, which is what positions the reader for the next header -
then the central directory records).  For every byte string and every short-read schedule the visitor sees
exactly the events it sees over the `Cursor`: the same entries with the same metadata and the same
`read_to_end` outcomes, the same central records, or the same error.  `G.streamVisitF` takes as parameters the two
loop bounds `Model.streamVisit` computes from the buffer length (a local record takes at least 30 bytes, a central
record 46). -/
theorem stream_visit_short_read_independent (ext : Model.Ext) (bs : Bytes) (sch : Nat → Nat) :
    ∃ o d' sd', Model.streamVisit ext none (Model.Dev.ofBytes bs) = (o, d') ∧
      (Model.G.streamVisitF ext (bs.length / 30 + 1) (bs.length / 46 + 1) :
        Model.MS (List (Model.FileData × Out Bytes) × List Model.FileData)) sch (Model.Dev.ofBytes bs) = (o, sd') ∧
      sd'.buf = d'.buf ∧ sd'.pos = d'.pos := by
  have h := (Model.G.sim_streamVisitF ext (bs.length / 30 + 1) (bs.length / 46 + 1)).elim sch
    (Model.Dev.ofBytes bs) (Model.Dev.ofBytes bs) ⟨rfl, rfl⟩
  rw [Model.G.streamVisit_M]
  exact h

/-- Two schedules show the visitor the same events. -/
theorem stream_visit_schedules_agree (ext : Model.Ext) (bs : Bytes) (sch₁ sch₂ : Nat → Nat) :
    ((Model.G.streamVisitF ext (bs.length / 30 + 1) (bs.length / 46 + 1) :
        Model.MS (List (Model.FileData × Out Bytes) × List Model.FileData)) sch₁ (Model.Dev.ofBytes bs)).1 =
    ((Model.G.streamVisitF ext (bs.length / 30 + 1) (bs.length / 46 + 1) :
        Model.MS (List (Model.FileData × Out Bytes) × List Model.FileData)) sch₂ (Model.Dev.ofBytes bs)).1 := by
  obtain ⟨o₁, _, _, e₁, f₁, _⟩ := stream_visit_short_read_independent ext bs sch₁
  obtain ⟨o₂, _, _, e₂, f₂, _⟩ := stream_visit_short_read_independent ext bs sch₂
  rw [f₁, f₂]
  rw [e₁] at e₂
  exact (Prod.mk.inj e₂).1

/-- The short-reading device as a reader of the layer model: delivers the bytes behind its position,
then a clean end of file, under every schedule. -/
theorem short_device_denotes (sch : Nat → Nat) (d : Model.Dev) :
    Denotes (Model.shortSrc sch) d (d.buf.drop d.pos) .eof :=
  Model.shortSrc_denotes sch d

/-! ## Headers under short writes of the sink

The writer model (`Model/Writer.lean`) performs every header / central-directory / end-record write as
`M.writeAll` or `M.writeChunks` (a list of `write_all`s) over a sink whose `write` takes the whole
buffer.  The real `write_all` is a retry loop; over the same device with an ARBITRARY short-write
schedule (`Model.shortWr sch`: call `k` accepts at most `max (sch k) 1` bytes, overwriting / extending
at the current position like `Cursor<Vec<u8>>`) the loop leaves exactly the bytes and the position the
model's whole write leaves - including writes in the middle of the file (the size/CRC patch after
seeking back) and writes past the end (zero fill).  The entry DATA path is `caller_split_independent`
below. -/

/-- One `write_all` of the writer model over a short-writing sink: the retry loop leaves the bytes and the
position of the model's whole write. -/
theorem write_all_absorbs_short_writes (sch : Nat → Nat) (bs : Bytes) (d sd : Model.Dev)
    (hb : sd.buf = d.buf) (hp : sd.pos = d.pos) :
    ∃ d' sd', Model.M.writeAll bs none d = (.ok (), d') ∧
      writeAll (Model.shortWr sch) sd bs = (.ok (), sd') ∧ sd'.buf = d'.buf ∧ sd'.pos = d'.pos :=
  Model.short_writeAll_sim sch bs d sd ⟨hb, hp⟩

/-- A record written as a list of `write_all`s (local header, central header, end records). -/
theorem header_writes_absorb_short_writes (sch : Nat → Nat) (chunks : List Bytes) (d sd : Model.Dev)
    (hb : sd.buf = d.buf) (hp : sd.pos = d.pos) :
    ∃ d' sd', Model.M.writeChunks chunks none d = (.ok (), d') ∧
      writeAllSeq (Model.shortWr sch) sd chunks = (.ok (), sd') ∧ sd'.buf = d'.buf ∧
        sd'.pos = d'.pos :=
  Model.short_writeChunks_sim sch chunks d sd ⟨hb, hp⟩

/-! ## Defect D1 (fixed by c83eb5a): the old ZipCrypto reader was not chunk independent -/

/-- Two underlying readers holding the same two ciphertext bytes - one hands them over together, the
other one at a time - make the *pre-fix* `ZipCryptoReaderValid::read` return different plaintext for
the same caller schedule (two 2-byte buffers, then one more): the key state advanced over the
unread tail of the first buffer. Real PKWARE cipher, key state derived from the password "p". -/
theorem zipcrypto_buggy_not_chunk_independent :
    ∃ (s₁ s₂ : Scripted) (B : Bytes) (k : Pk.Keys) (reqs : List Nat),
      Denotes scripted s₁ B .eof ∧ Denotes scripted s₂ B .eof ∧
      (readToEnd (zipCryptoLayerBuggy Pk.dec 0 scripted) (s₁, k) reqs).map (·.1) ≠
        (readToEnd (zipCryptoLayerBuggy Pk.dec 0 scripted) (s₂, k) reqs).map (·.1) := by
  refine ⟨⟨[0x11, 0x22], [], [], none⟩, ⟨[0x11, 0x22], [1], [], none⟩, [0x11, 0x22],
    Pk.derive [0x70], [2, 2, 2], scripted_denotes _, scripted_denotes _, ?_⟩
  decide +kernel

/-- The two runs of `zipcrypto_buggy_not_chunk_independent` (same readers, key state and caller schedule) through
the current `ZipCryptoReaderValid::read` agree (instance of `zipcrypto_denotes`). -/
example :
    (readToEnd (zipCryptoLayer Pk.dec scripted)
        ((⟨[0x11, 0x22], [], [], none⟩ : Scripted), Pk.derive [0x70]) [2, 2, 2]).map (·.1) =
      (readToEnd (zipCryptoLayer Pk.dec scripted)
        ((⟨[0x11, 0x22], [1], [], none⟩ : Scripted), Pk.derive [0x70]) [2, 2, 2]).map (·.1) := by
  decide +kernel

/-! ## Writer side in the layer model: `write_all` and `ZipWriter::write` on a Stored entry, any appending sink -/

/-- `write_all` (headers, central directory) over any sink that accepts an arbitrary non-empty prefix
per call: succeeds and the sink holds exactly the buffer appended. -/
theorem write_all_schedule_independent {w : Wr ω} {contents : ω → Bytes}
    (hs : SinkSpec w contents) (hl : SinkLive w) (t : ω) (buf : Bytes) :
    ∃ t', writeAll w t buf = (.ok (), t') ∧ contents t' = contents t ++ buf :=
  writeAllAux_spec hs hl buf.length t buf (Nat.le_refl _)

/-- Two sinks with different short-write behaviour end up with identical contents. -/
theorem write_all_sinks_agree {ω₁ ω₂ : Type} {w₁ : Wr ω₁} {w₂ : Wr ω₂} {c₁ : ω₁ → Bytes}
    {c₂ : ω₂ → Bytes} (hs₁ : SinkSpec w₁ c₁) (hl₁ : SinkLive w₁) (hs₂ : SinkSpec w₂ c₂)
    (hl₂ : SinkLive w₂) (t₁ : ω₁) (t₂ : ω₂) (h0 : c₁ t₁ = c₂ t₂) (buf : Bytes) :
    c₁ (writeAll w₁ t₁ buf).2 = c₂ (writeAll w₂ t₂ buf).2 ∧
      (writeAll w₁ t₁ buf).1 = .ok () ∧ (writeAll w₂ t₂ buf).1 = .ok () := by
  obtain ⟨a, ea, ha⟩ := write_all_schedule_independent hs₁ hl₁ t₁ buf
  obtain ⟨b, eb, hb⟩ := write_all_schedule_independent hs₂ hl₂ t₂ buf
  rw [ea, eb]
  exact ⟨by simp only [ha, hb, h0], rfl, rfl⟩

/-- `ZipWriter::write buf = Ok(k)`: the sink received exactly `buf[0..k]`, and the hasher and the
byte counter advanced by exactly those bytes. -/
theorem writer_accounts_accepted_bytes {w : Wr ω} {contents : ω → Bytes} (hs : SinkSpec w contents)
    {st st' : ZwState ω} {buf : Bytes} {k : Nat} (h : (zipWriterWr w).wr st buf = (.ok k, st')) :
    k ≤ buf.length ∧ contents st'.sink = contents st.sink ++ buf.take k ∧
      st'.reg = Crc32.updateBytes st.reg (buf.take k) ∧ st'.written = st.written + k ∧
      st'.closed = false ∧ st'.largeFile = st.largeFile :=
  zipWriterWr_ok hs h

/-- `write_all` through `ZipWriter` over any short-writing sink: data, CRC and size are those of the
whole buffer (below the 4 GiB threshold, or with `large_file`). -/
theorem writer_bytes_schedule_independent {w : Wr ω} {contents : ω → Bytes}
    (hs : SinkSpec w contents) (hl : SinkLive w) (st : ZwState ω) (buf : Bytes)
    (hopen : st.closed = false)
    (hsz : st.written + buf.length ≤ zip64BytesThr ∨ st.largeFile = true) :
    ∃ st', writeAll (zipWriterWr w) st buf = (.ok (), st') ∧
      contents st'.sink = contents st.sink ++ buf ∧
      st'.reg = Crc32.updateBytes st.reg buf ∧ st'.written = st.written + buf.length ∧
      st'.closed = false ∧ st'.largeFile = st.largeFile :=
  zipWriter_writeAllAux hs hl buf.length st buf (Nat.le_refl _) hopen hsz

/-- **However the caller splits its writes** (and however the sink fragments them), a Stored entry
gets byte-identical data, the same CRC and the same size: they depend only on the concatenation. -/
theorem caller_split_independent {w : Wr ω} {contents : ω → Bytes} (hs : SinkSpec w contents)
    (hl : SinkLive w) (st : ZwState ω) (cs : List Bytes) (hopen : st.closed = false)
    (hsz : st.written + cs.flatten.length ≤ zip64BytesThr ∨ st.largeFile = true) :
    ∃ st', writeAllSeq (zipWriterWr w) st cs = (.ok (), st') ∧
      contents st'.sink = contents st.sink ++ cs.flatten ∧
      st'.reg = Crc32.updateBytes st.reg cs.flatten ∧
      st'.written = st.written + cs.flatten.length ∧
      st'.closed = false ∧ st'.largeFile = st.largeFile :=
  zipWriter_writeAllSeq hs hl st cs hopen hsz

/-- Two splittings of the same data over two different sinks. -/
theorem caller_splits_agree {ω₁ ω₂ : Type} {w₁ : Wr ω₁} {w₂ : Wr ω₂} {c₁ : ω₁ → Bytes}
    {c₂ : ω₂ → Bytes} (hs₁ : SinkSpec w₁ c₁) (hl₁ : SinkLive w₁) (hs₂ : SinkSpec w₂ c₂)
    (hl₂ : SinkLive w₂) (st₁ : ZwState ω₁) (st₂ : ZwState ω₂) (cs₁ cs₂ : List Bytes)
    (hflat : cs₁.flatten = cs₂.flatten) (h0 : c₁ st₁.sink = c₂ st₂.sink) (hreg : st₁.reg = st₂.reg)
    (hw : st₁.written = st₂.written) (ho₁ : st₁.closed = false) (ho₂ : st₂.closed = false)
    (hsz : st₁.written + cs₁.flatten.length ≤ zip64BytesThr) :
    c₁ (writeAllSeq (zipWriterWr w₁) st₁ cs₁).2.sink = c₂ (writeAllSeq (zipWriterWr w₂) st₂ cs₂).2.sink ∧
    (writeAllSeq (zipWriterWr w₁) st₁ cs₁).2.reg = (writeAllSeq (zipWriterWr w₂) st₂ cs₂).2.reg ∧
    (writeAllSeq (zipWriterWr w₁) st₁ cs₁).2.written = (writeAllSeq (zipWriterWr w₂) st₂ cs₂).2.written := by
  obtain ⟨a, ea, a1, a2, a3, _⟩ := caller_split_independent hs₁ hl₁ st₁ cs₁ ho₁ (Or.inl hsz)
  obtain ⟨b, eb, b1, b2, b3, _⟩ := caller_split_independent hs₂ hl₂ st₂ cs₂ ho₂
    (Or.inl (by rw [← hw, ← hflat]; exact hsz))
  rw [ea, eb]
  simp only [a1, a2, a3, b1, b2, b3, hflat, h0, hreg, hw, and_self]

/-! ## The hypotheses are satisfiable; the theorems observed on concrete runs -/

/-- The harness's scripted reader is a source with a denotation, for every script (so the hypotheses
`Denotes inner …` above are satisfiable by readers with arbitrary short-read patterns). -/
example (data : Bytes) (script : List Nat) :
    Denotes scripted ⟨data, script, script, none⟩ data .eof :=
  scripted_denotes _

/-- A failing reader: data, then an error. -/
example : Denotes scripted ⟨[1, 2, 3], [2], [2], some .injected⟩ [1, 2, 3] (.err .injected) :=
  scripted_denotes _

/-- The scripted sink satisfies the sink hypotheses for every script. -/
example : SinkSpec scriptedSink SSink.contents ∧ SinkLive scriptedSink :=
  ⟨scriptedSink_spec, scriptedSink_live⟩

/-- A concrete Stored pipeline: 5 archive bytes after the data start, entry of 3 bytes with the right
CRC, inner reader delivering 2 bytes at a time, caller buffers 0,1,0,7,…: reads `[1,2,3]`, clean EOF. -/
example :
    (readToEnd (entryPipeline storedCodec scripted (Crc32.crc32 [1, 2, 3]) false)
      (((⟨[1, 2, 3, 9, 9], [2], [2], none⟩ : Scripted), 3), Crc32.init) [0, 1, 0, 7, 0, 7, 7]).map
        (fun r => (r.1, r.2.1)) = some ([1, 2, 3], Term.eof) := by
  decide +kernel

/-- A Stored pipeline over the same reader and caller buffers with the wrong declared CRC 0: reads `[1,2,3]`, then
the error. -/
example :
    (readToEnd (entryPipeline storedCodec scripted 0 false)
      (((⟨[1, 2, 3, 9, 9], [2], [2], none⟩ : Scripted), 3), Crc32.init) [0, 1, 0, 7, 0, 7, 7]).map
        (fun r => (r.1, r.2.1)) = some ([1, 2, 3], Term.err .other) := by
  decide +kernel

/-- Writer: three caller chunks over a sink accepting 1 then 2 bytes per call, cyclically. -/
example :
    let r := writeAllSeq (zipWriterWr scriptedSink)
      ⟨⟨[], [1, 2], [1, 2]⟩, Crc32.init, 0, false, false⟩ [[1, 2, 3], [], [4, 5]]
    r.2.sink.contents = [1, 2, 3, 4, 5] ∧ r.2.written = 5 ∧
      Crc32.finalize r.2.reg = Crc32.crc32 [1, 2, 3, 4, 5] := by
  decide +kernel

/-- `Codec.IntactOK` is satisfiable by a codec that is not the identity: every byte xor `0x55`. -/
example : xorCodec.IntactOK (fun p => p.map (· ^^^ 0x55)) := xorCodec_intact

/-- Hypotheses of `pipeline_denotes_intact` on a concrete instance: payload `[1,2,3]` encoded by
`xorCodec`'s encoder, two more archive bytes behind it, reader delivering 2 bytes at a time. -/
example :
    Denotes scripted ⟨[0x54, 0x57, 0x56, 9, 9], [2], [2], none⟩ [0x54, 0x57, 0x56, 9, 9] .eof ∧
      ([0x54, 0x57, 0x56, 9, 9] : Bytes).take 3 = ([1, 2, 3] : Bytes).map (· ^^^ 0x55) ∧
      3 ≤ ([0x54, 0x57, 0x56, 9, 9] : Bytes).length :=
  ⟨scripted_denotes _, by decide, by decide⟩

/-- The run of the `xorCodec` instance (`intact_entry_reads_payload` observed), zero-length reads interleaved:
the payload `[1,2,3]`, then a clean end-of-file. -/
example :
    (readToEnd (entryPipeline xorCodec scripted (Crc32.crc32 [1, 2, 3]) false)
      (xorCodec.init ((⟨[0x54, 0x57, 0x56, 9, 9], [2], [2], none⟩ : Scripted), 3), Crc32.init)
        [0, 1, 0, 7, 0, 7, 7]).map (fun r => (r.1, r.2.1)) = some ([1, 2, 3], Term.eof) := by
  decide +kernel

/-- `pipeline_denotes_codec` with the decoder whose behaviour on damaged input depends on the
chunking: on a stream inside its format the hypothesis holds. -/
example (inner : Src σ) (s : σ) (tail : Bytes) (o : Term)
    (h : Denotes inner s ([1, 2, 3] ++ tail) o) :
    Denotes (entryPipeline pickyCodec inner (Crc32.crc32 [1, 2, 3]) false)
      (pickyCodec.init (s, 3), Crc32.init) [1, 2, 3] .eof := by
  have h1 := pipeline_denotes_codec pickyCodec inner 3
    (pickyCodec_on_intact (by simp) _) (Crc32.crc32 [1, 2, 3]) false h
  have e1 : ([1, 2, 3] ++ tail).take 3 = [1, 2, 3] := by simp
  have e2 : takeTerm 3 ([1, 2, 3] ++ tail) o = .eof := by simp [takeTerm]
  rw [e1, e2] at h1
  have e3 : pickyCodec.decode [1, 2, 3] .eof = ([1, 2, 3], .eof) := by decide
  rw [e3] at h1
  simpa [crcTerm] using h1

/-- `archive_entry_chunk_independent` on a concrete archive (101 bytes, one Stored entry "Z"): accepted,
entry 0 handed out by the reader model with content "Z", and the call-by-call read gives the same over
a reader delivering 1 byte at a time with buffers 0,3,0,3 and over one delivering 5 bytes at a time
with buffers 1,1,1. -/
example :
    Model.openReadBoth Model.oneEntry 0 [1] [0, 3, 0, 3] = some (31, [0x5a], some ([0x5a], .eof)) ∧
    Model.openReadBoth Model.oneEntry 0 [5] [1, 1, 1] = some (31, [0x5a], some ([0x5a], .eof)) :=
  Model.openReadBoth_oneEntry_runs

section
attribute [local instance] Model.readBothDecEq

/-- `archive_entry_chunk_independent_zipcrypto` on a concrete archive (117 bytes, one Stored entry `a` =
`[1,2,3,4,5]` ZipCrypto-encrypted under "pw", produced by the writer model): accepted, entry 0 handed out by
the reader model (one-shot decryption) with content `[1,2,3,4,5]`; `validate` + the call-by-call read through
`Crc32Reader(ZipCryptoReaderValid(Take(..)))` give the same over a reader delivering 1 byte at a time with
buffers 0,3,0,3,… and over one delivering 7 bytes at a time with buffers 1,1,…; the wrong password is rejected. -/
example :
    Model.zcReadBoth Model.zcEntry 0 [0x70, 0x77] [1] [0, 3, 0, 3, 3, 3, 3, 3, 3] =
      some (31, [1, 2, 3, 4, 5], some ([1, 2, 3, 4, 5], .eof)) ∧
    Model.zcReadBoth Model.zcEntry 0 [0x70, 0x77] [7] [1, 1, 1, 1, 1, 1] =
      some (31, [1, 2, 3, 4, 5], some ([1, 2, 3, 4, 5], .eof)) ∧
    Model.zcReadBoth Model.zcEntry 0 [0x70, 0x78] [7] [1, 1, 1, 1, 1, 1] = none := by
  decide +kernel

end

/-- `open_archive_short_read_independent` observed on the 101-byte archive: one byte per call and the
`Cursor` give the same single entry `a` and end at the same position; the short-reading run needed
more calls (so short reads did occur). -/
example :
    (Model.openBoth Model.oneEntry (fun _ => 1)).map (fun r => (r.1, r.2.1, r.2.2.1.2 == r.2.2.2.2,
      decide (r.2.2.1.1 < r.2.2.2.1))) = some ([[0x61]], [[0x61]], true, true) := by
  decide +kernel

/-- For the example below: the streaming visit of `bs` over the `Cursor` and over the short-reading
device (names of the streamed entries with their read-to-end results, names of the central records, final
position; number of `read` calls of both runs). -/
def streamBoth (bs : Bytes) (sch : Nat → Nat) :
    Option ((List (Bytes × Option Bytes) × List Bytes × Nat) × Bool × Bool) :=
  let view (r : List (Model.FileData × Out Bytes) × List Model.FileData) (d : Model.Dev) :
      List (Bytes × Option Bytes) × List Bytes × Nat :=
    (r.1.map (fun x => (x.1.fileNameRaw, match x.2 with | .ok b => some b | _ => none)),
      r.2.map (fun (f : Model.FileData) => f.fileNameRaw), d.pos)
  match Model.streamVisit Model.storedExt none (Model.Dev.ofBytes bs),
    (Model.G.streamVisitF Model.storedExt (bs.length / 30 + 1) (bs.length / 46 + 1) :
      Model.MS (List (Model.FileData × Out Bytes) × List Model.FileData)) sch (Model.Dev.ofBytes bs) with
  | (.ok a, d), (.ok b, sd) => some (view a d, decide (view a d = view b sd), decide (d.calls < sd.calls))
  | _, _ => none

set_option synthInstance.maxSize 1000 in
/-- `stream_visit_short_read_independent` observed on the 101-byte archive: over a reader that delivers one
byte per call the visitor sees the same entry `a` with content "Z", the same central record, and stops at
the same position (83: behind the central record); the short-reading run needed more calls. -/
example :
    streamBoth Model.oneEntry (fun _ => 1) = some (([([0x61], some [0x5a])], [[0x61]], 83), true, true) := by
  decide +kernel

/-- `header_writes_absorb_short_writes` observed: two chunks written at position 1 of a 3-byte device
(overwriting, then extending), sink accepting 1 or 2 bytes per call alternately. -/
example :
    (writeAllSeq (Model.shortWr (fun k => 1 + k % 2)) { buf := [1, 2, 3], pos := 1, calls := 0 } [[9, 9, 9], [8]]).2.buf
        = [1, 9, 9, 9, 8] ∧
    (Model.M.writeChunks [[9, 9, 9], [8]] none { buf := [1, 2, 3], pos := 1, calls := 0 }).2.buf = [1, 9, 9, 9, 8] ∧
    (writeAllSeq (Model.shortWr (fun k => 1 + k % 2)) { buf := [1, 2, 3], pos := 1, calls := 0 } [[9, 9, 9], [8]]).2.calls = 3 := by
  decide +kernel

end ZipVerif.Props.C09
