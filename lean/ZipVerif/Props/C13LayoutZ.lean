import ZipVerif.Props.C13Layout
import ZipVerif.Props.C03Z
import ZipVerif.Props.C13
/-
C13 (layout level): appending nothing, with the whole sink named, and the D20 record with its test vectors.
The general statements are `Props/C13Layout.lean`; `append_nothingZ` and `append_read_backZ` here are
`C13Layout.append_nothingZ` and `C13Layout.append_read_backZ` under this namespace.

* Appending nothing to a base that is only `ReadableZ` (a foreign archive with redundant ZIP64 records in its
  central extra data, Lemmas/CentralParseZ.lean, Props/C03Z.lean), with the whole sink named
  (`append_nothing_exact`: the normalised layout followed by the old archive's bytes behind its end).  Since the
  D20 repair `new_append` drops every inherited ZIP64 record: the appended archive is plainly `Readable`,
  and `C13Layout.append_read_back_discharged` reads it back for a `ReadableZ` base.
* Non-vacuity — a ZIP64 base, "append nothing" twice, read back through the model; the extra field
  does not grow.
* D20 — the defect (`new_append` kept the old ZIP64 record inside the re-hydrated extra field and
  `finish` put a new one in front; an entry whose compressed size is exactly 0xFFFFFFFF was corrupted),
  witnessed against LOCAL copies of the pre-repair definitions, and the regression on the repaired model.
-/

namespace ZipVerif.Props.C13LayoutZ
open ZipVerif ZipVerif.Model ZipVerif.Spec.Zip ZipVerif.WL
open ZipVerif.Props.C12 (Call step runCalls)
open ZipVerif.Props.C13Layout (baseGhost viewList_timeOk Utf8Names)

/-! ## Appending nothing to a `ReadableZ` base -/

theorem append_nothingZ (ext : WExt) (l : Layout) (hF : l.Fits) (hR : l.ReadableZ)
    (hS : NoFalseSig l) (ht : l.trailing = [] ∨ l.needs64 = false)
    (hall : ∀ e ∈ l.entries, AppendClean e ∧ e.centralExtra.length + 56 ≤ 0xFFFF) :
    ∃ s0 d0, newAppend.runPure (Dev.ofBytes (build l)) = (.ok s0, d0) ∧
      ∀ (v : Option Nat) (s' : WState) (d' : Dev),
        step ext .finish s0 none d0 = (.ok (.ok v, s'), d') →
        d'.buf = build (layoutOf (appendNormAll l) (appendGap l) l.comment (d'.buf.drop d'.pos)) ∧
        d'.buf.take d'.pos = build (layoutOf (appendNormAll l) (appendGap l) l.comment []) :=
  C13Layout.append_nothingZ ext l hF hR hS ht hall

/-- the whole sink after `new_append` directly followed by `finish` on `build l`: the layout of the normalised old
entries, and behind it what the old archive held there -/
def appendNothingLayout (l : Layout) : Layout :=
  layoutOf (appendNormAll l) (appendGap l) l.comment
    ((build l).drop (build (layoutOf (appendNormAll l) (appendGap l) l.comment [])).length)

/-- `append_nothingZ` with the stale bytes named (`C13Layout.append_emits_layout_exact` for the empty script). -/
theorem append_nothing_exact (ext : WExt) (l : Layout) (hF : l.Fits) (hR : l.ReadableZ)
    (hS : NoFalseSig l) (ht : l.trailing = [] ∨ l.needs64 = false)
    (hall : ∀ e ∈ l.entries, AppendClean e ∧ e.centralExtra.length + 56 ≤ 0xFFFF) :
    ∃ s0 d0, newAppend.runPure (Dev.ofBytes (build l)) = (.ok s0, d0) ∧
      ∀ (v : Option Nat) (s' : WState) (d' : Dev),
        step ext .finish s0 none d0 = (.ok (.ok v, s'), d') →
        d'.buf = build (appendNothingLayout l) ∧ d'.buf.drop d'.pos = (appendNothingLayout l).trailing := by
  obtain ⟨s0, d0, h1, h2⟩ := C13Layout.append_emits_layout_exact ext l hF hR hS ht hall [] (fun _ h => by cases h)
    (fun _ h => by cases h)
  exact ⟨s0, d0, h1, fun v s' d' hfin => h2 (appendNormAll l) (appendGap l) l.comment rfl v s' d' hfin⟩

/-- `C13Layout.append_read_back` under `ReadableZ` of the NEW layout. -/
theorem append_read_backZ (es : List Spec.Zip.Entry) (gap c stale : Bytes) (d' : Dev)
    (hbuf : d'.buf = build (layoutOf es gap c stale))
    (hF : (layoutOf es gap c stale).Fits) (hR : (layoutOf es gap c stale).ReadableZ)
    (hS : NoFalseSig (layoutOf es gap c stale))
    (ht : stale = [] ∨ (layoutOf es gap c stale).needs64 = false) :
    ∃ d1, openArchive.runPure (Dev.ofBytes d'.buf) = (.ok (archiveOf (layoutOf es gap c stale)), d1) ∧
      d1.buf = build (layoutOf es gap c stale) ∧
      (archiveOf (layoutOf es gap c stale)).offset = 0 ∧
      (archiveOf (layoutOf es gap c stale)).comment = c ∧
      (archiveOf (layoutOf es gap c stale)).files = viewOf (layoutOf es gap c stale) ∧
      (∀ (i : Nat) e, es[i]? = some e → ∃ off chs,
        (archiveOf (layoutOf es gap c stale)).files[i]? = some (viewEntry e off 0 chs)) ∧
      (∀ (i : Nat) e, es[i]? = some e → ∃ ds d2,
        (byIndexRaw (archiveOf (layoutOf es gap c stale)) i).runPure d1 = (.ok (ds, e.data), d2)) :=
  C13Layout.append_read_backZ es gap c stale d' hbuf hF hR hS ht

/-! ## Non-vacuity: a ZIP64 base, "append nothing" twice, read back through the model -/

open ZipVerif.Props.C03 (exA exL)
open ZipVerif.Props.C13 (exBd)
open ZipVerif.Props.C01 (wext1)
open ZipVerif.Props.C13Layout (ZCall)

/-- "a.txt" claiming 4 GiB of content: its uncompressed size NEEDS the ZIP64 record -/
def exA64 : Spec.Zip.Entry := { exA with usize := 0x100000000 }

/-- prefix, `exA64`, the descriptor entry `exBd` (compressed size FORCED through ZIP64), comment -/
def exLq : Layout := { exL with entries := [exA64, exBd] }

/-- `new_append` followed directly by `finish`, on the bytes `b`: the sink afterwards -/
def appendNothingDev (b : Bytes) : Option Dev :=
  match newAppend.runPure (Dev.ofBytes b) with
  | (.ok s0, d0) =>
    (match step wext1 .finish s0 none d0 with
     | (.ok (.ok _, _), d') => some d'
     | _ => none)
  | _ => none

/-- the whole contents of the sink after `new_append` + `finish` on `b` (a `Cursor<Vec<u8>>` is not truncated:
stale bytes of the old end may remain) -/
def appendNothing (b : Bytes) : Option Bytes := (appendNothingDev b).map (·.buf)

/-- the live part of the sink after `new_append` + `finish` on `b` (everything in front of the position) -/
def appendNothingLive (b : Bytes) : Option Bytes := (appendNothingDev b).map fun d => d.buf.take d.pos

/-- the layouts `append_nothing` predicts for round 1 and round 2 -/
def exLq1 : Layout := layoutOf (appendNormAll exLq) (appendGap exLq) exLq.comment []
def exLq2 : Layout := layoutOf (appendNormAll exLq1) (appendGap exLq1) exLq1.comment []

/-- what is asked of a base: the hypotheses of `append_nothing_exact` and `sizesOf_build` -/
def Base (l : Layout) : Prop :=
  l.Fits ∧ l.ReadableZ ∧ NoFalseSig l ∧ l.needs64 = false ∧
    (∀ e ∈ l.entries, AppendClean e ∧ e.centralExtra.length + 56 ≤ 0xFFFF)

instance (l : Layout) : Decidable (Base l) := by unfold Base; infer_instance

theorem appendNothingLayout_of_nil (l : Layout) (h : (appendNothingLayout l).trailing = []) :
    appendNothingLayout l = layoutOf (appendNormAll l) (appendGap l) l.comment [] := by
  unfold appendNothingLayout at h ⊢
  rw [show (build l).drop _ = [] from h]

/-- One round of "append nothing" on `build l` through the model, from `append_nothing_exact`; that the two calls
succeed is left to evaluation. -/
theorem appendNothingDev_eq (l : Layout) (hb : Base l) (hev : (appendNothingDev (build l)).isSome = true) :
    ∃ d', appendNothingDev (build l) = some d' ∧ d'.buf = build (appendNothingLayout l) ∧
      d'.buf.drop d'.pos = (appendNothingLayout l).trailing := by
  obtain ⟨hF, hR, hS, h64, hall⟩ := hb
  obtain ⟨s0, d0, h1, h2⟩ := append_nothing_exact wext1 l hF hR hS (Or.inr h64) hall
  unfold appendNothingDev at *
  rw [h1] at hev ⊢
  dsimp only at hev ⊢
  split at hev
  next v s' d' hfin => exact ⟨d', rfl, h2 v s' d' hfin⟩
  · cases hev

theorem appendNothing_eq (l : Layout) (hb : Base l) (hev : (appendNothingDev (build l)).isSome = true) :
    appendNothing (build l) = some (build (appendNothingLayout l)) := by
  obtain ⟨d', h1, h2, _⟩ := appendNothingDev_eq l hb hev
  unfold appendNothing
  rw [h1, ← h2]
  rfl

private theorem exLq_base : exLq.Fits ∧ exLq.Readable ∧ exLq.ReadableZ ∧ NoFalseSig exLq ∧ exLq.needs64 = false ∧
    (∀ e ∈ exLq.entries, AppendClean e ∧ e.centralExtra.length + 56 ≤ 0xFFFF) := by
  decide +kernel

private theorem exLq_ok : Base exLq :=
  ⟨exLq_base.1, exLq_base.2.2.1, exLq_base.2.2.2.1, exLq_base.2.2.2.2.1, exLq_base.2.2.2.2.2⟩

/-- `new_append` and `finish` succeed on `build exLq` (evaluated once, for the examples and the D20 regression) -/
private theorem exLq_runs : (appendNothingDev (build exLq)).isSome = true := by decide +kernel

/-- the base satisfies every hypothesis of `append_base` / `append_read_back_discharged` -/
example : exLq.Fits ∧ exLq.Readable ∧ exLq.ReadableZ ∧ NoFalseSig exLq ∧ exLq.needs64 = false ∧
    (∀ e ∈ exLq.entries, AppendClean e ∧ e.centralExtra.length + 56 ≤ 0xFFFF) := exLq_base

/-- **D20 regression, layout level**: after round 1 the archive is `Readable` again (before the repair it
was not: second 0x0001 record), satisfies every hypothesis once more, and round 2 reproduces it EXACTLY —
appending nothing is idempotent from the first round on, the extra field no longer grows. -/
example : exLq1.Fits ∧ exLq1.Readable ∧ NoFalseSig exLq1 ∧ exLq1.needs64 = false ∧
    (∀ e ∈ exLq1.entries, AppendClean e ∧ e.centralExtra.length + 56 ≤ 0xFFFF) ∧
    build exLq2 = build exLq1 := by
  decide +kernel

/-- **The model agrees**, round 1: the live part of the sink is exactly the predicted layout `exLq1`. -/
example : appendNothingLive (build exLq) = some (build exLq1) := by
  -- that both calls succeed by evaluation, what they leave from `append_nothing`
  have hev := exLq_runs
  obtain ⟨hF, hR, _, hS, h64, hall⟩ := exLq_base
  obtain ⟨s0, d0, h1, h2⟩ := C13Layout.append_nothing wext1 exLq hF hR hS (Or.inr h64) hall
  unfold appendNothingLive appendNothingDev at *
  rw [h1] at hev ⊢
  dsimp only at hev ⊢
  split at hev
  next v s' d' hfin => exact congrArg some (h2 v s' d' hfin).2
  · cases hev

/-- **The model agrees**, round 2: the whole sink (no stale bytes this time) is the predicted layout `exLq2`. -/
example : appendNothing (build exLq1) = some (build exLq2) := by
  -- evaluated: the hypotheses, that both calls succeed, and that round 2 leaves no stale bytes
  have b1 : Base exLq1 := by decide +kernel
  have e1 : (appendNothingDev (build exLq1)).isSome = true := by decide +kernel
  have t1 : (appendNothingLayout exLq1).trailing = [] := by decide +kernel
  rw [appendNothing_eq exLq1 b1 e1, appendNothingLayout_of_nil exLq1 t1]
  rfl

/-- the untruncated sink of round 1 (the rewritten directory is 13 bytes shorter: the old end record's
tail stays behind as stale bytes) is the same layout with those bytes as `trailing` -/
example :
    (match appendNothingDev (build exLq) with
     | some d => d.buf == build (layoutOf (appendNormAll exLq) (appendGap exLq) exLq.comment (d.buf.drop d.pos)) &&
        (d.buf.drop d.pos).length == 13
     | none => false) = true := by
  have b0 := exLq_ok
  have e0 := exLq_runs
  have t0 : ((appendNothingLayout exLq).trailing.length == 13) = true := by decide +kernel
  -- about a variable layout, so that no step looks into the concrete bytes
  have key : ∀ l : Layout, Base l → (appendNothingDev (build l)).isSome = true →
      ((appendNothingLayout l).trailing.length == 13) = true →
      (match appendNothingDev (build l) with
       | some d => d.buf == build (layoutOf (appendNormAll l) (appendGap l) l.comment (d.buf.drop d.pos)) &&
          (d.buf.drop d.pos).length == 13
       | none => false) = true := by
    intro l b e t
    obtain ⟨d', h1, h2, h3⟩ := appendNothingDev_eq l b e
    rw [h1]
    dsimp only
    rw [h3, t, h2, Bool.and_true]
    exact beq_self_eq_true _
  exact key exLq b0 e0 t0

/-- The twice-appended archive is read back as the views of `exLq2`, with the real sizes, ONE ZIP64 record
(12 bytes) on the entry that needs it and none on the one where it was merely forced (its 9 bytes are the
foreign record), and `by_index_raw` returns the old stored bytes. -/
example :
    (match openArchive.runPure (Dev.ofBytes (build exLq2)) with
     | (.ok a, d) =>
        a.files == viewOf exLq2 &&
        a.files.map (·.uncompressedSize) == [0x100000000, 5] && a.files.map (·.compressedSize) == [5, 5] &&
        a.files.map (·.extraField.length) == [12, 9] && a.files.map (·.largeFile) == [true, false] &&
        (match (byIndexRaw a 0).runPure d, (byIndexRaw a 1).runPure d with
         | (.ok (_, r0), _), (.ok (_, r1), _) => r0 == exA.data && r1 == exBd.data
         | _, _ => false)
     | _ => false) = true := by decide +kernel

/-- A `ReadableZ`-only base (`C03Z.exLz`: a redundant ZIP64 record in the foreign extra data): `new_append`
drops it, the result is `Readable`. -/
example : ¬ C03Z.exLz.Readable ∧ C03Z.exLz.ReadableZ ∧
    (∀ e ∈ appendNormAll C03Z.exLz, e.Readable) ∧
    (appendNormAll C03Z.exLz).map (·.centralExtra) = [le16 0x5455 ++ le16 1 ++ [3], C03.exB.centralExtra] := by
  decide +kernel

/-! ## D20: the defect (against the pre-repair definitions) and the regression -/

/-- LOCAL copy of `new_append` as it was before the D20 repair: the re-hydrated records are pushed as
read, their `extra_field` still containing the old ZIP64 record.  (It also predates A6 and D22: no check
of the decoded name's length, the failure of the last seek ignored.) -/
def newAppendOld : M WState := do
  let (footer, cdeStart) ← findAndParseEocd
  if footer.diskNumber != footer.diskWithCd then M.throw .unsupportedArchive else do
    let (archiveOffset, directoryStart, numberOfFiles) ← getDirectoryCounts footer cdeStart
    if directoryStart > cdeStart then M.throw .invalidArchive else
    let r ← M.attempt (M.seek (.start directoryStart))
    match r with
    | .error _ => M.throw .invalidArchive
    | .ok _ =>
      let files ← readCentralLoop archiveOffset numberOfFiles
      let _ ← M.attempt (M.seek (.start directoryStart))
      pure { WState.init with files, comment := footer.comment, writingRaw := true }

def appendNothingOld (b : Bytes) : Option Bytes :=
  match newAppendOld.runPure (Dev.ofBytes b) with
  | (.ok s0, d0) =>
    (match step wext1 .finish s0 none d0 with
     | (.ok (.ok _, _), d') => some d'.buf
     | _ => none)
  | _ => none

/-- A central record (no local data is needed: neither `ZipArchive::new` nor `new_append` looks at it)
of an entry "a" with compressed size EXACTLY 0xFFFFFFFF and uncompressed size 5, written by a producer
that puts BOTH sizes into the ZIP64 record (both 32-bit slots 0xFFFFFFFF; ZIP64 record = 5, 0xFFFFFFFF).
The other fields are `C03.exA`'s: made by 0x0314, DOS time 0x6000 and date 0x5821, CRC, attributes. -/
def recThr : Bytes :=
  le32 sigCentral ++ le16 0x0314 ++ le16 45 ++ le16 0 ++ le16 0 ++ le16 0x6000 ++ le16 0x5821 ++
  le32 0x3610a686 ++ le32 0xFFFFFFFF ++ le32 0xFFFFFFFF ++ le16 1 ++ le16 20 ++ le16 0 ++ le16 0 ++ le16 0 ++
  le32 0x81A40000 ++ le32 0 ++ [0x61] ++ (le16 1 ++ le16 16 ++ le64 5 ++ le64 0xFFFFFFFF)

/-- the 89-byte archive consisting of the central record `recThr` and its end record -/
def arcThr : Bytes :=
  recThr ++ (le32 sigEocd ++ le16 0 ++ le16 0 ++ le16 1 ++ le16 1 ++ le32 (UInt32.ofNat recThr.length) ++
    le32 0 ++ le16 0)

/-- the (compressed size, uncompressed size, extra field length) the reader reports for each entry -/
def sizesOf (b : Bytes) : Option (List (UInt64 × UInt64 × Nat)) :=
  match openArchive.runPure (Dev.ofBytes b) with
  | (.ok a, _) => some (a.files.map fun (f : FileData) => (f.compressedSize, f.uncompressedSize, f.extraField.length))
  | _ => none

theorem sizesOf_build (l : Layout) (hF : l.Fits) (hR : l.ReadableZ) (hS : NoFalseSig l)
    (ht : l.trailing = [] ∨ l.needs64 = false) :
    sizesOf (build l) = some ((viewOf l).map fun (f : FileData) =>
      (f.compressedSize, f.uncompressedSize, f.extraField.length)) := by
  obtain ⟨d', h, _⟩ := C03Z.reader_on_wfZ l hF hR hS ht
  unfold sizesOf
  rw [h]
  rfl

/-- **`d20_pre_fix_witness`** (replayed on the crate before the repair).  `ZipArchive::new` reads `arcThr`
correctly: compressed size 0xFFFFFFFF, uncompressed size 5.  The OLD `new_append` + `finish` — nothing
added — rewrote the central record as `new ZIP64 record (compressed size only) ++ old ZIP64 record (both
sizes)`, the 32-bit slot of the uncompressed size now holding 5.  On re-reading, the first record
restores the compressed size 0xFFFFFFFF; it EQUALS the placeholder, so the second record is consumed
too, and its first 8 bytes — the old UNCOMPRESSED size — overwrite the compressed size: the archive
reported compressed size 5 (`by_index_raw` / extraction would deliver 5 of the 4 GiB − 1 stored bytes). -/
theorem d20_pre_fix_witness :
    arcThr.length = 89 ∧
    sizesOf arcThr = some [(0xFFFFFFFF, 5, 20)] ∧
    (appendNothingOld arcThr).bind sizesOf = some [(5, 5, 32)] := by decide +kernel

/-- Before the D20 repair, on the ZIP64 base `exLq`: each round of appending nothing put one more ZIP64 record
into the first entry's extra field (12 → 24 → 36 bytes). -/
theorem d20_pre_fix_growth :
    sizesOf (build exLq) = some [(5, 0x100000000, 12), (5, 5, 21)] ∧
    (appendNothingOld (build exLq)).bind sizesOf = some [(5, 0x100000000, 24), (5, 5, 21)] ∧
    ((appendNothingOld (build exLq)).bind appendNothingOld).bind sizesOf =
      some [(5, 0x100000000, 36), (5, 5, 21)] := by
  -- the first line is the reader theorem on `exLq`; the old code has no theorem and is run
  refine ⟨?_, by decide +kernel⟩
  rw [sizesOf_build exLq exLq_ok.1 exLq_ok.2.1 exLq_ok.2.2.1 (Or.inr exLq_ok.2.2.2.1)]
  decide +kernel

/-- The repaired model: appending nothing to `arcThr` keeps (0xFFFFFFFF, 5), with
exactly one (regenerated) ZIP64 record; a second round changes nothing. -/
theorem d20_regression :
    (appendNothing arcThr).bind sizesOf = some [(0xFFFFFFFF, 5, 12)] ∧
    ((appendNothing arcThr).bind appendNothing).bind sizesOf = some [(0xFFFFFFFF, 5, 12)] ∧
    (appendNothing arcThr).bind appendNothing = appendNothing arcThr := by decide +kernel

/-- The repaired model on `exLq`: over two rounds of appending nothing the extra fields stay at 12 bytes (the
one ZIP64 record the first entry needs) and 9 (the second entry's foreign record; its forced ZIP64 record is
dropped in round 1). -/
theorem d20_regression_exLq :
    (appendNothing (build exLq)).bind sizesOf = some [(5, 0x100000000, 12), (5, 5, 9)] ∧
    ((appendNothing (build exLq)).bind appendNothing).bind sizesOf =
      some [(5, 0x100000000, 12), (5, 5, 9)] := by
  -- evaluated: the hypotheses on the three layouts, that the four calls succeed, and the sizes in the views
  have b0 := exLq_ok
  have b1 : Base (appendNothingLayout exLq) := by decide +kernel
  have b2 : Base (appendNothingLayout (appendNothingLayout exLq)) := by decide +kernel
  have e0 := exLq_runs
  have e1 : (appendNothingDev (build (appendNothingLayout exLq))).isSome = true := by decide +kernel
  have v1 : (viewOf (appendNothingLayout exLq)).map (fun (f : FileData) =>
      (f.compressedSize, f.uncompressedSize, f.extraField.length)) = [(5, 0x100000000, 12), (5, 5, 9)] := by
    decide +kernel
  have v2 : (viewOf (appendNothingLayout (appendNothingLayout exLq))).map (fun (f : FileData) =>
      (f.compressedSize, f.uncompressedSize, f.extraField.length)) = [(5, 0x100000000, 12), (5, 5, 9)] := by
    decide +kernel
  have r1 := appendNothing_eq exLq b0 e0
  have r2 := appendNothing_eq _ b1 e1
  have s1 := sizesOf_build _ b1.1 b1.2.1 b1.2.2.1 (Or.inr b1.2.2.2.1)
  have s2 := sizesOf_build _ b2.1 b2.2.1 b2.2.2.1 (Or.inr b2.2.2.2.1)
  rw [v1] at s1
  rw [v2] at s2
  refine ⟨?_, ?_⟩
  · rw [r1, Option.bind_some]; exact s1
  · rw [r1, Option.bind_some, r2, Option.bind_some]; exact s2


end ZipVerif.Props.C13LayoutZ
