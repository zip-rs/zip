import ZipVerif.Props.C12
import ZipVerif.Lemmas.ReaderTotal
/-
C13 — Appending keeps every existing entry and adds the new ones.

This file stays on the writer model (C12's `step`, and `newAppend_ok_inv` of Lemmas/ReaderTotal.lean): the
mechanism that protects the existing entries, for every state the append constructor can return, whatever
the input bytes.  `new_append` hands back a writer with the raw flag set and nothing open; the raw flag makes
the first `finish_file` (run by the first `start_file`, or by `finish`) do no I/O at all, which suppresses the
CRC/size back-patch that would otherwise overwrite the LAST old entry's local header with the fresh writer's
zero statistics.
The archive-level statement (the bytes after `finish` are `Spec.Zip.build` of the old entries followed
by the new ones, hence read back as such) is `Props/C13Layout.lean`, on top of `Lemmas/AppendOpen.lean`,
`Lemmas/AppendClosed.lean` and `Lemmas/WL*.lean`.
-/

namespace ZipVerif.Props.C13Base
open ZipVerif ZipVerif.Model

/-- The states `new_append` returns. -/
def BaseState (s : WState) : Prop :=
  s.inner = .storer none ∧ s.writingToFile = false ∧ s.writingToExtraField = false ∧
  s.centralOnly = false ∧ s.writingRaw = true

/-- `new_append` returns a `BaseState` whenever it succeeds — for every input archive, valid or
not, and every fault index. -/
theorem append_state_shape (fa : Option Nat) (d : Dev) (s : WState) (d' : Dev)
    (h : newAppend fa d = (.ok s, d')) : BaseState s := by
  obtain ⟨_, _, _, _, _, _, _, _, _, _, _, _, _, rfl⟩ := newAppend_ok_inv h
  exact ⟨rfl, rfl, rfl, rfl, rfl⟩

/-- **The old entries are not re-patched.**  In a `BaseState` the implicit `finish_file` (run by the
first creation call and by `finish`) performs NO I/O call and changes nothing but the two flags: the
re-hydrated records — in particular the last one, whose local header a fresh writer's zero
statistics would otherwise overwrite — stay exactly as parsed. -/
theorem base_entries_not_repatched (ext : WExt) (s : WState) (hs : BaseState s) (fa : Option Nat)
    (d : Dev) :
    finishFile ext s fa d = (.ok (.ok (), { s with writingToFile := false, writingRaw := false }), d) := by
  rw [finishFile_idle ext hs.2.2.1 hs.1 (.inl hs.2.2.2.2), hs.2.2.2.2]; rfl

/-- The state the implicit `finish_file` leaves from a `BaseState` (`base_entries_not_repatched`) is an
ordinary idle writer state: the same records and comment, nothing open, the raw flag cleared. -/
theorem after_first_finish_file (s : WState) (hs : BaseState s) :
    let s' := { s with writingToFile := false, writingRaw := false }
    s'.files = s.files ∧ s'.comment = s.comment ∧ s'.inner = .storer none ∧ s'.writingRaw = false :=
  ⟨rfl, rfl, hs.1, rfl⟩

/-- `set_comment` between rounds replaces the comment and nothing else; without it the old comment
(kept by `new_append`) is written back by `finish`. -/
theorem set_comment_only_comment (ext : WExt) (c : Bytes) (s : WState) (fa : Option Nat) (d : Dev) :
    C12.step ext (.setComment c) s fa d = (.ok (.ok none, { s with comment := c }), d) := rfl

end ZipVerif.Props.C13Base
