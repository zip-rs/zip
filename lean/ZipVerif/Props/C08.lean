import ZipVerif.Lemmas.Zip64
import ZipVerif.Lemmas.MRun
import ZipVerif.Lemmas.WriterSat
/-
C08 — Archives beyond the 16/32-bit limits stay correct (ZIP64).
Record-level theorems over ALL `UInt64` values (no payload is materialised) and the writer's
4 GiB guard.  The archive-level statements are in `Props/C08Archive.lean` (C01, C02, C03 at layouts over the limits).
-/

namespace ZipVerif.Props.C08
open ZipVerif ZipVerif.Model

/-- A 32-bit size/offset field of the central header holds the value itself, or the marker
0xFFFFFFFF exactly when the value is ≥ 0xFFFFFFFF. -/
theorem field32_value_or_marker (x : UInt64) :
    (x < ZIP64_BYTES_THR → (min32 x).toUInt64 = x) ∧
    (x ≥ ZIP64_BYTES_THR → (min32 x).toUInt64 = ZIP64_BYTES_THR) := by
  constructor
  · intro h
    apply min32_toUInt64_of_lt
    intro hge
    have h1 := UInt64.lt_iff_toNat_lt.mp h
    have h2 := UInt64.le_iff_toNat_le.mp hge
    omega
  · exact min32_toUInt64_of_ge

/-- The writer emits a ZIP64 record in the central header exactly when one of the three values does
not fit below the marker. -/
theorem zip64_record_iff (f : FileData) :
    centralZip64Bytes f ≠ [] ↔
      (f.uncompressedSize ≥ ZIP64_BYTES_THR ∨ f.compressedSize ≥ ZIP64_BYTES_THR ∨
        f.headerStart ≥ ZIP64_BYTES_THR) :=
  centralZip64Bytes_ne_nil_iff f

/-- The ZIP64 record of a central header is at most 28 bytes long: `write_central_directory_header` assembles it
in a 28-byte scratch buffer (write.rs:1231). -/
theorem zip64_record_length (f : FileData) : (centralZip64Bytes f).length ≤ 28 :=
  centralZip64Bytes_length f

/-- **Central record round trip**: for every value of uncompressed size, compressed size and header
offset — every subset of fields needing ZIP64, values exactly 0xFFFFFFFF and either side — what the
reader's `parse_extra_field` recovers from (32-bit fields, ZIP64 record ++ further extra data) is
exactly what the writer was given.  (`f32 f`: the entry as reconstructed from the 32-bit fields;
`f64 f`: `f` with the reader's `large_file` marker.) -/
theorem central_zip64_rt (f : FileData) (rest : Bytes) (fuel : Nat) :
    parseExtraField (fuel + 1) (f32 f) (centralZip64Bytes f ++ rest) =
      if centralZip64Bytes f = [] then parseExtraField (fuel + 1) (f64 f) rest
      else parseExtraField fuel (f64 f) rest :=
  parse_central_zip64 f rest fuel

/-- With no further extra data the recovered entry carries exactly the written 64-bit values. -/
theorem central_zip64_values (f : FileData) :
    let r := (parseExtraField ((centralZip64Bytes f).length + 1) (f32 f) (centralZip64Bytes f)).1
    r.uncompressedSize = f.uncompressedSize ∧ r.compressedSize = f.compressedSize ∧
      r.headerStart = f.headerStart ∧ (parseExtraField ((centralZip64Bytes f).length + 1) (f32 f) (centralZip64Bytes f)).2 = none := by
  have h := parse_central_zip64 f [] (centralZip64Bytes f).length
  rw [List.append_nil] at h
  simp only []
  rw [h]
  split
  · simp [parseExtraField, f64]
  · cases hlen : (centralZip64Bytes f).length with
    | zero => simp [parseExtraField, f64]
    | succ n => simp [parseExtraField, f64]

/-- **Local header of a large file** (streaming reader): both sizes are stored as the marker and the
20-byte ZIP64 record carries both, in the order uncompressed, compressed. -/
theorem local_zip64_rt (f0 : FileData) (usize csize : UInt64) (rest : Bytes) (fuel : Nat)
    (hu : f0.uncompressedSize = ZIP64_BYTES_THR) (hc : f0.compressedSize = ZIP64_BYTES_THR)
    (hh : f0.headerStart = 0) :
    parseExtraField (fuel + 1) f0
      ((localZip64Chunks { f0 with uncompressedSize := usize, compressedSize := csize }).flatten ++ rest) =
    parseExtraField fuel
      { f0 with largeFile := true, uncompressedSize := usize, compressedSize := csize } rest := by
  have key := parse_zip64_record f0 true true false usize csize 0 rest fuel
    (by rw [hu]; decide) (by rw [hc]; decide) (by rw [hh]; decide)
  simp only [if_true, Bool.false_eq_true, if_false, List.append_nil, Bool.or_true,
    Nat.add_zero] at key
  have e : (localZip64Chunks { f0 with uncompressedSize := usize, compressedSize := csize }).flatten ++ rest
      = le16 1 ++ le16 (UInt16.ofNat (8 + 8)) ++ le64 usize ++ le64 csize ++ rest := by
    simp [localZip64Chunks, List.flatten]
  rw [e, key]

/-! ### The 4 GiB guard of entries not declared large -/

/-- Writing past 4 GiB into an entry not declared `large_file` fails and closes the writer
(for every device and every injected fault: the only other outcome is the device's own error). -/
theorem large_write_rejected (s : WState) (buf : Bytes) (f : FileData)
    (hw : s.writingToFile = true) (hi : s.inner = .storer none) (hx : s.writingToExtraField = false)
    (hf : s.files.getLast? = some f) (hl : f.largeFile = false) (hne : buf ≠ [])
    (hbig : s.statsBytes + buf.length > 0xFFFFFFFF) (fa : Option Nat) (d : Dev) :
    ∃ e s' d', writeData buf s fa d = (.ok (.error e, s'), d') ∧
      ((e = .io .other ∧ s'.inner = .closed) ∨ (e = .io d.fkind ∧ s' = s)) := by
  have hb : buf.isEmpty = false := by cases buf <;> simp_all
  have hbig' : decide (s.statsBytes + buf.length > 0xFFFFFFFF) = true := by simpa using hbig
  rw [writeData_eq, hb, hw, hi, hx, hf]
  simp only [Bool.false_eq_true, if_false, Bool.not_true, Inner.isClosed, Inner.sunk]
  rw [io_run, M.writeAll_run buf hne]
  by_cases hfa : fa = some d.calls
  · rw [if_pos hfa]
    exact ⟨_, _, _, rfl, Or.inr ⟨rfl, rfl⟩⟩
  · rw [if_neg hfa]
    simp only [hl, hbig', Bool.not_false, Bool.and_self, if_true]
    exact ⟨_, _, _, rfl, Or.inl ⟨rfl, rfl⟩⟩

/-- A closed writer (as `large_write_rejected` leaves it) can never finish: `finish` returns BrokenPipe
without any I/O, from `switch_to`. -/
theorem closed_writer_cannot_finish (ext : WExt) (s : WState) (hc : s.inner = .closed)
    (hx : s.writingToExtraField = false) (hlen : s.comment.length ≤ 65535)
    (fa : Option Nat) (d : Dev) :
    finish ext s fa d = (.ok (.error (.io .brokenPipe), s), d) := by
  have h1 : ¬ s.comment.length > 65535 := by omega
  unfold finish finalize finishFile switchTo
  simp [hc, hx, h1, Inner.currentCompression, bind, pure]

/-- The compressed size is guarded as well: an entry not declared large whose compressed size
exceeds 0xFFFFFFFF is refused when its header is to be back-patched — BEFORE the header is touched
(D19): no I/O call is made, the sink keeps its contents and stays positioned at the end of the entry,
for every fault index. -/
theorem compressed_overflow_rejected {β} (s : WState) (file : FileData)
    (k : Unit → M (Except ZErr β × WState))
    (hl : file.largeFile = false) (hbig : file.compressedSize > ZIP64_BYTES_THR) (fa : Option Nat) (d : Dev) :
    updateLocalHeader s file k fa d = (.ok (.error (.io .other), s), d) := by
  unfold updateLocalHeader
  simp only [hl, hbig, Bool.not_false, decide_true, Bool.and_self, if_true]
  rfl

/-! ### Non-vacuity and the boundary values -/

/-- exactly 0xFFFFFFFF next to a field that overflows (D8: the writer compared with `>` where readers
key on `== 0xFFFFFFFF`): the record carries both fields -/
example : centralZip64Bytes { (default : FileData) with uncompressedSize := 0xFFFFFFFF, headerStart := 0x100000000 }
    = le16 1 ++ le16 16 ++ le64 0xFFFFFFFF ++ le64 0x100000000 := by decide

example : centralZip64Bytes { (default : FileData) with uncompressedSize := 0xFFFFFFFE } = [] := by decide

end ZipVerif.Props.C08
