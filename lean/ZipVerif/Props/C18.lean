import ZipVerif.Lemmas.Dos
/-
C18 — Timestamps convert to and from DOS format without loss or panic.
Property theorems only.  The model is `Model/DateTime.lean`, the arithmetic DOS layout `Spec/Dos.lean`; `fields`
(the six fields of a `DateTime` as naturals) and the helper lemmas are in `Lemmas/Dos.lean`.
-/

namespace ZipVerif.Props.C18
open ZipVerif ZipVerif.Spec ZipVerif.Model ZipVerif.Model.DateTime

/-- `from_msdos` never overflows its checked `years + 1980`. -/
theorem fromMsdos_no_overflow (d : UInt16) :
    ((d &&& 0b1111111000000000) >>> 9).toNat + 1980 < 65536 :=
  fromMsdos_year_no_overflow d

/-- The unpacked fields are exactly the arithmetic reading of the DOS layout. -/
theorem fromMsdos_spec (d t : UInt16) :
    fields (fromMsdos d t) = Dos.unpack d.toNat t.toNat :=
  fromMsdos_fields d t

/-- **Unpack then pack is the identity for every one of the 2^32 field values**, and the checked
subtraction in `datepart` does not panic on them: a timestamp read from any archive is
re-written unchanged. -/
theorem dos_unpack_pack (d t : UInt16) :
    (fromMsdos d t).datepart = some d ∧ (fromMsdos d t).timepart = t :=
  fromMsdos_parts d t

/-- **Pack then unpack** returns the same timestamp rounded down to the 2-second resolution, for
every value whose fields fit the bit fields. -/
theorem dos_pack_unpack (x : DateTime) (h : Dos.Representable (fields x)) :
    ∃ d, x.datepart = some d ∧
      fields (fromMsdos d x.timepart) = Dos.round2s (fields x) := by
  obtain ⟨v, hv, hvn, htn⟩ := parts_toNat x h
  refine ⟨v, hv, ?_⟩
  rw [fromMsdos_fields, hvn, htn]
  exact Dos.pack_unpack (fields x) h

/-- The checked constructor `DateTime::from_date_and_time` accepts exactly the documented ranges. -/
theorem ctor_accepts_iff (y : UInt16) (mo d h mi s : UInt8) :
    (fromDateAndTime y mo d h mi s).isSome ↔
      Dos.InDocumentedRange ⟨y.toNat, mo.toNat, d.toNat, h.toNat, mi.toNat, s.toNat⟩ := by
  -- `≤` on `UInt16` / `UInt8` is `≤` of the `toNat`s by definition: the guard is the range predicate
  unfold fromDateAndTime
  split
  · rename_i hc; exact iff_of_true rfl hc
  · rename_i hc; exact iff_of_false (fun h => nomatch h) hc

/-- When `DateTime::from_date_and_time` accepts, the value it returns holds the arguments unchanged. -/
theorem ctor_value {y : UInt16} {mo d h mi s : UInt8} {x : DateTime}
    (hx : fromDateAndTime y mo d h mi s = some x) : x = ⟨y, mo, d, h, mi, s⟩ := by
  unfold fromDateAndTime at hx
  split at hx
  · exact (Option.some.inj hx).symm
  · cases hx

/-- Accepted values survive pack / unpack up to the 2-second resolution (second 60 ↦ 60,
59 ↦ 58), which is what an archive round trip stores (C01 carries the bytes). -/
theorem ctor_roundtrip {y : UInt16} {mo d h mi s : UInt8} {x : DateTime}
    (hx : fromDateAndTime y mo d h mi s = some x) :
    ∃ dp, x.datepart = some dp ∧ fields (fromMsdos dp x.timepart) = Dos.round2s (fields x) := by
  have hr : Dos.InDocumentedRange ⟨y.toNat, mo.toNat, d.toNat, h.toNat, mi.toNat, s.toNat⟩ :=
    (ctor_accepts_iff y mo d h mi s).mp (by rw [hx]; rfl)
  have hv := ctor_value hx
  subst hv
  exact dos_pack_unpack _ (Dos.documented_representable _ hr)

/-- `datepart`'s checked subtraction cannot panic on any value obtainable through the API. -/
theorem datepart_no_underflow {x : DateTime} (hc : Constructible x) : (x.datepart).isSome := by
  have key : ∀ z : DateTime, 1980 ≤ z.year.toNat → (z.datepart).isSome := by
    intro z hz
    have h1980 : (1980 : UInt16).toNat = 1980 := by decide
    have hlt : ¬ z.year < 1980 := by rw [UInt16.lt_iff_toNat_lt]; omega
    unfold datepart; rw [if_neg hlt]; rfl
  cases hc with
  | default => exact key _ (by decide)
  | msdos d t =>
    have := (dos_unpack_pack d t).1
    rw [this]; rfl
  | ctor hx =>
    have hr := (ctor_accepts_iff _ _ _ _ _ _).mp (by rw [hx]; rfl)
    have hv := ctor_value hx
    subst hv
    exact key _ hr.1
  | @ofCal c x hv hx =>
    unfold tryFromCal at hx
    split at hx
    · rename_i hy
      have := Option.some.inj hx
      subst this
      apply key
      show 1980 ≤ (UInt16.ofNat c.year.toNat).toNat
      rw [UInt16.toNat_ofNat']
      omega
    · cases hx

/-- `to_time` succeeds exactly on real calendar dates with in-range clock fields. -/
theorem toTime_ok_iff (x : DateTime) :
    (x.toTime).isSome ↔ (x.cal.valid = true) := by
  unfold toTime
  split <;> simp_all

/-- The range check of `TryFrom<OffsetDateTime>`: exactly 1980..=2107. -/
theorem tryFrom_range_iff (c : Cal) :
    (tryFromCal c).isSome ↔ (1980 ≤ c.year ∧ c.year ≤ 2107) := by
  unfold tryFromCal
  split <;> simp_all

/-- `to_time` then `try_from` gives back the original value (for values in the DOS year range,
which is every value `from_msdos` or the constructor can produce). -/
theorem tryFrom_toTime {x : DateTime} {c : Cal} (hy : 1980 ≤ x.year.toNat ∧ x.year.toNat ≤ 2107)
    (h : x.toTime = some c) : tryFromCal c = some x := by
  unfold toTime at h
  split at h
  · cases Option.some.inj h
    have : (1980 : Int) ≤ (x.year.toNat : Int) ∧ ((x.year.toNat : Int)) ≤ 2107 := by omega
    unfold tryFromCal
    rw [if_pos (by exact this)]
    simp only [cal, Int.toNat_natCast, UInt16.ofNat_toNat, UInt8.ofNat_toNat]
  · cases h

/-- `try_from` then `to_time` gives back the original calendar value. -/
theorem toTime_tryFrom {x : DateTime} {c : Cal} (hv : c.valid = true)
    (h : tryFromCal c = some x) : x.toTime = some c := by
  unfold tryFromCal at h
  split at h
  · rename_i hy
    cases Option.some.inj h
    obtain ⟨y, mo, d, hh, mi, s⟩ := c
    have hv' := hv
    simp only [Cal.valid, Bool.and_eq_true, decide_eq_true_eq] at hv'
    obtain ⟨⟨⟨⟨⟨_, _, hmo⟩, _, hd⟩, hh'⟩, hmi⟩, hs⟩ := hv'
    have lt8 {n m : Nat} (h : n ≤ m) (hm : m < 256) : (UInt8.ofNat n).toNat = n :=
      UInt8.toNat_ofNat_of_lt' (Nat.lt_of_le_of_lt h hm)
    have e1 : ((UInt16.ofNat y.toNat).toNat : Int) = y := by
      simp only at hy
      rw [UInt16.toNat_ofNat']; omega
    unfold toTime cal
    simp only [e1, lt8 hmo (by decide), lt8 (Nat.le_trans hd (Dos.daysInMonth_le y mo)) (by decide),
      lt8 hh' (by decide), lt8 hmi (by decide), lt8 hs (by decide), hv, if_true]
  · cases h

/-! ### The offset and the sub-second part of an `OffsetDateTime`

`toTime_tryFrom` / `tryFrom_toTime` above speak about the six wall-clock fields.  An `OffsetDateTime`
also has a UTC offset and nanoseconds; `try_from` reads the fields in the value's OWN offset and drops
the rest, `to_time` answers in UTC with nanosecond 0.  So the round trip preserves the wall-clock fields,
NOT the instant: 12:00:00 +01:00 comes back as 12:00:00 UTC, one hour later.  Stated with the offset and
the nanoseconds as parameters: -/

/-- `try_from` then `to_time`, for ANY offset and nanosecond value of the argument: the same six
wall-clock fields, offset UTC, nanosecond 0. -/
theorem toTime_tryFrom_offset {x : DateTime} {o : OCal} (hv : o.cal.valid = true)
    (h : tryFromO o = some x) : x.toTimeO = some ⟨o.cal, 0, 0⟩ := by
  unfold toTimeO
  rw [toTime_tryFrom hv h]; rfl

/-- `try_from` then `to_time` gives back the value itself (instant included) exactly when it was UTC with a
whole second. -/
theorem toTime_tryFrom_exact_iff {x : DateTime} {o : OCal} (hv : o.cal.valid = true)
    (h : tryFromO o = some x) : x.toTimeO = some o ↔ (o.offset = 0 ∧ o.nanos = 0) := by
  rw [toTime_tryFrom_offset hv h]
  obtain ⟨c, n, off⟩ := o
  simp only [Option.some.injEq, OCal.mk.injEq, true_and]
  constructor
  · rintro ⟨h1, h2⟩; exact ⟨h2.symm, h1.symm⟩
  · rintro ⟨h1, h2⟩; exact ⟨h2.symm, h1.symm⟩

/-- `to_time` then `try_from`: what `to_time` returns is in UTC with nanosecond 0, and converts back to
the original value. -/
theorem tryFrom_toTime_offset {x : DateTime} {o : OCal}
    (hy : 1980 ≤ x.year.toNat ∧ x.year.toNat ≤ 2107) (h : x.toTimeO = some o) :
    tryFromO o = some x ∧ o.offset = 0 ∧ o.nanos = 0 := by
  unfold toTimeO at h
  cases hc : x.toTime with
  | none => rw [hc] at h; cases h
  | some c =>
    rw [hc] at h
    have ho := Option.some.inj h
    subst ho
    exact ⟨tryFrom_toTime hy hc, rfl, rfl⟩

/-- The instant is not preserved: 2020-06-15 12:00:00.5 +01:00 is accepted and comes back as
12:00:00 UTC (same fields, 3600.5 s later). -/
example : (tryFromO ⟨⟨2020, 6, 15, 12, 0, 0⟩, 500000000, 3600⟩).bind toTimeO =
    some ⟨⟨2020, 6, 15, 12, 0, 0⟩, 0, 0⟩ := by decide +kernel

/-! ### The two words are handled independently (what makes per-factor enumeration exhaustive)

`dos.block` enumerates ALL 2^16 date words against a covering set of time words and ALL 2^16 time words
against a covering set of date words (valid and invalid ones), comparing implementation and model by
digest.  By the three facts below the outcome on an arbitrary pair (d, t) - fields, re-packed words and
the verdict of `to_time` - is determined by the outcomes on (d, t₀) and (d₀, t). -/

/-- The date fields of `from_msdos d t` do not depend on `t`, the clock fields not on `d`. -/
theorem fromMsdos_words_independent (d d' t t' : UInt16) :
    (fromMsdos d t).year = (fromMsdos d t').year ∧ (fromMsdos d t).month = (fromMsdos d t').month ∧
    (fromMsdos d t).day = (fromMsdos d t').day ∧
    (fromMsdos d t).hour = (fromMsdos d' t).hour ∧ (fromMsdos d t).minute = (fromMsdos d' t).minute ∧
    (fromMsdos d t).second = (fromMsdos d' t).second :=
  ⟨rfl, rfl, rfl, rfl, rfl, rfl⟩

/-- `datepart` reads the date fields only, `timepart` the clock fields only. -/
theorem parts_independent (x y : DateTime) :
    (x.year = y.year → x.month = y.month → x.day = y.day → x.datepart = y.datepart) ∧
    (x.hour = y.hour → x.minute = y.minute → x.second = y.second → x.timepart = y.timepart) := by
  constructor
  · intro h1 h2 h3; unfold datepart; rw [h1, h2, h3]
  · intro h1 h2 h3; unfold timepart; rw [h1, h2, h3]

/-- `to_time` succeeds iff the date is a calendar date AND the clock fields are in range: a conjunction
of a predicate on the date word and one on the time word. -/
theorem toTime_factors (d t : UInt16) :
    ((fromMsdos d t).toTime).isSome =
      ((fromMsdos d 0).cal.dateValid && (fromMsdos 0 t).cal.timeValid) := by
  have hv : ∀ c : Cal, c.valid = (c.dateValid && c.timeValid) := by
    intro c; simp only [Cal.valid, Cal.dateValid, Cal.timeValid, Bool.and_assoc]
  unfold toTime
  rw [hv]
  obtain ⟨i1, i2, i3, _, _, _⟩ := fromMsdos_words_independent d d t 0
  obtain ⟨_, _, _, i4, i5, i6⟩ := fromMsdos_words_independent d 0 t t
  have e1 : (fromMsdos d t).cal.dateValid = (fromMsdos d 0).cal.dateValid := by
    unfold Cal.dateValid DateTime.cal; simp only [i1, i2, i3]
  have e2 : (fromMsdos d t).cal.timeValid = (fromMsdos 0 t).cal.timeValid := by
    unfold Cal.timeValid DateTime.cal; simp only [i4, i5, i6]
  rw [e1, e2]
  split <;> simp_all

/-- By `toTime_factors`: with ANY valid partner words `t₁` (e.g. 00:00:00) and `d₁` (e.g. 1980-01-01) the verdict
of `to_time` on (d, t) is the conjunction of its verdicts on (d, t₁) and (d₁, t). -/
theorem toTime_from_factors (d t d₁ t₁ : UInt16)
    (hd : (fromMsdos d₁ 0).cal.dateValid = true) (ht : (fromMsdos 0 t₁).cal.timeValid = true) :
    ((fromMsdos d t).toTime).isSome =
      (((fromMsdos d t₁).toTime).isSome && ((fromMsdos d₁ t).toTime).isSome) := by
  rw [toTime_factors d t, toTime_factors d t₁, toTime_factors d₁ t, hd, ht]
  simp

example : (fromMsdos 0x21 0).cal.dateValid = true ∧ (fromMsdos 0 0).cal.timeValid = true := by decide +kernel

/-! ### Non-vacuity: concrete instances of the hypotheses -/

example : Dos.Representable (fields ⟨2107, 12, 31, 23, 59, 59⟩) := by decide +kernel
example : fromDateAndTime 2024 2 29 23 59 60 = some ⟨2024, 2, 29, 23, 59, 60⟩ := by decide +kernel
example : (⟨2023, 2, 29, 0, 0, 0⟩ : DateTime).toTime = none := by decide +kernel
example : (⟨2024, 2, 29, 1, 2, 3⟩ : DateTime).toTime = some ⟨2024, 2, 29, 1, 2, 3⟩ := by decide +kernel
example : (fromDateAndTime 2024 2 29 23 59 60).bind toTime = none := by decide +kernel
/-- Days 29-31 with a VALID clock: the calendar rule decides (century rule, 30-day months). -/
example : (⟨2100, 2, 29, 12, 0, 0⟩ : DateTime).toTime = none ∧
    (⟨2000, 2, 29, 12, 0, 0⟩ : DateTime).toTime.isSome = true ∧
    (⟨2021, 4, 31, 12, 0, 0⟩ : DateTime).toTime = none ∧
    (⟨2021, 2, 30, 12, 0, 0⟩ : DateTime).toTime = none ∧
    (⟨2021, 4, 30, 23, 59, 58⟩ : DateTime).toTime.isSome = true := by decide +kernel
example : Constructible (fromMsdos 0xFFFF 0xFFFF) := .msdos _ _
/-- A value outside `Constructible` on which `datepart` would panic exists (the hypothesis of
`datepart_no_underflow` is not redundant). -/
example : (⟨1979, 1, 1, 0, 0, 0⟩ : DateTime).datepart = none := by decide +kernel

end ZipVerif.Props.C18
