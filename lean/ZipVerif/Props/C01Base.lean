import ZipVerif.Props.C12
/-
C01 — Write then read returns exactly what was written.

This file rests on C12 alone, not on the writer-emits-layout development:
* `finish_eq_drop`: `finish()` and dropping the writer leave identical bytes in the sink, for every
  state, device and fault index on which finalisation succeeds;
* `directory_is_the_calls_partial`: what `finish()` writes as the central directory is exactly the log
  of successful creations with the CRC-32 / length of the bytes successfully written (C12's tracking
  theorem, restated).
The archive-level theorem (`write_read_roundtrip`: the reader model applied to the sink returns these
entries) is `Props/C01.lean`, on top of `Lemmas/WL*.lean`; `Lemmas/WLRun.lean` itself imports this file
for `finish_eq_drop`.
-/

namespace ZipVerif.Props.C01Base
open ZipVerif ZipVerif.Model

/-- `finish` = `finalize`, then (purely) closing the writer. -/
theorem finish_device (ext : WExt) (s : WState) (fa : Option Nat) (d : Dev) :
    (finish ext s fa d).2 = (finalize ext s fa d).2 := by
  unfold finish
  rw [M.bind_apply]
  cases h : finalize ext s fa d with
  | mk o d1 =>
    cases o with
    | ok rs =>
      obtain ⟨r, s1⟩ := rs
      cases r with
      | error e => rfl
      | ok u =>
        dsimp only
        cases s1.inner with
        | closed => rfl
        | storer enc => cases enc <;> rfl
        | compressor m l enc p => rfl
    | err e => rfl
    | panic site => rfl

/-- Dropping an open writer whose `finalize` succeeds = `finalize` (a successful `finalize` leaves the
plain storer behind: no encoder is alive that could write when the field is dropped). -/
theorem drop_device (ext : WExt) (s : WState) (hs : s.inner.isClosed = false) (fa : Option Nat) (d : Dev)
    (u : Unit) (s1 : WState) (d1 : Dev) (hf : finalize ext s fa d = (.ok (.ok u, s1), d1))
    (hplain : s1.inner = .storer none) :
    (dropWriter ext s fa d).2 = d1 := by
  unfold dropWriter
  simp only [hs, Bool.false_eq_true, if_false]
  rw [M.bind_apply, hf]
  unfold dropInner
  simp only [hplain]
  rfl

/-- **`finish()` and drop produce identical bytes** — for every open writer state, every sink and
every fault index on which finalisation succeeds: the same sink contents, position and I/O call
count.  (When finalisation FAILS, `finish` returns the error and the writer lives on; a dropped writer
has nobody to report to — and a still-active Deflate/Bzip2 encoder then flushes its stream into the
sink from its own destructor, `Model.dropInner`.)  `hplain` holds whenever `finalize` succeeds from an
`Inv` state (`Lemmas/WriterSat.finalize_sat`); it is kept explicit here to keep this file elementary. -/
theorem finish_eq_drop (ext : WExt) (s : WState) (hs : s.inner.isClosed = false) (fa : Option Nat)
    (d : Dev) (u : Unit) (s1 : WState) (d1 : Dev)
    (hf : finalize ext s fa d = (.ok (.ok u, s1), d1)) (hplain : s1.inner = .storer none) :
    (finish ext s fa d).2 = (dropWriter ext s fa d).2 := by
  rw [finish_device, drop_device ext s hs fa d u s1 d1 hf hplain, hf]

/-- Dropping a writer that was already finished (or poisoned) touches nothing. -/
theorem drop_after_finish_noop (ext : WExt) (s : WState) (hs : s.inner.isClosed = true)
    (fa : Option Nat) (d : Dev) : dropWriter ext s fa d = (.ok (.ok (), s), d) := by
  unfold dropWriter
  simp only [hs, if_true]
  rfl

example : (WState.init).inner.isClosed = false := rfl

/-- **The central directory `finish()` writes is the log of the successful calls** (fragment without
extra-data mode, fault-free sink; `Props.C12.files_track_calls_partial`): entries in call order, each
with `crc32 = CRC-32(bytes successfully written)` and `uncompressed_size = their number`; raw copies
with their source's values. -/
theorem directory_is_the_calls_partial (ext : WExt) (calls : List C12.Call)
    (hc : ∀ c ∈ calls, c.InFragment) (d : Dev) (v : Option Nat) (s' : WState) (d' : Dev)
    (hfin : C12.step ext .finish (C12.runCalls ext calls WState.init none d).2.1 none
      (C12.runCalls ext calls WState.init none d).2.2 = (.ok (.ok v, s'), d')) :
    Forall2 Closed (C12.logOf [] calls (C12.runCalls ext calls WState.init none d).1) s'.files :=
  C12.files_track_calls_partial ext calls hc d v s' d' hfin

end ZipVerif.Props.C01Base
