import ZipVerif.Lemmas.Clones
/-
C20 — Cloned archive handles are independent and usable in parallel.
Property theorems, their concrete instances (`demo`, `demoBad`, `demoEnc`) and the shared-position counter-model
(`stepSharedPos`); the model is `Model/Clones.lean` (read its header for the atomic-step granularity), helper lemmas
are in `Lemmas/Clones.lean`.

Granularity proved here: a schedule is an arbitrary merge of the handles' *atomic* steps, where
`by_index*` is split into [seek + parse local header + compute `data_start`] ; [store into the shared
cell, load-free] ; [seek + build the `ZipFile`], `ZipFile::data_start()` is one load, and every other
call is one step touching only handle-local or immutable data.  Each cell access is a single relaxed
atomic on one location, so per-location coherence makes every real execution an interleaving of these
steps as far as the cells are concerned;
HYPOTHESIS ON THE READER (the property says "each with its own cloned reader"): `R::clone` yields a reader
with its OWN position over the same bytes - in the model every `Handle` carries its own `pos` and no step of
another handle touches it.  Readers whose clones share one cursor (`ZipArchive<&File>`, `File::try_clone`)
are NOT covered; `sharedPos_breaks_independence` below shows, in the model's own terms, that the statement
is false for them (a resumed partial read returns another entry's bytes).
Passwords: the verdict of a decrypting open is `A.unlock i p`, a function of entry and password alone
(`decrypt_outcome_by_entry_and_password`); nothing one handle presents can change what another one gets.
Memory-model subtleties beyond per-location coherence, and the
real OS scheduler, are outside the model (they are exercised, not proved, by the `clones.threads` stress
op of the harness).  `ZipArchive<R>: Send + Sync` is a type-checker fact asserted at compile time in the
harness, not a Lean theorem.
-/

namespace ZipVerif.Props.C20
open ZipVerif ZipVerif.Model.Clones

/-- Every store into a cell is idempotent. -/
theorem store_idempotent (cells : List UInt64) (i : Nat) (v : UInt64) :
    (cells.set i v).set i v = cells.set i v := by
  simp

/-- **Every store any handle ever performs into cell `i` writes the same value `f i`**, a function
of the immutable archive and the index only: whenever, after any schedule, some handle is about to
execute its store step, the value it carries is `f i`. -/
theorem store_value_determined (A : Arch) (scripts : List (List Op)) (sched : List Nat)
    (H : Handle) (hH : H ∈ (run A (Sys.init A scripts) sched).hs)
    (i : Nat) (md : Mode) (v : UInt64) (hpc : H.pc = .storing i md v) : A.f i = some v :=
  ((good_run (good_init A scripts) sched).handles H hH).storing i md v hpc

/-- **Invariant of the shared cells** after any schedule of any number of handles running any scripts:
there is one cell per entry, every cell is still `0` or already holds `f i`, and if some idle handle has entry
`i` open then cell `i` holds `f i`. -/
theorem cells_inv (A : Arch) (scripts : List (List Op)) (sched : List Nat) :
    let s := run A (Sys.init A scripts) sched
    s.cells.length = A.entries.length ∧
    (∀ i v, s.cells[i]? = some v → v = 0 ∨ A.f i = some v) ∧
    (∀ H ∈ s.hs, ∀ fl, H.file = some fl → H.pc = .idle →
      ∃ v, A.f fl.idx = some v ∧ s.cells[fl.idx]? = some v) := by
  intro s
  have hg := good_run (good_init A scripts) sched
  refine ⟨hg.cells.len, hg.cells.val, ?_⟩
  intro H hH fl hfl hpc
  exact (hg.handles H hH).held fl.idx (by simp [held, hpc, hfl])

/-- **Local determinism under every schedule** (no hypothesis on the schedule): after any merge order
of atomic steps, the complete local state of handle `h` — reader position, open file, remaining script,
observations so far — is exactly the state it reaches when used alone for as many atomic steps as the
schedule gave it. In particular its observations are always a prefix of the solo observations. -/
theorem interleave_local (A : Arch) (scripts : List (List Op)) (sched : List Nat) (h : Nat)
    (hh : h < scripts.length) :
    (run A (Sys.init A scripts) sched).hs[h]? =
      some (soloRun A (initCells A) (Handle.init scripts[h]) (sched.count h)).2 :=
  sim_local A scripts sched h hh

/-- **Main theorem.** For every archive, every number of handles, all scripts, and every schedule that
is an interleaving of the handles' atomic steps, each handle's observation list equals `runAlone` of its
script. -/
theorem interleave_independent (A : Arch) (scripts : List (List Op)) (sched : List Nat)
    (hs : IsInterleaving A scripts sched) :
    runInterleaved A scripts sched = scripts.map (runAlone A) := by
  unfold runInterleaved
  apply List.ext_getElem?
  intro h
  by_cases hh : h < scripts.length
  · rw [List.getElem?_map, sim_local A scripts sched h hh, hs.2 h hh]
    simp [runAlone, soloFinal, hh]
  · have h1 : scripts.length ≤ h := Nat.le_of_not_lt hh
    rw [List.getElem?_eq_none (by simp [run_length, Sys.init, h1]),
      List.getElem?_eq_none (by simp [h1])]

/-- **Call granularity** (what one thread can do: open on one clone, read a bit on another, resume the
first, …): every interleaving of whole API calls is an interleaving of atomic steps, hence every handle
observes exactly what it observes alone. This is the schedule shape the `clones` correspondence stream
executes on the real crate. -/
theorem calls_independent (A : Arch) (scripts : List (List Op)) (calls : List Nat)
    (hc : IsCallInterleaving scripts calls) :
    runCalls A scripts calls = scripts.map (runAlone A) := by
  obtain ⟨σ, hrun, hmem, hcnt⟩ := calls_as_steps A scripts calls hc.1
    (fun h hh => Nat.le_of_eq (hc.2 h hh))
  have hσ : IsInterleaving A scripts σ := by
    refine ⟨hmem, fun h hh => ?_⟩
    rw [hcnt h hh, hc.2 h hh, List.take_length]
  rw [← interleave_independent A scripts σ hσ]
  unfold runCalls runInterleaved
  rw [hrun]

/-- A script used alone runs to completion within its `atomicSteps`: nothing is left of the script, no
call is half done, and every call produced exactly one observation. (So `IsInterleaving` schedules run
every script completely, and `runAlone` is the observation list of the *whole* script.) -/
theorem runAlone_complete (A : Arch) (script : List Op) :
    (soloFinal A script).script = [] ∧ (soloFinal A script).pc = .idle ∧
      (runAlone A script).length = script.length := by
  obtain ⟨h1, h2, h3⟩ := solo_finished A script (initCells A) (Handle.init script) rfl rfl
  exact ⟨h2, h1, by simpa [runAlone, soloFinal, Handle.init] using h3⟩

/-- The state (observation included) one opening call run alone on a fresh archive ends in, when the local
header is fine (`A.g i md = some v`): exactly the one `finishOpen` leaves. -/
theorem runAlone_open (A : Arch) (op : Op) (i : Nat) (md : Mode) (v : UInt64)
    (ht : op.target A = some (i, md)) (hv : A.g i md = some v) :
    soloFinal A [op] = finishOpen A
      { beginOpen A { Handle.init [op] with script := [] } i md with pc := .seeking i md v } i md v := by
  show (soloRun A (initCells A) (Handle.init [op]) (opSteps A op)).2 = _
  rw [opSteps_some ht hv, solo_open3 A _ (Handle.init [op]) op [] rfl rfl i md ht v hv]

/-- The state one opening call run alone ends in when the open fails in its first step (`A.g i md = none`):
the one `beginOpen` leaves. -/
private theorem runAlone_open_none (A : Arch) (op : Op) (i : Nat) (md : Mode)
    (ht : op.target A = some (i, md)) (hv : A.g i md = none) :
    soloFinal A [op] = beginOpen A { Handle.init [op] with script := [] } i md := by
  show (soloRun A (initCells A) (Handle.init [op]) (opSteps A op)).2 = _
  rw [opSteps_none ht hv]
  show (stepH A (initCells A) (Handle.init [op])).2 = _
  rw [stepH_idle_cons A _ rfl rfl, doOp_target _ _ ht]

/-- A single opening call observes a function of its target (entry after name resolution, mode). -/
theorem runAlone_single_target (A : Arch) (op op' : Op) (i : Nat) (md : Mode)
    (ht : op.target A = some (i, md)) (ht' : op'.target A = some (i, md)) :
    runAlone A [op] = runAlone A [op'] := by
  unfold runAlone
  cases hv : A.g i md with
  | some v => rw [runAlone_open A op i md v ht hv, runAlone_open A op' i md v ht' hv]; rfl
  | none => rw [runAlone_open_none A op i md ht hv, runAlone_open_none A op' i md ht' hv]; rfl

/-- What a handle used alone sees from `data_start()`: after a successful open of entry `i` the load
returns `f i` — alone or interleaved (by `interleave_independent`). -/
theorem runAlone_open_dataStart (A : Arch) (i : Nat) (v : UInt64) (hv : A.f i = some v)
    (hd : ∀ e, A.entries[i]? = some e → e.decodable = true ∧ e.encrypted = false) :
    runAlone A [.openIdx i, .dataStart] = [.opened, .dataStart v] := by
  have hlt := f_lt hv
  have he : A.entries[i]? = some A.entries[i] := List.getElem?_eq_getElem hlt
  obtain ⟨hdec, henc⟩ := hd _ he
  have hg : A.g i .noPw = some v := (g_eq_f (md := .noPw) he henc).trans hv
  obtain ⟨e, he', hb⟩ := beginOpen_some { Handle.init [.openIdx i, .dataStart] with script := [.dataStart] }
    .noPw hg
  cases he.symm.trans he'
  have h3 := solo_open3 A (initCells A) (Handle.init [.openIdx i, .dataStart]) _ _ rfl rfl i .noPw rfl v hg
  rw [hb, finishOpen_noPw he hdec] at h3
  have hc : ((initCells A).set i v)[i]? = some v :=
    List.getElem?_set_self (by rw [initCells, List.length_map]; exact hlt)
  unfold runAlone soloFinal
  rw [atomicSteps_cons, opSteps_some (op := .openIdx i) rfl hg, soloRun_add_eq h3]
  show (stepH A _ _).2.obs = _
  rw [stepH_idle_cons A _ rfl rfl, doOp_dataStart rfl hc]
  rfl

/-- What the caller of `by_index_decrypt` / `by_name_decrypt` gets for each verdict of the parameter. -/
def unlockObs : Unlock → Obs
  | .wrong => .invalidPassword
  | .fails e => .openErr e
  | .opens _ _ => .opened

/-- **The outcome of a decrypting open is a function of the entry and the password only.**  For an
encrypted entry with a decoder whose local header is fine, `by_index_decrypt(i, p)` used alone returns
exactly the verdict of `A.unlock i p` — and by `interleave_independent` / `calls_independent` the same in
every interleaving with any other handles, whatever passwords THEY present, before or after.  (A key
cache shared between clones that answers a wrong password with the verdict of an earlier right one is
not an instance of this model: the correspondence stream `clones` and its implementation-only oracle
compare exactly these observations.) -/
theorem decrypt_outcome_by_entry_and_password (A : Arch) (i : Nat) (p : Bytes) (e : Entry) (v : UInt64)
    (he : A.entries[i]? = some e) (henc : e.encrypted = true) (hdec : e.decodable = true)
    (hv : A.f i = some v) :
    runAlone A [.openDec i p] = [unlockObs (A.unlock i p)] := by
  have hg : A.g i (.pw p) = some v := (g_eq_f he rfl).trans hv
  obtain ⟨_, _, hb⟩ := beginOpen_some { Handle.init [Op.openDec i p] with script := [] } (.pw p) hg
  unfold runAlone
  rw [runAlone_open A (.openDec i p) i (.pw p) v rfl hg, hb]
  simp only [finishOpen, he, hdec, henc, Bool.not_true, Bool.false_eq_true, if_false]
  cases A.unlock i p <;> rfl

/-- `by_name_decrypt(nm, p)` / `by_name(nm)` observe what `by_index_decrypt` / `by_index` observe at the index
the name map gives for `nm`. -/
theorem decrypt_by_name_eq_by_index (A : Arch) (nm p : Bytes) :
    runAlone A [.openNameDec nm p] = runAlone A [.openDec (A.nameIndex nm) p] ∧
    runAlone A [.openName nm] = runAlone A [.openIdx (A.nameIndex nm)] :=
  ⟨runAlone_single_target A _ _ _ _ rfl rfl, runAlone_single_target A _ _ _ _ rfl rfl⟩

/-- `by_index` / `by_name` on an encrypted entry is refused before anything is touched: one atomic
step, no seek, no store — whatever the other handles do. -/
theorem open_encrypted_without_password (A : Arch) (i : Nat) (e : Entry)
    (he : A.entries[i]? = some e) (henc : e.encrypted = true) :
    runAlone A [.openIdx i] = [.openErr .passwordRequired] ∧ opSteps A (.openIdx i) = 1 := by
  have hg : A.g i .noPw = none := g_eq_none (md := .noPw) he henc
  refine ⟨?_, opSteps_none rfl hg⟩
  unfold runAlone
  rw [runAlone_open_none A _ i .noPw rfl hg, beginOpen_needsPw (md := .noPw) he henc]
  rfl

/-- A password given for a PLAIN entry is discarded: same observations as without one, for the call
and for everything the handle does afterwards. -/
theorem password_on_plain_entry_ignored (A : Arch) (i : Nat) (p : Bytes) (e : Entry)
    (he : A.entries[i]? = some e) (henc : e.encrypted = false) (rest : List Op) :
    runAlone A (.openDec i p :: rest) = runAlone A (.openIdx i :: rest) := by
  have hg : A.g i (.pw p) = A.g i .noPw := (g_eq_f he rfl).trans (g_eq_f (md := .noPw) he henc).symm
  have key : soloRun A (initCells A) (Handle.init (.openDec i p :: rest)) (opSteps A (.openDec i p)) =
      soloRun A (initCells A) (Handle.init (.openIdx i :: rest)) (opSteps A (.openIdx i)) := by
    cases hv : A.g i .noPw with
    | some v =>
      rw [opSteps_some (op := .openDec i p) rfl (hg ▸ hv), opSteps_some (op := .openIdx i) rfl hv]
      rw [solo_open3 A _ _ _ rest rfl rfl i (.pw p) rfl v (hg ▸ hv),
        solo_open3 A _ _ _ rest rfl rfl i .noPw rfl v hv, finishOpen_pw_plain he henc]
      obtain ⟨e1, he1, hb1⟩ := beginOpen_some { Handle.init (.openDec i p :: rest) with script := rest }
        (.pw p) (hg ▸ hv)
      obtain ⟨e2, he2, hb2⟩ := beginOpen_some { Handle.init (.openIdx i :: rest) with script := rest }
        .noPw hv
      cases he.symm.trans he1
      cases he.symm.trans he2
      rw [hb1, hb2]
      rfl
    | none =>
      rw [opSteps_none (op := .openDec i p) rfl (hg ▸ hv), opSteps_none (op := .openIdx i) rfl hv]
      show stepH A (initCells A) (Handle.init (.openDec i p :: rest)) =
        stepH A (initCells A) (Handle.init (.openIdx i :: rest))
      rw [stepH_idle_cons A _ rfl rfl, stepH_idle_cons A _ rfl rfl]
      exact congrArg (Prod.mk _) (beginOpen_none_mode (md := .pw p) (md' := .noPw) he henc.symm (hg ▸ hv) _)
  unfold runAlone soloFinal
  rw [atomicSteps_cons, atomicSteps_cons, soloRun_add, soloRun_add, key]

/-! ### Non-vacuity: a concrete archive, two handles, two entries -/

/-- Local header of a stored entry: signature, 22 bytes of fields the model does not look at,
name length 1, extra length 0, the name, then the data. -/
def lfh (name : UInt8) (data : Bytes) : Bytes :=
  [0x50, 0x4b, 0x03, 0x04] ++ List.replicate 22 0 ++ [1, 0, 0, 0] ++ [name] ++ data

/-- Two stored entries `a` = "hello" at 0 (data at 31) and `b` = "xyz" at 36 (data at 67). -/
def demo : Arch where
  bytes := lfh 0x61 [0x68, 0x65, 0x6c, 0x6c, 0x6f] ++ lfh 0x62 [0x78, 0x79, 0x7a]
  entries :=
    [ ⟨[0x61], 0, 5, 5, 0x3610a686, true, true, [], false, none⟩,
      ⟨[0x62], 36, 3, 3, 0x2e7e42a4, true, true, [], false, none⟩ ]

def scriptA : List Op := [.openIdx 0, .read 2, .dataStart, .read 10]
def scriptB : List Op := [.openIdx 0, .read 3, .openIdx 1, .dataStart, .read 2, .info]

example : demo.f 0 = some 31 ∧ demo.f 1 = some 67 ∧ demo.f 2 = none := by decide +kernel

example : runAlone demo scriptA =
    [.opened, .bytes [0x68, 0x65], .dataStart 31, .bytes [0x6c, 0x6c, 0x6f]] := by decide +kernel

example : runAlone demo scriptB =
    [.opened, .bytes [0x68, 0x65, 0x6c], .opened, .dataStart 67, .bytes [0x78, 0x79],
     .info [0x62] 3 0x2e7e42a4 36] := by decide +kernel

/-- A schedule that switches handles in the middle of the opens (between header parse, store and seek)
and between partial reads. -/
def demoSched : List Nat := [0, 1, 1, 0, 0, 1, 0, 1, 1, 0, 1, 1, 0, 1, 1, 1]

example : IsInterleaving demo [scriptA, scriptB] demoSched := by decide +kernel

example : runInterleaved demo [scriptA, scriptB] demoSched =
    [runAlone demo scriptA, runAlone demo scriptB] := by decide +kernel

/-- The cells after that run, and a state in which both handles sit between header parse and store of
the same entry (the hypothesis of `store_value_determined`): both carry the same value `f 0 = 31`. -/
example : (run demo (Sys.init demo [scriptA, scriptB]) demoSched).cells = [31, 67] := by decide +kernel

example : (run demo (Sys.init demo [scriptA, scriptB]) [0, 1]).hs.map (·.pc) =
    [.storing 0 .noPw 31, .storing 0 .noPw 31] ∧
    (run demo (Sys.init demo [scriptA, scriptB]) [0, 1]).cells = [0, 0] := by decide +kernel

/-- `scriptA` and `scriptB` interleaved at call granularity (handle 0 opens and reads a bit, handle 1 opens the same
entry, reads, switches entry, handle 0 resumes …). -/
example : IsCallInterleaving [scriptA, scriptB] [0, 1, 0, 1, 1, 0, 1, 0, 1, 1] ∧
    runCalls demo [scriptA, scriptB] [0, 1, 0, 1, 1, 0, 1, 0, 1, 1] =
      [runAlone demo scriptA, runAlone demo scriptB] := by decide +kernel

/-- The hypothesis of `interleave_independent` cannot simply be dropped: a schedule that starves handle 1
leaves it with a strict prefix of its solo observations (as `interleave_local` says). -/
example : runInterleaved demo [scriptA, scriptB] [0, 0, 0, 1, 1, 1, 1] =
    [[.opened], [.opened, .bytes [0x68, 0x65, 0x6c]]] := by decide +kernel

/-- Failing opens are covered: entry with a bad local signature (no store happens: cell stays 0 for
everybody), index out of range. -/
def demoBad : Arch := { demo with bytes := 0x51 :: demo.bytes.drop 1 }

example : demoBad.f 0 = none ∧ demoBad.f 1 = some 67 := by decide +kernel

example : runInterleaved demoBad
      [[.openIdx 0, .dataStart, .openIdx 1, .dataStart], [.openIdx 7, .openRaw 1, .read 9]]
      [1, 0, 1, 0, 1, 0, 1, 0, 1, 0, 0] =
    [[.openErr .invalidArchive, .noFile, .opened, .dataStart 67],
     [.openErr .fileNotFound, .opened, .bytes [0x78, 0x79, 0x7a]]] := by decide +kernel

/-! ### Encrypted entries: the verdict for a password does not depend on what other handles did -/

/-- `demo` plus a third, encrypted entry "c" (stored bytes = 14 opaque bytes at 101, header at 70); the
parameter accepts exactly the password `[1]` (content "OK") and - like a ZipCrypto check-byte collision -
`[9]` with garbage content whose final read fails. -/
def demoEnc : Arch where
  bytes := demo.bytes ++ lfh 0x63 (List.replicate 14 0xEE)
  entries := demo.entries ++ [ ⟨[0x63], 70, 14, 2, 0x11223344, true, true, [], true, none⟩ ]
  unlock := fun i p =>
    if i = 2 ∧ p = [1] then .opens [0x4f, 0x4b] none
    else if i = 2 ∧ p = [9] then .opens [0x21, 0x3f] (some .other)
    else .wrong

example : demoEnc.f 2 = some 101 := by decide +kernel

/-- Hypotheses of `decrypt_outcome_by_entry_and_password` on a concrete instance: the verdicts `wrong` and `opens`
(with and without a failing final read); no password of `demoEnc` has the verdict `fails`. -/
example : runAlone demoEnc [.openDec 2 [1], .read 10] = [.opened, .bytes [0x4f, 0x4b]] ∧
    runAlone demoEnc [.openDec 2 [7]] = [.invalidPassword] ∧
    runAlone demoEnc [.openDec 2 []] = [.invalidPassword] ∧
    runAlone demoEnc [.openIdx 2] = [.openErr .passwordRequired] ∧
    runAlone demoEnc [.openNameDec [0x63] [9], .read 2, .read 1, .read 1] =
      [.opened, .bytes [0x21, 0x3f], .readErr .other, .readErr .other] ∧
    runAlone demoEnc [.openDec 0 [7], .read 9] = runAlone demoEnc [.openIdx 0, .read 9] := by decide +kernel

/-- Handle 0 validates the right password, handle 1 presents a wrong one, the empty one and the name of
the entry with a wrong one - BEFORE, BETWEEN and AFTER handle 0's steps; handle 2 makes a failing read.
Every handle sees exactly its solo observations (an instance of `interleave_independent`). -/
example :
    let scripts : List (List Op) :=
      [[.openDec 2 [1], .read 1, .dataStart, .read 5],
       [.openDec 2 [7], .openDec 2 [], .openNameDec [0x63] [7], .openDec 2 [1], .read 2],
       [.openDec 2 [9], .read 5]]
    let sched := [1, 0, 1, 0, 1, 0, 2, 0, 1, 2, 1, 0, 2, 1, 1, 1, 2, 0, 1, 1, 1, 1, 1]
    IsInterleaving demoEnc scripts sched ∧
    runInterleaved demoEnc scripts sched =
      [[.opened, .bytes [0x4f], .dataStart 101, .bytes [0x4b]],
       [.invalidPassword, .invalidPassword, .invalidPassword, .opened, .bytes [0x4f, 0x4b]],
       [.opened, .readErr .other]] := by decide +kernel

/-! ### The hypothesis on the reader: clones must not share their position -/

/-- The system one gets when `R::clone` does NOT give an independent cursor (`ZipArchive<&File>`: every
clone seeks and reads through the same OS file offset): identical to `Sys.step`, except that the acting
handle starts from, and leaves behind, ONE shared position. -/
def stepSharedPos (A : Arch) (s : Sys × Nat) (h : Nat) : Sys × Nat :=
  match s.1.hs[h]? with
  | none => s
  | some H =>
    let r := stepH A s.1.cells { H with pos := s.2 }
    (⟨r.1, s.1.hs.set h r.2⟩, r.2.pos)

def runSharedPos (A : Arch) (scripts : List (List Op)) (sched : List Nat) : List (List Obs) :=
  (sched.foldl (stepSharedPos A) (Sys.init A scripts, 0)).1.hs.map (·.obs)

/-- With a shared position `interleave_independent` is FALSE: handle 0 opens "hello", reads 2 bytes, handle 1
opens "xyz" (moving the shared offset), handle 0 resumes and receives entry 1's bytes.  (On the crate the
same schedule over `ZipArchive<&File>` returns wrong bytes followed by "Invalid checksum".)  Hence the
hypothesis "each handle's reader has its own position" - structural in `Model/Clones.lean`, stated in the
claim text - cannot be dropped. -/
theorem sharedPos_breaks_independence :
    ∃ (A : Arch) (scripts : List (List Op)) (sched : List Nat), IsInterleaving A scripts sched ∧
      runSharedPos A scripts sched ≠ scripts.map (runAlone A) :=
  ⟨demo, [[.openIdx 0, .read 2, .read 3], [.openIdx 1, .read 1]], [0, 0, 0, 0, 1, 1, 1, 1, 0],
    by decide +kernel, by decide +kernel⟩

example : runSharedPos demo [[.openIdx 0, .read 2, .read 3], [.openIdx 1, .read 1]]
      [0, 0, 0, 0, 1, 1, 1, 1, 0] =
    [[.opened, .bytes [0x68, 0x65], .bytes [0x79, 0x7a]], [.opened, .bytes [0x78]]] := by decide +kernel

end ZipVerif.Props.C20
