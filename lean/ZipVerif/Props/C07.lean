import ZipVerif.Lemmas.TreeFacts
/-
C07 — extract() reproduces the tree and writes nothing outside the target.

LEVEL: proof about the filesystem MODEL (`Spec/FS.lean`: finite map from resolved absolute paths to
`dir mode | file bytes mode`, kernel path resolution component by component through the existing
directories, `mkdir`/`open(O_CREAT|O_TRUNC)`/`chmod`/`stat`, std's `create_dir_all` algorithm, owner
permission bits or superuser); PARTIAL with respect to the real filesystem: symbolic links or mount
points already present in the target, other users' objects, ACLs, name-length limits, ENOSPC, races
with other processes are outside the model and only observed by the sandbox comparison of the `fs`
stream (which also validates the model itself: every generated archive is extracted by the real crate
into a fresh sandbox and compared with the model's prediction, tree and modes included).

The extractor models are `Model/Extract.lean` (`extractSeek` = `ZipArchive::extract`, `extractStream`
= `ZipStreamReader::extract`); what the archive reader delivers per entry (name, bytes, errors,
`unix_mode()`) is their input.  Both return the final filesystem together with the optional error: a
run that fails leaves what it did so far on disk, and the confinement theorems cover those runs too.
-/

namespace ZipVerif.Props.C07
open ZipVerif ZipVerif.Spec.Paths ZipVerif.Spec.FS ZipVerif.Spec.Tree ZipVerif.Model.Paths
  ZipVerif.Model.Extract

/-! ### confinement, every archive, every outcome -/

/-- **Operation targets (seekable).** For every entry list, target directory and initial filesystem, the
bindings the run adds to the write log — its sequence of operation targets — are all at resolved paths
inside `root`, except that missing ancestors of `root` may be created as directories. -/
theorem extract_targets_inside (c : Cfg) (root : Path) (es : List EntryView) (fs : FS) :
    ∃ new : List (Path × Node), (extractSeek c root es fs).1.nodes = new ++ fs.nodes ∧
      ∀ t ∈ new, root <+: t.1 ∨ (t.1 <+: root ∧ ∃ m, t.2 = .dir m) :=
  (extractSeek_steps c root es fs).log

/-- **Operation targets (streaming).** `extract_targets_inside` for `ZipStreamReader::extract`, for every list of
local entries and of central records. -/
theorem extractStream_targets_inside (c : Cfg) (root : Path) (files : List EntryView)
    (metas : List (Name × Option Nat)) (fs : FS) :
    ∃ new : List (Path × Node), (extractStream c root files metas fs).1.nodes = new ++ fs.nodes ∧
      ∀ t ∈ new, root <+: t.1 ∨ (t.1 <+: root ∧ ∃ m, t.2 = .dir m) :=
  (extractStream_steps c root files metas fs).log

/-- **Confinement (seekable).** Whatever the names are and whether or not the run ends in an error: a
path that is not inside `root` maps to the same node before and after — the only exception being a
missing ancestor of `root`, which `create_dir_all` creates as a directory. -/
theorem extract_confined (c : Cfg) (root : Path) (es : List EntryView) (fs : FS) (p : Path)
    (hp : ¬ root <+: p) :
    (extractSeek c root es fs).1.lookup p = fs.lookup p ∨
      (p <+: root ∧ fs.lookup p = none ∧ ∃ m, (extractSeek c root es fs).1.lookup p = some (.dir m)) :=
  (extractSeek_steps c root es fs).frame p hp

/-- **Confinement (streaming).** `extract_confined` for `ZipStreamReader::extract`, for every list of local
entries and of central records. -/
theorem extractStream_confined (c : Cfg) (root : Path) (files : List EntryView)
    (metas : List (Name × Option Nat)) (fs : FS) (p : Path) (hp : ¬ root <+: p) :
    (extractStream c root files metas fs).1.lookup p = fs.lookup p ∨
      (p <+: root ∧ fs.lookup p = none ∧
        ∃ m, (extractStream c root files metas fs).1.lookup p = some (.dir m)) :=
  (extractStream_steps c root files metas fs).frame p hp

/-- When the target directory's ancestors all exist, nothing at all changes outside it. -/
theorem extract_confined_exact (c : Cfg) (root : Path) (es : List EntryView) (fs : FS)
    (hroot : ∀ q, q <+: root → fs.lookup q ≠ none) (p : Path) (hp : ¬ root <+: p) :
    (extractSeek c root es fs).1.lookup p = fs.lookup p := by
  rcases extract_confined c root es fs p hp with h | ⟨h1, h2, _⟩
  · exact h
  · exact absurd h2 (hroot p h1)

theorem extractStream_confined_exact (c : Cfg) (root : Path) (files : List EntryView)
    (metas : List (Name × Option Nat)) (fs : FS)
    (hroot : ∀ q, q <+: root → fs.lookup q ≠ none) (p : Path) (hp : ¬ root <+: p) :
    (extractStream c root files metas fs).1.lookup p = fs.lookup p := by
  rcases extractStream_confined c root files metas fs p hp with h | ⟨h1, h2, _⟩
  · exact h
  · exact absurd h2 (hroot p h1)

/-! ### unsafe names -/

/-- **Unsafe name ⇒ error (seekable).** If any entry's name is rejected by `enclosed_name` — it contains
NUL, is absolute, or climbs above its start (`C06.enclosed_complete`) — the run ends in an error. -/
theorem extract_unsafe_errors (c : Cfg) (root : Path) (es : List EntryView) (fs : FS)
    (h : ∃ e ∈ es, enclosedName e.name = none) : (extractSeek c root es fs).2.isSome = true :=
  extractSeek_unsafe c root es fs h

/-- The first unsafe entry that is reached stops the run with `InvalidArchive("Invalid file path")`;
nothing is done for it or for any later entry.  The modes recorded for the entries BEFORE it are
applied to what the placing of those entries left (`fs1`) — deepest path first, up to the first
`set_permissions` that fails, that failure ignored (best effort) — and nothing else happens: a failed
run does not leave an earlier entry more accessible than recorded (repair `fix: a failed extract
still applies the Unix modes recorded for the entries written so far`; before it no mode was applied:
the result was `(fs1, some .invalidPath)`).  Confinement of such a run: `extract_confined`
(every input, every outcome). -/
theorem extract_unsafe_stops (c : Cfg) (root : Path) (pre post : List EntryView) (e : EntryView)
    (fs fs1 : FS) (hpre : placeFiles c true root pre fs = (fs1, none)) (ho : e.openErr = none)
    (hn : enclosedName e.name = none) :
    extractSeek c root (pre ++ e :: post) fs =
      ((applyModes c root (modeOrder (pre.map fun e => (e.name, e.mode))) fs1).1, some .invalidPath) :=
  extractSeek_unsafe_at c root pre post e fs fs1 hpre ho hn

/-- **A failed run, any failure.** When placing the entries fails — an entry that cannot be opened,
an unsafe name, a filesystem error, a read error such as a checksum mismatch — the result is the
error of the placing, and the filesystem is what the placing left with the modes of the entries
placed completely before the failing one (`placedCount` of them) applied. -/
theorem extract_failed_run (c : Cfg) (root : Path) (es : List EntryView) (fs fs1 : FS) (er : Err)
    (h : placeFiles c true root es fs = (fs1, some er)) :
    extractSeek c root es fs =
      ((applyModes c root
          (modeOrder ((es.take (placedCount c true root es fs)).map fun e => (e.name, e.mode))) fs1).1,
        some er) := by
  unfold extractSeek; rw [h]

/-- **A failed run (streaming).** A failure while the files are placed precedes every central record:
no mode is known and none is applied. -/
theorem extractStream_failed_placing (c : Cfg) (root : Path) (files : List EntryView)
    (metas : List (Name × Option Nat)) (fs fs1 : FS) (er : Err)
    (h : placeFiles c false root files fs = (fs1, some er)) :
    extractStream c root files metas fs = (fs1, some er) := by
  unfold extractStream; rw [h]

/-- When all files are placed and a central record is rejected (`enclosed_name`), the modes of the
central records BEFORE it (`checkedCount` of them) are applied to what the placing left, best effort, and
the error is that of the check (`InvalidArchive("Invalid file path")`). -/
theorem extractStream_failed_central (c : Cfg) (root : Path) (files : List EntryView)
    (metas : List (Name × Option Nat)) (fs fs1 : FS) (er : Err)
    (h : placeFiles c false root files fs = (fs1, none)) (hm : checkMetas metas = some er) :
    extractStream c root files metas fs =
      ((applyModes c root (modeOrder (metas.take (checkedCount metas))) fs1).1, some er) := by
  unfold extractStream; rw [h]
  cases metas with
  | nil => simp [checkMetas] at hm
  | cons m r => simp only [hm]

/-- **Unsafe name ⇒ error (streaming)**: in a local header or in a central record. -/
theorem extractStream_unsafe_errors (c : Cfg) (root : Path) (files : List EntryView)
    (metas : List (Name × Option Nat)) (fs : FS)
    (h : (∃ e ∈ files, enclosedName e.name = none) ∨ (∃ m ∈ metas, enclosedName m.1 = none)) :
    (extractStream c root files metas fs).2.isSome = true :=
  extractStream_unsafe c root files metas fs h

/-! ### faithfulness -/

/-- **Faithful extraction (seekable).** For a consistent archive and a fresh target directory the run
succeeds and the final filesystem is exactly `treeOf`: entry by entry, the directories on the way to
the entry exist, a file entry's path holds exactly its bytes; then the recorded modes are applied. -/
theorem extract_faithful (c : Cfg) (root : Path) (rootMode : Nat) (es : List EntryView) (fs : FS)
    (hf : Fresh c fs root rootMode) (hc : Consistent c rootMode es) :
    extractSeek c root es fs = (treeOf c root es fs, none) :=
  extractSeek_eq (Consistent.permCfg hc) (Consistent.disjoint hc) (Consistent.unlocked hc)
    (fun _ he => Consistent.entryOK hc he) fs (Fresh.inv hf hc) (Fresh.kinds es hf)

/-- **Faithful extraction (streaming).** The archive has at least one entry (the streaming reader
rejects an archive without entries) and the central records repeat the local names.  The result is
the SAME tree as the seekable extractor's. -/
theorem extractStream_faithful (c : Cfg) (root : Path) (rootMode : Nat) (es : List EntryView) (fs : FS)
    (hf : Fresh c fs root rootMode) (hc : Consistent c rootMode es) (hne : es ≠ []) :
    extractStream c root es (es.map fun e => (e.name, e.mode)) fs = (treeOf c root es fs, none) :=
  extractStream_eq (Consistent.permCfg hc) (Consistent.disjoint hc) (Consistent.unlocked hc)
    (fun _ he => Consistent.entryOK hc he) hne fs (Fresh.inv hf hc) (Fresh.kinds es hf)

/-- **Any permission bits.** For names made of ordinary components only (`PlainNames`: no "..", no
final "."), clause 5 of `Consistent` asks nothing of the RECORDED modes: with clauses 1, 2 and 4 (clause 3
speaks of names with a final "." only), a umask whose
defaults keep owner write+search (any sane one) and a target directory the caller may write to, the
archive is consistent whatever the modes are — read-only or unsearchable directories before or after
their contents, read-only files repeated later, mode 000 — also for an unprivileged caller. -/
theorem consistent_of_plain (c : Cfg) (rootMode : Nat) (es : List EntryView)
    (h1 : ∀ e ∈ es, (enclosedName e.name).isSome = true ∧ e.openErr = none ∧ e.readErr = none)
    (h2 : ∀ e ∈ es, isDirName e.name = false → tailDot e.name = false ∧ lastNormal (relComps e.name) = true)
    (h4 : ∀ e1 ∈ es, ∀ e2 ∈ es, ∀ p ∈ (filePath e1).toList, p ∉ dirPaths e2)
    (hd : hasBits c.dirMode 0o300 = true) (hfm : hasBits c.fileMode 0o200 = true)
    (hr : hasBits rootMode 0o300 = true) (hp : PlainNames es) : Consistent c rootMode es :=
  ⟨h1, h2, fun e he _ hdot => absurd hdot (by rw [(hp e he).1]; simp), h4,
    Or.inr ⟨hd, hfm, hr, unlocked_of_plain hp⟩⟩

/-- **Faithful extraction, any permission bits** (`extract_faithful` ∘ `consistent_of_plain`). -/
theorem extract_faithful_any_modes (c : Cfg) (root : Path) (rootMode : Nat) (es : List EntryView) (fs : FS)
    (hf : Fresh c fs root rootMode)
    (h1 : ∀ e ∈ es, (enclosedName e.name).isSome = true ∧ e.openErr = none ∧ e.readErr = none)
    (h2 : ∀ e ∈ es, isDirName e.name = false → tailDot e.name = false ∧ lastNormal (relComps e.name) = true)
    (h4 : ∀ e1 ∈ es, ∀ e2 ∈ es, ∀ p ∈ (filePath e1).toList, p ∉ dirPaths e2)
    (hd : hasBits c.dirMode 0o300 = true) (hfm : hasBits c.fileMode 0o200 = true)
    (hr : hasBits rootMode 0o300 = true) (hp : PlainNames es) :
    extractSeek c root es fs = (treeOf c root es fs, none) ∧
      (es ≠ [] → extractStream c root es (es.map fun e => (e.name, e.mode)) fs = (treeOf c root es fs, none)) :=
  have hc := consistent_of_plain c rootMode es h1 h2 h4 hd hfm hr hp
  ⟨extract_faithful c root rootMode es fs hf hc, extractStream_faithful c root rootMode es fs hf hc⟩

/-- **The extracted tree, read declaratively.** Under the hypotheses of `extract_faithful`, below the
target directory there is afterwards
(a) nothing but what the archive describes: every directory is the target itself or a directory on
    the way to (or named by) some entry, every regular file is the path of some file entry;
(b) every directory on the way to, or named by, any entry;
(c) at the path of an entry that no later entry denotes again (last duplicate wins): a directory,
    resp. a regular file holding exactly the entry's bytes, with the entry's recorded mode (low twelve
    bits) when it has one. -/
theorem extract_tree (c : Cfg) (root : Path) (rootMode : Nat) (es : List EntryView) (fs : FS)
    (hf : Fresh c fs root rootMode) (hc : Consistent c rootMode es) :
    (∀ r n, (extractSeek c root es fs).1.lookup (root ++ r) = some n →
      match n with
      | .dir _ => r = [] ∨ ∃ e ∈ es, r ∈ dirPaths e
      | .file _ _ => ∃ e ∈ es, filePath e = some r) ∧
    (∀ e ∈ es, ∀ r ∈ dirPaths e, ∃ m, (extractSeek c root es fs).1.lookup (root ++ r) = some (.dir m)) ∧
    (∀ pre e post, es = pre ++ e :: post → (∀ e' ∈ post, target e' ≠ target e) →
      ∃ n, (extractSeek c root es fs).1.lookup (root ++ target e) = some n ∧ NodeIs e n) := by
  rw [extract_faithful c root rootMode es fs hf hc]
  have hpc := Consistent.permCfg hc
  have hDF := Consistent.disjoint hc
  have hall : ∀ e ∈ es, EntryOK c es e := fun _ he => Consistent.entryOK hc he
  have hi := Fresh.inv hf hc
  have hk := Fresh.kinds es hf
  obtain ⟨h1, h2⟩ := treeOf_kinds_dirs hpc hDF hall fs hi hk
  refine ⟨h1, h2, ?_⟩
  intro pre e post hes hlast
  subst hes
  exact treeOf_last hpc hDF pre post e hall fs hi hk hlast

/-- The streaming extractor leaves the same tree (`extractStream_faithful`), so `extract_tree` reads
for it word for word. -/
theorem extractStream_tree (c : Cfg) (root : Path) (rootMode : Nat) (es : List EntryView) (fs : FS)
    (hf : Fresh c fs root rootMode) (hc : Consistent c rootMode es) (hne : es ≠ []) :
    (extractStream c root es (es.map fun e => (e.name, e.mode)) fs).1 = (extractSeek c root es fs).1 := by
  rw [extractStream_faithful c root rootMode es fs hf hc hne, extract_faithful c root rootMode es fs hf hc]

private def cfg : Cfg := { dirMode := 0o755, fileMode := 0o644, priv := false }
private def root0 : Path := ["t".toList]
private def fs0 : FS := ⟨[(root0, .dir 0o755), ([], .dir 0o755), (["etc".toList], .dir 0o755)]⟩

/-- a 3-entry tree: a directory with a mode, a file below it with a mode, a file without a mode -/
private def tree3 : List EntryView :=
  [ { name := "a/".toList, mode := some 0o40750 },
    { name := "a/b.txt".toList, data := [104, 105], mode := some 0o100600 },
    { name := "c".toList, data := [120] } ]

example : Fresh cfg fs0 root0 0o755 := by
  refine ⟨rfl, by decide, ?_⟩
  intro r hr
  cases r with
  | nil => exact absurd rfl hr
  | cons a r => simp [fs0, root0, FS.lookup, List.lookup]

example : Consistent cfg 0o755 tree3 := by decide +kernel

-- the run succeeds …
example : (extractSeek cfg root0 tree3 fs0).2 = none := by decide +kernel
-- … and leaves exactly: t/a (0o750), t/a/b.txt = "hi" (0o600), t/c = "x" (default 0o644)
example : (extractSeek cfg root0 tree3 fs0).1.lookup ["t".toList, "a".toList] = some (.dir 0o750) := by decide +kernel
example : (extractSeek cfg root0 tree3 fs0).1.lookup ["t".toList, "a".toList, "b.txt".toList]
    = some (.file [104, 105] 0o600) := by decide +kernel
example : (extractSeek cfg root0 tree3 fs0).1.lookup ["t".toList, "c".toList] = some (.file [120] 0o644) := by
  decide +kernel
example : (extractStream cfg root0 tree3 (tree3.map fun e => (e.name, e.mode)) fs0).2 = none := by decide +kernel
example : (extractStream cfg root0 tree3 (tree3.map fun e => (e.name, e.mode)) fs0).1.lookup
    ["t".toList, "a".toList, "b.txt".toList] = some (.file [104, 105] 0o600) := by decide +kernel

-- an unsafe name after a good entry: error, the good entry stays, /etc untouched
private def hostile : List EntryView :=
  [ { name := "ok".toList, data := [1] }, { name := "../etc/passwd".toList, data := [2] },
    { name := "never".toList } ]

example : ∃ e ∈ hostile, enclosedName e.name = none :=
  ⟨_, .tail _ (.head _), by decide +kernel⟩
example : (extractSeek cfg root0 hostile fs0).2 = some .invalidPath := by decide +kernel
example : (extractSeek cfg root0 hostile fs0).1.lookup ["t".toList, "ok".toList] = some (.file [1] 0o644) := by
  decide +kernel
example : (extractSeek cfg root0 hostile fs0).1.lookup ["etc".toList, "passwd".toList] = none := by decide +kernel
example : (extractSeek cfg root0 hostile fs0).1.lookup ["t".toList, "never".toList] = none := by decide +kernel
example : (extractSeek cfg root0 [{ name := "/etc/passwd".toList }] fs0).2 = some .invalidPath := by decide +kernel

/-- a restrictive entry followed by one that fails (checksum mismatch / unsafe name): the run fails and
the first entry has its recorded mode (it was left at 0o644 between the two repairs of `extract`) -/
private def secretThenBad : List EntryView :=
  [{ name := "secret".toList, data := [1], mode := some 0o100600 },
   { name := "bad".toList, data := [2], readErr := some .ioOther, mode := some 0o100644 }]
example : (extractSeek cfg root0 secretThenBad fs0).2 = some (.src .ioOther) := by decide +kernel
example : (extractSeek cfg root0 secretThenBad fs0).1.lookup ["t".toList, "secret".toList]
    = some (.file [1] 0o600) := by decide +kernel
example : (extractSeek cfg root0 secretThenBad fs0).1.lookup ["t".toList, "bad".toList]
    = some (.file [2] 0o644) := by decide +kernel
example : (extractSeek cfg root0 [{ name := "secret".toList, data := [1], mode := some 0o100600 },
    { name := "../x".toList }] fs0).1.lookup ["t".toList, "secret".toList] = some (.file [1] 0o600) := by decide +kernel
/-- streaming: both files are written, the second central record carries an unsafe name -/
example : (extractStream cfg root0 [{ name := "secret".toList, data := [1] }, { name := "fine".toList, data := [2] }]
      [("secret".toList, some 0o100600), ("../x".toList, some 0o100644)] fs0).2 = some .invalidPath := by decide +kernel
example : (extractStream cfg root0 [{ name := "secret".toList, data := [1] }, { name := "fine".toList, data := [2] }]
      [("secret".toList, some 0o100600), ("../x".toList, some 0o100644)] fs0).1.lookup
        ["t".toList, "secret".toList] = some (.file [1] 0o600) := by decide +kernel

-- "a/../b" is accepted by `enclosed_name`; the kernel needs `a` to exist for the walk, so
-- `create_dir_all("t/a/..")` creates it: the tree has BOTH `a` and `b`
example : Consistent cfg 0o755 [{ name := "a/../b".toList, data := [7] }] := by decide +kernel
example : (extractSeek cfg root0 [{ name := "a/../b".toList, data := [7] }] fs0).1.lookup
    ["t".toList, "a".toList] = some (.dir 0o755) := by decide +kernel
example : (extractSeek cfg root0 [{ name := "a/../b".toList, data := [7] }] fs0).1.lookup
    ["t".toList, "b".toList] = some (.file [7] 0o644) := by decide +kernel

/-- Clause 3 of `Consistent` is needed: the safe name "a/./" alone makes `create_dir_all` fail with
ENOENT (`mkdir("t/a/.")` → ENOENT, `Path::parent` = "t", which exists, `mkdir("t/a/.")` → ENOENT). -/
theorem create_dir_all_dot_fails :
    (enclosedName "a/./".toList).isSome = true ∧
    (extractSeek cfg root0 [{ name := "a/./".toList }] fs0).2 = some (.fs .notFound) := by decide +kernel

-- clause 4 is needed: a file and a directory at the same path
example : (extractSeek cfg root0 [{ name := "x".toList }, { name := "x/y".toList }] fs0).2
    = some (.fs .notADirectory) := by decide +kernel
/-! #### any permission bits, unprivileged caller (F2: these failed before the repair of the crate) -/

-- a read-only directory listed BEFORE the file inside it
private def roDir : List EntryView :=
  [{ name := "d/".toList, mode := some 0o40555 }, { name := "d/f".toList, data := [120] }]
-- a read-only file, then the same name again
private def roDup : List EntryView :=
  [{ name := "f".toList, data := [1], mode := some 0o100444 }, { name := "f".toList, data := [2] }]
-- an unsearchable directory before its contents, which carry modes; nested; the top repeated
private def locked : List EntryView :=
  [{ name := "a/".toList, mode := some 0o40000 }, { name := "a/b/".toList, mode := some 0o40700 },
   { name := "a/b/c".toList, data := [122], mode := some 0o100000 }, { name := "a/".toList, mode := some 0o40111 }]

example : PlainNames roDir ∧ PlainNames roDup ∧ PlainNames locked := by decide +kernel
example : Consistent cfg 0o755 roDir ∧ Consistent cfg 0o755 roDup ∧ Consistent cfg 0o755 locked := by decide +kernel
example : (extractSeek cfg root0 roDir fs0).2 = none := by decide +kernel
example : (extractSeek cfg root0 roDir fs0).1.lookup ["t".toList, "d".toList] = some (.dir 0o555) := by decide +kernel
example : (extractSeek cfg root0 roDir fs0).1.lookup ["t".toList, "d".toList, "f".toList]
    = some (.file [120] 0o644) := by decide +kernel
example : (extractSeek cfg root0 roDup fs0).2 = none := by decide +kernel
example : (extractSeek cfg root0 roDup fs0).1.lookup ["t".toList, "f".toList] = some (.file [2] 0o444) := by decide +kernel
example : (extractSeek cfg root0 locked fs0).2 = none := by decide +kernel
example : (extractSeek cfg root0 locked fs0).1.lookup ["t".toList, "a".toList] = some (.dir 0o111) := by decide +kernel
example : (extractSeek cfg root0 locked fs0).1.lookup ["t".toList, "a".toList, "b".toList, "c".toList]
    = some (.file [122] 0) := by decide +kernel
example : (extractStream cfg root0 locked (locked.map fun e => (e.name, e.mode)) fs0).2 = none := by decide +kernel

/-- Clause 5 (`Unlocked`) is needed for names with ".." or a final ".", whatever the order of
application: `chmod` takes a path, and these two paths are each walked through the other's directory. -/
theorem chmod_by_path_lockout :
    (extractSeek cfg root0 [{ name := "a/../b/".toList, mode := some 0o40000 },
      { name := "b/../a/".toList, mode := some 0o40000 }] fs0).2 = some (.fs .permissionDenied) ∧
    (extractSeek cfg root0 [{ name := "b/../a/".toList, mode := some 0o40000 },
      { name := "a/../b/".toList, mode := some 0o40000 }] fs0).2 = some (.fs .permissionDenied) := by decide +kernel

-- clause 5 again: "./" with mode 000 followed by "./" again fails, looking up "." needs search permission
example : (extractSeek cfg root0 [{ name := "./".toList, mode := some 0o40000 },
    { name := "./".toList, mode := some 0o40755 }] fs0).2 = some (.fs .permissionDenied) := by decide +kernel
-- the superuser is never locked out
example : Consistent { cfg with priv := true } 0o755 [{ name := "a/../b/".toList, mode := some 0o40000 },
    { name := "b/../a/".toList, mode := some 0o40000 }] := by decide +kernel

end ZipVerif.Props.C07
