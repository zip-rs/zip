import ZipVerif.Lemmas.AppendClosed
import ZipVerif.Props.C03
/-
C13 — Appending to an existing archive: the OPENING half.  (The other half — what the appended calls and
`finish` then leave in the sink, and how it reads back — is `Props/C13Layout.lean`; the D20 defect and its
test vectors are `Props/C13LayoutZ.lean`; `Props/C13Base.lean` has, on the writer model alone, the guard
that keeps the old local headers from being re-patched.)

What `ZipWriter::new_append` (`Model.newAppend`) returns on the bytes of a well-formed archive from any
producer (`Spec.Zip.build l`, as in C03), and that the state it returns is the base shape of the
"writer emits a layout" invariant (`Lemmas/WLDefs.lean`): the re-hydrated records are `WL.Closed` for
explicitly NORMALISED spec entries (`WL.appendNorm`), which say exactly what the rewritten central
directory will contain.  Proofs: `Lemmas/AppendOpen.lean`, `Lemmas/AppendClosed.lean`.
-/

namespace ZipVerif.Props.C13
open ZipVerif ZipVerif.Model ZipVerif.Spec.Zip ZipVerif.WL

/-! ## What `new_append` returns -/

/-- For every layout that `reader_on_wf` (C03) covers: `new_append` returns
the writer state `{ init with files := (viewOf l).map appendRecord, comment := l.comment, writing_raw := true }`; the sink
still holds the archive and is positioned on the first byte of the OLD central directory
(`l.pre.length + l.cdOffset`), which the appending writer overwrites.  The unconditional disk-number
check and the D16 check `directory_start > cde_start` pass on a layout.

`hN` (the A6 repair makes `new_append` refuse every other archive; before it the writer returned for
such an archive could only produce a corrupt one): every DECODED name still fits the 16-bit name length
field.  It follows from `Fits` for every name that decodes to itself (`appendNameFits_of_clean`);
when it fails `new_append` refuses the archive: `newAppend_refuses_long_name`. -/
theorem newAppend_on_layout (l : Layout) (hF : l.Fits) (hN : ∀ e ∈ l.entries, AppendNameFits e)
    (hR : l.Readable) (hS : Spec.Zip.NoFalseSig l)
    (ht : l.trailing = [] ∨ l.needs64 = false) :
    ∃ d', newAppend.runPure (Dev.ofBytes (build l)) =
        (.ok { WState.init with files := (viewOf l).map appendRecord, comment := l.comment,
                                writingRaw := true }, d') ∧
      d'.buf = build l ∧ d'.pos = l.cdStart :=
  Model.newAppend_on_layout l hF hN hR hS ht

/-- A6 repair: on the bytes of a layout that otherwise opens (`Fits`, `ReadableZ`, `NoFalseSig`) and one of
whose entries has a name that DECODES (CP437 → UTF-8, or ill-formed flagged UTF-8 → U+FFFD) to more than
65535 bytes,
`new_append` returns `UnsupportedArchive` and the sink still holds exactly the old archive.  Before the
repair it returned a writer; `finish()` then wrote `name.len() as u16` into the rewritten central record,
followed by the whole name, and reported success for an archive that no longer opens (witness: one entry
named 21846 × 0xB0, corpus/append.ops). -/
theorem newAppend_refuses_long_name (l : Layout) (hF : l.Fits) (hR : l.ReadableZ)
    (hS : Spec.Zip.NoFalseSig l) (ht : l.trailing = [] ∨ l.needs64 = false)
    (hbad : ∃ e ∈ l.entries, ¬ AppendNameFits e) :
    ∃ d', newAppend.runPure (Dev.ofBytes (build l)) = (.err .unsupportedArchive, d') ∧
      d'.buf = build l :=
  Model.newAppend_refuses_long_name l hF hR hS ht hbad

/-- A name that decodes to itself is never refused. -/
theorem appendNameFits_of_clean (e : Entry) (hf : e.Fits) (hc : AppendClean e) : AppendNameFits e :=
  WL.appendNameFits_of_clean e hf hc

/-- CP437 0xB0 ('░', U+2591) needs three UTF-8 bytes. -/
theorem mapToChar_b0 : ∀ n : Nat, ∃ cs : List Char, Model.mapToChar (List.replicate n 0xB0) = .ok cs ∧
    (Spec.utf8Encode cs).length = 3 * n
  | 0 => ⟨[], rfl, rfl⟩
  | n + 1 => by
    obtain ⟨cs, h1, h2⟩ := mapToChar_b0 n
    have hc : Model.toChar 0xB0 = .ok (Char.ofNat 0x2591) := by rfl
    refine ⟨Char.ofNat 0x2591 :: cs, ?_, ?_⟩
    · rw [List.replicate_succ]
      unfold Model.mapToChar
      rw [hc, h1]
    · show (Spec.utf8EncodeChar (Char.ofNat 0x2591) ++ Spec.utf8Encode cs).length = _
      rw [List.length_append, h2]
      have : (Spec.utf8EncodeChar (Char.ofNat 0x2591)).length = 3 := by decide
      omega

theorem decode_b0_length (n : Nat) :
    (Text.decodeToUtf8 false (List.replicate (n + 1) 0xB0)).length = 3 * (n + 1) := by
  obtain ⟨cs, h1, h2⟩ := mapToChar_b0 (n + 1)
  unfold Text.decodeToUtf8 Model.decodeName Model.fromCp437
  have ha : Model.allAscii (List.replicate (n + 1) 0xB0) = false := by
    rw [List.replicate_succ]; rfl
  simp only [ha, Bool.false_eq_true, if_false, h1]
  exact h2

/-- Non-vacuity of `hbad`, and the boundary: an unflagged name of 21846 bytes 0xB0 (a length `Fits` allows:
21846 ≤ 65535) decodes to 65538 bytes, one of 21845 bytes decodes to exactly 65535 bytes and is accepted. -/
theorem long_cp437_name_not_rewritable (e : Entry) (hfl : e.flagsOut &&& 0x0800 = 0) :
    ¬ AppendNameFits { e with name := List.replicate 21846 0xB0 } ∧
    (e.name = List.replicate 21845 0xB0 → AppendNameFits e) := by
  constructor
  · unfold AppendNameFits
    have hf : ({ e with name := List.replicate 21846 0xB0 } : Entry).flagsOut = e.flagsOut := rfl
    rw [hf, hfl]
    show ¬ (Text.decodeToUtf8 false (List.replicate (21845 + 1) 0xB0)).length ≤ 65535
    rw [decode_b0_length]; omega
  · intro hn
    unfold AppendNameFits
    rw [hfl, hn]
    show (Text.decodeToUtf8 false (List.replicate (21844 + 1) 0xB0)).length ≤ 65535
    rw [decode_b0_length]; omega

open ZipVerif.Props.C03 (exA) in
example : exA.flagsOut &&& 0x0800 = 0 := by decide

/-- What `appendRecord` (the D20 repair) does to a re-hydrated record: only the extra field changes — the
inherited ZIP64 records are dropped; when the foreign extra data are `ExtraOk` exactly they remain. -/
theorem appendRecord_view (e : Entry) (off pre chs : Nat) :
    appendRecord (viewEntry e off pre chs) =
      { viewEntry e off pre chs with extraField := e.keptExtra (UInt64.ofNat off) } ∧
    (ExtraOk e.centralExtra → e.keptExtra (UInt64.ofNat off) = e.centralExtra) :=
  ⟨rfl, keptExtra_of_extraOk e _⟩

/-- The live part of the sink (what lies in front of the position) after `new_append`. -/
theorem newAppend_live (l : Layout) :
    (build l).take l.cdStart = l.pre ++ localsBytes l.entries ++ l.gapBeforeCd :=
  take_cdStart l

/-! ## The bridge: re-hydrated records are `Closed` for the normalised entries -/

/-- What the normalised entry records, field by field (`v` = the re-hydrated record). -/
theorem appendNorm_fields (e : Entry) (off pre : Nat) :
    let v := viewEntry e off pre 0
    let n := appendNorm e off pre
    n.madeBy = ((System.fromU8 (e.madeBy >>> 8).toUInt8).discr <<< 8) ||| e.madeBy.toUInt8.toUInt16 ∧
    n.versionNeeded = v.versionNeeded ∧ n.flags = centralFlagOf v ∧ n.flagsOut = centralFlagOf v ∧
    centralFlagOf v = (((if !isAscii v.fileName then (0x0800 : UInt16) else 0) |||
      (if e.flagsOut &&& 1 == 1 then 1 else 0)) ||| (if e.flagsOut &&& 0x0008 != 0 then 8 else 0)) ∧
    n.method = e.method ∧ n.time = e.time ∧ n.date = e.date ∧ n.crc = e.crc ∧ n.usize = e.usize ∧
    n.csize = e.csize ∧ n.name = Text.decodeToUtf8 (e.flagsOut &&& 0x0800 != 0) e.name ∧
    n.centralExtra = e.keptExtra (UInt64.ofNat off) ∧
    n.comment = [] ∧ n.internalAttrs = 0 ∧ n.externalAttrs = e.externalAttrs ∧
    n.z64 = (false, false, false) ∧ n.desc = e.desc ∧
    n.localExtra = e.localExtra ∧ n.localZip64 = e.localZip64 ∧ n.gapBefore = e.gapBefore ∧
    n.data = e.data ∧ n.localVersion = some (e.localVersion.getD e.versionNeeded) :=
  ⟨rfl, rfl, rfl, appendNorm_flagsOut e off pre 0, rfl, rfl, rfl, rfl, rfl, rfl, rfl, rfl, rfl, rfl, rfl,
    rfl, rfl, rfl, rfl, rfl, rfl, rfl, rfl⟩

/-- The method and the DOS stamp the writer re-emits are the old ones: `from_u16`/`to_u16` and
`from_msdos`/`datepart`,`timepart` round-trip on EVERY value (C18 `dos_unpack_pack`), so `appendNorm`
keeps `e.method`, `e.time`, `e.date` verbatim. -/
theorem appendNorm_method_time (e : Entry) (off pre chs : Nat) :
    let v := viewEntry e off pre chs
    v.method.toU16 = e.method ∧ v.time.timepart = e.time ∧ v.time.datepart = some e.date :=
  ⟨method_roundtrip e.method, (DateTime.fromMsdos_parts e.date e.time).2, (DateTime.fromMsdos_parts e.date e.time).1⟩

/-- The record `new_append` holds for entry `e` (local header `off` bytes behind a
prefix of `pre` bytes) serialises, through `write_central_directory_header`, to the spec's central
record of `appendNorm e off pre` at the absolute offset `off + pre`.  The only side condition is that
the new ZIP64 record plus the kept old extra field fit the 16-bit length field. -/
theorem view_closed (e : Entry) (off pre chs : Nat) (hfit : AppendFits e off pre) :
    Closed (appendNorm e off pre) (off + pre) (appendRecord (viewEntry e off pre chs)) :=
  WL.view_closed e off pre chs hfit

/-- Since D20 `AppendFits` holds for every entry that `Fits` and is `Readable`. -/
theorem appendFits_of_fits_readable (e : Entry) (off pre : Nat) (hf : e.Fits) (hr : e.Readable) :
    AppendFits e off pre := WL.appendFits_of_fits_readable e off pre hf hr

/-- `AppendFits` holds when the foreign extra data leave room for two ZIP64 records. -/
theorem appendFits_of_small (e : Entry) (off pre : Nat) (h : e.centralExtra.length + 56 ≤ 0xFFFF) :
    AppendFits e off pre := WL.appendFits_of_small e off pre h

/-- **The local record survives** under `AppendClean` (the name decodes to itself, the flag word
is what the writer recomputes — bit 11 iff the name is not ASCII; bit 0 and bit 3 kept; nothing else):
the normalised entry — whose central record is what the writer emits — has the OLD local bytes,
data descriptor included. -/
theorem appendNorm_localBytes (e : Entry) (off pre : Nat) (h : AppendClean e) :
    (appendNorm e off pre).localBytes = e.localBytes := WL.appendNorm_localBytes e off pre h

/-- A sufficient condition for the name clause of `AppendClean`: ASCII, or flagged UTF-8 and well formed. -/
theorem name_stable (utf8 : Bool) (name : Bytes)
    (h : isAscii name = true ∨ (utf8 = true ∧ (Spec.utf8Strict name).isSome = true)) :
    Text.decodeToUtf8 utf8 name = name := decode_stable utf8 name h

/-- **Entries the crate's own writer produced are `AppendClean`** (their name is a Rust `String`). -/
theorem writer_entries_clean (f : FileData) (dp : UInt16) (gap lx data : Bytes) (lv : UInt16)
    (hs : (Spec.utf8Strict f.fileName).isSome = true) :
    AppendClean (specEntry f dp gap lx data lv) := specEntry_appendClean f dp gap lx data lv hs

/-- **Entries the crate's own writer produced are EXACT fixed points of `appendNorm`** (since D20): write → append → append … re-emits the
same central record each time; the inherited ZIP64 record is dropped and regenerated, the extra field does
not grow.  (`hm`: the method is not an `Unsupported(v)` with `v` one of the known codes — true of every
value the reader produces; `hx`: the record's own extra data carry no ZIP64 / AES record.) -/
theorem writer_entries_fixed (f : FileData) (dp : UInt16) (gap lx data : Bytes) (lv : UInt16) (off : Nat)
    (hs : (Spec.utf8Strict f.fileName).isSome = true)
    (hm : Method.fromU16 f.method.toU16 = f.method)
    (hcs : f.compressedSize = UInt64.ofNat data.length)
    (hoff : f.headerStart = UInt64.ofNat off) (hx : ExtraOk f.extraField) :
    appendNorm (specEntry f dp gap lx data lv) off 0 = specEntry f dp gap lx data lv :=
  appendNorm_specEntry f dp gap lx data lv off hs hm hcs hoff hx

/-! ## The whole directory -/

/-- The re-hydrated records are `ClosedAll`, from offset 0, for the normalised
entries of the prefix-less archive the appending writer continues (`appendNormAll l`: the old prefix
becomes dead bytes in front of the first local header). -/
theorem viewOf_closedAll (l : Layout)
    (hall : ∀ e ∈ l.entries, AppendClean e ∧ e.centralExtra.length + 56 ≤ 0xFFFF) :
    ClosedAll (appendNormAll l) 0 ((viewOf l).map appendRecord) := WL.viewOf_closedAll l hall

/-- The local part of the normalised entries `appendNormAll l`, followed by the dead bytes `appendGap l`, is
what the sink holds in front of the old central directory. -/
theorem appendNormAll_bytes (l : Layout) (hall : ∀ e ∈ l.entries, AppendClean e) :
    localsBytes (appendNormAll l) ++ appendGap l = (build l).take l.cdStart := by
  rw [take_cdStart]; exact WL.appendNormAll_bytes l hall

/-- The state `new_append` returns on a layout, as the raw ingredients of the `.idle` case of the writer
invariant `Lay` (what `lay_idle_intro`, `Lemmas/WLRun.lean`, asks for). -/
theorem append_open_is_base_state (l : Layout) (hF : l.Fits) (hR : l.Readable) (hS : Spec.Zip.NoFalseSig l)
    (ht : l.trailing = [] ∨ l.needs64 = false)
    (hall : ∀ e ∈ l.entries, AppendClean e ∧ e.centralExtra.length + 56 ≤ 0xFFFF) :
    ∃ s d, newAppend.runPure (Dev.ofBytes (build l)) = (.ok s, d) ∧
      d.buf = build l ∧ d.pos = l.cdStart ∧
      d.buf.take d.pos = localsBytes (appendNormAll l) ++ appendGap l ∧
      ClosedAll (appendNormAll l) 0 s.files ∧
      s.files = (viewOf l).map appendRecord ∧ s.comment = l.comment ∧
      s.inner = .storer none ∧ s.writingToFile = false ∧ s.writingToExtraField = false ∧
      s.centralOnly = false ∧ (s.files = [] ∨ s.writingRaw = true) :=
  WL.append_open_is_base_state l hF hR hS ht hall

/-- **The continued archive is again one that C03 reads** (since D20, ZIP64 or not): the normalised entry
of an `AppendClean`, `Readable` entry that `Fits` again `Fits` and is `Readable`. -/
theorem appendNorm_again_wf (e : Entry) (off pre : Nat) (hf : e.Fits) (hr : e.Readable)
    (hc : AppendClean e) :
    (appendNorm e off pre).Fits ∧ (appendNorm e off pre).Readable :=
  ⟨appendNorm_fits e off pre hf hc hr, appendNorm_readable e off pre hr⟩

/-! ## Non-vacuity and findings (kernel evaluation) -/

open ZipVerif.Props.C03 (exA exB exL)

/-- `new_append` on the 251-byte archive `build exL` (5-byte prefix, two entries, comment "hi") really
evaluates to the stated state and position.  Header offsets `[5, 48]`: `exA`'s local header starts
behind the prefix, `exB`'s behind `exA`'s 40 local bytes (35 of header, 5 of data) and its own 3 junk bytes. -/
example :
    (match newAppend.runPure (Dev.ofBytes (build exL)) with
     | (.ok s, d) => s.files == (viewOf exL).map appendRecord && s.comment == [0x68, 0x69] && s.writingRaw &&
        s.files.map (·.extraField) == [exA.centralExtra, exB.centralExtra] &&
        s.inner == .storer none && !s.writingToFile && !s.writingToExtraField && !s.centralOnly &&
        d.buf == build exL && d.pos == exL.cdStart && d.pos == 5 + exL.cdOffset &&
        s.files.map (·.headerStart) == [5, 48]
     | _ => false) = true := by decide +kernel

/-- `exA` satisfies the hypotheses of `view_closed` and `viewOf_closedAll`. -/
example : AppendClean exA ∧ AppendFits exA 0 5 ∧ exA.centralExtra.length + 56 ≤ 0xFFFF := by decide +kernel

/-- The bridge on the concrete entry, evaluated: the writer's central header for the re-hydrated `exA`
IS the spec's central record of the normalised entry at offset 0 + 5, and the local bytes are kept.
(The last argument of `viewEntry`, 107 here and 158 for the second entry below, is the file position of the
entry's old central record in `build exL`; the emitted record does not depend on it.) -/
example :
    (match centralHeaderChunks (appendRecord (viewEntry exA 0 5 107)) with
     | .ok cs => ser cs == centralRecord (appendNorm exA 0 5) 5
     | _ => false) = true ∧
    (appendNorm exA 0 5).localBytes = exA.localBytes := by decide +kernel

/-- `exB` (streamed: data descriptor with zeroed local CRC/sizes, 3 junk bytes before its header, DOS host,
ZIP64 record in the central header) with an honest flag word (no UTF-8 bit on its ASCII name). -/
def exBd : Entry := { exB with flags := 0 }

/-- **A data-descriptor entry stays consistent.**  `exBd` is `AppendClean`; the rewritten central record
keeps bit 3 (`0x0008`), exactly the flag word of its untouched local header, and the normalised entry has
the old local bytes (descriptor included).  The entry comment and the internal attributes are dropped
from the central record.  (43 = offset of its local header behind the prefix, 48 = 43 + 5 the absolute one.) -/
example :
    AppendClean exBd ∧ exBd.hasDesc = true ∧ exBd.flagsOut = 0x0008 ∧
    (appendNorm exBd 43 5).flagsOut = 0x0008 ∧
    (appendNorm exBd 43 5).localBytes = exBd.localBytes ∧
    (appendNorm exBd 43 5).comment = [] ∧ exBd.comment = [0x63] ∧
    (appendNorm exBd 43 5).internalAttrs = 0 ∧ exBd.internalAttrs = 1 ∧
    (match centralHeaderChunks (appendRecord (viewEntry exBd 43 5 158)) with
     | .ok cs => ser cs == centralRecord (appendNorm exBd 43 5) 48 &&
        ((ser cs).drop 8).take 2 == [0x08, 0x00]
     | _ => false) = true ∧
    ((localRecord exBd).drop 6).take 2 = [0x08, 0x00] := by decide +kernel

/-- **Finding (UTF-8 flag on an ASCII name).**  `exB` itself sets bit 11 although its name "b" is ASCII
(legal, and common).  The writer recomputes bit 11 from the decoded name: the rewritten central record
has flags 0x0008 while the untouched local header keeps 0x0808 — the two records of the entry disagree
after append + finish.  `exB` is not `AppendClean`. -/
example :
    ¬ AppendClean exB ∧ exB.flagsOut = 0x0808 ∧ (appendNorm exB 43 5).flagsOut = 0x0008 ∧
    (match centralHeaderChunks (appendRecord (viewEntry exB 43 5 158)) with
     | .ok cs => ser cs == centralRecord (appendNorm exB 43 5) 48 &&
        ((ser cs).drop 8).take 2 == [0x08, 0x00]
     | _ => false) = true ∧
    ((localRecord exB).drop 6).take 2 = [0x08, 0x08] := by decide +kernel

/-- **D20 regression (ZIP64 record no longer duplicated).**  `exB`'s old central header carries a ZIP64
record (compressed size forced through it).  `new_append` drops it: the rewritten central extra field
is exactly the foreign records, and the normalised entry is `Readable` in the sense of C03 again.  (Before
the repair the old record was kept and a new one put in front on every round — see
`C13LayoutZ.d20_pre_fix_witness`.) -/
example :
    (appendNorm exB 43 5).centralExtra = exB.centralExtra ∧ (appendNorm exB 43 5).Readable := by
  decide +kernel

/-- A host other than DOS/Unix is renumbered to 4, the low byte is kept. -/
example : (appendNorm { exA with madeBy := 0x0a3f } 0 0).madeBy = 0x043f ∧
    (appendNorm { exA with madeBy := 0x033f } 0 0).madeBy = 0x033f ∧
    (appendNorm { exA with madeBy := 0x0014 } 0 0).madeBy = 0x0014 := by decide +kernel

/-- "version needed" is recomputed, not kept (45 in the old record of a plain stored entry becomes 20);
general-purpose bits other than 0, 3 and 11 (here bits 1-2, a deflate option) are dropped — such an entry is
not `AppendClean`. -/
example : (appendNorm { exA with versionNeeded := 45 } 0 0).versionNeeded = 20 ∧
    (appendNorm { exA with flags := 0x0006 } 0 0).flags = 0 ∧
    ¬ AppendClean { exA with flags := 0x0006 } := by decide +kernel

/-- A CP437 name (0x81 = 'ü') is transcoded: the rewritten central record has the UTF-8 name (2 bytes)
with bit 11 set, the local header keeps the 1-byte CP437 name — not `AppendClean`, and the local
record's LENGTH changes, so not even the offsets of later entries survive in `appendNorm`'s terms. -/
example :
    let e : Entry := { exA with name := [0x81] }
    (appendNorm e 0 0).name = [0xc3, 0xbc] ∧ (appendNorm e 0 0).flags = 0x0800 ∧ ¬ AppendClean e ∧
    (appendNorm e 0 0).localBytes.length = e.localBytes.length + 1 := by decide +kernel

/-- **K-A2 (known finding), kernel-checked counterexample to "the rewritten central record and the untouched
local header of an old entry agree"**: one entry with the unflagged CP437 name `[0x81]`.  The central
record the writer emits for the re-hydrated record IS the spec's central record of the normalised entry
(so the model says exactly what the code writes), that record names the entry `[0xc3, 0xbc]` with bit 11
set, while the local header — which `new_append` never touches — still carries `[0x81]` with flags 0.
What holds instead: `C13Layout.old_names_kept` (`old_names_kept_partial`) under `AppendClean`. -/
theorem ka2_names_disagree_witness :
    let e : Entry := { exA with name := [0x81] }
    (match centralHeaderChunks (appendRecord (viewEntry e 0 0 0)) with
     | .ok cs => ser cs == centralRecord (appendNorm e 0 0) 0 &&
        ((ser cs).drop 8).take 2 == [0x00, 0x08] && ((ser cs).drop 46).take 2 == [0xc3, 0xbc]
     | _ => false) = true ∧
    ((localRecord e).drop 6).take 2 = [0x00, 0x00] ∧ ((localRecord e).drop 30).take 1 = [0x81] ∧
    ¬ AppendClean e ∧ e.Fits ∧ e.Readable ∧ AppendNameFits e := by decide +kernel

/-- A layout all of whose entries are `AppendClean`, satisfying every hypothesis of
`append_open_is_base_state`; the conclusion evaluated. -/
def exLc : Layout :=
  { exL with entries := [exA, { exA with name := [0xc3, 0xbc], flags := 0x0800, gapBefore := [7, 7] }, exBd] }

example : exLc.Fits ∧ exLc.Readable ∧ Spec.Zip.NoFalseSig exLc ∧ exLc.needs64 = false ∧
    (∀ e ∈ exLc.entries, AppendClean e ∧ e.centralExtra.length + 56 ≤ 0xFFFF) ∧
    (∀ e ∈ exLc.entries, AppendNameFits e) := by decide +kernel

example :
    localsBytes (appendNormAll exLc) ++ appendGap exLc = (build exLc).take exLc.cdStart ∧
    (appendNormAll exLc).map (·.gapBefore) = [[0x23, 0x21, 0x2f, 0x62, 0x0a], [7, 7], [0xde, 0xad, 0xbe]] ∧
    localOffsets (appendNormAll exLc) 0 = (viewOf exLc).map (·.headerStart.toNat) := by decide +kernel

def bigPayload : Bytes := List.replicate 65503 0
theorem bigPayload_length : bigPayload.length = 65503 := List.length_replicate

/-- An entry whose central header has all three ZIP64 fields forced (a 28-byte record) and whose uncompressed
size really is ≥ 0xFFFFFFFF, with 65507 bytes of foreign extra data: 65507 + 28 = 65535. -/
def exBig : Entry :=
  { exA with usize := 0xFFFFFFFF, z64 := (true, true, true),
             centralExtra := le16 0xcafe ++ le16 65503 ++ bigPayload }

theorem exBig_len : exBig.centralExtra.length = 65507 := by
  show (le16 0xcafe ++ le16 65503 ++ bigPayload).length = 65507
  simp only [List.length_append, le16_length, bigPayload_length]

theorem exBig_fits : exBig.Fits := by
  refine ⟨by decide, by decide, by decide, ?_, by decide, by decide⟩
  rw [exBig_len]; decide

theorem exBig_readable : exBig.Readable := by
  refine ⟨?_, by decide⟩
  have := extraOk_single 0xcafe bigPayload (by decide) (by decide) (by rw [bigPayload_length]; decide)
  rw [bigPayload_length] at this
  exact this

/-- **D20 regression.**  `exBig` `Fits` and is `Readable`.  Before the repair its re-hydrated extra field had
65535 bytes (old ZIP64 record kept), the new ZIP64 record added 12 and `write_central_directory_header`
failed with `InvalidArchive`.  Since the repair the old record is dropped: 65507 + 12 bytes fit
(`AppendFits`) and the record serialises (`Closed`), the step at which `finish()` failed. -/
theorem regression_append_extra_fits : exBig.Fits ∧ exBig.Readable ∧ AppendFits exBig 0 0 ∧
    Closed (appendNorm exBig 0 0) 0 (appendRecord (viewEntry exBig 0 0 0)) :=
  ⟨exBig_fits, exBig_readable, appendFits_of_fits_readable exBig 0 0 exBig_fits exBig_readable,
    WL.view_closed exBig 0 0 0 (appendFits_of_fits_readable exBig 0 0 exBig_fits exBig_readable)⟩

end ZipVerif.Props.C13
