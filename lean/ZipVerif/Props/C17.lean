import ZipVerif.Lemmas.Align
import ZipVerif.Lemmas.AlignCentral
import ZipVerif.Lemmas.WriterWedge
/-
C17 — Aligned entries are aligned; extra data lands where requested.
Property theorems, with the side condition `NoWrap` and the witnesses they are instantiated at.  The model
(`alignedPlacement`, `extraPlacement`, `validateExtraData`) is `Model/Align.lean`; the closed forms the statements
are written in (`padNat`, `prelim`, `base16`, `zaBytes`, `localPart`, `centralPart`) are defined, with their lemmas,
in `Lemmas/Align.lean`.  Further lemmas: `Lemmas/AlignCentral.lean` (§5: the central record and the reader),
`Lemmas/WriterWedge.lean` (§7: the writer after a refusal).  The APPNOTE record grammar is `Spec/Extra.lean`.
-/

namespace ZipVerif.Props.C17
open ZipVerif ZipVerif.Model.Align ZipVerif.Spec.Extra

/-- The header, the name, the ZIP64 record and a maximal extra field all lie below 2^64
(65585 = 30 + 20 + 65535): no `u64` offset computation near this entry can wrap. -/
def NoWrap (hs : UInt64) (nameLen : Nat) : Prop := hs.toNat + nameLen + 65585 < 18446744073709551616

instance (hs : UInt64) (n : Nat) : Decidable (NoWrap hs n) := by unfold NoWrap; infer_instance

example : NoWrap 0 5 := by decide
example : NoWrap 4294967296000 65535 := by decide

/-! ## 1. The padding arithmetic -/

/-- **The pad the crate computes aligns the data**: with the 4-byte record header in front, the
padded offset is a multiple of the alignment, and the pad is smaller than the alignment. -/
theorem pad_correct (ds a : UInt64) (ha : 1 < a) (h4 : ds.toNat + 4 < 18446744073709551616) :
    (ds.toNat + 4 + (padLength ds a).toNat) % a.toNat = 0 ∧ (padLength ds a).toNat < a.toNat := by
  have ha' : 0 < a.toNat := by
    have := UInt64.lt_iff_toNat_lt.mp ha
    have e : (1 : UInt64).toNat = 1 := by decide
    omega
  rw [padLength_toNat ds a h4 ha']
  exact ⟨padNat_aligned _ _ ha', padNat_lt _ _ ha'⟩

example : padLength 31 64 = 29 ∧ (31 + 4 + 29) % 64 = 0 := by decide

/-- The subtraction `align - (data_start + 4) % align` cannot underflow. -/
theorem pad_sub_no_underflow (ds a : UInt64) (ha : 0 < a.toNat) :
    ((ds + 4) % a).toNat ≤ a.toNat := by
  rw [UInt64.toNat_mod]; exact Nat.le_of_lt (Nat.mod_lt _ ha)

/-- `pad.len() as u16` loses nothing: the pad is below the 16-bit alignment. -/
theorem pad_cast_lossless (ds : UInt64) (al : UInt16) (ha : 1 < al.toNat)
    (h4 : ds.toNat + 4 < 18446744073709551616) :
    (padLength ds al.toUInt64).toUInt16.toNat = (padLength ds al.toUInt64).toNat := by
  have ha0 : 0 < al.toNat := Nat.lt_trans Nat.zero_lt_one ha
  have h := padLength_toNat ds al.toUInt64 h4 (by rw [UInt16.toNat_toUInt64]; exact ha0)
  rw [UInt16.toNat_toUInt64] at h
  rw [UInt64.toNat_toUInt16, h]
  exact Nat.mod_eq_of_lt (Nat.lt_trans (padNat_lt ds.toNat al.toNat ha0) al.toNat_lt)

/-- The pad is the *only* value below the alignment that aligns the data. -/
theorem pad_unique (d a p : Nat) (ha : 0 < a) (hp : p < a) (h : (d + 4 + p) % a = 0) :
    p = padNat d a :=
  Nat.le_antisymm (le_of_mod_eq_zero hp h (padNat_aligned d a ha))
    (le_of_mod_eq_zero (padNat_lt d a ha) (padNat_aligned d a ha) h)

/-- The pad is the smallest padding that aligns the data (among all `p`, not only those below the alignment). -/
theorem pad_minimal (d a p : Nat) (ha : 0 < a) (h : (d + 4 + p) % a = 0) : padNat d a ≤ p :=
  le_of_mod_eq_zero (padNat_lt d a ha) (padNat_aligned d a ha) h

example : padNat 31 64 = 29 := by decide

/-! ## 2. `start_file_aligned` -/

/-- **A successfully started aligned entry is aligned** (no side condition): whenever the call
returns `Ok`, the alignment is 0 or 1, or the final data offset is a multiple of it. -/
theorem aligned_ok {hs : UInt64} {n : Nat} {lf : Bool} {al : UInt16} {r : AlignResult}
    (h : alignedPlacement hs n lf al = .ok r) : al.toNat ≤ 1 ∨ r.dataStart.toNat % al.toNat = 0 := by
  rcases alignedPlacement_ok h with ⟨hp, rfl⟩ | ⟨ha, -, h1, rfl⟩
  · by_cases h1 : 1 < al.toNat
    · exact Or.inr (Classical.byContradiction fun hne => hp ⟨h1, hne⟩)
    · exact Or.inl (Nat.le_of_not_lt h1)
  · right
    show (prelim hs n lf + UInt64.ofNat (4 + padNat (prelim hs n lf).toNat al.toNat)).toNat % _ = 0
    rw [toNat_add_ofNat h1, ← Nat.add_assoc]
    exact padNat_aligned _ _ (Nat.lt_trans Nat.zero_lt_one ha)

/-- The only panics of the model of `start_file_aligned` are `u64` offset overflows. -/
theorem aligned_panic_sites {hs : UInt64} {n : Nat} {lf : Bool} {al : UInt16} {s : String}
    (h : alignedPlacement hs n lf al = .panic s) :
    s = "write.rs end_extra_data: header_start + 28" ∨
    s = "write.rs end_extra_data: data_start + len" ∨
    s = "write.rs start_file_aligned: data_start + 4" := by
  rw [alignedPlacement_eq] at h
  by_cases hn : n > 65535
  · rw [if_pos hn] at h; cases h
  rw [if_neg hn] at h
  by_cases hp : 1 < al.toNat ∧ (prelim hs n lf).toNat % al.toNat ≠ 0
  · rw [if_pos hp] at h
    rcases panic_of_ite_panic h with rfl | h
    · exact Or.inr (Or.inr rfl)
    dsimp only at h
    by_cases hv : 4 + padNat (prelim hs n lf).toNat al.toNat + zip64Reserve lf > 65535
    · rw [if_pos hv] at h; cases h
    rw [if_neg hv] at h
    rcases panic_of_ite_panic h with rfl | h
    · exact Or.inr (Or.inl rfl)
    rcases panic_of_ite_panic h with rfl | h
    · exact Or.inl rfl
    · cases h
  · rw [if_neg hp] at h
    rcases panic_of_ite_panic h with rfl | h
    · exact Or.inl rfl
    · cases h

/-- **The `assert_eq!` in `start_file_aligned` is unreachable** (it is none of `aligned_panic_sites`). -/
theorem aligned_assert_unreachable (hs : UInt64) (n : Nat) (lf : Bool) (al : UInt16) :
    alignedPlacement hs n lf al ≠ .panic "write.rs start_file_aligned: assert_eq" := by
  intro h
  rcases aligned_panic_sites h with e | e | e <;> exact absurd e (by simp)

/-- Three more panic sites of `start_file_aligned` are unreachable: the `20 + len as u16` addition (the
length check in `validate_extra_data` comes first) and the two subtractions `align - x % align` and
`extra_data_end - data_start`. -/
theorem aligned_u16_add_unreachable (hs : UInt64) (n : Nat) (lf : Bool) (al : UInt16) :
    alignedPlacement hs n lf al ≠ .panic "write.rs end_extra_data: 20 + len as u16" ∧
    alignedPlacement hs n lf al ≠ .panic "write.rs start_file_aligned: align - x % align" ∧
    alignedPlacement hs n lf al ≠ .panic "write.rs start_file_aligned: extra_data_end - data_start" := by
  refine ⟨?_, ?_, ?_⟩ <;> intro h <;>
    rcases aligned_panic_sites h with e | e | e <;> exact absurd e (by simp)

/-- **Closed form**: away from the 2^64 boundary the call either refuses with `InvalidArchive`
(name too long), refuses with `io::ErrorKind::InvalidData` (the padding record, plus the ZIP64
record of a large file, does not fit the 16-bit extra-field length), or succeeds with the
minimal padding. -/
theorem aligned_closed_form (hs : UInt64) (n : Nat) (lf : Bool) (al : UInt16) (hw : NoWrap hs n) :
    alignedPlacement hs n lf al =
      let ds := hs.toNat + 30 + n + zip64Reserve lf
      let pad := padNat ds al.toNat
      if n > 65535 then .err .invalidArchive
      else if 1 < al.toNat ∧ ds % al.toNat ≠ 0 then
        if 4 + pad + zip64Reserve lf > 65535 then .err (.io .invalidData)
        else .ok ⟨UInt64.ofNat (4 + pad), UInt64.ofNat (ds + 4 + pad),
                  UInt16.ofNat (zip64Reserve lf + 4 + pad), zaBytes pad, []⟩
      else .ok ⟨0, UInt64.ofNat ds, UInt16.ofNat (zip64Reserve lf), [], []⟩ := by
  have hr := zip64Reserve_le lf
  rw [alignedPlacement_eq, prelim_toNat lf hw]
  dsimp only
  by_cases hn : n > 65535
  · rw [if_pos hn, if_pos hn]
  -- the first two bounds of `noWrap_bounds` do not mention the placed length `p`: any admissible `p` gives them
  have h28 := (noWrap_bounds hw hr (p := 0) (by omega)).1
  rw [if_neg hn, if_neg hn, if_pos h28, if_pos h28]
  by_cases hp : 1 < al.toNat ∧ (hs.toNat + 30 + n + zip64Reserve lf) % al.toNat ≠ 0
  · rw [if_pos hp, if_pos hp, if_pos (noWrap_bounds hw hr (p := 0) (by omega)).2.1]
    by_cases hv : 4 + padNat (hs.toNat + 30 + n + zip64Reserve lf) al.toNat + zip64Reserve lf > 65535
    · rw [if_pos hv, if_pos hv]
    · rw [if_neg hv, if_neg hv, if_pos (noWrap_bounds hw hr (Nat.le_of_not_lt hv)).2.2, prelim_eq_ofNat, base16_eq_ofNat,
        ← UInt64.ofNat_add, ← UInt16.ofNat_add, ← Nat.add_assoc _ 4, ← Nat.add_assoc _ 4]
  · rw [if_neg hp, if_neg hp, prelim_eq_ofNat, base16_eq_ofNat]

/-- **No panic**: `start_file_aligned` never panics for any alignment, name length and
`large_file` setting (away from the 2^64 boundary).  Before the `fix:` of the extra-length check
(D7) it did for `large_file` with a pad of 65512..65531 (`20 + len as u16` overflowed). -/
theorem aligned_no_panic (hs : UInt64) (n : Nat) (lf : Bool) (al : UInt16) (hw : NoWrap hs n) (s : String) :
    alignedPlacement hs n lf al ≠ .panic s := by
  rw [aligned_closed_form hs n lf al hw]
  dsimp only
  split
  · exact fun h => by cases h
  split
  · split
    · exact fun h => by cases h
    · exact fun h => by cases h
  · exact fun h => by cases h

/-- **A request that cannot be honoured is refused with an error**, and only such a request:
the call fails exactly when the name is longer than 65535 bytes or padding is needed and the
padding record (4 + pad bytes, + 20 for a large file) exceeds the 16-bit extra-field length. -/
theorem aligned_refused_iff (hs : UInt64) (n : Nat) (lf : Bool) (al : UInt16) (hw : NoWrap hs n) :
    (∃ e, alignedPlacement hs n lf al = .err e) ↔
      n > 65535 ∨
      (1 < al.toNat ∧ (hs.toNat + 30 + n + zip64Reserve lf) % al.toNat ≠ 0 ∧
        4 + padNat (hs.toNat + 30 + n + zip64Reserve lf) al.toNat + zip64Reserve lf > 65535) := by
  rw [aligned_closed_form hs n lf al hw]
  dsimp only
  by_cases hn : n > 65535
  · rw [if_pos hn]
    exact ⟨fun _ => Or.inl hn, fun _ => ⟨_, rfl⟩⟩
  rw [if_neg hn]
  by_cases hp : 1 < al.toNat ∧ (hs.toNat + 30 + n + zip64Reserve lf) % al.toNat ≠ 0
  · rw [if_pos hp]
    by_cases hv : 4 + padNat (hs.toNat + 30 + n + zip64Reserve lf) al.toNat + zip64Reserve lf > 65535
    · rw [if_pos hv]
      exact ⟨fun _ => Or.inr ⟨hp.1, hp.2, hv⟩, fun _ => ⟨_, rfl⟩⟩
    · rw [if_neg hv]
      constructor
      · rintro ⟨e, he⟩; cases he
      · rintro (h | ⟨_, _, h⟩)
        · exact absurd h hn
        · exact absurd h hv
  · rw [if_neg hp]
    constructor
    · rintro ⟨e, he⟩; cases he
    · rintro (h | ⟨h1, h2, _⟩)
      · exact absurd h hn
      · exact absurd ⟨h1, h2⟩ hp

/-- What a successful call reports and leaves behind: the returned value is the number of bytes
added (0, or 4 + the minimal pad), the data start moved by exactly that much, the local
extra-length field counts it (plus the ZIP64 record), the local header holds exactly the `za`
padding record and **nothing of it reaches the central record**. -/
theorem aligned_reports {hs : UInt64} {n : Nat} {lf : Bool} {al : UInt16} {r : AlignResult}
    (hw : NoWrap hs n) (h : alignedPlacement hs n lf al = .ok r) :
    r.dataStart.toNat = hs.toNat + 30 + n + zip64Reserve lf + r.ret.toNat ∧
    r.xlenField.toNat = zip64Reserve lf + r.ret.toNat ∧
    r.localExtra.length = r.ret.toNat ∧
    r.centralExtra = [] ∧
    ((r.ret = 0 ∧ r.localExtra = []) ∨
     (r.ret.toNat = 4 + padNat (hs.toNat + 30 + n + zip64Reserve lf) al.toNat ∧
      r.localExtra = zaBytes (padNat (hs.toNat + 30 + n + zip64Reserve lf) al.toNat))) := by
  have hpre := prelim_toNat lf hw
  rcases alignedPlacement_ok h with ⟨-, rfl⟩ | ⟨-, hv, h1, rfl⟩
  · exact ⟨hpre, by cases lf <;> rfl, rfl, rfl, Or.inl ⟨rfl, rfl⟩⟩
  · obtain ⟨e1, e2⟩ := placed_toNat hw hv
    have e64 := UInt64.toNat_ofNat_of_lt' (Nat.lt_of_le_of_lt (Nat.le_add_left _ _) h1)
    rw [← hpre] at e1 ⊢
    exact ⟨e1.trans (congrArg _ e64.symm), e2.trans (congrArg _ e64.symm), (zaBytes_length _).trans e64.symm, rfl,
      Or.inr ⟨e64, rfl⟩⟩

/-- **The reader reports the same offset**: `find_content` recomputes the data start from the
local header's own name-length and extra-length fields and arrives at the writer's final
`data_start` (where the content was written), so the content is read back from where it is. -/
theorem aligned_reader_agrees {hs : UInt64} {n : Nat} {lf : Bool} {al : UInt16} {r : AlignResult}
    (hw : NoWrap hs n) (h : alignedPlacement hs n lf al = .ok r) :
    readerDataStart hs (UInt16.ofNat n) r.xlenField = .ok r.dataStart := by
  have hn : n ≤ 65535 := Nat.le_of_not_lt fun hn => by
    rw [alignedPlacement_eq, if_pos hn] at h; cases h
  obtain ⟨h1, h2, -⟩ := aligned_reports hw h
  exact readerDataStart_of_toNat hn (by rw [h1, h2, Nat.add_assoc])

/-! Non-vacuity and the boundary of the 16-bit extra-field length (the former defect D7). -/

-- an ordinary aligned entry: header at 0, 1-byte name, align 64 → 29 zero bytes in a `za` record
example : alignedPlacement 0 1 false 64 =
    .ok ⟨33, 64, 33, zaBytes 29, []⟩ := by
  rw [aligned_closed_form 0 1 false 64 (by decide)]; rfl
-- already aligned, alignment 0 and 1: nothing is written
example : alignedPlacement 34 0 false 64 = .ok ⟨0, 64, 0, [], []⟩ := by
  rw [aligned_closed_form _ _ _ _ (by decide)]; rfl
example : alignedPlacement 0 1 true 0 = .ok ⟨0, 51, 20, [], []⟩ := by
  rw [aligned_closed_form _ _ _ _ (by decide)]; rfl
-- the largest pad that fits without / with the ZIP64 record (65531 / 65511) succeeds …
example : alignedPlacement 65500 1 false 65533 =
    .ok ⟨65535, 131066, 65535, zaBytes 65531, []⟩ := by
  rw [aligned_closed_form _ _ _ _ (by decide)]; rfl
example : alignedPlacement 65504 1 true 65535 =
    .ok ⟨65515, 131070, 65535, zaBytes 65511, []⟩ := by
  rw [aligned_closed_form _ _ _ _ (by decide)]; rfl
-- … one more byte is refused with an error: for `large_file` this input (pad 65512) made
-- `20 + len as u16` overflow (panic) before the fix; it is now `InvalidData`
example : alignedPlacement 65503 1 true 65535 = .err (.io .invalidData) := by
  rw [aligned_closed_form _ _ _ _ (by decide)]; rfl
example : alignedPlacement 65503 1 false 65535 = .err (.io .invalidData) := by
  rw [aligned_closed_form _ _ _ _ (by decide)]; rfl
example : alignedPlacement 0 65536 false 64 = .err .invalidArchive := by
  rw [aligned_closed_form _ _ _ _ (by decide)]; rfl

/-! ## 3. `validate_extra_data` accepts exactly the well-formed user extra fields -/

/-- **Validation = APPNOTE 4.5 grammar**: the data is accepted iff it is a sequence of complete
records with user-writable header IDs (not 0x0001, not 0..31, not a defined or registered ID)
that fits the 16-bit extra-field length. -/
theorem validate_extra_iff (ed : Bytes) : validateExtraData false ed = .ok () ↔ WFExtra ed := by
  rw [validateExtraData_ok_iff]
  constructor
  · exact fun h => h.1
  · intro h
    exact ⟨h, by have := h.1; show ed.length + 0 ≤ 65535; omega⟩

/-- For a `large_file` entry the 20-byte ZIP64 record shares the local field, so 20 bytes less
are available. -/
theorem validate_extra_large_iff (large : Bool) (ed : Bytes) :
    validateExtraData large ed = .ok () ↔
      WFExtra ed ∧ ed.length + zip64LocalRecordLen large ≤ 65535 :=
  validateExtraData_ok_iff large ed

/-- Validation never panics: everything that is not accepted is refused with an `io::Error`
(`InvalidData` for an over-long field, `Other` for everything else). -/
theorem validate_extra_total (large : Bool) (ed : Bytes) :
    validateExtraData large ed = .ok () ∨
    validateExtraData large ed = .err (.io .invalidData) ∨
    validateExtraData large ed = .err (.io .other) := by
  unfold validateExtraData
  split
  · exact .inr (.inl rfl)
  · rcases validateLoop_cases ed.length ed with h | h | ⟨hlt, -⟩
    · exact .inl h
    · exact .inr (.inr h)
    · exact absurd hlt (Nat.lt_irrefl _)

/-- **Truncated records, the ZIP64 header ID and reserved header IDs are rejected with an
error**, wherever they occur: after any number of good records, a remainder that is a truncated
header, starts with a record whose ID is 0x0001 / in 0..31 / defined or registered, or declares
more data than is left. -/
theorem validate_rejects_malformed (large : Bool) (rs : List Record)
    (hrs : ∀ r ∈ rs, r.Fits ∧ r.Allowed) (tail : Bytes) (h : Malformed tail) :
    validateExtraData large (encodeAll rs ++ tail) = .err (.io .invalidData) ∨
    validateExtraData large (encodeAll rs ++ tail) = .err (.io .other) :=
  validateExtraData_malformed large rs hrs tail h

/-- The crate's reserved-ID table is the APPNOTE list (4.5.2 ++ 4.6.1). -/
theorem reserved_table_is_appnote : extraFieldMapping.map UInt16.toNat = reservedIds :=
  extraFieldMapping_toNat

-- accepted: the `za` padding record, an empty field, two records
example : WFExtra [0x7a, 0x61, 0x02, 0x00, 0x00, 0x00] := (validate_extra_iff _).mp (by decide)
example : WFExtra [] := (validate_extra_iff _).mp (by decide)
example : validateExtraData true [0xfe, 0xca, 0x00, 0x00, 0x7a, 0x61, 0x01, 0x00, 0xff] = .ok () := by decide
-- rejected: ZIP64 ID, an ID ≤ 31, a registered ID (0x5455 extended timestamp), a truncated
-- header, a truncated payload
example : ¬ WFExtra [0x01, 0x00, 0x00, 0x00] := fun h => absurd ((validate_extra_iff _).mpr h) (by decide)
example : validateExtraData false [0x1f, 0x00, 0x00, 0x00] = .err (.io .other) := by decide
example : validateExtraData false [0x55, 0x54, 0x00, 0x00] = .err (.io .other) := by decide
example : validateExtraData false [0x7a, 0x61, 0x00] = .err (.io .other) := by decide
example : validateExtraData false [0x7a, 0x61, 0x02, 0x00, 0xaa] = .err (.io .other) := by decide
example : Malformed [0x7a, 0x61, 0x00] := .shortHeader _ (by decide) (by decide)
example : Malformed (Record.encode ⟨0x0001, [1, 2]⟩ ++ [9]) :=
  .badId _ _ (by decide) (by decide)

/-! ## 4. Where the extra data lands -/

/-- **Shared extra data** (`start_file_with_extra_data; write…; end_extra_data`): on success the
local header and the central record both carry the written bytes verbatim, the local
extra-length field and the data start account for them, and the data was well-formed. -/
theorem extra_placement_shared {hs : UInt64} {n : Nat} {lf : Bool} {lo ce : Bytes} {st : EntrySt}
    (h : extraPlacement hs n lf .shared lo ce = .ok st) :
    st.localExtra = lo ∧ st.extraField = lo ∧
    st.dataStart = prelim hs n lf + UInt64.ofNat lo.length ∧
    st.xlenField = base16 lf + UInt16.ofNat lo.length ∧
    WFExtra lo ∧ lo.length + zip64LocalRecordLen lf ≤ 65535 := by
  obtain ⟨hv, -, rfl⟩ := extraPlacement_ok h
  obtain ⟨w1, w2⟩ := (validateExtraData_ok_iff lf lo).mp hv
  exact ⟨rfl, rfl, rfl, rfl, w1, w2⟩

/-- **Split extra data** (`…; write local…; end_local_start_central_extra_data; write central…;
end_extra_data`; `centralOnly` writes no local part): on success the local part is *only* in the
local header and the central part *only* in `file.extra_field`, the user's share of the central record
(section 5 says what the record and the reader's `extra_data()` hold: the writer's own ZIP64 record, when
the entry needs one, followed by exactly these bytes), both verbatim; the data start and the local extra-length field depend
on the local part alone; both parts were well-formed. -/
theorem extra_placement_split {hs : UInt64} {n : Nat} {lf : Bool} {mode : ExtraMode} {lo ce : Bytes}
    {st : EntrySt} (hm : mode ≠ .shared) (h : extraPlacement hs n lf mode lo ce = .ok st) :
    st.localExtra = localPart mode lo ∧ st.extraField = ce ∧
    st.dataStart = prelim hs n lf + UInt64.ofNat (localPart mode lo).length ∧
    st.xlenField = base16 lf + UInt16.ofNat (localPart mode lo).length ∧
    WFExtra (localPart mode lo) ∧ (localPart mode lo).length + zip64LocalRecordLen lf ≤ 65535 ∧
    WFExtra ce ∧ ce.length + zip64LocalRecordLen lf ≤ 65535 := by
  obtain ⟨hv, hc, rfl⟩ := extraPlacement_ok h
  obtain ⟨w1, w2⟩ := (validateExtraData_ok_iff lf _).mp hv
  obtain ⟨w3, w4⟩ := (validateExtraData_ok_iff lf _).mp (hc.resolve_left hm)
  exact ⟨rfl, if_neg hm, rfl, rfl, w1, w2, w3, w4⟩

/-- **Acceptance**: the sequence succeeds exactly when every part is a well-formed user extra
field that fits (otherwise it fails with an error: it never panics, `extra_placement_no_panic`). -/
theorem extra_placement_ok_iff (hs : UInt64) (n : Nat) (lf : Bool) (mode : ExtraMode) (lo ce : Bytes)
    (hw : NoWrap hs n) :
    (∃ st, extraPlacement hs n lf mode lo ce = .ok st) ↔
      (WFExtra (localPart mode lo) ∧ (localPart mode lo).length + zip64LocalRecordLen lf ≤ 65535) ∧
      (mode = .shared ∨ (WFExtra ce ∧ ce.length + zip64LocalRecordLen lf ≤ 65535)) := by
  rw [extraPlacement_eq_of_noWrap hs n lf mode lo ce hw, ← validateExtraData_ok_iff, ← validateExtraData_ok_iff]
  cases hv : validateExtraData lf (localPart mode lo) with
  | err e => exact ⟨fun ⟨_, h⟩ => (by cases h), fun ⟨h, _⟩ => (by cases h)⟩
  | panic s => exact ⟨fun ⟨_, h⟩ => (by cases h), fun ⟨h, _⟩ => (by cases h)⟩
  | ok u =>
    dsimp only
    by_cases hm : mode = .shared
    · rw [if_pos hm]
      exact ⟨fun _ => ⟨rfl, Or.inl hm⟩, fun _ => ⟨_, rfl⟩⟩
    · rw [if_neg hm]
      cases hc : validateExtraData lf ce with
      | err e => exact ⟨fun ⟨_, h⟩ => (by cases h), fun ⟨_, h⟩ => (by rcases h with h | ⟨h, _⟩ <;> first | exact absurd h hm | cases h)⟩
      | panic s => exact ⟨fun ⟨_, h⟩ => (by cases h), fun ⟨_, h⟩ => (by rcases h with h | ⟨h, _⟩ <;> first | exact absurd h hm | cases h)⟩
      | ok u' => exact ⟨fun _ => ⟨rfl, Or.inr rfl⟩, fun _ => ⟨_, rfl⟩⟩

theorem extra_placement_no_panic (hs : UInt64) (n : Nat) (lf : Bool) (mode : ExtraMode) (lo ce : Bytes)
    (hw : NoWrap hs n) (s : String) : extraPlacement hs n lf mode lo ce ≠ .panic s := by
  rw [extraPlacement_eq_of_noWrap hs n lf mode lo ce hw]
  cases hv : validateExtraData lf (localPart mode lo) with
  | err e => exact fun h => by cases h
  | panic s' => exact absurd hv (validateExtraData_no_panic _ _ _)
  | ok u =>
    dsimp only
    split
    · exact fun h => by cases h
    · cases hc : validateExtraData lf ce with
      | err e => exact fun h => by cases h
      | panic s' => exact absurd hc (validateExtraData_no_panic _ _ _)
      | ok u' => exact fun h => by cases h

/-- The reader's data start agrees with the writer's after any successful extra-data sequence. -/
theorem extra_placement_reader_agrees {hs : UInt64} {n : Nat} {lf : Bool} {mode : ExtraMode}
    {lo ce : Bytes} {st : EntrySt} (hw : NoWrap hs n) (hn : n ≤ 65535)
    (h : extraPlacement hs n lf mode lo ce = .ok st) :
    readerDataStart hs (UInt16.ofNat n) st.xlenField = .ok st.dataStart := by
  obtain ⟨hv, -, rfl⟩ := extraPlacement_ok h
  obtain ⟨e1, e2⟩ := placed_toNat hw (validate_ok_len hv)
  exact readerDataStart_of_toNat hn (e1.trans (by rw [Nat.add_assoc]; exact congrArg _ e2.symm))

-- shared / split / central-only on concrete data; a split whose central part is a ZIP64 record is refused
example : (extraPlacement 0 1 false .shared [0x7a, 0x61, 0x01, 0x00, 0xff] []).isOk = true := by decide
example : extraPlacement 0 1 true .split [0x7a, 0x61, 0x01, 0x00, 0xff] [0xfe, 0xca, 0x00, 0x00] =
    .ok ⟨0, true, 56, [0xfe, 0xca, 0x00, 0x00], false, false, false, [0x7a, 0x61, 0x01, 0x00, 0xff], 25⟩ := by
  decide
example : extraPlacement 0 1 false .centralOnly [0x7a, 0x61, 0x01, 0x00, 0xff] [0xfe, 0xca, 0x00, 0x00] =
    .ok ⟨0, false, 31, [0xfe, 0xca, 0x00, 0x00], false, false, false, [], 0⟩ := by decide
example : extraPlacement 0 1 false .split [0x7a, 0x61, 0x00, 0x00] [0x01, 0x00, 0x00, 0x00] =
    .err (.io .other) := by decide

/-! ## 5. The central record at `finish`, and what the reader's `extra_data()` returns

`ZipFile::extra_data()` is the central record's WHOLE extra field.  `write_central_directory_header`
puts the ZIP64 record it generates itself in front of `file.extra_field`, so for an entry whose header
offset (or a size) is ≥ 0xFFFFFFFF the reader returns that record followed by the caller's central part —
not the central part alone (witness of the `align` stream: `align.start off=4294967296 …` returns
`cx=010008000000000001000000`).  The supplied bytes are a verbatim suffix in every case and the whole
answer exactly when no ZIP64 record is needed. -/

theorem central_zip64_nil_iff (st : EntrySt) (us cs : UInt64) :
    st.centralZip64 us cs = [] ↔
      ¬ (us ≥ Model.ZIP64_BYTES_THR ∨ cs ≥ Model.ZIP64_BYTES_THR ∨ st.headerStart ≥ Model.ZIP64_BYTES_THR) := by
  have h := Model.centralZip64Bytes_ne_nil_iff
    { (default : Model.FileData) with headerStart := st.headerStart, uncompressedSize := us, compressedSize := cs }
  exact ⟨fun e hn => h.mpr hn e, fun hn => Decidable.not_not.mp fun e => hn (h.mp e)⟩

/-- For the entries of the `align` stream (sizes of a few bytes) the record is the header offset alone:
`01 00 08 00` and the 8-byte offset. -/
theorem central_zip64_offset_only (st : EntrySt) (us cs : UInt64)
    (hu : ¬ us ≥ Model.ZIP64_BYTES_THR) (hc : ¬ cs ≥ Model.ZIP64_BYTES_THR)
    (hh : st.headerStart ≥ Model.ZIP64_BYTES_THR) :
    st.centralZip64 us cs = le16 0x0001 ++ le16 8 ++ le64 st.headerStart := by
  unfold EntrySt.centralZip64 Model.centralZip64Bytes
  simp [hu, hc, hh]

theorem central_zip64_length_le (st : EntrySt) (us cs : UInt64) : (st.centralZip64 us cs).length ≤ 28 :=
  Model.centralZip64Bytes_length _

theorem central_extra_all_err {st : EntrySt} {us cs : UInt64}
    (h : (st.centralZip64 us cs).length + st.extraField.length > 65535) :
    st.centralExtraAll us cs = .err .invalidArchive := by
  unfold EntrySt.centralExtraAll
  dsimp only
  rw [if_pos h]

/-- `finish` fails on the central record exactly when the ZIP64 record and `extra_field` together exceed
the 16-bit length field; the error is `InvalidArchive` (`central_extra_all_err`), which the crate raises
before it writes anything of the record. -/
theorem central_extra_all_ok_iff (st : EntrySt) (us cs : UInt64) :
    (∃ x, st.centralExtraAll us cs = .ok x) ↔
      (st.centralZip64 us cs).length + st.extraField.length ≤ 65535 := by
  constructor
  · rintro ⟨x, hx⟩
    refine Nat.le_of_not_lt fun h => ?_
    rw [central_extra_all_err h] at hx
    cases hx
  · intro h
    unfold EntrySt.centralExtraAll
    dsimp only
    rw [if_neg (Nat.not_lt.mpr h)]
    exact ⟨_, rfl⟩

/-- **What the central record's extra field holds**: the regenerated ZIP64 record (present iff needed:
`central_zip64_nil_iff`), then the bytes of `extra_field` — the supplied central part is a verbatim
suffix, and the whole field when no ZIP64 record is needed. -/
theorem central_extra_all_eq {st : EntrySt} {us cs : UInt64} {x : Bytes}
    (h : st.centralExtraAll us cs = .ok x) :
    x = st.centralZip64 us cs ++ st.extraField ∧ st.extraField <:+ x ∧
    (¬ (us ≥ Model.ZIP64_BYTES_THR ∨ cs ≥ Model.ZIP64_BYTES_THR ∨ st.headerStart ≥ Model.ZIP64_BYTES_THR) →
      x = st.extraField) := by
  unfold EntrySt.centralExtraAll at h
  dsimp only at h
  split at h
  · cases h
  · injection h with h
    subst h
    refine ⟨rfl, List.suffix_append _ _, fun hz => ?_⟩
    rw [(central_zip64_nil_iff st us cs).mpr hz, List.nil_append]

/-- What the state after a successful extra-data sequence holds for `finish`: the header offset it was
started at and the central part (`lo` for the shared variant). -/
theorem extra_placement_central_part {hs : UInt64} {n : Nat} {lf : Bool} {mode : ExtraMode} {lo ce : Bytes}
    {st : EntrySt} (h : extraPlacement hs n lf mode lo ce = .ok st) :
    st.headerStart = hs ∧ st.largeFile = lf ∧ st.extraField = centralPart mode lo ce ∧
    validateExtraData lf st.extraField = .ok () := by
  obtain ⟨hv, hc, rfl⟩ := extraPlacement_ok h
  refine ⟨rfl, rfl, rfl, ?_⟩
  show validateExtraData lf (centralPart mode lo ce) = .ok ()
  rcases hc with rfl | hc
  · exact hv
  · unfold centralPart
    split
    · next hm => subst hm; exact hv
    · exact hc

/-- **The central part as the central record carries it**, for every variant of the call sequence: if
`finish` can write the record at all, its extra field is the ZIP64 record of the entry (exactly when
needed) followed by the supplied central part verbatim. -/
theorem extra_placement_central {hs : UInt64} {n : Nat} {lf : Bool} {mode : ExtraMode} {lo ce : Bytes}
    {st : EntrySt} (h : extraPlacement hs n lf mode lo ce = .ok st) {us cs : UInt64} {x : Bytes}
    (hx : st.centralExtraAll us cs = .ok x) :
    x = st.centralZip64 us cs ++ centralPart mode lo ce ∧ centralPart mode lo ce <:+ x ∧
    (¬ (us ≥ Model.ZIP64_BYTES_THR ∨ cs ≥ Model.ZIP64_BYTES_THR ∨ hs ≥ Model.ZIP64_BYTES_THR) →
      x = centralPart mode lo ce) := by
  obtain ⟨h1, _, h3, _⟩ := extra_placement_central_part h
  have := central_extra_all_eq hx
  rw [h3, h1] at this
  exact this

/-- **The reader returns exactly these bytes.**  For the finished record `f` of an entry whose extra
field passed `validate_extra_data`, `write_central_directory_header` succeeds whenever the ZIP64 record
and the extra field fit 65535 bytes, and `central_header_to_zip_file` (the reader model of
`Model/Records.lean`), run on the bytes written — at any position `p` of any stream that continues with
them — returns a record whose `extra_field`, i.e. `ZipFile::extra_data()`, is
`centralZip64Bytes f ++ f.extraField`, and whose header offset is the writer's.  Side conditions: a
date the DOS stamp can hold, a name within 65535 bytes, no data descriptor, a method other than 99 (AES). -/
theorem reader_returns_central_extra (f : Model.FileData) (dp : UInt16) (hdp : f.time.datepart = some dp)
    (hn : f.fileName.length ≤ 65535) (hv : validateExtraData f.largeFile f.extraField = .ok ())
    (hlen : (Model.centralZip64Bytes f).length + f.extraField.length ≤ 65535)
    (hdd : f.usingDataDescriptor = false) (hm : f.method.toU16 ≠ 99) (p : Nat) :
    ∃ cs g, Model.centralHeaderChunks f = .ok cs ∧
      Model.Parses (Model.centralHeader 0) p (Model.ser cs) g ∧
      g.extraField = Model.centralZip64Bytes f ++ f.extraField ∧ g.headerStart = f.headerStart :=
  WL.reader_on_written_central f dp hdp hn (WL.align_validate_extraOk hv) hlen hdd hm p

/-- **The reader returns the supplied central part**, from a successful extra-data call sequence: any record
`f` the writer finishes for that entry (same `large_file` flag and `extra_field` as the state the calls left;
side conditions as in `reader_returns_central_extra`) reads back with `extra_data()` = its ZIP64 record ++ the
supplied central part. -/
theorem extra_placement_reader {hs : UInt64} {n : Nat} {lf : Bool} {mode : ExtraMode} {lo ce : Bytes}
    {st : EntrySt} (h : extraPlacement hs n lf mode lo ce = .ok st)
    (f : Model.FileData) (hfx : f.extraField = st.extraField) (hfl : f.largeFile = lf)
    (dp : UInt16) (hdp : f.time.datepart = some dp) (hn : f.fileName.length ≤ 65535)
    (hlen : (Model.centralZip64Bytes f).length + f.extraField.length ≤ 65535)
    (hdd : f.usingDataDescriptor = false) (hm : f.method.toU16 ≠ 99) (p : Nat) :
    ∃ cs g, Model.centralHeaderChunks f = .ok cs ∧
      Model.Parses (Model.centralHeader 0) p (Model.ser cs) g ∧
      g.extraField = Model.centralZip64Bytes f ++ centralPart mode lo ce := by
  obtain ⟨_, _, h3, h4⟩ := extra_placement_central_part h
  obtain ⟨cs, g, a, b, c, _⟩ := reader_returns_central_extra f dp hdp hn (by rw [hfl, hfx]; exact h4) hlen hdd hm p
  exact ⟨cs, g, a, b, by rw [c, hfx, h3]⟩

-- the witness: header at 2^32, central part `fe ca 00 00`: the reader returns the 12-byte ZIP64 record first
example : (⟨4294967296, false, 4294967327, [0xfe, 0xca, 0, 0], false, false, false, [], 0⟩ : EntrySt).centralExtraAll 26 26 =
    .ok [0x01, 0x00, 0x08, 0x00, 0, 0, 0, 0, 1, 0, 0, 0, 0xfe, 0xca, 0, 0] := by decide
-- one byte below the marker: the central part alone
example : (⟨4294967294, false, 4294967325, [0xfe, 0xca, 0, 0], false, false, false, [], 0⟩ : EntrySt).centralExtraAll 26 26 =
    .ok [0xfe, 0xca, 0, 0] := by decide
-- `reader_returns_central_extra` instantiated: a record at offset 2^32 with the user record `fe ca 00 00`
def witnessRecord : Model.FileData :=
  { (default : Model.FileData) with
    time := { year := 1980, month := 1, day := 1, hour := 0, minute := 0, second := 0 }
    headerStart := 4294967296
    extraField := [0xfe, 0xca, 0, 0] }

example : ∃ cs g, Model.centralHeaderChunks witnessRecord = .ok cs ∧
    Model.Parses (Model.centralHeader 0) 0 (Model.ser cs) g ∧
    g.extraField = [0x01, 0x00, 0x08, 0x00, 0, 0, 0, 0, 1, 0, 0, 0, 0xfe, 0xca, 0, 0] := by
  -- 33 = the DOS date of 1980-01-01: day 1 ||| month 1 <<< 5 ||| (1980 - 1980) <<< 9
  obtain ⟨cs, g, a, b, c, _⟩ := reader_returns_central_extra witnessRecord
    33 (by decide) (by decide) (by decide) (by decide) (by decide) (by decide) 0
  exact ⟨cs, g, a, b, by rw [c]; decide⟩

/-! ## 6. Accepted extra data can make the archive unfinishable (known finding K-G)

Full statement (FALSE): "extra data accepted by every extra-data call is stored" —
`extraPlacement hs n lf mode lo ce = .ok st → ∃ x, st.centralExtraAll us cs = .ok x`.
`validate_extra_data` reserves room only for the 20-byte LOCAL ZIP64 record of `large_file` entries; the
central record's own ZIP64 record (12..28 bytes) is not accounted for — and cannot be exactly, since the
sizes are not known when the data is validated.  What holds is the exact bound (`finish_central_ok_iff`),
the partial statements below, and a kernel-checked counterexample. -/

theorem finish_central_err (f : Model.FileData)
    (h : (Model.centralZip64Bytes f).length + f.extraField.length > 65535) :
    Model.centralHeaderChunks f = .err .invalidArchive := by
  unfold Model.centralHeaderChunks
  simp only [h, if_true]

/-- **Exact bound**: `write_central_directory_header` succeeds iff the ZIP64 record plus the extra field
fit the 16-bit length (for every constructible timestamp); otherwise it fails with `InvalidArchive`
(`finish_central_err`) — and in the crate `finish` with it, on every later call as well (the entry stays
in `files`). -/
theorem finish_central_ok_iff (f : Model.FileData) (dp : UInt16) (hdp : f.time.datepart = some dp) :
    (∃ cs, Model.centralHeaderChunks f = .ok cs) ↔
      (Model.centralZip64Bytes f).length + f.extraField.length ≤ 65535 := by
  constructor
  · rintro ⟨cs, h⟩
    refine Nat.le_of_not_lt fun hgt => ?_
    rw [finish_central_err f hgt] at h
    cases h
  · intro hle
    exact ⟨_, WL.centralHeaderChunks_ok f dp hdp hle⟩

/-- **Partial (1)**: accepted extra data is finishable whenever the entry needs no ZIP64 record (sizes and
header offset below 0xFFFFFFFF): the central record carries exactly the central part. -/
theorem extra_placement_finishable_partial {hs : UInt64} {n : Nat} {lf : Bool} {mode : ExtraMode}
    {lo ce : Bytes} {st : EntrySt} (h : extraPlacement hs n lf mode lo ce = .ok st) (us cs : UInt64)
    (hsmall : ¬ (us ≥ Model.ZIP64_BYTES_THR ∨ cs ≥ Model.ZIP64_BYTES_THR ∨ hs ≥ Model.ZIP64_BYTES_THR)) :
    st.centralExtraAll us cs = .ok (centralPart mode lo ce) := by
  obtain ⟨h1, _, h3, h4⟩ := extra_placement_central_part h
  have hz : st.centralZip64 us cs = [] := (central_zip64_nil_iff st us cs).mpr (by rw [h1]; exact hsmall)
  have hl := validate_ok_len h4
  unfold EntrySt.centralExtraAll
  dsimp only
  rw [hz, List.nil_append, List.length_nil, if_neg (by omega), h3]

/-- **Partial (2)**: accepted extra data is finishable, whatever the sizes and the header offset, when the
central part is at most 65507 = 65535 - 28 bytes long (28 bytes is the longest central ZIP64 record:
`central_zip64_length_le`). -/
theorem extra_placement_finishable_short {hs : UInt64} {n : Nat} {lf : Bool} {mode : ExtraMode}
    {lo ce : Bytes} {st : EntrySt} (h : extraPlacement hs n lf mode lo ce = .ok st) (us cs : UInt64)
    (hshort : (centralPart mode lo ce).length ≤ 65507) :
    ∃ x, st.centralExtraAll us cs = .ok x := by
  obtain ⟨_, _, h3, _⟩ := extra_placement_central_part h
  have := central_zip64_length_le st us cs
  exact (central_extra_all_ok_iff st us cs).mpr (by rw [h3]; omega)

def bigRecord (k : Nat) : Bytes := Record.encode ⟨0xcafe, List.replicate k 0⟩

theorem bigRecord_length (k : Nat) : (bigRecord k).length = 4 + k := by
  simp [bigRecord, Record.encode, u16le]; omega

theorem bigRecord_valid (k : Nat) (hk : 4 + k ≤ 65535) : validateExtraData false (bigRecord k) = .ok () := by
  rw [validate_extra_iff]
  refine ⟨by rw [bigRecord_length]; exact hk, [⟨0xcafe, List.replicate k 0⟩], ?_, ?_⟩
  · intro r hr
    rw [List.mem_singleton] at hr
    subst hr
    refine ⟨⟨?_, ?_⟩, ?_⟩
    · show (0xcafe : Nat) < 65536
      decide
    · show (List.replicate k (0 : UInt8)).length < 65536
      rw [List.length_replicate]; omega
    · show (0xcafe : Nat) ≠ 0x0001 ∧ 31 < (0xcafe : Nat) ∧ (0xcafe : Nat) ∉ reservedIds
      decide
  · simp [encodeAll, bigRecord]

/-- **Counterexample to the full statement** (the K-G witness of the `align` stream): a non-large entry
whose header lies at offset 2^32, central-only extra data of 65524 bytes.  Every extra-data call accepts
it; the central record needs 12 + 65524 = 65536 bytes of extra field; `finish` fails with
`InvalidArchive`.  With 65523 bytes it succeeds. -/
theorem accepted_extra_unfinishable :
    (∃ st, extraPlacement 4294967296 1 false .centralOnly [] (bigRecord 65520) = .ok st ∧
        st.centralExtraAll 26 26 = .err .invalidArchive) ∧
    (∃ st x, extraPlacement 4294967296 1 false .centralOnly [] (bigRecord 65519) = .ok st ∧
        st.centralExtraAll 26 26 = .ok x) := by
  -- 12: with sizes of 26 bytes and the header at 2^32 the ZIP64 record is `01 00 08 00` + the 8-byte offset
  -- (`central_zip64_offset_only`)
  have hz : ∀ st : EntrySt, st.headerStart = 4294967296 → (st.centralZip64 26 26).length = 12 := by
    intro st h
    unfold EntrySt.centralZip64
    rw [h]
    decide
  constructor
  · obtain ⟨st, hst⟩ := (extra_placement_ok_iff 4294967296 1 false .centralOnly [] (bigRecord 65520) (by decide)).mpr
      ⟨(validateExtraData_ok_iff false _).mp (validate_nil false),
       Or.inr ((validateExtraData_ok_iff false _).mp (bigRecord_valid 65520 (by omega)))⟩
    obtain ⟨h1, _, h3, _⟩ := extra_placement_central_part hst
    refine ⟨st, hst, central_extra_all_err ?_⟩
    rw [hz st h1, h3, centralPart, if_neg (by decide), bigRecord_length]
    omega
  · obtain ⟨st, hst⟩ := (extra_placement_ok_iff 4294967296 1 false .centralOnly [] (bigRecord 65519) (by decide)).mpr
      ⟨(validateExtraData_ok_iff false _).mp (validate_nil false),
       Or.inr ((validateExtraData_ok_iff false _).mp (bigRecord_valid 65519 (by omega)))⟩
    obtain ⟨h1, _, h3, _⟩ := extra_placement_central_part hst
    obtain ⟨x, hx⟩ := (central_extra_all_ok_iff st 26 26).mpr (by
      rw [hz st h1, h3, centralPart, if_neg (by decide), bigRecord_length]
      omega)
    exact ⟨st, x, hst, hx⟩

/-! ## 7. The writer after a refusal

"Truncated records, the ZIP64 header ID and reserved header IDs are rejected with an error" — they are
(`validate_rejects_malformed`).  What the property text does not say, and the crate does: the refusal
leaves the writer in extra-field mode with the rejected bytes still in `extra_field`.  Every later
`start_*` and `finish` runs the same validation first and returns the SAME error with the state unchanged —
for ever —, nothing more reaches the sink (the entries written before are never given a central directory),
and a later `write` reports success and appends to the rejected extra field.  Stated over the full writer
state machine of `Model/Writer.lean` (the one tied to the source by `Tie.WriterSM` / the `write` stream). -/

/-- In the wedged state (`Model.Wedged`: extra-field mode, not closed, the open entry's extra field fails
validation with `e` — what a refusal because of the data leaves, `wedged_of_refusal`) `end_extra_data` and
`end_local_start_central_extra_data` return the validation error and change nothing. -/
theorem refused_extra_data_wedges (ext : Model.WExt) {s : Model.WState} {e : ZErr} (h : Model.Wedged s e) :
    Model.endExtraData ext s = pure (.error e, s) ∧
    Model.endLocalStartCentral ext s = pure (.error e, s) :=
  ⟨Model.endExtraData_wedged ext h, Model.endLocalStartCentral_wedged ext h⟩

/-- The refusal the C17 theorems speak about (`Model.Align.validateExtraData … = .err e`) is the one of
the writer model (`Lemmas.ExtraBridge.validate_of_align`, a corollary of the bridge `validate_bridge`: the two
models of `validate_extra_data` are the same function). -/
theorem wedged_of_refusal {s : Model.WState} {file : Model.FileData} {e : ZErr}
    (hx : s.writingToExtraField = true) (hc : s.inner.isClosed = false)
    (hl : s.files.getLast? = some file)
    (hv : validateExtraData file.largeFile file.extraField = .err e) : Model.Wedged s e :=
  ⟨hx, hc, file, hl, Lemmas.ExtraBridge.validate_of_align (r := .error e) hv⟩

/-- **Every later `start_file`, `start_file_with_extra_data`, `start_file_aligned` (name within 65535
bytes) and `finish` (comment within 65535 bytes) fails with the same error and leaves the writer as it
was** — hence still wedged, so this holds for every later call as well. -/
theorem wedged_forever (ext : Model.WExt) {s : Model.WState} {e : ZErr} (h : Model.Wedged s e)
    (name : Bytes) (o : Model.FileOptions) (al : UInt16) (hn : name.length ≤ 65535)
    (hc : s.comment.length ≤ 65535) :
    Model.startFile ext name o s = pure (.error e, s) ∧
    Model.startFileWithExtraData ext name o s = pure (.error e, s) ∧
    Model.startFileAligned ext name o al s = pure (.error e, s) ∧
    Model.finish ext s = pure (.error e, s) :=
  ⟨Model.startFile_wedged ext name o h hn, Model.startFileWithExtraData_wedged ext name o h hn,
   Model.startFileAligned_wedged ext name o al h hn, Model.finish_wedged ext h hc⟩

/-- **A later `write` goes into the rejected extra field** (and reports success): the only way on is to
complete the data into something valid — impossible once a reserved or ZIP64 ID has been written. -/
theorem wedged_write_lands_in_extra_field (buf : Bytes) {s : Model.WState} {e : ZErr} (h : Model.Wedged s e)
    (hb : buf.isEmpty = false) (hw : s.writingToFile = true) :
    ∃ f, s.files.getLast? = some f ∧
      Model.writeData buf s =
        pure (.ok (), { s with files := Model.setLast s.files { f with extraField := f.extraField ++ buf } }) :=
  Model.writeData_wedged buf h hw

-- a wedged writer: one open entry whose extra field is a ZIP64 record
example : Model.Wedged
    { Model.WState.init with
        files := [{ (default : Model.FileData) with extraField := [0x01, 0x00, 0x00, 0x00] }],
        writingToFile := true, writingToExtraField := true } (.io .other) :=
  ⟨rfl, rfl, _, rfl, rfl⟩

end ZipVerif.Props.C17
