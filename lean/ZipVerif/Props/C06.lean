import ZipVerif.Lemmas.Paths
/-
C06 — Sanitised entry paths can never escape the extraction root.
`Model/Paths.lean` models the two accessors (`enclosed_name`, `mangled_name`) and `Path::components` /
`PathBuf::push` (Unix); the vocabulary (`depth`, `NeverClimbs`, lexical normalisation `resolve`, `StaysInside`)
is in `Spec/Paths.lean`.

Names are `List Char` (a Rust `String`); all statements quantify over every name, of any length.
-/

namespace ZipVerif.Props.C06
open ZipVerif ZipVerif.Spec.Paths ZipVerif.Model.Paths

/-! ### enclosed_name -/

/-- Exact characterisation: `enclosed_name` answers `Some` precisely for the names without NUL that
do not start with '/' and whose component walk never climbs above its starting directory. -/
theorem enclosed_iff (n : Name) :
    (enclosedName n).isSome ↔
      '\x00' ∉ n ∧ n.head? ≠ some '/' ∧ NeverClimbs (components n) := by
  rw [enclosedName_isSome, walk_isSome_iff, rootDir_mem_components_iff]
  simp [NeverClimbs]

/-- The returned path is the name itself (`Some(Path::new(&self.file_name))`). -/
theorem enclosed_is_name {n p : Name} (h : enclosedName n = some p) : p = n :=
  (enclosedName_eq_some.mp h).1

/-- **Soundness.** A returned path contains no NUL, is relative (does not start with '/', has no
`RootDir` component anywhere) and after every initial part of its component walk the depth is ≥ 0. -/
theorem enclosed_sound {n p : Name} (h : enclosedName n = some p) :
    '\x00' ∉ p ∧ p.head? ≠ some '/' ∧ Comp.rootDir ∉ components p ∧
      ∀ k, 0 ≤ depth ((components p).take k) := by
  have hp := enclosed_is_name h
  subst hp
  obtain ⟨h1, h2, h3⟩ := (enclosed_iff p).mp (by rw [h]; rfl)
  exact ⟨h1, h2, fun hm => h2 ((rootDir_mem_components_iff p).mp hm), h3⟩

/-- **Completeness.** `None` is returned only for a name that contains NUL, or is absolute, or whose
walk climbs above its start after some initial part. -/
theorem enclosed_complete {n : Name} (h : enclosedName n = none) :
    '\x00' ∈ n ∨ n.head? = some '/' ∨ ∃ k, depth ((components n).take k) < 0 := by
  have hi := mt (enclosed_iff n).mpr (by simp [h])
  simpa only [NeverClimbs, Classical.not_and_iff_not_or_not, Classical.not_not, Classical.not_forall,
    Int.not_le] using hi

/-- **Joining stays inside.** For every base directory (any list of ordinary components below the
root), lexically normalising `base.join(p)` — after the whole walk and after every initial part of it
— yields `base` followed by something: no step pops an element of `base`, nothing replaces it. -/
theorem enclosed_join_inside {n p : Name} (h : enclosedName n = some p) (base : List Name) :
    StaysInside base (components p) := by
  obtain ⟨rfl, _, hw⟩ := enclosedName_eq_some.mp h
  exact staysInside_of_walk base _ hw

/-- `enclosed_join_inside` at the end of the walk: `resolve(base.join(p)) = base ++ rest`. -/
theorem enclosed_join_prefix {n p : Name} (h : enclosedName n = some p) (base : List Name) :
    ∃ rest, joinResolve base (components p) = base ++ rest := by
  have := enclosed_join_inside h base (components p).length
  rwa [List.take_length] at this

/-- **Joining stays inside ANY base directory** — relative to any working directory `cwd` or absolute,
written with or without "." / "..": after the whole walk and after every initial part of it the
joined path normalises to the directory the base itself denotes, followed by something.
(`enclosed_join_inside` is the instance of an absolute, normalised base: `staysInside_iff_any`.) -/
theorem enclosed_join_inside_any {n p : Name} (h : enclosedName n = some p) (cwd : List Name)
    (base : List Comp) : StaysInsideAny cwd base (components p) := by
  obtain ⟨rfl, _, hw⟩ := enclosedName_eq_some.mp h
  exact staysInsideAny_of_walk cwd base _ hw

/-- `depth += 1` cannot overflow: every value the counter takes is at most `len + 1`, and a Rust
string has `len ≤ isize::MAX`. -/
theorem enclosed_depth_no_overflow (n : Name) (k d : Nat)
    (h : walk ((components n).take k) 0 = some d) : d ≤ n.length + 1 := by
  have h1 := walk_le _ _ _ h
  have h2 := components_length_le n
  have h3 : ((components n).take k).length ≤ (components n).length := by
    rw [List.length_take]; omega
  omega

/-! ### mangled_name -/

/-- `&name[0..first NUL]`: the longest NUL-free prefix. -/
theorem truncNul_spec (n : Name) :
    '\x00' ∉ truncNul n ∧
      ∃ rest, n = truncNul n ++ rest ∧ (rest = [] ∨ rest.head? = some '\x00') :=
  ⟨nul_not_mem_truncNul n, truncNul_append n⟩

/-- Reading the returned `PathBuf` back with `components()` gives exactly the kept components, all
`Normal`, in order (this also justifies the driver printing `mangledComps`). -/
theorem mangled_components (n : Name) :
    components (mangledName n) = (mangledComps n).map Comp.normal := by
  unfold mangledName
  apply components_foldl_push
  intro s hs
  unfold mangledComps at hs
  rw [components_filterMap_normalOnly] at hs
  exact (plain_of_mem_segments_ordinary _ s hs).1

/-- **Specification of `mangled_name`.** The result's components are the `Normal` components — the
'/'-separated segments that are not empty, "." or ".." — taken in order from the part of the name
before the first NUL, with '\\' read as '/'. -/
theorem mangled_spec (n : Name) :
    components (mangledName n) =
      ((segments (toMainSep (truncNul n))).filter ordinary).map Comp.normal := by
  rw [mangled_components]
  unfold mangledComps
  rw [components_filterMap_normalOnly]

/-- Every component of the result is an ordinary file name: non-empty, not "." or "..", without
'/', '\\' or NUL. -/
theorem mangled_components_normal (n s : Name) (hs : s ∈ mangledComps n) :
    s ≠ [] ∧ s ≠ ['.'] ∧ s ≠ ['.', '.'] ∧ '/' ∉ s ∧ '\\' ∉ s ∧ '\x00' ∉ s := by
  unfold mangledComps at hs
  rw [components_filterMap_normalOnly] at hs
  obtain ⟨⟨a, b, c, d⟩, hmem⟩ := plain_of_mem_segments_ordinary _ s hs
  refine ⟨a, c, d, b, fun hm => ?_, fun hm => ?_⟩
  · exact (mem_toMainSep_truncNul n _ (hmem _ hm)).2 rfl
  · exact (mem_toMainSep_truncNul n _ (hmem _ hm)).1 rfl

/-- The result is a relative path and contains no NUL. -/
theorem mangled_relative (n : Name) :
    (mangledName n).head? ≠ some '/' ∧ '\x00' ∉ mangledName n := by
  constructor
  · intro h
    have := (rootDir_mem_components_iff _).mpr h
    rw [mangled_components] at this
    simp at this
  · have hpl : ∀ s ∈ mangledComps n, Plain s := by
      intro s hs
      obtain ⟨a, c, d, b, _, _⟩ := mangled_components_normal n s hs
      exact ⟨a, b, c, d⟩
    unfold mangledName
    rw [foldl_push_nil _ hpl]
    intro hm
    cases hc : mangledComps n with
    | nil => rw [hc] at hm; simp [joinSlash] at hm
    | cons c r =>
      rw [hc] at hm
      simp only [joinSlash, List.mem_append, slashed, List.mem_flatMap, List.mem_cons] at hm
      rcases hm with hm | ⟨s, hs, hm | hm⟩
      · exact (mangled_components_normal n c (by rw [hc]; simp)).2.2.2.2.2 hm
      · exact absurd hm (by decide)
      · exact (mangled_components_normal n s (by rw [hc]; simp [hs])).2.2.2.2.2 hm

/-- **Joining stays inside**, for every name and every base directory. -/
theorem mangled_join_inside (n : Name) (base : List Name) :
    StaysInside base (components (mangledName n)) := by
  apply staysInside_of_walk
  rw [mangled_components, walk_map_normal]; rfl

/-- **Joining a `mangled_name` stays inside ANY base directory**, however the base is written (relative,
unnormalised, from any working directory), for every name. -/
theorem mangled_join_inside_any (n : Name) (cwd : List Name) (base : List Comp) :
    StaysInsideAny cwd base (components (mangledName n)) := by
  apply staysInsideAny_of_walk
  rw [mangled_components, walk_map_normal]; rfl

theorem mangled_join_prefix (n : Name) (base : List Name) :
    ∃ rest, joinResolve base (components (mangledName n)) = base ++ rest := by
  have := mangled_join_inside n base (components (mangledName n)).length
  rwa [List.take_length] at this

-- "a/../b" is accepted, "a/../../b" (climbs after 3 components), "/a", "../a", "a\0" are rejected
example : enclosedName "a/../b".toList = some "a/../b".toList := by decide +kernel
example : enclosedName "a/../../b".toList = none := by decide +kernel
example : depth ((components "a/../../b".toList).take 3) = -1 := by decide +kernel
example : enclosedName "/a".toList = none := by decide +kernel
example : enclosedName "../a".toList = none := by decide +kernel
example : enclosedName ['a', '\x00'] = none := by decide +kernel
example : enclosedName "./a//b/.".toList = some "./a//b/.".toList := by decide +kernel
-- the depth counter on "a/b/../c" after 2 components is 2 (≤ len + 1 = 9)
example : walk ((components "a/b/../c".toList).take 2) 0 = some 2 := by decide +kernel
-- on Unix a backslash is an ordinary character for `enclosed_name` …
example : components "..\\..\\a".toList = [.normal "..\\..\\a".toList] := by decide +kernel
-- … but a separator for `mangled_name`
example : mangledComps "..\\../a\\.\\b".toList = ["a".toList, "b".toList] := by decide +kernel
example : mangledName "/../a\\b/./c".toList = "a/b/c".toList := by decide +kernel
example : mangledName ['a', '/', 'b', '\x00', '/', 'c'] = "a/b".toList := by decide +kernel
-- std `components()` corner cases (validated against the implementation by the `paths` stream)
example : components ".".toList = [.curDir] := by decide +kernel
example : components "./.".toList = [.curDir] := by decide +kernel
example : components "a/.".toList = [.normal ['a']] := by decide +kernel
example : components "//a".toList = [.rootDir, .normal ['a']] := by decide +kernel
example : components "".toList = [] := by decide +kernel
-- the stack machine: joining "a/../b" onto /base/dir stays inside, "../x" would not
example : joinResolve ["base".toList, "dir".toList] (components "a/../b".toList)
    = ["base".toList, "dir".toList, "b".toList] := by decide +kernel
example : joinResolve ["base".toList, "dir".toList] (components "../x".toList)
    = ["base".toList, "x".toList] := by decide +kernel
-- a relative, unnormalised base "../out/./x/.." seen from /home/u: it denotes /home/out, and joining
-- "a/../b" onto it ends in /home/out/b, passing only through /home/out/…
example : resolveFrom ["home".toList, "u".toList] (components "../out/./x/..".toList)
    = ["home".toList, "out".toList] := by decide +kernel
example : resolveFrom ["home".toList, "u".toList]
    (components "../out/./x/..".toList ++ components "a/../b".toList)
    = ["home".toList, "out".toList, "b".toList] := by decide +kernel
example : StaysInsideAny ["home".toList, "u".toList] (components "../out/./x/..".toList)
    (components "a/../b".toList) :=
  enclosed_join_inside_any (n := "a/../b".toList) (by decide +kernel) _ _
-- an absolute base given to a process elsewhere: the `rootDir` component resets the stack
example : resolveFrom ["home".toList] (components "/srv/../tmp".toList ++ components "a/../b".toList)
    = ["tmp".toList, "b".toList] := by decide +kernel
-- "../x" leaves also such a base
example : ¬ StaysInsideAny ["home".toList, "u".toList] (components "../out".toList)
    (components "../x".toList) := by
  intro h
  obtain ⟨rest, hr⟩ := h 1
  have e : resolveFrom ["home".toList, "u".toList]
      (components "../out".toList ++ (components "../x".toList).take 1) = ["home".toList] := by decide +kernel
  have e2 : resolveFrom ["home".toList, "u".toList] (components "../out".toList)
      = ["home".toList, "out".toList] := by decide +kernel
  rw [e, e2] at hr
  have := congrArg List.length hr
  simp at this
example : ¬ StaysInside ["base".toList] (components "../x".toList) := by
  intro h
  obtain ⟨rest, hr⟩ := h 1
  revert hr
  have : joinResolve ["base".toList] ((components "../x".toList).take 1) = [] := by decide +kernel
  rw [this]
  simp

end ZipVerif.Props.C06
