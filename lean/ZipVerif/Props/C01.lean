import ZipVerif.Lemmas.WLOrigin
import ZipVerif.Lemmas.RunFold
import ZipVerif.Lemmas.TailInv
import ZipVerif.Props.C03
/-
C01 — What the writer writes, the reader reads back (Level 1).

The basis is `writer_emits_layout`: on a fault-free sink, after any script of Level-1 calls
(`start_file`, `add_directory`, `add_symlink` — unencrypted —, `write`, `set_comment`,
`raw_copy_file`, misuse of the extra-data calls), if `finish` returns `Ok` the live part of the sink
is EXACTLY `Spec.Zip.build (WL.layoutOf es gap comment [])`, where the entries `es`, the dead bytes
`gap` and the comment are computed from the calls and their outcomes alone by the ghost fold
`WL.ghostOf` (Lemmas/WLRun.lean).  Composed with C03 (`reader_on_wf`, `reader_entry_*`) this gives
the round trip.  `writer_emits_layout_exact` adds what lies behind the live part when the sink was not
empty: the bytes it held there before (compared with the run on the sink cut off at the writer's start
position, Lemmas/TailInv.lean).

`Props/C01Base.lean` holds what needs C12 only (`finish` = `Drop` on the sink, restated here as
`finish_eq_drop`; the central directory is the log of the calls).  The layout and round-trip theorems
for scripts with extra data, alignment and the ZipCrypto option are in `Props/C02Full.lean`.
-/

namespace ZipVerif.Props.C01
open ZipVerif ZipVerif.Model ZipVerif.Spec.Zip ZipVerif.WL
open ZipVerif.Props.C12 (Call step runCalls)

/-! ## The writer emits a layout -/

theorem build_trailing (es : List Spec.Zip.Entry) (gap c t : Bytes) :
    build (layoutOf es gap c t) = build (layoutOf es gap c []) ++ t := by
  have e1 : (layoutOf es gap c t).end64 = (layoutOf es gap c []).end64 := rfl
  have e2 : (layoutOf es gap c t).eocd = (layoutOf es gap c []).eocd := rfl
  have e3 : (layoutOf es gap c t).cdBytes = (layoutOf es gap c []).cdBytes := rfl
  unfold build
  rw [e1, e2, e3]
  simp only [layoutOf, List.append_nil, List.append_assoc]

theorem emits_of_finish (ext : WExt) {es : List Spec.Zip.Entry} {gap c : Bytes} {r : Nat} {s : WState}
    {d : Dev} (h : WSat (finish ext s) none d (fun rs d' =>
      FinalPost es gap c r s d rs d' ∧ (rs.1 = .ok () → rs.2.inner = .closed)))
    {v : Option Nat} {s' : WState} {d' : Dev} (hfin : step ext .finish s none d = (.ok (.ok v, s'), d')) :
    d'.buf.take d'.pos = build (layoutOf es gap c []) ∧
    d'.buf = build (layoutOf es gap c (d'.buf.drop d'.pos)) ∧
    d'.pos ≤ d'.buf.length ∧ d'.buf.length ≤ d'.pos + r ∧
    c.length ≤ 65535 ∧ s'.inner = .closed := by
  have h3 := (C12.mapStep_wsat (fun _ => (none : Option Nat)) (finish ext) s none d _
    (fun rs d' => ∀ v, rs.1 = .ok v →
      (¬ c.length > 65535 ∧ LiveAt d' d'.pos (build (layoutOf es gap c [])) r) ∧ rs.2.inner = .closed)
    h (by
      intro r1 s1 d1 ⟨hpost, hcl⟩
      cases r1 with
      | error e => intro v hv; cases hv
      | ok u =>
        intro v _
        refine ⟨?_, hcl rfl⟩
        unfold FinalPost at hpost
        by_cases hlong : c.length > 65535
        · rw [if_pos hlong] at hpost; cases hpost.1
        · rw [if_neg hlong] at hpost; exact ⟨hlong, hpost.2⟩)).elim hfin
  obtain ⟨⟨hclen, hl⟩, hcl⟩ := h3 v rfl
  refine ⟨hl.eq, ?_, hl.le, hl.rest, by omega, hcl⟩
  rw [build_trailing, ← hl.eq, List.take_append_drop]

theorem emits_of_drop (ext : WExt) {es : List Spec.Zip.Entry} {gap c : Bytes} {r : Nat} {s : WState}
    {d : Dev} (h : WSat (dropWriter ext s) none d (fun rs d' =>
      rs.1 = .ok () ∧ LiveAt d' d'.pos (build (layoutOf es gap c [])) r))
    {v : Option Nat} {s' : WState} {d' : Dev} (hfin : step ext .drop s none d = (.ok (.ok v, s'), d')) :
    d'.buf.take d'.pos = build (layoutOf es gap c []) ∧
    d'.buf = build (layoutOf es gap c (d'.buf.drop d'.pos)) := by
  have h3 := (C12.mapStep_wsat (fun _ => (none : Option Nat)) (dropWriter ext) s none d _
    (fun _ d' => LiveAt d' d'.pos (build (layoutOf es gap c [])) r) h
    (fun _ _ _ hpost => hpost.2)).elim hfin
  refine ⟨h3.eq, ?_⟩
  rw [build_trailing, ← h3.eq, List.take_append_drop]

/-- **`writer_emits_layout`** (general form: from ANY writer state / device in step with a ghost state
`g0` — a fresh writer, or the state `new_append` returns).  After a script of Level-1 calls, if the
ghost can be closed (it is neither poisoned, nor stuck on an entry whose stored size does not fit a
non-ZIP64 header — `finish` fails in both cases, `dead_finish_fails` / `stuck_finish_fails` /
`overflow_finish_fails` —, nor `lost`: a panic outcome, a sink position ≥ 2^64 or a pre-1980 timestamp,
all outside the property's quantifier) and `finish` returns `Ok`, then the live part
of the sink is exactly the layout's bytes; the whole sink is the layout with the stale rest (at most
`r` bytes) as `trailing`; and the writer is closed. -/
theorem writer_emits_layout (ext : WExt) (calls : List Call) (hc : ∀ c ∈ calls, Level1 c)
    (ha : ∀ c ∈ calls, c.Admissible) (r : Nat) (g0 : Ghost) (s0 : WState) (d0 : Dev)
    (hI : Inv s0) (h0 : Lay r g0 s0 d0)
    (es : List Spec.Zip.Entry) (gap c : Bytes)
    (hg : (ghostOf ext g0 calls (runCalls ext calls s0 none d0).1).close ext = some (es, gap, c))
    (v : Option Nat) (s' : WState) (d' : Dev)
    (hfin : step ext .finish (runCalls ext calls s0 none d0).2.1 none
      (runCalls ext calls s0 none d0).2.2 = (.ok (.ok v, s'), d')) :
    d'.buf.take d'.pos = build (layoutOf es gap c []) ∧
    d'.buf = build (layoutOf es gap c (d'.buf.drop d'.pos)) ∧
    d'.pos ≤ d'.buf.length ∧ d'.buf.length ≤ d'.pos + r ∧
    c.length ≤ 65535 ∧ s'.inner = .closed :=
  emits_of_finish ext (finish_ghost ext (run_lay ext calls hc ha r g0 s0 d0 hI h0) hg) hfin

/-- **`writer_emits_layout`, fresh writer** (`ZipWriter::new` on an empty sink): the sink is exactly
`build (layoutOf es gap comment [])`. -/
theorem writer_emits_layout_fresh (ext : WExt) (calls : List Call) (hc : ∀ c ∈ calls, Level1 c)
    (ha : ∀ c ∈ calls, c.Admissible)
    (es : List Spec.Zip.Entry) (gap c : Bytes)
    (hg : (ghostOf ext (.idle [] [] []) calls
      (runCalls ext calls WState.init none (Dev.ofBytes [])).1).close ext = some (es, gap, c))
    (v : Option Nat) (s' : WState) (d' : Dev)
    (hfin : step ext .finish (runCalls ext calls WState.init none (Dev.ofBytes [])).2.1 none
      (runCalls ext calls WState.init none (Dev.ofBytes [])).2.2 = (.ok (.ok v, s'), d')) :
    d'.buf = build (layoutOf es gap c []) ∧ c.length ≤ 65535 ∧ s'.inner = .closed := by
  obtain ⟨h1, _, h3, h4, h5, h6⟩ := writer_emits_layout ext calls hc ha 0 _ _ _ inv_init lay_init_empty
    es gap c hg v s' d' hfin
  refine ⟨?_, h5, h6⟩
  rw [← h1, List.take_of_length_le (by omega)]

/-- **`finish` succeeds** (total form: it returns, and returns `Ok`, unless the sink position has left
the `u64` range): after a Level-1 script, when the ghost closes and the comment fits its length
field, `finish` returns `Ok` and the live part of the sink is the layout. -/
theorem finish_succeeds (ext : WExt) (calls : List Call) (hc : ∀ c ∈ calls, Level1 c)
    (ha : ∀ c ∈ calls, c.Admissible) (r : Nat) (g0 : Ghost) (s0 : WState) (d0 : Dev)
    (hI : Inv s0) (h0 : Lay r g0 s0 d0)
    (es : List Spec.Zip.Entry) (gap c : Bytes) (hclen : c.length ≤ 65535)
    (hg : (ghostOf ext g0 calls (runCalls ext calls s0 none d0).1).close ext = some (es, gap, c)) :
    Sat (finish ext (runCalls ext calls s0 none d0).2.1) none (runCalls ext calls s0 none d0).2.2
      (fun rs d' => rs.1 = .ok () ∧ d'.buf.take d'.pos = build (layoutOf es gap c [])) := by
  have hL := run_lay ext calls hc ha r g0 s0 d0 hI h0
  have hI' := (C12.run_inv ext calls ha s0 hI none d0).1
  apply Sat.mono ((finish_sat ext _ hI' none _).andW (finish_ghost ext hL hg))
  intro rs d' ⟨_, hpost, _⟩
  unfold FinalPost at hpost
  rw [if_neg (by omega)] at hpost
  exact ⟨hpost.1, hpost.2.eq⟩

/-- A poisoned writer (the ghost is `dead`: a refused method/level, or more than 4 GiB written to a
non-ZIP64 entry) cannot be finished: `finish` returns an error and writes nothing. -/
theorem dead_finish_fails (ext : WExt) (calls : List Call) (hc : ∀ c ∈ calls, Level1 c)
    (ha : ∀ c ∈ calls, c.Admissible) (r : Nat) (g0 : Ghost) (s0 : WState) (d0 : Dev)
    (hI : Inv s0) (h0 : Lay r g0 s0 d0)
    (hg : ghostOf ext g0 calls (runCalls ext calls s0 none d0).1 = .dead) :
    ∃ e, finish ext (runCalls ext calls s0 none d0).2.1 =
      pure (.error e, (runCalls ext calls s0 none d0).2.1) := by
  have hL := run_lay ext calls hc ha r g0 s0 d0 hI h0
  rw [hg] at hL
  exact finish_closed ext hL

/-- A stuck writer (the ghost is `stuck`: a non-ZIP64 entry with more than 0xFFFFFFFF stored bytes —
`update_local_file_header` refuses it BEFORE touching the sink, so nothing is corrupted and every later
close is refused the same way) cannot be finished either: `finish` returns an error. -/
theorem stuck_finish_fails (ext : WExt) (calls : List Call) (hc : ∀ c ∈ calls, Level1 c)
    (ha : ∀ c ∈ calls, c.Admissible) (r : Nat) (g0 : Ghost) (s0 : WState) (d0 : Dev)
    (hI : Inv s0) (h0 : Lay r g0 s0 d0) (ss n : Nat) (wf : Bool)
    (hg : ghostOf ext g0 calls (runCalls ext calls s0 none d0).1 = .stuck ss n wf)
    (rs : Except ZErr Unit × WState) (d' : Dev)
    (hfin : finish ext (runCalls ext calls s0 none d0).2.1 none (runCalls ext calls s0 none d0).2.2 =
      (.ok rs, d')) : ∃ e, rs.1 = .error e := by
  have hL := run_lay ext calls hc ha r g0 s0 d0 hI h0
  rw [hg] at hL
  exact (finish_stuck ext hL).elim hfin

/-- `finish` called directly on an open entry that cannot be closed (the ghost is still `opened`,
`Ghost.stuckAt` says the close is refused: more than 0xFFFFFFFF stored bytes in a non-ZIP64 entry)
returns an error, as it does on a stuck writer (`stuck_finish_fails`). -/
theorem overflow_finish_fails (ext : WExt) (calls : List Call) (hc : ∀ c ∈ calls, Level1 c)
    (ha : ∀ c ∈ calls, c.Admissible) (r : Nat) (g0 : Ghost) (s0 : WState) (d0 : Dev)
    (hI : Inv s0) (h0 : Lay r g0 s0 d0) (ss n : Nat) (wf : Bool)
    (hg : (ghostOf ext g0 calls (runCalls ext calls s0 none d0).1).stuckAt ext = some (ss, n, wf))
    (rs : Except ZErr Unit × WState) (d' : Dev)
    (hfin : finish ext (runCalls ext calls s0 none d0).2.1 none (runCalls ext calls s0 none d0).2.2 =
      (.ok rs, d')) : ∃ e, rs.1 = .error e := by
  have hL := run_lay ext calls hc ha r g0 s0 d0 hI h0
  exact (finish_ghost_stuck ext hL hg).elim hfin

/-- `finish` and `Drop` leave identical sinks (contents, position, I/O call
count), on every device and for every fault index on which finalisation SUCCEEDS (`hplain`: a
successful `finalize` leaves the plain storer behind — `finalize_sat` gives it from any `Inv` state).
When finalisation fails, `finish` reports the error and the writer lives on; a dropped writer's
still-alive Deflate/Bzip2 encoder then flushes its stream into the sink from its destructor
(`Model.dropInner`), so the statement is about successful finalisation. -/
theorem finish_eq_drop (ext : WExt) (s : WState) (hs : s.inner.isClosed = false) (fa : Option Nat)
    (d : Dev) (u : Unit) (s1 : WState) (d1 : Dev)
    (hf : finalize ext s fa d = (.ok (.ok u, s1), d1)) (hplain : s1.inner = .storer none) :
    (finish ext s fa d).2 = (dropWriter ext s fa d).2 :=
  C01Base.finish_eq_drop ext s hs fa d u s1 d1 hf hplain

/-- What `Drop` leaves after a Level-1 script is the layout `finish` leaves (`writer_emits_layout`), when
the comment fits its length field (cf. `finish_eq_drop`). -/
theorem drop_emits_layout (ext : WExt) (calls : List Call) (hc : ∀ c ∈ calls, Level1 c)
    (ha : ∀ c ∈ calls, c.Admissible) (r : Nat) (g0 : Ghost) (s0 : WState) (d0 : Dev)
    (hI : Inv s0) (h0 : Lay r g0 s0 d0)
    (es : List Spec.Zip.Entry) (gap c : Bytes) (hclen : c.length ≤ 65535)
    (hg : (ghostOf ext g0 calls (runCalls ext calls s0 none d0).1).close ext = some (es, gap, c))
    (v : Option Nat) (s' : WState) (d' : Dev)
    (hfin : step ext .drop (runCalls ext calls s0 none d0).2.1 none
      (runCalls ext calls s0 none d0).2.2 = (.ok (.ok v, s'), d')) :
    d'.buf.take d'.pos = build (layoutOf es gap c []) ∧
    d'.buf = build (layoutOf es gap c (d'.buf.drop d'.pos)) :=
  emits_of_drop ext (drop_ghost ext (run_lay ext calls hc ha r g0 s0 d0 hI h0) hg (by omega)) hfin

/-! ## The round trip -/

/-- the ghost after the script, run by a fresh writer on an empty sink -/
def finalGhost (ext : WExt) (calls : List Call) : Ghost :=
  ghostOf ext (.idle [] [] []) calls (runCalls ext calls WState.init none (Dev.ofBytes [])).1

/-- the origins of the entries `finish` emits after that run -/
def finalOrigins (ext : WExt) (calls : List Call) : List Origin :=
  (finalGhost ext calls).closeOrigins
    (originsOf ext (.idle [] [] []) [] calls (runCalls ext calls WState.init none (Dev.ofBytes [])).1)

/-- **`write_read_roundtrip`** (C01, archive level).  A fresh writer, any script of Level-1 calls
(raw copies of non-AES sources), `finish` returns `Ok`.  Under the property's own exclusion
"names/comments/data do not embed record signatures" (`NoFalseSig`), a total size below 2^63 and
plaintext sizes below 2^63:
* the sink is exactly the layout `L = layoutOf es gap c []` computed from the calls;
* `ZipArchive::new` on the sink succeeds and returns the entries of `L` in order (`viewOf L`: names,
  methods, times, attributes, sizes, CRCs as recorded — spelled out by `entry_view_fields` below),
  one per origin, `offset() = 0`, and the archive comment set by the last `set_comment`;
* `Layout.Fits` and `Layout.Readable` are DISCHARGED from the writer's own checks (they are
  conclusions, not hypotheses). -/
theorem write_read_roundtrip (ext : WExt) (calls : List Call) (hc : ∀ c ∈ calls, Level1R c)
    (ha : ∀ c ∈ calls, c.Admissible) (es : List Spec.Zip.Entry) (gap c : Bytes)
    (hg : (finalGhost ext calls).close ext = some (es, gap, c))
    (v : Option Nat) (s' : WState) (d' : Dev)
    (hfin : step ext .finish (runCalls ext calls WState.init none (Dev.ofBytes [])).2.1 none
      (runCalls ext calls WState.init none (Dev.ofBytes [])).2.2 = (.ok (.ok v, s'), d'))
    (hS : C03.NoFalseSig (layoutOf es gap c []))
    (hsize : (build (layoutOf es gap c [])).length < 2 ^ 63)
    (hu : ∀ e ∈ es, e.usize.toNat < 2 ^ 63) :
    d'.buf = build (layoutOf es gap c []) ∧
    (layoutOf es gap c []).Fits ∧ (layoutOf es gap c []).Readable ∧
    Forall2 (OriginRel ext) (finalOrigins ext calls) es ∧
    ∃ d1, openArchive.runPure (Dev.ofBytes d'.buf) = (.ok (archiveOf (layoutOf es gap c [])), d1) ∧
      d1.buf = build (layoutOf es gap c []) ∧
      (archiveOf (layoutOf es gap c [])).comment = c ∧
      (archiveOf (layoutOf es gap c [])).offset = 0 ∧
      (archiveOf (layoutOf es gap c [])).files = viewOf (layoutOf es gap c []) ∧
      (archiveOf (layoutOf es gap c [])).files.length = es.length := by
  have hc1 : ∀ c ∈ calls, Level1 c := fun c h => (hc c h).level1
  obtain ⟨hbuf, hclen, _⟩ := writer_emits_layout_fresh ext calls hc1 ha es gap c hg v s' d' hfin
  have hgood : Good (finalGhost ext calls) :=
    good_run ext calls _ _ hc (show Good (.idle [] [] []) from fun e he => by cases he)
  obtain ⟨hF, hR⟩ := layout_fits_readable gap c [] (hgood.close hg) hclen hsize hu
  have htr := traced_final (traced_run ext calls _ _ _ (traced_init ext [] [])) hg
  obtain ⟨d1, h1, h2⟩ := C03.reader_on_wf _ hF hR hS (Or.inl rfl)
  refine ⟨hbuf, hF, hR, htr, d1, by rw [hbuf]; exact h1, h2, rfl, rfl, rfl, ?_⟩
  exact (C03.archive_fields _).2.2.2

/-- Raw read-back: `by_index_raw(i)` on the produced archive returns exactly the stored bytes of
entry `i` (for a raw copy: the bytes that were copied). -/
theorem roundtrip_entry_raw {es : List Spec.Zip.Entry} {gap c : Bytes}
    (hF : (layoutOf es gap c []).Fits) (i : Nat) (e : Spec.Zip.Entry) (he : es[i]? = some e)
    (d : Dev) (hd : d.buf = build (layoutOf es gap c [])) :
    ∃ ds d', (byIndexRaw (archiveOf (layoutOf es gap c [])) i).runPure d = (.ok (ds, e.data), d') ∧
      d'.buf = build (layoutOf es gap c []) := by
  obtain ⟨off, d', _, h2, h3⟩ := C03.reader_entry_raw _ hF i e he d hd
  exact ⟨_, d', h2, h3⟩

theorem fromU16_toU16 {m : Method} (h : writable m = true) : Method.fromU16 m.toU16 = m := by
  cases m with
  | aes => simp [writable] at h
  | unsupported v => simp [writable] at h
  | stored => decide
  | deflated => decide
  | bzip2 => decide
  | zstd => decide

/-- **Reading entry `i` returns its plaintext.**  Entry `i` was started through the writer with
record `f` (unencrypted, a method the writer has an encoder for) and the `write` calls delivered
`plain`; the codec round-trips on it (`Stored` is the identity; for the compressing methods this is
the external-code hypothesis `decode m (compress m l p) = p`).  Then `by_index(i)` read to the end
returns exactly `plain` — the CRC check against the recorded CRC-32 passes. -/
theorem roundtrip_entry_plain (wext : WExt) (rext : Ext) {es : List Spec.Zip.Entry} {gap c : Bytes}
    (hF : (layoutOf es gap c []).Fits) (i : Nat) (e : Spec.Zip.Entry) (he : es[i]? = some e)
    (f : FileData) (plain : Bytes) (hrel : OriginRel wext (.written f plain) e)
    (henc : f.encrypted = false) (hw : writable f.method = true)
    (hcodec : rext.decode f.method (dataOf wext f plain) = .ok plain)
    (pw : Option Bytes) (d : Dev) (hd : d.buf = build (layoutOf es gap c [])) :
    ∃ ds d', (byIndexRead rext (archiveOf (layoutOf es gap c [])) i pw).runPure d =
        (.ok (.ok (ds, .ok plain)), d') ∧ d'.buf = build (layoutOf es gap c []) := by
  obtain ⟨dp, gap0, _, hre⟩ := hrel
  have hm : Method.fromU16 e.method = f.method := by rw [hre]; exact fromU16_toU16 hw
  refine C03.reader_entry_decoded rext _ hF i e he pw ?_ ?_ plain ?_ ?_ d hd
  · rw [hre]; exact flagOf_plain _ henc
  · rw [hm]; cases hf : f.method <;> simp_all [writable, Method.decodable]
  · rw [hm, hre]; exact hcodec
  · rw [hre]; rfl

/-- What the reader reports for an entry written through the writer, field by field: the raw name,
the method, the DOS time, the attributes (hence the Unix mode), CRC-32 = CRC-32 of the plaintext,
uncompressed size = its length, compressed size = length of the stored bytes. -/
theorem entry_view_fields (wext : WExt) (e : Spec.Zip.Entry) (f : FileData) (plain : Bytes)
    (hrel : OriginRel wext (.written f plain) e) (hw : writable f.method = true) (off pre chs : Nat) :
    let v := viewEntry e off pre chs
    v.fileNameRaw = f.fileName ∧ v.method = f.method ∧
    v.crc32 = Spec.Crc32.crc32 plain ∧ v.uncompressedSize = UInt64.ofNat plain.length ∧
    v.compressedSize = UInt64.ofNat (dataOf wext f plain).length ∧
    (∃ dp, f.time.datepart = some dp ∧ v.time = DateTime.fromMsdos dp f.time.timepart) ∧
    v.externalAttributes = f.externalAttributes ∧
    v.unixMode.map UInt32.toNat =
      unixModeSpec ((f.system.discr <<< 8) ||| f.versionMadeBy.toUInt16) f.externalAttributes := by
  obtain ⟨dp, gap0, hdp, hre⟩ := hrel
  subst hre
  refine ⟨rfl, fromU16_toU16 hw, rfl, rfl, rfl, ⟨dp, hdp, rfl⟩, rfl, ?_⟩
  exact C03.unix_mode_spec _ off pre chs

/-- The record `start_entry` pushes carries the call's arguments: name, method, level, time, and the
permissions in the upper half of the external attributes, host system Unix. -/
theorem mkRec_fields (name : Bytes) (o : FileOptions) (raw : Option (UInt32 × UInt64 × UInt64))
    (hs : Nat) (ds : UInt64) :
    (mkRec name o raw hs ds).fileName = name ∧ (mkRec name o raw hs ds).method = o.method ∧
    (mkRec name o raw hs ds).level = o.level ∧ (mkRec name o raw hs ds).time = o.time ∧
    (mkRec name o raw hs ds).externalAttributes = (o.permissions.getD 0o100644) <<< 16 ∧
    (mkRec name o raw hs ds).system = .unix ∧
    (mkRec name o raw hs ds).encrypted = o.encryptWith.isSome :=
  ⟨rfl, rfl, rfl, rfl, rfl, rfl, rfl⟩

/-! ## Non-vacuity: concrete scripts evaluated through the model by the kernel -/

/-- a toy codec: "compression" appends a marker byte, decoding strips it -/
def wext1 : WExt := ⟨fun _ _ b => b ++ [0xEE], fun _ b => b⟩
def rext1 : Ext :=
  { decode := fun m b => if m = .stored then .ok b else .ok b.dropLast
    zipCrypto := fun _ _ _ => .ok none
    aes := fun _ _ _ _ => .ok none }

/-- the source entry of a raw copy (Deflated, 3 stored bytes) -/
def srcRec : FileData :=
  { (default : FileData) with method := .deflated, crc32 := 0x12345678, compressedSize := 3, uncompressedSize := 7, time := DateTime.default }

/-- misuse (write before any file, write after a directory, `end_extra_data` never begun) mixed with a
stored file written in two pieces, a directory, a "compressed" file and a comment -/
def script1 : List Call :=
  [.write [9], .startFile [0x61] (C12.opts .stored none), .write [1, 2, 3], .write [4],
   .addDirectory [0x64] (C12.opts .stored none), .write [7], .endExtraData,
   .startFile [0x62] (C12.opts .deflated (some 6)), .write [5, 6], .setComment [0x68, 0x69]]

/-- a raw copy, a stray `write` after it (its byte becomes dead bytes before the next record), a symlink -/
def script2 : List Call :=
  [.rawCopy srcRec [0xA, 0xB, 0xC] [0x72], .write [0x99],
   .addSymlink [0x6c] [0x61] (C12.opts .stored none)]

def finishDev (ext : WExt) (calls : List Call) : Option Dev :=
  let run := runCalls ext calls WState.init none (Dev.ofBytes [])
  match step ext .finish run.2.1 none run.2.2 with
  | (.ok (.ok _, _), d') => some d'
  | _ => none

theorem finishDev_some {ext : WExt} {calls : List Call} {d' : Dev} (h : finishDev ext calls = some d') :
    ∃ v s', step ext .finish (runCalls ext calls WState.init none (Dev.ofBytes [])).2.1 none
      (runCalls ext calls WState.init none (Dev.ofBytes [])).2.2 = (.ok (.ok v, s'), d') := by
  unfold finishDev at h
  dsimp only at h
  split at h
  · next v s' d'' heq => cases h; exact ⟨v, s', heq⟩
  · cases h

/-- the device `finishDev` returns holds the layout the ghost closes to (`writer_emits_layout_fresh`) -/
theorem finishDev_sink {ext : WExt} {calls : List Call} (hc : ∀ c ∈ calls, Level1 c)
    (ha : ∀ c ∈ calls, c.Admissible) {es : List Spec.Zip.Entry} {gap c : Bytes} {d' : Dev}
    (hg : (finalGhost ext calls).close ext = some (es, gap, c)) (hd : finishDev ext calls = some d') :
    d'.buf = build (layoutOf es gap c []) := by
  obtain ⟨v, s', hfin⟩ := finishDev_some hd
  exact (writer_emits_layout_fresh ext calls hc ha es gap c hg v s' d' hfin).1

/-- the run of the script with `finish` appended ends on the device `finishDev` returns -/
theorem finishDev_run {ext : WExt} {calls : List Call} {d' : Dev} (h : finishDev ext calls = some d')
    (hp : ∀ o ∈ (runCalls ext calls WState.init none (Dev.ofBytes [])).1, o.isPanic = false) :
    (runCalls ext (calls ++ [.finish]) WState.init none (Dev.ofBytes [])).2.2 = d' := by
  obtain ⟨v, s', hfin⟩ := finishDev_some h
  rw [runCalls_snoc _ _ _ _ _ _ hp, hfin]
  rfl

private theorem script12_ok : ∀ c ∈ script1 ++ script2, Level1R c ∧ c.Admissible := by decide

example : ∀ c ∈ script1 ++ script2, Level1R c ∧ c.Admissible := script12_ok

/-- `writer_emits_layout_fresh` on `script1`: its hypotheses hold (the ghost closes, `finish` is `Ok`),
and the conclusion is what the model computes; the entries are the expected ones. -/
example :
    (match (finalGhost wext1 script1).close wext1, finishDev wext1 script1 with
     | some (es, gap, c), some d' =>
       d'.buf == build (layoutOf es gap c []) && c == [0x68, 0x69] &&
       es.map Spec.Zip.Entry.name == [[0x61], [0x64, 0x2f], [0x62]] &&
       es.map Spec.Zip.Entry.data == [[1, 2, 3, 4], [], [5, 6, 0xEE]]
     | _, _ => false) = true := by
  have hev : (match (finalGhost wext1 script1).close wext1, finishDev wext1 script1 with
     | some (es, _, c), some _ =>
       c == [0x68, 0x69] && es.map Spec.Zip.Entry.name == [[0x61], [0x64, 0x2f], [0x62]] &&
       es.map Spec.Zip.Entry.data == [[1, 2, 3, 4], [], [5, 6, 0xEE]]
     | _, _ => false) = true := by decide +kernel
  split at hev
  next es gap c d' hg hd =>
    have hb := finishDev_sink (fun c h => (script12_ok c (List.mem_append_left _ h)).1.level1)
      (fun c h => (script12_ok c (List.mem_append_left _ h)).2) hg hd
    simp only [Bool.and_eq_true, beq_iff_eq] at hev ⊢
    exact ⟨⟨⟨hb, hev.1.1⟩, hev.1.2⟩, hev.2⟩
  · cases hev

example :
    (match (finalGhost wext1 script2).close wext1, finishDev wext1 script2 with
     | some (es, gap, c), some d' =>
       d'.buf == build (layoutOf es gap c []) &&
       es.map Spec.Zip.Entry.name == [[0x72], [0x6c]] &&
       es.map Spec.Zip.Entry.data == [[0xA, 0xB, 0xC], [0x61]] &&
       es.map Spec.Zip.Entry.gapBefore == [[], [0x99]]
     | _, _ => false) = true := by
  have hev : (match (finalGhost wext1 script2).close wext1, finishDev wext1 script2 with
     | some (es, _, _), some _ =>
       es.map Spec.Zip.Entry.name == [[0x72], [0x6c]] &&
       es.map Spec.Zip.Entry.data == [[0xA, 0xB, 0xC], [0x61]] &&
       es.map Spec.Zip.Entry.gapBefore == [[], [0x99]]
     | _, _ => false) = true := by decide +kernel
  split at hev
  next es gap c d' hg hd =>
    have hb := finishDev_sink (fun c h => (script12_ok c (List.mem_append_right _ h)).1.level1)
      (fun c h => (script12_ok c (List.mem_append_right _ h)).2) hg hd
    simp only [Bool.and_eq_true, beq_iff_eq] at hev ⊢
    exact ⟨⟨⟨hb, hev.1.1⟩, hev.1.2⟩, hev.2⟩
  · cases hev

/-- the remaining hypotheses of `write_read_roundtrip` on `script1` -/
example :
    (match (finalGhost wext1 script1).close wext1 with
     | some (es, gap, c) =>
       decide (Spec.Zip.NoFalseSig (layoutOf es gap c [])) &&
       decide ((build (layoutOf es gap c [])).length < 2 ^ 63) &&
       decide (∀ e ∈ es, e.usize.toNat < 2 ^ 63)
     | none => false) = true := by decide +kernel

/-- the reader model returns the expected entries, and the plaintext of entry 2 (through the toy
decoder), on the bytes the writer model produced for `script1` -/
example :
    (match finishDev wext1 script1 with
     | some d' =>
       (match openArchive.runPure (Dev.ofBytes d'.buf) with
        | (.ok a, d1) =>
          a.comment == [0x68, 0x69] && a.files.map (·.fileName) == [[0x61], [0x64, 0x2f], [0x62]] &&
          a.files.map (·.method) == [.stored, .stored, .deflated] &&
          a.files.map (·.unixMode) == [some 0o100644, some 0o40755, some 0o100644] &&
          a.files.map (·.crc32) == [Spec.Crc32.crc32 [1, 2, 3, 4], 0, Spec.Crc32.crc32 [5, 6]] &&
          (match ((byIndexRead rext1 a 2 none).runPure d1).1 with
           | .ok (.ok (_, .ok content)) => content == [5, 6]
           | _ => false)
        | _ => false)
     | none => false) = true := by
  -- the reader is evaluated on the layout's bytes, which the sink equals (`writer_emits_layout_fresh`):
  -- reading the sink itself, a tower of `writeAt`s, is several times dearer
  have hev : (match (finalGhost wext1 script1).close wext1, finishDev wext1 script1 with
     | some (es, gap, c), some _ =>
       (match openArchive.runPure (Dev.ofBytes (build (layoutOf es gap c []))) with
        | (.ok a, d1) =>
          a.comment == [0x68, 0x69] && a.files.map (·.fileName) == [[0x61], [0x64, 0x2f], [0x62]] &&
          a.files.map (·.method) == [.stored, .stored, .deflated] &&
          a.files.map (·.unixMode) == [some 0o100644, some 0o40755, some 0o100644] &&
          a.files.map (·.crc32) == [Spec.Crc32.crc32 [1, 2, 3, 4], 0, Spec.Crc32.crc32 [5, 6]] &&
          (match ((byIndexRead rext1 a 2 none).runPure d1).1 with
           | .ok (.ok (_, .ok content)) => content == [5, 6]
           | _ => false)
        | _ => false)
     | _, _ => false) = true := by decide +kernel
  split at hev
  next es gap c d' hg hd =>
    rw [hd]
    dsimp only
    rw [finishDev_sink (fun c h => (script12_ok c (List.mem_append_left _ h)).1.level1)
      (fun c h => (script12_ok c (List.mem_append_left _ h)).2) hg hd]
    exact hev
  · cases hev

/-- the origins of `script1`: three entries written through the writer, with their plaintexts -/
example :
    (match finalOrigins wext1 script1 with
     | [.written f1 p1, .written f2 p2, .written f3 p3] =>
       f1.fileName == [0x61] && p1 == [1, 2, 3, 4] && f2.fileName == [0x64, 0x2f] && p2 == [] &&
       f3.fileName == [0x62] && p3 == [5, 6] && f3.method == .deflated &&
       !f1.encrypted && writable f3.method &&
       (match rext1.decode f3.method (dataOf wext1 f3 p3) with | .ok b => b == p3 | _ => false)
     | _ => false) = true := by decide +kernel

/-- a poisoned script: an unsupported method makes `start_file` fail and the ghost `dead`;
`finish` then fails (`dead_finish_fails`) -/
example :
    (match finalGhost wext1 [.startFile [0x61] (C12.opts (.unsupported 1) none)] with
     | .dead => true
     | _ => false) = true ∧
    finishDev wext1 [.startFile [0x61] (C12.opts (.unsupported 1) none)] = none := by decide +kernel

/-! ## What is left behind the archive

The run on the sink and the run on the same sink cut off at the writer's start position agree call by call
(`Model.tail_step`, Lemmas/TailInv.lean); the cut-off sink has no stale bytes, so `writer_emits_layout` with `r = 0`
gives its whole contents; hence the sink is that layout followed by what it held there before. -/

theorem tail_run (B : Bytes) (ext : WExt) : ∀ (calls : List Call) (s : WState) (d t : Dev), Tail B d t →
    (runCalls ext calls s none d).1 = (runCalls ext calls s none t).1 ∧
    (runCalls ext calls s none d).2.1 = (runCalls ext calls s none t).2.1 ∧
    Tail B (runCalls ext calls s none d).2.2 (runCalls ext calls s none t).2.2
  | [], _, _, _, h => ⟨rfl, rfl, h⟩
  | c :: cs, s, d, t, h => by
    obtain ⟨o, e, e', h1, h2, hv⟩ := tail_step B ext c s d t h
    simp only [runCalls, h1, h2]
    rcases o with ⟨_ | _, s'⟩ | _ | _
    · obtain ⟨k1, k2, k3⟩ := tail_run B ext cs s' e e' hv
      exact ⟨by simp only [k1], k2, k3⟩
    · obtain ⟨k1, k2, k3⟩ := tail_run B ext cs s' e e' hv
      exact ⟨by simp only [k1], k2, k3⟩
    · obtain ⟨k1, k2, k3⟩ := tail_run B ext cs s e e' hv
      exact ⟨by simp only [k1], k2, k3⟩
    · exact ⟨rfl, rfl, hv⟩

/-- the invariant's idle shape does not look behind the position: it holds of the cut-off sink with no stale bytes -/
theorem lay_idle_cut {r : Nat} {done : List Spec.Zip.Entry} {gap c : Bytes} {s : WState} {d : Dev}
    (h : Lay r (.idle done gap c) s d) : Lay 0 (.idle done gap c) s d.cut := by
  obtain ⟨⟨hl, hc, hi, hw⟩, h2⟩ := h
  refine ⟨⟨⟨?_, ?_, ?_⟩, hc, hi, hw⟩, h2⟩
  · show d.pos ≤ (d.buf.take d.pos).length
    rw [List.length_take]; exact Nat.le_min.mpr ⟨Nat.le_refl _, hl.le⟩
  · show (d.buf.take d.pos).take d.pos = _
    rw [List.take_take, Nat.min_self]; exact hl.eq
  · show (d.buf.take d.pos).length ≤ d.pos + 0
    rw [List.length_take]; omega

/-- The sink after a script and `finish`, from what a layout theorem (here `writer_emits_layout`) says about the run
on the sink itself (`hd`) and about the run on the cut-off sink, which has no stale bytes (`hcut`). -/
theorem exact_of_cut (ext : WExt) (calls : List Call) (s0 : WState) (d0 : Dev) (hle : d0.pos ≤ d0.buf.length)
    (L : Bytes) {v : Option Nat} {s' : WState} {d' : Dev}
    (hfin : step ext .finish (runCalls ext calls s0 none d0).2.1 none (runCalls ext calls s0 none d0).2.2 =
      (.ok (.ok v, s'), d'))
    (hd : d'.buf.take d'.pos = L)
    (hcut : ∀ e', step ext .finish (runCalls ext calls s0 none d0.cut).2.1 none
      (runCalls ext calls s0 none d0.cut).2.2 = (.ok (.ok v, s'), e') → e'.buf = L ∧ e'.pos = e'.buf.length) :
    d'.buf = L ++ d0.buf.drop L.length ∧ d'.buf.drop d'.pos = d0.buf.drop L.length := by
  obtain ⟨_, k2, k3⟩ := tail_run d0.buf ext calls s0 d0 d0.cut (Tail.init d0 hle)
  obtain ⟨o, e, e', f1, f2, hv⟩ := tail_step d0.buf ext .finish _ _ _ k3
  rw [hfin] at f1
  obtain ⟨rfl, rfl⟩ := Prod.mk.inj f1
  obtain ⟨m1, m2⟩ := hcut e' (by rw [← k2]; exact f2)
  have hst : d'.buf.drop d'.pos = d0.buf.drop L.length := by
    rw [← m1, ← hv.tail, hv.pos, m2]
  refine ⟨?_, hst⟩
  rw [← hst, ← hd, List.take_append_drop]

/-- **`writer_emits_layout` with the stale bytes named**: from any state between entries, on any sink, after a
Level-1 script and a successful `finish` the sink is the layout followed by what the sink held behind its end when the
writer got it (nothing, if the archive grew beyond the old contents). -/
theorem writer_emits_layout_exact (ext : WExt) (calls : List Call) (hc : ∀ c ∈ calls, Level1 c)
    (ha : ∀ c ∈ calls, c.Admissible) (r : Nat) (done : List Spec.Zip.Entry) (gap0 c0 : Bytes) (s0 : WState) (d0 : Dev)
    (hI : Inv s0) (h0 : Lay r (.idle done gap0 c0) s0 d0) (es : List Spec.Zip.Entry) (gap c : Bytes)
    (hg : (ghostOf ext (.idle done gap0 c0) calls (runCalls ext calls s0 none d0).1).close ext = some (es, gap, c))
    (v : Option Nat) (s' : WState) (d' : Dev)
    (hfin : step ext .finish (runCalls ext calls s0 none d0).2.1 none (runCalls ext calls s0 none d0).2.2 =
      (.ok (.ok v, s'), d')) :
    d'.buf = build (layoutOf es gap c (d0.buf.drop (build (layoutOf es gap c [])).length)) ∧
    d'.buf.drop d'.pos = d0.buf.drop (build (layoutOf es gap c [])).length := by
  obtain ⟨n1, _⟩ := writer_emits_layout ext calls hc ha _ _ s0 d0 hI h0 es gap c hg v s' d' hfin
  have hg' := hg
  rw [(tail_run d0.buf ext calls s0 d0 d0.cut (Tail.init d0 h0.1.live.le)).1] at hg'
  rw [build_trailing]
  refine exact_of_cut ext calls s0 d0 h0.1.live.le _ hfin n1 fun e' he => ?_
  obtain ⟨m1, _, m3, m4, _⟩ := writer_emits_layout ext calls hc ha 0 _ s0 d0.cut hI (lay_idle_cut h0)
    es gap c hg' v s' e' he
  exact ⟨by rw [← m1, List.take_of_length_le (by omega)], by omega⟩

/-- `writer_emits_layout_exact` with the hypotheses on the start state in their executable form (`layIdleB`, and what
`inv_idle` asks beyond it), for concrete states such as the one `new_append` returns. -/
theorem writer_emits_layout_exact_idleB (ext : WExt) (calls : List Call) (hc : ∀ c ∈ calls, Level1 c)
    (ha : ∀ c ∈ calls, c.Admissible) (done : List Spec.Zip.Entry) (gap0 : Bytes) (s0 : WState) (d0 : Dev)
    (hB : layIdleB done gap0 s0 d0 = true) (hco : s0.centralOnly = false) (ht : ∀ f ∈ s0.files, TimeOk f.time)
    (es : List Spec.Zip.Entry) (gap c : Bytes)
    (hg : (ghostOf ext (.idle done gap0 s0.comment) calls (runCalls ext calls s0 none d0).1).close ext =
      some (es, gap, c))
    (v : Option Nat) (s' : WState) (d' : Dev)
    (hfin : step ext .finish (runCalls ext calls s0 none d0).2.1 none (runCalls ext calls s0 none d0).2.2 =
      (.ok (.ok v, s'), d')) :
    d'.buf = build (layoutOf es gap c (d0.buf.drop (build (layoutOf es gap c [])).length)) ∧
    d'.buf.drop d'.pos = d0.buf.drop (build (layoutOf es gap c [])).length := by
  have hl := hB
  simp only [layIdleB, Bool.and_eq_true, decide_eq_true_eq, beq_iff_eq, Bool.not_eq_true'] at hl
  exact writer_emits_layout_exact ext calls hc ha _ done gap0 s0.comment s0 d0
    (inv_idle hl.1.1.1.2 hl.1.1.2 hl.1.2 hco ht) (layIdleB_sound hB) es gap c hg v s' d' hfin

/-- the archive `new_append` is run on below: one stored entry and a 40-byte comment -/
def oldScript : List Call :=
  [.startFile [0x61] (C12.opts .stored none), .write [1, 2, 3], .setComment (List.replicate 40 0x41)]

private theorem oldScript_ok : ∀ c ∈ oldScript, Level1 c ∧ c.Admissible := by decide

/-- The general form of `writer_emits_layout` applies to the state `new_append` REALLY returns (the
model's `newAppend` run on the bytes the writer model produced for `oldScript`): the `.idle` case of the
invariant `Lay` holds with `done` = the old entries (evaluated in its executable form `layIdleB`), so do the
hypotheses of `inv_idle` for the C12 invariant; and after `set_comment("")` + `finish` the sink is the layout of
the old entries with the 40 bytes of the old, longer end record left over as `trailing`. -/
example :
    (match (finalGhost wext1 oldScript).close wext1, finishDev wext1 oldScript with
     | some (es, gap, c), some d0 =>
       (match newAppend none (Dev.ofBytes d0.buf) with
        | (.ok s, d) =>
          layIdleB es gap s d && s.comment == c && !s.centralOnly &&
          s.files.all (fun f => decide (¬ f.time.year < 1980)) &&
          (let calls : List Call := [.setComment []]
           let run := runCalls wext1 calls s none d
           match (ghostOf wext1 (.idle es gap s.comment) calls run.1).close wext1,
             step wext1 .finish run.2.1 none run.2.2 with
           | some (es', gap', c'), (.ok (.ok _, _), d') =>
             d'.buf == build (layoutOf es' gap' c' (d'.buf.drop d'.pos)) &&
             d'.buf.take d'.pos == build (layoutOf es' gap' c' []) &&
             (d'.buf.drop d'.pos).length == 40 && es'.length == 1 && c' == []
           | _, _ => false)
        | _ => false)
     | _, _ => false) = true := by
  -- evaluated: `new_append` on the layout's bytes (which the first sink equals, `finishDev_sink`), the hypotheses on the
  -- state it returns, the ghost, and the length of what the new layout leaves of the old one; the three statements about
  -- the second sink are `writer_emits_layout_exact_idleB`
  have hev : (match (finalGhost wext1 oldScript).close wext1, finishDev wext1 oldScript with
     | some (es, gap, c), some _ =>
       (match newAppend none (Dev.ofBytes (build (layoutOf es gap c []))) with
        | (.ok s, d) =>
          layIdleB es gap s d && s.comment == c && !s.centralOnly &&
          s.files.all (fun f => decide (¬ f.time.year < 1980)) &&
          (let calls : List Call := [.setComment []]
           let run := runCalls wext1 calls s none d
           match (ghostOf wext1 (.idle es gap s.comment) calls run.1).close wext1,
             step wext1 .finish run.2.1 none run.2.2 with
           | some (es', gap', c'), (.ok (.ok _, _), _) =>
             ((build (layoutOf es gap c [])).drop (build (layoutOf es' gap' c' [])).length).length == 40 &&
             es'.length == 1 && c' == []
           | _, _ => false)
        | _ => false)
     | _, _ => false) = true := by decide +kernel
  split at hev
  next es gap c d0 hg hd =>
    have hb := finishDev_sink (fun c h => (oldScript_ok c h).1) (fun c h => (oldScript_ok c h).2) hg hd
    rw [hb]
    split at hev
    next s d hs =>
      have hdb : d.buf = build (layoutOf es gap c []) := by
        have hro := newAppend_readOnly
        unfold ReadOnly at hro
        have := hro none (Dev.ofBytes (build (layoutOf es gap c [])))
        rw [hs] at this
        exact this
      simp only [Bool.and_eq_true] at hev ⊢
      obtain ⟨⟨⟨⟨hB, hc⟩, hco⟩, ht⟩, hin⟩ := hev
      refine ⟨⟨⟨⟨hB, hc⟩, hco⟩, ht⟩, ?_⟩
      split at hin
      next es' gap' c' v s' d' hg' hfin =>
        have hco' : s.centralOnly = false := by simpa using hco
        have ht' : ∀ f ∈ s.files, TimeOk f.time := fun f hf =>
          (of_decide_eq_true (List.all_eq_true.mp ht f hf) : ¬ f.time.year < 1980)
        obtain ⟨h1, h2⟩ := writer_emits_layout_exact_idleB wext1 [.setComment []] (by decide) (by decide) es gap s d hB hco' ht'
          es' gap' c' hg' v s' d' hfin
        simp only [Bool.and_eq_true, beq_iff_eq] at hin ⊢
        refine ⟨⟨⟨⟨?_, ?_⟩, ?_⟩, hin.1.2⟩, hin.2⟩
        · rw [h2]; exact h1
        · have e := List.take_append_drop d'.pos d'.buf
          rw [h2] at e
          exact List.append_cancel_right (e.trans (h1.trans (build_trailing ..)))
        · rw [h2, hdb]; exact hin.1.1
      · cases hin
    · cases hev
  · cases hev

end ZipVerif.Props.C01
