import ZipVerif.Lemmas.ExtraBridge
import ZipVerif.Lemmas.EntryBridgeAes
import ZipVerif.Props.C16
/-
C16 — two bridges.  First half: the two hand-written models of `parse_extra_field` agree.  Second half: the C16
theorems about `validate` / `read` carried to every AES entry of every byte string `ZipArchive::new` accepts.

The C16 theorems about open-time decisions (`Props/C16.lean`: which records are accepted, which method and
AES mode result) are stated over `Model.Aes.parseExtraLoop` / `parseEntryExtra`, a model that keeps only the
six fields of `ZipFileData` the function touches.  The model tied to the translated source is
`Model.parseExtraField` (`Tie.Parsers.tie_parse_extra_field`).  The theorems below show that the former IS
the latter seen through `extraView`, for every record, every extra field and every adequate fuel — so the
tie reaches the C16 theorems.  Proofs of this half are in `Lemmas/ExtraBridge.lean`.
-/

namespace ZipVerif.Props.C16Bridge
open ZipVerif ZipVerif.Model ZipVerif.Lemmas.ExtraBridge

/-- **`parse_extra_field`: the C16 model and the reader model agree** on the outcome (Ok / the error that
ended the loop) and on every field the function can change. -/
theorem parse_extra_models_agree (fuel : Nat) (f : FileData) (extra : Bytes) (h : extra.length < fuel) :
    Aes.parseExtraLoop 0 extra (extraView f) =
      (outOf (parseExtraField fuel f extra).2, extraView (parseExtraField fuel f extra).1) :=
  parseExtra_bridge fuel f extra h

/-- **`parseEntryExtra` is the tail of `central_header_to_zip_file`** as the reader model has it
(`Model.centralHeaderInner`, with the fuel that function uses: the length of the extra field + 1). -/
theorem entry_extra_is_reader_tail (f : FileData) (extra : Bytes) :
    Aes.parseEntryExtra (extraView f) extra = readerTail f extra :=
  parseEntryExtra_bridge f extra

/-- The view loses nothing the C16 theorems speak about: method 99 is seen as it is (the AES mode and version go
through the renamings `modeView`, `verView` in the definition of `extraView`). -/
theorem view_method_aes_iff (f : FileData) : (extraView f).method = Aes.Method.aes ↔ f.method = Model.Method.aes :=
  methodView_aes_iff f.method

theorem view_fromU16 (v : UInt16) : methodView (Model.Method.fromU16 v) = Aes.Method.fromU16 v :=
  methodView_fromU16 v

-- non-vacuity: a method-99 record with an AE-2 / AES-256 / Deflate record, on both sides
example : readerTail { (default : FileData) with method := .aes } [0x01, 0x99, 7, 0, 2, 0, 0x41, 0x45, 3, 8, 0] =
    .ok { uncompressedSize := 0, compressedSize := 0, headerStart := 0, largeFile := false,
          aesMode := some (.aes256, .ae2), method := .deflated } := by rfl
example : Aes.parseEntryExtra (extraView { (default : FileData) with method := .aes })
      [0x01, 0x99, 7, 0, 2, 0, 0x41, 0x45, 3, 8, 0] =
    .ok { uncompressedSize := 0, compressedSize := 0, headerStart := 0, largeFile := false,
          aesMode := some (.aes256, .ae2), method := .deflated } := by rfl
-- a ZIP64 record in front of it; a truncated AES record (swallowed I/O error, then method 99 without a mode)
example : readerTail { (default : FileData) with method := .aes, compressedSize := 0xFFFFFFFF }
      ([0x01, 0x00, 8, 0, 100, 0, 0, 0, 0, 0, 0, 0] ++ [0x01, 0x99, 7, 0, 1, 0, 0x41, 0x45, 1, 0, 0]) =
    .ok { uncompressedSize := 0, compressedSize := 100, headerStart := 0, largeFile := true,
          aesMode := some (.aes128, .ae1), method := .stored } := by rfl
example : readerTail { (default : FileData) with method := .aes } [0x01, 0x99, 7, 0, 2, 0, 0x41] =
    .err .invalidArchive := by rfl

/-! ## C16 at ARCHIVE level: every byte string `ZipArchive::new` accepts, every entry with an AES extra record

The theorems of `Props/C16.lean` speak about `AesReader::validate` / `AesReaderValid::read` / `ZipFile::read` with
free parameters (mode, declared length, the bytes underneath).  `Lemmas/EntryBridgeAes.lean` connects them with the
reader model: `openArchive` (the parsed central record: flag, 0x9901 record, `compressed_size`, CRC),
`find_content` (the data start from the LOCAL header), `make_crypto_reader`'s decision (`byIndexRead` IS
`cryptoChoice` followed by the layers: `Tie/ReaderGlue.byIndexRead_eq_choice`, `tie_make_crypto_reader`), the
crate's AES layer as `Model.cryptoExt` (`Aes.validate`, `Aes.Valid.read`: the functions `Tie/AesValidate`,
`Tie/AesLayer`, `Tie/AesCtr` tie to the translated `validate`, `read` and key stream). -/

/-- **Tampering of an AES entry of an accepted archive is detected no later than end-of-file.**  `bs` is ANY
byte string `ZipArchive::new` accepts, `i` any entry with the encryption flag and an AES extra record,
`by_index_decrypt(i, pw)` returns `r`:

* `r = Err(InvalidPassword)` exactly when the two bytes behind the salt are not the verifier derived from `pw` and
  the salt (a changed salt or verifier ends here, up to PBKDF2);
* `r = Ok(file)` with read-to-end result `res`: the verifier is the derived one, and for EVERY short-read schedule
  of a reader holding the stored bytes `validate` hands out `aesReader .. sc`, and EITHER the declared payload and
  the 10-byte code are all there and the code is `HMAC-SHA1(k_mac(pw, salt), payload)[0..10]`, OR `res` is an I/O
  error and NO run - `AesReaderValid::read` with any caller buffers; `ZipFile::read` with any error-propagating
  decoder, `Crc32Reader`, `finish_crypto` - is a sequence of successful reads followed by `Ok(0)` on a non-empty
  buffer (`Aes.NeverEof`).  So after any change to salt, verifier, ciphertext, code or the declared size that
  breaks the two equations (which is what HMAC is for), reading fails before or at end-of-file. -/
theorem archive_aes_tamper_detected (P : Aes.AesPrims) (hW : P.WF) (decode : Method → Bytes → Out Bytes)
    (bs : Bytes) {fa₀ : Option Nat} {a : Archive} {d₀ : Dev}
    (hopen : openArchive fa₀ (Dev.ofBytes bs) = (.ok a, d₀))
    {i : Nat} {data : FileData} (hfile : a.files[i]? = some data) (henc : data.encrypted = true)
    {mode : AesMode} {vv : AesVendorVersion} (haes : data.aesMode = some (mode, vv)) {pw : Bytes}
    {fa : Option Nat} {d' : Dev} {r : PwResult (Nat × Out Bytes)}
    (h : byIndexRead (cryptoExt P decode) a i (some pw) fa d₀ = (.ok r, d')) :
    ∃ ds L, Aes.dataLength (aesModeView mode) data.compressedSize.toNat = some L ∧
      (r = .invalidPassword → ¬ aesVerifierOk P pw mode ((bs.drop ds).take data.compressedSize.toNat)) ∧
      ∀ res, r = .ok (ds, res) →
        aesVerifierOk P pw mode ((bs.drop ds).take data.compressedSize.toNat) ∧
        ∀ sched : List Nat, ∃ sc,
          Aes.validate P Aes.listSrc (aesModeView mode) (some L)
              ⟨(bs.drop ds).take data.compressedSize.toNat, sched⟩ pw =
            (.ok (some (aesReader P pw mode ((bs.drop ds).take data.compressedSize.toNat) L sc)),
              ⟨aesBody mode ((bs.drop ds).take data.compressedSize.toNat), sc⟩) ∧
          ((L + Aes.AUTH_CODE_LENGTH ≤ (aesBody mode ((bs.drop ds).take data.compressedSize.toNat)).length ∧
              aesCodeOk P pw mode ((bs.drop ds).take data.compressedSize.toNat) L) ∨
            ((∃ k, res = .err (.io k)) ∧
              Aes.NeverEof P (aesReader P pw mode ((bs.drop ds).take data.compressedSize.toNat) L sc))) := by
  have hbuf : d₀.buf = bs := openArchive_buf hopen
  obtain ⟨ds, _, L, hdl, _, _, hA⟩ := entry_bridge_aes hW hfile henc haes h
  rw [hbuf] at hA
  refine ⟨ds, L, hdl, fun hinv => ((hA []).1 hinv).1, fun res hres => ⟨((hA []).2 res hres).1, fun sched => ?_⟩⟩
  obtain ⟨_, sc, hv, hV⟩ := (hA sched).2 res hres
  refine ⟨sc, hv, ?_⟩
  by_cases hgood : L + Aes.AUTH_CODE_LENGTH ≤ (aesBody mode ((bs.drop ds).take data.compressedSize.toNat)).length ∧
      aesCodeOk P pw mode ((bs.drop ds).take data.compressedSize.toNat) L
  · exact Or.inl hgood
  · exact Or.inr (hV.damaged hgood)

/-- **The right password returns the original bytes - archive level.**  `bs` is any byte string `ZipArchive::new`
accepts, entry `i` has the encryption flag and an AES extra record, `find_content` puts its data at `ds`, and the
`compressed_size` bytes there are what an AE-x encryptor writes for the compressed stream `plain` under `pw`:
`salt ‖ verifier(pw, salt) ‖ CTR_k(plain) ‖ HMAC(k_mac, CTR_k(plain))[0..10]` (the crate's key stream:
`cryptInPlace` from counter 1).  Then `by_index_decrypt(i, pw)` returns `Ok(file)`, reading it to the end gives
`decode(method, plain)` followed by the CRC comparison (skipped for AE-2), and under EVERY short-read schedule of a
reader holding the stored bytes `validate` accepts and `AesReaderValid` DENOTES `plain` followed by a clean
end-of-file: whatever the caller's buffer sizes, exactly these bytes, never an error. -/
theorem archive_aes_right_password (P : Aes.AesPrims) (hW : P.WF) (decode : Method → Bytes → Out Bytes)
    (bs : Bytes) {fa₀ : Option Nat} {a : Archive} {d₀ : Dev}
    (hopen : openArchive fa₀ (Dev.ofBytes bs) = (.ok a, d₀))
    {i : Nat} {data : FileData} (hfile : a.files[i]? = some data) (henc : data.encrypted = true)
    {mode : AesMode} {vv : AesVendorVersion} (haes : data.aesMode = some (mode, vv)) {pw : Bytes}
    {fa : Option Nat} {d' : Dev} {r : PwResult (Nat × Out Bytes)}
    (h : byIndexRead (cryptoExt P decode) a i (some pw) fa d₀ = (.ok r, d'))
    {ds : Nat} {d1 : Dev} (hfind : findContent data fa d₀ = (.ok ds, d1))
    (salt plain ct : Bytes) (st' : Aes.CtrState) (hs : salt.length = aesSl mode)
    (henc' : Aes.cryptInPlace P ((P.pbkdf2 pw salt (2 * aesK mode + 2)).take (aesK mode)) Aes.CtrState.new plain
      = .ok (ct, st'))
    (hcs : data.compressedSize.toNat = aesSl mode + 2 + ct.length + Aes.AUTH_CODE_LENGTH)
    (hraw : (bs.drop ds).take data.compressedSize.toNat =
      salt ++ (P.pbkdf2 pw salt (2 * aesK mode + 2)).drop (2 * aesK mode) ++
        (ct ++ (P.hmac (((P.pbkdf2 pw salt (2 * aesK mode + 2)).drop (aesK mode)).take (aesK mode)) ct).take
          Aes.AUTH_CODE_LENGTH)) :
    r = .ok (ds, decode data.method plain >>= crcCheck (vv == .ae2) data.crc32) ∧
    ∀ sched : List Nat, ∃ sc,
      Aes.validate P Aes.listSrc (aesModeView mode) (some ct.length)
          ⟨(bs.drop ds).take data.compressedSize.toNat, sched⟩ pw =
        (.ok (some (aesReader P pw mode ((bs.drop ds).take data.compressedSize.toNat) ct.length sc)),
          ⟨aesBody mode ((bs.drop ds).take data.compressedSize.toNat), sc⟩) ∧
      Layers.Denotes (aesSrc P Aes.listSrc)
        (aesReader P pw mode ((bs.drop ds).take data.compressedSize.toNat) ct.length sc) plain .eof := by
  have hbuf : d₀.buf = bs := openArchive_buf hopen
  obtain ⟨ds', ⟨d1', hf1, _, _⟩, L, hdl, _, _, hA⟩ := entry_bridge_aes hW hfile henc haes h
  obtain ⟨ds2, d2, hf2, _, _, hr⟩ := byIndexRead_aes_inv hfile henc haes h
  rw [hfind] at hf1 hf2
  cases hf1
  cases hf2
  rw [hbuf] at hA hr
  have hL : L = ct.length := by
    have := (Aes.dataLength_eq_some.mp hdl).2
    rw [show (aesModeView mode).saltLength = aesSl mode from rfl, hcs,
      show Aes.AUTH_CODE_LENGTH = 10 from rfl] at this
    omega
  subst hL
  -- decrypting the ciphertext gives the plaintext back, so the stored bytes are what `aes_written` speaks of: the
  -- verifier check passes and the verdict of `entry_bridge_aes` is the intact one, with plaintext `plain`
  have hdec := Props.C16.ctr_involutive P hW _ _ _ ⟨Nat.le_refl _, rfl⟩ plain ct henc'
  rw [Aes.cryptInPlace_eq_bytes P _ hW ⟨Nat.le_refl _, rfl⟩] at hdec
  obtain ⟨hver, hwr⟩ := aes_written hW hs hraw hdec
  rcases hr with ⟨stream, _, hh⟩ | ⟨_, hinv⟩
  · refine ⟨?_, fun sched => ?_⟩
    · obtain ⟨_, _, _, hV⟩ := (hA []).2 _ hh
      rw [hh, (hwr hV).1]
      rfl
    · obtain ⟨_, sc, hv, hV⟩ := (hA sched).2 _ hh
      exact ⟨sc, hv, (hwr hV).2⟩
  · exact absurd hver ((hA []).1 hinv).1

/-! ### Non-vacuity: a concrete archive (stand-in primitives), evaluated by the kernel -/

/-- `Model.aesExArchive` (147 bytes: one entry, method 99, AE-2 / AES-128 / Stored record, payload produced by an
independent encryptor) is accepted; entry 0 has the flag and the record; `by_index_decrypt(0, "pw")` hands it out
with data start 42 and content `[1,2,3,4,5]` - the hypotheses of `archive_aes_right_password`,
`archive_aes_tamper_detected`, C09's `archive_entry_chunk_independent_aes` and C04's `archive_entry_sound_aes`; the
call-by-call read over a short-reading source with zero-length buffers interleaved returns the same. -/
example : aesOpenRead aesExArchive [0x70, 0x77] [0, 2] [2, 0, 1, 9, 9] =
    some (42, some [1, 2, 3, 4, 5], some [1, 2, 3, 4, 5]) := aesOpenRead_intact

/-- Wrong password: `InvalidPassword` (no file). -/
example : aesOpenRead aesExArchive [0x70] [0, 2] [2, 0, 1, 9, 9] = some (0, none, none) := by decide +kernel

/-- One ciphertext byte changed; the code destroyed; the payload cut short (declared size kept): the archive is
still accepted, the entry is handed out, the one-shot result is an error and so is the call-by-call read. -/
example : aesOpenRead (aesExArchive.set 53 0) [0x70, 0x77] [0, 2] [2, 0, 1, 9, 9] = some (42, none, none) ∧
    aesOpenRead (aesExArchive.set 60 0) [0x70, 0x77] [] [9, 9] = some (42, none, none) ∧
    aesOpenRead (aesExArchiveOf ((aesExPayload [1, 2, 3, 4, 5]).take 20) 25) [0x70, 0x77] [1] [3, 3, 3] =
      some (42, none, none) := by
  refine ⟨aesOpenRead_damaged, by decide +kernel, by decide +kernel⟩

example : exPrims.WF := exPrims_wf

end ZipVerif.Props.C16Bridge
