import ZipVerif.Props.C12Archive
import ZipVerif.Props.C02Full
/-
C12 at archive level for the FULL call alphabet (Level 2): extra-data mode, aligned files, ZipCrypto.

`madeOf2` is the counterpart, for the full alphabet, of the expectation fold `madeOf` of `Props/C12Archive.lean`
(with its own `Made2`, `madeStep2`: no declaration of that file is used here): it is computed from the calls,
the outcomes of the `write` calls and of `start_file` / `add_directory` / `add_symlink` / raw copy, and the
crate's pure checks (`validate_extra_data`, the method/level check of `switch_to`) — no ghost, no device, no
offsets, no sizes.  The outcome of `start_file_with_extra_data` / `start_file_aligned` is not consulted: past the
name and closing checks of `startStep` the first opens its entry, the second does unless `switch_to` refuses its
method / level.  While an entry is in extra-data mode a `write` goes to its extra field `cx`; `end_extra_data`
in local mode copies what was collected into the local header too (`lx`; it stays in the central one),
`end_local_start_central_extra_data` does the same and then starts collecting for the central header alone;
a `write` that returned `Ok` in DATA mode appends to the content.

`Level2R` (`Lemmas/WL2Good.lean`) = the calls `C12.Call.Admissible` admits, no `finish` / `drop` inside the script,
a raw copy given as many raw bytes as its source records and not taken from a WinZip-AES entry (method 99).
`finish_output_exact_full`: for ANY `Level2R` script from a fresh writer (alignments within `AlignOk`), if
`finish` returns `Ok`, re-opening the sink yields exactly one entry per element of `madeOf2`, in call
order, with the call's name, the extra data written in extra-field mode as its local / central extra
data, and CRC-32 and length of exactly the bytes whose `write` returned `Ok` while entry `i` was open in
data mode — under the side conditions of `C02Full.write_read_roundtrip_full` (no false signature, sizes
below 2^63, room for a ZIP64 record next to the central extra data).  `finish_output_plaintext_full` /
`finish_output_zc_full`: `by_index(i)` — with the entry's password for a ZipCrypto entry — returns
exactly those bytes, under the round trip of the codec (and of the cipher).

The only position-dependent item is the padding record `start_file_aligned` puts into the LOCAL extra
field: the expectation leaves the local extra data of an aligned entry unspecified (`lx = none`;
`C02Full.aligned_data_in_archive` says what it is), and `AlignOk` (alignment ≤ 65511) keeps the padding
record within what `validate_extra_data` accepts.
-/

namespace ZipVerif.Props.C12ArchiveFull
open ZipVerif ZipVerif.Model ZipVerif.Spec.Zip ZipVerif.WL
open ZipVerif.Props.C12 (Call step runCalls)

/-! ## 1. The expectation -/

/-- An entry as the calls describe it (Level 2). -/
structure Made2 where
  name : Bytes
  opts : FileOptions
  rawv : Option (UInt32 × UInt64 × UInt64)
  isRaw : Bool
  /-- the bytes whose `write` returned `Ok` while the entry was open in DATA mode (a symlink: its target;
  a raw copy: the source's raw bytes) -/
  bytes : Bytes
  accepts : Bool
  /-- the ZipCrypto password, if any -/
  enc : Option Bytes
  /-- local extra data (`none`: the position-dependent padding of an aligned entry) -/
  lx : Option Bytes
  /-- extra data held for the central header -/
  cx : Bytes
  phase : Phase

/-- the record `start_entry` pushes for it, at position 0 (only position-free fields are ever used) -/
def Made2.rec0 (m : Made2) : FileData := mkRec m.name m.opts m.rawv 0 0

inductive XRes2
  | ok (m : Made2)
  | unchanged
  | dead

/-- `end_extra_data`: refused when the extra data do not validate; a refused method/level poisons -/
def Made2.endExtra (m : Made2) : XRes2 :=
  match validateExtraData { m.rec0 with extraField := m.cx } with
  | .error _ => .unchanged
  | .ok () =>
    match m.phase with
    | .localX =>
      if Refused m.opts.method m.opts.level then .dead else .ok { m with lx := some m.cx, phase := .data }
    | _ => .ok { m with phase := .data }

/-- `end_local_start_central_extra_data`: `end_extra_data`, after which the writer is back in extra-data mode
with nothing yet collected for the central header -/
def Made2.endLocal (m : Made2) : XRes2 :=
  match m.endExtra with
  | .ok m' => .ok { m' with cx := [], phase := .centralX }
  | .unchanged => .unchanged
  | .dead => .dead

/-- the entry as `finish_file` closes it (implicit `end_extra_data`) -/
def Made2.closing (m : Made2) : Made2 :=
  match m.phase with
  | .data => m
  | _ => match m.endExtra with
    | .ok m' => m'
    | _ => m

/-- closing is refused: the implicit `end_extra_data` does not validate -/
def Made2.closeRefused (m : Made2) : Bool :=
  match m.phase with
  | .data => false
  | _ => match m.endExtra with
    | .unchanged => true
    | _ => false

def fresh (n : Bytes) (o : FileOptions) (rawv : Option (UInt32 × UInt64 × UInt64)) (isRaw : Bool)
    (bytes : Bytes) (accepts : Bool) (enc : Option Bytes) (lx : Option Bytes) (ph : Phase) : Made2 :=
  ⟨n, o, rawv, isRaw, bytes, accepts, enc, lx, [], ph⟩

/-- `none`: not a start call; `some r`: a start call, `r` being the entry it opens when it goes through
(`r = none`: it does not — `start_file`, `add_directory`, `add_symlink` or a raw copy that returned an error,
`start_file` with a method that has no encoder, an aligned start whose method / level `switch_to` refuses) -/
def opened2? (c : Call) (out : Out (Option Nat)) : Option (Option Made2) :=
  match c with
  | .startFile n o => some (if okO out && writable (fileOpts o).method then
      some (fresh n (fileOpts o) none false [] true o.encryptWith (some []) .data) else none)
  | .addDirectory n o => some (if okO out then
      some (fresh (dirName n) (dirOpts o) none false [] false o.encryptWith (some []) .data) else none)
  | .addSymlink n t o => some (if okO out then
      some (fresh n (linkOpts o) none false t false o.encryptWith (some []) .data) else none)
  | .rawCopy src raw n => some (if okO out then
      some (fresh n (rawOpts src) (rawVals src) true raw true none (some []) .data) else none)
  | .startFileWithExtraData n o => some (some (fresh n (fileOpts o) none false [] true none (some []) .localX))
  | .startFileAligned n o _ => some (if Refused (fileOpts o).method (fileOpts o).level then none else
      some (fresh n (fileOpts o) none false [] true none none .data))
  | _ => none

def startName : Call → Bytes
  | .startFile n _ => n
  | .addDirectory n _ => dirName n
  | .addSymlink n _ _ => n
  | .rawCopy _ _ n => n
  | .startFileWithExtraData n _ => n
  | .startFileAligned n _ _ => n
  | _ => []

/-- a start call that got past `finish_file`: the previous entry is closed, the new one (if the call
succeeded) is open -/
def afterStart (st : List Made2 × Option Made2) (r : Option Made2) : List Made2 × Option Made2 :=
  match r with
  | some m => (st.1 ++ (st.2.map Made2.closing).toList, some m)
  | none => st

/-- a start call: refused for its name, or because the open entry's extra data do not validate (nothing
happens then), else `afterStart` -/
def startStep (st : List Made2 × Option Made2) (nameLen : Nat) (r : Option Made2) : List Made2 × Option Made2 :=
  if nameLen > 65535 then st
  else if (match st.2 with | some m => m.closeRefused | none => false) then st
  else afterStart st r

def madeStep2 (st : List Made2 × Option Made2) (c : Call) (out : Out (Option Nat)) : List Made2 × Option Made2 :=
  match opened2? c out with
  | some r => startStep st (startName c).length r
  | none =>
    match c, st.2 with
    | .write b, some m =>
      (match m.phase with
       | .data => if m.accepts && okO out && !m.isRaw then (st.1, some { m with bytes := m.bytes ++ b }) else st
       | _ => (st.1, some { m with cx := m.cx ++ b }))
    | .endExtraData, some m =>
      if m.phase = .data then st else
      (match m.endExtra with | .ok m' => (st.1, some m') | _ => st)
    | .endLocalStartCentral, some m =>
      if m.phase = .data then st else
      (match m.endLocal with | .ok m' => (st.1, some m') | _ => st)
    | _, _ => st

theorem madeStep2_write_data {st : List Made2 × Option Made2} {m : Made2} (hs : st.2 = some m)
    (hph : m.phase = .data) (b : Bytes) (out : Out (Option Nat)) :
    madeStep2 st (.write b) out =
      if m.accepts then (if okO out then (if m.isRaw then st else (st.1, some { m with bytes := m.bytes ++ b }))
        else st) else st := by
  unfold madeStep2
  cases ha : m.accepts <;> cases okO out <;> cases hr : m.isRaw <;> simp [opened2?, hs, hph, ha, hr]

theorem madeStep2_write_extra {st : List Made2 × Option Made2} {m : Made2} (hs : st.2 = some m)
    (hph : m.phase ≠ .data) (b : Bytes) (out : Out (Option Nat)) :
    madeStep2 st (.write b) out = (st.1, some { m with cx := m.cx ++ b }) := by
  unfold madeStep2; simp [opened2?, hs]

def madeFold2 : List Made2 × Option Made2 → List Call → List (Out (Option Nat)) → List Made2 × Option Made2
  | st, c :: cs, o :: os => madeFold2 (madeStep2 st c o) cs os
  | st, _, _ => st

/-- The expected entries: the finished ones, then the open one as `finish`'s `finish_file` closes it. -/
def madeOf2 (calls : List Call) (outs : List (Out (Option Nat))) : List Made2 :=
  let st := madeFold2 ([], none) calls outs
  st.1 ++ (st.2.map Made2.closing).toList

/-! ## 2. The ghost's open entry agrees with the expectation's -/

def AgreeOpen2 (m : Made2) (o : Open2) : Prop :=
  o.raw = m.isRaw ∧ o.plain = m.bytes ∧ o.wf = m.accepts ∧ o.enc = m.enc ∧ o.cx = m.cx ∧
  o.phase = m.phase ∧ (∀ l, m.lx = some l → o.lx = l) ∧
  ∃ hs ds, o.f = mkRec m.name m.opts m.rawv hs ds

def XAgree : XRes2 → XRes → Prop
  | .ok m', .ok o' => AgreeOpen2 m' o'
  | .unchanged, .unchanged => True
  | .dead, .dead => True
  | _, _ => False

theorem agree_endExtra {m : Made2} {o : Open2} (h : AgreeOpen2 m o) : XAgree m.endExtra o.endExtra := by
  obtain ⟨h1, h2, h3, h4, h5, h6, h7, hs, ds, hf⟩ := h
  obtain ⟨f, raw, plain, junk, wf, enc, lx, cx, phase⟩ := o
  dsimp only at h1 h2 h3 h4 h5 h6 h7 hf
  subst h1 h2 h3 h4 h5 h6 hf
  unfold Made2.endExtra Open2.endExtra
  have hv : validateExtraData { mkRec m.name m.opts m.rawv hs ds with extraField := m.cx } =
      validateExtraData { m.rec0 with extraField := m.cx } := rfl
  dsimp only
  rw [hv]
  cases validateExtraData { m.rec0 with extraField := m.cx } with
  | error e => exact trivial
  | ok u =>
    dsimp only
    cases hph : m.phase with
    | localX =>
      dsimp only
      show XAgree (if Refused m.opts.method m.opts.level then _ else _)
        (if Refused m.opts.method m.opts.level then _ else _)
      split
      · exact trivial
      · exact ⟨rfl, rfl, rfl, rfl, rfl, rfl, fun l hl => by cases hl; rfl, hs, ds, rfl⟩
    | data => exact ⟨rfl, rfl, rfl, rfl, rfl, rfl, h7, hs, ds, rfl⟩
    | centralX => exact ⟨rfl, rfl, rfl, rfl, rfl, rfl, h7, hs, ds, rfl⟩

theorem agree_endLocal {m : Made2} {o : Open2} (h : AgreeOpen2 m o) : XAgree m.endLocal o.endLocal := by
  have := agree_endExtra h
  unfold Made2.endLocal Open2.endLocal
  cases hm : m.endExtra <;> cases ho : o.endExtra <;> rw [hm, ho] at this <;>
    first | exact this.elim | exact trivial | skip
  obtain ⟨h1, h2, h3, h4, _, _, h7, h8⟩ := this
  exact ⟨h1, h2, h3, h4, rfl, rfl, h7, h8⟩

theorem agree_closing {m : Made2} {o : Open2} (h : AgreeOpen2 m o) : AgreeOpen2 m.closing o.closing := by
  have hx := agree_endExtra h
  have hph := h.2.2.2.2.2.1
  unfold Made2.closing Open2.closing
  rw [hph]
  cases m.phase with
  | data => exact h
  | localX =>
    dsimp only
    cases hm : m.endExtra <;> cases ho : o.endExtra <;> rw [hm, ho] at hx <;>
      first | exact hx.elim | exact h | exact hx
  | centralX =>
    dsimp only
    cases hm : m.endExtra <;> cases ho : o.endExtra <;> rw [hm, ho] at hx <;>
      first | exact hx.elim | exact h | exact hx

theorem closeRefused_iff {m : Made2} {o : Open2} (h : AgreeOpen2 m o) (ext : WExt)
    (D : List Spec.Zip.Entry) (gap : Bytes) : m.closeRefused = true ↔ o.fin ext D gap = .unchanged := by
  have hx := agree_endExtra h
  rw [Open2.fin_unchanged_iff, h.2.2.2.2.2.1]
  unfold Made2.closeRefused
  cases m.phase with
  | data => exact ⟨nofun, fun h => absurd rfl h.1⟩
  | localX =>
    cases hm : m.endExtra <;> cases ho : o.endExtra <;> rw [hm, ho] at hx <;>
      first | exact hx.elim | exact ⟨fun _ => ⟨nofun, rfl⟩, fun _ => rfl⟩ | exact ⟨nofun, fun h => nomatch h.2⟩
  | centralX =>
    cases hm : m.endExtra <;> cases ho : o.endExtra <;> rw [hm, ho] at hx <;>
      first | exact hx.elim | exact ⟨fun _ => ⟨nofun, rfl⟩, fun _ => rfl⟩ | exact ⟨nofun, fun h => nomatch h.2⟩

/-- bytes written in the data phase: appended to the content, unless the entry is a raw copy (they land behind the
copied bytes, which the expectation does not record) -/
theorem AgreeOpen2.writeData {m : Made2} {o : Open2} (h : AgreeOpen2 m o) (b : Bytes) :
    AgreeOpen2 (if m.isRaw then m else { m with bytes := m.bytes ++ b }) (o.writeData b) := by
  obtain ⟨k1, k2, k3, k4, k5, k6, k7, k8⟩ := h
  unfold Open2.writeData
  cases hr : m.isRaw with
  | true =>
    rw [hr] at k1
    simp only [k1, if_true]
    exact ⟨hr.symm, k2, k3, k4, k5, k6, k7, k8⟩
  | false =>
    rw [hr] at k1
    simp only [k1, Bool.false_eq_true, if_false]
    exact ⟨rfl, congrArg (· ++ b) k2, k3, k4, k5, k6, k7, k8⟩

theorem AgreeOpen2.writeCx {m : Made2} {o : Open2} (h : AgreeOpen2 m o) (b : Bytes) :
    AgreeOpen2 { m with cx := m.cx ++ b } { o with cx := o.cx ++ b } := by
  obtain ⟨k1, k2, k3, k4, k5, k6, k7, k8⟩ := h
  exact ⟨k1, k2, k3, k4, congrArg (· ++ b) k5, k6, k7, k8⟩

/-! ### `start_file_aligned` -/

theorem validate_nil (f : FileData) : validateExtraData { f with extraField := [] } = .ok () := by
  unfold validateExtraData
  cases f.largeFile <;> rfl

theorem validate_pad (f : FileData) (p : Nat) (hp : p + 24 ≤ 65535) :
    validateExtraData { f with extraField := padRecord p } = .ok () := by
  apply Lemmas.ExtraBridge.validate_of_align (r := .ok ())
  -- 24 = 4 (id and length of the padding record) + 20 (the most `validate_extra_data` reserves for a ZIP64 record)
  have hr := Align.zip64Reserve_le f.largeFile
  exact (Align.validate_za f.largeFile p (by omega)).trans (if_neg (by omega))

theorem aligned_agree (a : UInt16) (ha : a.toNat ≤ 65511) (es : List Spec.Zip.Entry) (gap c : Bytes)
    (n : Bytes) (opts : FileOptions) (hs : Nat) (ds : UInt64) :
    let f := mkRec n opts none hs ds
    (Refused opts.method opts.level → alignedAfter a es gap c f = .dead) ∧
    (¬ Refused opts.method opts.level → ∃ o', alignedAfter a es gap c f = .opened es gap c o' ∧
      AgreeOpen2 (fresh n opts none false [] true none none .data) o') := by
  intro f
  -- whatever lands in `lx` (the padding record), the expectation leaves it open (`lx = none`)
  have hfresh : ∀ lx, AgreeOpen2 (fresh n opts none false [] true none none .data)
      ⟨f, false, [], [], true, none, lx, [], .data⟩ :=
    fun _ => ⟨rfl, rfl, rfl, rfl, rfl, rfl, nofun, hs, ds, rfl⟩
  unfold alignedAfter
  dsimp only
  generalize (newOpen f false [] true none .localX).dataStart es gap = ds0
  dsimp only [newOpen]
  -- with or without padding, the extra data in hand validate (`validate_pad`: the pad is `< a ≤ 65511 = 65535 - 24`;
  -- `validate_nil`), so leaving `.localX` is `.dead` exactly when method / level are refused and otherwise the entry
  -- ends in `.data`
  split
  · next hpad =>
    have hp : (a.toNat - (ds0 + 4) % a.toNat) % a.toNat + 24 ≤ 65535 := by
      have : (a.toNat - (ds0 + 4) % a.toNat) % a.toNat < a.toNat := Nat.mod_lt _ (by omega)
      omega
    generalize (a.toNat - (ds0 + 4) % a.toNat) % a.toNat = p at hp
    unfold Open2.endLocal
    rw [Open2.endExtra_valid (validate_pad f p hp)]
    dsimp only
    by_cases hr : Refused f.method f.level
    · rw [if_pos hr]; exact ⟨fun _ => rfl, fun h => absurd hr h⟩
    · rw [if_neg hr]
      dsimp only
      rw [Open2.endExtra_valid (validate_nil f)]
      exact ⟨fun h => absurd h hr, fun _ => ⟨_, rfl, hfresh _⟩⟩
  · rw [Open2.endExtra_valid (validate_nil f)]
    dsimp only
    by_cases hr : Refused f.method f.level
    · rw [if_pos hr]; exact ⟨fun _ => rfl, fun h => absurd hr h⟩
    · rw [if_neg hr]; exact ⟨fun h => absurd h hr, fun _ => ⟨_, rfl, hfresh _⟩⟩

/-! ## 3. Ghost, origins and expectation stay in step -/

def MadeRel2 (m : Made2) : Origin2 → Prop
  | .written f enc lx cx p => m.isRaw = false ∧ p = m.bytes ∧ enc = m.enc ∧ cx = m.cx ∧
      (∀ l, m.lx = some l → lx = l) ∧ ∃ hs ds, f = mkRec m.name m.opts m.rawv hs ds
  | .raw f p => m.isRaw = true ∧ p = m.bytes ∧ ∃ hs ds, f = mkRec m.name m.opts m.rawv hs ds
  | .old => False

theorem AgreeOpen2.rel {m : Made2} {o : Open2} (h : AgreeOpen2 m o) : MadeRel2 m.closing o.origin := by
  obtain ⟨h1, h2, _, h4, h5, _, h7, h8⟩ := agree_closing h
  unfold Open2.origin
  cases hr : o.closing.raw
  · simp only [Bool.false_eq_true, if_false]
    exact ⟨by rw [← h1, hr], h2, h4, h5, h7, h8⟩
  · simp only [if_true]
    exact ⟨by rw [← h1, hr], h2, h8⟩

def Agree2 (g : Ghost2) (org : List Origin2) (st : List Made2 × Option Made2) : Prop :=
  Forall2 MadeRel2 st.1 org ∧
  match g, st.2 with
  | .idle _ _ _, none => True
  | .opened _ _ _ o, some m => AgreeOpen2 m o
  | _, _ => False

theorem orgNext2_self (g : Ghost2) (org : List Origin2) : orgNext2 g g org = org := by
  unfold orgNext2; cases g <;> simp

/-- the alignment of a `start_file_aligned` call keeps its padding record within `validate_extra_data`:
the pad is below the alignment, so 65511 = 65535 − 24 gives the `p + 24 ≤ 65535` of `validate_pad` -/
def AlignOk : Call → Prop
  | .startFileAligned _ _ a => a.toNat ≤ 65511
  | _ => True

instance : DecidablePred AlignOk := fun c => by cases c <;> unfold AlignOk <;> infer_instance

/-- what the rest of a start call makes of the pushed record: opens the expected entry, or poisons -/
def AfterOk (r : Option Made2) (g' : Ghost2) (es : List Spec.Zip.Entry) (gap c : Bytes) : Prop :=
  match r with
  | some m => ∃ o', g' = .opened es gap c o' ∧ AgreeOpen2 m o'
  | none => g' = .dead

theorem Agree2.cases {g : Ghost2} {org : List Origin2} {st : List Made2 × Option Made2}
    (h : Agree2 g org st) :
    (∃ D gap c, g = .idle D gap c ∧ st.2 = none) ∨
    ∃ D gap c o m, g = .opened D gap c o ∧ st.2 = some m ∧ AgreeOpen2 m o := by
  obtain ⟨_, h2⟩ := h
  revert h2
  cases g <;> cases st.2 <;> intro h2 <;> first | exact False.elim h2 | skip
  · exact Or.inl ⟨_, _, _, rfl, rfl⟩
  · exact Or.inr ⟨_, _, _, _, _, rfl, rfl, h2⟩

theorem Agree2.alive {g : Ghost2} {org : List Origin2} {st : List Made2 × Option Made2}
    (h : Agree2 g org st) : g.alive := by
  rcases h.cases with ⟨_, _, _, rfl, _⟩ | ⟨_, _, _, _, _, rfl, _⟩ <;> trivial

theorem Agree2.closed {g : Ghost2} {org : List Origin2} {st : List Made2 × Option Made2}
    (h : Agree2 g org st) :
    Forall2 MadeRel2 (st.1 ++ (st.2.map Made2.closing).toList) (g.closeOrigins org) := by
  rcases h.cases with ⟨_, _, _, rfl, hs⟩ | ⟨_, _, _, _, _, rfl, hs, h2⟩
  · rw [hs]; simpa [Ghost2.closeOrigins] using h.1
  · rw [hs]; exact h.1.snoc (AgreeOpen2.rel h2)

theorem agree_startG2 (ext : WExt) {g : Ghost2} {org : List Origin2} {st : List Made2 × Option Made2}
    (h : Agree2 g org st) (n : Bytes) (opts : FileOptions) (raw : Option (UInt32 × UInt64 × UInt64))
    (after : List Spec.Zip.Entry → Bytes → Bytes → FileData → Ghost2) (r : Option Made2)
    (hafter : ∀ es gap c hs ds, AfterOk r (after es gap c (mkRec n opts raw hs ds)) es gap c)
    (ha' : (startG2 ext g n opts raw after).alive) :
    Agree2 (startG2 ext g n opts raw after) (orgNext2 g (startG2 ext g n opts raw after) org)
      (startStep st n.length r) := by
  -- closing the open entry is refused on both sides or on neither
  have hcr : (match st.2 with | some m => m.closeRefused | none => false) = true ↔ g.fin ext = .unchanged := by
    rcases h.cases with ⟨D, gap0, c0, rfl, hs2⟩ | ⟨D, gap0, c0, o, m0, rfl, hs2, h2⟩
    · rw [hs2]; exact ⟨nofun, nofun⟩
    · rw [hs2]; exact closeRefused_iff h2 ext D gap0
  unfold startStep
  rcases startG2_alive ha' with ⟨hr, e⟩ | ⟨es, gap, f, dp, hn, hfin, hsr, e⟩ <;> rw [e] at ha' ⊢
  · rw [orgNext2_self]
    by_cases hn : n.length > 65535
    · rw [if_pos hn]; exact h
    · rw [if_neg hn, if_pos (hcr.mpr (hr.resolve_left hn))]; exact h
  · rw [if_neg hn, if_neg fun hr => by rw [hcr.mp hr] at hfin; cases hfin]
    have := hafter es gap g.cmt ((localsBytes es).length + gap.length) 0
    rw [← startRec2_rec hsr] at this
    unfold afterStart
    cases r with
    | none => rw [show after es gap g.cmt f = .dead from this] at ha'; exact ha'.elim
    | some m =>
      obtain ⟨o', ho', hag⟩ := this
      rw [ho', orgNext2_fin hfin]
      exact ⟨h.closed, hag⟩

theorem agreeOpen2_fresh (n : Bytes) (o : FileOptions) (rawv : Option (UInt32 × UInt64 × UInt64))
    (isRaw : Bool) (bytes : Bytes) (accepts : Bool) (enc : Option Bytes) (ph : Phase) (hs : Nat) (ds : UInt64) :
    AgreeOpen2 (fresh n o rawv isRaw bytes accepts enc (some []) ph)
      (newOpen (mkRec n o rawv hs ds) isRaw bytes accepts enc ph) :=
  ⟨rfl, rfl, rfl, rfl, rfl, rfl, fun l hl => by cases hl; rfl, hs, ds, rfl⟩

theorem afterOk_ite (b : Bool) {m : Made2} {o' : Open2} (es : List Spec.Zip.Entry) (gap c : Bytes)
    (h : AgreeOpen2 m o') :
    AfterOk (if b then some m else none) (if b then .opened es gap c o' else .dead) es gap c := by
  cases b
  · rfl
  · exact ⟨o', rfl, h⟩

/-- `end_extra_data` / `end_local_start_central_extra_data` as calls: the open entry moves as `xo` says
on the ghost and as `xm` says on the expectation. -/
theorem agree_endCall {D : List Spec.Zip.Entry} {gap c0 : Bytes} {o : Open2} {m0 : Made2}
    {org : List Origin2} {st : List Made2 × Option Made2}
    (h1 : Forall2 MadeRel2 st.1 org) (hs2 : st.2 = some m0) (h2 : AgreeOpen2 m0 o)
    {xm : XRes2} {xo : XRes} (hx : XAgree xm xo) (g' : Ghost2)
    (hg' : g' = if o.phase = .data then Ghost2.opened D gap c0 o else
      match (generalizing := false) xo with
      | .ok o' => .opened D gap c0 o'
      | .unchanged => .opened D gap c0 o
      | .dead => .dead) (ha' : g'.alive) :
    Agree2 g' (orgNext2 (.opened D gap c0 o) g' org)
      (if m0.phase = .data then st else (match (generalizing := false) xm with | .ok m' => (st.1, some m') | _ => st)) := by
  have hsame : Agree2 (.opened D gap c0 o) (orgNext2 (.opened D gap c0 o) (.opened D gap c0 o) org) st := by
    rw [orgNext2_self]; exact ⟨h1, by rw [hs2]; exact h2⟩
  subst hg'
  revert ha'
  rw [h2.2.2.2.2.2.1]
  by_cases hd : m0.phase = .data
  · rw [if_pos hd, if_pos hd]; exact fun _ => hsame
  · rw [if_neg hd, if_neg hd]
    cases xm <;> cases xo <;> first | exact hx.elim | skip
    · exact fun _ => ⟨by simpa [orgNext2] using h1, hx⟩
    · exact fun _ => hsame
    · exact fun hf => hf.elim

/-- **One call**: if the ghost survives it, ghost / origins / expectation stay in step. -/
theorem agree_step2 (ext : WExt) {g : Ghost2} {org : List Origin2} {st : List Made2 × Option Made2}
    (h : Agree2 g org st) (c : Call) (hc : AlignOk c) (out : Out (Option Nat))
    (ha' : (ghostStep2 ext g c out).alive) :
    Agree2 (ghostStep2 ext g c out) (originStep2 ext g c out org) (madeStep2 st c out) := by
  unfold originStep2
  revert ha'
  unfold ghostStep2
  split
  · exact fun hf => hf.elim    -- a panic outcome: the ghost is `.lost`
  have hstay : ∀ st', st' = st → Agree2 g (orgNext2 g g org) st' := by
    intro st' e; rw [e, orgNext2_self]; exact h
  have h1 := h.1
  -- the six start calls: `agree_startG2`, each with the `AfterOk` of what follows its `start_entry`; `write`: by the
  -- phase of the open entry (`.data`: appended to the content on `Ok`, the ghost dies on `Err`; extra-data phases:
  -- appended to `cx` whatever it returned); the two `end…` calls: `agree_endCall`; the other calls open or move no entry
  cases c with
  | startFile n o =>
    exact agree_startG2 ext h n (fileOpts o) none _ _ fun es gap c hs ds =>
      afterOk_ite _ es gap c (agreeOpen2_fresh n (fileOpts o) none false [] true o.encryptWith .data hs ds)
  | addDirectory n o =>
    exact agree_startG2 ext h (dirName n) (dirOpts o) none _ _ fun es gap c hs ds =>
      afterOk_ite _ es gap c (agreeOpen2_fresh (dirName n) (dirOpts o) none false [] false o.encryptWith .data hs ds)
  | addSymlink n t o =>
    exact agree_startG2 ext h n (linkOpts o) none _ _ fun es gap c hs ds =>
      afterOk_ite _ es gap c (agreeOpen2_fresh n (linkOpts o) none false t false o.encryptWith .data hs ds)
  | rawCopy src raw n =>
    exact agree_startG2 ext h n (rawOpts src) (rawVals src) _ _ fun es gap c hs ds =>
      afterOk_ite _ es gap c (agreeOpen2_fresh n (rawOpts src) (rawVals src) true raw true none .data hs ds)
  | startFileWithExtraData n o =>
    exact agree_startG2 ext h n (fileOpts o) none _
      (some (fresh n (fileOpts o) none false [] true none (some []) .localX)) fun es gap c hs ds =>
        ⟨_, rfl, agreeOpen2_fresh n (fileOpts o) none false [] true none .localX hs ds⟩
  | startFileAligned n o a =>
    refine agree_startG2 ext h n (fileOpts o) none (alignedAfter a)
      (if Refused (fileOpts o).method (fileOpts o).level then none else
        some (fresh n (fileOpts o) none false [] true none none .data)) fun es gap c hs ds => ?_
    obtain ⟨k1, k2⟩ := aligned_agree a hc es gap c n (fileOpts o) hs ds
    split
    · next hr => exact k1 hr
    · next hr => exact k2 hr
  | write b =>
    rcases h.cases with ⟨D, gap, c0, rfl, hs2⟩ | ⟨D, gap, c0, o, m0, rfl, hs2, h2⟩
    · exact fun _ => hstay _ (by unfold madeStep2; simp [opened2?, hs2])
    have hupd : ∀ {o' : Open2} {m' : Made2} {st' : List Made2 × Option Made2}, st'.1 = st.1 → st'.2 = some m' →
        AgreeOpen2 m' o' →
        Agree2 (.opened D gap c0 o') (orgNext2 (.opened D gap c0 o) (.opened D gap c0 o') org) st' :=
      fun e1 e2 hag => ⟨by rw [e1]; simpa [orgNext2] using h1, by rw [e2]; exact hag⟩
    have hph : o.phase = m0.phase := h2.2.2.2.2.2.1
    dsimp only
    by_cases hp : o.phase = .data
    · rw [Ghost2.write_data hp, madeStep2_write_data hs2 (hph ▸ hp)]
      by_cases hwf : o.wf = true
      · rw [if_pos hwf, if_pos (show m0.accepts = true from h2.2.2.1 ▸ hwf)]
        cases okO out with
        | false => exact fun hf => hf.elim
        | true =>
          have hwd := h2.writeData b
          cases hr : m0.isRaw with
          | true => rw [hr] at hwd; exact fun _ => hupd rfl hs2 hwd
          | false => rw [hr] at hwd; exact fun _ => hupd rfl rfl hwd
      · rw [if_neg hwf, if_neg (show ¬ m0.accepts = true from h2.2.2.1 ▸ hwf)]; exact fun _ => hstay _ rfl
    · rw [Ghost2.write_extra hp, madeStep2_write_extra hs2 (hph ▸ hp)]
      exact fun _ => hupd rfl rfl (h2.writeCx b)
  | endExtraData =>
    rcases h.cases with ⟨D, gap, c0, rfl, hs2⟩ | ⟨D, gap, c0, o, m0, rfl, hs2, h2⟩
    · exact fun _ => hstay _ (by unfold madeStep2; simp [opened2?, hs2])
    have hstep : madeStep2 st .endExtraData out = (if m0.phase = .data then st else
        (match m0.endExtra with | .ok m' => (st.1, some m') | _ => st)) := by
      unfold madeStep2; simp [opened2?, hs2]
    rw [hstep]
    exact agree_endCall h1 hs2 h2 (agree_endExtra h2) _ rfl
  | endLocalStartCentral =>
    rcases h.cases with ⟨D, gap, c0, rfl, hs2⟩ | ⟨D, gap, c0, o, m0, rfl, hs2, h2⟩
    · exact fun _ => hstay _ (by unfold madeStep2; simp [opened2?, hs2])
    have hstep : madeStep2 st .endLocalStartCentral out = (if m0.phase = .data then st else
        (match m0.endLocal with | .ok m' => (st.1, some m') | _ => st)) := by
      unfold madeStep2; simp [opened2?, hs2]
    rw [hstep]
    exact agree_endCall h1 hs2 h2 (agree_endLocal h2) _ rfl
  | setComment c' =>
    intro _
    have hst : madeStep2 st (.setComment c') out = st := by
      unfold madeStep2; cases st.2 <;> simp [opened2?]
    rw [hst]
    rcases h.cases with ⟨D, gap, c0, rfl, hs2⟩ | ⟨D, gap, c0, o, m0, rfl, hs2, h2⟩
    · exact ⟨h1, by rw [hs2]; trivial⟩
    · exact ⟨by simpa [orgNext2, Ghost2.setComment] using h1, by rw [hs2]; exact h2⟩
  | finish => exact fun _ => hstay _ (by unfold madeStep2; cases st.2 <;> simp [opened2?])
  | drop => exact fun _ => hstay _ (by unfold madeStep2; cases st.2 <;> simp [opened2?])

theorem alive_back2 (ext : WExt) (g : Ghost2) (c : Call) (out : Out (Option Nat))
    (h : (ghostStep2 ext g c out).alive) : g.alive :=
  (ghostStep2_shape ext rfl h).1

theorem ghostOf2_alive_back (ext : WExt) (calls : List Call) (outs : List (Out (Option Nat))) (g : Ghost2)
    (h : (ghostOf2 ext g calls outs).alive) : g.alive :=
  Classical.not_not.mp fun hn => (ghostOf2_isFold ext).induct (A := fun _ => True) (P := fun g => ¬ g.alive)
    (fun g c out _ hg h => hg (alive_back2 ext g c out h)) calls outs g (fun _ _ => trivial) hn h

/-- **A whole run**: if the ghost is alive at the end, it agrees with the expectation. -/
theorem agree_run2 (ext : WExt) : ∀ (calls : List Call) (outs : List (Out (Option Nat))) (g : Ghost2)
    (org : List Origin2) (st : List Made2 × Option Made2), Agree2 g org st → (∀ c ∈ calls, AlignOk c) →
    (ghostOf2 ext g calls outs).alive →
    Agree2 (ghostOf2 ext g calls outs) (originsOf2 ext g org calls outs) (madeFold2 st calls outs)
  | [], outs, g, org, st, h, _, _ => by cases outs <;> exact h
  | c :: cs, [], g, org, st, h, _, _ => h
  | c :: cs, o :: os, g, org, st, h, hc, ha =>
    agree_run2 ext cs os _ _ _
      (agree_step2 ext h c (hc c (by simp)) o (ghostOf2_alive_back ext cs os _ ha))
      (fun c' h' => hc c' (by simp [h'])) ha

/-- **The origins of the emitted entries ARE the expected entries, in call order** (Level 2). -/
theorem origins_are_made2 (ext : WExt) (calls : List Call) (hc : ∀ c ∈ calls, AlignOk c)
    (outs : List (Out (Option Nat))) (ha : (ghostOf2 ext (.idle [] [] []) calls outs).alive) :
    Forall2 MadeRel2 (madeOf2 calls outs)
      ((ghostOf2 ext (.idle [] [] []) calls outs).closeOrigins
        (originsOf2 ext (.idle [] [] []) [] calls outs)) := by
  exact (agree_run2 ext calls outs _ _ _ (show Agree2 (.idle [] [] []) [] ([], none) from ⟨.nil, trivial⟩) hc ha).closed

/-! ## 4. The archive contains exactly the expected entries -/

/-- **What the emitted entry of an expected entry is**: the call's name; the extra data written in
extra-field mode as its central extra data and (unless it is the position-dependent padding of an
aligned entry) its local extra data; for an entry written through the writer CRC-32 and length of
exactly the bytes whose `write` returned `Ok` in data mode; a raw copy holds the source's raw bytes. -/
theorem made_entry2 (ext : WExt) {m : Made2} {org : Origin2} {e : Spec.Zip.Entry}
    (hm : MadeRel2 m org) (ho : OriginRel2 ext org e) :
    e.name = m.name ∧ e.method = m.opts.method.toU16 ∧
    (m.isRaw = false → e.centralExtra = m.cx ∧ (∀ l, m.lx = some l → e.localExtra = l) ∧
      e.crc = Spec.Crc32.crc32 m.bytes ∧ e.usize = UInt64.ofNat m.bytes.length) ∧
    (m.isRaw = true → e.data = m.bytes ∧ e.crc = (m.rawv.getD (0, 0, 0)).1 ∧
      e.usize = (m.rawv.getD (0, 0, 0)).2.2) := by
  cases org with
  | old => exact hm.elim
  | written f enc lx cx p =>
    obtain ⟨h1, h2, _, h4, h5, hs, ds, hf⟩ := hm
    obtain ⟨dp, gap, _, he⟩ := ho
    subst he hf h2 h4
    refine ⟨rfl, rfl, ?_, ?_⟩
    · intro _; exact ⟨rfl, h5, rfl, rfl⟩
    · intro h; rw [h1] at h; cases h
  | raw f p =>
    obtain ⟨h1, h2, hs, ds, hf⟩ := hm
    obtain ⟨dp, gap, _, he⟩ := ho
    subst he hf h2
    refine ⟨rfl, rfl, ?_, ?_⟩
    · intro h; rw [h1] at h; cases h
    · intro _; exact ⟨rfl, rfl, rfl⟩

/-- C12 at archive level, the WHOLE call alphabet.  A fresh writer and ANY `Level2R` call sequence with
alignments within `AlignOk` (extra-data mode, aligned files, ZipCrypto included; legal or not).  If `finish`
returns `Ok`, re-opening the sink yields EXACTLY one entry per element of `madeOf2 calls outs`, in call
order; entry `i` has its call's name and method, the extra data written in extra-field mode as
central / local extra data, CRC and size of exactly the bytes whose `write` returned `Ok` in data mode (a
raw copy: the source's values and raw bytes).  `hg` names the layout the ghost of the calls closes to;
`hS`, `hsize`, `hu`, `hcx` are the side conditions of `C02Full.write_read_roundtrip_full`. -/
theorem finish_output_exact_full (ext : WExt) (calls : List Call) (hc : ∀ c ∈ calls, Level2R c)
    (hal : ∀ c ∈ calls, AlignOk c) (es : List Spec.Zip.Entry) (gap c : Bytes)
    (hg : (C02Full.finalGhost2 ext calls).close ext = some (es, gap, c))
    (v : Option Nat) (s' : WState) (d' : Dev)
    (hfin : step ext .finish (runCalls ext calls WState.init none (Dev.ofBytes [])).2.1 none
      (runCalls ext calls WState.init none (Dev.ofBytes [])).2.2 = (.ok (.ok v, s'), d'))
    (hS : C03.NoFalseSig (layoutOf es gap c []))
    (hsize : (build (layoutOf es gap c [])).length < 2 ^ 63)
    (hu : ∀ e ∈ es, e.usize.toNat < 2 ^ 63)
    (hcx : ∀ e ∈ es, e.centralExtra.length + 28 ≤ 0xFFFF) :
    let made := madeOf2 calls (runCalls ext calls WState.init none (Dev.ofBytes [])).1
    d'.buf = build (layoutOf es gap c []) ∧
    ∃ a d1, openArchive.runPure (Dev.ofBytes d'.buf) = (.ok a, d1) ∧
      a.files.length = made.length ∧ es.length = made.length ∧
      ∀ (i : Nat) (m : Made2), made[i]? = some m →
        ∃ e off chs ds d2, es[i]? = some e ∧ a.files[i]? = some (viewEntry e off 0 chs) ∧
          e.name = m.name ∧ e.method = m.opts.method.toU16 ∧
          (m.isRaw = false → e.centralExtra = m.cx ∧ (∀ l, m.lx = some l → e.localExtra = l) ∧
            e.crc = Spec.Crc32.crc32 m.bytes ∧ e.usize = UInt64.ofNat m.bytes.length) ∧
          (m.isRaw = true → e.data = m.bytes ∧ e.crc = (m.rawv.getD (0, 0, 0)).1 ∧
            e.usize = (m.rawv.getD (0, 0, 0)).2.2) ∧
          (byIndexRaw a i).runPure d1 = (.ok (ds, e.data), d2) := by
  intro made
  obtain ⟨hbuf, hF, d1, hopen, _, _, hfiles, hlen, hraw⟩ :=
    C02Full.write_read_roundtrip_full ext calls hc es gap c hg v s' d' hfin hS hsize hu hcx
  have horg := C02Full.emitted_origins_full ext calls es gap c hg
  have hmade : Forall2 MadeRel2 made (C02Full.finalOrigins2 ext calls) :=
    origins_are_made2 ext calls hal _ (fin_alive (Ghost2.close_fin hg).1)
  have hl1 := WL.Forall2.length_eq hmade
  have hl2 := WL.Forall2.length_eq horg
  refine ⟨hbuf, archiveOf (layoutOf es gap c []), d1, hopen, by rw [hlen]; omega, by omega, ?_⟩
  intro i m hi
  obtain ⟨org, ho1, hr1⟩ := Forall2.get_left hmade i m hi
  obtain ⟨e, he, hr2⟩ := Forall2.get_left horg i org ho1
  obtain ⟨off, chs, _, hv⟩ := C03.entry_view (layoutOf es gap c []) i e he
  obtain ⟨ds, d2, hrw⟩ := hraw i e he
  obtain ⟨k1, k2, k3, k4⟩ := made_entry2 ext hr1 hr2
  exact ⟨e, off, chs, ds, d2, he, hv, k1, k2, k3, k4, hrw⟩

/-- the emitted entry of an expected entry written through the writer, with its origin -/
theorem made_written (wext : WExt) (calls : List Call) (hal : ∀ c ∈ calls, AlignOk c)
    (es : List Spec.Zip.Entry) (gap c : Bytes)
    (hg : (C02Full.finalGhost2 wext calls).close wext = some (es, gap, c)) (i : Nat) (m : Made2)
    (hi : (madeOf2 calls (runCalls wext calls WState.init none (Dev.ofBytes [])).1)[i]? = some m)
    (hraw : m.isRaw = false) :
    ∃ e lx cx hs ds, es[i]? = some e ∧
      OriginRel2 wext (.written (mkRec m.name m.opts m.rawv hs ds) m.enc lx cx m.bytes) e := by
  have hmade := origins_are_made2 wext calls hal (runCalls wext calls WState.init none (Dev.ofBytes [])).1
    (fin_alive (Ghost2.close_fin hg).1)
  have horg := C02Full.emitted_origins_full wext calls es gap c hg
  obtain ⟨org, ho1, hr1⟩ := Forall2.get_left hmade i m hi
  obtain ⟨e, he, hr2⟩ := Forall2.get_left horg i org ho1
  cases org with
  | old => exact hr1.elim
  | raw f p => rw [hr1.1] at hraw; cases hraw
  | written f enc lx cx p =>
    obtain ⟨_, rfl, rfl, _, _, hs, ds, rfl⟩ := hr1
    exact ⟨e, lx, cx, hs, ds, he, hr2⟩

/-- **Reading an unencrypted entry returns exactly the bytes whose `write` returned `Ok` in data mode** —
also for entries started in extra-data or aligned mode — when the layout `Fits`, the method is one the
writer supports and the codec round-trips on these bytes (`hcodec`). -/
theorem finish_output_plaintext_full (wext : WExt) (rext : Ext) (calls : List Call)
    (hal : ∀ c ∈ calls, AlignOk c) (es : List Spec.Zip.Entry) (gap c : Bytes)
    (hg : (C02Full.finalGhost2 wext calls).close wext = some (es, gap, c))
    (hF : (layoutOf es gap c []).Fits) (i : Nat) (m : Made2)
    (hi : (madeOf2 calls (runCalls wext calls WState.init none (Dev.ofBytes [])).1)[i]? = some m)
    (hraw : m.isRaw = false) (henc : m.enc = none) (hopt : m.opts.encryptWith = none)
    (hw : writable m.opts.method = true)
    (hcodec : rext.decode m.opts.method (dataOf wext m.rec0 m.bytes) = .ok m.bytes)
    (pw : Option Bytes) (d : Dev) (hd : d.buf = build (layoutOf es gap c [])) :
    ∃ ds d', (byIndexRead rext (archiveOf (layoutOf es gap c [])) i pw).runPure d =
        (.ok (.ok (ds, .ok m.bytes)), d') := by
  obtain ⟨e, lx, cx, hs, ds0, he, hr2⟩ := made_written wext calls hal es gap c hg i m hi hraw
  rw [henc] at hr2
  obtain ⟨ds, d', h, _⟩ := C02Full.roundtrip_entry_plain_full wext rext hF i e he _ lx cx m.bytes hr2
    (by show m.opts.encryptWith.isSome = false; rw [hopt]; rfl) hw hcodec pw d hd
  exact ⟨ds, d', h⟩

/-- **Reading a ZipCrypto entry with its password returns exactly the bytes whose `write` returned `Ok`**,
under the cipher round trip of `C02Full.roundtrip_entry_zc_full` and the codec round trip. -/
theorem finish_output_zc_full (wext : WExt) (rext : Ext) (calls : List Call)
    (hal : ∀ c ∈ calls, AlignOk c) (es : List Spec.Zip.Entry) (gap c : Bytes)
    (hg : (C02Full.finalGhost2 wext calls).close wext = some (es, gap, c))
    (hF : (layoutOf es gap c []).Fits) (i : Nat) (m : Made2) (pw : Bytes)
    (hi : (madeOf2 calls (runCalls wext calls WState.init none (Dev.ofBytes [])).1)[i]? = some m)
    (hraw : m.isRaw = false) (henc : m.enc = some pw) (hopt : m.opts.encryptWith.isSome = true)
    (hw : writable m.opts.method = true)
    (hcipher : rext.zipCrypto pw (Spec.Crc32.crc32 m.bytes >>> 24).toUInt8
      (wext.zcEncrypt pw (zcPlain (Spec.Crc32.crc32 m.bytes) (dataOf wext m.rec0 m.bytes))) =
        .ok (some (dataOf wext m.rec0 m.bytes)))
    (hcodec : rext.decode m.opts.method (dataOf wext m.rec0 m.bytes) = .ok m.bytes)
    (d : Dev) (hd : d.buf = build (layoutOf es gap c [])) :
    ∃ ds d', (byIndexRead rext (archiveOf (layoutOf es gap c [])) i (some pw)).runPure d =
        (.ok (.ok (ds, .ok m.bytes)), d') := by
  obtain ⟨e, lx, cx, hs, ds0, he, hr2⟩ := made_written wext calls hal es gap c hg i m hi hraw
  rw [henc] at hr2
  obtain ⟨ds, d', h, _⟩ := C02Full.roundtrip_entry_zc_full wext rext hF i e he _ pw lx cx m.bytes hr2
    hopt hw hcipher hcodec d hd
  exact ⟨ds, d', h⟩

/-! ## 5. The expectation evaluated on the scripts `scriptX`, `scriptY` of `Props/C02Full.lean` -/

open ZipVerif.Props.C02Full (scriptX scriptY wext2 xrec)

example : (∀ c ∈ scriptX ++ scriptY, Level2R c ∧ AlignOk c) := by decide +kernel

/-- `scriptX`: extra data split between local and central header, then an aligned file.  The expectation,
from calls and outcomes alone: "x" with content [5,6,7], local extra data `xrec`, central extra data the
0xbeef record; "y" (aligned) with content [1,2], local extra data unspecified (padding), no central
extra data. -/
example :
    (madeOf2 scriptX (runCalls wext2 scriptX WState.init none (Dev.ofBytes [])).1).map
        (fun m => (m.name, m.bytes, m.lx, m.cx)) =
      [([0x78], [5, 6, 7], some xrec, le16 0xbeef ++ le16 1 ++ [9]), ([0x79], [1, 2], none, [])] := by
  decide +kernel

/-- `scriptY`: a ZipCrypto file, an entry left in extra-data mode (closed by the next start: its extra
data go to both headers), an encrypted directory -/
example :
    (madeOf2 scriptY (runCalls wext2 scriptY WState.init none (Dev.ofBytes [])).1).map
        (fun m => (m.name, m.bytes, m.enc, m.lx, m.cx)) =
      [([0x7a], [8, 8], some [0x70, 0x77], some [], []), ([0x77], [], none, some xrec, xrec),
       ([0x64, 0x2f], [], some [1], some [], [])] := by
  decide +kernel

/-- the layout the ghost emits for `scriptX` has the names, extra data and sizes of the expectation above -/
example :
    (match (C02Full.finalGhost2 wext2 scriptX).close wext2 with
     | some (es, _, _) => es.map (fun e => (e.name, e.centralExtra)) ==
        [([0x78], le16 0xbeef ++ le16 1 ++ [9]), ([0x79], [])] &&
        (es.map (·.localExtra)).take 1 == [xrec] && es.map (·.usize) == [3, 2]
     | none => false) = true := by decide +kernel

end ZipVerif.Props.C12ArchiveFull
