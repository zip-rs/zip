import ZipVerif.Lemmas.StreamRun
import ZipVerif.Props.C03
/-
C10 — The streaming reader agrees with the seekable reader.

Statements and short derivations; the proofs are in `Lemmas/StreamParse.lean` (the model's
`read_zipfile_from_stream` on the spec's serialisation of the LOCAL record of an arbitrary entry, the refusals, soundness on
arbitrary input) and `Lemmas/StreamRun.lean` (the entry loops, the visitor's central-directory loop and
`ZipStreamReader::visit` on `Spec.Zip.build l`), on top of the C03 development (`Lemmas/IORun.lean`,
`CentralParseZ.lean`, `ZipLayout.lean`, `ReadWf.lean`, `Props/C03.lean`).

* the producer is `Spec.Zip.build : Layout → Bytes` (APPNOTE, independent of the crate);
* the streaming reader is `Model.streamHeader` / `streamEntryC` / `streamEntriesC` (a consumer `Consume`
  per entry: it asks for `k` decoded bytes, its reads pull `pulled` compressed bytes through the `Take` in
  reads of `chunk` bytes — decoder read-ahead is any `pulled` —, then it drops the handle and `drain` reads
  what is left of the `Take` in 64 KiB reads, as `ZipFile::drop` does) / `streamEntries`
  (read everything) / `streamVisit` (Model/Reader.lean).  Tied to the crate by translation are the parts:
  `read_zipfile_from_stream` = `streamHeader` (`Tie/StreamGlue`), `ZipFile::drain_stream` and `Drop` = the drain
  (`Tie/Drain`), `ZipStreamReader::visit` = `Model.streamVisitC`, the visitor under a consumption pattern
  (`Tie/Visit`, `Tie/VisitC`, under the hypotheses on device and fuel stated there).  The compositions the
  statements below are about are compared with the crate by the `read` stream of the correspondence:
  `read.stream` runs `streamVisit`, `read.streamc` runs `streamEntriesC`;
* the seekable reader is `Model.openArchive` / `byIndexRead` (C03).

What the stream must report for an entry is `Spec.Zip.streamViewEntry` (written from the LOCAL record).
NOT available to a stream, as documented by the crate (`ZipStreamVisitor::visit_file`,
`read_zipfile_from_stream`): the entry comment (empty), the external attributes (0, so `unix_mode()`
is `None`), header / data / central-header offsets (0) — `stream_eq_seek` states these explicitly; they
arrive afterwards through `visit_additional_metadata` (`visit_order`).  `system` / `version_made_by`
are read from the local header's only version field ("version needed to extract") and the extra field
is the LOCAL one: neither is comparable with the central record's value.
-/

namespace ZipVerif.Props.C10
open ZipVerif ZipVerif.Model ZipVerif.Spec.Zip

/-! ## 0. Hypotheses -/

/-- **The local records lie back to back from offset 0 and the central directory follows the last one**:
no prefix, no gaps, no data descriptors — a stream has no other way to find the next record. -/
def Contiguous (l : Layout) : Prop :=
  l.pre = [] ∧ (∀ e ∈ l.entries, e.gapBefore = [] ∧ e.desc = .none) ∧ l.gapBeforeCd = []

instance (l : Layout) : Decidable (Contiguous l) := by unfold Contiguous; infer_instance

/-- **Every local header carries the sizes** (`Spec.Zip.LocalSizesOk`, Lemmas/StreamParse.lean): no data
descriptor (neither laid out nor flagged: bit 3 clear), not encrypted (bit 0 clear), the foreign local
extra data are well-formed records without the identifiers 0x0001 / 0x9901, the method has a decoder,
and without a local ZIP64 record both sizes fit 32 bits. -/
def LocalSizes (l : Layout) : Prop := ∀ e ∈ l.entries, LocalSizesOk e

instance (l : Layout) : Decidable (LocalSizes l) := by unfold LocalSizes; infer_instance

theorem localSizesOk_iff (e : Entry) :
    LocalSizesOk e ↔
      (e.hasDesc = false ∧ (e.flags &&& 1 == 1) = false ∧ (e.flags &&& 0x0008 != 0) = false ∧
       ExtraOk e.localExtra ∧ (Method.fromU16 e.method).decodable = true ∧
       (e.localZip64 = false → e.csize.toNat < 4294967296 ∧ e.usize.toNat < 4294967296)) := Iff.rfl

/-- the per-entry hypotheses in the form the loop lemmas use -/
theorem contiguous_entries {l : Layout} (hC : Contiguous l) (hS : LocalSizes l) :
    ∀ e ∈ l.entries, LocalSizesOk e ∧ e.gapBefore = [] :=
  fun e he => ⟨hS e he, (hC.2.1 e he).1⟩

/-! ## 1. One entry: header, consumption, drain -/

/-- On any device whose bytes at the current position are the local record of
a servable entry, `read_zipfile_from_stream` returns the stream view of the entry (sizes from the local
header, or from the local ZIP64 record when present; name decoded by the flag; comment empty, attributes
0, offsets 0), having consumed exactly the record: the device stands at the first data byte. -/
theorem stream_header_view (e : Entry) (hf : e.Fits) (hs : LocalSizesOk e) (d : Dev) (rest : Bytes)
    (hd : d.buf.drop d.pos = localRecord e ++ rest) :
    ∃ d', streamHeader.runPure d = (.ok (some (streamViewEntry e)), d') ∧ d'.buf = d.buf ∧
      d'.pos = d.pos + (localRecord e).length :=
  (parses_streamHeader e d.pos hf hs).toRuns hd d rfl rfl

/-- The reported values, spelled out. -/
theorem stream_view_fields (e : Entry) :
    let v := streamViewEntry e
    v.crc32 = e.crc ∧ v.compressedSize = e.csize ∧ v.uncompressedSize = e.usize ∧
    v.method = Method.fromU16 e.method ∧ v.time = DateTime.fromMsdos e.date e.time ∧
    v.fileNameRaw = e.name ∧ v.fileName = Text.decodeToUtf8 (e.flagsOut &&& 0x0800 != 0) e.name ∧
    v.extraField = e.localExtraAll ∧ v.largeFile = e.localZip64 ∧
    v.fileComment = [] ∧ v.externalAttributes = 0 ∧ v.unixMode = none ∧
    v.headerStart = 0 ∧ v.dataStart = 0 ∧ v.centralHeaderStart = 0 :=
  ⟨rfl, rfl, rfl, rfl, rfl, rfl, rfl, rfl, rfl, rfl, rfl, rfl, rfl, rfl, rfl⟩

/-- Whatever the consumer `c` does before it drops the handle — asks for any number
`c.k` of decoded bytes, has pulled ANY number `c.pulled` of compressed bytes through the `Take` by then (a
decoder reading ahead, a consumer stopping early or never reading), in reads of ANY size `c.chunk` — the
entry is reported as `streamViewEntry e`, the consumer has seen `consumeK` of the decoder's output, and the
drain of `ZipFile::drop` leaves the device exactly `compressed size` bytes behind the first data byte, i.e.
on the next record.  (`streamEntryC` performs the consumer's reads and the drain's reads as device steps: a
reader that skipped or shortened the drain would end at `data start + pulled` — `streamEntryNoDrain` and the
example under it.) -/
theorem drain_positions (ext : Ext) (c : Consume) (e : Entry) (hf : e.Fits) (hs : LocalSizesOk e) (d : Dev)
    (rest : Bytes) (hd : d.buf.drop d.pos = localRecord e ++ (e.data ++ rest)) :
    ∃ d', (streamEntryC ext c).runPure d =
        (.ok (some (streamViewEntry e, consumeK e.crc (ext.decode (Method.fromU16 e.method) e.data)
          (ext.decodeBefore (Method.fromU16 e.method) e.data c.k) c.k)), d') ∧
      d'.buf = d.buf ∧ d'.pos = d.pos + (localRecord e).length + e.data.length ∧
      d'.buf.drop d'.pos = rest := by
  obtain ⟨d', h1, h2, h3⟩ := runs_streamEntryC ext c e hf hs hd d rfl rfl
  refine ⟨d', h1, h2, h3, ?_⟩
  rw [h2, h3]
  exact drop_past (drop_past hd)

/-- The two device phases separately: on a device holding the `csize` bytes of the
`Take` at `ds`, the consumer's reads deliver some `n ≤ min pulled csize` bytes without error and leave the
device at `ds + n`; the drain, started there with the `Take`'s remaining limit `csize − n`, ends at
`ds + csize` — for every `pulled` and `chunk`. -/
theorem drain_reads_the_rest (B : Bytes) (ds csize pulled chunk : Nat) (h : csize ≤ B.length - ds) :
    ∃ n, n ≤ min pulled csize ∧
      Runs (takeLoop chunk (min pulled csize) (min pulled csize)) B ds (.ok (n, none)) (ds + n) ∧
      Runs (drain (csize - n)) B (ds + n) (.ok ()) (ds + csize) := by
  obtain ⟨n, hn, hr, _⟩ := runs_takeLoop (B := B) chunk (min pulled csize) (min pulled csize) ds (by omega)
  exact ⟨n, hn, hr, (runs_drain (B := B) (csize - n) (ds + n) (by omega)).cast rfl (by omega)⟩

/-- the data start is the one the seekable reader computes (`Props.C03.reader_entry_raw`) -/
theorem drain_position_spec (e : Entry) (off : Nat) :
    off + (localRecord e).length + e.data.length = e.dataStart off 0 + e.data.length := by
  rw [localRecord_length]; simp [Entry.dataStart]; omega

/-- What the consumer sees (`consumeK`) when the decoder succeeds: the first `k` bytes (`consume_none`: nothing
for `k = 0`; `consume_all`: everything and the CRC verdict for `k` beyond the decoded length). -/
theorem consume_part (crc : UInt32) (dec bf : Bytes) (k : Nat) (h : k ≤ dec.length) :
    consumeK crc (.ok dec) bf k = .ok (dec.take k) := by
  simp [consumeK, h]

theorem consume_none (crc : UInt32) (dec bf : Bytes) : consumeK crc (.ok dec) bf 0 = .ok [] :=
  consume_part crc dec bf 0 (Nat.zero_le _)

theorem consume_all (crc : UInt32) (dec bf : Bytes) (k : Nat) (h : dec.length < k) :
    consumeK crc (.ok dec) bf k = crcCheck false crc dec := by
  simp [consumeK, Nat.not_le.mpr h]

/-- What the consumer sees (`consumeK`) on a DAMAGED stream (the decoder ends with an error `x`): the bytes the
decoder hands out before it notices are delivered — `k` of them when there are that many —, else the error
(`consume_damaged_err`).  (The crate returns the first bytes: a 70 000-byte deflate entry damaged near its end
still yields its first byte.) -/
theorem consume_damaged_part (crc : UInt32) (x : ZErr) (bf : Bytes) (k : Nat) (h : k ≤ bf.length) :
    consumeK crc (.err x) bf k = .ok (bf.take k) := by
  simp [consumeK, h]

theorem consume_damaged_err (crc : UInt32) (x : ZErr) (bf : Bytes) (k : Nat) (h : bf.length < k) :
    consumeK crc (.err x) bf k = .err x := by
  simp [consumeK, Nat.not_le.mpr h]

/-- a consumer that never reads sees no error, whatever the state of the stream -/
theorem consume_zero (crc : UInt32) (x : ZErr) (bf : Bytes) : consumeK crc (.err x) bf 0 = .ok [] :=
  consume_damaged_part crc x bf 0 (Nat.zero_le _)

/-! ## 2. The entry loop under a consumption pattern -/

theorem stream_entries_get (ext : Ext) (c : List Consume) (l : Layout) (i : Nat) (e : Entry)
    (he : l.entries[i]? = some e) :
    (streamResultsC ext c 0 l.entries)[i]? =
      some (streamViewEntry e,
        consumeK e.crc (ext.decode (Method.fromU16 e.method) e.data)
          (ext.decodeBefore (Method.fromU16 e.method) e.data (patAt c i).k) (patAt c i).k) := by
  have := streamResultsC_getElem ext c l.entries 0 i e he
  rw [Nat.zero_add] at this
  exact this

/-- For every layout whose values fit their fields, whose local records are
contiguous and carry the sizes, with at least one entry, and for EVERY consumption pattern `c` (a list of
consumers — decoded bytes asked for, compressed bytes pulled, read size —, cycled over the entries):
`read_zipfile_from_stream` called in a loop on `build l`, reading `c_i.k` decoded bytes of entry `i` and
dropping the handle, returns for each entry, in order,
`(streamViewEntry e_i, consumeK e_i.crc (decode m_i e_i.data) (decodeBefore …) c_i.k)`, then signals the end of entries at
the central directory (exactly `l.entries.length` entries), and leaves the device 4 bytes into the central
directory (the signature it has consumed).  The fuel `len / 30 + 1` is the one `Model.streamVisit` runs the loop
with: an entry takes at least the 30 bytes of its local header, one more round meets the central directory. -/
theorem stream_entries_eq (ext : Ext) (l : Layout) (hF : l.Fits) (hC : Contiguous l) (hS : LocalSizes l)
    (hne : l.entries ≠ []) (c : List Consume) :
    ∃ r d', (streamEntriesC ext c ((build l).length / 30 + 1) 0).runPure (Dev.ofBytes (build l)) = (.ok r, d') ∧
      r.length = l.entries.length ∧
      (∀ i e, l.entries[i]? = some e →
        r[i]? = some (streamViewEntry e,
          consumeK e.crc (ext.decode (Method.fromU16 e.method) e.data)
            (ext.decodeBefore (Method.fromU16 e.method) e.data (patAt c i).k) (patAt c i).k)) ∧
      d'.buf = build l ∧ d'.pos = l.cdStart + 4 ∧ r = streamResultsC ext c 0 l.entries := by
  obtain ⟨d', h1, h2, h3⟩ := runs_streamEntriesC_build ext c l hF hC.1 hC.2.2 (contiguous_entries hC hS) hne
    (Dev.ofBytes (build l)) rfl rfl
  exact ⟨_, d', h1, streamResultsC_length ext c _ _, stream_entries_get ext c l, h2, h3, rfl⟩

/-- `patAt c i` is the `i`-th element of the pattern, cycled. -/
theorem patAt_spec (c : List Consume) (i : Nat) (hc : c ≠ []) :
    c[i % c.length]? = some (patAt c i) := by
  have hl : 0 < c.length := List.length_pos_iff.mpr hc
  have : i % c.length < c.length := Nat.mod_lt _ hl
  unfold patAt Consume.at
  rw [List.getElem?_eq_getElem this]

/-- Two consumers with different patterns (different byte counts,
different amounts of compressed data pulled through the `Take`, different read sizes) see the same sequence
of entries (metadata) and leave the stream at the same position: the drain makes the position after each
entry `data start + compressed size` whatever was consumed (`drain_positions`). -/
theorem stream_consumption_independent (ext : Ext) (l : Layout) (hF : l.Fits) (hC : Contiguous l)
    (hS : LocalSizes l) (hne : l.entries ≠ []) (c c' : List Consume) :
    ∃ r r' d d', (streamEntriesC ext c ((build l).length / 30 + 1) 0).runPure (Dev.ofBytes (build l)) = (.ok r, d) ∧
      (streamEntriesC ext c' ((build l).length / 30 + 1) 0).runPure (Dev.ofBytes (build l)) = (.ok r', d') ∧
      r.map Prod.fst = r'.map Prod.fst ∧ r.map Prod.fst = l.entries.map streamViewEntry ∧
      d.pos = d'.pos ∧ d.buf = d'.buf := by
  obtain ⟨r, d, h1, _, _, h2, h3, hr⟩ := stream_entries_eq ext l hF hC hS hne c
  obtain ⟨r', d', h1', _, _, h2', h3', hr'⟩ := stream_entries_eq ext l hF hC hS hne c'
  refine ⟨r, r', d, d', h1, h1', ?_, ?_, by rw [h3, h3'], by rw [h2, h2']⟩
  · rw [hr, hr', streamResultsC_fst, streamResultsC_fst]
  · rw [hr, streamResultsC_fst]

/-- A consumer that reads every entry to end-of-file (`c_i.k` beyond the decoded length; on a damaged
stream beyond what comes out before the error: `Model.Beyond`) sees what the read-everything loop
`streamEntries` reports: the decoder's output gated by the CRC. -/
theorem stream_entries_all (ext : Ext) (c : List Consume) (l : Layout)
    (hall : ∀ i e, l.entries[i]? = some e → Beyond ext e (patAt c i).k) :
    streamResultsC ext c 0 l.entries = streamResults ext l.entries :=
  streamResultsC_all ext c l.entries 0 (fun j e he => by
    rw [Nat.zero_add]; exact hall j e he)

/-! ## 3. Agreement with the seekable reader -/

/-- Under the hypotheses of `stream_entries_eq` and those of C03's `reader_on_wf`
(`Readable`, `NoFalseSig`): the seekable reader opens `build l`, the streaming reader (reading every
entry to the end) runs through it, both report the same number of entries, and for every index `i` the
stream's entry and the seekable reader's entry agree on decoded name, raw name, method, timestamp, CRC,
compressed size, uncompressed size and the two flags, and the CONTENT outcome of the stream (decoder
output gated by the CRC: `decode >>= crcCheck`) is exactly what `by_index(i)` read to the end returns on
the seekable side.  Fields NOT available to the stream are stated: comment empty, external attributes 0
(`unix_mode() = None`), header / central-header / data offsets 0. -/
theorem stream_eq_seek (ext : Ext) (l : Layout) (hF : l.Fits) (hC : Contiguous l) (hS : LocalSizes l)
    (hne : l.entries ≠ []) (hR : l.Readable) (hN : Props.C03.NoFalseSig l)
    (ht : l.trailing = [] ∨ l.needs64 = false) :
    ∃ a d1 files d2,
      openArchive.runPure (Dev.ofBytes (build l)) = (.ok a, d1) ∧
      (streamEntries ext ((build l).length / 30 + 1)).runPure (Dev.ofBytes (build l)) = (.ok files, d2) ∧
      a.files = viewOf l ∧ files.length = a.files.length ∧ files.length = l.entries.length ∧
      d2.pos = l.cdStart + 4 ∧
      ∀ i, i < files.length → ∃ v sv res, a.files[i]? = some v ∧ files[i]? = some (sv, res) ∧
        sv.fileName = v.fileName ∧ sv.fileNameRaw = v.fileNameRaw ∧ sv.method = v.method ∧
        sv.time = v.time ∧ sv.crc32 = v.crc32 ∧ sv.compressedSize = v.compressedSize ∧
        sv.uncompressedSize = v.uncompressedSize ∧ sv.encrypted = v.encrypted ∧
        sv.usingDataDescriptor = v.usingDataDescriptor ∧
        (∃ ds d3, (byIndexRead ext a i none).runPure d1 = (.ok (.ok (ds, res)), d3)) ∧
        sv.fileComment = [] ∧ sv.externalAttributes = 0 ∧ sv.unixMode = none ∧
        sv.headerStart = 0 ∧ sv.centralHeaderStart = 0 ∧ sv.dataStart = 0 := by
  obtain ⟨d1, ho, hb1⟩ := Props.C03.reader_on_wf l hF hR hN ht
  obtain ⟨d2, hs1, _, hs3⟩ := runs_streamEntries_build ext l hF hC.1 hC.2.2 (contiguous_entries hC hS) hne
    (Dev.ofBytes (build l)) rfl rfl
  have hlen : (streamResults ext l.entries).length = l.entries.length := by simp [streamResults]
  have hvl : (archiveOf l).files.length = l.entries.length := (Props.C03.archive_fields l).2.2.2
  refine ⟨archiveOf l, d1, streamResults ext l.entries, d2, ho, hs1, rfl, by rw [hlen, hvl], hlen, hs3, ?_⟩
  intro i hi
  rw [hlen] at hi
  have he : l.entries[i]? = some l.entries[i] := List.getElem?_eq_getElem hi
  generalize l.entries[i] = e at he
  obtain ⟨off, chs, _, hv⟩ := Props.C03.entry_view l i e he
  have hse := hS e (List.mem_of_getElem? he)
  have henc : (e.flagsOut &&& 1 == 1) = false := by rw [flagsOut_of_noDesc hse.1]; exact hse.2.1
  obtain ⟨off', d3, _, hr, _⟩ := Props.C03.reader_entry_read ext l hF i e he none henc hse.2.2.2.2.1 d1 hb1
  exact ⟨viewEntry e off l.pre.length chs, streamViewEntry e, streamSeenAll ext e, hv,
    streamResults_getElem ext l.entries i e he, rfl, rfl, rfl, rfl, rfl, rfl, rfl, rfl, rfl,
    ⟨_, d3, hr⟩, rfl, rfl, rfl, rfl, rfl, rfl⟩

/-- When the seekable reader's `by_index` read to the end returns `content`
(decoder succeeded, CRC matched), a streaming consumer that asks for `k` bytes of that entry sees exactly
the first `k` bytes of `content` — all of it when `k` exceeds its length — for every `k`. -/
theorem stream_prefix_of_seek (ext : Ext) (e : Entry) (content : Bytes) (k : Nat)
    (h : (ext.decode (Method.fromU16 e.method) e.data >>= fun dec => crcCheck false e.crc dec) = .ok content) :
    consumeK e.crc (ext.decode (Method.fromU16 e.method) e.data)
      (ext.decodeBefore (Method.fromU16 e.method) e.data k) k = .ok (content.take k) := by
  cases hd : ext.decode (Method.fromU16 e.method) e.data with
  | err x => rw [hd] at h; cases h
  | panic x => rw [hd] at h; cases h
  | ok dec =>
    rw [hd] at h
    have hc : crcCheck false e.crc dec = .ok content := h
    have hdc : dec = content := by
      unfold crcCheck at hc
      split at hc
      · cases hc
      · cases hc; rfl
    subst hdc
    by_cases hk : k ≤ dec.length
    · exact consume_part e.crc dec _ k hk
    · rw [consume_all e.crc dec _ k (Nat.not_le.mp hk), hc, List.take_of_length_le (by omega)]

/-! ## 4. The visitor -/

/-- `ZipStreamReader::visit` on `build l` delivers (`files`) one `visit_file` per
entry, in order, with the stream view and the content outcome of `stream_eq_seek`, and then (`metas`) one
`visit_additional_metadata` per entry, in order, once each, carrying the CENTRAL record's view of the
entry — exactly the seekable reader's entry list `viewOf l` with `central_header_start` replaced by the
dummy 0 the stream passes (the prefix length, `archive_offset`, is 0 for a contiguous layout) — and stops
at the first non-central signature (ZIP64 end record or end record), 4 bytes into it.  The first central
record's signature has been consumed by the entry loop: the visitor parses the rest of that record. -/
theorem visit_order (ext : Ext) (l : Layout) (hF : l.Fits) (hC : Contiguous l) (hS : LocalSizes l)
    (hne : l.entries ≠ []) (hR : l.Readable) :
    ∃ d', (streamVisit ext).runPure (Dev.ofBytes (build l)) =
        (.ok (streamResults ext l.entries,
              (viewOf l).map (fun v => { v with centralHeaderStart := 0 })), d') ∧
      d'.buf = build l ∧ d'.pos = l.end64Pos + 4 := by
  obtain ⟨d', h1, h2, h3⟩ := runs_streamVisit_build ext l hF hC.1 hC.2.2 (contiguous_entries hC hS) hR hne
    (Dev.ofBytes (build l)) rfl rfl
  refine ⟨d', ?_, h2, h3⟩
  rw [h1, metaList_eq_viewList l.entries 0 l.cdStart]
  unfold viewOf
  rw [hC.1]
  rfl

/-- one file callback and one metadata callback per entry; the metadata names are the entries' names in
order, the same sequence as the files' names -/
theorem visit_counts (ext : Ext) (l : Layout) :
    (streamResults ext l.entries).length = l.entries.length ∧
    ((viewOf l).map (fun v => { v with centralHeaderStart := 0 })).length = l.entries.length ∧
    ((viewOf l).map (fun v => { v with centralHeaderStart := 0 })).map (·.fileNameRaw) =
      (streamResults ext l.entries).map (·.1.fileNameRaw) := by
  refine ⟨by simp [streamResults], by simp [viewOf, viewList_length], ?_⟩
  have h1 : (streamResults ext l.entries).map (·.1.fileNameRaw) = l.entries.map (·.name) := by
    simp only [streamResults, List.map_map]; rfl
  have h2 : ((viewOf l).map (fun v => { v with centralHeaderStart := 0 })).map (·.fileNameRaw) =
      l.entries.map (·.name) := by
    rw [List.map_map]
    exact viewList_names _ _ _ _
  rw [h1, h2]


/-! ## 5. Entries the stream cannot serve -/

/-- the three reasons, on the layout: a data descriptor (laid out, hence flagged), the encryption bit,
a method without a decoder — in particular 99, the WinZip-AES pseudo method -/
theorem refused_cases (e : Entry) :
    (e.hasDesc = true → StreamRefused e) ∧ ((e.flagsOut &&& 1 == 1) = true → StreamRefused e) ∧
    ((e.flagsOut &&& 0x0008 != 0) = true → StreamRefused e) ∧ (e.method = 99 → StreamRefused e) ∧
    (∀ v, Method.fromU16 e.method = .unsupported v → StreamRefused e) :=
  ⟨hasDesc_refused, Or.inl, fun h => Or.inr (Or.inl h),
   fun h => Or.inr (Or.inr (by rw [h]; rfl)), fun v h => Or.inr (Or.inr (by rw [h]; rfl))⟩

/-- On any device whose bytes at the current position are the local record
of an entry with the data-descriptor bit, the encryption bit or an undecodable method,
`read_zipfile_from_stream` answers `UnsupportedArchive` (after consuming the header): no entry, no data. -/
theorem stream_refuses_header (e : Entry) (hf : e.Fits) (hx : ExtraOk e.localExtra) (hr : StreamRefused e)
    (d : Dev) (rest : Bytes) (hd : d.buf.drop d.pos = localRecord e ++ rest) :
    ∃ d', streamHeader.runPure d = (.err .unsupportedArchive, d') ∧ d'.buf = d.buf :=
  let ⟨d', h1, h2, _⟩ := (parsesO_streamHeader_refuses e d.pos hf hx hr).toRuns hd d rfl rfl
  ⟨d', h1, h2⟩

/-- In a layout without prefix whose first entries `es1` are servable and
contiguous, an entry `e` the stream cannot serve (encrypted, data descriptor, no decoder) makes the entry
loop — under every consumption pattern — and the visitor end with `UnsupportedArchive` when they reach
it: an error, never an entry, never data. -/
theorem stream_refuses (ext : Ext) (c : List Consume) (l : Layout) (hF : l.Fits) (hp : l.pre = [])
    (es1 es2 : List Entry) (e : Entry) (hes : l.entries = es1 ++ e :: es2)
    (h1 : ∀ x ∈ es1, LocalSizesOk x ∧ x.gapBefore = []) (hg : e.gapBefore = [])
    (hx : ExtraOk e.localExtra) (hr : StreamRefused e) :
    (∃ d', (streamEntriesC ext c ((build l).length / 30 + 1) 0).runPure (Dev.ofBytes (build l)) =
      (.err .unsupportedArchive, d')) ∧
    (∃ d', (streamVisit ext).runPure (Dev.ofBytes (build l)) = (.err .unsupportedArchive, d')) := by
  obtain ⟨d1, h1', _, _⟩ := runs_streamEntriesC_build_refuses ext c l hF hp es1 es2 e hes h1 hg hx hr
    (Dev.ofBytes (build l)) rfl rfl
  obtain ⟨d2, h2', _, _⟩ := runs_streamVisit_build_refuses ext l hF hp es1 es2 e hes h1 hg hx hr
    (Dev.ofBytes (build l)) rfl rfl
  exact ⟨⟨d1, h1'⟩, ⟨d2, h2'⟩⟩

/-- On ANY device (arbitrary bytes, truncated, hostile) and under ANY injected
I/O fault: whenever the streaming reader hands out an entry, that entry has the encryption flag and the
data-descriptor flag clear and a method the crate has a decoder for.  Contrapositive: encrypted and
data-descriptor entries never yield an entry (hence never data) — the call ends in an error. -/
theorem stream_never_data (ext : Ext) (c : Consume) (fa : Option Nat) (d d' : Dev) (f : FileData)
    (res : Out Bytes) (h : streamEntryC ext c fa d = (.ok (some (f, res)), d')) :
    f.encrypted = false ∧ f.usingDataDescriptor = false ∧ f.method.decodable = true := by
  unfold streamEntryC at h
  obtain ⟨hd, d1, h1, h2⟩ := M.bind_ok_elim h
  cases hd with
  | none => cases M.pure_ok_eq h2
  | some f0 =>
    obtain ⟨dv, d2, _, h3⟩ := M.bind_ok_elim h2
    obtain ⟨ne, d3, _, h4⟩ := M.bind_ok_elim h3
    obtain ⟨_, d4, _, h5⟩ := M.bind_ok_elim h4
    have hf : f0 = f := by
      obtain ⟨n, eo⟩ := ne
      cases eo with
      | none => exact congrArg Prod.fst (Option.some.inj (M.pure_ok_eq h5))
      | some x => exact congrArg Prod.fst (Option.some.inj (M.pure_ok_eq h5))
    rw [← hf]
    exact streamHeader_some_sound fa d d1 f0 h1

/-! ## 6. Non-vacuity: concrete layouts satisfying every hypothesis, evaluated through the model -/

/-- decoders for the examples: stored is the identity, nothing else is available -/
def exExt : Ext :=
  { decode := fun m b => match m with
      | .stored => .ok b
      | _ => .err (.io .other)
    zipCrypto := fun _ _ _ => .err .unsupportedArchive
    aes := fun _ _ _ _ => .err .unsupportedArchive }

/-- "a.txt", stored, Unix 0644, comment "c" (central only) -/
def exA : Entry :=
  { madeBy := 0x0314, versionNeeded := 20, flags := 0, method := 0, time := 0x6000, date := 0x5821,
    crc := 0x3610a686, usize := 5, name := [0x61, 0x2e, 0x74, 0x78, 0x74], centralExtra := [], comment := [0x63],
    internalAttrs := 0, externalAttrs := 0x81A40000, z64 := (false, false, false), localExtra := [],
    localZip64 := false, desc := .none, gapBefore := [], data := [0x68, 0x65, 0x6c, 0x6c, 0x6f] }

/-- "b", UTF-8 flag, local ZIP64 record (sizes 0xFFFFFFFF in the header) followed by a foreign local extra
record, a different foreign record in the central header, compressed size forced into the central ZIP64
record, DOS host, wrong CRC recorded (so reading to the end reports a checksum error, reading part of it
does not) -/
def exB : Entry :=
  { madeBy := 0x0014, versionNeeded := 45, flags := 0x0800, method := 0, time := 0, date := 0x21,
    crc := 0x12345678, usize := 3, name := [0x62],
    centralExtra := le16 0x5455 ++ le16 5 ++ [1, 0, 0, 0, 0], comment := [],
    internalAttrs := 1, externalAttrs := 0x20, z64 := (false, true, false),
    localExtra := le16 0x7875 ++ le16 2 ++ [9, 9], localZip64 := true, desc := .none,
    gapBefore := [], data := [0x61, 0x62, 0x63] }

def exL : Layout :=
  { pre := [], entries := [exA, exB], gapBeforeCd := [], comment := [0x68, 0x69], zip64End := false,
    trailing := [] }

example : exL.Fits ∧ Contiguous exL ∧ LocalSizes exL ∧ exL.entries ≠ [] ∧ exL.Readable ∧
    Props.C03.NoFalseSig exL ∧ exL.needs64 = false := by decide +kernel

example : LocalSizesOk exA ∧ LocalSizesOk exB ∧ exA.Fits ∧ exB.Fits := by decide +kernel

example : (build exL).length = 244 ∧ exL.cdStart = 100 ∧ exL.end64Pos = 220 := by decide +kernel

attribute [local instance] decEqOutBytes

/-- The model computes what `stream_entries_eq` states on the 244 bytes of `build exL` (this and the next two
examples: kernel evaluation of the entry loop under
three patterns — nothing asked and nothing pulled / 2 bytes asked with ONE compressed byte pulled in 1-byte
reads, then everything + 1 with a read-ahead beyond the compressed size / everything + 1 —, positions
included: the drain makes up for whatever was not pulled). -/
example :
    (match (streamEntriesC exExt [⟨0, 0, 65536⟩] ((build exL).length / 30 + 1) 0).runPure (Dev.ofBytes (build exL)) with
     | (.ok r, d) => r == [(streamViewEntry exA, .ok []), (streamViewEntry exB, .ok [])] && d.pos == 104
     | _ => false) = true := by decide +kernel

example :
    (match (streamEntriesC exExt [⟨2, 1, 1⟩, ⟨4, 1000, 2⟩] ((build exL).length / 30 + 1) 0).runPure (Dev.ofBytes (build exL)) with
     | (.ok r, d) => r == [(streamViewEntry exA, .ok [0x68, 0x65]), (streamViewEntry exB, .err (.io .other))] &&
        d.pos == 104
     | _ => false) = true := by decide +kernel

example :
    (match (streamEntriesC exExt [⟨1000, 1000, 65536⟩] ((build exL).length / 30 + 1) 0).runPure (Dev.ofBytes (build exL)) with
     | (.ok r, d) => r == [(streamViewEntry exA, .ok exA.data), (streamViewEntry exB, .err (.io .other))] &&
        r == streamResults exExt exL.entries && d.pos == 104
     | _ => false) = true := by decide +kernel

/-- **`no_drain_counter_model`** — the consumption theorems are not true by construction: the same entry
reader WITHOUT the drain (or with a drain that is skipped once the consumer has asked for `size()` bytes —
the seeded change "drop-time drain skipped once the consumer has read size() bytes") ends where the
consumer's reads ended, `data start + pulled`, and the next call reads entry data as a header. -/
def streamEntryNoDrain (ext : Ext) (c : Consume) : M (Option (FileData × Out Bytes)) := do
  let h ← streamHeader
  match h with
  | none => pure none
  | some f => do
    let csize := f.compressedSize.toNat
    let d ← M.getDev
    let raw := (d.buf.drop d.pos).take csize
    let p := min c.pulled csize
    let (n, e) ← takeLoop c.chunk p p
    if c.k < f.uncompressedSize.toNat then drain (csize - n) else pure ()
    match e with
    | some e => pure (some (f, .err e))
    | none => pure (some (f, ext.consume f raw c.k))

/-- "a.txt" (5 stored bytes at 35..40): a consumer that asks for all 5 bytes while the decoder has pulled only
3 compressed bytes — with the drain the device stands at 40, the next record; without it at 38, and the next
header read fails -/
example :
    (match (streamEntryC exExt ⟨5, 3, 65536⟩).runPure (Dev.ofBytes (build exL)),
           (streamEntryNoDrain exExt ⟨5, 3, 65536⟩).runPure (Dev.ofBytes (build exL)) with
     | (.ok (some (_, r)), d), (.ok (some (_, r')), d') =>
        r == .ok exA.data && r' == .ok exA.data && d.pos == 40 && d'.pos == 38 &&
        (match streamHeader.runPure d, streamHeader.runPure d' with
         | (.ok (some f), _), (.err .invalidArchive, _) => f.fileNameRaw == exB.name
         | _, _ => false)
     | _, _ => false) = true := by decide +kernel

/-- a decoder for the examples of a DAMAGED stream: method 8 "decodes" by failing with `InvalidInput` after
handing out the first two bytes -/
def exExtDamaged : Ext :=
  { exExt with
    decode := fun m b => match m with
      | .stored => .ok b
      | _ => .err (.io .invalidInput)
    decodeBefore := fun _ b _ => b.take 2 }

/-- "a.txt" declared Deflated: asking for 0, 1, 2 bytes delivers them, asking for 3 or for everything is the
decoder's error; the position after the entry is the same in all cases -/
example :
    let l : Layout := { exL with entries := [{ exA with method := 8 }, exB] }
    ([0, 1, 2, 3, 1000].map fun k =>
      match (streamEntryC exExtDamaged ⟨k, k, 65536⟩).runPure (Dev.ofBytes (build l)) with
      | (.ok (some (_, r)), d) => (r == .ok (exA.data.take k), r == .err (.io .invalidInput), d.pos)
      | _ => (false, false, 0)) =
    [(true, false, 40), (true, false, 40), (true, false, 40), (false, true, 40), (false, true, 40)] := by
  decide +kernel

/-- the stream's view of "b": sizes from the local ZIP64 record, local extra field verbatim, UTF-8 name,
no comment / attributes / offsets -/
example :
    (streamViewEntry exB).compressedSize = 3 ∧ (streamViewEntry exB).uncompressedSize = 3 ∧
    (streamViewEntry exB).largeFile = true ∧ (streamViewEntry exB).extraField.length = 26 ∧
    (streamViewEntry exB).fileName = [0x62] ∧ (streamViewEntry exB).unixMode = none := by decide +kernel

/-- the visitor: two files, then two metadata records carrying what the stream could not know (comment
"c" and mode 0644 of "a.txt", DOS attributes of "b"), in order, ending 4 bytes into the end record -/
example :
    (match (streamVisit exExt).runPure (Dev.ofBytes (build exL)) with
     | (.ok (files, metas), d) =>
        files == streamResults exExt exL.entries &&
        metas == (viewOf exL).map (fun v => { v with centralHeaderStart := 0 }) &&
        metas.map (·.fileNameRaw) == [exA.name, exB.name] && metas.map (·.fileComment) == [[0x63], []] &&
        metas.map (·.unixMode) == [some 0o100644, some 0o100664] && d.pos == 224
     | _ => false) = true := by decide +kernel

/-- the seekable reader on the same bytes, entry by entry (hypotheses of `stream_eq_seek`) -/
example :
    (match openArchive.runPure (Dev.ofBytes (build exL)) with
     | (.ok a, d1) =>
        a.files.map (·.fileName) == (streamResults exExt exL.entries).map (·.1.fileName) &&
        (match (byIndexRead exExt a 0 none).runPure d1 with
         | (.ok (.ok (_, res)), _) => res == .ok exA.data
         | _ => false) &&
        (match (byIndexRead exExt a 1 none).runPure d1 with
         | (.ok (.ok (_, res)), _) => res == .err (.io .other)
         | _ => false)
     | _ => false) = true := by decide +kernel

/-- refusals: the same archive with "b" encrypted / carrying a data descriptor / using method 99 — the
first entry is servable, the loop and the visitor end with `UnsupportedArchive` -/
def exEnc : Layout := { exL with entries := [exA, { exB with flags := 0x0801 }] }
def exDesc : Layout := { exL with entries := [exA, { exB with desc := .sig32 }] }
def exAes : Layout := { exL with entries := [exA, { exB with method := 99 }] }

example : StreamRefused { exB with flags := 0x0801 } ∧ StreamRefused { exB with desc := .sig32 } ∧
    StreamRefused { exB with method := 99 } ∧ ExtraOk exB.localExtra ∧ exEnc.Fits ∧ exDesc.Fits ∧ exAes.Fits ∧
    ¬ StreamRefused exA ∧ ¬ StreamRefused exB := by decide +kernel

example :
    (match (streamEntriesC exExt [⟨3, 3, 65536⟩] ((build exEnc).length / 30 + 1) 0).runPure (Dev.ofBytes (build exEnc)),
           (streamEntriesC exExt [⟨0, 0, 65536⟩] ((build exDesc).length / 30 + 1) 0).runPure (Dev.ofBytes (build exDesc)),
           (streamVisit exExt).runPure (Dev.ofBytes (build exAes)) with
     | (.err .unsupportedArchive, _), (.err .unsupportedArchive, _), (.err .unsupportedArchive, _) => true
     | _, _, _ => false) = true := by decide +kernel

/-- "at least one entry" is necessary: an archive without entries starts with the end record, which the
entry loop rejects as an invalid local header (the real crate does the same) -/
def exEmpty : Layout := { exL with entries := [] }

example : exEmpty.Fits ∧ Contiguous exEmpty ∧ LocalSizes exEmpty ∧ exEmpty.entries = [] := by decide +kernel
example :
    (match (streamEntriesC exExt [⟨0, 0, 65536⟩] ((build exEmpty).length / 30 + 1) 0).runPure (Dev.ofBytes (build exEmpty)) with
     | (.err .invalidArchive, _) => true
     | _ => false) = true := by decide +kernel

/-- `Contiguous` is necessary: one junk byte before the central directory and the entry loop reports an
invalid header instead of the end of entries -/
def exGap : Layout := { exL with gapBeforeCd := [0] }

example : exGap.Fits ∧ LocalSizes exGap ∧ ¬ Contiguous exGap := by decide +kernel
example :
    (match (streamEntriesC exExt [⟨0, 0, 65536⟩] ((build exGap).length / 30 + 1) 0).runPure (Dev.ofBytes (build exGap)) with
     | (.err .invalidArchive, _) => true
     | _ => false) = true := by decide +kernel

end ZipVerif.Props.C10
