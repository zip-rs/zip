import ZipVerif.Props.C10
import ZipVerif.Props.C02
import ZipVerif.Props.C02Full
/-
C10 (writer corollary) — every archive a fresh `ZipWriter` produces with the plain calls
(`start_file`, `add_directory`, `add_symlink`, `write`, `set_comment`, and `end_extra_data` /
`end_local_start_central_extra_data`, which are refused here since no plain call enters extra-data mode; no raw
copies, no encryption) can be streamed: the emitted layout is `Contiguous` (no prefix, no gaps, no data
descriptors) and `LocalSizes` (the local headers carry the sizes: they are back-patched by `finish_file`), so
`Props.C10.stream_eq_seek` applies to it.  Second half of the file: the same for the writer's WHOLE
unencrypted alphabet (aligned entries, extra-data mode, raw copies): `writer_output_streams_full`.
Both halves rest on the writer's layout theorems (`Props/C02`, `Props/C02Full`), which `Props/C10.lean` does not
import: hence a file beside it.
-/

namespace ZipVerif.Props.C10Writer
open ZipVerif ZipVerif.Model ZipVerif.Spec.Zip ZipVerif.WL
open ZipVerif.Props.C12 (Call step runCalls)

def Plain : Call → Prop
  | .rawCopy _ _ _ => False
  | c => Level1 c

instance : DecidablePred Plain := fun c => by
  cases c <;> unfold Plain <;> infer_instance

theorem Plain.level1R {c : Call} (h : Plain c) : Level1R c := by
  cases c <;> first | exact h | exact h.elim

/-- what the ghost-level invariants below say of a closed entry: it lies directly behind its predecessor,
and it is `LocalSizesOk` up to the well-formedness of the local extra data, which `Good` / `Good2` provide -/
def ST (e : Spec.Zip.Entry) : Prop :=
  (e.flags &&& 1 == 1) = false ∧ (e.flags &&& 0x0008 != 0) = false ∧
  (Method.fromU16 e.method).decodable = true ∧
  (e.localZip64 = false → e.csize.toNat < 4294967296 ∧ e.usize.toNat < 4294967296) ∧
  e.gapBefore = [] ∧ e.desc = .none

/-- the last step at either level: no dead bytes, `ST` and well-formed local extra data give a layout a
stream can read -/
theorem streams_of_st {es : List Spec.Zip.Entry} {gap : Bytes} (c : Bytes) (hgap : gap = [])
    (hst : ∀ e ∈ es, ST e) (hx : ∀ e ∈ es, ExtraOk e.localExtra) :
    C10.Contiguous (layoutOf es gap c []) ∧ C10.LocalSizes (layoutOf es gap c []) := by
  refine ⟨⟨rfl, fun e he => ⟨(hst e he).2.2.2.2.1, (hst e he).2.2.2.2.2⟩, hgap⟩, fun e he => ?_⟩
  obtain ⟨k1, k2, k3, k4, _, k6⟩ := hst e he
  exact ⟨by simp [Spec.Zip.Entry.hasDesc, k6], k1, k2, hx e he, k3, k4⟩

def RQ (f : FileData) : Prop := f.encrypted = false ∧ writable f.method = true

/-- ghost-level invariant: no dead bytes anywhere, no raw copy open -/
abbrev Tight : Ghost → Prop :=
  Keeps (fun done gap => gap = [] ∧ ∀ e ∈ done, ST e) (fun o => o.raw = false ∧ RQ o.f)

theorem toNat_le_of_not_gt {x : UInt64} (h : ¬ x > ZIP64_BYTES_THR) : x.toNat < 4294967296 := by
  have h1 : ¬ ZIP64_BYTES_THR.toNat < x.toNat := fun h' => h (UInt64.lt_iff_toNat_lt.mpr h')
  have : ZIP64_BYTES_THR.toNat = 0xFFFFFFFF := by decide
  omega

theorem decodable_of_writable {m : Method} (h : writable m = true) :
    (Method.fromU16 m.toU16).decodable = true := by
  rw [C01.fromU16_toU16 h]
  cases m <;> simp_all [writable, Method.decodable]

/-- **The entry `finish_file` closes**, at either level (`F` = the pushed record, at Level 2 with the central
extra data in place): unencrypted, a method the reader decodes, sizes that fit the local header — the
two refusals of `finish_file` are exactly what the last clause needs. -/
theorem st_final {F : FileData} (henc : F.encrypted = false) (hw : writable F.method = true) (dp : UInt16)
    (lx plain data : Bytes) (lv : UInt16) (h1 : ¬ (F.largeFile = false ∧ plain.length > 0xFFFFFFFF))
    (h2 : ¬ (F.largeFile = false ∧ UInt64.ofNat data.length > ZIP64_BYTES_THR)) :
    ST (specEntry (finalRec F plain data) dp [] lx data lv) := by
  refine ⟨flagOf_plain _ henc, C02Full.flagOf_no_desc _, decodable_of_writable hw, fun hl => ?_, rfl, rfl⟩
  have hl' : F.largeFile = false := hl
  have k2 : ¬ plain.length > 0xFFFFFFFF := fun hh => h1 ⟨hl', hh⟩
  refine ⟨toNat_le_of_not_gt fun hh => h2 ⟨hl', hh⟩, ?_⟩
  show (UInt64.ofNat plain.length).toNat < 4294967296
  rw [UInt64.toNat_ofNat', Nat.mod_eq_of_lt (by omega)]
  omega

theorem tightSpec (ext : WExt) :
    KeepSpec ext (fun done gap => gap = [] ∧ ∀ e ∈ done, ST e) (fun o => o.raw = false ∧ RQ o.f) where
  close := fun ⟨hgap, hd⟩ ⟨hraw, ho⟩ hcr => by
    obtain ⟨dp, _, ⟨hr, _⟩ | ⟨_, hov, rfl, rfl⟩⟩ := closeRec_some hcr
    · rw [hraw] at hr; cases hr
    · exact ⟨rfl, all_snoc hd (hgap ▸ st_final ho.1 ho.2 dp [] _ _ _ (fun h => hov ⟨h.1, .inr h.2⟩)
        (fun h => hov ⟨h.1, .inl h.2⟩))⟩
  write := @fun o b ⟨hraw, ho⟩ _ => by
    rw [show o.write b = { o with plain := o.plain ++ b } by simp [OpenRec.write, hraw]]
    exact ⟨hraw, ho⟩

/-- the record a plain start call pushes is unencrypted with a writable method: the options say so -/
theorem Plain.row {c : Call} (hc : Plain c) {out n o raw ok mk} (hrow : StartRow out c n o raw ok mk)
    (hok : ok = true) (hs : Nat) (ds : UInt64) :
    (mk (mkRec n o raw hs ds)).raw = false ∧ RQ (mk (mkRec n o raw hs ds)).f := by
  have henc : ∀ {o o' : FileOptions}, o.encryptWith = none → o'.encryptWith = o.encryptWith →
      o'.encryptWith.isSome = false := fun h e => by rw [e, h]; rfl
  cases hrow with
  | startFile n o => exact ⟨rfl, henc (show o.encryptWith = none from hc) rfl, (Bool.and_eq_true_iff.mp hok).2⟩
  | addDirectory n o => exact ⟨rfl, henc (show o.encryptWith = none from hc) rfl, rfl⟩
  | addSymlink n t o => exact ⟨rfl, henc (show o.encryptWith = none from hc) rfl, rfl⟩
  | rawCopy src raw n => exact hc.elim

theorem tight_run (ext : WExt) (calls : List Call) (outs : List (Out (Option Nat))) (g : Ghost)
    (hc : ∀ c ∈ calls, Plain c) (hG : Tight g) : Tight (ghostOf ext g calls outs) :=
  keeps_run (tightSpec ext) (fun hc _ _ _ _ _ _ hrow hok _ => hc.row hrow hok) calls outs g hc hG

/-- A fresh writer, a script of plain calls, `finish` returns `Ok`: the
sink is `build L` for a layout `L` that is `Contiguous` and `LocalSizes` (and `Readable`; the last two
conjuncts are what `C02.writer_output_fits` turns into `Fits` under the size bounds). -/
theorem writer_output_streams (ext : WExt) (calls : List Call) (hc : ∀ c ∈ calls, Plain c)
    (ha : ∀ c ∈ calls, c.Admissible) (es : List Spec.Zip.Entry) (gap c : Bytes)
    (hg : (C01.finalGhost ext calls).close ext = some (es, gap, c))
    (v : Option Nat) (s' : WState) (d' : Dev)
    (hfin : step ext .finish (runCalls ext calls WState.init none (Dev.ofBytes [])).2.1 none
      (runCalls ext calls WState.init none (Dev.ofBytes [])).2.2 = (.ok (.ok v, s'), d')) :
    d'.buf = build (layoutOf es gap c []) ∧
    C10.Contiguous (layoutOf es gap c []) ∧ C10.LocalSizes (layoutOf es gap c []) ∧
    (layoutOf es gap c []).Readable ∧ c.length ≤ 65535 ∧ (∀ e ∈ es, EntryOk e) := by
  obtain ⟨hbuf, hok, hclen, hR⟩ := C02.writer_output_valid ext calls (fun c h => (hc c h).level1R) ha
    es gap c hg v s' d' hfin
  have hT : Tight (C01.finalGhost ext calls) :=
    tight_run ext calls _ _ hc (show Tight (.idle [] [] []) from ⟨rfl, fun e he => by cases he⟩)
  obtain ⟨hgap, hst⟩ := hT.close (tightSpec ext) hg
  obtain ⟨hC, hL⟩ := streams_of_st c hgap hst fun e he => by rw [(hok e he).localExtra]; decide
  exact ⟨hbuf, hC, hL, hR, hclen, hok⟩

/-- **On the archive a script of plain calls produces (`writer_output_streams`) the streaming reader and the
seekable reader agree** (`C10.stream_eq_seek`, whose remaining hypotheses are the size bounds, a non-empty
archive and the property's own `NoFalseSig`).  The fuel `len / 30 + 1` is `stream_eq_seek`'s: an entry takes at
least the 30 bytes of its local header (`Model.streamEntries`). -/
theorem writer_output_stream_eq_seek (wext : WExt) (rext : Ext) (calls : List Call)
    (hc : ∀ c ∈ calls, Plain c) (ha : ∀ c ∈ calls, c.Admissible)
    (es : List Spec.Zip.Entry) (gap c : Bytes)
    (hg : (C01.finalGhost wext calls).close wext = some (es, gap, c))
    (v : Option Nat) (s' : WState) (d' : Dev)
    (hfin : step wext .finish (runCalls wext calls WState.init none (Dev.ofBytes [])).2.1 none
      (runCalls wext calls WState.init none (Dev.ofBytes [])).2.2 = (.ok (.ok v, s'), d'))
    (hne : es ≠ []) (hN : C03.NoFalseSig (layoutOf es gap c []))
    (hsize : (build (layoutOf es gap c [])).length < 2 ^ 63)
    (hu : ∀ e ∈ es, e.usize.toNat < 2 ^ 63) :
    ∃ a d1 files d2,
      openArchive.runPure (Dev.ofBytes d'.buf) = (.ok a, d1) ∧
      (streamEntries rext (d'.buf.length / 30 + 1)).runPure (Dev.ofBytes d'.buf) = (.ok files, d2) ∧
      files.length = a.files.length ∧ files.length = es.length ∧
      ∀ i, i < files.length → ∃ v sv res, a.files[i]? = some v ∧ files[i]? = some (sv, res) ∧
        sv.fileName = v.fileName ∧ sv.method = v.method ∧ sv.time = v.time ∧ sv.crc32 = v.crc32 ∧
        sv.compressedSize = v.compressedSize ∧ sv.uncompressedSize = v.uncompressedSize ∧
        (∃ ds d3, (byIndexRead rext a i none).runPure d1 = (.ok (.ok (ds, res)), d3)) := by
  obtain ⟨hbuf, hC, hS, hR, hclen, hok⟩ := writer_output_streams wext calls hc ha es gap c hg v s' d' hfin
  have hF := C02.writer_output_fits gap c hok hclen hsize hu
  obtain ⟨a, d1, files, d2, h1, h2, _, h4, h5, _, h7⟩ :=
    C10.stream_eq_seek rext _ hF hC hS hne hR hN (Or.inl rfl)
  rw [hbuf]
  refine ⟨a, d1, files, d2, h1, h2, h4, h5, ?_⟩
  intro i hi
  obtain ⟨v, sv, res, k1, k2, k3, _, k5, k6, k7, k8, k9, _, _, k12, _⟩ := h7 i hi
  exact ⟨v, sv, res, k1, k2, k3, k5, k6, k7, k8, k9, k12⟩

/-! ## Level 2: the writer's whole unencrypted alphabet

Aligned entries (`start_file_aligned`), extra-data mode (`start_file_with_extra_data`, `write` into the extra
field, `end_local_start_central_extra_data`, `end_extra_data`) and raw copies — everything the writer emits
without encryption.  The layout theorem is `C02Full.writer_emits_layout_full`; what is added here is the
ghost-level invariant `Tight2` (no dead bytes, every closed entry unencrypted with a decodable method and sizes
that fit its local header), which together with `Good2` (local extra data are validated records) gives
`LocalSizesOk`.  Raw copies: the source's method must have a decoder, and no non-empty `write` may follow the
copy while it is the open entry (`NoStray`: such bytes land between the entries — `C01.script2`). -/

/-- What `Tight2` keeps of the open entry: no bytes behind a raw copy (`junk`: `finish_file` would leave them
between the entries), no encryption, a writable method once it has been checked (for an entry opened in
extra-data mode, phase `localX`, that is done by `end_extra_data` only: `Open2.endExtra`), and a raw copy is in its
data phase with sizes that fit the local header unless `large_file`. -/
structure OpenT (o : Open2) : Prop where
  junk : o.junk = []
  enc : o.enc = none
  encF : o.f.encrypted = false
  meth : o.phase ≠ .localX → writable o.f.method = true
  rawP : o.raw = true → o.phase = .data
  rawS : o.raw = true → o.f.largeFile = false →
    o.plain.length < 4294967296 ∧ o.f.uncompressedSize.toNat < 4294967296

/-- `flag` = a raw copy may be the open entry -/
abbrev Tight2 (flag : Bool) : Ghost2 → Prop :=
  Keeps2 (fun done gap => gap = [] ∧ ∀ e ∈ done, ST e) (fun o => OpenT o ∧ (o.raw = true → flag = true))

theorem not_refused_writable {c : Method} {l : Option Int} (h : ¬ Refused c l) : writable c = true := by
  cases c with
  | aes => exact absurd trivial h
  | unsupported v => exact absurd trivial h
  | stored => rfl
  | deflated => rfl
  | bzip2 => rfl
  | zstd => rfl

theorem st_closed {ext : WExt} {o : Open2} (h : OpenT o) (hph : o.phase = .data) (dp : UInt16) (lv : UInt16)
    (h1 : ¬ (o.f.largeFile = false ∧ o.plain.length > 0xFFFFFFFF))
    (h2 : ¬ (o.f.largeFile = false ∧ UInt64.ofNat (dataOf2 ext o.f o.enc o.plain).length > ZIP64_BYTES_THR)) :
    ST (specEntry (closedRec o.f o.cx o.plain (dataOf2 ext o.f o.enc o.plain)) dp [] o.lx
      (dataOf2 ext o.f o.enc o.plain) lv) :=
  st_final (F := { o.f with extraField := o.cx }) h.encF (h.meth (by rw [hph]; intro h'; cases h')) dp _ _ _ lv
    h1 h2

theorem st_raw {o : Open2} (h : OpenT o) (hraw : o.raw = true) (dp : UInt16) (lv : UInt16) :
    ST (specEntry o.f dp [] [] o.plain lv) := by
  refine ⟨flagOf_plain _ h.encF, C02Full.flagOf_no_desc _, ?_, ?_, rfl, rfl⟩
  · exact decodable_of_writable (h.meth (by rw [h.rawP hraw]; intro h'; cases h'))
  · intro hl
    obtain ⟨k1, k2⟩ := h.rawS hraw hl
    refine ⟨?_, k2⟩
    show (UInt64.ofNat o.plain.length).toNat < 4294967296
    rw [UInt64.toNat_ofNat', Nat.mod_eq_of_lt (by omega)]
    exact k1

theorem OpenT.finData {ext : WExt} {o : Open2} (h : OpenT o) (hph : o.phase = .data)
    {done : List Spec.Zip.Entry} (hd : ∀ e ∈ done, ST e)
    {es : List Spec.Zip.Entry} {gap' : Bytes} (hf : o.finData ext done [] = .ok es gap') :
    gap' = [] ∧ ∀ e ∈ es, ST e := by
  have hsnoc : ∀ {e0}, ST e0 → ∀ e ∈ done ++ [e0], ST e := fun h0 e he => by
    rcases mem_snoc he with k | k
    · exact hd e k
    · rw [k]; exact h0
  rcases Open2.finData_cases ext done [] o with h0 | ⟨_, _, _, h0⟩ |
      ⟨dp, _, ⟨hraw, h0⟩ | ⟨_, h1, h2, h0⟩⟩ <;> rw [h0] at hf <;> cases hf
  · exact ⟨h.junk, hsnoc (st_raw h hraw _ _)⟩
  · exact ⟨rfl, hsnoc (st_closed h hph _ _ h1 h2)⟩

theorem OpenT.endExtra {o o' : Open2} (h : OpenT o) (hx : o.endExtra = .ok o') :
    OpenT o' ∧ o'.phase = .data := by
  obtain ⟨ef, er, ep, ej, _, ee, _⟩ := endExtra_fields hx
  unfold Open2.endExtra at hx
  split at hx
  · cases hx
  · split at hx
    next hph =>
      split at hx
      · cases hx
      next hr =>
        cases hx
        exact ⟨⟨h.junk, h.enc, h.encF, fun _ => not_refused_writable hr, fun _ => rfl, h.rawS⟩, rfl⟩
    next hph =>
      cases hx
      exact ⟨⟨h.junk, h.enc, h.encF, fun _ => h.meth hph, fun _ => rfl, h.rawS⟩, rfl⟩

theorem OpenT.not_raw {o : Open2} (h : OpenT o) (hph : o.phase ≠ .data) : o.raw = false := by
  cases hr : o.raw
  · rfl
  · exact absurd (h.rawP hr) hph

theorem OpenT.setCx {o : Open2} (h : OpenT o) (hph : o.phase ≠ .data) (x : Bytes) : OpenT { o with cx := x } :=
  ⟨h.junk, h.enc, h.encF, h.meth, fun hr => absurd (h.rawP hr) hph, h.rawS⟩

theorem OpenT.endLocal {o o' : Open2} (h : OpenT o) (hph : o.phase ≠ .data) (hx : o.endLocal = .ok o') :
    OpenT o' ∧ o'.raw = false := by
  unfold Open2.endLocal at hx
  split at hx
  next o1 hx1 =>
    cases hx
    obtain ⟨h1, hp1⟩ := h.endExtra hx1
    have hraw : o1.raw = false := by rw [(endExtra_fields hx1).2.1]; exact h.not_raw hph
    refine ⟨⟨h1.junk, h1.enc, h1.encF, fun _ => h1.meth (by rw [hp1]; intro h'; cases h'), fun hr => ?_,
      fun hr => ?_⟩, hraw⟩
    · have : o1.raw = true := hr
      rw [hraw] at this; cases this
    · have : o1.raw = true := hr
      rw [hraw] at this; cases this
  · cases hx
  · cases hx

/-- a ghost whose `finish_file` is refused without effect is in extra-data mode: not a raw copy -/
theorem Tight2.of_unchanged {ext : WExt} {flag flag' : Bool} {g : Ghost2} (hG : Tight2 flag g)
    (hf : g.fin ext = .unchanged) : Tight2 flag' g := by
  cases g with
  | opened done gap0 c o =>
    refine ⟨hG.1, hG.2.1, fun hr => ?_⟩
    have hf' : o.fin ext done gap0 = .unchanged := hf
    unfold Open2.fin at hf'
    rw [hG.2.1.rawP hr] at hf'
    exact absurd hf' (WL.finData_ne_unchanged ext done gap0 o)
  | _ => exact hG

theorem Tight2.mono {flag flag' : Bool} {g : Ghost2} (hG : Tight2 flag g) (h : flag = true → flag' = true) :
    Tight2 flag' g :=
  Keeps2.mono (fun _ ho => ⟨ho.1, fun hr => h (ho.2 hr)⟩) hG

theorem OpenT.xmove {o o' : Open2} (h : OpenT o) (hm : XMove o o') :
    OpenT o' ∧ (o'.raw = true → o.raw = true) := by
  cases hm with
  | setCx x hph => exact ⟨h.setCx hph x, id⟩
  | endExtra hx => exact ⟨(h.endExtra hx).1, fun hr => by rw [← (endExtra_fields hx).2.1]; exact hr⟩
  | endLocal hph hx =>
    obtain ⟨h3, hr3⟩ := h.endLocal hph hx
    exact ⟨h3, fun hr => by rw [hr3] at hr; cases hr⟩

theorem tight2Spec (ext : WExt) (flag : Bool) : KeepSpec2 ext (fun done gap => gap = [] ∧ ∀ e ∈ done, ST e)
    (fun o => OpenT o ∧ (o.raw = true → flag = true)) where
  xmove ho hm := ⟨(ho.1.xmove hm).1, fun hr => ho.2 ((ho.1.xmove hm).2 hr)⟩
  finData := fun ⟨hg0, hd⟩ ho hph hf => ho.1.finData hph hd (hg0 ▸ hf)

theorem Tight2.fin {ext : WExt} {flag : Bool} {g : Ghost2} (hG : Tight2 flag g)
    {es : List Spec.Zip.Entry} {gap : Bytes} (hf : g.fin ext = .ok es gap) : gap = [] ∧ ∀ e ∈ es, ST e :=
  Keeps2.fin (tight2Spec ext flag) hG hf

theorem openT_new (name : Bytes) (o : FileOptions) (hs : Nat) (plain : Bytes) (wf : Bool) (ph : Phase)
    (henc : o.encryptWith = none) (hm : ph ≠ .localX → writable o.method = true) :
    OpenT (newOpen (mkRec name o none hs 0) false plain wf none ph) :=
  ⟨rfl, rfl, (by show o.encryptWith.isSome = false; rw [henc]; rfl), hm, (fun h => by cases h),
    (fun h => by cases h)⟩

/-- the size bound: `rawOpts` sets `large_file` from the larger of the source's two sizes -/
theorem openT_raw (src : FileData) (raw n : Bytes) (hs : Nat) (hw : writable src.method = true)
    (hlen : raw.length = src.compressedSize.toNat) :
    OpenT (newOpen (mkRec n (rawOpts src) (rawVals src) hs 0) true raw true none .data) := by
  refine ⟨rfl, rfl, rfl, fun _ => hw, fun _ => rfl, fun _ hl => ?_⟩
  have hle : ¬ (if src.compressedSize ≥ src.uncompressedSize then src.compressedSize
      else src.uncompressedSize) ≥ ZIP64_BYTES_THR :=
    of_decide_eq_false (show decide ((if src.compressedSize ≥ src.uncompressedSize then
      src.compressedSize else src.uncompressedSize) ≥ ZIP64_BYTES_THR) = false from hl)
  have hb := toNat_le_of_not_gt (fun h => hle (UInt64.le_of_lt h))
  show raw.length < 4294967296 ∧ src.uncompressedSize.toNat < 4294967296
  rw [hlen]
  by_cases hge : src.compressedSize ≥ src.uncompressedSize
  · rw [if_pos hge] at hb
    have : src.uncompressedSize.toNat ≤ src.compressedSize.toNat := UInt64.le_iff_toNat_le.mp hge
    omega
  · rw [if_neg hge] at hb
    have : src.compressedSize.toNat < src.uncompressedSize.toNat :=
      UInt64.lt_iff_toNat_lt.mp (UInt64.not_le.mp hge)
    omega

/-- The writer's unencrypted alphabet: `Level2R`, no encryption option, raw copies of entries whose method
has a decoder. -/
def Plain2 (c : Call) : Prop :=
  Level2R c ∧ match c with
    | .startFile _ o => o.encryptWith = none
    | .addDirectory _ o => o.encryptWith = none
    | .addSymlink _ _ o => o.encryptWith = none
    | .rawCopy src _ _ => writable src.method = true
    | _ => True

instance : DecidablePred Plain2 := fun c => by
  unfold Plain2
  cases c <;> infer_instance

/-- may a raw copy be the open entry after the call? (a call that starts an entry replaces the open entry
unless its name is refused) -/
def flagAfter (flag : Bool) : Call → Bool
  | .rawCopy _ _ _ => true
  | .startFile n _ => flag && decide (n.length > 65535)
  | .addDirectory n _ => flag && decide ((dirName n).length > 65535)
  | .addSymlink n _ _ => flag && decide (n.length > 65535)
  | .startFileWithExtraData n _ => flag && decide (n.length > 65535)
  | .startFileAligned n _ _ => flag && decide (n.length > 65535)
  | _ => flag

/-- no non-empty `write` while a raw copy may be the open entry (the bytes would land behind the copied
data, between the entries: `C01.script2`) -/
def writeOk (flag : Bool) : Call → Prop
  | .write b => flag = true → b = []
  | _ => True

instance (flag : Bool) : DecidablePred (writeOk flag) := fun c => by
  cases c <;> unfold writeOk <;> infer_instance

def NoStray : Bool → List Call → Prop
  | _, [] => True
  | flag, c :: cs => writeOk flag c ∧ NoStray (flagAfter flag c) cs

instance instDecNoStray : ∀ (flag : Bool) (cs : List Call), Decidable (NoStray flag cs)
  | _, [] => isTrue trivial
  | flag, c :: cs => by
    unfold NoStray
    have := instDecNoStray (flagAfter flag c) cs
    infer_instance

theorem flagAfter_of_none {flag : Bool} {c : Call} (h : startArgs c = none) : flagAfter flag c = flag := by
  cases c <;> first | rfl | cases h

theorem flagAfter_long {flag : Bool} {c : Call} {n : Bytes} {o : FileOptions}
    {raw : Option (UInt32 × UInt64 × UInt64)} (h : startArgs c = some (n, o, raw))
    (hn : n.length > 65535) (hf : flag = true) : flagAfter flag c = true := by
  cases c <;> cases h <;> simp [flagAfter, hn, hf]

theorem tight2_step (ext : WExt) (flag : Bool) (g : Ghost2) (c : Call) (hc : Plain2 c)
    (hw : writeOk flag c) (out : Out (Option Nat)) (hG : Tight2 flag g) : Tight2 (flagAfter flag c) (ghostStep2 ext g c out) := by
  generalize hR : ghostStep2 ext g c out = R
  by_cases ha' : R.alive
  case neg => exact .of_not_alive ha'
  -- the walk of `keeps2_step`, made here case by case: that lemma keeps ONE predicate `O` of the open entry,
  -- while `Tight2`'s changes with the call (`flag` becomes `flagAfter flag c`)
  cases (ghostStep2_shape ext hR ha').2 with
  | refused hargs hr =>
    rcases hr with hn | hf
    · exact hG.mono (flagAfter_long hargs hn)
    · exact hG.of_unchanged hf
  | same g hargs => rw [flagAfter_of_none hargs]; exact hG
  | comment g c' => cases g <;> exact hG
  | moved hargs hm =>
    rw [flagAfter_of_none hargs]
    exact ⟨hG.1, (tight2Spec ext flag).xmove hG.2 hm⟩
  | @wrote _ _ _ o b =>
    obtain ⟨hI, ho, hfl⟩ := hG
    show Tight2 flag _
    unfold Open2.writeData
    split
    next hraw =>
      -- a raw copy is open: the script writes nothing into it (`writeOk`)
      obtain rfl : b = [] := hw (hfl hraw)
      exact ⟨hI, ⟨by show o.junk ++ [] = []; rw [List.append_nil]; exact ho.junk, ho.enc,
        ho.encF, ho.meth, ho.rawP, ho.rawS⟩, hfl⟩
    next hraw =>
      exact ⟨hI, ⟨ho.junk, ho.enc, ho.encF, ho.meth, ho.rawP, fun hr => absurd hr hraw⟩,
        fun hr => absurd hr hraw⟩
  | @started _ _ n _ _ es gap _ _ o' hargs hn hf hsr hrow =>
    obtain ⟨rfl, hes⟩ := hG.fin hf
    obtain rfl := startRec2_rec hsr
    obtain ⟨⟨⟨ha, hx⟩, _⟩, hp⟩ := hc
    suffices OpenT o' ∧ (o'.raw = true → flagAfter flag c = true) from ⟨⟨rfl, hes⟩, this⟩
    -- for the two rows that open the entry in phase `localX` (`withExtraData`: as opened; `aligned`: moved on by
    -- the extra-data protocol, `XMoves`): whatever the moves reach is `OpenT` and no raw copy
    have hx0 : ∀ {o : FileOptions}, o.encryptWith = none → ∀ {o'}, XMoves (newOpen (mkRec n o none
        ((localsBytes es).length + ([] : Bytes).length) 0) false [] true none .localX) o' →
        OpenT o' ∧ o'.raw = false := fun henc _ hm =>
      hm.keeps (P := fun o => OpenT o ∧ o.raw = false)
        (fun _ _ hm h => ⟨(h.1.xmove hm).1, Bool.eq_false_iff.mpr fun hr => by
          rw [(h.1.xmove hm).2 hr] at h; exact Bool.noConfusion h.2⟩)
        ⟨openT_new n _ _ [] true .localX henc (fun h' => absurd rfl h'), rfl⟩
    cases hrow with
    | startFile n o _ hwr =>
      cases hargs
      rw [show o.encryptWith = none from hp]
      exact ⟨openT_new n (fileOpts o) _ [] true .data hp (fun _ => hwr), nofun⟩
    | addDirectory n o =>
      cases hargs
      rw [show o.encryptWith = none from hp]
      exact ⟨openT_new (dirName n) (dirOpts o) _ [] false .data hp (fun _ => rfl), nofun⟩
    | addSymlink n t o =>
      cases hargs
      rw [show o.encryptWith = none from hp]
      exact ⟨openT_new n (linkOpts o) _ t false .data hp (fun _ => rfl), nofun⟩
    | rawCopy src raw n => cases hargs; exact ⟨openT_raw src raw n _ hp hx, fun _ => rfl⟩
    | withExtraData n o =>
      cases hargs
      obtain ⟨h1, hr1⟩ := hx0 (o := fileOpts o) ha.2 (.refl _)
      exact ⟨h1, fun hr => by rw [hr1] at hr; cases hr⟩
    | aligned n o a hm =>
      cases hargs
      obtain ⟨h1, hr1⟩ := hx0 (o := fileOpts o) ha.2 hm
      exact ⟨h1, fun hr => by rw [hr1] at hr; cases hr⟩

/-- The flag at the end is `flagAfter` folded over the calls that have an outcome; `Tight2.fin`, which is what the
result is used for, holds at every flag: hence `∃ flag'`. -/
theorem tight2_run (ext : WExt) : ∀ (calls : List Call) (outs : List (Out (Option Nat))) (flag : Bool)
    (g : Ghost2), (∀ c ∈ calls, Plain2 c) → NoStray flag calls → Tight2 flag g →
    ∃ flag', Tight2 flag' (ghostOf2 ext g calls outs)
  | [], outs, flag, g, _, _, hG => by cases outs <;> exact ⟨flag, hG⟩
  | c :: cs, [], flag, g, _, _, hG => ⟨flag, hG⟩
  | c :: cs, o :: os, flag, g, hc, hs, hG =>
    tight2_run ext cs os _ _ (fun c' h' => hc c' (by simp [h'])) hs.2
      (tight2_step ext flag g c (hc c (by simp)) hs.1 o hG)

/-- A fresh writer, a script over the writer's WHOLE unencrypted alphabet
(`Plain2`: plain entries, directories, symlinks, aligned entries, extra-data mode, raw copies of entries
whose method has a decoder; `NoStray`: no non-empty `write` into a raw copy), `finish` returns `Ok`: the sink
is `build L` for a layout `L` that is `Contiguous` and `LocalSizes` (and `Readable`). -/
theorem writer_output_streams_full (ext : WExt) (calls : List Call) (hc : ∀ c ∈ calls, Plain2 c)
    (hs : NoStray false calls) (es : List Spec.Zip.Entry) (gap c : Bytes)
    (hg : (C02Full.finalGhost2 ext calls).close ext = some (es, gap, c))
    (v : Option Nat) (s' : WState) (d' : Dev)
    (hfin : step ext .finish (runCalls ext calls WState.init none (Dev.ofBytes [])).2.1 none
      (runCalls ext calls WState.init none (Dev.ofBytes [])).2.2 = (.ok (.ok v, s'), d')) :
    d'.buf = build (layoutOf es gap c []) ∧
    C10.Contiguous (layoutOf es gap c []) ∧ C10.LocalSizes (layoutOf es gap c []) ∧
    (layoutOf es gap c []).Readable ∧ c.length ≤ 65535 ∧ (∀ e ∈ es, EntryOk2 e) := by
  obtain ⟨hbuf, hok, hclen, hR⟩ := C02Full.writer_output_valid_full ext calls (fun c h => (hc c h).1)
    es gap c hg v s' d' hfin
  obtain ⟨fl, hT⟩ := tight2_run ext calls (runCalls ext calls WState.init none (Dev.ofBytes [])).1 false
    (.idle [] [] []) hc hs (show Tight2 false (.idle [] [] []) from ⟨rfl, fun e he => by cases he⟩)
  obtain ⟨hgap, hst⟩ := hT.fin (Ghost2.close_fin hg).1
  obtain ⟨hC, hL⟩ := streams_of_st c hgap hst fun e he => (hok e he).lxOk
  exact ⟨hbuf, hC, hL, hR, hclen, hok⟩

/-- **On the archive a script over the whole unencrypted alphabet produces (`writer_output_streams_full`) the
streaming reader and the seekable reader agree** (`C10.stream_eq_seek`; remaining hypotheses: the size bounds,
room for a ZIP64 record (28 = 4 + 3 × 8 bytes) next to the central extra data, a non-empty archive and the
property's own `NoFalseSig`; the fuel `len / 30 + 1` as in `writer_output_stream_eq_seek`). -/
theorem writer_output_stream_eq_seek_full (wext : WExt) (rext : Ext) (calls : List Call)
    (hc : ∀ c ∈ calls, Plain2 c) (hs : NoStray false calls)
    (es : List Spec.Zip.Entry) (gap c : Bytes)
    (hg : (C02Full.finalGhost2 wext calls).close wext = some (es, gap, c))
    (v : Option Nat) (s' : WState) (d' : Dev)
    (hfin : step wext .finish (runCalls wext calls WState.init none (Dev.ofBytes [])).2.1 none
      (runCalls wext calls WState.init none (Dev.ofBytes [])).2.2 = (.ok (.ok v, s'), d'))
    (hne : es ≠ []) (hN : C03.NoFalseSig (layoutOf es gap c []))
    (hsize : (build (layoutOf es gap c [])).length < 2 ^ 63)
    (hu : ∀ e ∈ es, e.usize.toNat < 2 ^ 63)
    (hcx : ∀ e ∈ es, e.centralExtra.length + 28 ≤ 0xFFFF) :
    ∃ a d1 files d2,
      openArchive.runPure (Dev.ofBytes d'.buf) = (.ok a, d1) ∧
      (streamEntries rext (d'.buf.length / 30 + 1)).runPure (Dev.ofBytes d'.buf) = (.ok files, d2) ∧
      files.length = a.files.length ∧ files.length = es.length ∧
      ∀ i, i < files.length → ∃ v sv res, a.files[i]? = some v ∧ files[i]? = some (sv, res) ∧
        sv.fileName = v.fileName ∧ sv.method = v.method ∧ sv.time = v.time ∧ sv.crc32 = v.crc32 ∧
        sv.compressedSize = v.compressedSize ∧ sv.uncompressedSize = v.uncompressedSize ∧
        (∃ ds d3, (byIndexRead rext a i none).runPure d1 = (.ok (.ok (ds, res)), d3)) := by
  obtain ⟨hbuf, hC, hS, _, hclen, hok⟩ :=
    writer_output_streams_full wext calls hc hs es gap c hg v s' d' hfin
  obtain ⟨hF, hR⟩ := layout_fits_readable2 gap c [] hok hclen hsize hu hcx
  obtain ⟨a, d1, files, d2, h1, h2, _, h4, h5, _, h7⟩ :=
    C10.stream_eq_seek rext _ hF hC hS hne hR hN (Or.inl rfl)
  rw [hbuf]
  refine ⟨a, d1, files, d2, h1, h2, h4, h5, ?_⟩
  intro i hi
  obtain ⟨v, sv, res, k1, k2, k3, _, k5, k6, k7, k8, k9, _, _, k12, _⟩ := h7 i hi
  exact ⟨v, sv, res, k1, k2, k3, k5, k6, k7, k8, k9, k12⟩

/-! ### Scripts that meet the hypotheses, and scripts that show the restrictions are needed -/

example : ∀ c ∈ C01.script1, Plain c ∧ c.Admissible := by decide

/-- the layout `script1` of C01 emits is `Contiguous`, `LocalSizes`, non-empty -/
example :
    (match (C01.finalGhost C01.wext1 C01.script1).close C01.wext1 with
     | some (es, gap, c) =>
       decide (C10.Contiguous (layoutOf es gap c [])) && decide (C10.LocalSizes (layoutOf es gap c [])) &&
       !es.isEmpty
     | none => false) = true := by decide +kernel

/-- the restriction "no raw copy followed by a stray `write`" is needed: `script2` leaves a dead byte -/
example :
    (match (C01.finalGhost C01.wext1 C01.script2).close C01.wext1 with
     | some (es, gap, c) => decide (¬ C10.Contiguous (layoutOf es gap c []))
     | none => false) = true := by decide +kernel

/-- Level 2: extra data split between the local and the central header, an aligned entry (`C02Full.scriptX`),
then a raw copy of a Deflated entry, an EMPTY write into it, and a plain file behind it -/
def scriptZ : List Call :=
  C02Full.scriptX ++ [.rawCopy C01.srcRec [0xA, 0xB, 0xC] [0x72], .write [],
    .startFile [0x7a] (C12.opts .stored none), .write [4]]

example : (∀ c ∈ scriptZ, Plain2 c) ∧ NoStray false scriptZ := by decide

/-- the hypotheses of `writer_output_streams_full` hold for it (the ghost closes, `finish` is `Ok`), so the sink is
the layout; the rest of its conclusion evaluated: four entries — extra data, padding record, raw copy, plain —, `Contiguous`,
`LocalSizes` -/
example :
    (match (C02Full.finalGhost2 C02Full.wext2 scriptZ).close C02Full.wext2, C01.finishDev C02Full.wext2 scriptZ with
     | some (es, gap, c), some d' =>
       d'.buf == build (layoutOf es gap c []) &&
       decide (C10.Contiguous (layoutOf es gap c [])) && decide (C10.LocalSizes (layoutOf es gap c [])) &&
       es.map Spec.Zip.Entry.name == [[0x78], [0x79], [0x72], [0x7a]] &&
       es.map Spec.Zip.Entry.localExtra == [C02Full.xrec, padRecord 51, [], []] &&
       es.map Spec.Zip.Entry.data == [[5, 6, 7, 0xEE], [1, 2], [0xA, 0xB, 0xC], [4]]
     | _, _ => false) = true := by
  have hev : (match (C02Full.finalGhost2 C02Full.wext2 scriptZ).close C02Full.wext2,
      C01.finishDev C02Full.wext2 scriptZ with
     | some (es, gap, c), some _ =>
       es.map Spec.Zip.Entry.name == [[0x78], [0x79], [0x72], [0x7a]] &&
       es.map Spec.Zip.Entry.localExtra == [C02Full.xrec, padRecord 51, [], []] &&
       es.map Spec.Zip.Entry.data == [[5, 6, 7, 0xEE], [1, 2], [0xA, 0xB, 0xC], [4]]
     | _, _ => false) = true := by decide +kernel
  have hc : (∀ c ∈ scriptZ, Plain2 c) ∧ NoStray false scriptZ := by decide
  split at hev
  next es gap c d' hg hd =>
    obtain ⟨v, s', hfin⟩ := C01.finishDev_some hd
    obtain ⟨hb, hC, hL, _⟩ := writer_output_streams_full _ _ hc.1 hc.2 es gap c hg v s' d' hfin
    simp only [Bool.and_eq_true, beq_iff_eq, decide_eq_true_eq] at hev ⊢
    exact ⟨⟨⟨⟨⟨hb, hC⟩, hL⟩, hev.1.1⟩, hev.1.2⟩, hev.2⟩
  · cases hev

/-- `NoStray` is needed: a non-empty `write` into a raw copy (`C01.script2`) is refused by it, and the
archive that script produces is not `Contiguous` -/
example : (∀ c ∈ C01.script2, Plain2 c) ∧ ¬ NoStray false C01.script2 := by decide

example :
    (match (C02Full.finalGhost2 C01.wext1 C01.script2).close C01.wext1 with
     | some (es, gap, c) => decide (¬ C10.Contiguous (layoutOf es gap c []))
     | none => false) = true := by decide +kernel

/-- the encryption option is excluded by `Plain2`, and has to be: the ZipCrypto entry of `C02Full.scriptY`
is not `LocalSizes` (flag bit 0) — the stream refuses it (`C10.stream_refuses`) -/
example : ¬ (∀ c ∈ C02Full.scriptY, Plain2 c) := by decide

example :
    (match (C02Full.finalGhost2 C02Full.wext2 C02Full.scriptY).close C02Full.wext2 with
     | some (es, gap, c) => decide (¬ C10.LocalSizes (layoutOf es gap c []))
     | none => false) = true := by decide +kernel

end ZipVerif.Props.C10Writer
