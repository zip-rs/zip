import ZipVerif.Lemmas.FaultRun
import ZipVerif.Lemmas.FaultReader
import ZipVerif.Lemmas.FaultAppend
import ZipVerif.Lemmas.FaultVisit
import ZipVerif.Lemmas.MRun
import ZipVerif.Model.Interrupted
import ZipVerif.Lemmas.FaultInterrupted
import ZipVerif.Lemmas.FaultInterruptedW
import ZipVerif.Props.C05
import ZipVerif.Props.C12
import ZipVerif.Props.C01
/-
C11 — I/O failures surface as errors, never as panics or wrong results.

The property theorems, and what their concrete runs (section E) are stated with: a test script, witness archives,
projections of outcomes, local copies of functions as they were before the repairs of D22, D18 and K-J.
From C12 come the writer's call alphabet (`Call`, `step`, `runCalls`), its invariant `Inv` and its panic-freedom; from
C05 the reader scripts with their totality and the witness archives `oneEntry`, `emptyZip`; from C01 only the layout
theorem through which `d22_pre_fix_witness` is evaluated.

The clauses, each for the writer (any call sequence), the seekable reader, `new_append` and the streaming reader:
(A) no panic under any fault, in the failing call or in any later one; (B) a fault that is not reached changes nothing;
(C) a fault that fires inside a call is that call's error; (D) if every call returned `Ok`, the run is equal to the
failure-free run.  Where the crate ignores a failure it is made explicit: `Drop`, by design (`drop_under_fault`,
`drop_destructor_write_ignored`, `drop_leaves_partial_archive`); the drain of a dropped streamed entry (K-J:
`stream_drain_fault_swallowed`; repaired for `ZipStreamReader::visit`, `visit_fired_fault_is_error`); and two defects,
both repaired in the crate - the last seek of `new_append`, whose result was ignored (D22), and the ZIP64 probe seek of
`ZipArchive::new`, whose failure was taken for "no ZIP64 records" (D18) - each with a regression on the repaired
definition and a witness against a local copy of the pre-repair one.

The fault model is that of `Model/IO.lean`: every model function runs in
`M α = Option Nat → Dev → Out α × Dev`; with `some k` the I/O call with index `k` (reads, writes,
flushes, seeks are counted in `Dev.calls`) fails with `Err(io::Error)` of the kind the device fails with
(`.io d.fkind` — ANY `io::ErrorKind` the crate can tell apart, `InvalidInput` and `UnexpectedEof` included;
`Uniform.kind`: no computation changes it), every other call behaves normally; `none` is the failure-free
run.  All theorems quantify over EVERY `k`, every device (hence every kind), every writer state / archive
value.

KINDS.  `M.prim` fails HARD with whatever kind the device has: sections A-D, and the predicates of `Lemmas/FaultCore` they
rest on - `Uniform`, and `OnFire Φ` (`Uniform`, and when the fault fires the outcome satisfies `Φ`: `Tight` is "the injected
error", `ErrOnFire` "some error", a writer step's `EP` / `StepOK` "not `Ok`") - are statements about a reader / writer all of
whose I/O calls forward every failure.  (`ErrOnFireH`, `Lemmas/FaultVisit`, used for `visit`: `ErrOnFire` on a device whose
kind is not `Interrupted`.)
That is what the crate and std do for every `io::ErrorKind` but one: `Interrupted` is RETRIED by `read_exact`,
`read_to_end`, `io::copy` and `write_all`.  For that kind the theorems of A-D over `openArchive`, `byIndexRead`, `step` …
describe a device failure that std would have absorbed as if it were reported (a sound over-approximation of "is
reported", but not the code's behaviour: `interrupted_not_modelled_in_read_exact`); what the code does under
`Interrupted` is stated over the models with std's convention (`Model/Interrupted.lean`, `Model/InterruptedW.lean`) in
section F: `*_hard_kinds` (those models ARE the hard-failure ones when `d.fkind ≠ .interrupted` - the hypothesis under
which A-D speak about the code), `*_interrupted_trichotomy`, and the clause for ANY kind: `open_ok_is_faultfree_any_kind`,
`read_ok_is_faultfree_any_kind`, `all_ok_is_faultfree_any_kind`, `fired_fault_is_error_hard_kinds`.

HOW THE PER-FUNCTION FACTS COME.  A predicate on computations in `M` that is closed under what the reader model is written
with is a logic (`MLogic`, `Lemmas/MLogic`); it is proved of each reader function by ONE walk over the function's body, made
for an arbitrary logic (`Lemmas/ParserRel` for the generic parsers, `Lemmas/MWalk` for the functions written in `M` only),
and `Uniform`, `Tight`, `OnFire Φ` (for a `Φ` that the injected error satisfies and a bind passes on), `ErrOnFireH` with
`Uniform` are instances.  The writer's (`Uniform`, `StepOK`) are instances of the walks over the generic
writer (`Lemmas/WriterRel`; `Lemmas/FaultWriter`, `Lemmas/FaultRun`); the relation `RI` of section F is an instance of
both kinds of walk (`Lemmas/FaultInterrupted`, `Lemmas/FaultInterruptedW`).
-/

namespace ZipVerif.Props.C11
open ZipVerif ZipVerif.Model ZipVerif.Props.C12

/-! ## A. No panic under any single fault — in the failing call or in any later one -/

/-- **Writer.**  Any sequence of admissible calls — including the calls made after the first error,
`finish`, and the implicit finalisation in `drop` — from a fresh writer, with the `k`-th I/O call of
the whole run failing: no call's outcome is a panic (the sink's position being a `u64`). -/
theorem writer_no_panic_under_fault (ext : WExt) (calls : List Call) (hc : ∀ c ∈ calls, c.Admissible)
    (k : Nat) (d : Dev) (hd : Dev.InRange (runCalls ext calls WState.init (some k) d).2.2) :
    ∀ o ∈ (runCalls ext calls WState.init (some k) d).1, o.isPanic = false :=
  writer_no_panic ext calls hc (some k) d hd

/-- **Writer, from any state satisfying the invariant `Inv` of C12** (every state a call sequence can
reach, and every state `new_append` returns — `append_establishes_inv`), under any fault index or
none: no call's outcome is a panic. -/
theorem writer_no_panic_under_fault_from (ext : WExt) (calls : List Call)
    (hc : ∀ c ∈ calls, c.Admissible) (s : WState) (hI : Inv s) (fa : Option Nat) (d : Dev)
    (hd : Dev.InRange (runCalls ext calls s fa d).2.2) :
    ∀ o ∈ (runCalls ext calls s fa d).1, o.isPanic = false :=
  run_no_panic ext calls hc s hI fa d hd

/-- `ZipWriter::new_append` — for every input and every fault index — never panics, leaves the bytes
alone, and when it succeeds the writer it returns satisfies the invariant. -/
theorem append_establishes_inv (fa : Option Nat) (d : Dev) :
    ¬ (newAppend fa d).1.isPanic = true ∧ (newAppend fa d).2.buf = d.buf ∧
    ∀ s d', newAppend fa d = (.ok s, d') → Inv s :=
  ⟨(C05.append_open_total fa d).1, (C05.append_open_total fa d).2, fun _ _ h => newAppend_inv.elim h⟩

/-- **Append scenarios**: open an existing archive for appending, then any admissible calls, one fault
anywhere in the whole scenario (in `new_append` or in any later call): no panic. -/
theorem append_no_panic_under_fault (ext : WExt) (calls : List Call) (hc : ∀ c ∈ calls, c.Admissible)
    (fa : Option Nat) (d0 d : Dev) (s : WState) (h : newAppend fa d0 = (.ok s, d))
    (hd : Dev.InRange (runCalls ext calls s fa d).2.2) :
    ¬ (newAppend fa d0).1.isPanic = true ∧ ∀ o ∈ (runCalls ext calls s fa d).1, o.isPanic = false :=
  ⟨(C05.append_open_total fa d0).1,
   writer_no_panic_under_fault_from ext calls hc s (newAppend_inv.elim h) fa d hd⟩

/-- **Reader.**  Any script of `open / by_index(_decrypt) / by_index_raw / by_name(_decrypt) / stream
visit / new_append` calls on any bytes (fewer than 2^63 of them: `DevSane`; codecs that do not panic), the
`k`-th I/O call failing: no step panics, neither the call nor the read of the returned entry — in particular
not the calls made after the failure. -/
theorem reader_no_panic_under_fault (ext : Ext) (hext : ExtNoPanic ext) (k : Nat)
    (script : List C05.Step) (s : C05.State) (hd : DevSane s.dev) :
    C05.runScript ext (some k) s script = false :=
  C05.reader_total ext hext (some k) script s hd

/-! ## B. Fault transparency: a fault that is not reached changes nothing -/

theorem writer_call_counter_mono (ext : WExt) (c : Call) (s : WState) (fa : Option Nat) (d : Dev) :
    d.calls ≤ (step ext c s fa d).2.calls :=
  (step_uniform ext c s).mono fa d

/-- **One writer call (any call, `drop` included)**: if the fault index lies outside the window of
I/O calls the *failure-free* call makes, the call's result, the writer state and the sink are those of
the failure-free call. -/
theorem writer_call_unreached_fault (ext : WExt) (c : Call) (s : WState) (k : Nat) (d : Dev)
    (h : k < d.calls ∨ (step ext c s none d).2.calls ≤ k) :
    step ext c s (some k) d = step ext c s none d :=
  (step_uniform ext c s).same_of_outside h

/-- **One writer call, the window taken in the *faulted* run**: a fault that did not fire during the
call leaves result, writer state and sink those of the failure-free call. -/
theorem writer_call_not_fired (ext : WExt) (c : Call) (s : WState) (k : Nat) (d : Dev)
    (h : ¬ Fired k d (step ext c s (some k) d).2) :
    step ext c s (some k) d = step ext c s none d :=
  (step_uniform ext c s).same_of_not_fired h

/-- **A whole call sequence**: a fault index beyond (or before) the I/O calls of the failure-free run
changes nothing — outcomes, final writer state, final sink. -/
theorem writer_run_unreached_fault (ext : WExt) (calls : List Call) (s : WState) (k : Nat) (d : Dev)
    (h : k < d.calls ∨ (runCalls ext calls s none d).2.2.calls ≤ k) :
    runCalls ext calls s (some k) d = runCalls ext calls s none d :=
  run_unreached ext calls k s d h

/-- **Reader entry points and `new_append`**: an unreached fault is invisible. -/
theorem reader_unreached_fault (ext : Ext) (a : Archive) (i : Nat) (name : Bytes) (pw : Option Bytes)
    (k : Nat) (d : Dev) :
    ((k < d.calls ∨ (openArchive none d).2.calls ≤ k) → openArchive (some k) d = openArchive none d) ∧
    ((k < d.calls ∨ (byIndexRead ext a i pw none d).2.calls ≤ k) →
      byIndexRead ext a i pw (some k) d = byIndexRead ext a i pw none d) ∧
    ((k < d.calls ∨ (byNameRead ext a name pw none d).2.calls ≤ k) →
      byNameRead ext a name pw (some k) d = byNameRead ext a name pw none d) ∧
    ((k < d.calls ∨ (byIndexRaw a i none d).2.calls ≤ k) →
      byIndexRaw a i (some k) d = byIndexRaw a i none d) ∧
    ((k < d.calls ∨ (newAppend none d).2.calls ≤ k) → newAppend (some k) d = newAppend none d) ∧
    ((k < d.calls ∨ (streamVisit ext none d).2.calls ≤ k) →
      streamVisit ext (some k) d = streamVisit ext none d) :=
  ⟨openArchive_uniform.same_of_outside, (byIndexRead_tight ext a i pw).uni.same_of_outside,
   (byNameRead_tight ext a name pw).uni.same_of_outside, (byIndexRaw_tight a i).uni.same_of_outside,
   newAppend_uniform.same_of_outside, (streamVisit_tight ext).uni.same_of_outside⟩

theorem reader_call_counter_mono (ext : Ext) (a : Archive) (i : Nat) (pw : Option Bytes)
    (fa : Option Nat) (d : Dev) :
    d.calls ≤ (openArchive fa d).2.calls ∧ d.calls ≤ (byIndexRead ext a i pw fa d).2.calls ∧
    d.calls ≤ (byIndexRaw a i fa d).2.calls ∧ d.calls ≤ (newAppend fa d).2.calls ∧
    d.calls ≤ (streamVisit ext fa d).2.calls :=
  ⟨openArchive_uniform.mono fa d, (byIndexRead_tight ext a i pw).uni.mono fa d,
   (byIndexRaw_tight a i).uni.mono fa d, newAppend_uniform.mono fa d,
   (streamVisit_tight ext).uni.mono fa d⟩

/-! ## C. A fault that fires inside a call is that call's error (for the streaming reader under a consumer and for
`ZipStreamReader::visit` the other clauses are here too: unreached fault, `Ok` is failure-free, `Interrupted`) -/

/-- **Writer, every call other than `drop`**: if the injected failure happens during the call (its
index lies in the window of I/O calls the call performs), the call does not return `Ok`. -/
theorem fired_fault_is_error (ext : WExt) (c : Call) (hc : isDrop c = false) (s : WState) (k : Nat)
    (d : Dev) (hf : Fired k d (step ext c s (some k) d).2) :
    ∀ v s' d', step ext c s (some k) d ≠ (.ok (.ok v, s'), d') := by
  intro v s' d' h
  rw [h] at hf
  exact (step_stepOK ext c hc s).ep k d v s' d' h hf

/-- **Writer, an admissible call other than `drop` from an `Inv` state**: a fault that fires during the
call makes it return `Err` (with the writer in an `Inv` state again) — the only alternative, a panic,
needs a sink position beyond `u64`. -/
theorem fired_fault_returns_err (ext : WExt) (c : Call) (hc : isDrop c = false) (ha : c.Admissible)
    (s : WState) (hI : Inv s) (k : Nat) (d : Dev) (hf : Fired k d (step ext c s (some k) d).2) :
    (∃ e s' d', step ext c s (some k) d = (.ok (.error e, s'), d') ∧ Inv s') ∨
    Huge (step ext c s (some k) d).2 := by
  have hs := inv_step ext c ha s hI (some k) d
  have hn := fired_fault_is_error ext c hc s k d hf
  unfold Sat at hs
  rcases h : step ext c s (some k) d with ⟨(⟨(e | v), s'⟩ | e | p), d'⟩ <;> rw [h] at hs <;>
    dsimp only at hs
  · exact Or.inl ⟨e, s', d', rfl, hs⟩
  · exact absurd h (hn v s' d')
  · exact Or.inr hs

/-- **`Drop` swallows errors by design** (Rust's `Drop` cannot return one).  Two failures are ignored
inside it: the result of the implicit `finalize` (the crate prints it to stderr and goes on), and — when
`finalize` failed before closing the current entry, so that a Deflate/Bzip2 encoder is still alive — the
result of the final write that encoder issues from its own destructor (`dropInner`).  Under any fault,
dropping a writer returns normally, the (unobservable) writer stays in an `Inv` state, and it cannot
panic on a sink whose position is a `u64`.  What the fault leaves behind is a sink holding a partial
archive (`drop_leaves_partial_archive` below); nothing else is observable from the dropped writer. -/
theorem drop_under_fault (ext : WExt) (s : WState) (hI : Inv s) (fa : Option Nat) (d : Dev) :
    Sat (dropWriter ext s) fa d (fun rs _ => rs.1 = .ok () ∧ Inv rs.2) := by
  unfold dropWriter
  split
  · exact Sat.pure ⟨rfl, hI⟩
  · apply Sat.bind
    apply Sat.mono (finalize_sat ext s hI fa d)
    intro ⟨r, s1⟩ d1 ⟨hI1, _⟩
    exact Sat.mono (dropInner_sat' ext s1 hI1 fa d1) (fun _ _ h => ⟨h.2, h.1⟩)

/-- The second failure `Drop` ignores (`drop_under_fault`), made explicit: when the write issued by a live encoder's destructor is
the failing call, `Drop` still completes, the writer ends closed, and the encoder's pending output is
lost (the sink's bytes are untouched by that call). -/
theorem drop_destructor_write_ignored (ext : WExt) (s : WState) (m : Method) (l : Int) (pending : Bytes)
    (hin : s.inner = .compressor m l none pending) (hm : (m == .deflated || m == .bzip2) = true)
    (hne : ext.compress m l pending ≠ []) (d : Dev) :
    dropInner ext s (some d.calls) d = (.ok (.ok (), { s with inner := .closed }), d.tick) ∧
    (dropInner ext s (some d.calls) d).2.buf = d.buf := by
  have h : dropInner ext s (some d.calls) d = (.ok (.ok (), { s with inner := .closed }), d.tick) := by
    unfold dropInner
    rw [hin]
    dsimp only
    rw [if_pos hm, M.bind_apply, M.attempt_apply, M.writeAll_run _ hne, if_pos rfl]
    rfl
  exact ⟨h, by rw [h]; rfl⟩

/-- **Reading an entry** (`by_index` / `by_index_decrypt` / `by_name` / `by_index_raw` + read to end):
no failure is tolerated anywhere — a fault that fires is returned as that very error. -/
theorem read_fired_fault_is_error (ext : Ext) (a : Archive) (i : Nat) (name : Bytes)
    (pw : Option Bytes) (k : Nat) (d : Dev) :
    (Fired k d (byIndexRead ext a i pw (some k) d).2 →
      (byIndexRead ext a i pw (some k) d).1 = .err (.io d.fkind)) ∧
    (Fired k d (byNameRead ext a name pw (some k) d).2 →
      (byNameRead ext a name pw (some k) d).1 = .err (.io d.fkind)) ∧
    (Fired k d (byIndexRaw a i (some k) d).2 → (byIndexRaw a i (some k) d).1 = .err (.io d.fkind)) :=
  ⟨(byIndexRead_tight ext a i pw).reports, (byNameRead_tight ext a name pw).reports,
   (byIndexRaw_tight a i).reports⟩

/-- **The bare streaming function, consumers that read every entry to its end** (also the pre-repair
`ZipStreamReader::visit` with a visitor that reads each entry to end-of-file): a fault that fires is returned as that
very error.  (`visit` itself, under ANY visitor: `visit_fired_fault_is_error`.)

`_partial`: the full clause — ANY consumer of `read_zipfile_from_stream`, in particular one that reads part of an
entry and drops the handle — is FALSE (`stream_drain_fault_swallowed`, known finding K-J): `Drop for ZipFile`
drains the unread rest and cannot report a read error.  What holds for every consumption pattern is fault
transparency (`stream_entries_unreached_fault`). -/
theorem stream_fired_fault_is_error_partial (ext : Ext) (k : Nat) (d : Dev)
    (hf : Fired k d (streamVisit ext (some k) d).2) :
    (streamVisit ext (some k) d).1 = .err (.io d.fkind) :=
  (streamVisit_tight ext).reports hf

/-- the hypothesis of `stream_fired_fault_is_error_partial` is satisfiable: the first read of the stream failing -/
example : Fired 0 (Dev.ofBytes C05.oneEntry) (streamVisit storedExt (some 0) (Dev.ofBytes C05.oneEntry)).2 := by
  decide +kernel

/-- **Partial consumption + drop, any pattern** (per entry a `Consume`: `k` decoded bytes asked for, `pulled` compressed bytes
pulled through the `Take`, then `ZipFile::drop` drains in 64 KiB reads): a fault index that is not reached
changes nothing — outcomes, entries, device.  (A fault that IS reached inside a drain is swallowed:
`stream_drain_fault_swallowed`.) -/
theorem stream_entries_unreached_fault (ext : Ext) (pattern : List Consume) (fuel i k : Nat) (d : Dev)
    (hn : ¬ Fired k d (streamEntriesC ext pattern fuel i (some k) d).2) :
    streamEntriesC ext pattern fuel i (some k) d = streamEntriesC ext pattern fuel i none d :=
  (streamEntriesC_uniform ext pattern fuel i).same_of_not_fired hn

/-- **`ZipStreamReader::visit` under ANY visitor consumption pattern** (each entry:
`k` decoded bytes asked for, `pulled` compressed bytes pulled through the `Take`; a visitor that returns a failed
read to `visit`, as `extract` does): a fault that fires at ANY I/O call of `visit` — a header, one of the visitor's
reads, the drain of what the visitor left unread, the central directory — makes `visit` return an error.  Full
strength, no `_partial`: since the repair `visit` drains every entry itself (`ZipFile::drain_stream`) and returns the
drain's read error; before it the drain ran in `Drop` and swallowed it (K-J; `visit_pre_fix_witness`).
Hypothesis `hk`: the device's failures are hard ones.  A failure of kind `Interrupted` is, by std's convention,
retried where the code sits in a retry loop — every header read (`read_exact`) and, since the repair, the drain —
and is then invisible (`visit_interrupted_invisible`); in the visitor's own bare reads it is an error like any other. -/
theorem visit_fired_fault_is_error (ext : Ext) (pattern : List Consume) (k : Nat) (d : Dev)
    (hk : d.fkind ≠ .interrupted) (hf : Fired k d (streamVisitC ext pattern (some k) d).2) :
    ∃ e, (streamVisitC ext pattern (some k) d).1 = .err e :=
  streamVisitC_errOnFireH ext pattern k d hk hf

/-- `visit` returning `Ok` under a hard fault (`hk`) — any consumption pattern — showed the visitor
exactly what the failure-free run shows (entries, bytes, metadata records; same device). -/
theorem visit_ok_is_faultfree (ext : Ext) (pattern : List Consume) {k : Nat} {d d' : Dev}
    {r : List (FileData × Bytes) × List FileData} (hk : d.fkind ≠ .interrupted)
    (h : streamVisitC ext pattern (some k) d = (.ok r, d')) : streamVisitC ext pattern none d = (.ok r, d') := by
  by_cases hf : Fired k d (streamVisitC ext pattern (some k) d).2
  · obtain ⟨e, he⟩ := visit_fired_fault_is_error ext pattern k d hk hf
    rw [h] at he
    cases he
  · rw [← (streamVisitC_uniform ext pattern).same_of_not_fired hf]
    exact h

/-- **`ZipStreamReader::visit`, any consumption pattern, every kind (`Interrupted` included)**: a fault index `visit`
does not reach changes nothing. -/
theorem visit_unreached_fault (ext : Ext) (pattern : List Consume) (k : Nat) (d : Dev)
    (hn : ¬ Fired k d (streamVisitC ext pattern (some k) d).2) :
    streamVisitC ext pattern (some k) d = streamVisitC ext pattern none d :=
  (streamVisitC_uniform ext pattern).same_of_not_fired hn

/-- **`Interrupted` inside one of std's retry loops is invisible** (`read_exact`, `write_all`, `read_to_end`,
`io::copy`, the loop of `drain_stream`): for a computation all of whose I/O calls sit in such loops (`M.retried m`: the
header reads, the drain, the central directory of the streaming reader), a device failing with `Interrupted` at a call
`m` makes yields the failure-free outcome and device, with one more call counted. -/
theorem visit_interrupted_invisible {α} (m : M α) (k : Nat) (d : Dev) (hi : d.fkind = .interrupted)
    (hf : Fired k d (m none d).2) :
    M.retried m (some k) d = ((m none d).1, { (m none d).2 with calls := (m none d).2.calls + 1 }) :=
  M.retried_interrupted m k d hi hf

/-- On a device failing with any kind but `Interrupted` a retry loop changes nothing: the `Interrupted`-aware entry step
of the bare streaming function (`streamEntryCI`) is `streamEntryC`. -/
theorem stream_entry_hard_kinds (ext : Ext) (c : Consume) (fa : Option Nat) (d : Dev) (hk : d.fkind ≠ .interrupted) :
    streamEntryCI ext c fa d = streamEntryC ext c fa d :=
  streamEntryCI_hard ext c fa d hk

/-- **`ZipArchive::new`**: a fault that fires — at ANY I/O call — is reported as an error (the injected
one; `InvalidArchive` when it hit the seek to the central directory, which the crate maps to that). -/
theorem open_fired_fault_is_error (k : Nat) (d : Dev) (hf : Fired k d (openArchive (some k) d).2) :
    ∃ e, (openArchive (some k) d).1 = .err e :=
  openArchive_errOnFire k d hf

private theorem isErr_of_err {α} {o : Out α} (h : ∃ e, o = .err e) : C05.isErr o = true := by
  obtain ⟨e, rfl⟩ := h
  rfl

/-- `get_directory_counts` (the ZIP64 probe, the locator parse, the ZIP64 end-record search): a fired
fault is returned as that very error. -/
theorem counts_fired_fault_is_error (footer : Eocd) (cde : Nat) (k : Nat) (d : Dev)
    (hf : Fired k d (getDirectoryCounts footer cde (some k) d).2) :
    (getDirectoryCounts footer cde (some k) d).1 = .err (.io d.fkind) :=
  (getDirectoryCounts_tight footer cde).reports hf

/-- **D18, repaired**: the injected fault on the probe seek (the first I/O call of
`get_directory_counts` when the end record lies 20 bytes or more into the file) is returned, WHATEVER the
kind of error the device fails with; nothing else is attempted. -/
theorem probe_injected_fault_reported (footer : Eocd) (cde : Nat) (d : Dev) (h20 : 20 ≤ cde) :
    getDirectoryCounts footer cde (some d.calls) d = (.err (.io d.fkind), d.shift 1) :=
  Model.probe_injected_fault_reported footer cde d h20

/-- **D18, repaired**: "there is no room for a ZIP64 locator" is decided from the known
position of the end record — found less than 20 bytes into the file, a locator (20 bytes) does not fit in
front of it — and no longer from the kind of a seek error: `get_directory_counts` then answers from the
22-byte end record (`countsNoZip64`) without ANY I/O call, for every fault index and every device. -/
theorem probe_skipped_without_room (footer : Eocd) (cde : Nat) (fa : Option Nat) (d : Dev)
    (h20 : cde < 20) :
    getDirectoryCounts footer cde fa d = (countsNoZip64 footer cde, d) :=
  Model.probe_skipped_without_room footer cde fa d h20

/-- **D18, repaired**: when the end record lies 20 bytes or more into the file (`h20`: the probe seek is made), EVERY
error of that seek is returned unchanged by `get_directory_counts` — `InvalidInput` included, the kind
that the first D18 repair still took for "file too short" (`d18_invalid_input_pre_fix_witness`).
(`probe_seek_apply`: on a `Dev` the seek's outcomes are the injected fault of the device's kind,
`InvalidInput` iff the file is shorter than 42 + comment bytes, else success.) -/
theorem probe_seek_error_reported (footer : Eocd) (cde : Nat) (fa : Option Nat) (d d' : Dev)
    (e : ZErr) (h20 : 20 ≤ cde) (hs : M.seek (probePos footer) fa d = (.err e, d')) :
    getDirectoryCounts footer cde fa d = (.err e, d') :=
  Model.probe_seek_error_reported footer cde fa d d' e h20 hs

/-- `probe_seek_error_reported` is not vacuous, at the kind that used to be swallowed: a device failing with
`InvalidInput` at its next call. -/
example (footer : Eocd) (bs : Bytes) : M.seek (probePos footer) (some 0) (Dev.ofBytesK bs .invalidInput) =
    (.err (.io .invalidInput), (Dev.ofBytesK bs .invalidInput).shift 1) := by
  rw [probe_seek_apply]; exact if_pos rfl

/-- **`new_append`**: a fault that fires — at ANY of its I/O calls, the last, repositioning seek
included (D22, repaired) — is reported as an error (the injected one; `InvalidArchive` when it hit the
FIRST seek to the directory start, which the crate maps to that). -/
theorem append_fired_fault_is_error (k : Nat) (d : Dev)
    (hf : Fired k d (newAppend (some k) d).2) : ∃ e, (newAppend (some k) d).1 = .err e :=
  newAppend_errOnFire k d hf

/-- **The repositioning seek of `new_append` is reported** (`reader.seek(Start(directory_start))?`; the
crate had `let _ = …`: D22).  The failure-free call leaves the sink at the directory start `ds`; when
exactly that seek — the last I/O call of `new_append` — fails, the call returns the injected I/O error.
(Before the repair it returned `Ok` with the *same* writer state and the sink where parsing the central
directory ended, `d1.pos`: behind the old directory.  Entries added afterwards were written behind the
old central directory, which remained in the file as dead bytes — every call `Ok`, other bytes:
`d22_pre_fix_witness`.) -/
theorem append_repositioning_seek_reported {d d1 : Dev} {s : WState} {ds : Nat}
    (h : newAppendCore none d = (.ok (s, ds), d1)) :
    newAppend none d = (.ok s, { d1.shift 1 with pos := ds }) ∧
    newAppend (some d1.calls) d = (.err (.io d.fkind), d1.shift 1) :=
  newAppend_last_seek_reported h

/-! ## D. Headline: `Ok` everywhere ⇒ identical to the failure-free run -/

/-- **Writer.**  For every call sequence not containing `drop`, from every writer
state, on every sink, for every fault index `k`: if every call returned `Ok`, the run is *equal* to the
failure-free run — the same return values, the same final writer state and the same final sink (bytes,
position, and even the number of I/O calls made). -/
theorem all_ok_is_faultfree (ext : WExt) (calls : List Call) (hnd : ∀ c ∈ calls, isDrop c = false)
    (s : WState) (k : Nat) (d : Dev)
    (hok : ∀ o ∈ (runCalls ext calls s (some k) d).1, o.isOk = true) :
    runCalls ext calls s (some k) d = runCalls ext calls s none d := by
  rcases run_fault_dichotomy ext calls hnd k s d with h | h
  · exact h
  · obtain ⟨o, ho, hn⟩ := h.not_allOk
    rw [hok o ho] at hn
    cases hn

theorem all_ok_same_bytes (ext : WExt) (calls : List Call) (hnd : ∀ c ∈ calls, isDrop c = false)
    (s : WState) (k : Nat) (d : Dev)
    (hok : ∀ o ∈ (runCalls ext calls s (some k) d).1, o.isOk = true) :
    (runCalls ext calls s (some k) d).2.2.buf = (runCalls ext calls s none d).2.2.buf := by
  rw [all_ok_is_faultfree ext calls hnd s k d hok]

/-- **Writer.**  Admissible calls without `drop`, from an `Inv` state (a
fresh writer, or one returned by `new_append`), one fault at any index `k`: either the whole run is
identical to the failure-free run, or there is a call `i` such that all calls before it returned
exactly what they return in the failure-free run and call `i` returned an error. -/
theorem fault_outcome_dichotomy (ext : WExt) (calls : List Call) (hc : ∀ c ∈ calls, c.Admissible)
    (hnd : ∀ c ∈ calls, isDrop c = false) (s : WState) (hI : Inv s) (k : Nat) (d : Dev)
    (hd : Dev.InRange (runCalls ext calls s (some k) d).2.2) :
    runCalls ext calls s (some k) d = runCalls ext calls s none d ∨
    ∃ i e, (runCalls ext calls s (some k) d).1.take i = (runCalls ext calls s none d).1.take i ∧
      (runCalls ext calls s (some k) d).1[i]? = some (.err e) := by
  rcases run_fault_dichotomy ext calls hnd k s d with h | h
  · exact Or.inl h
  · obtain ⟨i, o, h1, h2, h3⟩ := h.index
    have hmem : o ∈ (runCalls ext calls s (some k) d).1 := List.mem_of_getElem? h2
    have hnp := writer_no_panic_under_fault_from ext calls hc s hI (some k) d hd o hmem
    cases o with
    | ok v => cases h3
    | err e => exact Or.inr ⟨i, e, h1, h2⟩
    | panic p => cases hnp

/-- **`ZipArchive::new`**: `Ok` under a fault — at any index — is the failure-free result, device
included. -/
theorem open_ok_is_faultfree {k : Nat} {d d' : Dev} {a : Archive}
    (h : openArchive (some k) d = (.ok a, d')) : openArchive none d = (.ok a, d') :=
  openArchive_ok_faultfree h

/-- **Streaming reader, consumers that read every entry to its end**: `Ok` under a fault is the failure-free
result (every entry, every metadata record, the device).

`_partial`: for a consumer that drops partly read entries the clause is false — every call can return `Ok`
while the entries handed out are different ones (`stream_drain_fault_swallowed`, known finding K-J). -/
theorem stream_ok_is_faultfree_partial (ext : Ext) {k : Nat} {d d' : Dev}
    {r : List (FileData × Out Bytes) × List FileData}
    (h : streamVisit ext (some k) d = (.ok r, d')) : streamVisit ext none d = (.ok r, d') :=
  (streamVisit_tight ext).ok_faultfree h

/-- **Entry reads**: a call that returns `Ok` under a fault returns exactly the failure-free result
(the same `read_to_end` outcome, the same device). -/
theorem read_ok_is_faultfree (ext : Ext) (a : Archive) (i : Nat) (name : Bytes) (pw : Option Bytes)
    (k : Nat) (d d' : Dev) :
    (∀ r, byIndexRead ext a i pw (some k) d = (.ok r, d') → byIndexRead ext a i pw none d = (.ok r, d')) ∧
    (∀ r, byNameRead ext a name pw (some k) d = (.ok r, d') →
      byNameRead ext a name pw none d = (.ok r, d')) ∧
    (∀ r, byIndexRaw a i (some k) d = (.ok r, d') → byIndexRaw a i none d = (.ok r, d')) :=
  ⟨fun _ h => (byIndexRead_tight ext a i pw).ok_faultfree h,
   fun _ h => (byNameRead_tight ext a name pw).ok_faultfree h,
   fun _ h => (byIndexRaw_tight a i).ok_faultfree h⟩

/-- **Open an archive and read every entry**, one fault at ANY I/O call
index — either everything (archive value, every entry's content or error, final device) is identical
to the failure-free run, or `new` reports an error, or one of the entry reads reports the injected
error. -/
theorem read_scenario_dichotomy (ext : Ext) (pw : Option Bytes) (k : Nat) (d : Dev) :
    openAndReadAll ext pw (some k) d = openAndReadAll ext pw none d ∨
    (∃ e, (openAndReadAll ext pw (some k) d).1 = .err e) ∨
    .err (.io d.fkind) ∈ (openAndReadAll ext pw (some k) d).2.1 :=
  openAndReadAll_dichotomy ext pw k d

/-- **`new_append`**: `Ok` under a fault — at any index — is the failure-free result: the same writer
state and the same sink (bytes, position = the directory start, number of I/O calls) — the last seek,
whose result was ignored before the D22 repair, included. -/
theorem append_ok_is_faultfree {k : Nat} {d d' : Dev} {s : WState}
    (h : newAppend (some k) d = (.ok s, d')) : newAppend none d = (.ok s, d') :=
  newAppend_ok_faultfree h

/-- **`all_ok_is_faultfree` for scripts that start with `new_append`.**  Open ANY bytes for appending,
then any call sequence not containing `drop`, one fault at any index `k` of the whole scenario (inside
`new_append` or inside any later call): if `new_append` and every later call returned `Ok`, the whole
scenario is *equal* to the failure-free one — the writer `new_append` returned, the sink it left, the
return values of all calls, the final writer state and the final sink (bytes, position, number of I/O
calls). -/
theorem append_all_ok_is_faultfree (ext : WExt) (calls : List Call)
    (hnd : ∀ c ∈ calls, isDrop c = false) (k : Nat) (d0 d : Dev) (s : WState)
    (h : newAppend (some k) d0 = (.ok s, d))
    (hok : ∀ o ∈ (runCalls ext calls s (some k) d).1, o.isOk = true) :
    newAppend none d0 = (.ok s, d) ∧
    runCalls ext calls s (some k) d = runCalls ext calls s none d :=
  ⟨append_ok_is_faultfree h, all_ok_is_faultfree ext calls hnd s k d hok⟩

/-! ## E. Concrete runs evaluated by the kernel (hypotheses instantiated, regressions), the definitions as they were before
the repairs of D22, K-J and D18 with the witnesses against them, and last the elementary facts about one failing call -/

/-- `start_file("a")`, `write([1,2,3])`, `finish()` on an empty sink: 49 I/O calls when nothing fails. -/
def script : List Call := [.startFile [0x61] (opts .stored none), .write [1, 2, 3], .finish]

def run (fa : Option Nat) := runCalls ext0 script WState.init fa (Dev.ofBytes [])

example : ∀ c ∈ script, c.Admissible ∧ isDrop c = false := by decide
example : (run none).2.2.calls = 49 ∧ (run none).1.map cls = [.ok, .ok, .ok] := by decide +kernel

/-- A fault on a header write (I/O call 1 is the second chunk of the local header) makes `start_file`
return `Err`; the later `write` is refused, the later `finish` succeeds — no panic, an error reported. -/
example : (run (some 1)).1.map cls = [.err, .err, .ok] := by decide +kernel
/-- A fault on the data write makes `write` return `Err`. -/
example : (run (some 14)).1.map cls = [.ok, .err, .ok] := by decide +kernel
/-- A fault anywhere in `finish` (calls 15 … 48) makes `finish` return `Err`. -/
example : (List.range 34).all (fun j => (run (some (15 + j))).1.map cls == [.ok, .ok, .err]) = true := by
  decide +kernel
/-- `fired_fault_is_error` is not vacuous: in the run with fault 20 the fault fires inside `finish`
(the hypothesis `Fired` holds for the writer state and sink reached after the first two calls). -/
example :
    let r := runCalls ext0 (script.take 2) WState.init (some 20) (Dev.ofBytes [])
    Fired 20 r.2.2 (step ext0 .finish r.2.1 (some 20) r.2.2).2 := by
  decide +kernel
/-- Exhaustively for this script: for EVERY fault index below 49 some call reports an error (an index
≥ 49 changes nothing: `writer_run_unreached_fault`, next example). -/
example : (List.range 49).all (fun k => (run (some k)).1.any (fun o => cls o == .err)) = true := by
  decide +kernel
/-- A fault index beyond the run changes nothing (instance of `writer_run_unreached_fault`). -/
example : run (some 49) = run none := by
  have h : (runCalls ext0 script WState.init none (Dev.ofBytes [])).2.2.calls ≤ 49 := by decide +kernel
  unfold run
  exact writer_run_unreached_fault ext0 script WState.init 49 (Dev.ofBytes []) (Or.inr h)
/-- `all_ok_is_faultfree` (in the form `all_ok_same_bytes`) instantiated at fault index 60, beyond the run: its
hypothesis holds. -/
example : (run (some 60)).2.2.buf = (run none).2.2.buf := by
  have hnd : ∀ c ∈ script, isDrop c = false := by decide
  have hok : ∀ o ∈ (runCalls ext0 script WState.init (some 60) (Dev.ofBytes [])).1, o.isOk = true := by
    decide +kernel
  unfold run
  exact all_ok_same_bytes ext0 script hnd WState.init 60 (Dev.ofBytes []) hok
example : ∀ o ∈ (run (some 20)).1, o.isPanic = false := by
  have ha : ∀ c ∈ script, c.Admissible := by decide
  have hd : Dev.InRange (runCalls ext0 script WState.init (some 20) (Dev.ofBytes [])).2.2 := by
    unfold Dev.InRange; decide +kernel
  unfold run
  exact writer_no_panic_under_fault ext0 script ha 20 (Dev.ofBytes []) hd

/-- `fault_outcome_dichotomy` instantiated (fault 20, inside `finish`): all its hypotheses hold. -/
example : run (some 20) = run none ∨
    ∃ i e, (run (some 20)).1.take i = (run none).1.take i ∧ (run (some 20)).1[i]? = some (.err e) := by
  have ha : ∀ c ∈ script, c.Admissible := by decide
  have hnd : ∀ c ∈ script, isDrop c = false := by decide
  have hd : Dev.InRange (runCalls ext0 script WState.init (some 20) (Dev.ofBytes [])).2.2 := by
    unfold Dev.InRange; decide +kernel
  unfold run
  exact fault_outcome_dichotomy ext0 script ha hnd WState.init Model.inv_init 20 (Dev.ofBytes []) hd

/-- `drop` instead of `finish`: the fault (I/O call 20, inside the implicit finalisation) is
swallowed — every call returns `Ok` — and the sink holds a partial archive: its bytes differ from the
failure-free run's.  This is why `all_ok_is_faultfree` excludes `drop`. -/
theorem drop_leaves_partial_archive :
    let calls : List Call := [.startFile [0x61] (opts .stored none), .write [1, 2, 3], .drop]
    (runCalls ext0 calls WState.init (some 20) (Dev.ofBytes [])).1.map cls = [.ok, .ok, .ok] ∧
    (runCalls ext0 calls WState.init (some 20) (Dev.ofBytes [])).2.2.buf ≠
      (runCalls ext0 calls WState.init none (Dev.ofBytes [])).2.2.buf := by
  decide +kernel

/-! ### Reader and `new_append` on `C05.oneEntry`; D22 against the pre-repair `new_append` -/

def isInjected {α} : Out α → Bool
  | .err (.io .injected) => true
  | _ => false

/-- `ZipArchive::new` on a one-entry archive without ZIP64 records (`C05.oneEntry`, 101 bytes) makes 35 I/O
calls.  The examples that follow: EVERY fault index below 35 is an error; index 13, the ZIP64 probe seek
(D18), is the injected one. -/
private theorem open_oneEntry_calls : (openArchive none (Dev.ofBytes C05.oneEntry)).2.calls = 35 ∧
    C05.okEntries (openArchive none (Dev.ofBytes C05.oneEntry)).1 = some 1 := by decide +kernel

example : (openArchive none (Dev.ofBytes C05.oneEntry)).2.calls = 35 ∧
    C05.okEntries (openArchive none (Dev.ofBytes C05.oneEntry)).1 = some 1 := open_oneEntry_calls
example : (List.range 35).all (fun k =>
    C05.isErr (openArchive (some k) (Dev.ofBytes C05.oneEntry)).1) = true :=
  openArchive_uniform.all_reached C05.isErr rfl (Nat.le_of_eq open_oneEntry_calls.1.symm) fun k h =>
    isErr_of_err (open_fired_fault_is_error k _ h)
example : isInjected (openArchive (some 13) (Dev.ofBytes C05.oneEntry)).1 = true := by decide +kernel

/-- `read_scenario_dichotomy` instantiated at fault index 13, the ZIP64 probe seek (D18). -/
example :
    openAndReadAll storedExt none (some 13) (Dev.ofBytes C05.oneEntry) =
      openAndReadAll storedExt none none (Dev.ofBytes C05.oneEntry) ∨
    (∃ e, (openAndReadAll storedExt none (some 13) (Dev.ofBytes C05.oneEntry)).1 = .err e) ∨
    .err (.io .injected) ∈ (openAndReadAll storedExt none (some 13) (Dev.ofBytes C05.oneEntry)).2.1 :=
  read_scenario_dichotomy storedExt none 13 (Dev.ofBytes C05.oneEntry)

/-- `probe_skipped_without_room` is not vacuous: the empty archive (22 bytes) has its end record at 0 < 20;
nothing is probed (14 I/O calls: the end-record search and the seek to the directory, no probe seek) and
the archive opens with zero entries; on a device failing with `InvalidInput` every fault index is an error. -/
example : C05.okEntries (openArchive none (Dev.ofBytes C05.emptyZip)).1 = some 0 ∧
    (List.range (openArchive none (Dev.ofBytes C05.emptyZip)).2.calls).all (fun k =>
      C05.isErr (openArchive (some k) (Dev.ofBytesK C05.emptyZip .invalidInput)).1) = true := by
  have hc : (openArchive none (Dev.ofBytes C05.emptyZip)).2.calls =
      (openArchive none (Dev.ofBytesK C05.emptyZip .invalidInput)).2.calls := by decide +kernel
  exact ⟨by decide +kernel, openArchive_uniform.all_reached C05.isErr rfl (Nat.le_of_eq hc) fun k h =>
    isErr_of_err (open_fired_fault_is_error k _ h)⟩

/-- `new_append` on `C05.oneEntry` (`append_repositioning_seek_reported`): 36 I/O calls; the
failure-free call leaves the sink at the directory start 32; with its last seek (call 35) failing it
returns the injected I/O error. -/
example :
    (match newAppend none (Dev.ofBytes C05.oneEntry), newAppend (some 35) (Dev.ofBytes C05.oneEntry) with
    | (.ok s, d), (.err (.io .injected), d') =>
      d.pos == 32 && d.calls == 36 && d'.calls == 36 && s.files.length == 1
    | _, _ => false) = true := by decide +kernel
/-- EVERY fault index of `new_append` on `C05.oneEntry` yields an error (`append_fired_fault_is_error` is not
vacuous at any of the 36 calls), so the hypothesis of `append_ok_is_faultfree` holds exactly for `k` outside the
call (index 36: next example). -/
example : (List.range 36).all (fun k =>
    C05.isErr (newAppend (some k) (Dev.ofBytes C05.oneEntry)).1) = true :=
  newAppend_uniform.all_reached C05.isErr rfl
    (Nat.le_of_eq (show (newAppend none (Dev.ofBytes C05.oneEntry)).2.calls = 36 by decide +kernel).symm) fun k h =>
    isErr_of_err (append_fired_fault_is_error k _ h)
example : (newAppend (some 36) (Dev.ofBytes C05.oneEntry)).1.isOk = true := by decide +kernel

/-- `append_all_ok_is_faultfree` is not vacuous: append one entry onto `C05.oneEntry` and finish, the
fault (index 1000) beyond the scenario's I/O calls: `new_append` and every call return `Ok`. -/
example :
    (match newAppend (some 1000) (Dev.ofBytes C05.oneEntry) with
    | (.ok s, d) =>
      (runCalls ext0 [.startFile [0x62] (opts .stored none), .write [1, 2, 3], .finish] s (some 1000) d).1.all
        (·.isOk)
    | _ => false) = true := by decide +kernel

open M in
/-- `new_append` as it was before the D22 repair: the result of the last seek ignored (`let _ =`).  Local
copy, used only for `d22_pre_fix_witness` (through `d22Run`, `d22Lay`). -/
def newAppendPreD22 : M WState := do
  let (footer, cdeStart) ← findAndParseEocd
  if footer.diskNumber != footer.diskWithCd then throw .unsupportedArchive else do
    let (archiveOffset, directoryStart, numberOfFiles) ← getDirectoryCounts footer cdeStart
    if directoryStart > cdeStart then throw .invalidArchive else
    let r ← attempt (seek (.start directoryStart))
    match r with
    | .error _ => throw .invalidArchive
    | .ok _ =>
      let files ← newAppend.loop archiveOffset numberOfFiles
      let _ ← attempt (seek (.start directoryStart))
      pure { WState.init with files, comment := footer.comment, writingRaw := true }

/-- the scenario of `d22_pre_fix_witness`: open `C05.oneEntry` for appending (pre-repair definition), add
the stored entry `b` = `[1, 2, 3]`, finish -/
def d22Run (fa : Option Nat) : Option (List Cls × Bytes × Nat) :=
  match newAppendPreD22 fa (Dev.ofBytes C05.oneEntry) with
  | (.ok s, d) =>
    let r := runCalls ext0 [.startFile [0x62] (opts .stored none), .write [1, 2, 3], .finish] s fa d
    some (r.1.map cls, r.2.2.buf, r.2.2.pos)
  | _ => none

/-- the entry of `C05.oneEntry` as `new_append` normalises it -/
def oneEntryE : Spec.Zip.Entry where
  madeBy := 0x0014
  versionNeeded := 0x14
  flags := 0
  method := 0
  time := 0
  date := 0x21
  crc := 0x59bc5767
  usize := 1
  name := [0x61]
  centralExtra := []
  comment := []
  internalAttrs := 0
  externalAttrs := 0
  z64 := (false, false, false)
  localExtra := []
  localZip64 := false
  desc := .none
  gapBefore := []
  data := [0x5a]
  localVersion := some 0x14

def d22Body : List Call := [.startFile [0x62] (opts .stored none), .write [1, 2, 3]]

/-- `d22Run` with the sink's bytes read off the layout: the state the pre-repair `new_append` returns is the writer between
entries behind the old entry and `gap0` dead bytes, so what `finish` leaves is `build` of the layout its ghost closes to -/
def d22Lay (fa : Option Nat) (gap0 : Bytes) : Option (List Cls × Bytes × Nat) :=
  match newAppendPreD22 fa (Dev.ofBytes C05.oneEntry) with
  | (.ok s, d) =>
    let run := runCalls ext0 d22Body s none d
    match (WL.ghostOf ext0 (.idle [oneEntryE] gap0 s.comment) d22Body run.1).close ext0,
      step ext0 .finish run.2.1 none run.2.2 with
    | some (es, gap, c), (.ok (.ok _, _), d') =>
      if WL.layIdleB [oneEntryE] gap0 s d && !s.centralOnly && s.files.all (fun f => decide (¬ f.time.year < 1980)) &&
          fa.all (· < d.calls) && run.1.all (fun o => !o.isPanic) &&
          decide (d.buf.length ≤ (Spec.Zip.build (WL.layoutOf es gap c [])).length) then
        some (run.1.map cls ++ [.ok], Spec.Zip.build (WL.layoutOf es gap c []), d'.pos)
      else none
    | _, _ => none
  | _ => none

private theorem d22Lay_eq {fa : Option Nat} {gap0 : Bytes} {x : List Cls × Bytes × Nat} (h : d22Lay fa gap0 = some x) :
    d22Run fa = some x := by
  unfold d22Lay at h
  unfold d22Run
  split at h
  next s d hs =>
    dsimp only at h ⊢
    split at h
    next es gap c v s' d' hg hfin =>
      split at h
      next hb =>
        simp only [Bool.and_eq_true, Bool.not_eq_true', decide_eq_true_eq, List.all_eq_true] at hb
        -- the six guards of `d22Lay`: `hlay`, `hco`, `ht` are the hypotheses of `C01.writer_emits_layout_exact_idleB` on the start
        -- state, `hfa` (the fault lies before `new_append` returned) that of `writer_run_unreached_fault`, `hp` that of
        -- `runCalls_snoc`; `hlen` makes the `trailing` in the conclusion of the first (`d.buf.drop …`) empty
        obtain ⟨⟨⟨⟨⟨hlay, hco⟩, ht⟩, hfa⟩, hp⟩, hlen⟩ := hb
        cases h
        have hex := C01.writer_emits_layout_exact_idleB ext0 d22Body (by decide) (by decide) _ _ s d hlay hco ht es gap c hg
          v s' d' hfin
        have hrun : runCalls ext0 (d22Body ++ [.finish]) s fa d = runCalls ext0 (d22Body ++ [.finish]) s none d := by
          cases fa with
          | none => rfl
          | some k => exact writer_run_unreached_fault ext0 _ s k d (Or.inl (of_decide_eq_true hfa))
        have hsn := runCalls_snoc ext0 .finish none d22Body s d fun o ho => by simpa using hp o ho
        rw [hfin] at hsn
        show some (((runCalls ext0 (d22Body ++ [.finish]) s fa d).1.map cls),
          (runCalls ext0 (d22Body ++ [.finish]) s fa d).2.2.buf, (runCalls ext0 (d22Body ++ [.finish]) s fa d).2.2.pos) = _
        rw [hrun, hsn]
        simp only [callOut, List.map_append, List.map_cons, List.map_nil, cls]
        rw [hex.1, List.drop_eq_nil_of_le hlen]
      · cases h
    · cases h
  · cases h

/-- **The finding D22, against the pre-repair definition** (replayed on the crate
before the repair: `corpus/fault.ops`).  With the repositioning seek (I/O call 35) failing, `new_append`
on the 101-byte `C05.oneEntry` returned `Ok` with the sink at 79 — the end record — instead of 32, the
directory start; `start_file`, `write` and `finish` then all return `Ok` as in the failure-free run, but
the new entry and the new directory are written BEHIND the old central directory, which stays in the
file as 47 dead bytes: every call `Ok`, a result that is not the failure-free one — which C11 forbids. -/
theorem d22_pre_fix_witness :
    (match d22Run none, d22Run (some 35) with
    | some (o, b, p), some (o', b', p') =>
      o == [.ok, .ok, .ok] && o' == o && b != b' && b'.length == b.length + 47 && p' == p + 47 &&
      b'.take 79 == C05.oneEntry.take 79
    | _, _ => false) = true := by
  -- evaluated on the layouts (`d22Lay`): the sinks themselves are towers of `writeAt`s
  have hev : (match d22Lay none [], d22Lay (some 35) ((C05.oneEntry.drop 32).take 47) with
    | some (o, b, p), some (o', b', p') =>
      o == [.ok, .ok, .ok] && o' == o && b != b' && b'.length == b.length + 47 && p' == p + 47 &&
      b'.take 79 == C05.oneEntry.take 79
    | _, _ => false) = true := by decide +kernel
  split at hev
  next o b p o' b' p' h1 h2 =>
    rw [d22Lay_eq h1, d22Lay_eq h2]
    exact hev
  · cases hev

/-- The streaming reader (every entry read to its end) on `C05.oneEntry`: every fault index inside the run is the injected
error. -/
example : (List.range (streamVisit storedExt none (Dev.ofBytes C05.oneEntry)).2.calls).all (fun k =>
    isInjected (streamVisit storedExt (some k) (Dev.ofBytes C05.oneEntry)).1) = true :=
  (streamVisit_tight storedExt).uni.all_reached isInjected rfl (Nat.le_refl _) fun k h => by
    rw [stream_fired_fault_is_error_partial storedExt k _ h]
    rfl

/-! ### K-J: a read error in the drain of a dropped streamed entry is swallowed (known finding of the BARE function
`read_zipfile_from_stream`; repaired for `ZipStreamReader::visit` / `extract`: `visit_regression`) -/

/-- A 314-byte stream: stored entry `a` whose content is `"head"` followed by a complete stored archive with the one
entry `evil`; stored entry `b`; the central directory (built with CPython `zipfile`). -/
def nestedStream : Bytes :=
  [
     0x50,0x4b,0x03,0x04,0x14,0x00,0x00,0x00,0x00,0x00,0x00,0x00,0x21,0x00,0x04,0xee,0x70,0x7f,0x77,0x00,0x00,0x00,0x77,0x00,
     0x00,0x00,0x01,0x00,0x00,0x00,0x61,0x68,0x65,0x61,0x64,0x50,0x4b,0x03,0x04,0x14,0x00,0x00,0x00,0x00,0x00,0x00,0x00,0x21,
     0x00,0x3e,0x8d,0xac,0xb6,0x09,0x00,0x00,0x00,0x09,0x00,0x00,0x00,0x04,0x00,0x00,0x00,0x65,0x76,0x69,0x6c,0x65,0x76,0x69,
     0x6c,0x20,0x64,0x61,0x74,0x61,0x50,0x4b,0x01,0x02,0x14,0x03,0x14,0x00,0x00,0x00,0x00,0x00,0x00,0x00,0x21,0x00,0x3e,0x8d,
     0xac,0xb6,0x09,0x00,0x00,0x00,0x09,0x00,0x00,0x00,0x04,0x00,0x00,0x00,0x00,0x00,0x00,0x00,0x00,0x00,0x00,0x00,0xa4,0x01,
     0x00,0x00,0x00,0x00,0x65,0x76,0x69,0x6c,0x50,0x4b,0x05,0x06,0x00,0x00,0x00,0x00,0x01,0x00,0x01,0x00,0x32,0x00,0x00,0x00,
     0x2b,0x00,0x00,0x00,0x00,0x00,0x50,0x4b,0x03,0x04,0x14,0x00,0x00,0x00,0x00,0x00,0x00,0x00,0x21,0x00,0xc5,0xe9,0x2d,0x9f,
     0x11,0x00,0x00,0x00,0x11,0x00,0x00,0x00,0x01,0x00,0x00,0x00,0x62,0x73,0x65,0x76,0x65,0x6e,0x74,0x65,0x65,0x6e,0x20,0x62,
     0x79,0x74,0x65,0x73,0x21,0x21,0x50,0x4b,0x01,0x02,0x14,0x03,0x14,0x00,0x00,0x00,0x00,0x00,0x00,0x00,0x21,0x00,0x04,0xee,
     0x70,0x7f,0x77,0x00,0x00,0x00,0x77,0x00,0x00,0x00,0x01,0x00,0x00,0x00,0x00,0x00,0x00,0x00,0x00,0x00,0x00,0x00,0xa4,0x01,
     0x00,0x00,0x00,0x00,0x61,0x50,0x4b,0x01,0x02,0x14,0x03,0x14,0x00,0x00,0x00,0x00,0x00,0x00,0x00,0x21,0x00,0xc5,0xe9,0x2d,
     0x9f,0x11,0x00,0x00,0x00,0x11,0x00,0x00,0x00,0x01,0x00,0x00,0x00,0x00,0x00,0x00,0x00,0x00,0x00,0x00,0x00,0xa4,0x01,0x96,
     0x00,0x00,0x00,0x62,0x50,0x4b,0x05,0x06,0x00,0x00,0x00,0x00,0x02,0x00,0x02,0x00,0x5e,0x00,0x00,0x00,0xc6,0x00,0x00,0x00,
     0x00,0x00]

/-- names of the entries handed out and whether every call — `read_zipfile_from_stream` and the consumer's reads —
returned `Ok` -/
def streamSaw (r : Out (List (FileData × Out Bytes)) × Dev) : Option (List Bytes × Bool) :=
  match r.1 with
  | .ok es => some (es.map (·.1.fileName), es.all (fun e => e.2.isOk))
  | _ => none

/-- **Counterexample to the full streaming clause** ("a fault that fires inside `streamEntriesC` is an error", and
"`Ok` everywhere implies the failure-free entries").  The consumer
reads 4 bytes of each entry and drops the handle.  Failure-free it sees `a`, `b`.  With I/O call 13 failing — the
first read of the drain `ZipFile::drop` runs for `a` (calls 0–11: the header, 12: the consumer's read) — the
drain ends silently, the stream stays inside `a`'s data, and the next `read_zipfile_from_stream` parses the
nested archive: EVERY call returns `Ok` and the entries are `a`, `evil`.  Replayed on the crate by the fault
stream (`fault.stream … consume=4 k=14` in corpus/fault.ops is the same with 64 KiB of filler in front, i.e. the
SECOND drain read; oracle message `K-J stream-drain-fault-swallowed:`). -/
theorem stream_drain_fault_swallowed :
    streamSaw (streamEntriesC storedExt [{ k := 4, pulled := 4 }] 8 0 none (Dev.ofBytes nestedStream))
      = some ([[0x61], [0x62]], true) ∧
    streamSaw (streamEntriesC storedExt [{ k := 4, pulled := 4 }] 8 0 (some 13) (Dev.ofBytes nestedStream))
      = some ([[0x61], [0x65, 0x76, 0x69, 0x6c]], true) ∧
    Fired 13 (Dev.ofBytes nestedStream)
      (streamEntriesC storedExt [{ k := 4, pulled := 4 }] 8 0 (some 13) (Dev.ofBytes nestedStream)).2 := by
  decide +kernel

/-- The fault of `stream_drain_fault_swallowed` (I/O call 13 on `nestedStream`) while every entry is read to its end is
reported. -/
example : C05.isErr (streamVisit storedExt (some 13) (Dev.ofBytes nestedStream)).1 = true := by decide +kernel

def errOf {α} : Out α → Option ZErr
  | .err e => some e
  | _ => none
def okOf {α} : Out α → Option α
  | .ok a => some a
  | _ => none

/-- **K-J regression**: the stream (`nestedStream`), the consumer (4 bytes of each entry) and the fault of
`stream_drain_fault_swallowed`, through `ZipStreamReader::visit`: failure-free `visit` returns `Ok` after 65 I/O calls; with I/O
call 13 failing — the first read of the drain, since the repair `visit`'s own `drain_stream()?` — `visit` returns the injected
error (`fault.visit … consume=4 k=14` in corpus/fault.ops: the same with 64 KiB of filler, second drain read), and it
returns an error for EVERY fault index of the run; hypotheses of `visit_fired_fault_is_error` / `visit_ok_is_faultfree`
instantiated. -/
theorem visit_regression :
    ((streamVisitC storedExt [{ k := 4, pulled := 4 }] none (Dev.ofBytes nestedStream)).1.isOk = true ∧
     (streamVisitC storedExt [{ k := 4, pulled := 4 }] none (Dev.ofBytes nestedStream)).2.calls = 65) ∧
    errOf (streamVisitC storedExt [{ k := 4, pulled := 4 }] (some 13) (Dev.ofBytes nestedStream)).1
      = some (.io .injected) ∧
    Fired 13 (Dev.ofBytes nestedStream)
      (streamVisitC storedExt [{ k := 4, pulled := 4 }] (some 13) (Dev.ofBytes nestedStream)).2 ∧
    (List.range 65).all (fun k =>
      C05.isErr (streamVisitC storedExt [{ k := 4, pulled := 4 }] (some k) (Dev.ofBytes nestedStream)).1) = true := by
  have h : ((streamVisitC storedExt [{ k := 4, pulled := 4 }] none (Dev.ofBytes nestedStream)).1.isOk = true ∧
       (streamVisitC storedExt [{ k := 4, pulled := 4 }] none (Dev.ofBytes nestedStream)).2.calls = 65) ∧
      errOf (streamVisitC storedExt [{ k := 4, pulled := 4 }] (some 13) (Dev.ofBytes nestedStream)).1
        = some (.io .injected) ∧
      Fired 13 (Dev.ofBytes nestedStream)
        (streamVisitC storedExt [{ k := 4, pulled := 4 }] (some 13) (Dev.ofBytes nestedStream)).2 := by
    decide +kernel
  exact ⟨h.1, h.2.1, h.2.2, (streamVisitC_uniform _ _).all_reached C05.isErr rfl (Nat.le_of_eq h.1.2.symm) fun k hf =>
    isErr_of_err (visit_fired_fault_is_error storedExt [{ k := 4, pulled := 4 }] k _ (by decide) hf)⟩

/-- `visit` as it was before the repair: the entry loop is the bare function's (`streamEntriesC`: the drain runs in
`Drop`, silently), then the central directory. -/
def streamVisitPreFix (ext : Ext) (pattern : List Consume) : M (List Bytes × List Bytes) := do
  let d ← M.getDev
  -- the fuel of `streamVisitC`: an entry takes at least the 30 bytes of a local header's fixed part
  let files ← streamEntriesC ext pattern (d.buf.length / 30 + 1) 0
  let metas ← visitCentral d.buf.length
  pure (files.map (·.1.fileName), metas.map (·.fileName))

/-- **The finding K-J, against the pre-repair definition**: with I/O call 13 failing `visit`
returned `Ok` having shown the visitor `a`, `evil` and the nested archive's one metadata record `evil`, instead of
`a`, `b` and the records `a`, `b`.  Replayed on the unrepaired crate by `fault.visit … consume=4 k=14`. -/
theorem visit_pre_fix_witness :
    okOf (streamVisitPreFix storedExt [{ k := 4, pulled := 4 }] none (Dev.ofBytes nestedStream)).1
      = some ([[0x61], [0x62]], [[0x61], [0x62]]) ∧
    okOf (streamVisitPreFix storedExt [{ k := 4, pulled := 4 }] (some 13) (Dev.ofBytes nestedStream)).1
      = some ([[0x61], [0x65, 0x76, 0x69, 0x6c]], [[0x65, 0x76, 0x69, 0x6c]]) := by
  decide +kernel

/-- `visit_interrupted_invisible` instantiated: a device failing with `Interrupted` at call 13 (inside the drain) or
at call 3 (inside a header `read_exact`): `visit` succeeds with the failure-free result, 66 calls instead of 65; at
call 12 — the visitor's own bare read — the visitor gets the error and `visit` returns it. -/
example :
    (streamVisitC storedExt [{ k := 4, pulled := 4 }] (some 13) (Dev.ofBytesK nestedStream .interrupted)).1.isOk = true ∧
    (streamVisitC storedExt [{ k := 4, pulled := 4 }] (some 13) (Dev.ofBytesK nestedStream .interrupted)).2.calls = 66 ∧
    (streamVisitC storedExt [{ k := 4, pulled := 4 }] (some 3) (Dev.ofBytesK nestedStream .interrupted)).2.calls = 66 ∧
    errOf (streamVisitC storedExt [{ k := 4, pulled := 4 }] (some 12) (Dev.ofBytesK nestedStream .interrupted)).1
      = some (.io .interrupted) := by
  decide +kernel

/-! ### `Interrupted`: what the hard-failure primitives do not describe -/

/-- `M.readExact` / `M.writeAll` (and with them `openArchive`, `byIndexRead`, the writer model `step`) treat a failure of
EVERY kind as a hard one, whereas std's `read_exact` / `write_all` retry `Interrupted`: on a 4-byte device the former answers
`Err(Interrupted)` where the retried read returns the bytes.  (To `fault.read … k=5 kind=interrupted` on `zip64Zero`,
corpus/fault.ops, the implementation answers `open=ok … ncalls=52` - 50 calls of `new`, as in `open_interrupted_witness`, and 2
of the entry read - where `openArchive` gives `open=err:io:interrupted ncalls=6`.)  For `Interrupted` the models are those of section F. -/
theorem interrupted_not_modelled_in_read_exact :
    errOf (M.readExact 4 (some 0) (Dev.ofBytesK [1, 2, 3, 4] .interrupted)).1 = some (.io .interrupted) ∧
    okOf (M.retried (M.readExact 4) (some 0) (Dev.ofBytesK [1, 2, 3, 4] .interrupted)).1 = some [1, 2, 3, 4] := by
  decide +kernel

/-! ### D18: the swallowed probe-seek failure (found by this development, repaired in the crate) -/

/-- A 145-byte ZIP64 archive: one central header (`"a"`), a ZIP64 end record (1 entry, directory of 47
bytes at offset 0), its locator, and a 22-byte end record whose 16/32-bit fields are all zero. -/
def zip64Zero : Bytes :=
  [0x50,0x4b,0x01,0x02, 0x14,0x00, 0x14,0x00, 0,0, 0,0, 0,0, 0x21,0x00, 0,0,0,0, 0,0,0,0, 0,0,0,0,
   1,0, 0,0, 0,0, 0,0, 0,0, 0,0,0,0, 0,0,0,0, 0x61] ++
  [0x50,0x4b,0x06,0x06, 44,0,0,0,0,0,0,0, 45,0, 45,0, 0,0,0,0, 0,0,0,0, 1,0,0,0,0,0,0,0,
   1,0,0,0,0,0,0,0, 47,0,0,0,0,0,0,0, 0,0,0,0,0,0,0,0] ++
  [0x50,0x4b,0x06,0x07, 0,0,0,0, 47,0,0,0,0,0,0,0, 1,0,0,0] ++
  [0x50,0x4b,0x05,0x06, 0,0, 0,0, 0,0, 0,0, 0,0,0,0, 0,0,0,0, 0,0]

/-- **Regression.**  On `zip64Zero` the failure-free `ZipArchive::new` succeeds with
one entry in 49 I/O calls; with the probe seek (I/O call 13) failing it returns the injected error, and
every other fault index inside the run yields an error too: no index yields a success. -/
theorem d18_regression :
    C05.okEntries (openArchive none (Dev.ofBytes zip64Zero)).1 = some 1 ∧
    (openArchive none (Dev.ofBytes zip64Zero)).2.calls = 49 ∧
    isInjected (openArchive (some 13) (Dev.ofBytes zip64Zero)).1 = true ∧
    (List.range 49).all (fun k => C05.isErr (openArchive (some k) (Dev.ofBytes zip64Zero)).1) = true := by
  have h : C05.okEntries (openArchive none (Dev.ofBytes zip64Zero)).1 = some 1 ∧
      (openArchive none (Dev.ofBytes zip64Zero)).2.calls = 49 ∧
      isInjected (openArchive (some 13) (Dev.ofBytes zip64Zero)).1 = true := by decide +kernel
  exact ⟨h.1, h.2.1, h.2.2, openArchive_uniform.all_reached C05.isErr rfl (Nat.le_of_eq h.2.1.symm) fun k hf =>
    isErr_of_err (open_fired_fault_is_error k _ hf)⟩

/-- the eight `io::ErrorKind`s the crate, std's retry loops (and this model) can tell apart -/
def allKinds : List IoKind :=
  [.unexpectedEof, .other, .brokenPipe, .invalidData, .invalidInput, .writeZero, .injected, .interrupted]

/-- **D18 regression, every kind.**  Whatever kind of error the device fails
with — `InvalidInput` included —, `ZipArchive::new` on `zip64Zero` with the probe seek (I/O call 13) failing
returns exactly that error, and no fault index yields a success. -/
theorem d18_regression_every_kind :
    allKinds.all (fun κ =>
      (match (openArchive (some 13) (Dev.ofBytesK zip64Zero κ)).1 with
        | .err (.io κ') => κ' == κ
        | _ => false) &&
      (List.range 49).all (fun k => C05.isErr (openArchive (some k) (Dev.ofBytesK zip64Zero κ)).1)) = true := by
  -- per kind: the probe-seek run and the failure-free call count, evaluated; inside that window every fault fires
  have hev : allKinds.all (fun κ =>
      (match (openArchive (some 13) (Dev.ofBytesK zip64Zero κ)).1 with
        | .err (.io κ') => κ' == κ
        | _ => false) &&
      (openArchive none (Dev.ofBytesK zip64Zero κ)).2.calls == 49) = true := by decide +kernel
  rw [List.all_eq_true] at hev ⊢
  intro κ hκ
  have h := hev κ hκ
  rw [Bool.and_eq_true, beq_iff_eq] at h
  rw [Bool.and_eq_true]
  exact ⟨h.1, openArchive_uniform.all_reached C05.isErr rfl (Nat.le_of_eq h.2.symm) fun k hf =>
    isErr_of_err (open_fired_fault_is_error k _ hf)⟩

open M in
/-- `get_directory_counts` as it was before the D18 repair: ANY failure of the probe seek was taken for
"no ZIP64 locator" (`.error _ => pure none`).  Local copy, used only by `d18_pre_fix_witness`. -/
def getDirectoryCountsPreD18 (footer : Eocd) (cdeStart : Nat) : M (Nat × Nat × Nat) := do
  let sk ← attempt (seek (.endOff (-(20 + 22 + (footer.comment.length : Int)))))
  let loc : Option Locator ← match sk with
    | .ok _ => do
      let r ← attempt parseLocator
      match r with
      | .ok l => pure (some l)
      | .error .invalidArchive => pure none
      | .error e => throw e
    | .error _ => pure none
  match loc with
  | none =>
    let sz := footer.cdSize.toNat
    let off := footer.cdOffset.toNat
    if cdeStart < sz + off then throw .invalidArchive else
    let archiveOffset := cdeStart - sz - off
    pure (archiveOffset, off + archiveOffset, footer.filesOnDisk.toNat)
  | some l =>
    if !footer.recordTooSmall && footer.diskNumber.toUInt32 != l.diskWithCd then
      throw .unsupportedArchive
    else if cdeStart < 60 then throw .invalidArchive else do
      let (f64, archiveOffset) ← findEocd64 l.eocd64Offset.toNat (cdeStart - 60)
      if f64.diskNumber != f64.diskWithCd then throw .unsupportedArchive else
      let ds := f64.cdOffset.toNat + archiveOffset
      if ds ≥ 18446744073709551616 then throw .invalidArchive else
      pure (archiveOffset, ds, f64.files.toNat)

open M in
/-- `ZipArchive::new` over the pre-repair `get_directory_counts`. -/
def openArchivePreD18 : M Archive := do
  let (footer, cdeStart) ← findAndParseEocd
  if !footer.recordTooSmall && footer.diskNumber != footer.diskWithCd then
    throw .unsupportedArchive
  else do
    let (archiveOffset, directoryStart, numberOfFiles) ← getDirectoryCountsPreD18 footer cdeStart
    let r ← attempt (seek (.start directoryStart))
    match r with
    | .error _ => throw .invalidArchive
    | .ok _ =>
      let files ← readCentralLoop archiveOffset numberOfFiles
      pure { files, offset := archiveOffset, comment := footer.comment }

/-- **The finding D18, against the pre-repair definition**: with the probe seek
(I/O call 13) failing, `ZipArchive::new` on `zip64Zero` returned `Ok` with ZERO entries (archive offset
123) where the failure-free run returns ONE — the seek error was swallowed and the reader fell back to
the 22-byte end record: a success carrying different entries, which C11 forbids.  (The same happened,
with 65535 of ≥ 65536 entries, on archives whose end record carries the real size/offset and the
`0xFFFF` count sentinel when the first central header is 76 bytes long.) -/
theorem d18_pre_fix_witness :
    C05.okEntries (openArchivePreD18 none (Dev.ofBytes zip64Zero)).1 = some 1 ∧
    C05.okEntries (openArchivePreD18 (some 13) (Dev.ofBytes zip64Zero)).1 = some 0 := by
  decide +kernel

open M in
/-- `get_directory_counts` as it was after the FIRST D18 repair: a failure of the probe seek of kind
`InvalidInput` — what a refused seek to a negative position yields — was still taken for "no ZIP64
locator", whoever produced it.  Local copy, used only by `d18_invalid_input_pre_fix_witness`. -/
def getDirectoryCountsPreD18b (footer : Eocd) (cdeStart : Nat) : M (Nat × Nat × Nat) := do
  let sk ← attempt (seek (.endOff (-(20 + 22 + (footer.comment.length : Int)))))
  let loc : Option Locator ← match sk with
    | .ok _ => do
      let r ← attempt parseLocator
      match r with
      | .ok l => pure (some l)
      | .error .invalidArchive => pure none
      | .error e => throw e
    | .error (.io .invalidInput) => pure none
    | .error e => throw e
  match loc with
  | none =>
    let sz := footer.cdSize.toNat
    let off := footer.cdOffset.toNat
    if cdeStart < sz + off then throw .invalidArchive else
    let archiveOffset := cdeStart - sz - off
    pure (archiveOffset, off + archiveOffset, footer.filesOnDisk.toNat)
  | some l =>
    if !footer.recordTooSmall && footer.diskNumber.toUInt32 != l.diskWithCd then
      throw .unsupportedArchive
    else if cdeStart < 60 then throw .invalidArchive else do
      let (f64, archiveOffset) ← findEocd64 l.eocd64Offset.toNat (cdeStart - 60)
      if f64.diskNumber != f64.diskWithCd then throw .unsupportedArchive else
      let ds := f64.cdOffset.toNat + archiveOffset
      if ds ≥ 18446744073709551616 then throw .invalidArchive else
      pure (archiveOffset, ds, f64.files.toNat)

open M in
/-- `ZipArchive::new` over `getDirectoryCountsPreD18b`. -/
def openArchivePreD18b : M Archive := do
  let (footer, cdeStart) ← findAndParseEocd
  if !footer.recordTooSmall && footer.diskNumber != footer.diskWithCd then
    throw .unsupportedArchive
  else do
    let (archiveOffset, directoryStart, numberOfFiles) ← getDirectoryCountsPreD18b footer cdeStart
    let r ← attempt (seek (.start directoryStart))
    match r with
    | .error _ => throw .invalidArchive
    | .ok _ =>
      let files ← readCentralLoop archiveOffset numberOfFiles
      pure { files, offset := archiveOffset, comment := footer.comment }

/-- **D18 at the kind `InvalidInput`, against the definition after the first
repair**: a device whose failing call fails with kind `InvalidInput` (fault stream: `kind=invalidinput`),
failing at the probe seek (I/O call 13): `ZipArchive::new` on `zip64Zero` returned `Ok` with ZERO entries
where the failure-free run returns ONE; on a device failing with the kind `injected` the same definition
reports the error (third conjunct) — the defect shows only where the injected error is not distinguishable
from `InvalidInput`. -/
theorem d18_invalid_input_pre_fix_witness :
    C05.okEntries (openArchivePreD18b none (Dev.ofBytesK zip64Zero .invalidInput)).1 = some 1 ∧
    C05.okEntries (openArchivePreD18b (some 13) (Dev.ofBytesK zip64Zero .invalidInput)).1 = some 0 ∧
    isInjected (openArchivePreD18b (some 13) (Dev.ofBytes zip64Zero)).1 = true := by
  decide +kernel

/-! ### Elementary facts about how the model reports a failing call -/

/-- **Writer: no call of an admissible sequence panics under any single fault**, for a fresh writer (the statement of
`writer_no_panic_under_fault`). -/
theorem writer_fault_no_panic (ext : WExt) (calls : List Call) (hc : ∀ c ∈ calls, c.Admissible)
    (k : Nat) (d : Dev) (hd : Dev.InRange (runCalls ext calls WState.init (some k) d).2.2) :
    ∀ o ∈ (runCalls ext calls WState.init (some k) d).1, o.isPanic = false :=
  writer_no_panic_under_fault ext calls hc k d hd

/-- **Writer: a failing device never escapes a call as anything but that call's `Err`.** -/
theorem writer_fault_is_call_error (ext : WExt) (c : Call) (hc : c.Admissible) (s : WState)
    (hI : Inv s) (k : Nat) (d : Dev) (e : ZErr) (d' : Dev) :
    step ext c s (some k) d ≠ (.err e, d') :=
  C12.step_total ext c hc s hI (some k) d e d'

/-- **Reader: no step of any reader script panics under any single fault**, for a fresh input. -/
theorem reader_fault_no_panic (ext : Ext) (hext : ExtNoPanic ext) (bytes : Bytes)
    (hlen : bytes.length < 2 ^ 63) (k : Nat) (script : List C05.Step) :
    C05.runScript ext (some k) ⟨Dev.ofBytes bytes, none⟩ script = false :=
  C05.reader_total_bytes ext hext bytes hlen (some k) script

theorem prim_fault {α} (f : Dev → Out α × Dev) (d : Dev) :
    M.prim f (some d.calls) d = (.err (.io d.fkind), { d with calls := d.calls + 1 }) :=
  M.prim_fault f d

theorem prim_no_fault {α} (f : Dev → Out α × Dev) (k : Nat) (d : Dev) (h : k ≠ d.calls) :
    M.prim f (some k) d = M.prim f none d := by
  rw [M.prim_run, M.prim_run, if_neg (fun e => h (Option.some.inj e)), if_neg nofun]

/-- `io` (the model of `?` on a device result inside a writer call): a device error becomes the call's
`Err`, with the writer state reached so far. -/
theorem io_propagates {α β} (s : WState) (m : M α) (kont : α → M (Except ZErr β × WState))
    (fa : Option Nat) (d d' : Dev) (e : ZErr) (h : m fa d = (.err e, d')) :
    Model.io s m kont fa d = (.ok (.error e, s), d') := by
  rw [io_run, h]

/-! ## F. `ErrorKind::Interrupted`: the models with std's retry convention

### `Interrupted` on the seekable reader: the generic parsers at `MI`

`Model/Interrupted.lean` instantiates the generic parsers (`G.openArchive`, `G.findContent`: the functions proved equal
to the model's at `M`, `Lemmas/ParserRel`) at the monad `MI`, where `read_exact` / `read_to_end` are std's retry loops and
`seek` is a bare call: `openArchiveI`, `findContentI`, and the entry reads `byIndexReadI` (consumer = std's `read_to_end` /
`io::copy`: retries) and `byIndexReadB` (consumer = a hand-written `read` loop that does not retry - what the fault
harness's `run_read` does; the driver answers `fault.read … kind=interrupted` from it).

The proofs go through the relation `RI x y` (`Lemmas/FaultInterrupted`) between a hard-failure computation and its
counterpart with std's convention: closed under bind / attempt / if / the primitives (`RI.parserRel`), hence holding of
every generic parser by the walks `G.rel_*` of `Lemmas/ParserRel`; the equations `G.openArchive_M`, `G.findContent_M` carry it
to the model's functions.  Which calls are bare is a property of the run (the `seek`s). -/

/-- **On a device that fails with any kind but `Interrupted` the model with std's convention IS the hard-failure
model** - `ZipArchive::new`, `find_content`, both entry reads; every fault index, every device. -/
theorem open_hard_kinds (fa : Option Nat) (d : Dev) (hk : d.fkind ≠ .interrupted) :
    openArchiveI fa d = openArchive fa d ∧
    (∀ f, findContentI f fa d = findContent f fa d) ∧
    (∀ ext a i pw, byIndexReadI ext a i pw fa d = byIndexRead ext a i pw fa d) ∧
    (∀ ext a i pw, byIndexReadB ext a i pw fa d = byIndexRead ext a i pw fa d) :=
  ⟨openArchiveI_ri.hard fa d hk, fun f => (findContentI_ri f).hard fa d hk,
   fun ext a i pw => (byIndexReadI_ri ext a i pw).hard fa d hk,
   fun ext a i pw => (byIndexReadB_ri ext a i pw).hard fa d hk⟩

/-- **Without a fault the model with std's convention IS the hard-failure model**, whatever kind the device would fail
with - `ZipArchive::new`, `find_content`, both entry reads. -/
theorem open_no_fault (d : Dev) :
    openArchiveI none d = openArchive none d ∧
    (∀ f, findContentI f none d = findContent f none d) ∧
    (∀ ext a i pw, byIndexReadI ext a i pw none d = byIndexRead ext a i pw none d) ∧
    (∀ ext a i pw, byIndexReadB ext a i pw none d = byIndexRead ext a i pw none d) :=
  ⟨openArchiveI_ri.no_fault d, fun f => (findContentI_ri f).no_fault d,
   fun ext a i pw => (byIndexReadI_ri ext a i pw).no_fault d,
   fun ext a i pw => (byIndexReadB_ri ext a i pw).no_fault d⟩

/-- **`ZipArchive::new` under one fault, `Interrupted` included - the trichotomy.**  (1) the fault is not reached: the
failure-free run; (2) the device fails with `Interrupted` and the fault hit a call inside a `read_exact`: it is
INVISIBLE - outcome, archive value, buffer and position of the failure-free run, one more I/O call; (3) the fault
fired in the hard-failure run as well - a bare `seek` when the kind is `Interrupted`, any call otherwise -: the answer
is the hard-failure model's, which is an error (`open_fired_fault_is_error`). -/
theorem open_interrupted_trichotomy (k : Nat) (d : Dev) :
    (¬ Fired k d (openArchive none d).2 ∧ openArchiveI (some k) d = openArchive none d) ∨
    (Fired k d (openArchive none d).2 ∧ d.fkind = .interrupted ∧
      openArchiveI (some k) d = ((openArchive none d).1, (openArchive none d).2.shift 1)) ∨
    (Fired k d (openArchive none d).2 ∧ Fired k d (openArchive (some k) d).2 ∧
      openArchiveI (some k) d = openArchive (some k) d ∧ ∃ e, (openArchiveI (some k) d).1 = .err e) := by
  exact openArchiveI_ri.interrupted_with k d (E := fun o => ∃ e, o = .err e) (openArchive_errOnFire k d)

/-- **`find_content` under one fault, `Interrupted` included**: the trichotomy of `open_interrupted_trichotomy`, the
answer in the third case being the injected error itself. -/
theorem find_content_interrupted_trichotomy (f : FileData) (k : Nat) (d : Dev) :
    (¬ Fired k d (findContent f none d).2 ∧ findContentI f (some k) d = findContent f none d) ∨
    (Fired k d (findContent f none d).2 ∧ d.fkind = .interrupted ∧
      findContentI f (some k) d = ((findContent f none d).1, (findContent f none d).2.shift 1)) ∨
    (Fired k d (findContent f none d).2 ∧ Fired k d (findContent f (some k) d).2 ∧
      findContentI f (some k) d = findContent f (some k) d ∧ (findContentI f (some k) d).1 = .err (.io d.fkind)) := by
  exact (findContentI_ri f).interrupted_with k d (E := fun o => o = .err (.io d.fkind)) (findContent_tight f).reports

/-- **The entry reads under one fault, `Interrupted` included**, with a retrying consumer (`byIndexReadI`) and a bare one
(`byIndexReadB`): the trichotomy of `open_interrupted_trichotomy`, the answer in the third case being the injected error
itself. -/
theorem read_interrupted_trichotomy (ext : Ext) (a : Archive) (i : Nat) (pw : Option Bytes) (k : Nat) (d : Dev) :
    ∀ y, (y = byIndexReadI ext a i pw ∨ y = byIndexReadB ext a i pw) →
    (¬ Fired k d (byIndexRead ext a i pw none d).2 ∧ y (some k) d = byIndexRead ext a i pw none d) ∨
    (Fired k d (byIndexRead ext a i pw none d).2 ∧ d.fkind = .interrupted ∧
      y (some k) d = ((byIndexRead ext a i pw none d).1, (byIndexRead ext a i pw none d).2.shift 1)) ∨
    (Fired k d (byIndexRead ext a i pw none d).2 ∧ Fired k d (byIndexRead ext a i pw (some k) d).2 ∧
      y (some k) d = byIndexRead ext a i pw (some k) d ∧ (y (some k) d).1 = .err (.io d.fkind)) := by
  intro y hy
  have hri : RI (byIndexRead ext a i pw) y := by
    rcases hy with rfl | rfl
    · exact byIndexReadI_ri ext a i pw
    · exact byIndexReadB_ri ext a i pw
  exact hri.interrupted_with k d (E := fun o => o = .err (.io d.fkind)) (byIndexRead_tight ext a i pw).reports

/-- The C11 clause for `ZipArchive::new` at full strength, `Interrupted` included:
`Ok` under one fault of ANY kind at ANY index carries the failure-free archive value, and the device is the
failure-free one (bytes, position, calls) - or, when a retry loop absorbed an `Interrupted`, that device with exactly one
more I/O call counted. -/
theorem open_ok_is_faultfree_any_kind {k : Nat} {d d' : Dev} {a : Archive}
    (h : openArchiveI (some k) d = (.ok a, d')) :
    ∃ d0, openArchive none d = (.ok a, d0) ∧
      (d' = d0 ∨ (d.fkind = .interrupted ∧ Fired k d d0 ∧ d' = d0.shift 1)) :=
  openArchiveI_ri.ok_is_faultfree openArchive_errOnFire h

/-- **Entry reads (retrying or bare consumer) and `find_content`**: `Ok` under one fault of ANY kind at ANY index carries
the failure-free result, and the device is the failure-free one - or, when a retry loop absorbed an `Interrupted`, that
device with exactly one more I/O call counted. -/
theorem read_ok_is_faultfree_any_kind (ext : Ext) (a : Archive) (i : Nat) (pw : Option Bytes) (k : Nat) (d d' : Dev) :
    (∀ r, byIndexReadI ext a i pw (some k) d = (.ok r, d') →
      ∃ d0, byIndexRead ext a i pw none d = (.ok r, d0) ∧
        (d' = d0 ∨ (d.fkind = .interrupted ∧ Fired k d d0 ∧ d' = d0.shift 1))) ∧
    (∀ r, byIndexReadB ext a i pw (some k) d = (.ok r, d') →
      ∃ d0, byIndexRead ext a i pw none d = (.ok r, d0) ∧
        (d' = d0 ∨ (d.fkind = .interrupted ∧ Fired k d d0 ∧ d' = d0.shift 1))) ∧
    (∀ f r, findContentI f (some k) d = (.ok r, d') →
      ∃ d0, findContent f none d = (.ok r, d0) ∧
        (d' = d0 ∨ (d.fkind = .interrupted ∧ Fired k d d0 ∧ d' = d0.shift 1))) :=
  ⟨fun _ h => (byIndexReadI_ri ext a i pw).ok_is_faultfree (byIndexRead_tight ext a i pw).errOnFire h,
   fun _ h => (byIndexReadB_ri ext a i pw).ok_is_faultfree (byIndexRead_tight ext a i pw).errOnFire h,
   fun f _ h => (findContentI_ri f).ok_is_faultfree (findContent_tight f).errOnFire h⟩

/-- Open an archive and read every entry by index (consumer: a bare `read` loop - the
scenario the driver answers `fault.read` from), one fault of ANY kind at ANY I/O call index: on a device that does not
fail with `Interrupted` the scenario IS `openAndReadAll` (so `read_scenario_dichotomy` applies); in general, if `new`
returned an archive and every entry read returned a value, the archive value, every entry's result and the final device
are those of the failure-free scenario - with exactly one more call counted when a retry loop absorbed an `Interrupted`. -/
theorem read_scenario_any_kind (ext : Ext) (pw : Option Bytes) (k : Nat) (d : Dev) :
    (d.fkind ≠ .interrupted → openAndReadAllB ext pw (some k) d = openAndReadAll ext pw (some k) d) ∧
    ((openAndReadAllB ext pw (some k) d).1.isOk = true →
      (∀ o ∈ (openAndReadAllB ext pw (some k) d).2.1, o.isOk = true) →
      (openAndReadAllB ext pw (some k) d).1 = (openAndReadAll ext pw none d).1 ∧
      (openAndReadAllB ext pw (some k) d).2.1 = (openAndReadAll ext pw none d).2.1 ∧
      ((openAndReadAllB ext pw (some k) d).2.2 = (openAndReadAll ext pw none d).2.2 ∨
        (d.fkind = .interrupted ∧
          (openAndReadAllB ext pw (some k) d).2.2 = (openAndReadAll ext pw none d).2.2.shift 1))) :=
  ⟨fun hk => openAndReadAllB_hard ext pw (some k) d (Or.inl hk), openAndReadAllB_all_ok ext pw k d⟩

/-- the hypotheses instantiated (kernel): `C05.oneEntry` on a device failing with `Interrupted` at call 5 (inside a
`read_exact` of `new`) - `new` and the entry read return values, one more call than the failure-free scenario. -/
example :
    (openAndReadAllB storedExt none (some 5) (Dev.ofBytesK C05.oneEntry .interrupted)).1.isOk = true ∧
    (openAndReadAllB storedExt none (some 5) (Dev.ofBytesK C05.oneEntry .interrupted)).2.1.all (·.isOk) = true ∧
    (openAndReadAllB storedExt none (some 5) (Dev.ofBytesK C05.oneEntry .interrupted)).2.2.calls =
      (openAndReadAll storedExt none none (Dev.ofBytesK C05.oneEntry .interrupted)).2.2.calls + 1 := by
  refine ⟨by decide +kernel, by decide +kernel, by decide +kernel⟩

/-- **Under one fault of any kind `ZipArchive::new` returns an error or the failure-free outcome.** -/
theorem open_fault_outcome_any_kind (k : Nat) (d : Dev) :
    (∃ e, (openArchiveI (some k) d).1 = .err e) ∨ (openArchiveI (some k) d).1 = (openArchive none d).1 := by
  rcases open_interrupted_trichotomy k d with ⟨_, h⟩ | ⟨_, _, h⟩ | ⟨_, _, _, h⟩
  · right; rw [h]
  · right; rw [h]
  · left; exact h

/-- **No panic, any kind**: `ZipArchive::new` never panics; the entry reads do not on a device
shorter than 2^63 bytes with codecs that do not panic (the hypotheses of the hard-failure theorem of C05). -/
theorem seekable_reader_no_panic_any_kind (ext : Ext) (hext : ExtNoPanic ext) (fa : Option Nat) (d : Dev) :
    (openArchiveI fa d).1.isPanic = false ∧
    (DevSane d → ∀ a i pw, (byIndexReadI ext a i pw fa d).1.isPanic = false ∧
      (byIndexReadB ext a i pw fa d).1.isPanic = false) := by
  refine ⟨?_, fun hd a i pw => ⟨?_, ?_⟩⟩
  · have := (openArchiveI_ri.noPanic openArchive_noPanic).elim fa d
    simpa using this
  · have := (byIndexReadI_ri ext a i pw).noPanicOn (byIndexRead_noPanicOn ext hext a i pw) fa d hd
    simpa using this
  · have := (byIndexReadB_ri ext a i pw).noPanicOn (byIndexRead_noPanicOn ext hext a i pw) fa d hd
    simpa using this

/-- **The first I/O call of `ZipArchive::new` is a bare `seek(End(0))`: its failure is reported, `Interrupted`
included** (nothing retries a `seek`). -/
theorem open_first_seek_reported (d : Dev) :
    openArchiveI (some d.calls) d = (.err (.io d.fkind), d.shift 1) :=
  openArchiveI_first_seek d

/-- **The first I/O call of `find_content`** (hence of every `by_index`) is a bare `seek(Start(header_start))`: its
failure is reported, `Interrupted` included. -/
theorem find_content_first_seek_reported (f : FileData) (d : Dev) :
    findContentI f (some d.calls) d = (.err (.io d.fkind), d.shift 1) :=
  findContentI_first_seek f d

/-- hypotheses instantiated: on `zip64Zero` call 5 (inside a `read_exact`) is absorbed - the second case of
`open_interrupted_trichotomy` -, call 0 (the bare seek) is the third. -/
example : Fired 5 (Dev.ofBytesK zip64Zero .interrupted) (openArchive none (Dev.ofBytesK zip64Zero .interrupted)).2 ∧
    (openArchiveI (some 5) (Dev.ofBytesK zip64Zero .interrupted)).2.calls =
      (openArchive none (Dev.ofBytesK zip64Zero .interrupted)).2.calls + 1 ∧
    C05.isErr (openArchiveI (some 0) (Dev.ofBytesK zip64Zero .interrupted)).1 = true := by
  refine ⟨by decide +kernel, by decide +kernel, by decide +kernel⟩

/-! ### `Interrupted` on the writer: the generic writer `GW` at `MI`

`Model/InterruptedW.lean` (the writer's I/O vocabulary at `MI`, and `newAppendI`): `write_all` on the sink retries (headers,
directory, end records, the buffered ZipCrypto stream), `seek` / `flush` are bare, and the one sink `write` of
`ZipWriter::write` is retried by that function's callers (`write_all`, `io::copy`).  `stepI`, `runCallsI`
(`Lemmas/FaultInterruptedW`) are `GW.step` at `MI` and its runs; `GW.step` at `M` IS the writer model (`GW.step_M`).  NOT covered:
I/O inside the encoders (flate2 / bzip2 / zstd hand their output to the sink in loops that do not retry; the model
coalesces it into one `write_all`) - compressing scenarios under `Interrupted` stay with the oracle. -/

/-- **`ZipWriter::write` reports a failure of its sink call having changed nothing** (any error but the 4 GiB refusal,
which closes the writer): the caller's retry loop (`write_all`, `io::copy`) that sees `Interrupted` and calls it again
re-issues exactly that one sink call - why the `MI` writer treats it as a retried call. -/
theorem zipwriter_write_fault_leaves_state (acc : Bytes → Nat) (buf : Bytes) (s s' : WState) (fa : Option Nat)
    (d d' : Dev) (e : ZErr) (h : (GW.write acc buf s : M _) fa d = (.ok (.error e, s'), d')) (he : e ≠ .io .other) :
    s' = s :=
  GW.write_error_leaves_state acc buf s s' fa d d' e h he

/-- **On a device that fails with any kind but `Interrupted`, and without a fault, the writer with std's convention IS
the writer model** - every call of the alphabet, every state; `new_append`; whole call sequences. -/
theorem writer_call_hard_kinds (ext : WExt) (fa : Option Nat) (d : Dev) (hk : d.fkind ≠ .interrupted ∨ fa = none) :
    (∀ c s, stepI ext c s fa d = step ext c s fa d) ∧ newAppendI fa d = newAppend fa d ∧
    (∀ calls s, runCallsI ext calls s fa d = runCalls ext calls s fa d) := by
  refine ⟨fun c s => ?_, ?_, fun calls s => runCallsI_hard ext fa calls s d hk⟩
  · rcases hk with hk | rfl
    · exact (stepI_ri ext c s).hard fa d hk
    · exact (stepI_ri ext c s).no_fault d
  · rcases hk with hk | rfl
    · exact newAppendI_ri.hard fa d hk
    · exact newAppendI_ri.no_fault d

/-- **One writer call under one fault, `Interrupted` included - the trichotomy**: not reached (the failure-free call);
absorbed by a retry loop (`Interrupted` inside a `write_all`: outcome, writer state, sink bytes and position of the
failure-free call, one more I/O call); or the fault fired in the hard-failure model too (a bare `seek` / `flush`, or any
call when the kind is another one) and the answer is the writer model's - an error for every call but `drop`
(`fired_fault_is_error`). -/
theorem writer_call_interrupted_trichotomy (ext : WExt) (c : Call) (s : WState) (k : Nat) (d : Dev) :
    (¬ Fired k d (step ext c s none d).2 ∧ stepI ext c s (some k) d = step ext c s none d) ∨
    (Fired k d (step ext c s none d).2 ∧ d.fkind = .interrupted ∧
      stepI ext c s (some k) d = ((step ext c s none d).1, (step ext c s none d).2.shift 1)) ∨
    (Fired k d (step ext c s none d).2 ∧ Fired k d (step ext c s (some k) d).2 ∧
      stepI ext c s (some k) d = step ext c s (some k) d) :=
  (stepI_ri ext c s).interrupted k d

/-- **A writer call (not `drop`) that returns `Ok` under one fault of ANY kind returned the failure-free value, state
and sink** (bytes, position; one more call counted when a retry loop absorbed an `Interrupted`). -/
theorem writer_call_ok_is_faultfree_any_kind (ext : WExt) (c : Call) (hc : isDrop c = false) (s s' : WState)
    (k : Nat) (d d' : Dev) (v : Option Nat) (h : stepI ext c s (some k) d = (.ok (.ok v, s'), d')) :
    ∃ d0, step ext c s none d = (.ok (.ok v, s'), d0) ∧
      (d' = d0 ∨ (d.fkind = .interrupted ∧ Fired k d d0 ∧ d' = d0.shift 1)) :=
  (stepI_ri ext c s).step_ok_is_faultfree (step_stepOK ext c hc s).ep h

/-- **`new_append` that returns `Ok` under one fault of ANY kind returned the failure-free writer state and sink** (bytes,
position; one more call counted when a retry loop absorbed an `Interrupted`). -/
theorem append_ok_is_faultfree_any_kind {k : Nat} {d d' : Dev} {s : WState}
    (h : newAppendI (some k) d = (.ok s, d')) :
    ∃ d0, newAppend none d = (.ok s, d0) ∧
      (d' = d0 ∨ (d.fkind = .interrupted ∧ Fired k d d0 ∧ d' = d0.shift 1)) :=
  newAppendI_ri.ok_is_faultfree newAppend_errOnFire h

/-- The headline at full strength over error kinds.  Every call sequence without
`drop`, every state, every sink, one fault of ANY kind (`Interrupted` included) at any index: if every call returned
`Ok`, the return values, the final writer state and the final sink - bytes AND position - are those of the
failure-free run; the call counter is the failure-free one, or exactly one more when the device fails with
`Interrupted` and a retry loop absorbed the fault. -/
theorem all_ok_is_faultfree_any_kind (ext : WExt) (calls : List Call) (hnd : ∀ c ∈ calls, isDrop c = false)
    (s : WState) (k : Nat) (d : Dev)
    (hok : ∀ o ∈ (runCallsI ext calls s (some k) d).1, o.isOk = true) :
    (runCallsI ext calls s (some k) d).1 = (runCalls ext calls s none d).1 ∧
    (runCallsI ext calls s (some k) d).2.1 = (runCalls ext calls s none d).2.1 ∧
    (runCallsI ext calls s (some k) d).2.2.buf = (runCalls ext calls s none d).2.2.buf ∧
    (runCallsI ext calls s (some k) d).2.2.pos = (runCalls ext calls s none d).2.2.pos ∧
    ((runCallsI ext calls s (some k) d).2.2.calls = (runCalls ext calls s none d).2.2.calls ∨
      (d.fkind = .interrupted ∧
        (runCallsI ext calls s (some k) d).2.2.calls = (runCalls ext calls s none d).2.2.calls + 1)) := by
  obtain ⟨h1, h2, h3⟩ := runCallsI_all_ok ext k calls s d hnd hok
  refine ⟨h1, h2, ?_, ?_, ?_⟩
  · rcases h3 with h3 | ⟨_, h3⟩ <;> rw [h3] <;> rfl
  · rcases h3 with h3 | ⟨_, h3⟩ <;> rw [h3] <;> rfl
  · rcases h3 with h3 | ⟨hi, h3⟩
    · exact Or.inl (by rw [h3])
    · exact Or.inr ⟨hi, by rw [h3]; rfl⟩

/-- A panic of a writer call with std's convention would be a panic of the model's call on the same device, under the
same fault index or under none: where the model's call panics under no fault index (`hm`; for admissible calls from an
`Inv` state on an in-range sink that is `writer_no_panic_under_fault_from`), neither does `stepI`. -/
theorem writer_call_no_panic_any_kind (ext : WExt) (c : Call) (s : WState) (fa : Option Nat) (d : Dev)
    (hm : ∀ fa', (step ext c s fa' d).1.isPanic = false) : (stepI ext c s fa d).1.isPanic = false := by
  rcases (stepI_ri ext c s).rel fa d with e | ⟨k, _, _, _, e⟩
  · rw [e]; exact hm fa
  · rw [e]; exact hm none

def runI (k : Nat) := runCallsI ext0 script WState.init (some k) (Dev.ofBytesK [] .interrupted)

/-- The writer script of section E (`script`) on a device failing with `Interrupted`, every fault index of the 49 I/O calls:
calls 0, 13 (`stream_position` of `start_file`), 15, 16, 20, 21, 40 (the seeks of `finish_file` / `finalize`) are bare and
reported; every other fault is absorbed - all three calls `Ok`, the failure-free bytes, 50 calls.  (The implementation
answers the same on every index: `corpus/fault.ops`.) -/
theorem writer_interrupted_witness :
    (List.range 49).all (fun k =>
      if [0, 13, 15, 16, 20, 21, 40].contains k then (runI k).1.any (fun o => cls o == .err)
      else (runI k).1.map cls == [.ok, .ok, .ok] && (runI k).2.2.calls == 50 &&
        (runI k).2.2.buf == (run none).2.2.buf) = true := by
  -- outcomes and call counts by evaluation; the bytes of an all-`Ok` run are the failure-free ones by the theorem
  have hev : (List.range 49).all (fun k =>
      if [0, 13, 15, 16, 20, 21, 40].contains k then (runI k).1.any (fun o => cls o == .err)
      else (runI k).1.map cls == [.ok, .ok, .ok] && (runI k).2.2.calls == 50) = true := by decide +kernel
  have h0 : (runCalls ext0 script WState.init none (Dev.ofBytesK [] .interrupted)).2.2.buf = (run none).2.2.buf := by
    decide +kernel
  have hnd : ∀ c ∈ script, isDrop c = false := by decide
  rw [List.all_eq_true] at hev ⊢
  intro k hk
  have hk' := hev k hk
  by_cases hs : [0, 13, 15, 16, 20, 21, 40].contains k = true
  · rw [if_pos hs] at hk' ⊢
    exact hk'
  · rw [if_neg hs] at hk' ⊢
    have hm : (runI k).1.map cls = [.ok, .ok, .ok] := beq_iff_eq.mp ((Bool.and_eq_true _ _).mp hk').1
    have hok : ∀ o ∈ (runI k).1, o.isOk = true := by
      intro o ho
      have hc : cls o ∈ (runI k).1.map cls := List.mem_map_of_mem ho
      rw [hm] at hc
      cases o <;> simp [cls] at hc <;> rfl
    rw [Bool.and_eq_true, beq_iff_eq]
    exact ⟨hk', (all_ok_is_faultfree_any_kind ext0 script hnd WState.init k _ hok).2.2.1.trans h0⟩

/-! ### Reader and writer together: the fired-fault clause on hard kinds; std's retry loops one by one; `ZipArchive::new` on
`zip64Zero` under `Interrupted`, every fault index -/

/-- Section C read over the models with std's convention, with the hypothesis
that makes it a statement about the code: on a device whose failures are NOT `Interrupted`, a fault that fires inside
`ZipArchive::new`, an entry read (either consumer) or a writer call other than `drop` is not `Ok`.  (For `Interrupted`
the clause is false by design - std absorbs it inside its loops: `open_interrupted_trichotomy`,
`writer_call_interrupted_trichotomy`, witnesses `open_interrupted_witness`, `writer_interrupted_witness`.) -/
theorem fired_fault_is_error_hard_kinds (k : Nat) (d : Dev) (hk : d.fkind ≠ .interrupted) :
    (Fired k d (openArchiveI (some k) d).2 → ∃ e, (openArchiveI (some k) d).1 = .err e) ∧
    (∀ ext a i pw, Fired k d (byIndexReadI ext a i pw (some k) d).2 →
      (byIndexReadI ext a i pw (some k) d).1 = .err (.io d.fkind)) ∧
    (∀ ext a i pw, Fired k d (byIndexReadB ext a i pw (some k) d).2 →
      (byIndexReadB ext a i pw (some k) d).1 = .err (.io d.fkind)) ∧
    (∀ ext c s, isDrop c = false → Fired k d (stepI ext c s (some k) d).2 →
      ∀ v s' d', stepI ext c s (some k) d ≠ (.ok (.ok v, s'), d')) := by
  refine ⟨?_, fun ext a i pw => ?_, fun ext a i pw => ?_, fun ext c s hc => ?_⟩
  · rw [(open_hard_kinds (some k) d hk).1]
    exact open_fired_fault_is_error k d
  · rw [(open_hard_kinds (some k) d hk).2.2.1 ext a i pw]
    exact (read_fired_fault_is_error ext a i [] pw k d).1
  · rw [(open_hard_kinds (some k) d hk).2.2.2 ext a i pw]
    exact (read_fired_fault_is_error ext a i [] pw k d).1
  · rw [(writer_call_hard_kinds ext (some k) d (Or.inl hk)).1 c s]
    exact fired_fault_is_error ext c hc s k d

/-- hypothesis instantiated at three of the generator's seven other kinds -/
example : (Dev.ofBytesK [] .injected).fkind ≠ .interrupted ∧ (Dev.ofBytesK [] .invalidInput).fkind ≠ .interrupted ∧
    (Dev.ofBytesK [] .unexpectedEof).fkind ≠ .interrupted := by decide

/-- An `Interrupted` failure of a call `read_exact` makes is invisible - the failure-free
result and device, one more call counted. -/
theorem readExact_interrupted (n k : Nat) (d : Dev) (hi : d.fkind = .interrupted)
    (hf : Fired k d (M.readExact n none d).2) :
    MI.readExact n (some k) d =
      ((M.readExact n none d).1, { (M.readExact n none d).2 with calls := (M.readExact n none d).2.calls + 1 }) :=
  M.retried_interrupted _ k d hi hf

/-- An `Interrupted` failure of a call `write_all` makes is invisible - the failure-free result and device, one more call
counted. -/
theorem writeAll_interrupted (bs : Bytes) (k : Nat) (d : Dev) (hi : d.fkind = .interrupted)
    (hf : Fired k d (M.writeAll bs none d).2) :
    MI.writeAll bs (some k) d =
      ((M.writeAll bs none d).1, { (M.writeAll bs none d).2 with calls := (M.writeAll bs none d).2.calls + 1 }) :=
  M.retried_interrupted _ k d hi hf

/-- An `Interrupted` failure of a call made by a consumer draining a `Take` with std's loops (`read_to_end`, `io::copy`) is
invisible - the failure-free result and device, one more call counted. -/
theorem takeAll_interrupted (limit k : Nat) (d : Dev) (hi : d.fkind = .interrupted)
    (hf : Fired k d (takeAll limit none d).2) :
    MI.takeAll limit (some k) d =
      ((takeAll limit none d).1, { (takeAll limit none d).2 with calls := (takeAll limit none d).2.calls + 1 }) :=
  M.retried_interrupted _ k d hi hf

theorem retry_loops_hard_kinds (fa : Option Nat) (d : Dev) (hk : d.fkind ≠ .interrupted) :
    (∀ n, MI.readExact n fa d = M.readExact n fa d) ∧ (∀ bs, MI.writeAll bs fa d = M.writeAll bs fa d) ∧
    (∀ limit, MI.takeAll limit fa d = takeAll limit fa d) :=
  ⟨fun _ => M.retried_hard _ fa d hk, fun _ => M.retried_hard _ fa d hk, fun _ => M.retried_hard _ fa d hk⟩

example : Fired 0 (Dev.ofBytesK [1, 2, 3, 4] .interrupted) (M.readExact 4 none (Dev.ofBytesK [1, 2, 3, 4] .interrupted)).2 := by
  decide

/-- Kernel-checked on `zip64Zero` (49 I/O calls failure-free): on a device failing with
`Interrupted`, `ZipArchive::new` with std's convention (`openArchiveI`) - for EVERY fault index inside the run -
either succeeds with the failure-free entry list and one more call (the fault hit a call inside `read_exact`), or
stops at the failing call with an error (the fault hit one of the bare `seek`s: calls 0, 1, 3, 4, 13, 18, 29, 30);
call 5 - the `fault.read … k=5 kind=interrupted` of corpus/fault.ops quoted at `interrupted_not_modelled_in_read_exact` -
succeeds, as the implementation does; and on a
device with hard failures it answers as `openArchive` does, at every index. -/
theorem open_interrupted_witness :
    (List.range 49).all (fun k =>
      match openArchiveI (some k) (Dev.ofBytesK zip64Zero .interrupted) with
      | (.ok a, d) => a.files.length == 1 && d.calls == 50 && !([0, 1, 3, 4, 13, 18, 29, 30].contains k)
      | (.err _, d) => d.calls == k + 1 && [0, 1, 3, 4, 13, 18, 29, 30].contains k
      | _ => false) = true ∧
    C05.okEntries (openArchiveI (some 5) (Dev.ofBytesK zip64Zero .interrupted)).1 = some 1 ∧
    (List.range 50).all (fun k =>
      C05.okEntries (openArchiveI (some k) (Dev.ofBytes zip64Zero)).1 == C05.okEntries (openArchive (some k) (Dev.ofBytes zip64Zero)).1 &&
      errOf (openArchiveI (some k) (Dev.ofBytes zip64Zero)).1 == errOf (openArchive (some k) (Dev.ofBytes zip64Zero)).1 &&
      (openArchiveI (some k) (Dev.ofBytes zip64Zero)).2.calls == (openArchive (some k) (Dev.ofBytes zip64Zero)).2.calls) = true := by
  refine ⟨by decide +kernel, by decide +kernel, List.all_eq_true.mpr fun k _ => ?_⟩
  rw [(open_hard_kinds (some k) (Dev.ofBytes zip64Zero) (by decide)).1]
  simp only [beq_self_eq_true, Bool.and_self]

end ZipVerif.Props.C11
