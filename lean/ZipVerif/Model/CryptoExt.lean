import ZipVerif.Model.Reader
import ZipVerif.Model.Aes
import ZipVerif.Model.ZipCrypto
/-
The crate's OWN decryption layers as an instance of the reader model's `Ext` (C05).

`Model/Reader.lean` takes the two decryption layers as parameters (`Ext.zipCrypto`, `Ext.aes`).  They are not
external code: they are src/zipcrypto.rs and src/aes.rs + src/aes_ctr.rs, modelled in `Model/ZipCrypto.lean`
(C15) and `Model/Aes.lean` (C16) - the functions used below are the ones the translated layer methods are tied
to (`Tie/ZcLayer.lean`: `Reader.validate`, `Reader.read`; `Tie/AesLayer.lean`: `dataLength`, `Valid.read`).  This
file plugs them in:

  * `zipCryptoLayer pw check raw`   `ZipCryptoReader::new(take, pw).validate(validator)` and reading the validated
                                    reader to its end, the validator given by the byte it compares
                                    (`= Model.ZipCrypto.decrypt`, `zipCryptoLayer_eq_decrypt`);
  * `aesLayer P pw mode csize raw`  `AesReader::new(take, mode, csize).validate(pw)` over the bytes the `Take` can
                                    deliver, and reading the validated reader to its end (`aesReadAll`: a read of
                                    the whole declared payload, and the read that then reports end-of-file or the
                                    missing bytes; that the outcome does not depend on the buffer sizes is C16's
                                    `ctr_chunk_independent` / `drain_over`);
  * `cryptoExt P decode`            the `Ext` of both, PBKDF2 / the AES block function / HMAC-SHA1 uninterpreted
                                    (`Aes.AesPrims`) and the decompressors still a parameter.

Core Lean only: linked into `zvdriver` (the `read.seek` handler answers password-carrying ops with it).
-/

namespace ZipVerif.Model
open ZipVerif

/-- zipcrypto.rs `ZipCryptoReader::validate` + `read_to_end`: `err io:eof` when the entry is shorter than the
12-byte encryption header, `ok none` when byte 11 of the decrypted header differs from `check`, else the
decrypted rest. -/
def zipCryptoLayer (pw : Bytes) (check : UInt8) (raw : Bytes) : Out (Option Bytes) :=
  match rdN 12 raw with
  | none => .err (.io .unexpectedEof)
  | some (hdr, rest) =>
    let d := ZipCrypto.decryptAll (ZipCrypto.derive pw) hdr
    if d.1[11]? = some check then .ok (some (ZipCrypto.decryptAll d.2 rest).1) else .ok none

/-- It is C15's function-level decryption path, for either validator. -/
theorem zipCryptoLayer_eq_decrypt (pw : Bytes) (v : ZipCrypto.Validator) (raw : Bytes) :
    zipCryptoLayer pw v.byte raw = ZipCrypto.decrypt pw v raw := by
  unfold zipCryptoLayer ZipCrypto.decrypt ZipCrypto.Reader.validate ZipCrypto.Reader.new
  cases h : rdN 12 raw with
  | none => rfl
  | some p =>
    obtain ⟨hdr, rest⟩ := p
    dsimp only
    split <;> rfl

/-- The two models of `AesMode` (types.rs). -/
def aesModeView : AesMode → Aes.AesMode
  | .aes128 => .aes128 | .aes192 => .aes192 | .aes256 => .aes256

/-- Reading a validated AES reader to its end: one `read` with room for the whole declared payload (it returns
what the `Take` still has; when that is everything, the authentication code is read and compared in the same
call), then the `read` that finds nothing left - `Ok(0)` after a complete payload, `UnexpectedEof` after a
truncated one.  The bytes before an error are not observable through `read_to_end`. -/
def aesReadAll (P : Aes.AesPrims) (v : Aes.Valid Aes.ListSrc) : Out Bytes :=
  (Aes.drain P Aes.listSrc [v.dataRemaining, v.dataRemaining] v []).1

/-- aes.rs `AesReader::new(take, mode, compressed_size).validate(pw)`, then `read_to_end`. `raw` = what the `Take`
over the entry's data delivers (shorter than `csize` for a truncated archive). -/
def aesLayer (P : Aes.AesPrims) (pw : Bytes) (mode : AesMode) (csize : UInt64) (raw : Bytes) :
    Out (Option (Out Bytes)) :=
  let m := aesModeView mode
  match (Aes.validate P Aes.listSrc m (Aes.dataLength m csize.toNat) ⟨raw, []⟩ pw).1 with
  | .err e => .err e
  | .panic s => .panic s
  | .ok none => .ok none
  | .ok (some v) => .ok (some (aesReadAll P v))

/-- The reader's environment with the crate's own decryption layers; only the decompressors (flate2 / bzip2 /
zstd) and the three cryptographic primitives remain parameters. -/
def cryptoExt (P : Aes.AesPrims) (decode : Method → Bytes → Out Bytes) : Ext where
  decode := decode
  zipCrypto := zipCryptoLayer
  aes := aesLayer P

end ZipVerif.Model
