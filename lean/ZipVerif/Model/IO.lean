import ZipVerif.Basic.Bytes
import ZipVerif.Basic.Out
/-
The I/O monad every reader/writer model function is written in.

* A `Dev` is a seekable byte device with the semantics of `std::io::Cursor<Vec<u8>>`: a read at or
  past the end returns 0 bytes, a write past the end zero-fills the gap, seeking past the end is
  allowed, seeking to a negative position is `InvalidInput`.
* Every primitive (`read`, `write`, `flush`, `seek`) counts as one I/O call.  The parameter
  `Option Nat` is the index of the call that fails with an injected error (`none`: no fault); the KIND of
  that error is the device's `fkind` (any `io::ErrorKind` the crate can tell apart).
  On an error the device state persists (position, contents, call counter) — later calls see it.
* `M.run none` is the fault-free semantics used by the round-trip theorems; `M.run (some k)` is the
  single-fault semantics used by C11.
-/

namespace ZipVerif.Model

structure Dev where
  buf : Bytes
  pos : Nat
  calls : Nat
  /-- the `io::ErrorKind` with which this device fails when the fault fires.  A device property: no primitive
  changes it.  Nothing may be assumed about it — in particular it can be `InvalidInput`, the kind a refused seek
  to a negative position has, or `UnexpectedEof`, the kind `read_exact` reports at the end of the data. -/
  fkind : IoKind := .injected
  deriving Repr

def Dev.ofBytes (bs : Bytes) : Dev := { buf := bs, pos := 0, calls := 0 }

/-- the same bytes behind a device that fails with kind `k` -/
def Dev.ofBytesK (bs : Bytes) (k : IoKind) : Dev := { buf := bs, pos := 0, calls := 0, fkind := k }

def M (α : Type) : Type := Option Nat → Dev → Out α × Dev

namespace M

instance : Monad M where
  pure a := fun _ d => (.ok a, d)
  bind m f := fun fa d =>
    match m fa d with
    | (.ok a, d') => f a fa d'
    | (.err e, d') => (.err e, d')
    | (.panic s, d') => (.panic s, d')

def throw {α} (e : ZErr) : M α := fun _ d => (.err e, d)
def panic {α} (site : String) : M α := fun _ d => (.panic site, d)
def liftOut {α} (o : Out α) : M α := fun _ d => (o, d)

/-- Run `m`, turning an error into a value (a panic still aborts): `if let Ok(..) = …`. -/
def attempt {α} (m : M α) : M (Except ZErr α) := fun fa d =>
  match m fa d with
  | (.ok a, d') => (.ok (.ok a), d')
  | (.err e, d') => (.ok (.error e), d')
  | (.panic s, d') => (.panic s, d')

def getDev : M Dev := fun _ d => (.ok d, d)

/-- One I/O call: counted, and failing when its index is the injected fault. -/
def prim {α} (f : Dev → Out α × Dev) : M α := fun fa d =>
  let d1 : Dev := { d with calls := d.calls + 1 }
  if fa = some d.calls then (.err (.io d.fkind), d1) else f d1

end M

/-- Overwrite `bs` at position `p` of `buf` (zero-filling a gap), as `Cursor<Vec<u8>>::write`. -/
def writeAt (buf : Bytes) (p : Nat) (bs : Bytes) : Bytes :=
  if p ≤ buf.length then buf.take p ++ bs ++ buf.drop (p + bs.length)
  else buf ++ List.replicate (p - buf.length) 0 ++ bs

inductive SeekFrom
  | start (n : Nat)
  | endOff (off : Int)
  | current (off : Int)
  deriving Repr

namespace M

/-- `Read::read` with a buffer of `n` bytes. -/
def read (n : Nat) : M Bytes := prim fun d =>
  let chunk := (d.buf.drop d.pos).take n
  (.ok chunk, { d with pos := d.pos + chunk.length })

/-- `Write::write`: a `Cursor<Vec<u8>>` accepts the whole buffer. -/
def write (bs : Bytes) : M Nat := prim fun d =>
  (.ok bs.length, { d with buf := writeAt d.buf d.pos bs, pos := d.pos + bs.length })

def flush : M Unit := prim fun d => (.ok (), d)

def seek (s : SeekFrom) : M Nat := prim fun d =>
  let target : Int := match s with
    | .start n => n
    | .endOff off => (d.buf.length : Int) + off
    | .current off => (d.pos : Int) + off
  if target < 0 then (.err (.io .invalidInput), d)
  else (.ok target.toNat, { d with pos := target.toNat })

/-- `Seek::stream_position` (default implementation: `seek(Current(0))`, one I/O call). -/
def streamPosition : M Nat := seek (.current 0)

/-- `Write::write_all`: no call for an empty buffer; one call on a device that accepts everything. -/
def writeAll (bs : Bytes) : M Unit :=
  if bs.isEmpty then pure () else do
    let _ ← write bs
    pure ()

/-- `Read::read_exact` (default implementation): loop over `read`; a short read followed by a read of
0 bytes is `UnexpectedEof`.  On a `Dev` the second read always returns 0 bytes. -/
def readExact (n : Nat) : M Bytes :=
  if n = 0 then pure [] else do
    let r ← read n
    if r.length = n then pure r
    else if r.length = 0 then throw (.io .unexpectedEof)
    else do
      let _ ← read (n - r.length)
      throw (.io .unexpectedEof)

def readU8 : M UInt8 := do
  let r ← readExact 1
  match r with
  | [a] => pure a
  | _ => throw (.io .unexpectedEof)

def readU16 : M UInt16 := do
  let r ← readExact 2
  match r with
  | [a, b] => pure (mk16 a b)
  | _ => throw (.io .unexpectedEof)

def readU32 : M UInt32 := do
  let r ← readExact 4
  match r with
  | [a, b, c, d] => pure (mk32 a b c d)
  | _ => throw (.io .unexpectedEof)

def readU64 : M UInt64 := do
  let r ← readExact 8
  match r with
  | [a, b, c, d, e, f, g, h] => pure (mk64 a b c d e f g h)
  | _ => throw (.io .unexpectedEof)

/-- Write a list of chunks, one `write_all` each (one I/O call per non-empty chunk). -/
def writeChunks : List Bytes → M Unit
  | [] => pure ()
  | c :: cs => do writeAll c; writeChunks cs

/-- Run on a device, fault-free. -/
def runPure {α} (m : M α) (d : Dev) : Out α × Dev := m none d

/-- **std's retry loops.**  `read_exact`, `write_all`, `read_to_end`, `io::copy` - and a hand-written
`Err(ref e) if e.kind() == ErrorKind::Interrupted => continue` - issue an I/O call again when it fails with
`ErrorKind::Interrupted`; every other kind is forwarded.  For a computation `m` ALL of whose I/O calls sit in such
loops: when the device fails with that kind and the fault index falls among the calls `m` makes, the failing call
is repeated - one more call is counted - and nothing else differs from the failure-free run (a failed call
moves nothing, the single fault is spent); in every other case `m` is unchanged.
NB the primitives `read` / `write` / `seek` / `flush`, `readExact` and `writeAll` themselves model a failure of
EVERY kind as a hard one (`prim`): model functions describe `Interrupted`
faults only where they are wrapped in it (the streaming reader under faults, `visitEntry` / `streamEntryCI`). -/
def retried {α} (m : M α) : M α := fun fa d =>
  match fa with
  | none => m none d
  | some k =>
    if d.fkind = .interrupted ∧ d.calls ≤ k ∧ k < (m none d).2.calls then
      ((m none d).1, { (m none d).2 with calls := (m none d).2.calls + 1 })
    else m (some k) d

end M
end ZipVerif.Model
