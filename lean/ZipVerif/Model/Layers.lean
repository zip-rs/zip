import ZipVerif.Basic.Bytes
import ZipVerif.Basic.Out
import ZipVerif.Spec.Crc32
/-
Model of `std::io::Read` sources and of the reader layers of the crate as transducers over
sources, and of the writer's data path over short-writing sinks (C04, C09).

What is modelled (file:line in /repo/src, current tree):
  * `std::io::Take::read`                      -> `take`
  * `Crc32Reader::read`   crc32.rs:44-61       -> `crcLayer`
  * `ZipCryptoReaderValid::read` zipcrypto.rs:158-167 (fixed) -> `zipCryptoLayer`
    and the pre-fix body (defect D1)           -> `zipCryptoLayerBuggy`
  * a per-byte stateful transform that keeps the count (AES-CTR style) -> `statefulMapLayer`
  * `Read::read_exact` (default body)          -> `readExact`
  * `Write::write_all` (default body)          -> `writeAll`
  * `ZipWriter::write` for the data of a Stored entry, write.rs:228-261 -> `zipWriterWr`
  * the PKWARE stream cipher as the crate computes it, zipcrypto.rs:17-60 -> `Pk`

A Rust `read(&mut buf)` returns a count `c` and the caller uses `buf[..c]`.  Here a source returns
the byte list itself; `ok bs` with `bs.length > n` stands for "returned a count larger than the
buffer", after which every slicing site `&buf[..c]` panics - those sites are explicit `panic`
results below.
-/

/-! Incremental view of `Spec.Crc32` (what `crc32fast::Hasher` exposes: `new` / `update` / `finalize`). -/
namespace ZipVerif.Spec.Crc32

/-- Initial raw register (`Hasher::new`). -/
def init : UInt32 := 0xFFFFFFFF

/-- `Hasher::finalize` of a raw register. -/
def finalize (reg : UInt32) : UInt32 := reg ^^^ 0xFFFFFFFF

theorem crc32_eq_finalize (bs : Bytes) : crc32 bs = finalize (updateBytes init bs) := rfl

end ZipVerif.Spec.Crc32

namespace ZipVerif.Model.Layers
open ZipVerif ZipVerif.Spec

/-! ## Sources -/

inductive ReadRes
  | ok (bs : Bytes)
  | err (e : IoKind)
  | panic
  deriving DecidableEq, Repr

/-- How a stream ends: clean end of file, or an error. -/
inductive Term
  | eof
  | err (e : IoKind)
  deriving DecidableEq, Repr

/-- A reader: a state and one function `rd state requested_length`. All "short read" behaviour a
reader may exhibit lives in its state, so quantifying over all sources quantifies over all short-read
behaviours. -/
structure Src (σ : Type) where
  rd : σ → Nat → ReadRes × σ

/-- The `Read` contract as far as memory safety of the callers goes: never more than requested,
never a panic. -/
def Src.WF {σ} (src : Src σ) : Prop :=
  ∀ s n, match (src.rd s n).1 with
    | .ok bs => bs.length ≤ n
    | .err _ => True
    | .panic => False

/-- Execute a list of requests (buffer sizes, zeros allowed); errors do not stop the caller. -/
def run {σ} (src : Src σ) : σ → List Nat → List ReadRes × σ
  | s, [] => ([], s)
  | s, n :: ns =>
    let r := src.rd s n
    let rest := run src r.2 ns
    (r.1 :: rest.1, rest.2)

/-- Concatenation of all bytes handed to the caller. -/
def delivered : List ReadRes → Bytes
  | [] => []
  | .ok bs :: rs => bs ++ delivered rs
  | _ :: rs => delivered rs

/-- One run with request list `reqs` conforms to "delivers `rest`, then ends with `o`":
every result is a prefix of what is still to be delivered, a non-empty request answered with zero
bytes means everything was delivered and the stream ends cleanly, an error comes only after
everything was delivered and is the announced one. Nothing is required after an error. -/
def Conforms {σ} (src : Src σ) (o : Term) : σ → Bytes → List Nat → Prop
  | _, _, [] => True
  | s, rest, n :: ns =>
    match src.rd s n with
    | (.ok bs, s') =>
      bs.length ≤ n ∧ bs <+: rest ∧ (0 < n → bs = [] → rest = [] ∧ o = .eof) ∧
        Conforms src o s' (rest.drop bs.length) ns
    | (.err e, _) => rest = [] ∧ o = .err e
    | (.panic, _) => False

/-- **Schedule-free denotation.** From state `s` the source delivers exactly `B` and then ends with
`o`, whatever sequence of request sizes the caller uses. -/
def Denotes {σ} (src : Src σ) (s : σ) (B : Bytes) (o : Term) : Prop :=
  ∀ reqs, Conforms src o s B reqs

/-- One-step unfolding used by all layer proofs (`P` is the invariant on the successor state). -/
def StepOK {σ} (src : Src σ) (o : Term) (P : σ → Bytes → Prop) (s : σ) (rest : Bytes) (n : Nat) :
    Prop :=
  (∀ bs s', src.rd s n = (.ok bs, s') →
      bs.length ≤ n ∧ (0 < n → bs = [] → rest = [] ∧ o = .eof) ∧
        ∃ rest', rest = bs ++ rest' ∧ P s' rest') ∧
  (∀ e s', src.rd s n = (.err e, s') → rest = [] ∧ o = .err e) ∧
  (∀ s', src.rd s n ≠ (.panic, s'))

/-- `read` in a loop until a non-empty request returns 0 bytes or an error (`read_to_end` with
caller-chosen buffer sizes). `none`: the request list ran out first (or a panic). -/
def readToEnd {σ} (src : Src σ) : σ → List Nat → Option (Bytes × Term × σ)
  | _, [] => none
  | s, n :: ns =>
    match src.rd s n with
    | (.ok bs, s') =>
      if 0 < n ∧ bs = [] then some ([], .eof, s')
      else (readToEnd src s' ns).map fun r => (bs ++ r.1, r.2)
    | (.err e, s') => some ([], .err e, s')
    | (.panic, _) => none

inductive ExactRes
  | ok (bs : Bytes)
  | err (e : IoKind)
  | panic
  deriving DecidableEq, Repr

/-- `Read::read_exact`, default body: loop over `read` until the buffer is full; `Ok(0)` before
that is `UnexpectedEof`. `fuel` bounds the loop (`readExact` supplies `n`, which suffices). -/
def readExactAux {σ} (src : Src σ) : Nat → σ → Nat → ExactRes × σ
  | _, s, 0 => (.ok [], s)
  | 0, s, _ + 1 => (.panic, s)
  | fuel + 1, s, n + 1 =>
    match src.rd s (n + 1) with
    | (.ok bs, s') =>
      if bs = [] then (.err .unexpectedEof, s')
      else if bs.length ≤ n + 1 then
        match readExactAux src fuel s' (n + 1 - bs.length) with
        | (.ok r, s'') => (.ok (bs ++ r), s'')
        | x => x
      else (.panic, s')            -- `&mut buf[n..]` out of range
    | (.err e, s') => (.err e, s')
    | (.panic, s') => (.panic, s')

def readExact {σ} (src : Src σ) (s : σ) (n : Nat) : ExactRes × σ := readExactAux src n s n

/-! ## A concrete scripted source (what the harness's instrumented reader does)

State: the bytes not yet delivered, the script of chunk sizes still to use in this cycle, the whole
script (for cycling) and an optional error raised once the data is exhausted.  A request of `n > 0`
bytes with `k` the next scripted size delivers `min n (max k 1)` bytes (fewer at the end); an empty
script means "as much as requested".  A zero-length request returns 0 bytes and consumes nothing. -/

structure Scripted where
  rest : Bytes
  cur : List Nat
  full : List Nat
  fail : Option IoKind := none
  deriving Repr

def Scripted.next (st : Scripted) : Option Nat × List Nat :=
  match st.cur with
  | k :: ks => (some k, ks)
  | [] => match st.full with
    | k :: ks => (some k, ks)
    | [] => (none, [])

/-- Size of the next delivery for a request of `n > 0` bytes given the next scripted size. -/
def chunk (nx : Option Nat) (n : Nat) : Nat :=
  match nx with
  | some k => min n (max k 1)
  | none => n

def scripted : Src Scripted where
  rd st n :=
    if n = 0 then (.ok [], st)
    else if st.rest = [] then
      match st.fail with
      | some e => (.err e, st)
      | none => (.ok [], st)
    else
      let nx := st.next
      let m := chunk nx.1 n
      (.ok (st.rest.take m), { st with rest := st.rest.drop m, cur := nx.2 })

def Scripted.term (st : Scripted) : Term :=
  match st.fail with
  | some e => .err e
  | none => .eof

/-! ## Layers -/

/-- `std::io::Take`: `limit == 0` returns `Ok(0)` without touching the inner reader; otherwise the
request is clipped to the limit, `assert!(n <= limit)`, and the limit decreases by the count. -/
def take {σ} (inner : Src σ) : Src (σ × Nat) where
  rd st n :=
    if st.2 = 0 then (.ok [], st)
    else
      match inner.rd st.1 (min n st.2) with
      | (.ok bs, s') =>
        if bs.length ≤ st.2 then (.ok bs, (s', st.2 - bs.length)) else (.panic, (s', st.2))
      | (.err e, s') => (.err e, (s', st.2))
      | (.panic, s') => (.panic, (s', st.2))

/-- `Crc32Reader::read` (crc32.rs:44-61). State: inner state and the raw CRC register of
`hasher`. An empty buffer returns `Ok(0)` at once: the inner reader is not consulted, nothing
changes. Otherwise `invalid_check = !check_matches() && !ae2_encrypted` is computed *before* the inner
read; `Ok(0) if invalid_check` is the only place the check acts. -/
def crcLayer {σ} (inner : Src σ) (check : UInt32) (ae2 : Bool) : Src (σ × UInt32) where
  rd st n :=
    if n = 0 then (.ok [], st)
    else
      let invalid := (check != Crc32.finalize st.2) && !ae2
      match inner.rd st.1 n with
      | (.ok bs, s') =>
        if bs.isEmpty && invalid then (.err .other, (s', st.2))
        else if bs.length ≤ n then (.ok bs, (s', Crc32.updateBytes st.2 bs))
        else (.panic, (s', st.2))         -- `&buf[0..count]`
      | (.err e, s') => (.err e, (s', st.2))
      | (.panic, s') => (.panic, (s', st.2))

/-- **Defect D13 (pre-fix body, kept as a regression witness).** Before 80de80b an empty buffer only
disabled the check (`invalid_check = !buf.is_empty() && …`) and the zero-length read was forwarded
to the inner reader - i.e. to the decoder. -/
def crcLayerPreFix {σ} (inner : Src σ) (check : UInt32) (ae2 : Bool) : Src (σ × UInt32) where
  rd st n :=
    let invalid := (n != 0) && (check != Crc32.finalize st.2) && !ae2
    match inner.rd st.1 n with
    | (.ok bs, s') =>
      if bs.isEmpty && invalid then (.err .other, (s', st.2))
      else if bs.length ≤ n then (.ok bs, (s', Crc32.updateBytes st.2 bs))
      else (.panic, (s', st.2))
    | (.err e, s') => (.err e, (s', st.2))
    | (.panic, s') => (.panic, (s', st.2))

/-- Output bytes of a per-byte stateful transform. -/
def mapBytes {κ} (f : κ → UInt8 → UInt8 × κ) : κ → Bytes → Bytes
  | _, [] => []
  | k, b :: bs => (f k b).1 :: mapBytes f (f k b).2 bs

/-- Final state of a per-byte stateful transform. -/
def mapKey {κ} (f : κ → UInt8 → UInt8 × κ) (k : κ) (bs : Bytes) : κ :=
  bs.foldl (fun k b => (f k b).2) k

/-- A layer that keeps the count and transforms exactly the bytes returned, threading a state
(`for byte in buf[..count].iter_mut() { *byte = step(state, *byte) }`). -/
def statefulMapLayer {σ κ} (f : κ → UInt8 → UInt8 × κ) (inner : Src σ) : Src (σ × κ) where
  rd st n :=
    match inner.rd st.1 n with
    | (.ok bs, s') =>
      if bs.length ≤ n then (.ok (mapBytes f st.2 bs), (s', mapKey f st.2 bs))
      else (.panic, (s', st.2))         -- `buf[..count]`
    | (.err e, s') => (.err e, (s', st.2))
    | (.panic, s') => (.panic, (s', st.2))

def mapLayer {σ} (g : UInt8 → UInt8) (inner : Src σ) : Src (σ × Unit) :=
  statefulMapLayer (fun (_ : Unit) b => (g b, ())) inner

/-- `ZipCryptoReaderValid::read` as it is now: decrypts exactly the `count` bytes returned.
`dec` is the cipher's per-byte step (`ZipCryptoKeys::decrypt_byte`), a parameter. -/
def zipCryptoLayer {σ κ} (dec : κ → UInt8 → UInt8 × κ) (inner : Src σ) : Src (σ × κ) :=
  statefulMapLayer dec inner

/-- **Defect D1 (pre-fix body, kept as a regression witness).** `let result = file.read(buf);
for byte in buf.iter_mut() { decrypt }; result` - the cipher runs over the *whole* caller buffer
(`fill` = what the unread tail of the buffer contained), so the key state advances by the request
size instead of the count; also on errors. -/
def zipCryptoLayerBuggy {σ κ} (dec : κ → UInt8 → UInt8 × κ) (fill : UInt8) (inner : Src σ) :
    Src (σ × κ) where
  rd st n :=
    match inner.rd st.1 n with
    | (.ok bs, s') =>
      if bs.length ≤ n then
        let whole := bs ++ List.replicate (n - bs.length) fill
        (.ok ((mapBytes dec st.2 whole).take bs.length), (s', mapKey dec st.2 whole))
      else (.ok bs, (s', st.2))   -- count > buf.len: no slicing in the pre-fix body; not used below
    | (.err e, s') => (.err e, (s', mapKey dec st.2 (List.replicate n fill)))
    | (.panic, s') => (.panic, (s', st.2))

/-! ### What each layer does to a denotation -/

def takeBytes (n : Nat) (B : Bytes) : Bytes := B.take n

/-- The limit is reached (clean EOF without asking the inner reader) or the inner stream ends first. -/
def takeTerm (n : Nat) (B : Bytes) (o : Term) : Term := if n ≤ B.length then .eof else o

/-- The CRC layer turns a clean EOF into `Err("Invalid checksum")` unless the CRC of everything
delivered equals the declared one or the entry is AE-2; inner errors pass through. -/
def crcTerm (check : UInt32) (ae2 : Bool) (B : Bytes) : Term → Term
  | .eof => if ae2 = true ∨ Crc32.crc32 B = check then .eof else .err .other
  | .err e => .err e

/-! ### Decoders are parameters -/

/-- A decompressor wrapped around an arbitrary inner reader (`DeflateDecoder::new(reader)` …). -/
structure Codec where
  St : Type → Type
  layer : {σ : Type} → Src σ → Src (St σ)
  init : {σ : Type} → σ → St σ
  /-- what the decoder outputs for compressed stream `C` whose source ends with `o` -/
  decode : Bytes → Term → Bytes × Term

/-- The decoder's output does not depend on how its input arrives nor on the caller's buffer sizes -
on EVERY input stream, damaged ones included.  *Proved* for Stored (`Props.C09.stored_codec_chunk_independent`;
for the per-byte transform `xorCodec` the per-stream form, `xorCodec_on`); **false for flate2 / bzip2 / zstd**
(see `Codec.ChunkIndependentOn` below for what they can be asked to satisfy and `pickyCodec` for a model instance of
the failure). -/
structure Codec.ChunkIndependent (c : Codec) : Prop where
  denotes : ∀ {σ : Type} (inner : Src σ) (s : σ) (C : Bytes) (o : Term),
    Denotes inner s C o → Denotes (c.layer inner) (c.init s) (c.decode C o).1 (c.decode C o).2

/-- A reader that answers zero-length requests itself (`if buf.is_empty() { return Ok(0) }`) and
forwards the others. `Denotes (guardZero src) …` says "schedule independent for all schedules of
NON-EMPTY buffers"; the guard at the top of `Crc32Reader::read` makes every entry reader of this
shape, so decoders never see a zero-length request. -/
def guardZero {σ} (inner : Src σ) : Src σ where
  rd s n := if n = 0 then (.ok [], s) else inner.rd s n

/-- The same for non-empty requests only (`Crc32Reader` answers zero-length reads itself).  Still over
every stream, hence still false for the real decoders; the property theorems assume
`Codec.ChunkIndependentOn` / `Codec.IntactOK` below instead. -/
structure Codec.ChunkIndependentNZ (c : Codec) : Prop where
  denotes : ∀ {σ : Type} (inner : Src σ) (s : σ) (C : Bytes) (o : Term),
    Denotes inner s C o →
      Denotes (guardZero (c.layer inner)) (c.init s) (c.decode C o).1 (c.decode C o).2

/-- **Observed behaviour of the zstd 0.11 decoder (external code, tied by correspondence only):**
a zero-length read while output is still outstanding fails with `ErrorKind::Other` ("Operation made
no progress over multiple calls, due to output buffer being full"); at the end of the stream it
returns 0. Here as a source over the decoded bytes: everything else is the scripted source. -/
def zeroLenErrScripted : Src Scripted where
  rd st n :=
    if n = 0 then (if st.rest = [] then (.ok [], st) else (.err .other, st))
    else scripted.rd st n

/-- Stored: no decoder at all (`ZipFileReader::Stored(Crc32Reader::new(reader, …))`). -/
def storedCodec : Codec where
  St := fun σ => σ
  layer := fun inner => inner
  init := fun s => s
  decode := fun C o => (C, o)

/-! ## Codec hypotheses that real decoders can meet

`Codec.ChunkIndependent(NZ)` above quantify over EVERY compressed stream `C`, damaged ones included, and
are FALSE for the real decoders: on damaged input flate2 / bzip2 / zstd notice the damage at a point
that depends on the buffer sizes (zstd 0.11, frame `28 b5 2f fd 20 02 01 00 00` - declared content
size 2, no content -: `(0 bytes, eof)` with 1-byte buffers, `(0 bytes, Err)` with a 64 KiB buffer;
damaged deflate streams hand out different numbers of bytes before `InvalidInput`).  They remain true
for Stored and for per-byte transforms, nothing else.  What the external decoders can be asked to
satisfy is chunk independence ON ONE stream - and the streams to ask it for are the INTACT ones. -/

/-- The decoder's result on the compressed stream `C` (ending with `o`) does not depend on how `C`
arrives nor on the caller's (non-empty) buffer sizes, and is `c.decode C o`. -/
def Codec.ChunkIndependentOn (c : Codec) (C : Bytes) (o : Term) : Prop :=
  ∀ {σ : Type} (inner : Src σ) (s : σ), Denotes inner s C o →
    Denotes (guardZero (c.layer inner)) (c.init s) (c.decode C o).1 (c.decode C o).2

/-- **The hypothesis on flate2 / bzip2 / zstd**: what an encoder produced, followed
by a clean end of input (the `Take` at the compressed size), is decoded to the payload and a clean
end, under every chunking.  Nothing is asked about streams outside the encoder's range. -/
structure Codec.IntactOK (c : Codec) (encode : Bytes → Bytes) : Prop where
  roundtrip : ∀ p, c.decode (encode p) .eof = (p, .eof)
  chunk : ∀ p, c.ChunkIndependentOn (encode p) .eof

/-- Toy codec 1 (every byte xor `0x55`): a per-byte transform, chunk independent on every stream. -/
def xorCodec : Codec where
  St := fun σ => σ × Unit
  layer := fun inner => mapLayer (· ^^^ 0x55) inner
  init := fun s => (s, ())
  decode := fun C o => (mapBytes (fun (_ : Unit) b => (b ^^^ 0x55, ())) () C, o)

/-- Toy codec 2, the model analogue of what the real decoders do with damaged input: the format is
"bytes below `0x80`"; a chunk obtained from the reader below that contains a byte outside the format
is rejected AS A WHOLE, so how many good bytes come out before the error depends on the chunking. -/
def pickyLayer {σ} (inner : Src σ) : Src σ where
  rd s n :=
    match inner.rd s n with
    | (.ok bs, s') => if bs.all (· < 0x80) then (.ok bs, s') else (.err .invalidData, s')
    | r => r

def pickyCodec : Codec where
  St := fun σ => σ
  layer := fun inner => pickyLayer inner
  init := fun s => s
  decode := fun C o =>
    if C.all (· < 0x80) then (C, o) else (C.takeWhile (· < 0x80), .err .invalidData)

/-! ## The PKWARE stream cipher as computed by the crate (zipcrypto.rs:17-60)

`ZipCryptoKeys::crc32(crc, b) = (crc >> 8) ^ CRCTABLE[(crc as u8) ^ b]` is one byte step of the raw
CRC-32 register, i.e. `Spec.Crc32.update` (tied by correspondence, stream `layers`, op `layers.zc`). -/
namespace Pk

structure Keys where
  k0 : UInt32
  k1 : UInt32
  k2 : UInt32
  deriving DecidableEq, Repr

def init : Keys := ⟨0x12345678, 0x23456789, 0x34567890⟩

def update (k : Keys) (b : UInt8) : Keys :=
  let k0 := Crc32.update k.k0 b
  let k1 := (k.k1 + (k0 &&& 0xff)) * 0x08088405 + 1      -- Wrapping<u32>
  let k2 := Crc32.update k.k2 (k1 >>> 24).toUInt8
  ⟨k0, k1, k2⟩

def streamByte (k : Keys) : UInt8 :=
  let t : UInt16 := k.k2.toUInt16 ||| 3
  ((t * (t ^^^ 1)) >>> 8).toUInt8                        -- Wrapping<u16>

def dec (k : Keys) (c : UInt8) : UInt8 × Keys :=
  let p := streamByte k ^^^ c
  (p, update k p)

def enc (k : Keys) (p : UInt8) : UInt8 × Keys := (streamByte k ^^^ p, update k p)

def derive (pw : Bytes) : Keys := pw.foldl update init

end Pk

/-! ## Pipelines built by `make_crypto_reader` / `make_reader` (read.rs:206-292) -/

/-- Result of `ZipCryptoReader::validate`. -/
inductive ZcOpen (σ κ : Type)
  | valid (st : σ × κ)
  | wrongPassword
  | err (e : IoKind)
  | panic

/-- `ZipCryptoReader::validate`: `read_exact` the 12-byte header from the (already limited) reader,
decrypt it, compare its last byte with the validator byte (high byte of the CRC or of the DOS time);
on success the reader continues with the advanced key state. -/
def zcValidate {σ κ} (dec : κ → UInt8 → UInt8 × κ) (inner : Src σ) (s : σ) (k : κ)
    (expect : UInt8) : ZcOpen σ κ :=
  match readExact inner s 12 with
  | (.ok hdr, s') =>
    if (mapBytes dec k hdr)[11]? = some expect then .valid (s', mapKey dec k hdr)
    else .wrongPassword
  | (.err e, _) => .err e
  | (.panic, _) => .panic

/-- Unencrypted entry: `Crc32Reader(decoder(Take(reader)))`; the state starts as
`((init (s, compressed_size)), fresh hasher)`. -/
def entryPipeline {σ} (c : Codec) (inner : Src σ) (check : UInt32) (ae2 : Bool) :
    Src (c.St (σ × Nat) × UInt32) :=
  crcLayer (c.layer (take inner)) check ae2

/-- ZipCrypto entry after a successful `validate`: `Crc32Reader(decoder(ZipCryptoReaderValid(Take)))`. -/
def entryPipelineZc {σ κ} (c : Codec) (dec : κ → UInt8 → UInt8 × κ) (inner : Src σ)
    (check : UInt32) : Src (c.St ((σ × Nat) × κ) × UInt32) :=
  crcLayer (c.layer (zipCryptoLayer dec (take inner))) check false

/-! ## Writer side -/

inductive WriteRes
  | ok (k : Nat)
  | err (e : IoKind)
  | panic
  deriving DecidableEq, Repr

structure Wr (ω : Type) where
  wr : ω → Bytes → WriteRes × ω

/-- `Write::write_all`, default body: `Ok(0)` is `WriteZero`, otherwise continue with `&buf[n..]`
(out of range if `n > len`: panic). `fuel`: `writeAll` supplies `buf.length`. -/
def writeAllAux {ω} (w : Wr ω) : Nat → ω → Bytes → Out Unit × ω
  | _, t, [] => (.ok (), t)
  | 0, t, _ :: _ => (.panic "fuel", t)
  | fuel + 1, t, b :: bs =>
    match w.wr t (b :: bs) with
    | (.ok 0, t') => (.err (.io .writeZero), t')
    | (.ok k, t') =>
      if k ≤ (b :: bs).length then writeAllAux w fuel t' ((b :: bs).drop k)
      else (.panic "slice", t')
    | (.err e, t') => (.err (.io e), t')
    | (.panic, t') => (.panic "inner", t')

def writeAll {ω} (w : Wr ω) (t : ω) (buf : Bytes) : Out Unit × ω := writeAllAux w buf.length t buf

/-- Contract of an appending sink (`Cursor<Vec<u8>>` positioned at the end, a file, a pipe): a write
accepts a prefix of the buffer and appends exactly that prefix; a failed write appends nothing. -/
structure SinkSpec {ω} (w : Wr ω) (contents : ω → Bytes) : Prop where
  ok : ∀ t buf k t', w.wr t buf = (.ok k, t') → k ≤ buf.length ∧ contents t' = contents t ++ buf.take k
  err : ∀ t buf e t', w.wr t buf = (.err e, t') → contents t' = contents t

/-- The sink never fails and never returns `Ok(0)` for a non-empty buffer (it may still be
arbitrarily short). -/
def SinkLive {ω} (w : Wr ω) : Prop :=
  ∀ t buf, buf ≠ [] → ∃ k t', w.wr t buf = (.ok k, t') ∧ 1 ≤ k

/-- The harness's scripted sink: accepts `min len (max k 1)` bytes, `k` cycling through a script
(an empty script accepts everything). -/
structure SSink where
  contents : Bytes
  cur : List Nat
  full : List Nat
  deriving Repr

def scriptedSink : Wr SSink where
  wr t buf :=
    if buf = [] then (.ok 0, t)
    else
      let nx : Option Nat × List Nat := match t.cur with
        | k :: ks => (some k, ks)
        | [] => match t.full with
          | k :: ks => (some k, ks)
          | [] => (none, [])
      let m := chunk nx.1 buf.length
      (.ok m, { t with contents := t.contents ++ buf.take m, cur := nx.2 })

/-- State of `ZipWriter` while the data of one Stored, unencrypted entry is written:
the sink, `stats.hasher` (raw register), `stats.bytes_written`, the entry's `large_file` option and
whether `inner` has been replaced by `Closed`. -/
structure ZwState (ω : Type) where
  sink : ω
  reg : UInt32
  written : Nat
  largeFile : Bool
  closed : Bool

/-- `ZIP64_BYTES_THR` -/
def zip64BytesThr : Nat := 0xFFFFFFFF

/-- `<ZipWriter as Write>::write` with `writing_to_file`, not `writing_to_extra_field`, inner =
`Storer(Unencrypted(sink))`: forward to the sink; on `Ok(count)` update hasher and byte counter with
exactly `buf[0..count]`; above 4 GiB without `large_file` close the writer and fail. -/
def zipWriterWr {ω} (w : Wr ω) : Wr (ZwState ω) where
  wr st buf :=
    if st.closed then (.err .brokenPipe, st)
    else
      match w.wr st.sink buf with
      | (.ok k, t') =>
        if k ≤ buf.length then
          let st' : ZwState ω :=
            { st with sink := t', reg := Crc32.updateBytes st.reg (buf.take k), written := st.written + k }
          if st'.written > zip64BytesThr && !st.largeFile then
            (.err .other, { st' with closed := true })
          else (.ok k, st')
        else (.panic, { st with sink := t' })     -- `&buf[0..count]`
      | (.err e, t') => (.err e, { st with sink := t' })
      | (.panic, t') => (.panic, { st with sink := t' })

/-- The caller writes a sequence of buffers with `write_all`. -/
def writeAllSeq {ω} (w : Wr ω) : ω → List Bytes → Out Unit × ω
  | t, [] => (.ok (), t)
  | t, c :: cs =>
    match writeAll w t c with
    | (.ok (), t') => writeAllSeq w t' cs
    | r => r

end ZipVerif.Model.Layers
