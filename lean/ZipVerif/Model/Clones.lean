import ZipVerif.Basic.Bytes
import ZipVerif.Basic.Out
/-
C20 — system model of cloned archive handles (src/read.rs:36-71, 186-206, 578-631; src/types.rs:277-306).

What is modelled
* The immutable part shared by every clone (`Arc<Shared>`): the archive bytes (every clone's reader is a
  clone of the same `Cursor<Vec<u8>>`, so all readers see the same bytes) and per entry the fields the
  operations below look at (`header_start`, `compressed_size`, name, size, crc, whether the method is
  `Stored`, whether the method has a decoder).  The *decoded* content of a non-stored entry is given
  data (`Entry.content`): this model is about independence of handles, not about inflating.
* The only shared mutable state: one `data_start` cell per entry (`AtomicU64`, relaxed load/store).
* Per handle: its own reader position, its open `ZipFile` (if any), the remaining script, the
  observations made so far, and a program counter for the one API call that is not atomic (`by_index*`).

Atomic-step granularity (this is what `Props/C20.lean` quantifies over)
* `by_index(i)` / `by_index_raw(i)` = three atomic steps
    1. [lookup entry; seek own reader to `header_start`; read the local header; compute `data_start`]
       — touches only handle-local state and immutable data; fails here (no store) on a bad index, bad
       signature, short header or `u64` overflow;
    2. [`data.data_start.store(v)`]  — a load-free store into cell `i`, nothing else;
    3. [seek own reader to `v`; build the `Take`/`ZipFile`, or fail with `unsupported` (decoder lookup in
       `make_crypto_reader`, which runs AFTER the store)] — handle-local again.
* `ZipFile::data_start()` = one atomic step, a single load of cell `i`.
* `read`, metadata accessors, dropping the file, `len()` = one atomic step each: they touch nothing that
  another handle can write (own reader, own `ZipFile`, immutable `Shared`).
A schedule is a list of handle ids; each occurrence runs the next atomic step of that handle.  Every
access to a cell is a single-location atomic load or store, so any execution of the real program is an
interleaving of such steps *per location* (coherence); memory-model subtleties beyond per-location
coherence (there is no cross-location reasoning to do: handle-local data is not shared and `Shared` is
immutable after `Arc::new`) and real OS scheduling are outside the model.

Encrypted entries and passwords
* `by_index_decrypt(i, pw)` / `by_name(name)` / `by_name_decrypt(name, pw)` are the same three atomic steps:
  a name is resolved through the immutable `names_map` (last duplicate wins; an absent name and an
  out-of-range index both end in `FileNotFound` before anything is touched); an encrypted entry opened
  WITHOUT a password is refused (`PASSWORD_REQUIRED`) before `find_content`, i.e. without seek or store;
  a password given for a plain entry is discarded.
* What `make_crypto_reader` answers for an encrypted entry and a password — key derivation, the AES
  verifier / ZipCrypto check byte, and what the decrypting + decoding pipeline then delivers — is the
  PARAMETER `Arch.unlock : entry index → password → Unlock` (C15 / C16 are about what it computes).  The
  point of this model: it is a function of the immutable archive, the entry and the password ALONE; no
  handle-shared state enters.  A crate that lets one handle's successful validation influence another
  handle's (a shared key cache) is not an instance of this model and disagrees with it on a two-handle
  script (right password on one clone, wrong password on the other).
* A read that reaches the end of a decoded entry whose CRC-32 (or authentication code) does not match
  fails: `OpenFile.eofErr` (given data for plain entries: `Entry.eofErr`; part of `Unlock.opens` for
  encrypted ones).  The harness's read call loops until `n` bytes or end of file, so the error replaces the
  bytes of the call that hits the end; it is sticky.

Hypothesis on the reader type (explicit in `Props/C20.lean`): each handle owns its reader position
(`Handle.pos`); i.e. `R::clone` yields a reader with its OWN cursor over the same bytes (`Cursor<Vec<u8>>`,
`Cursor<Arc<[u8]>>`, a re-opened `File`).  `ZipArchive<&File>` / `try_clone`d files share the OS offset and
are NOT instances (see `SharedPos` in the Props file for the counterexample in the model's terms).

Scope: checksum failures in the MIDDLE of a stream (decoder errors) are not modelled (archives are well-formed apart
from the explicitly modelled header failures and end-of-entry check failures); the reader is `Cursor`-like (seeking never fails except on
`u64` overflow).  For a decoded non-stored entry the decoder's `BufReader` slurps the whole `Take` on the
first read — the resulting reader position is unobservable (every later `open` re-seeks absolutely) and is
modelled as "end of the compressed stream".
-/

namespace ZipVerif.Model.Clones
open ZipVerif

/-- Immutable per-entry data (`ZipFileData` fields used here + the decoded content as given data). -/
structure Entry where
  name : Bytes
  headerStart : UInt64
  compSize : UInt64
  size : UInt64
  crc : UInt32
  /-- `compression_method == Stored`: reads go straight to the handle's reader. -/
  stored : Bool
  /-- the method has a decoder; otherwise `by_index` fails with `unsupported` after the store. -/
  decodable : Bool
  /-- decoded content (used for non-stored entries; for stored entries the archive bytes are read). -/
  content : Bytes
  /-- general-purpose bit 0 (`ZipFileData.encrypted`). -/
  encrypted : Bool := false
  /-- plain entry, decoding open: the read that reaches the end of the entry fails with this kind
  (`Crc32Reader`: "Invalid checksum" = `Other`) instead of returning; `none` = the CRC-32 matches. -/
  eofErr : Option IoKind := none
  deriving DecidableEq

/-- What opening an ENCRYPTED entry with a password yields (`make_crypto_reader` and the pipeline behind it). -/
inductive Unlock
  /-- `Ok(Err(InvalidPassword))`: AES verification value / ZipCrypto check byte mismatch. -/
  | wrong
  /-- `Err(e)`, e.g. an AES entry shorter than salt + verifier + authentication code. -/
  | fails (e : ZErr)
  /-- validation passed: reads deliver `content`, then end of file or `eofErr` (CRC-32 / HMAC mismatch —
  e.g. a wrong ZipCrypto password that passes the 1-byte check). -/
  | opens (content : Bytes) (eofErr : Option IoKind)
  deriving DecidableEq

structure Arch where
  bytes : Bytes
  entries : List Entry
  /-- Parameter: outcome of validation + decryption + decoding as a function of (entry index, password)
  only.  Never consulted for plain entries. -/
  unlock : Nat → Bytes → Unlock := fun _ _ => .wrong

/-- How an entry is opened. -/
inductive Mode
  | raw                 -- `by_index_raw`
  | noPw                -- `by_index` / `by_name`
  | pw (p : Bytes)      -- `by_index_decrypt` / `by_name_decrypt`
  deriving DecidableEq

/-- `names_map.get(name)`: the LAST entry with that name; an absent name is mapped to the first
out-of-range index (both paths are `ok_or(FileNotFound)` before anything else happens). -/
def nameIndexAux (name : Bytes) : List Entry → Nat → Option Nat → Option Nat
  | [], _, acc => acc
  | e :: es, k, acc => nameIndexAux name es (k + 1) (if e.name = name then some k else acc)

def Arch.nameIndex (A : Arch) (name : Bytes) : Nat :=
  match nameIndexAux name A.entries 0 none with
  | some i => i
  | none => A.entries.length

/-- Result of the local-header part of `find_content` (everything before the store). -/
inductive HdrRes
  | ok (dataStart : UInt64)
  | err (e : ZErr)
  | panic
  deriving DecidableEq

def lfhSig : UInt32 := 0x04034b50

/-- `find_content` up to (excluding) `data.data_start.store(..)`: a function of the immutable bytes and
`header_start` only. -/
def findContent (bytes : Bytes) (hs : UInt64) : HdrRes :=
  match rd32 (bytes.drop hs.toNat) with
  | none => .err (.io .unexpectedEof)
  | some (sig, _) =>
    if sig ≠ lfhSig then .err .invalidArchive
    -- `seek(SeekFrom::Current(22))` on a `Cursor` is a checked add of the position
    else if 2 ^ 64 ≤ hs.toNat + 26 then .err (.io .invalidInput)
    else
      match rd16 (bytes.drop (hs.toNat + 26)) with
      | none => .err (.io .unexpectedEof)
      | some (nl, r) =>
        match rd16 r with
        | none => .err (.io .unexpectedEof)
        | some (el, _) =>
          -- `header_start + 30 + name_len + extra_len`, checked `u64` additions
          if hs.toNat + 30 + nl.toNat + el.toNat < 2 ^ 64
          then .ok (UInt64.ofNat (hs.toNat + 30 + nl.toNat + el.toNat))
          else .panic

/-- The value every successful `open i` stores into cell `i` (`none`: opening fails before the store,
or there is no such entry). Depends only on the immutable archive and the index. -/
def Arch.f (A : Arch) (i : Nat) : Option UInt64 :=
  match A.entries[i]? with
  | none => none
  | some e =>
    match findContent A.bytes e.headerStart with
    | .ok v => some v
    | _ => none

/-- `(None, true)` in `by_index_with_optional_password`: no password given, entry encrypted. -/
def needsPw (m : Mode) (e : Entry) : Bool :=
  match m with
  | .noPw => e.encrypted
  | _ => false

/-- Does an open of entry `i` in mode `m` reach the store, and with which value: `by_index`/`by_name` on an
encrypted entry is refused before `find_content`. -/
def Arch.g (A : Arch) (i : Nat) (m : Mode) : Option UInt64 :=
  match A.entries[i]? with
  | none => none
  | some e => if needsPw m e then none else A.f i

/-- API calls of one handle. -/
inductive Op
  | openIdx (i : Nat)     -- `archive.by_index(i)` (drops the previously open file first)
  | openRaw (i : Nat)     -- `archive.by_index_raw(i)`
  | openDec (i : Nat) (p : Bytes)          -- `archive.by_index_decrypt(i, p)`
  | openName (name : Bytes)                -- `archive.by_name(name)`
  | openNameDec (name : Bytes) (p : Bytes) -- `archive.by_name_decrypt(name, p)`
  | read (n : Nat)        -- read up to `n` bytes of the open file (loops until `n` or EOF)
  | dataStart             -- `file.data_start()`
  | info                  -- `file.name_raw()`, `size()`, `crc32()`, `header_start()`
  | close                 -- drop the open file
  | len                   -- `archive.len()` (only expressible while no file borrows the archive)
  deriving DecidableEq

/-- What a call returns to its caller. -/
inductive Obs
  | opened
  | openErr (e : ZErr)
  | openPanic
  | invalidPassword       -- `Ok(Err(InvalidPassword))`
  | bytes (b : Bytes)
  | readErr (k : IoKind)  -- the read call failed (end-of-entry check)
  | dataStart (v : UInt64)
  | info (name : Bytes) (size : UInt64) (crc : UInt32) (headerStart : UInt64)
  | closed
  | len (n : Nat)
  | noFile          -- the call needs an open file and the handle has none
  | busy            -- `len` while a file borrows the archive (rejected by the borrow checker)
  | noCell          -- unreachable: load of a cell that does not exist
  deriving DecidableEq

/-- Program counter inside `by_index*` (between its atomic steps). -/
inductive Pc
  | idle
  | storing (i : Nat) (m : Mode) (v : UInt64)
  | seeking (i : Nat) (m : Mode) (v : UInt64)
  deriving DecidableEq

/-- An open `ZipFile`. `direct`: reads go straight to the reader (`Raw` or `Stored`); `remaining` is the
`Take` limit left; `consumed` counts decoded bytes handed out; `content` is what a decoding (non-direct)
file delivers; `eofErr` the failure of the read that reaches the end. -/
structure OpenFile where
  idx : Nat
  direct : Bool
  remaining : Nat
  consumed : Nat
  content : Bytes := []
  eofErr : Option IoKind := none
  deriving DecidableEq

structure Handle where
  script : List Op
  pc : Pc
  pos : Nat
  file : Option OpenFile
  obs : List Obs
  deriving DecidableEq

def Handle.init (script : List Op) : Handle := ⟨script, .idle, 0, none, []⟩

def Handle.emit (h : Handle) (o : Obs) : Handle := { h with obs := h.obs ++ [o] }

/-- First atomic step of `by_index*`: everything before the store. -/
def beginOpen (A : Arch) (h : Handle) (i : Nat) (m : Mode) : Handle :=
  -- the previous `ZipFile` had to be dropped before the archive can be borrowed again
  let h := { h with file := none }
  match A.entries[i]? with
  | none => h.emit (.openErr .fileNotFound)
  | some e =>
    -- `(None, true) => return Err(UnsupportedArchive(PASSWORD_REQUIRED))`: before any seek or store
    if needsPw m e then h.emit (.openErr .passwordRequired) else
    match findContent A.bytes e.headerStart with
    | .ok v => { h with pc := .storing i m v, pos := e.headerStart.toNat + 30 }
    | .err er => { h with pos := e.headerStart.toNat }.emit (.openErr er)
    | .panic => { h with pos := e.headerStart.toNat + 30 }.emit .openPanic

/-- Last atomic step of `by_index*`: seek to the stored value, build the `ZipFile`. -/
def finishOpen (A : Arch) (h : Handle) (i : Nat) (m : Mode) (v : UInt64) : Handle :=
  let h := { h with pc := .idle, pos := v.toNat, file := none }
  match A.entries[i]? with
  | none => h.emit (.openErr .fileNotFound)       -- unreachable (the entry existed in step 1)
  | some e =>
    match m with
    | .raw => { h with file := some ⟨i, true, e.compSize.toNat, 0, [], none⟩ }.emit .opened
    | .noPw =>
      -- (an encrypted entry never gets here: refused in step 1)
      if e.decodable then
        { h with file := some ⟨i, e.stored, e.compSize.toNat, 0, e.content, e.eofErr⟩ }.emit .opened
      else h.emit (.openErr .unsupportedArchive)
    | .pw p =>
      -- the method check of `make_crypto_reader` comes before any validation
      if !e.decodable then h.emit (.openErr .unsupportedArchive)
      else if !e.encrypted then
        -- "Password supplied, but none needed! Discard."
        { h with file := some ⟨i, e.stored, e.compSize.toNat, 0, e.content, e.eofErr⟩ }.emit .opened
      else
        -- the ONLY place a password is looked at: a function of (entry, password)
        match A.unlock i p with
        | .wrong => h.emit .invalidPassword
        | .fails er => h.emit (.openErr er)
        | .opens c ee => { h with file := some ⟨i, false, e.compSize.toNat, 0, c, ee⟩ }.emit .opened

/-- What the read call returns: the bytes, unless the call reached the end of the entry (it got fewer
than the `n` it loops for) and the end-of-entry check fails. -/
def readObs (fl : OpenFile) (got : Bytes) (n : Nat) : Obs :=
  match fl.eofErr with
  | some k => if got.length < n then .readErr k else .bytes got
  | none => .bytes got

def doRead (A : Arch) (h : Handle) (n : Nat) : Handle :=
  match h.file with
  | none => h.emit .noFile
  | some fl =>
    if fl.direct then
      let got := (A.bytes.drop h.pos).take (min n fl.remaining)
      { h with pos := h.pos + got.length,
               file := some { fl with remaining := fl.remaining - got.length,
                                      consumed := fl.consumed + got.length } }.emit (readObs fl got n)
    else
      let got := (fl.content.drop fl.consumed).take n
      { h with pos := h.pos + fl.remaining,
               file := some { fl with remaining := 0, consumed := fl.consumed + got.length } }.emit (readObs fl got n)

/-- A call that starts while the handle is idle: its first (for everything but `by_index*`: its only)
atomic step. Reads the cells only for `dataStart` (one load), never writes them. -/
def doOp (A : Arch) (cells : List UInt64) (h : Handle) : Op → Handle
  | .openIdx i => beginOpen A h i .noPw
  | .openRaw i => beginOpen A h i .raw
  | .openDec i p => beginOpen A h i (.pw p)
  | .openName nm => beginOpen A h (A.nameIndex nm) .noPw
  | .openNameDec nm p => beginOpen A h (A.nameIndex nm) (.pw p)
  | .read n => doRead A h n
  | .dataStart =>
    match h.file with
    | none => h.emit .noFile
    | some fl =>
      match cells[fl.idx]? with
      | some v => h.emit (.dataStart v)
      | none => h.emit .noCell
  | .info =>
    match h.file with
    | none => h.emit .noFile
    | some fl =>
      match A.entries[fl.idx]? with
      | some e => h.emit (.info e.name e.size e.crc e.headerStart)
      | none => h.emit .noFile                    -- unreachable
  | .close =>
    match h.file with
    | none => h.emit .noFile
    | some _ => { h with file := none }.emit .closed
  | .len =>
    match h.file with
    | none => h.emit (.len A.entries.length)
    | some _ => h.emit .busy

/-- One atomic step of a handle against the shared cells. Only the `storing` step writes the cells,
only `dataStart` reads them. -/
def stepH (A : Arch) (cells : List UInt64) (h : Handle) : List UInt64 × Handle :=
  match h.pc with
  | .storing i m v => (cells.set i v, { h with pc := .seeking i m v })
  | .seeking i m v => (cells, finishOpen A h i m v)
  | .idle =>
    match h.script with
    | [] => (cells, h)
    | op :: rest => (cells, doOp A cells { h with script := rest } op)

/-- The opening calls: which entry (names resolved through the immutable name map) and in which mode. -/
def Op.target (A : Arch) : Op → Option (Nat × Mode)
  | .openIdx i => some (i, .noPw)
  | .openRaw i => some (i, .raw)
  | .openDec i p => some (i, .pw p)
  | .openName nm => some (A.nameIndex nm, .noPw)
  | .openNameDec nm p => some (A.nameIndex nm, .pw p)
  | _ => none

/-- Cells right after `ZipArchive::new`: every `data_start` is 0. -/
def initCells (A : Arch) : List UInt64 := A.entries.map (fun _ => 0)

/-! ### A handle used alone -/

/-- `n` atomic steps of a single handle. -/
def soloRun (A : Arch) (cells : List UInt64) (h : Handle) : Nat → List UInt64 × Handle
  | 0 => (cells, h)
  | n + 1 => let r := soloRun A cells h n; stepH A r.1 r.2

/-- Number of atomic steps of one call (static: depends on the immutable archive only). -/
def opSteps (A : Arch) : Op → Nat
  | .openIdx i => if (A.g i .noPw).isSome then 3 else 1
  | .openRaw i => if (A.g i .raw).isSome then 3 else 1
  | .openDec i p => if (A.g i (.pw p)).isSome then 3 else 1
  | .openName nm => if (A.g (A.nameIndex nm) .noPw).isSome then 3 else 1
  | .openNameDec nm p => if (A.g (A.nameIndex nm) (.pw p)).isSome then 3 else 1
  | _ => 1

def atomicSteps (A : Arch) (script : List Op) : Nat := (script.map (opSteps A)).sum

/-- State of a handle that ran its whole script alone on a fresh archive. -/
def soloFinal (A : Arch) (script : List Op) : Handle :=
  (soloRun A (initCells A) (Handle.init script) (atomicSteps A script)).2

/-- Observations of a handle that runs its script alone. -/
def runAlone (A : Arch) (script : List Op) : List Obs := (soloFinal A script).obs

/-! ### Several handles -/

structure Sys where
  cells : List UInt64
  hs : List Handle

def Sys.init (A : Arch) (scripts : List (List Op)) : Sys := ⟨initCells A, scripts.map Handle.init⟩

/-- Handle `h` performs its next atomic step (ids outside the system do nothing). -/
def Sys.step (A : Arch) (s : Sys) (h : Nat) : Sys :=
  match s.hs[h]? with
  | none => s
  | some H => let r := stepH A s.cells H; ⟨r.1, s.hs.set h r.2⟩

def run (A : Arch) (s : Sys) (sched : List Nat) : Sys := sched.foldl (Sys.step A) s

/-- Per-handle observation lists after the schedule `sched` (a merge order of atomic steps). -/
def runInterleaved (A : Arch) (scripts : List (List Op)) (sched : List Nat) : List (List Obs) :=
  (run A (Sys.init A scripts) sched).hs.map (·.obs)

/-- `sched` is an interleaving of the handles' atomic-step sequences: it names existing handles only and
gives each handle exactly the atomic steps of its script. -/
def IsInterleaving (A : Arch) (scripts : List (List Op)) (sched : List Nat) : Prop :=
  (∀ h ∈ sched, h < scripts.length) ∧
  ∀ h (hh : h < scripts.length), sched.count h = atomicSteps A scripts[h]

instance (A : Arch) (scripts : List (List Op)) (sched : List Nat) :
    Decidable (IsInterleaving A scripts sched) := by
  unfold IsInterleaving; exact inferInstance

/-! ### API-call granularity (what the harness can schedule on one thread) -/

/-- Handle `h` performs one whole API call (its atomic steps back to back). -/
def Sys.call (A : Arch) (s : Sys) (h : Nat) : Sys :=
  let s1 := Sys.step A s h
  match s1.hs[h]? with
  | none => s1
  | some H =>
    match H.pc with
    | .idle => s1
    | _ => Sys.step A (Sys.step A s1 h) h

/-- Per-handle observation lists after a call-level schedule (each item = one whole API call). -/
def runCalls (A : Arch) (scripts : List (List Op)) (calls : List Nat) : List (List Obs) :=
  (calls.foldl (Sys.call A) (Sys.init A scripts)).hs.map (·.obs)

/-- `calls` is an interleaving of the handles' call sequences. -/
def IsCallInterleaving (scripts : List (List Op)) (calls : List Nat) : Prop :=
  (∀ h ∈ calls, h < scripts.length) ∧
  ∀ h (hh : h < scripts.length), calls.count h = scripts[h].length

instance (scripts : List (List Op)) (calls : List Nat) : Decidable (IsCallInterleaving scripts calls) := by
  unfold IsCallInterleaving; exact inferInstance

end ZipVerif.Model.Clones
