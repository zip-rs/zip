import ZipVerif.Model.Interrupted
import ZipVerif.Model.ShortWrite
/-
The WRITER under `ErrorKind::Interrupted` (C11) - a third instance of the generic writer `GW` (`Model/ShortWrite.lean`:
the writer written once generically over its I/O vocabulary `WriterIO`, proved EQUAL to the writer model
at `M`: `GW.step_M`).

At `MI` (`Model/Interrupted.lean`: the fault monad with std's convention):

* `wWriteAll` - `Write::write_all` on the sink (every header, the central directory, the end records, the buffered
  ZipCrypto stream) - is std's retry loop: a sink call inside it that fails with `Interrupted` is issued again
  (`M.retried`);
* `wSeek`, `wFlush` are BARE calls: nothing retries them, their `Interrupted` failure is the call's error;
* `wWrite` is the ONE sink `write` that `impl Write for ZipWriter :: write` issues for a stored, unencrypted entry
  (`GW.write`; it is used nowhere else).  That function is itself only ever called from a retry loop: by the crate
  (`add_symlink` and the alignment padding: `self.write_all`; raw copies: `io::copy`, whose writes are `write_all`) and by
  the callers of the fault harness (`w.write_all`).  When its sink call fails, `ZipWriter::write` returns the error
  having changed NOTHING (`Props/C11.zipwriter_write_fault_leaves_state`; `write.rs`: `stats.update` only under
  `if let Ok(count)`), the loop sees `Interrupted` and calls it again:
  the retry of the function is the retry of its one sink call, so at `MI` `wWrite` is retried too.  (A caller
  that calls `ZipWriter::write` bare would see `Err(Interrupted)`; no such caller is modelled.)

`new_append` reads the old central directory with `read_exact`s (retried) between bare `seek`s: `newAppendI`.
Core Lean only.
-/

namespace ZipVerif.Model
open ZipVerif

instance : WriterIO MI where
  wWrite := fun bs => M.retried (M.write bs)
  wWriteAll := MI.writeAll
  wFlush := M.flush
  wSeek := M.seek
  wPanic := M.panic
  wAttempt := M.attempt

/-- `ZipWriter::new_append` with std's `Interrupted` convention: the parsers of the seekable reader at `MI`, the three
`seek`s of its own bare. -/
def newAppendI : M WState := do
  let (footer, cdeStart) ← (G.findAndParseEocd : MI _)
  if footer.diskNumber != footer.diskWithCd then M.throw .unsupportedArchive else do
    let (archiveOffset, directoryStart, numberOfFiles) ← (G.getDirectoryCounts footer cdeStart : MI _)
    if directoryStart > cdeStart then M.throw .invalidArchive else
    let r ← M.attempt (M.seek (.start directoryStart))
    match r with
    | .error _ => M.throw .invalidArchive
    | .ok _ =>
      let rec loop : Nat → M (List FileData)
        | 0 => pure []
        | n + 1 => do
          let f ← (G.centralHeader archiveOffset : MI _)
          if f.fileName.length > 65535 then M.throw .unsupportedArchive else
          let rest ← loop n
          pure (appendRecord f :: rest)
      let files ← loop numberOfFiles
      let _ ← M.seek (.start directoryStart)
      pure { WState.init with files, comment := footer.comment, writingRaw := true }

end ZipVerif.Model
