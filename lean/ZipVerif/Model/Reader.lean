import ZipVerif.Model.Records
import ZipVerif.Spec.Crc32
/-
Model of the seekable reader (`ZipArchive::new`, `by_index*`, `by_name*`, `by_index_raw`,
`find_content`, entry reading) and of the streaming reader (`read_zipfile_from_stream`,
`ZipStreamReader::visit`) — src/read.rs, src/read/stream.rs.

External code enters through `Ext`: decoders (flate2 / bzip2 / zstd) and the two decryption layers
(modelled separately; see Model/ZipCrypto.lean and Model/Aes.lean).
-/

namespace ZipVerif.Model
open ZipVerif

structure Archive where
  files : List FileData
  offset : Nat
  comment : Bytes
  deriving Repr

/-- `InvalidPassword` is its own value in the API (`ZipResult<Result<_, InvalidPassword>>`). -/
inductive PwResult (α : Type)
  | ok (a : α)
  | invalidPassword
  deriving Repr

/-- External code as parameters. -/
structure Ext where
  /-- decoder for a supported method applied to the whole (already decrypted) compressed stream:
  `ok` = bytes produced before a clean EOF, `err` = the decoder's I/O error (bytes produced before it
  are not observable through `read_to_end`; a consumer that reads less than everything does see them:
  `decodeBefore`). -/
  decode : Method → Bytes → Out Bytes
  /-- the bytes a decoder hands out BEFORE it reports the error `decode` summarises, to a consumer that asks
  for `k` bytes in total (buffers of `min (k − got) 65536`, asking again until it has them, end-of-file or
  an error) and then stops.  Only read when `decode` is an error (a damaged stream), and only by the
  partial-consumption model `consumeK`: flate2 / bzip2 / zstd deliver what precedes the damage and notice
  the damage at a point that depends on their buffering, hence on the schedule — which is why `k` is an
  argument (Model/Layers.lean, "Codec hypotheses that real decoders can meet").  Default: nothing comes out
  before the error (true of a decoder that fails on its first call). -/
  decodeBefore : Method → Bytes → (k : Nat) → Bytes := fun _ _ _ => []
  /-- ZipCrypto: `none` = wrong password (check byte mismatch); `some pt` = decrypted stream after the
  12-byte header; `err` = the entry is shorter than its header. -/
  zipCrypto : (pw : Bytes) → (check : UInt8) → (raw : Bytes) → Out (Option Bytes)
  /-- AES: result of `AesReader::new(..).validate(pw)` followed by reading everything. -/
  aes : (pw : Bytes) → AesMode → (csize : UInt64) → (raw : Bytes) → Out (Option (Out Bytes))

open M in
/-- the central-directory loop of `ZipArchive::new` -/
def readCentralLoop (archiveOffset : Nat) : (n : Nat) → M (List FileData)
  | 0 => pure []
  | n + 1 => do
    let f ← centralHeader archiveOffset
    let rest ← readCentralLoop archiveOffset n
    pure (f :: rest)

open M in
/-- `ZipArchive::new` -/
def openArchive : M Archive := do
  let (footer, cdeStart) ← findAndParseEocd
  if !footer.recordTooSmall && footer.diskNumber != footer.diskWithCd then
    throw .unsupportedArchive
  else do
    let (archiveOffset, directoryStart, numberOfFiles) ← getDirectoryCounts footer cdeStart
    let r ← attempt (seek (.start directoryStart))
    match r with
    | .error _ => throw .invalidArchive
    | .ok _ =>
      let files ← readCentralLoop archiveOffset numberOfFiles
      pure { files, offset := archiveOffset, comment := footer.comment }

/-- read.rs `ZipArchive::new`: the capacity handed to `Vec::with_capacity` / `HashMap::with_capacity` BEFORE any
central header has been read.  A central header occupies at least 46 bytes, so at most
`(cde_start_pos - directory_start) / 46` of them fit between the start of the directory and the end record
(`saturating_sub`: a directory declared to start behind the end record has room for none); a declared count above
that is not trusted.  (Before the repair of the F1 finding the count was compared with `cde_start_pos` itself: one
reserved slot - about 250 bytes of heap - per input BYTE.) -/
def fileCapacity (numberOfFiles cdeStartPos directoryStart : Nat) : Nat :=
  if numberOfFiles > (cdeStartPos - directoryStart) / 46 then 0 else numberOfFiles

open M in
/-- `ZipArchive::new` together with the pre-allocation it requests (`openArchive` is its first component:
`openArchive_eq_alloc` in `Tie/ReaderGlue.lean`).  This is the function the translated `ZipArchive::new` is tied to. -/
def openArchiveAlloc : M (Archive × Nat) := do
  let (footer, cdeStart) ← findAndParseEocd
  if !footer.recordTooSmall && footer.diskNumber != footer.diskWithCd then
    throw .unsupportedArchive
  else do
    let (archiveOffset, directoryStart, numberOfFiles) ← getDirectoryCounts footer cdeStart
    let cap := fileCapacity numberOfFiles cdeStart directoryStart
    let r ← attempt (seek (.start directoryStart))
    match r with
    | .error _ => throw .invalidArchive
    | .ok _ =>
      let files ← readCentralLoop archiveOffset numberOfFiles
      pure ({ files, offset := archiveOffset, comment := footer.comment }, cap)

/-- `names_map.get(name)`: the map is filled in order, so a duplicate name maps to its last index. -/
def Archive.indexOfName (a : Archive) (name : Bytes) : Option Nat :=
  let idxs := (List.range a.files.length).filter fun i =>
    match a.files[i]? with
    | some f => f.fileName == name
    | none => false
  idxs.getLast?

open M in
/-- `find_content`: returns `data_start`, leaving the device positioned there. -/
def findContent (f : FileData) : M Nat := do
  let _ ← seek (.start f.headerStart.toNat)
  let sig ← readU32
  if sig != LOCAL_SIG then throw .invalidArchive else do
    let _ ← seek (.current 22)
    let nameLen ← readU16
    let extraLen ← readU16
    let ds := f.headerStart.toNat + 30 + nameLen.toNat + extraLen.toNat
    -- read.rs:229 `data.header_start + magic_and_header + file_name_length + extra_field_length` (checked `u64`
    -- additions; the panic site carries the translator's name for an overflowing checked operation, so that
    -- `Tie/ReaderGlue.tie_find_content` is an equation also on this path)
    if ds ≥ 18446744073709551616 then M.panic "rs2lean: checked operation" else do
      let _ ← seek (.start ds)
      pure ds

open M in
/-- Everything a `Take(limit)` over the device delivers to a consumer that reads with one buffer at
least as large as `limit` until EOF: one read, and a second one (returning 0) if the first was short. -/
def takeAll (limit : Nat) : M Bytes :=
  if limit = 0 then pure [] else do
    let r ← read limit
    if r.length = limit then pure r
    else if r.length = 0 then pure r
    else do
      let _ ← read (limit - r.length)
      pure r

/-- The CRC layer at end of stream (`Crc32Reader`): error iff not AE-2 and the checksum differs. -/
def crcCheck (ae2 : Bool) (declared : UInt32) (content : Bytes) : Out Bytes :=
  if !ae2 && Spec.Crc32.crc32 content != declared then .err (.io .other) else .ok content

/-- Is the method one `make_reader` has a decoder for (default features)? -/
def Method.decodable : Method → Bool
  | .stored | .deflated | .bzip2 | .zstd => true
  | _ => false

/-! ### The open-time decisions of `make_crypto_reader` / `make_reader` as functions

`byIndexRead` below inlines them; `Tie/ReaderGlue.lean` proves `byIndexRead = byIndexReadC` (the same function written
through `cryptoChoice`) and ties the TRANSLATED `make_crypto_reader` / `make_reader` to `cryptoChoice` /
`decoderChoice`. -/

/-- `ZipCryptoValidator`: which byte of the decrypted 12-byte header is compared. -/
inductive Validator
  | pkzipCrc32 (crc : UInt32)
  | infoZipMsdosTime (t : UInt16)
  deriving DecidableEq, Repr

/-- the check byte: high byte of the CRC, or of the DOS time for entries written with a data descriptor -/
def Validator.checkByte : Validator → UInt8
  | .pkzipCrc32 c => (c >>> 24).toUInt8
  | .infoZipMsdosTime t => (t >>> 8).toUInt8

/-- What `make_crypto_reader` decides before it touches the device. -/
inductive CryptoChoice
  /-- `Err(UnsupportedArchive)`: a method without a decoder, or the AES pseudo-method 99 left in place -/
  | unsupported
  /-- `Ok(Err(InvalidPassword))` at once: an AES entry opened without a password -/
  | invalidPassword
  | plaintext
  | zipCrypto (pw : Bytes) (v : Validator)
  | aes (pw : Bytes) (mode : AesMode) (vv : AesVendorVersion)
  deriving DecidableEq, Repr

/-- `make_crypto_reader`, the decision. -/
def cryptoChoice (method : Method) (crc32 : UInt32) (time : DateTime) (usingDataDescriptor : Bool)
    (password : Option Bytes) (aesInfo : Option (AesMode × AesVendorVersion)) : CryptoChoice :=
  match method with
  | .unsupported _ => .unsupported
  | .aes => .unsupported
  | _ =>
    match password, aesInfo with
    | some pw, some (mode, vv) => .aes pw mode vv
    | some pw, none =>
      .zipCrypto pw (if usingDataDescriptor then .infoZipMsdosTime time.timepart else .pkzipCrc32 crc32)
    | none, some _ => .invalidPassword
    | none, none => .plaintext

/-- The decoder `make_reader` puts under the CRC layer. -/
inductive Decoder
  | stored | deflate | bzip2 | zstd
  deriving DecidableEq, Repr

/-- `make_reader`, the decision: `none` = `panic!("Compression method not supported")`. -/
def decoderChoice : Method → Option Decoder
  | .stored => some .stored
  | .deflated => some .deflate
  | .bzip2 => some .bzip2
  | .zstd => some .zstd
  | _ => none

open M in
/-- `byIndexRead` written through `cryptoChoice` (equal to it: `Tie/ReaderGlue.byIndexRead_eq_choice`). -/
def byIndexReadC (ext : Ext) (a : Archive) (i : Nat) (password : Option Bytes) :
    M (PwResult (Nat × Out Bytes)) :=
  match a.files[i]? with
  | none => throw .fileNotFound
  | some data =>
    if password.isNone && data.encrypted then throw .passwordRequired else do
    let password := if data.encrypted then password else none
    let ds ← findContent data
    match cryptoChoice data.method data.crc32 data.time data.usingDataDescriptor password data.aesMode with
    | .unsupported => throw .unsupportedArchive
    | .invalidPassword => pure .invalidPassword
    | .aes pw mode vv => do
      let raw ← takeAll data.compressedSize.toNat
      match ext.aes pw mode data.compressedSize raw with
      | .err e => throw e
      | .panic s => M.panic s
      | .ok none => pure .invalidPassword
      | .ok (some stream) =>
        let res : Out Bytes := do
          let pt ← stream
          let dec ← ext.decode data.method pt
          crcCheck (vv == .ae2) data.crc32 dec
        pure (.ok (ds, res))
    | .zipCrypto pw v => do
      let raw ← takeAll data.compressedSize.toNat
      match ext.zipCrypto pw v.checkByte raw with
      | .err e => throw e
      | .panic s => M.panic s
      | .ok none => pure .invalidPassword
      | .ok (some pt) =>
        let res : Out Bytes := do
          let dec ← ext.decode data.method pt
          crcCheck false data.crc32 dec
        pure (.ok (ds, res))
    | .plaintext => do
      let raw ← takeAll data.compressedSize.toNat
      let res : Out Bytes := do
        let dec ← ext.decode data.method raw
        crcCheck false data.crc32 dec
      pure (.ok (ds, res))

open M in
/-- `by_index_with_optional_password` followed by reading the entry to the end.
Outer `M`/`Out`: the `ZipResult`; `PwResult`: the inner `Result<_, InvalidPassword>`; innermost `Out`:
the outcome of `read_to_end` on the returned `ZipFile`. -/
def byIndexRead (ext : Ext) (a : Archive) (i : Nat) (password : Option Bytes) :
    M (PwResult (Nat × Out Bytes)) :=
  match a.files[i]? with
  | none => throw .fileNotFound
  | some data =>
    if password.isNone && data.encrypted then throw .passwordRequired else do
    let password := if data.encrypted then password else none
    let ds ← findContent data
    -- make_crypto_reader
    match data.method with
    | .unsupported _ => throw .unsupportedArchive
    | .aes => throw .unsupportedArchive
    | m =>
      match password, data.aesMode with
      | some pw, some (mode, vv) => do
        let raw ← takeAll data.compressedSize.toNat
        match ext.aes pw mode data.compressedSize raw with
        | .err e => throw e
        | .panic s => M.panic s
        | .ok none => pure .invalidPassword
        | .ok (some stream) =>
          let res : Out Bytes := do
            let pt ← stream
            let dec ← ext.decode m pt
            crcCheck (vv == .ae2) data.crc32 dec
          pure (.ok (ds, res))
      | some pw, none => do
        let check : UInt8 := if data.usingDataDescriptor then (data.time.timepart >>> 8).toUInt8
                             else (data.crc32 >>> 24).toUInt8
        let raw ← takeAll data.compressedSize.toNat
        match ext.zipCrypto pw check raw with
        | .err e => throw e
        | .panic s => M.panic s
        | .ok none => pure .invalidPassword
        | .ok (some pt) =>
          let res : Out Bytes := do
            let dec ← ext.decode m pt
            crcCheck false data.crc32 dec
          pure (.ok (ds, res))
      | none, some _ => pure .invalidPassword
      | none, none => do
        let raw ← takeAll data.compressedSize.toNat
        let res : Out Bytes := do
          let dec ← ext.decode m raw
          crcCheck false data.crc32 dec
        pure (.ok (ds, res))

open M in
/-- `by_name_with_optional_password` followed by reading the entry to the end: look the name up in
`names_map`, `FileNotFound` when absent, else `by_index_with_optional_password`. -/
def byNameRead (ext : Ext) (a : Archive) (name : Bytes) (password : Option Bytes) :
    M (PwResult (Nat × Out Bytes)) :=
  match a.indexOfName name with
  | none => throw .fileNotFound
  | some i => byIndexRead ext a i password

open M in
/-- `by_index_raw` followed by reading to the end: the undecoded bytes. -/
def byIndexRaw (a : Archive) (i : Nat) : M (Nat × Bytes) :=
  match a.files[i]? with
  | none => throw .fileNotFound
  | some data => do
    let ds ← findContent data
    let raw ← takeAll data.compressedSize.toNat
    pure (ds, raw)

/-! ### Streaming reader -/

open M in
/-- `read_zipfile_from_stream` up to the construction of the entry (no seek is ever issued):
`none` = the central directory was reached. -/
def streamHeader : M (Option FileData) := do
  let sig ← readU32
  if sig == CENTRAL_SIG then pure none
  else if sig != LOCAL_SIG then throw .invalidArchive
  else do
    let versionMadeBy ← readU16
    let flags ← readU16
    let encrypted := flags &&& 1 == 1
    let isUtf8 := flags &&& (0x0800 : UInt16) != 0
    let usingDataDescriptor := flags &&& (0x0008 : UInt16) != 0
    let cm ← readU16
    let lastModTime ← readU16
    let lastModDate ← readU16
    let crc32 ← readU32
    let compressedSize ← readU32
    let uncompressedSize ← readU32
    let fileNameLength ← readU16
    let extraFieldLength ← readU16
    let fileNameRaw ← readExact fileNameLength.toNat
    let extraField ← readExact extraFieldLength.toNat
    let result : FileData := {
      system := System.fromU8 (versionMadeBy >>> 8).toUInt8
      versionMadeBy := versionMadeBy.toUInt8
      encrypted, usingDataDescriptor
      method := Method.fromU16 cm
      level := none
      time := DateTime.fromMsdos lastModDate lastModTime
      crc32
      compressedSize := compressedSize.toUInt64
      uncompressedSize := uncompressedSize.toUInt64
      fileName := Text.decodeToUtf8 isUtf8 fileNameRaw
      fileNameRaw, extraField
      fileComment := []
      headerStart := 0, centralHeaderStart := 0, dataStart := 0
      externalAttributes := 0
      largeFile := false
      aesMode := none }
    let (result, perr) := parseExtraField (extraField.length + 1) result extraField
    match perr with
    | some (.io _) | none =>
      if encrypted then throw .unsupportedArchive
      else if usingDataDescriptor then throw .unsupportedArchive
      else match result.method with
        | .unsupported _ => throw .unsupportedArchive
        | .aes => throw .unsupportedArchive
        | _ => pure (some result)
    | some e => throw e

open M in
/-- One streamed entry read to the end (equivalently: partially read, then drained on drop — the drain
reads the remaining compressed bytes from the `Take`, bypassing decoders). -/
def streamEntry (ext : Ext) : M (Option (FileData × Out Bytes)) := do
  let h ← streamHeader
  match h with
  | none => pure none
  | some f => do
    let raw ← takeAll f.compressedSize.toNat
    let res : Out Bytes := do
      let dec ← ext.decode f.method raw
      crcCheck false f.crc32 dec
    pure (some (f, res))

open M in
/-- All entries of the stream, then `none` at the central directory. Fuel: every entry consumes at least
30 bytes of the device. -/
def streamEntries (ext : Ext) : (fuel : Nat) → M (List (FileData × Out Bytes))
  | 0 => pure []
  | fuel + 1 => do
    let e ← streamEntry ext
    match e with
    | none => pure []
    | some x => do
      let rest ← streamEntries ext fuel
      pure (x :: rest)

open M in
/-- `ZipStreamReader::parse_central_directory` loop after the first record. -/
def streamCentralLoop : (fuel : Nat) → M (List FileData)
  | 0 => pure []
  | fuel + 1 => do
    let sig ← readU32
    if sig != CENTRAL_SIG then pure [] else do
      let f ← centralHeaderInner 0 0
      let rest ← streamCentralLoop fuel
      pure (f :: rest)

open M in
/-- `ZipStreamReader::visit`: the sequence of visitor events (files in order, then metadata in order). -/
def streamVisit (ext : Ext) : M (List (FileData × Out Bytes) × List FileData) := do
  let d ← getDev
  let fuel := d.buf.length / 30 + 1
  let files ← streamEntries ext fuel
  -- the first central signature has been consumed by the entry loop
  let first ← centralHeaderInner 0 0
  let rest ← streamCentralLoop (d.buf.length / 46 + 1)
  pure (files, first :: rest)

end ZipVerif.Model

namespace ZipVerif.Model
open ZipVerif

/-! ### Partial consumption and the drop-time drain

`read_zipfile_from_stream` hands out a `ZipFile` whose reader is `Crc32Reader(decoder(Take(stream,
compressed_size)))` (read.rs: `limit_reader`, `make_crypto_reader`, `make_reader`).  The consumer's `read` calls
go through the decoder, which pulls COMPRESSED bytes through the `Take` in its own buffer sizes and as far
ahead as it likes; `ZipFile::drop` (read.rs, `impl Drop for ZipFile`) then takes the `Take` out of the decoders
(`into_inner`: whatever a decoder had buffered is discarded, the `Take`'s remaining limit is what counts) and
reads it into a 64 KiB buffer until `Ok(0)`, stopping silently on `Err`.  Both are modelled as device steps. -/

/-- What the consumer of one streamed entry does before it drops the handle. -/
structure Consume where
  /-- decoded bytes it asks for (asking again until it has them, end-of-file, or an error) -/
  k : Nat
  /-- compressed bytes its reads have pulled through the `Take` when it stops — decoder read-ahead included;
  capped at the compressed size by the `Take`.  Any value is allowed: nothing below depends on it (for a
  Stored entry it is `min k compressed_size`). -/
  pulled : Nat
  /-- size of the reads on the `Take` that pull them (the decoder's buffer; the consumer's own for Stored) -/
  chunk : Nat := 65536
  deriving Repr, DecidableEq

open M in
/-- Reads on a `Take` with `want` bytes of its limit left, with a buffer of `chunk` bytes, until `want`
bytes have been delivered, the device reports end-of-file (`Ok(0)`) or a read fails: the number of bytes
delivered and the error, if any.  `Take::read` with limit 0 answers `Ok(0)` WITHOUT touching the device, so
`want = 0` costs no I/O call; every other round is exactly one device `read` of `min want chunk` bytes.
Fuel: every round but the last delivers at least one byte, so `want` rounds suffice (`Lemmas/StreamRun.runs_takeLoop`). -/
def takeLoop (chunk : Nat) : (fuel want : Nat) → M (Nat × Option ZErr)
  | 0, _ => pure (0, none)
  | fuel + 1, want =>
    if want = 0 then pure (0, none) else do
      let r ← attempt (read (min want chunk))
      match r with
      | .error e => pure (0, some e)
      | .ok bs =>
        if bs.length = 0 then pure (0, none) else do
          let (n, e) ← takeLoop chunk fuel (want - bs.length)
          pure (bs.length + n, e)

open M in
/-- **The drain of `ZipFile::drop`** on the innermost `Take` with `rem` bytes of its limit left:
`loop { match reader.read(&mut [0; 1 << 16]) { Ok(0) => break, Ok(_) => (), Err(_) => break } }` — the error
is swallowed, nothing is reported. -/
def drain (rem : Nat) : M Unit := do
  let _ ← takeLoop 65536 rem rem
  pure ()

/-- What a consumer sees that reads `k` bytes of a streamed entry (asking again until it has `k` bytes or
hits end-of-file or an error) and then drops the handle: the first `k` decoded bytes if there are that
many — the checksum is only compared by the read that reports end-of-file —, else everything followed by
the CRC verdict.  On a damaged stream (`decoded` is the decoder's error) the consumer still receives the
bytes the decoder hands out before it notices (`before = Ext.decodeBefore method raw k`): `k` of them if
there are that many, else the error. -/
def consumeK (declared : UInt32) (decoded : Out Bytes) (before : Bytes) (k : Nat) : Out Bytes :=
  match decoded with
  | .ok d => if k ≤ d.length then .ok (d.take k) else crcCheck false declared d
  | .err e => if k ≤ before.length then .ok (before.take k) else .err e
  | .panic s => .panic s

/-- `consumeK` on the compressed stream `raw` of an entry -/
def Ext.consume (ext : Ext) (f : FileData) (raw : Bytes) (k : Nat) : Out Bytes :=
  consumeK f.crc32 (ext.decode f.method raw) (ext.decodeBefore f.method raw k) k

open M in
/-- One streamed entry under a consumer `c`: the header; the consumer's reads pull `min c.pulled
compressed_size` compressed bytes through the `Take` (an I/O error among them is what the consumer gets);
dropping the handle drains what is left of the `Take`.  The decoder is a function of the compressed stream
the `Take` delimits (`raw`, looked at without moving the device); how much of it has been pulled when the
consumer stops does not change what the consumer has seen. -/
def streamEntryC (ext : Ext) (c : Consume) : M (Option (FileData × Out Bytes)) := do
  let h ← streamHeader
  match h with
  | none => pure none
  | some f => do
    let csize := f.compressedSize.toNat
    let d ← getDev
    let raw := (d.buf.drop d.pos).take csize
    let p := min c.pulled csize
    let (n, e) ← takeLoop c.chunk p p
    drain (csize - n)
    match e with
    | some e => pure (some (f, .err e))
    | none => pure (some (f, ext.consume f raw c.k))

/-- the `i`-th consumer of a cycled pattern (nothing consumed for the empty pattern) -/
def Consume.at (pattern : List Consume) (i : Nat) : Consume :=
  match pattern[i % pattern.length]? with
  | some c => c
  | none => { k := 0, pulled := 0 }

open M in
/-- The streamed entries under a per-entry consumption pattern (cycled). -/
def streamEntriesC (ext : Ext) (pattern : List Consume) : (fuel : Nat) → (i : Nat) → M (List (FileData × Out Bytes))
  | 0, _ => pure []
  | fuel + 1, i => do
    let e ← streamEntryC ext (Consume.at pattern i)
    match e with
    | none => pure []
    | some x => do
      let rest ← streamEntriesC ext pattern fuel (i + 1)
      pure (x :: rest)

/-! ### The streaming reader under faults: `ZipStreamReader::visit` draining explicitly, `Interrupted` retried

After the repair of K-J for the visitor API (`fix: ZipStreamReader::visit drains each entry itself and returns a read
error of that drain`): `ZipFile::drain_stream` is the loop of the old `Drop` returning the read error (and issuing a
read again that failed with `ErrorKind::Interrupted`); `Drop` calls it and discards the result; `visit` calls it after
`visit_file` and returns the error. -/

open M in
/-- `ZipFile::drain_stream` on a `Take` with `rem` bytes of its limit left: 64 KiB reads until `Ok(0)`; a read error is
RETURNED (`Interrupted` apart: see `M.retried` at the call sites). -/
def drainE (rem : Nat) : M Unit := do
  let (_, e) ← takeLoop 65536 rem rem
  match e with
  | some e => throw e
  | none => pure ()

open M in
/-- The first half of one round of `visit`, up to the return of `visit_file`, under a visitor that asks for `c.k`
decoded bytes and returns a failed read to `visit` (`?`, as `extract` does with `io::copy(..)?`): the header
(`read_exact` throughout: `Interrupted` retried); the visitor's reads (bare reads: every kind reaches the visitor).
When the visitor returns `Err` (a failed read, a checksum / decoder error) `visit` returns it, the handle is dropped
and `Drop` drains SILENTLY.  Otherwise: the entry, the bytes shown, and what is left of the `Take`. -/
def visitFile (ext : Ext) (c : Consume) : M (Option (FileData × Bytes × Nat)) := do
  let h ← retried streamHeader
  match h with
  | none => pure none
  | some f => do
    let csize := f.compressedSize.toNat
    let d ← getDev
    let raw := (d.buf.drop d.pos).take csize
    let p := min c.pulled csize
    let (n, e) ← takeLoop c.chunk p p
    match e with
    | some e => do retried (drain (csize - n)); throw e
    | none =>
      match ext.consume f raw c.k with
      | .err e => do retried (drain (csize - n)); throw e
      | .panic s => M.panic s
      | .ok bytes => pure (some (f, bytes, csize - n))

open M in
/-- One round of `visit`: `visit_file`, then `file.drain_stream()?` - a read error of the drain is `visit`'s error. -/
def visitEntry (ext : Ext) (c : Consume) : M (Option (FileData × Bytes)) := do
  let r ← visitFile ext c
  match r with
  | none => pure none
  | some (f, bytes, rem) => do retried (drainE rem); pure (some (f, bytes))

open M in
/-- the `visit_file` rounds of `visit` under a per-entry consumption pattern (cycled) -/
def visitEntries (ext : Ext) (pattern : List Consume) : (fuel : Nat) → (i : Nat) → M (List (FileData × Bytes))
  | 0, _ => pure []
  | fuel + 1, i => do
    let e ← visitEntry ext (Consume.at pattern i)
    match e with
    | none => pure []
    | some x => do
      let rest ← visitEntries ext pattern fuel (i + 1)
      pure (x :: rest)

open M in
/-- the `visit_additional_metadata` part of `visit` on a stream of `len` bytes (`read_exact` throughout) -/
def visitCentral (len : Nat) : M (List FileData) := do
  let first ← retried (centralHeaderInner 0 0)
  let rest ← retried (streamCentralLoop (len / 46 + 1))
  pure (first :: rest)

open M in
/-- **`ZipStreamReader::visit` under any consumption pattern**: what the visitor is shown (per entry the bytes it
asked for; then the metadata records).  With a visitor that reads every entry to its end and the failure-free device
this is `streamVisit` (whose visitor records a content error instead of returning it). -/
def streamVisitC (ext : Ext) (pattern : List Consume) : M (List (FileData × Bytes) × List FileData) := do
  let d ← getDev
  let files ← visitEntries ext pattern (d.buf.length / 30 + 1) 0
  let metas ← visitCentral d.buf.length
  pure (files, metas)

open M in
/-- `read_zipfile_from_stream` + consumer + `Drop`, as `streamEntryC`, with `Interrupted` treated as the code treats
it: retried in the header's `read_exact`s and (since the repair) in the drop-time drain, a hard failure for the
consumer's own reads.  Equal to `streamEntryC` on every device that fails with another kind
(`Lemmas/FaultVisit.streamEntryCI_hard`). -/
def streamEntryCI (ext : Ext) (c : Consume) : M (Option (FileData × Out Bytes)) := do
  let h ← retried streamHeader
  match h with
  | none => pure none
  | some f => do
    let csize := f.compressedSize.toNat
    let d ← getDev
    let raw := (d.buf.drop d.pos).take csize
    let p := min c.pulled csize
    let (n, e) ← takeLoop c.chunk p p
    retried (drain (csize - n))
    match e with
    | some e => pure (some (f, .err e))
    | none => pure (some (f, ext.consume f raw c.k))

end ZipVerif.Model
