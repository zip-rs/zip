import ZipVerif.Model.Reader
import ZipVerif.Model.Layers
/-
Short reads of the UNDERLYING reader, at archive level (C09).

The reader model's monad `M` runs over a `Dev` whose `read` is never short (a `Cursor`).  To say that
`ZipArchive::new` returns the same view however the underlying reader fragments its reads, the parsers
are written here ONCE MORE, generically over the I/O vocabulary they use (`ParserIO`: `read_exact`,
`seek`, error, panic, `if let Ok(..)`), and instantiated twice:

* at `M` - `Lemmas/ParserRel.lean` proves every generic parser instantiated at `M` EQUAL to the model
  function of `Model/Records.lean` / `Model/Reader.lean` (which are tied to the translated source);
* at `MS`, the same device with a short-read schedule `sch : Nat → Nat` (the k-th `read` call delivers at
  most `max (sch k) 1` bytes, i.e. ANY non-empty prefix of what is available) and `read_exact` the real
  retry loop (`Model.Layers.readExact`, the default body of `Read::read_exact`, tied in `Tie/Layers`).

Only `read_exact`-based functions are here: that is all the metadata path uses (the entry DATA path uses
`read`, it is the subject of `Model/Layers.lean`).
-/

namespace ZipVerif.Model
open ZipVerif

/-- The I/O vocabulary of the metadata parsers. -/
class ParserIO (m : Type → Type) extends Monad m where
  ioReadExact : Nat → m Bytes
  /-- a consumer draining `Take(limit)` over the reader (the entry DATA of the streaming reader, which
  has to be consumed before the next header can be parsed) -/
  ioTakeAll : Nat → m Bytes
  ioSeek : SeekFrom → m Nat
  ioThrow : {α : Type} → ZErr → m α
  ioPanic : {α : Type} → String → m α
  ioAttempt : {α : Type} → m α → m (Except ZErr α)

instance : ParserIO M where
  ioReadExact := M.readExact
  ioTakeAll := takeAll
  ioSeek := M.seek
  ioThrow := M.throw
  ioPanic := M.panic
  ioAttempt := M.attempt

/-! ### The short-reading device -/

/-- The device as a reader with short reads: call number `d.calls` delivers at most
`max (sch d.calls) 1` bytes of what lies behind the position (nothing for an empty buffer). -/
def shortSrc (sch : Nat → Nat) : Layers.Src Dev where
  rd d n :=
    let k := if n = 0 then 0 else min n (max (sch d.calls) 1)
    let chunk := (d.buf.drop d.pos).take k
    (.ok chunk, { d with pos := d.pos + chunk.length, calls := d.calls + 1 })

/-- Computations over the short-reading device: the schedule is a parameter. -/
def MS (α : Type) : Type := (Nat → Nat) → Dev → Out α × Dev

namespace MS

instance : Monad MS where
  pure a := fun _ d => (.ok a, d)
  bind x f := fun sch d =>
    match x sch d with
    | (.ok a, d') => f a sch d'
    | (.err e, d') => (.err e, d')
    | (.panic s, d') => (.panic s, d')

/-- `Read::read_exact`, the default body (retry loop) over the short-reading device. -/
def readExact (n : Nat) : MS Bytes := fun sch d =>
  match Layers.readExact (shortSrc sch) d n with
  | (.ok bs, d') => (.ok bs, d')
  | (.err e, d') => (.err (.io e), d')
  | (.panic, d') => (.panic "read_exact", d')

/-- A consumer draining `Take(limit)` over the short-reading device with a buffer as large as what is
left of the limit, until the limit is reached or a read returns 0 bytes. -/
def takeAllAux (sch : Nat → Nat) : Nat → Dev → Nat → Bytes × Dev
  | 0, d, _ => ([], d)
  | _ + 1, d, 0 => ([], d)
  | fuel + 1, d, n + 1 =>
    match (shortSrc sch).rd d (n + 1) with
    | (.ok bs, d') =>
      if bs = [] then ([], d')
      else ((bs ++ (takeAllAux sch fuel d' (n + 1 - bs.length)).1), (takeAllAux sch fuel d' (n + 1 - bs.length)).2)
    | (_, d') => ([], d')

def takeAll (limit : Nat) : MS Bytes := fun sch d =>
  (.ok (takeAllAux sch limit d limit).1, (takeAllAux sch limit d limit).2)

/-- `Seek::seek` - the same as on the `Cursor` (counted as a call). -/
def seek (s : SeekFrom) : MS Nat := fun _ d =>
  let d1 : Dev := { d with calls := d.calls + 1 }
  let target : Int := match s with
    | .start n => n
    | .endOff off => (d1.buf.length : Int) + off
    | .current off => (d1.pos : Int) + off
  if target < 0 then (.err (.io .invalidInput), d1)
  else (.ok target.toNat, { d1 with pos := target.toNat })

def attempt {α} (x : MS α) : MS (Except ZErr α) := fun sch d =>
  match x sch d with
  | (.ok a, d') => (.ok (.ok a), d')
  | (.err e, d') => (.ok (.error e), d')
  | (.panic s, d') => (.panic s, d')

end MS

instance : ParserIO MS where
  ioReadExact := MS.readExact
  ioTakeAll := MS.takeAll
  ioSeek := MS.seek
  ioThrow := fun e _ d => (.err e, d)
  ioPanic := fun s _ d => (.panic s, d)
  ioAttempt := MS.attempt

/-! ### The short-writing device -/

/-- The device as a SINK with short writes (`Cursor<Vec<u8>>` semantics at the current position): call
number `d.calls` accepts at most `max (sch d.calls) 1` bytes. -/
def shortWr (sch : Nat → Nat) : Layers.Wr Dev where
  wr d bs :=
    let k := if bs = [] then 0 else min bs.length (max (sch d.calls) 1)
    (.ok k, { buf := writeAt d.buf d.pos (bs.take k), pos := d.pos + k, calls := d.calls + 1 })

/-! ### The parsers, generically -/

namespace G
open ParserIO
variable {m : Type → Type} [ParserIO m]

def readU16 : m UInt16 := do
  let r ← ioReadExact 2
  match r with
  | [a, b] => pure (mk16 a b)
  | _ => ioThrow (.io .unexpectedEof)

def readU32 : m UInt32 := do
  let r ← ioReadExact 4
  match r with
  | [a, b, c, d] => pure (mk32 a b c d)
  | _ => ioThrow (.io .unexpectedEof)

def readU64 : m UInt64 := do
  let r ← ioReadExact 8
  match r with
  | [a, b, c, d, e, f, g, h] => pure (mk64 a b c d e f g h)
  | _ => ioThrow (.io .unexpectedEof)

def streamPosition : m Nat := ioSeek (.current 0)

def parseEocd : m Eocd := do
  let magic ← readU32
  if magic != EOCD_SIG then ioThrow .invalidArchive else
  let diskNumber ← readU16
  let diskWithCd ← readU16
  let filesOnDisk ← readU16
  let files ← readU16
  let cdSize ← readU32
  let cdOffset ← readU32
  let clen ← readU16
  let comment ← ioReadExact clen.toNat
  pure { diskNumber, diskWithCd, filesOnDisk, files, cdSize, cdOffset, comment }

def parseLocator : m Locator := do
  let magic ← readU32
  if magic != LOCATOR_SIG then ioThrow .invalidArchive else
  let diskWithCd ← readU32
  let eocd64Offset ← readU64
  let disks ← readU32
  pure { diskWithCd, eocd64Offset, disks }

def findEocdLoop (bound : Nat) : (fuel : Nat) → (pos : Nat) → m (Eocd × Nat)
  | 0, _ => ioThrow .invalidArchive
  | fuel + 1, pos =>
    if pos < bound then ioThrow .invalidArchive else do
      let _ ← ioSeek (.start pos)
      let w ← readU32
      if w == EOCD_SIG then do
        let _ ← ioSeek (.current 16)
        let cdeStart ← ioSeek (.start pos)
        let e ← parseEocd
        pure (e, cdeStart)
      else if pos = 0 then ioThrow .invalidArchive
      else findEocdLoop bound fuel (pos - 1)

def findAndParseEocd : m (Eocd × Nat) := do
  let fileLength ← ioSeek (.endOff 0)
  let bound := fileLength - (22 + 65535)
  if fileLength < 22 then ioThrow .invalidArchive else
  findEocdLoop bound (fileLength - 22 - bound + 1) (fileLength - 22)

def findEocd64Loop (nominal upper : Nat) : (fuel : Nat) → (pos : Nat) → m (Eocd64 × Nat)
  | 0, _ => ioThrow .invalidArchive
  | fuel + 1, pos =>
    if pos > upper then ioThrow .invalidArchive else do
      let _ ← ioSeek (.start pos)
      let w ← readU32
      if w == EOCD64_SIG then do
        let _recordSize ← readU64
        let versionMadeBy ← readU16
        let versionNeeded ← readU16
        let diskNumber ← readU32
        let diskWithCd ← readU32
        let filesOnDisk ← readU64
        let files ← readU64
        let cdSize ← readU64
        let cdOffset ← readU64
        pure ({ versionMadeBy, versionNeeded, diskNumber, diskWithCd, filesOnDisk, files, cdSize,
                cdOffset }, pos - nominal)
      else findEocd64Loop nominal upper fuel (pos + 1)

def findEocd64 (nominal upper : Nat) : m (Eocd64 × Nat) :=
  findEocd64Loop nominal upper (upper + 1 - nominal) nominal

def getDirectoryCounts (footer : Eocd) (cdeStart : Nat) : m (Nat × Nat × Nat) := do
  let loc : Option Locator ←
    (if cdeStart < 20 then pure none else do
      let _ ← ioSeek (.endOff (-(20 + 22 + (footer.comment.length : Int))))
      let r ← ioAttempt parseLocator
      match r with
      | .ok l => pure (some l)
      | .error .invalidArchive => pure none
      | .error e => ioThrow e)
  match loc with
  | none =>
    let sz := footer.cdSize.toNat
    let off := footer.cdOffset.toNat
    if cdeStart < sz + off then ioThrow .invalidArchive else
    let archiveOffset := cdeStart - sz - off
    pure (archiveOffset, off + archiveOffset, footer.filesOnDisk.toNat)
  | some l =>
    if !footer.recordTooSmall && footer.diskNumber.toUInt32 != l.diskWithCd then
      ioThrow .unsupportedArchive
    else if cdeStart < 60 then ioThrow .invalidArchive else do
      let (f64, archiveOffset) ← findEocd64 l.eocd64Offset.toNat (cdeStart - 60)
      if f64.diskNumber != f64.diskWithCd then ioThrow .unsupportedArchive else
      let ds := f64.cdOffset.toNat + archiveOffset
      if ds ≥ 18446744073709551616 then ioThrow .invalidArchive else
      pure (archiveOffset, ds, f64.files.toNat)

def centralHeaderInner (archiveOffset : Nat) (centralHeaderStart : Nat) : m FileData := do
  let versionMadeBy ← readU16
  let _versionToExtract ← readU16
  let flags ← readU16
  let encrypted := flags &&& 1 == 1
  let isUtf8 := flags &&& (0x0800 : UInt16) != 0
  let usingDataDescriptor := flags &&& (0x0008 : UInt16) != 0
  let compressionMethod ← readU16
  let lastModTime ← readU16
  let lastModDate ← readU16
  let crc32 ← readU32
  let compressedSize ← readU32
  let uncompressedSize ← readU32
  let fileNameLength ← readU16
  let extraFieldLength ← readU16
  let fileCommentLength ← readU16
  let _diskNumber ← readU16
  let _internal ← readU16
  let externalAttributes ← readU32
  let offset ← readU32
  let fileNameRaw ← ioReadExact fileNameLength.toNat
  let extraField ← ioReadExact extraFieldLength.toNat
  let fileCommentRaw ← ioReadExact fileCommentLength.toNat
  let result : FileData := {
    system := System.fromU8 (versionMadeBy >>> 8).toUInt8
    versionMadeBy := versionMadeBy.toUInt8
    encrypted, usingDataDescriptor
    method := Method.fromU16 compressionMethod
    level := none
    time := DateTime.fromMsdos lastModDate lastModTime
    crc32
    compressedSize := compressedSize.toUInt64
    uncompressedSize := uncompressedSize.toUInt64
    fileName := Text.decodeToUtf8 isUtf8 fileNameRaw
    fileNameRaw
    extraField
    fileComment := Text.decodeToUtf8 isUtf8 fileCommentRaw
    headerStart := offset.toUInt64
    centralHeaderStart := UInt64.ofNat centralHeaderStart
    dataStart := 0
    externalAttributes
    largeFile := false
    aesMode := none }
  let (result, perr) := parseExtraField (extraField.length + 1) result extraField
  match perr with
  | some (.io _) | none =>
    if result.method == .aes && result.aesMode.isNone then ioThrow .invalidArchive else
    let hs := result.headerStart.toNat + archiveOffset
    if hs ≥ 18446744073709551616 then ioThrow .invalidArchive else
    pure { result with headerStart := UInt64.ofNat hs }
  | some e => ioThrow e

def centralHeader (archiveOffset : Nat) : m FileData := do
  let start ← streamPosition
  let sig ← readU32
  if sig != CENTRAL_SIG then ioThrow .invalidArchive
  else centralHeaderInner archiveOffset start

def readCentralLoop (archiveOffset : Nat) : (n : Nat) → m (List FileData)
  | 0 => pure []
  | n + 1 => do
    let f ← centralHeader archiveOffset
    let rest ← readCentralLoop archiveOffset n
    pure (f :: rest)

/-- `ZipArchive::new` -/
def openArchive : m Archive := do
  let (footer, cdeStart) ← findAndParseEocd
  if !footer.recordTooSmall && footer.diskNumber != footer.diskWithCd then
    ioThrow .unsupportedArchive
  else do
    let (archiveOffset, directoryStart, numberOfFiles) ← getDirectoryCounts footer cdeStart
    let r ← ioAttempt (ioSeek (.start directoryStart))
    match r with
    | .error _ => ioThrow .invalidArchive
    | .ok _ =>
      let files ← readCentralLoop archiveOffset numberOfFiles
      pure { files, offset := archiveOffset, comment := footer.comment }

/-- `find_content`: the local-header reads in front of an entry's data. -/
def findContent (f : FileData) : m Nat := do
  let _ ← ioSeek (.start f.headerStart.toNat)
  let sig ← readU32
  if sig != LOCAL_SIG then ioThrow .invalidArchive else do
    let _ ← ioSeek (.current 22)
    let nameLen ← readU16
    let extraLen ← readU16
    let ds := f.headerStart.toNat + 30 + nameLen.toNat + extraLen.toNat
    if ds ≥ 18446744073709551616 then ioPanic "rs2lean: checked operation" else do
      let _ ← ioSeek (.start ds)
      pure ds

/-! #### The streaming reader (`read_zipfile_from_stream`, `ZipStreamReader`): no seek is ever issued -/

/-- `read_zipfile_from_stream` up to the construction of the entry. -/
def streamHeader : m (Option FileData) := do
  let sig ← readU32
  if sig == CENTRAL_SIG then pure none
  else if sig != LOCAL_SIG then ioThrow .invalidArchive
  else do
    let versionMadeBy ← readU16
    let flags ← readU16
    let encrypted := flags &&& 1 == 1
    let isUtf8 := flags &&& (0x0800 : UInt16) != 0
    let usingDataDescriptor := flags &&& (0x0008 : UInt16) != 0
    let cm ← readU16
    let lastModTime ← readU16
    let lastModDate ← readU16
    let crc32 ← readU32
    let compressedSize ← readU32
    let uncompressedSize ← readU32
    let fileNameLength ← readU16
    let extraFieldLength ← readU16
    let fileNameRaw ← ioReadExact fileNameLength.toNat
    let extraField ← ioReadExact extraFieldLength.toNat
    let result : FileData := {
      system := System.fromU8 (versionMadeBy >>> 8).toUInt8
      versionMadeBy := versionMadeBy.toUInt8
      encrypted, usingDataDescriptor
      method := Method.fromU16 cm
      level := none
      time := DateTime.fromMsdos lastModDate lastModTime
      crc32
      compressedSize := compressedSize.toUInt64
      uncompressedSize := uncompressedSize.toUInt64
      fileName := Text.decodeToUtf8 isUtf8 fileNameRaw
      fileNameRaw, extraField
      fileComment := []
      headerStart := 0, centralHeaderStart := 0, dataStart := 0
      externalAttributes := 0
      largeFile := false
      aesMode := none }
    let (result, perr) := parseExtraField (extraField.length + 1) result extraField
    match perr with
    | some (.io _) | none =>
      if encrypted then ioThrow .unsupportedArchive
      else if usingDataDescriptor then ioThrow .unsupportedArchive
      else match result.method with
        | .unsupported _ => ioThrow .unsupportedArchive
        | .aes => ioThrow .unsupportedArchive
        | _ => pure (some result)
    | some e => ioThrow e

/-- One streamed entry: header, then the entry's data consumed to the end of its `Take`. -/
def streamEntry (ext : Ext) : m (Option (FileData × Out Bytes)) := do
  let h ← streamHeader
  match h with
  | none => pure none
  | some f => do
    let raw ← ioTakeAll f.compressedSize.toNat
    let res : Out Bytes := do
      let dec ← ext.decode f.method raw
      crcCheck false f.crc32 dec
    pure (some (f, res))

def streamEntries (ext : Ext) : (fuel : Nat) → m (List (FileData × Out Bytes))
  | 0 => pure []
  | fuel + 1 => do
    let e ← streamEntry ext
    match e with
    | none => pure []
    | some x => do
      let rest ← streamEntries ext fuel
      pure (x :: rest)

/-- `ZipStreamReader::parse_central_directory` loop after the first record. -/
def streamCentralLoop : (fuel : Nat) → m (List FileData)
  | 0 => pure []
  | fuel + 1 => do
    let sig ← readU32
    if sig != CENTRAL_SIG then pure [] else do
      let f ← centralHeaderInner 0 0
      let rest ← streamCentralLoop fuel
      pure (f :: rest)

/-- `ZipStreamReader::visit` with the two loop bounds as parameters (the model takes them from the
length of the input: `streamVisit_M`). -/
def streamVisitF (ext : Ext) (fuel₁ fuel₂ : Nat) : m (List (FileData × Out Bytes) × List FileData) := do
  let files ← streamEntries ext fuel₁
  let first ← centralHeaderInner 0 0
  let rest ← streamCentralLoop fuel₂
  pure (files, first :: rest)

end G
end ZipVerif.Model
