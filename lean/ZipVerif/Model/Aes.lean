import ZipVerif.Basic.Bytes
import ZipVerif.Basic.Out
/-
C16 — model of the WinZip-AES read path of zip 0.6.6 (current /repo, i.e. after the fix: commits
for D2, D3, D4, D9): `aes_ctr.rs` (key stream), `aes.rs` (`AesReader::{new, validate}`,
`AesReaderValid::read`), and the AES related open-time decisions of `read.rs`
(`parse_extra_field`, `central_header_to_zip_file`, `by_index*`, `make_crypto_reader`,
`make_reader`, `CryptoReader::is_ae2_encrypted`) plus `crc32.rs::Crc32Reader::read`.

PBKDF2-HMAC-SHA1 (1000 iterations), the AES block function and HMAC-SHA1 are *uninterpreted*
(`AesPrims`).  The incremental `Hmac::update` interface is modelled by the message accumulated so far
(assumption: updates concatenate; `finalize_reset` empties it).
Core Lean only: this file is linked into `zvdriver`.
-/

namespace ZipVerif.Model.Aes
open ZipVerif

/-! ## Uninterpreted primitives -/

structure AesPrims where
  /-- `pbkdf2::<Hmac<Sha1>>(password, salt, ITERATION_COUNT = 1000, out)` with `out.len() = len` -/
  pbkdf2 : (pw salt : Bytes) → (len : Nat) → Bytes
  /-- `Aes{128,192,256}::encrypt_block` on a 16-byte block -/
  block : (key inp : Bytes) → Bytes
  /-- HMAC-SHA1 of a whole message (20 bytes) -/
  hmac : (key msg : Bytes) → Bytes

/-- The only facts about the primitives that are ever used: their output lengths (in Rust these are
facts of the types: a caller-allocated buffer, a 16-byte block, a 20-byte `GenericArray`). -/
structure AesPrims.WF (P : AesPrims) : Prop where
  pbkdf2_len : ∀ pw salt n, (P.pbkdf2 pw salt n).length = n
  block_len : ∀ key inp, (P.block key inp).length = 16
  hmac_len : ∀ key msg, (P.hmac key msg).length = 20

/-! ## `types.rs` -/

inductive AesMode | aes128 | aes192 | aes256
  deriving DecidableEq, Repr, Inhabited

inductive VendorVersion | ae1 | ae2
  deriving DecidableEq, Repr, Inhabited

def AesMode.keyLength : AesMode → Nat
  | .aes128 => 16 | .aes192 => 24 | .aes256 => 32

def AesMode.saltLength (m : AesMode) : Nat := m.keyLength / 2

def PWD_VERIFY_LENGTH : Nat := 2
def AUTH_CODE_LENGTH : Nat := 10
def ITERATION_COUNT : Nat := 1000

def U64 : Nat := 18446744073709551616
def U128 : Nat := 340282366920938463463374607431768211456

/-! ## Little-endian counter block (`write_u128::<LittleEndian>`) -/

def leN : Nat → Nat → Bytes
  | 0, _ => []
  | n + 1, v => UInt8.ofNat (v % 256) :: leN n (v / 256)

def le128 (v : Nat) : Bytes := leN 16 v

def fromLE : Bytes → Nat
  | [] => 0
  | b :: r => b.toNat + 256 * fromLE r

/-! ## `aes_ctr.rs` : `AesCtrZipKeyStream` -/

structure CtrState where
  counter : Nat        -- u128
  buffer : Bytes       -- [u8; 16]
  pos : Nat            -- usize
  deriving DecidableEq, Repr

/-- `AesCtrZipKeyStream::new` (the key is kept outside the state; a key of the wrong length panics
in `GenericArray::from_slice`, see `validate`). -/
def CtrState.new : CtrState := ⟨1, List.replicate 16 0, 16⟩

def CtrState.Good (st : CtrState) : Prop := st.pos ≤ 16 ∧ st.buffer.length = 16

def xorBytes (a b : Bytes) : Bytes := List.zipWith (· ^^^ ·) a b

/-- The `if self.pos == AES_BLOCK_SIZE { … }` body: encrypt the little-endian counter, `counter += 1`
(checked on `u128`), `pos = 0`. -/
def refill (P : AesPrims) (key : Bytes) (st : CtrState) : Out CtrState :=
  if st.counter + 1 ≥ U128 then .panic "attempt to add with overflow (aes_ctr.rs counter)"
  else .ok ⟨st.counter + 1, P.block key (le128 st.counter), 0⟩

/-- `crypt_in_place`, the `while !target.is_empty()` loop, one iteration per recursion step.
`fuel` = `target.len()` is enough because every iteration consumes at least one byte
(`cryptInPlace_eq_bytes` shows the fuel branch is never taken from a good state). -/
def cryptLoop (P : AesPrims) (key : Bytes) : Nat → CtrState → Bytes → Out (Bytes × CtrState)
  | _, st, [] => .ok ([], st)
  | 0, _, _ :: _ => .panic "unreachable: fuel"
  | f + 1, st, b :: t =>
    if st.pos > 16 then .panic "attempt to subtract with overflow (AES_BLOCK_SIZE - pos)" else
    (if st.pos = 16 then refill P key st else .ok st) >>= fun st1 =>
    let n := min (t.length + 1) (16 - st1.pos)
    -- `&self.buffer[self.pos..(self.pos + target_len)]`, `xor` asserts equal lengths
    let src := (st1.buffer.drop st1.pos).take n
    if src.length ≠ n then .panic "range end index out of range for slice (aes_ctr.rs buffer)" else
    cryptLoop P key f ⟨st1.counter, st1.buffer, st1.pos + n⟩ ((b :: t).drop n) >>= fun r =>
    .ok (xorBytes ((b :: t).take n) src ++ r.1, r.2)

def cryptInPlace (P : AesPrims) (key : Bytes) (st : CtrState) (target : Bytes) :
    Out (Bytes × CtrState) :=
  cryptLoop P key target.length st target

/-- One byte of key stream: refill if the buffer is used up, take `buffer[pos]`, `pos += 1`. -/
def stepByte (P : AesPrims) (key : Bytes) (st : CtrState) : Out (UInt8 × CtrState) :=
  if st.pos > 16 then .panic "attempt to subtract with overflow (AES_BLOCK_SIZE - pos)" else
  (if st.pos = 16 then refill P key st else .ok st) >>= fun st1 =>
  match st1.buffer[st1.pos]? with
  | none => .panic "range end index out of range for slice (aes_ctr.rs buffer)"
  | some k => .ok (k, ⟨st1.counter, st1.buffer, st1.pos + 1⟩)

/-- The same loop unrolled to one byte per step (used for the proofs; equal to `cryptInPlace` on
good states, `cryptInPlace_eq_bytes`). -/
def cryptBytes (P : AesPrims) (key : Bytes) : CtrState → Bytes → Out (Bytes × CtrState)
  | st, [] => .ok ([], st)
  | st, b :: t =>
    stepByte P key st >>= fun ks =>
    cryptBytes P key ks.2 t >>= fun r =>
    .ok ((b ^^^ ks.1) :: r.1, r.2)

/-- The key stream alone (`cryptBytes` over zeros). -/
def ksGen (P : AesPrims) (key : Bytes) : CtrState → Nat → Out (Bytes × CtrState)
  | st, 0 => .ok ([], st)
  | st, n + 1 =>
    stepByte P key st >>= fun ks =>
    ksGen P key ks.2 n >>= fun r =>
    .ok (ks.1 :: r.1, r.2)

/-- Blocks `c, c+1, …, c+k-1` of the key stream, concatenated. -/
def ksBlocks (P : AesPrims) (key : Bytes) : Nat → Nat → Bytes
  | _, 0 => []
  | c, k + 1 => P.block key (le128 c) ++ ksBlocks P key (c + 1) k

/-! ## Abstract inner reader (`io::Take<&mut dyn Read>`) -/

inductive RdRes
  | ok (bs : Bytes)
  | err (k : IoKind)
  deriving DecidableEq, Repr

/-- `rd s n`: one `read` call with a buffer of `n` bytes. The `Read` contract (`Src.Contract`)
says that at most `n` bytes come back; `ok []` for `n > 0` is end-of-file. -/
structure Src (σ : Type) where
  rd : σ → Nat → RdRes × σ

def Src.Contract {σ} (S : Src σ) : Prop :=
  ∀ s n bs s', S.rd s n = (.ok bs, s') → bs.length ≤ n

/-- `Read::read_exact` (default implementation; `Interrupted` is not among the modelled kinds). -/
def readExactAux {σ} (S : Src σ) : Nat → σ → Nat → Bytes → Out Bytes × σ
  | _, s, 0, acc => (.ok acc, s)
  | 0, s, _ + 1, _ => (.panic "unreachable: fuel", s)
  | f + 1, s, need + 1, acc =>
    match S.rd s (need + 1) with
    | (.err k, s') => (.err (.io k), s')
    | (.ok bs, s') =>
      if bs.length = 0 then (.err (.io .unexpectedEof), s')          -- "failed to fill whole buffer"
      else if bs.length > need + 1 then (.panic "range start index out of range (read_exact)", s')
      else readExactAux S f s' (need + 1 - bs.length) (acc ++ bs)

def readExact {σ} (S : Src σ) (s : σ) (n : Nat) : Out Bytes × σ := readExactAux S n s n []

/-- A concrete source: the bytes that are there, and a short-read schedule (entry `k`: this call
delivers at most `k+1` bytes; exhausted schedule: no limit). -/
structure ListSrc where
  data : Bytes
  sched : List Nat
  deriving DecidableEq, Repr

def listRd (s : ListSrc) (n : Nat) : RdRes × ListSrc :=
  let cap := match s.sched with
    | [] => n
    | k :: _ => min n (k + 1)
  (.ok (s.data.take cap), ⟨s.data.drop cap, s.sched.tail⟩)

def listSrc : Src ListSrc := ⟨listRd⟩

/-! ## `aes.rs` -/

/-- `AesReaderValid`.  `ghostCt` / `ghostMac` are ghost fields (never read by the model): every byte
handed to `hmac.update`, and the pair (computed code, stored code) at the moment of comparison. -/
structure Valid (σ : Type) where
  inner : σ
  dataRemaining : Nat
  key : Bytes
  ctr : CtrState
  hmacKey : Bytes
  hmacMsg : Bytes
  finalized : Bool
  ghostCt : Bytes
  ghostMac : Option (Bytes × Bytes)

/-- `AesReader::new`: `compressed_size.checked_sub(2 + 10 + salt_length)`. -/
def dataLength (mode : AesMode) (compressedSize : Nat) : Option Nat :=
  let overhead := PWD_VERIFY_LENGTH + AUTH_CODE_LENGTH + mode.saltLength
  if overhead ≤ compressedSize then some (compressedSize - overhead) else none

/-- `AesReader::validate`. `ok none` = wrong password. -/
def validate {σ} (P : AesPrims) (S : Src σ) (mode : AesMode) (dl : Option Nat) (s : σ)
    (password : Bytes) : Out (Option (Valid σ)) × σ :=
  let k := mode.keyLength
  match dl with
  | none => (.err (.io .invalidData), s)
  | some dataLen =>
    match readExact S s mode.saltLength with
    | (.err e, s1) => (.err e, s1)
    | (.panic m, s1) => (.panic m, s1)
    | (.ok salt, s1) =>
      match readExact S s1 PWD_VERIFY_LENGTH with
      | (.err e, s2) => (.err e, s2)
      | (.panic m, s2) => (.panic m, s2)
      | (.ok pvv, s2) =>
        let dkLen := 2 * k + PWD_VERIFY_LENGTH
        let dk := P.pbkdf2 password salt dkLen
        let decryptKey := dk.take k
        let hmacKey := (dk.drop k).take k
        let pwdVerify := dk.drop (dkLen - 2)
        if pvv ≠ pwdVerify then (.ok none, s2)
        else if decryptKey.length ≠ k then
          (.panic "GenericArray::from_slice: key length (cipher_from_mode)", s2)
        else
          (.ok (some { inner := s2, dataRemaining := dataLen, key := decryptKey,
                       ctr := CtrState.new, hmacKey := hmacKey, hmacMsg := [],
                       finalized := false, ghostCt := [], ghostMac := none }), s2)

/-- `AesReaderValid::read(&mut buf)` with `buf.len() = n`; returns the bytes left in `buf[..read]`. -/
def Valid.read {σ} (P : AesPrims) (S : Src σ) (v : Valid σ) (n : Nat) : Out Bytes × Valid σ :=
  if v.dataRemaining = 0 then
    -- no ciphertext left; when there never was any (not yet finalized) the code is checked now, before
    -- end-of-file is reported (repair of K-I)
    if v.finalized then (.ok [], v) else
    let v := { v with finalized := true }
    match readExact S v.inner AUTH_CODE_LENGTH with
    | (.err e, s'') => (.err e, { v with inner := s'' })
    | (.panic m, s'') => (.panic m, { v with inner := s'' })
    | (.ok code, s'') =>
      let computed := (P.hmac v.hmacKey v.hmacMsg).take AUTH_CODE_LENGTH
      let v := { v with inner := s'', hmacMsg := [], ghostMac := some (computed, code) }
      if computed ≠ code then (.err (.io .invalidData), v) else (.ok [], v)
  else
  let bytesToRead := min v.dataRemaining n
  match S.rd v.inner bytesToRead with
  | (.err k, s') => (.err (.io k), { v with inner := s' })
  | (.ok bs, s') =>
    let v := { v with inner := s' }
    let read := bs.length
    if read = 0 ∧ bytesToRead ≠ 0 then (.err (.io .unexpectedEof), v) else
    if read > v.dataRemaining then (.panic "attempt to subtract with overflow (data_remaining)", v) else
    if read > n then (.panic "range end index out of range for slice (buf[0..read])", v) else
    let v := { v with dataRemaining := v.dataRemaining - read, hmacMsg := v.hmacMsg ++ bs,
                      ghostCt := v.ghostCt ++ bs }
    match cryptInPlace P v.key v.ctr bs with
    | .panic m => (.panic m, v)
    | .err e => (.err e, v)
    | .ok (pt, ctr') =>
      let v := { v with ctr := ctr' }
      if v.dataRemaining = 0 then
        if v.finalized then (.panic "Tried to use an already finalized HMAC. This is a bug!", v) else
        let v := { v with finalized := true }
        match readExact S v.inner AUTH_CODE_LENGTH with
        | (.err e, s'') => (.err e, { v with inner := s'' })
        | (.panic m, s'') => (.panic m, { v with inner := s'' })
        | (.ok code, s'') =>
          let computed := (P.hmac v.hmacKey v.hmacMsg).take AUTH_CODE_LENGTH
          let v := { v with inner := s'', hmacMsg := [], ghostMac := some (computed, code) }
          if computed ≠ code then (.err (.io .invalidData), v) else (.ok pt, v)
      else (.ok pt, v)

/-- A caller: one `read` per buffer size, stop at the first error. -/
def drain {σ} (P : AesPrims) (S : Src σ) : List Nat → Valid σ → Bytes → Out Bytes × Valid σ
  | [], v, acc => (.ok acc, v)
  | n :: ns, v, acc =>
    match Valid.read P S v n with
    | (.ok out, v') => drain P S ns v' (acc ++ out)
    | (.err e, v') => (.err e, v')
    | (.panic m, v') => (.panic m, v')

/-! ## `read.rs`: extra field, open-time decisions -/

inductive Method
  | stored | deflated | bzip2 | aes | zstd
  | unsupported (v : UInt16)
  deriving DecidableEq, Repr, Inhabited

def Method.fromU16 (v : UInt16) : Method :=
  if v = 0 then .stored else if v = 8 then .deflated else if v = 12 then .bzip2
  else if v = 93 then .zstd else if v = 99 then .aes else .unsupported v

/-- The part of `ZipFileData` that `parse_extra_field` reads or writes. -/
structure ExtraSt where
  uncompressedSize : UInt64
  compressedSize : UInt64
  headerStart : UInt64
  largeFile : Bool
  aesMode : Option (AesMode × VendorVersion)
  method : Method
  deriving DecidableEq, Repr

def ZIP64_BYTES_THR : UInt64 := 0xFFFFFFFF

/-- Kind 0x0001. Returns the number of bytes of `rest` the cursor moves over before the next record. -/
def zip64Rec (len : UInt16) (rest : Bytes) (st : ExtraSt) : Out Nat × ExtraSt :=
  -- uncompressed
  let step1 : Out (Nat × Bytes) × ExtraSt :=
    if st.uncompressedSize = ZIP64_BYTES_THR then
      let st := { st with largeFile := true }
      match rd64 rest with
      | some (v, r) => (.ok (1, r), { st with uncompressedSize := v })
      | none => (.err (.io .unexpectedEof), st)
    else (.ok (0, rest), st)
  match step1 with
  | (.err e, st) => (.err e, st)
  | (.panic m, st) => (.panic m, st)
  | (.ok (c1, r1), st) =>
    let step2 : Out (Nat × Bytes) × ExtraSt :=
      if st.compressedSize = ZIP64_BYTES_THR then
        let st := { st with largeFile := true }
        match rd64 r1 with
        | some (v, r) => (.ok (c1 + 1, r), { st with compressedSize := v })
        | none => (.err (.io .unexpectedEof), st)
      else (.ok (c1, r1), st)
    match step2 with
    | (.err e, st) => (.err e, st)
    | (.panic m, st) => (.panic m, st)
    | (.ok (c2, r2), st) =>
      let step3 : Out Nat × ExtraSt :=
        if st.headerStart = ZIP64_BYTES_THR then
          match rd64 r2 with
          | some (v, _) => (.ok (c2 + 1), { st with headerStart := v })
          | none => (.err (.io .unexpectedEof), st)
        else (.ok c2, st)
      match step3 with
      | (.err e, st) => (.err e, st)
      | (.panic m, st) => (.panic m, st)
      | (.ok c3, st) =>
        -- `len_left = len as i64 - 8*c3`; `if len_left > 0 { seek(Current(len_left)) }`
        (.ok (8 * c3 + (len.toNat - 8 * c3)), st)

/-- Kind 0x9901: the seven bytes of the record are read and `len_left` is decremented by 7 (K-C repaired;
before, the cursor was moved another seven bytes forward and the result was 14). -/
def aesRec (len : UInt16) (rest : Bytes) (st : ExtraSt) : Out Nat × ExtraSt :=
  if len ≠ 7 then (.err .unsupportedArchive, st) else
  match rest with
  | v0 :: v1 :: i0 :: i1 :: m :: c0 :: c1 :: _ =>
    let vendorVersion := mk16 v0 v1
    let vendorId := mk16 i0 i1
    let cm := mk16 c0 c1
    if vendorId ≠ 0x4541 then (.err .invalidArchive, st) else
    if vendorVersion ≠ 1 ∧ vendorVersion ≠ 2 then (.err .invalidArchive, st) else
    let ver := if vendorVersion = 1 then VendorVersion.ae1 else VendorVersion.ae2
    if m = 1 then (.ok 7, { st with aesMode := some (.aes128, ver), method := Method.fromU16 cm })
    else if m = 2 then (.ok 7, { st with aesMode := some (.aes192, ver), method := Method.fromU16 cm })
    else if m = 3 then (.ok 7, { st with aesMode := some (.aes256, ver), method := Method.fromU16 cm })
    else (.err .invalidArchive, st)
  | _ => (.err (.io .unexpectedEof), st)

/-- `parse_extra_field`: `skip` = bytes still to be passed over by the pending forward seek. -/
def parseExtraLoop : Nat → Bytes → ExtraSt → Out Unit × ExtraSt
  | _, [], st => (.ok (), st)
  | s + 1, _ :: t, st => parseExtraLoop s t st
  | 0, k0 :: k1 :: l0 :: l1 :: rest, st =>
    let kind := mk16 k0 k1
    let len := mk16 l0 l1
    if kind = 0x0001 then
      match zip64Rec len rest st with
      | (.ok skip, st') => parseExtraLoop skip rest st'
      | (.err e, st') => (.err e, st')
      | (.panic m, st') => (.panic m, st')
    else if kind = 0x9901 then
      match aesRec len rest st with
      | (.ok skip, st') => parseExtraLoop skip rest st'
      | (.err e, st') => (.err e, st')
      | (.panic m, st') => (.panic m, st')
    else parseExtraLoop len.toNat rest st
  | 0, _ :: _, st => (.err (.io .unexpectedEof), st)

/-- The tail of `central_header_to_zip_file`: I/O errors of the extra field parser are swallowed
(with whatever was already stored), other errors are returned; method 99 needs the AES record. -/
def parseEntryExtra (st0 : ExtraSt) (extra : Bytes) : Out ExtraSt :=
  let fin (st : ExtraSt) : Out ExtraSt :=
    if st.method = .aes ∧ st.aesMode.isNone then .err .invalidArchive else .ok st
  match parseExtraLoop 0 extra st0 with
  | (.ok _, st) => fin st
  | (.err (.io _), st) => fin st
  | (.err e, _) => .err e
  | (.panic m, _) => .panic m

/-- What `by_index*` looks at. -/
structure Entry where
  encrypted : Bool
  method : Method
  aesMode : Option (AesMode × VendorVersion)
  compressedSize : Nat
  crc32 : UInt32
  deriving DecidableEq, Repr

inductive CryptoReader (σ : Type)
  | plaintext (s : σ)
  | aes (r : Valid σ) (ver : VendorVersion)

def CryptoReader.isAe2Encrypted {σ} : CryptoReader σ → Bool
  | .aes _ .ae2 => true
  | _ => false

inductive Opened (σ : Type)
  | reader (r : CryptoReader σ)
  | invalidPassword
  /-- `(Some(password), None)`: the ZipCrypto arm (property C15) -/
  | zipCryptoPath

/-- `make_crypto_reader` (with the `aes-crypto` feature). `s` is the `Take` positioned at the data. -/
def makeCryptoReader {σ} (P : AesPrims) (S : Src σ) (e : Entry) (pw : Option Bytes) (s : σ) :
    Out (Opened σ) :=
  match e.method with
  | .unsupported _ => .err .unsupportedArchive
  | .aes => .err .unsupportedArchive
  | _ =>
    match pw, e.aesMode with
    | some p, some (mode, ver) =>
      match validate P S mode (dataLength mode e.compressedSize) s p with
      | (.err er, _) => .err er
      | (.panic m, _) => .panic m
      | (.ok none, _) => .ok .invalidPassword
      | (.ok (some r), _) => .ok (.reader (.aes r ver))
    | some _, none => .ok .zipCryptoPath
    | none, some _ => .ok .invalidPassword
    | none, none => .ok (.reader (.plaintext s))

/-- `by_index_with_optional_password` after the index lookup and `find_content`. -/
def byIndexOpt {σ} (P : AesPrims) (S : Src σ) (e : Entry) (pw : Option Bytes) (s : σ) :
    Out (Opened σ) :=
  match pw, e.encrypted with
  | none, true => .err .passwordRequired
  | some _, false => makeCryptoReader P S e none s
  | _, _ => makeCryptoReader P S e pw s

/-- `by_index`: `…(file_number, None)?.map_err(|_| PASSWORD_REQUIRED)` (before the fix: `.unwrap()`). -/
def byIndex {σ} (P : AesPrims) (S : Src σ) (e : Entry) (s : σ) : Out (CryptoReader σ) :=
  match byIndexOpt P S e none s with
  | .ok (.reader r) => .ok r
  | .ok _ => .err .passwordRequired
  | .err er => .err er
  | .panic m => .panic m

def byIndexDecrypt {σ} (P : AesPrims) (S : Src σ) (e : Entry) (pw : Bytes) (s : σ) :
    Out (Opened σ) :=
  byIndexOpt P S e (some pw) s

/-- `make_reader`: the flag handed to `Crc32Reader::new`; `_ => panic!` for the other methods. -/
def makeReaderFlag {σ} (m : Method) (r : CryptoReader σ) : Out Bool :=
  match m with
  | .stored | .deflated | .bzip2 | .zstd => .ok r.isAe2Encrypted
  | _ => .panic "Compression method not supported"

/-! ## `crc32.rs` : `Crc32Reader::read` over any inner reader and any hasher -/

structure CrcSt (H : Type) where
  hasher : H
  check : UInt32
  ae2 : Bool

def crcRead {H ι} (upd : H → Bytes → H) (fin : H → UInt32)
    (innerRead : ι → Nat → Out Bytes × ι) (c : CrcSt H) (i : ι) (n : Nat) :
    Out Bytes × CrcSt H × ι :=
  -- `if buf.is_empty() { return Ok(0) }`: a zero-length read never reaches the inner reader
  if n = 0 then (.ok [], c, i) else
  let invalidCheck : Bool := fin c.hasher ≠ c.check && !c.ae2
  match innerRead i n with
  | (.ok bs, i') =>
    if bs.length = 0 ∧ invalidCheck = true then (.err (.io .other), c, i')
    else (.ok bs, { c with hasher := upd c.hasher bs }, i')
  | (.err e, i') => (.err e, c, i')
  | (.panic m, i') => (.panic m, c, i')

/-! ## `ZipFile::read` of an AES entry: CRC layer ∘ decoder ∘ AES reader, and `finish_crypto` -/

/-- What the decoder sees from one `read` call on the reader below it. -/
inductive InnerRes
  | ok (bs : Bytes)
  | err (e : ZErr)

/-- One `read(buf)` call of a decompressor (`flate2`, `bzip2`, `zstd` readers), as an *arbitrary*
strategy: finish the call with a result and a new state, or call `read` on the AES reader with a
buffer of `k` bytes and continue depending on what came back. Any number of pulls of any sizes, any
returned bytes, an early end-of-file, spurious errors: everything is allowed. -/
inductive DecStep (δ : Type)
  | done (r : Out Bytes) (d : δ)
  | pull (k : Nat) (cont : InnerRes → DecStep δ)

structure Decoder (δ : Type) where
  read : δ → Nat → DecStep δ

/-- The only assumption ever made about a decoder: an error of the reader below ends the decoder's
own `read` call with an error (what `let input = obj.fill_buf()?;` does in all three crates). -/
inductive DecStep.Faithful {δ : Type} : DecStep δ → Prop
  | done (r : Out Bytes) (d : δ) : DecStep.Faithful (.done r d)
  | pull (k : Nat) (cont : InnerRes → DecStep δ)
      (herr : ∀ e, ∃ e' d, cont (.err e) = .done (.err e') d)
      (hok : ∀ bs, DecStep.Faithful (cont (.ok bs))) : DecStep.Faithful (.pull k cont)

def Decoder.Faithful {δ} (D : Decoder δ) : Prop := ∀ d n, (D.read d n).Faithful

/-- `Stored`: no decoder, the CRC layer sits directly on the crypto reader. -/
def storedDec : Decoder Unit :=
  ⟨fun _ n => .pull n fun r => .done (match r with | .ok bs => .ok bs | .err e => .err e) ()⟩

/-- Run one decoder call against the AES reader (a panic below unwinds through the decoder). -/
def runDec {σ δ} (P : AesPrims) (S : Src σ) (d0 : δ) : DecStep δ → Valid σ → Out Bytes × δ × Valid σ
  | .done r d, v => (r, d, v)
  | .pull k cont, v =>
    match Valid.read P S v k with
    | (.ok bs, v') => runDec P S d0 (cont (.ok bs)) v'
    | (.err e, v') => runDec P S d0 (cont (.err e)) v'
    | (.panic m, v') => (.panic m, d0, v')

/-- `io::copy(reader, &mut io::sink())`: `read` with the 8 KiB stack buffer until `Ok(0)` or `Err`.
Fuel `data_remaining + 1` suffices (every call that returns bytes makes progress, `finish_crypto_intact`). -/
def copyToSink {σ} (P : AesPrims) (S : Src σ) : Nat → Valid σ → Out Unit × Valid σ
  | 0, v => (.panic "unreachable: fuel", v)
  | f + 1, v =>
    match Valid.read P S v 8192 with
    | (.ok bs, v') => if bs.isEmpty then (.ok (), v') else copyToSink P S f v'
    | (.err e, v') => (.err e, v')
    | (.panic m, v') => (.panic m, v')

/-- `ZipFileReader::finish_crypto`: for `Deflated` / `Bzip2` / `Zstd` over `CryptoReader::Aes` read the
rest of the ciphertext; `Stored`: nothing (the decoder's end-of-stream is the ciphertext's). -/
def finishCrypto {σ} (P : AesPrims) (S : Src σ) (compressing : Bool) (v : Valid σ) : Out Unit × Valid σ :=
  if compressing then copyToSink P S (v.dataRemaining + 1) v else (.ok (), v)

structure EntrySt (σ δ H : Type) where
  dec : δ
  aes : Valid σ
  crc : CrcSt H

/-- `ZipFileReader::read`: `Crc32Reader` over the decoder over the AES reader. -/
def layersRead {σ δ H} (P : AesPrims) (S : Src σ) (D : Decoder δ) (upd : H → Bytes → H) (fin : H → UInt32)
    (st : EntrySt σ δ H) (n : Nat) : Out Bytes × EntrySt σ δ H :=
  match crcRead upd fin
      (fun (i : δ × Valid σ) k => runDec P S i.1 (D.read i.1 k) i.2) st.crc (st.dec, st.aes) n with
  | (r, c, (d, v)) => (r, ⟨d, v, c⟩)

/-- `ZipFile::read` as it was before the fix of D12: the decoder's end-of-file is the entry's. -/
def entryReadPreFix {σ δ H} (P : AesPrims) (S : Src σ) (D : Decoder δ) (upd : H → Bytes → H)
    (fin : H → UInt32) (st : EntrySt σ δ H) (n : Nat) : Out Bytes × EntrySt σ δ H :=
  layersRead P S D upd fin st n

/-- `ZipFile::read` (current code): `let count = self.get_reader().read(buf)?;
if count == 0 && !buf.is_empty() { self.reader.finish_crypto()?; } Ok(count)`. -/
def entryRead {σ δ H} (P : AesPrims) (S : Src σ) (D : Decoder δ) (compressing : Bool)
    (upd : H → Bytes → H) (fin : H → UInt32) (st : EntrySt σ δ H) (n : Nat) :
    Out Bytes × EntrySt σ δ H :=
  match layersRead P S D upd fin st n with
  | (.ok bs, st') =>
    if bs.length = 0 ∧ n ≠ 0 then
      match finishCrypto P S compressing st'.aes with
      | (.ok _, v') => (.ok bs, { st' with aes := v' })
      | (.err e, v') => (.err e, { st' with aes := v' })
      | (.panic m, v') => (.panic m, { st' with aes := v' })
    else (.ok bs, st')
  | (.err e, st') => (.err e, st')
  | (.panic m, st') => (.panic m, st')

/-- A caller of `ZipFile::read`: one call per buffer size, stop at the first error. -/
def entryDrain {σ δ H} (P : AesPrims) (S : Src σ) (D : Decoder δ) (compressing : Bool)
    (upd : H → Bytes → H) (fin : H → UInt32) : List Nat → EntrySt σ δ H → Bytes → Out Bytes × EntrySt σ δ H
  | [], st, acc => (.ok acc, st)
  | n :: ns, st, acc =>
    match entryRead P S D compressing upd fin st n with
    | (.ok out, st') => entryDrain P S D compressing upd fin ns st' (acc ++ out)
    | (.err e, st') => (.err e, st')
    | (.panic m, st') => (.panic m, st')

end ZipVerif.Model.Aes
