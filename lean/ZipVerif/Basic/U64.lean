import ZipVerif.Basic.Rs

/-!
Rust's `u64` / `usize` against `Nat`.  The translated code computes in `UInt64` with checked `+ - *` (`Rs.Arith`), the
model in `Nat`; the two meet through `UInt64.ofNat n` for an `n < 2 ^ 64`, in a tie and wherever the model itself holds
a `UInt64` (`U64.toNat_ofNat` is used on that side too).  The checked operations are stated twice, on arbitrary
`UInt64` values and on such images.  Bounds are written `2 ^ 64`: `omega` produces that, and a hypothesis spelt
`18446744073709551616` is accepted for it as it stands.
-/

namespace ZipVerif.U64

/-- core's `UInt64.toNat_ofNat_of_lt'`, whose bound `UInt64.size` `omega` does not unfold -/
theorem toNat_ofNat {n : Nat} (h : n < 2 ^ 64) : (UInt64.ofNat n).toNat = n := UInt64.toNat_ofNat_of_lt' h

theorem toNat_ofNat_sub (c : UInt64) (n : Nat) : (UInt64.ofNat (c.toNat - n)).toNat = c.toNat - n :=
  toNat_ofNat (Nat.lt_of_le_of_lt (Nat.sub_le ..) c.toNat_lt)

theorem ofNat_inj {a b : Nat} (ha : a < 2 ^ 64) (hb : b < 2 ^ 64) : UInt64.ofNat a = UInt64.ofNat b ↔ a = b :=
  ⟨fun h => by rw [← toNat_ofNat ha, h, toNat_ofNat hb], congrArg _⟩

theorem ofNat_eq_zero {n : Nat} (h : n < 2 ^ 64) : UInt64.ofNat n = 0 ↔ n = 0 := ofNat_inj (b := 0) h (by omega)

/-- the translated guard `x == 0` -/
theorem ofNat_beq_zero {n : Nat} (h : n < 2 ^ 64) : (UInt64.ofNat n == 0) = decide (n = 0) :=
  Bool.eq_iff_iff.mpr (beq_iff_eq.trans ((ofNat_eq_zero h).trans decide_eq_true_iff.symm))

theorem min_ofNat {a b : Nat} (ha : a < 2 ^ 64) (hb : b < 2 ^ 64) :
    min (UInt64.ofNat a) (UInt64.ofNat b) = UInt64.ofNat (min a b) := by
  rw [Nat.min_def, apply_ite UInt64.ofNat]
  show (if UInt64.ofNat a ≤ UInt64.ofNat b then _ else _) = _
  simp only [UInt64.ofNat_le_iff_le ha hb]

theorem max_ofNat {a b : Nat} (ha : a < 2 ^ 64) (hb : b < 2 ^ 64) :
    max (UInt64.ofNat a) (UInt64.ofNat b) = UInt64.ofNat (max a b) := by
  rw [Nat.max_def, apply_ite UInt64.ofNat]
  show (if UInt64.ofNat a ≤ UInt64.ofNat b then _ else _) = _
  simp only [UInt64.ofNat_le_iff_le ha hb]

theorem ofNat_succ (i : Nat) : UInt64.ofNat i + 1 = UInt64.ofNat (i + 1) := (UInt64.ofNat_add i 1).symm

theorem sub_eq_ofNat (a k : UInt64) (h : k.toNat ≤ a.toNat) : a - k = UInt64.ofNat (a.toNat - k.toNat) := by
  rw [UInt64.ofNat_sub h, UInt64.ofNat_toNat, UInt64.ofNat_toNat]

theorem toNat_sub_ofNat (x : UInt64) {m : Nat} (h : m ≤ x.toNat) : (x - UInt64.ofNat m).toNat = x.toNat - m := by
  have hm := toNat_ofNat (Nat.lt_of_le_of_lt h x.toNat_lt)
  rw [UInt64.toNat_sub_of_le _ _ (by rw [UInt64.le_iff_toNat_le, hm]; exact h), hm]

theorem len_toNat (bs : Bytes) (h : bs.length < 2 ^ 64) : (Rs.len bs).toNat = bs.length := toNat_ofNat h

/-! ### the checked operations, on `UInt64` values … -/

theorem add_some (a b : UInt64) (h : a.toNat + b.toNat < 2 ^ 64) :
    Rs.Arith.add a b = some (a + b) ∧ (a + b).toNat = a.toNat + b.toNat :=
  ⟨if_pos h, by rw [UInt64.toNat_add]; omega⟩

theorem add_none (a b : UInt64) (h : ¬ a.toNat + b.toNat < 2 ^ 64) : Rs.Arith.add a b = none := if_neg h

theorem sub_some (a b : UInt64) (h : b.toNat ≤ a.toNat) :
    Rs.Arith.sub a b = some (a - b) ∧ (a - b).toNat = a.toNat - b.toNat :=
  ⟨if_pos h, UInt64.toNat_sub_of_le _ _ (UInt64.le_iff_toNat_le.mpr h)⟩

theorem sub_none (a b : UInt64) (h : ¬ b.toNat ≤ a.toNat) : Rs.Arith.sub a b = none := if_neg h

/-! ### … and on the images of numbers -/

theorem add_ofNat {a b : Nat} (ha : a < 2 ^ 64) (hb : b < 2 ^ 64) :
    Rs.Arith.add (UInt64.ofNat a) (UInt64.ofNat b) = if a + b < 2 ^ 64 then some (UInt64.ofNat (a + b)) else none := by
  show (if (UInt64.ofNat a).toNat + (UInt64.ofNat b).toNat < 2 ^ 64 then
    some (UInt64.ofNat a + UInt64.ofNat b) else none) = _
  rw [toNat_ofNat ha, toNat_ofNat hb, UInt64.ofNat_add]

theorem sub_ofNat {a b : Nat} (ha : a < 2 ^ 64) (hb : b < 2 ^ 64) :
    Rs.Arith.sub (UInt64.ofNat a) (UInt64.ofNat b) = if b ≤ a then some (UInt64.ofNat (a - b)) else none := by
  show (if (UInt64.ofNat b).toNat ≤ (UInt64.ofNat a).toNat then some (UInt64.ofNat a - UInt64.ofNat b) else none) = _
  rw [toNat_ofNat ha, toNat_ofNat hb]
  by_cases h : b ≤ a
  · rw [if_pos h, if_pos h, UInt64.ofNat_sub h]
  · rw [if_neg h, if_neg h]

theorem mul_ofNat {a b : Nat} (ha : a < 2 ^ 64) (hb : b < 2 ^ 64) :
    Rs.Arith.mul (UInt64.ofNat a) (UInt64.ofNat b) = if a * b < 2 ^ 64 then some (UInt64.ofNat (a * b)) else none := by
  show (if (UInt64.ofNat a).toNat * (UInt64.ofNat b).toNat < 2 ^ 64 then
    some (UInt64.ofNat a * UInt64.ofNat b) else none) = _
  rw [toNat_ofNat ha, toNat_ofNat hb, UInt64.ofNat_mul]

end ZipVerif.U64
