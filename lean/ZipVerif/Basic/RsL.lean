import ZipVerif.Basic.Rs
import ZipVerif.Basic.Out
import ZipVerif.Spec.Crc32
/-
Prelude for the LAYER mode of `rs2lean` (tier T6): methods of a structure that wraps an inner
`R: Read` / `W: Write` (`Crc32Reader<R>`, `ZipCryptoReaderValid<R>`, `AesReaderValid<R>`, …).

* The generated definition is a plain function (`Id.run do …`) of the arguments and of the values of
  everything the Rust function may mutate (`&mut self`, `buf: &mut [u8]`); it returns the outcome
  TOGETHER WITH the final values of those: `(outcome, self, buf)`.  Every exit site of the Rust text
  (`return …`, `?` on a failed result, the tail expression, a panic) is one `return (…, self, buf)`
  with the values the variables have at that point, so what a failed call leaves behind is part of
  the translation.
* Outcome of a function returning `io::Result<T>`: `IoRes T` (`ok` / `err kind` / `panic`); of a
  function returning `T`: `Option T` (`none` = panic).  `io::Error` values are their `ErrorKind`
  (`ZipVerif.IoKind`), messages are dropped.
* Integers keep their Rust widths (`usize` = `u64` = `UInt64`), `+ - *` are checked (`Rs.Arith`),
  indexing and slicing are checked (`L.idx`, `Rs.slice*`): a `none` is a panic exit.
* The inner reader / writer is an arbitrary member of the class `Read` / `Write` below; the
  vocabulary `inner.read(buf)`, `read_exact`, `write_all`, `flush` is given meaning ONCE here.

Trusted vocabulary (external code, not translated):
  `std::io::Read::read` of the type parameter = `Read.rd` (an arbitrary function of the reader's state
  and the buffer LENGTH returning the bytes delivered, an error kind, or a panic); the caller's buffer
  receives the delivered bytes at its front, the count is their number (`L.read`).  On `Err` the
  buffer is taken as unchanged (no model observes a buffer after an error).
  `Read::read_exact` = std's default body (`L.readExactAux`), `Write::write_all` = std's default body
  (`L.writeAllAux`), without their retry on `ErrorKind::Interrupted`: an `Err` of any kind ends the loop.
  `crc32fast::Hasher::{new, update, finalize, clone}` = the raw CRC-32 register of `Spec.Crc32`
  (`Crc32Hasher`).
  `impl Write for &mut [u8]` (`write_all` on a temporary view) = `L.sliceWriteAll`.

Loops: `for b in xs.iter_mut()` = `L.iterMut`, `for (a, b) in xs.iter_mut().zip(ys.iter())` = `L.iterMutZip`,
`while c { … }` = `L.whileLoop` with fuel (out of fuel = panic; the Tie shows the fuel adequate).  A panic
inside a loop body leaves the function with the values the variables had BEFORE the loop (the state after a
panic is not observable).  A `mut x: &mut [u8]` parameter is a VIEW into the caller's buffer that the body may
shorten from the front (`x = &mut x[n..]`, `L.splitAt`): `x` is the view, `x'` what was left behind, and the
caller's buffer at every exit is `x' ++ x`.
-/

namespace Rs
open ZipVerif

/-- Outcome of a function returning `io::Result<α>`. -/
inductive IoRes (α : Type) where
  | ok (a : α)
  | err (e : ZipVerif.IoKind)
  | panic
  deriving Repr, DecidableEq

/-- `r?` on a result that is not `Ok`: the same failure at the caller's result type. -/
def IoRes.fail {α β : Type} : IoRes α → IoRes β
  | .err e => .err e
  | _ => .panic

/-- `r.unwrap()` / `r.expect(msg)` -/
def IoRes.unwrap {α : Type} : IoRes α → Option α
  | .ok a => some a
  | _ => none

/-- What one `read` call of an inner reader delivered. -/
inductive RdRes where
  | ok (bs : Bytes)
  | err (e : ZipVerif.IoKind)
  | panic
  deriving Repr, DecidableEq

/-- `R: std::io::Read`: one `read` call with a buffer of `n` bytes. `ok bs` with `bs.length > n` stands
for a reader that returns a count larger than the buffer. -/
class Read (R : Type) where
  rd : R → Nat → RdRes × R

/-- What one `write` call of an inner writer did. -/
inductive WrRes where
  | ok (k : Nat)
  | err (e : ZipVerif.IoKind)
  | panic
  deriving Repr, DecidableEq

/-- `W: std::io::Write` -/
class Write (W : Type) where
  wr : W → Bytes → WrRes × W
  fl : W → IoRes Unit × W

/-- `crc32fast::Hasher`: the raw register. -/
structure Crc32Hasher where
  reg : UInt32
  deriving DecidableEq, Repr

/-- `Hasher::new()` -/
def Crc32Hasher.new : Crc32Hasher := ⟨0xFFFFFFFF⟩
/-- `hasher.update(bytes)` -/
def Crc32Hasher.update (h : Crc32Hasher) (bs : Bytes) : Crc32Hasher := ⟨Spec.Crc32.updateBytes h.reg bs⟩
/-- `hasher.finalize()` -/
def Crc32Hasher.finalize (h : Crc32Hasher) : UInt32 := h.reg ^^^ 0xFFFFFFFF
/-- `hasher.clone()` -/
def Crc32Hasher.clone (h : Crc32Hasher) : Crc32Hasher := h

/-- `io::ErrorKind::K` / `io::Error::new(io::ErrorKind::K, msg)` -/
def ioKind : Rs.IoKind → ZipVerif.IoKind
  | .Other => .other
  | .InvalidData => .invalidData
  | .InvalidInput => .invalidInput
  | .UnexpectedEof => .unexpectedEof
  | .WriteZero => .writeZero
  | .BrokenPipe => .brokenPipe

namespace L

/-- `r.read(buf)`: the result, the reader afterwards, the buffer afterwards. -/
def read {R : Type} [Read R] (r : R) (buf : Bytes) : IoRes UInt64 × R × Bytes :=
  match Read.rd r buf.length with
  | (.ok bs, r') => (.ok (UInt64.ofNat bs.length), r', (bs ++ buf.drop bs.length).take buf.length)
  | (.err e, r') => (.err e, r', buf)
  | (.panic, r') => (.panic, r', buf)

/-- `Read::read_exact`, default body: `read` until the buffer is full; `Ok(0)` before that is
`UnexpectedEof`; `&mut buf[n..]` with `n > len` panics. `fuel`: `read_exact` supplies the length. -/
def readExactAux {R : Type} [Read R] : Nat → R → Nat → RdRes × R
  | _, r, 0 => (.ok [], r)
  | 0, r, _ + 1 => (.panic, r)
  | fuel + 1, r, n + 1 =>
    match Read.rd r (n + 1) with
    | (.ok bs, r') =>
      if bs = [] then (.err .unexpectedEof, r')
      else if bs.length ≤ n + 1 then
        match readExactAux fuel r' (n + 1 - bs.length) with
        | (.ok rest, r'') => (.ok (bs ++ rest), r'')
        | x => x
      else (.panic, r')
    | (.err e, r') => (.err e, r')
    | (.panic, r') => (.panic, r')

/-- `r.read_exact(buf)` -/
def read_exact {R : Type} [Read R] (r : R) (buf : Bytes) : IoRes Unit × R × Bytes :=
  match readExactAux buf.length r buf.length with
  | (.ok bs, r') => (.ok (), r', bs)
  | (.err e, r') => (.err e, r', buf)
  | (.panic, r') => (.panic, r', buf)

/-- `Write::write_all`, default body: `Ok(0)` is `WriteZero`, otherwise go on with `&buf[n..]`. -/
def writeAllAux {W : Type} [Write W] : Nat → W → Bytes → IoRes Unit × W
  | _, w, [] => (.ok (), w)
  | 0, w, _ :: _ => (.panic, w)
  | fuel + 1, w, b :: bs =>
    match Write.wr w (b :: bs) with
    | (.ok 0, w') => (.err .writeZero, w')
    | (.ok k, w') =>
      if k ≤ (b :: bs).length then writeAllAux fuel w' ((b :: bs).drop k) else (.panic, w')
    | (.err e, w') => (.err e, w')
    | (.panic, w') => (.panic, w')

/-- `w.write_all(buf)` -/
def write_all {W : Type} [Write W] (w : W) (buf : Bytes) : IoRes Unit × W := writeAllAux buf.length w buf

/-- `w.flush()` -/
def flush {W : Type} [Write W] (w : W) : IoRes Unit × W := Write.fl w

/-- `x[i]` on a byte slice -/
def idx (bs : Bytes) (i : UInt64) : Option UInt8 := bs[i.toNat]?

/-- `x[i] = v` on a byte slice -/
def setIdx (bs : Bytes) (i : UInt64) (v : UInt8) : Option Bytes :=
  if i.toNat < bs.length then some (bs.set i.toNat v) else none

/-- write-back of a `&mut x[lo..hi]` that was handed to a callee: `new` replaces the bytes from `lo` on -/
def splice (buf : Bytes) (lo : UInt64) (new : Bytes) : Bytes :=
  buf.take lo.toNat ++ new ++ buf.drop (lo.toNat + new.length)

/-- `for byte in xs.iter_mut() { body }` where the body may assign `*byte` and the loop-carried
variables `st`; a panic in the body is a panic of the loop. -/
def iterMut {σ : Type} (xs : Bytes) (st : σ) (f : σ → UInt8 → Option (UInt8 × σ)) : Option (Bytes × σ) :=
  match xs with
  | [] => some ([], st)
  | b :: bs =>
    match f st b with
    | none => none
    | some (b', st') =>
      match iterMut bs st' f with
      | none => none
      | some (bs', st'') => some (b' :: bs', st'')

/-- `for (a, b) in xs.iter_mut().zip(ys.iter()) { body }`: stops with the shorter of the two; the body may
assign `*a` and the loop-carried variables `st`. -/
def iterMutZip {σ : Type} (xs ys : Bytes) (st : σ) (f : σ → UInt8 → UInt8 → Option (UInt8 × σ)) : Option (Bytes × σ) :=
  match xs, ys with
  | [], _ => some ([], st)
  | b :: bs, [] => some (b :: bs, st)
  | b :: bs, c :: cs =>
    match f st b c with
    | none => none
    | some (b', st') =>
      match iterMutZip bs cs st' f with
      | none => none
      | some (bs', st'') => some (b' :: bs', st'')

/-- `while cond { body }` over the loop-carried variables `st`; a panic in the body is a panic of the loop.
Running out of fuel is a panic too: a Tie proof has to show the generated fuel adequate. -/
def whileLoop {σ : Type} : Nat → σ → (σ → Bool) → (σ → Option σ) → Option σ
  | 0, _, _, _ => none
  | fuel + 1, st, cond, body =>
    if cond st then
      match body st with
      | none => none
      | some st' => whileLoop fuel st' cond body
    else some st

/-- `for x in xs { body }` over a list value with the loop-carried variables `st`: the body goes on
(`Step.next`) or leaves the FUNCTION with a result (`Step.ret`: `return`, a failed `?`); `none` = panic. -/
def forEach {α σ ρ : Type} (xs : List α) (st : σ) (f : σ → α → Option (Step σ ρ)) : Option (LoopEnd σ ρ) :=
  match xs with
  | [] => some (.done st)
  | x :: r =>
    match f st x with
    | none => none
    | some (.next st') => forEach r st' f
    | some (.brk st') => some (.done st')
    | some (.ret v) => some (.ret v)

/-- `xs.fold(init, |acc, x| body)` where the body may panic -/
def foldM {α σ : Type} (xs : List α) (init : σ) (f : σ → α → Option σ) : Option σ :=
  match xs with
  | [] => some init
  | x :: r =>
    match f init x with
    | none => none
    | some s => foldM r s f

/-- `x = &mut x[n..]` on a `mut x: &mut [u8]` parameter: the bytes left behind and the new view
(`n > x.len()` panics) -/
def splitAt (bs : Bytes) (n : UInt64) : Option (Bytes × Bytes) :=
  if n.toNat ≤ bs.length then some (bs.take n.toNat, bs.drop n.toNat) else none

/-- `Write for &mut [u8]`, `write_all(data)` on a temporary view of `buf` (`buf.as_mut().write_…`): the
front of `buf` is overwritten; data that does not fit is `WriteZero` after the part that fits was copied. -/
def sliceWriteAll (buf data : Bytes) : IoRes Unit × Bytes :=
  if data.length ≤ buf.length then (.ok (), data ++ buf.drop data.length)
  else (.err .writeZero, data.take buf.length)

/-- `opt.ok_or_else(|| err)` -/
def okOr {α : Type} (o : Option α) (e : ZipVerif.IoKind) : IoRes α :=
  match o with
  | some a => .ok a
  | none => .err e

/-- `assert!(c)` -/
def assert (c : Bool) : Option Unit := if c then some () else none

/-- `a == b` / `a != b` on byte slices and vectors -/
def bytesEq (a b : Bytes) : Bool := decide (a = b)

/-! Unfolding of the `Id.run do …` wrapper of the generated definitions (for Tie proofs). -/
theorem id_pure {α : Type} (x : α) : (pure x : Id α) = x := rfl
theorem id_bind {α β : Type} (x : Id α) (f : α → Id β) : (x >>= f) = f x := rfl

end L
end Rs
