import ZipVerif.Basic.RsM
import ZipVerif.Model.Writer
/-
Prelude for the STATE-MACHINE mode of `rs2lean` (tier T6, `rs2lean/src/t6w.rs`): a method
`fn f(&mut self, …) -> ZipResult<R>` / `io::Result<R>` of a structure that owns its sink
(`impl ZipWriter`) is translated into

    Gen.T.f (ext : Rs.S.Ext) (self : Gen.T) (…) : Rs.S Gen.T (R × Gen.T)

a computation in the model's I/O monad `M` that threads the value of `self` explicitly:
* `Rs.S σ α = M (Except (ZErr × σ) α)`: `Err(e)` carries the value `self` had when the method
  returned (Rust mutates in place, the caller keeps the object); a panic is `M.panic` (the object is
  gone with the unwinding); every failure site (`S.err`, `S.lift`, `S.io`, `S.ofResult`) is handed the
  current `self`.
* `self.field = v` is a record update of the local `self`; a `&mut` alias of a part of `self`
  (`let file = self.files.last_mut().unwrap()`) is a local copy that is written back after every
  assignment through it (`Rs.setLast`).
* `x?` on a sink operation (`writer.seek(..)?`, `writer.write_all(..)?`, a translated serialiser
  called with the sink) is `S.io`: the device error becomes the method's error.
* calling another `&mut self` method is a bind (the callee's final `self` is the caller's).

The compressor stack under `self.inner` (`GenericZipWriter`, `MaybeEncrypted`, flate2 / bzip2 / zstd
encoders, `ZipCryptoWriter`) is EXTERNAL code.  Its vocabulary is given the meaning of the model's
existing treatment (`Model/Writer.lean`: `Inner`, `EncState`, `WExt`, `switchTo`, `emit`,
`emitFinish`); this table is part of the trusted base and restated in `Tie/WriterSM.lean`.
-/

namespace Rs
open ZipVerif ZipVerif.Model

/-- `crc32fast::Hasher`: the raw CRC register (`Hasher::new()` = all ones). -/
abbrev Hasher := UInt32
def Hasher.new : Hasher := 0xFFFFFFFF
/-- `hasher.update(buf)` -/
def Hasher.update (h : Hasher) (buf : Bytes) : Hasher := Spec.Crc32.updateBytes h buf
/-- `hasher.clone().finalize()` -/
def Hasher.finalize (h : Hasher) : UInt32 := Model.hasherFinalize h

/-- `vec.last()` / `vec.last_mut()` -/
def last {α} (v : List α) : Option α := v.getLast?
/-- writing `x` through the `&mut` that `vec.last_mut()` returned -/
def setLast {α} (v : List α) (x : α) : List α :=
  match v.reverse with
  | [] => []
  | _ :: rest => (x :: rest).reverse
/-- the last byte of a `String`'s UTF-8 bytes (`s.chars().last()` matched against ASCII literals) -/
def lastByte (s : Bytes) : Option UInt8 := s.getLast?
/-- `vec.push(x)` -/
def push {α} (v : List α) (x : α) : List α := v ++ [x]
/-- `vec.len()` -/
def vlen {α} (v : List α) : UInt64 := UInt64.ofNat v.length
/-- `<Vec<u8> as Write>::write(buf)`: appends everything, `Ok(buf.len())` -/
def vecWrite (v buf : Bytes) : Except ZErr UInt64 × Bytes := (.ok (Rs.len buf), v ++ buf)

/-- How a `&mut self` method ends: `Ok(a)`, or `Err(e)` with the value of `self` at that point. -/
structure S (σ α : Type) : Type where
  ofM ::
  toM : M (Except (ZErr × σ) α)

namespace S
variable {σ τ α β : Type}

/-- the compressor stack `GenericZipWriter<W>` over the sink: the model's `Inner` -/
abbrev Inner := Model.Inner
/-- external code on the write side: the model's `WExt` (encoder output, ZipCrypto), plus how many
bytes of a buffer ONE `write` call of an encoder consumes (flate2 / bzip2 / zstd may take fewer than
offered; the model's `write_all` view of an entry is `accept = length`) -/
structure Ext extends Model.WExt where
  accept : Bytes → Nat
  accept_le : ∀ b, accept b ≤ b.length

instance : Monad (S σ) where
  pure a := ofM (pure (.ok a))
  bind x f := ofM (toM x >>= fun r => match r with
    | .ok a => toM (f a)
    | .error e => pure (.error e))

/-- `return Err(e)` / `Err(e)?` -/
def err (e : ZipErr) (st : σ) : S σ α := ofM (pure (.error (zerr e, st)))
/-- `Err(e)` for an error value bound by a pattern (already a model error) -/
def throw (e : ZErr) (st : σ) : S σ α := ofM (pure (.error (e, st)))
/-- a panic-monad computation (checked arithmetic, `unwrap`, indexing, `get_plain`) -/
def lift (o : Option α) (st : σ) : S σ α :=
  match o with
  | some a => pure a
  | none => ofM (M.panic "rs2lean: checked operation")
/-- `panic!` / `unreachable!` / a failed `assert!` -/
def panic (st : σ) : S σ α := ofM (M.panic "rs2lean: panic")
/-- `op?` on the sink: a device error is the method's error -/
def io (m : M α) (st : σ) : S σ α := ofM (do
  let r ← M.attempt m
  match r with
  | .ok a => pure (.ok a)
  | .error e => pure (.error (e, st)))
/-- `r?` / `r` in result position, for a `Result` value -/
def ofResult (r : Except ZErr α) (st : σ) : S σ α :=
  match r with
  | .ok a => pure a
  | .error e => ofM (pure (.error (e, st)))
/-- an operation of the external vocabulary (it reports its own errors as a value) -/
def call (m : M α) : S σ α := ofM (m >>= fun a => pure (.ok a))
/-- a `&mut self` method of a part `self.field` of the object: `wrap` puts the part back -/
def sub (wrap : τ → σ) (x : S τ α) : S σ α := ofM (toM x >>= fun r => match r with
  | .ok a => pure (.ok a)
  | .error (e, t) => pure (.error (e, wrap t)))
/-- a `&mut self` method called without `?`: the `Result` as a value, `self` as the callee left it -/
def attempt (x : S σ (α × σ)) : S σ (Except ZErr α × σ) := ofM (toM x >>= fun r => match r with
  | .ok (a, s) => pure (.ok (.ok a, s))
  | .error (e, s) => pure (.ok (.error e, s)))
/-- `opt.ok_or(e)?` / `opt.ok_or_else(|| e)?` -/
def okOr (o : Option α) (e : ZipErr) (st : σ) : S σ α :=
  match o with
  | some a => pure a
  | none => ofM (pure (.error (zerr e, st)))

/-- what a translated serialiser (`Rs.W Act`) handed to the sink, replayed on the device -/
def replay : List Act → M Unit
  | [] => pure ()
  | .write bs :: as => do M.writeAll bs; replay as
  | .seek p :: as => do let _ ← M.seek (.start p.toNat); replay as

/-- `serialiser(writer, …)?` with the bare sink: its writes and seeks in order (every one of them is
followed by `?` in the serialiser, so the first device error ends the call), then its own outcome -/
def runW (x : W Act α) (st : σ) : S σ α := ofM (do
  let r ← M.attempt (replay x.log)
  match r with
  | .error e => pure (.error (e, st))
  | .ok _ =>
    match x.res with
    | some (.ok a) => pure (.ok a)
    | some (.error e) => pure (.error (zerr e, st))
    | none => M.panic "rs2lean: checked operation")

/-- `serialiser(writer, …)?` for a serialiser that only writes (`T: Write`): its chunks, one `write_all`
each (`M.writeChunks`), then its own outcome -/
def runWB (x : W Bytes α) (st : σ) : S σ α := ofM (do
  let r ← M.attempt (M.writeChunks x.log)
  match r with
  | .error e => pure (.error (e, st))
  | .ok _ =>
    match x.res with
    | some (.ok a) => pure (.ok a)
    | some (.error e) => pure (.error (zerr e, st))
    | none => M.panic "rs2lean: checked operation")

/-- `for x in xs.iter() { body }` where the body changes no variable of the enclosing function and leaves
only through `?` -/
def forEach {γ : Type} (xs : List γ) (body : γ → S σ Unit) : S σ Unit :=
  match xs with
  | [] => pure ()
  | x :: rest => do body x; forEach rest body

/-- `self.write_all(buf)`: std's default body of `Write::write_all` over the object's own `write`
(`Ok(0)` is `WriteZero`; the rest `&buf[n..]` goes on; `ErrorKind::Interrupted` is not produced by
the model's sink); fuel `buf.len() + 1`, running out of it is a panic -/
def write_all (w : σ → Bytes → S σ (UInt64 × σ)) : Nat → σ → Bytes → S σ (Unit × σ)
  | 0, _, _ => ofM (M.panic "rs2lean: loop fuel")
  | fuel + 1, st, buf =>
    if buf.isEmpty then pure ((), st) else do
      let (n, st') ← w st buf
      if n == 0 then err (.Io .WriteZero) st'
      else match Rs.sliceFrom buf n with
        | some rest => write_all w fuel st' rest
        | none => ofM (M.panic "rs2lean: checked operation")

/-- the method as a step of the model's writer: outcome and final `self` -/
def run (x : S σ (α × σ)) : M (Except ZErr α × σ) := toM x >>= fun r => match r with
  | .ok (a, s) => pure (.ok a, s)
  | .error (e, s) => pure (.error e, s)

/-! ### Vocabulary of the external compressor stack (trusted: the model's treatment) -/

/-- `GenericZipWriter::Closed` -/
abbrev closed : Inner := Model.Inner.closed

/-- `inner.ref_mut()`: `None` when closed, else the current encoder as `&mut dyn Write` -/
def ref_mut (i : Inner) : Option Unit :=
  match i with
  | .closed => none
  | _ => some ()

/-- `inner.is_closed()` -/
def is_closed (i : Inner) : Bool := i.isClosed

/-- `inner.get_plain()`: the bare sink; panics unless `Storer(Unencrypted(_))` -/
def get_plain (i : Inner) : Option Unit :=
  match i with
  | .storer none => some ()
  | _ => none

/-- `inner.unwrap()`: the bare sink, by value; panics unless `Storer(Unencrypted(_))` -/
def unwrap_sink (i : Inner) : Option Unit := get_plain i

/-- `w.write(buf)` on the `&mut dyn Write` of `ref_mut()`: a plain storer hands the buffer to the
sink (one `write` call, the sink's count); the ZipCrypto layer buffers it; an encoder consumes it
`ext.accept buf` bytes of it (its output reaches the sink when the encoder is finished, see `switch_to`). -/
def enc_write (ext : Ext) (i : Inner) (buf : Bytes) : M (Except ZErr UInt64 × Inner) :=
  match i with
  | .storer none => do
    let r ← M.attempt (M.write buf)
    match r with
    | .ok n => pure (.ok (UInt64.ofNat n), i)
    | .error e => pure (.error e, i)
  | .storer (some e) => pure (.ok (Rs.len buf), .storer (some { e with buffer := e.buffer ++ buf }))
  | .compressor m l enc pending =>
    pure (.ok (UInt64.ofNat (ext.accept buf)), .compressor m l enc (pending ++ buf.take (ext.accept buf)))
  | .closed => M.panic "rs2lean: write through a closed writer"

/-- `w.flush()` on the `&mut dyn Write` of `ref_mut()`: a plain storer forwards to the sink's own `flush`
(one I/O call); `ZipCryptoWriter::flush` is `Ok(())` without I/O; an encoder's `flush` (flate2 / bzip2 / zstd:
end the current block, hand the compressed bytes so far to the layer below) is given the model's meaning
(`Model.flushWriter`): `Ok(())`, the state of the stack as this model sees it unchanged, no sink call - the
calls it would make under an injected fault are NOT modelled. -/
def enc_flush (ext : Ext) (i : Inner) : M (Except ZErr Unit) :=
  match i with
  | .storer none => M.attempt M.flush
  | .storer (some _) => pure (.ok ())
  | .compressor _ _ _ _ => pure (.ok ())
  | .closed => M.panic "rs2lean: flush through a closed writer"

/-- The panic of `position` below. -/
def OVF : String := "rs2lean: sink position exceeds u64"

/-- `writer.stream_position()` on the bare sink (before `?`): one `seek(Current(0))` call.  A real sink's
position IS a `u64`; the model's device counts in `Nat`, so on a (model-only) device whose position
does not fit the translated code stops with the distinguished panic `OVF` - Tie theorems for methods
that read positions are refinements "equal to the model wherever not `OVF`" (`Tie/WriterSM.lean`). -/
def position : M UInt64 := do
  let p ← M.streamPosition
  if p < 18446744073709551616 then pure (UInt64.ofNat p) else M.panic OVF

/-- a `CompressionMethod` value as the model's `Method` (instance for the generated enum: `Tie/WriterVocab.lean`) -/
class IsMethod (μ : Type) where
  toModel : μ → Model.Method

/-- `inner.switch_to(method, level)` as the translated `ZipWriter` methods call it: the model's `switchTo`
(finish the current encoder - its whole output goes to the sink or into the ZipCrypto buffer -, check the
level, start the new encoder).  `Tie/SwitchTo.lean` proves the TRANSLATED `GenericZipWriter::switch_to`
(`Gen/SwitchTo.lean`, over `GZW` below) equal to this function. -/
def switch_to {μ : Type} [IsMethod μ] (ext : Ext) (i : Inner) (m : μ) (level : Option Int32) :
    M (Except ZErr Unit × Inner) := do
  let (r, s) ← Model.switchTo ext.toWExt (IsMethod.toModel m) (level.map Int32.toInt) { WState.init with inner := i }
  pure (r, s.inner)

/-- `ZipCryptoWriter::finish(crc32)`: patch the check byte into the 12-byte header, encrypt the
buffer, hand it to the sink (`write_all`), `flush`; the value is the bare sink.  `Tie/ZcFinish.lean` links this
with the translated `Gen.ZipCryptoWriter.finish` over the model's device. -/
def zc_finish (ext : Ext) (e : EncState) (crc : UInt32) : M Unit :=
  if e.buffer.length < 12 then M.panic "zipcrypto.rs:133 buffer[11]" else do
    M.writeAll (ext.zcEncrypt e.pw (e.buffer.take 11 ++ [(crc >>> 24).toUInt8] ++ e.buffer.drop 12))
    M.flush

/-- `ZipCryptoWriter::write` / `write_all`: the bytes are buffered until `finish` -/
def zc_write (e : EncState) (bs : Bytes) : EncState := { e with buffer := e.buffer ++ bs }

/-! ### `GenericZipWriter` as the Rust enum, for the translation of ITS OWN methods (`switch_to`,
`current_compression`; `rs2lean/src/t6w3.rs`, tie: `Tie/SwitchTo.lean`) -/

/-- a flate2 / bzip2 / zstd write-side encoder over `MaybeEncrypted<W>`: its level, what it wraps
(`none` = the bare sink, `some` = the ZipCrypto layer), the plaintext it has consumed -/
structure Enc where
  level : Int
  inner : Option EncState
  pending : Bytes

/-- `GenericZipWriter<W>`, one constructor per variant (features deflate, bzip2, zstd on) -/
inductive GZW
  | Storer (w : Option EncState)
  | Deflater (w : Enc)
  | Bzip2 (w : Enc)
  | Zstd (w : Enc)
  | Closed

/-- the compressor stack of the model (`Model.Inner`) that a Rust value stands for -/
def GZW.toInner : GZW → Inner
  | .Storer w => .storer w
  | .Deflater w => .compressor .deflated w.level w.inner w.pending
  | .Bzip2 w => .compressor .bzip2 w.level w.inner w.pending
  | .Zstd w => .compressor .zstd w.level w.inner w.pending
  | .Closed => .closed

/-- `x?` on an operation of the external vocabulary that reports its own errors as a value -/
def tryM (m : M (Except ZErr α)) (st : σ) : S σ α := ofM (m >>= fun r => match r with
  | .ok a => pure (.ok a)
  | .error e => pure (.error (e, st)))

/-- `encoder.finish()` (before `?`): the encoder's whole output - `ext.compress` of everything it consumed -
goes to what it wraps: appended to the ZipCrypto buffer, or ONE `write_all` on the sink; the value is the
wrapped `MaybeEncrypted<W>`.  When that write fails the encoder is dropped with the error, and flate2's /
bzip2's destructors (`retry`) try the same write once more, result ignored; zstd's has no such destructor. -/
def enc_finish (ext : Ext) (m : Method) (retry : Bool) (w : Enc) : M (Except ZErr (Option EncState)) :=
  match w.inner with
  | some e => pure (.ok (some { e with buffer := e.buffer ++ ext.compress m w.level w.pending }))
  | none => do
    let r ← M.attempt (M.writeAll (ext.compress m w.level w.pending))
    match r with
    | .ok _ => pure (.ok none)
    | .error e =>
      if retry then do
        let _ ← M.attempt (M.writeAll (ext.compress m w.level w.pending))
        pure (.error e)
      else pure (.error e)

def DeflateEncoder.finish (ext : Ext) (w : Enc) := enc_finish ext .deflated true w
def BzEncoder.finish (ext : Ext) (w : Enc) := enc_finish ext .bzip2 true w
def ZstdEncoder.finish (ext : Ext) (w : Enc) := enc_finish ext .zstd false w

/-- `flate2::Compression::new(level)` / `bzip2::Compression::new(level)`: the level as a number -/
def flate2_Compression_new (level : UInt32) : Int := level.toNat
def bzip2_Compression_new (level : UInt32) : Int := level.toNat
/-- `DeflateEncoder::new(w, level)` / `BzEncoder::new(w, level)`: nothing consumed yet -/
def DeflateEncoder.new (w : Option EncState) (level : Int) : Enc := ⟨level, w, []⟩
def BzEncoder.new (w : Option EncState) (level : Int) : Enc := ⟨level, w, []⟩
/-- `ZstdEncoder::new(w, level)` (an `io::Result`; assumed `Ok` - it fails only when the library cannot
allocate its context) -/
def ZstdEncoder.new (w : Option EncState) (level : Int32) : Option Enc := some ⟨level.toInt, w, []⟩

/-- the level constants of the three libraries (flate2 1.x, bzip2 0.4, zstd 0.11) -/
def flate2_level_none : UInt32 := 0
def flate2_level_fast : UInt32 := 1
def flate2_level_best : UInt32 := 9
def flate2_level_default : UInt32 := 6
def bzip2_level_none : UInt32 := 0
def bzip2_level_fast : UInt32 := 1
def bzip2_level_best : UInt32 := 9
def bzip2_level_default : UInt32 := 6
def zstd_DEFAULT_COMPRESSION_LEVEL : Int32 := 3

end S

/-- `std::ops::RangeInclusive<T>` -/
structure RangeIncl (α : Type) where
  lo : α
  hi : α
/-- `range.contains(&v)` -/
def RangeIncl.contains {α} [LE α] [DecidableLE α] (r : RangeIncl α) (v : α) : Bool := decide (r.lo ≤ v ∧ v ≤ r.hi)

instance : As UInt32 Int32 := ⟨UInt32.toInt32⟩
instance : As Int32 UInt32 := ⟨Int32.toUInt32⟩
instance : As Int32 Int32 := ⟨id⟩

/-- `zstd::compression_level_range()` (`ZSTD_minCLevel() ..= ZSTD_maxCLevel()`) -/
def S.zstd_compression_level_range : RangeIncl Int32 := ⟨-131072, 22⟩

end Rs
