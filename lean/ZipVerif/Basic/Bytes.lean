/-
Bytes, little-endian codecs and their round-trip lemmas.
No imports beyond core: this file is in the import closure of the compiled driver.
-/

abbrev Bytes := List UInt8

namespace ZipVerif

/-! ### Little-endian encoders (what `byteorder::WriteBytesExt::write_uNN::<LittleEndian>` emits) -/

def le16 (v : UInt16) : Bytes :=
  [UInt8.ofNat (v.toNat % 256), UInt8.ofNat (v.toNat / 256)]

def le32 (v : UInt32) : Bytes :=
  [UInt8.ofNat (v.toNat % 256), UInt8.ofNat (v.toNat / 256 % 256),
   UInt8.ofNat (v.toNat / 65536 % 256), UInt8.ofNat (v.toNat / 16777216)]

def le64 (v : UInt64) : Bytes :=
  [UInt8.ofNat (v.toNat % 256), UInt8.ofNat (v.toNat / 256 % 256),
   UInt8.ofNat (v.toNat / 65536 % 256), UInt8.ofNat (v.toNat / 16777216 % 256),
   UInt8.ofNat (v.toNat / 4294967296 % 256), UInt8.ofNat (v.toNat / 1099511627776 % 256),
   UInt8.ofNat (v.toNat / 281474976710656 % 256), UInt8.ofNat (v.toNat / 72057594037927936)]

/-! ### Decoders on a fixed number of bytes -/

def mk16 (a b : UInt8) : UInt16 := UInt16.ofNat (a.toNat + 256 * b.toNat)

def mk32 (a b c d : UInt8) : UInt32 :=
  UInt32.ofNat (a.toNat + 256 * b.toNat + 65536 * c.toNat + 16777216 * d.toNat)

def mk64 (a b c d e f g h : UInt8) : UInt64 :=
  UInt64.ofNat (a.toNat + 256 * b.toNat + 65536 * c.toNat + 16777216 * d.toNat +
    4294967296 * e.toNat + 1099511627776 * f.toNat + 281474976710656 * g.toNat +
    72057594037927936 * h.toNat)

/-- Parse a little-endian `u16` off the front of a byte list. -/
def rd16 : Bytes → Option (UInt16 × Bytes)
  | a :: b :: r => some (mk16 a b, r)
  | _ => none

def rd32 : Bytes → Option (UInt32 × Bytes)
  | a :: b :: c :: d :: r => some (mk32 a b c d, r)
  | _ => none

def rd64 : Bytes → Option (UInt64 × Bytes)
  | a :: b :: c :: d :: e :: f :: g :: h :: r => some (mk64 a b c d e f g h, r)
  | _ => none

def rdN (n : Nat) (bs : Bytes) : Option (Bytes × Bytes) :=
  if n ≤ bs.length then some (bs.take n, bs.drop n) else none

@[simp] theorem le16_length (v : UInt16) : (le16 v).length = 2 := rfl
@[simp] theorem le32_length (v : UInt32) : (le32 v).length = 4 := rfl
@[simp] theorem le64_length (v : UInt64) : (le64 v).length = 8 := rfl

theorem mk16_le16 (v : UInt16) :
    mk16 (UInt8.ofNat (v.toNat % 256)) (UInt8.ofNat (v.toNat / 256)) = v := by
  apply UInt16.toNat_inj.mp
  simp only [mk16, UInt16.toNat_ofNat', UInt8.toNat_ofNat', Nat.reducePow, Nat.mod_mod,
    ← Nat.mod_mul, Nat.reduceMul]
  exact Nat.mod_eq_of_lt v.toNat_lt

theorem mk32_le32 (v : UInt32) :
    mk32 (UInt8.ofNat (v.toNat % 256)) (UInt8.ofNat (v.toNat / 256 % 256))
      (UInt8.ofNat (v.toNat / 65536 % 256)) (UInt8.ofNat (v.toNat / 16777216)) = v := by
  apply UInt32.toNat_inj.mp
  simp only [mk32, UInt32.toNat_ofNat', UInt8.toNat_ofNat', Nat.reducePow, Nat.mod_mod,
    ← Nat.mod_mul, Nat.reduceMul]
  exact Nat.mod_eq_of_lt v.toNat_lt

theorem mk64_le64 (v : UInt64) :
    mk64 (UInt8.ofNat (v.toNat % 256)) (UInt8.ofNat (v.toNat / 256 % 256))
      (UInt8.ofNat (v.toNat / 65536 % 256)) (UInt8.ofNat (v.toNat / 16777216 % 256))
      (UInt8.ofNat (v.toNat / 4294967296 % 256)) (UInt8.ofNat (v.toNat / 1099511627776 % 256))
      (UInt8.ofNat (v.toNat / 281474976710656 % 256))
      (UInt8.ofNat (v.toNat / 72057594037927936)) = v := by
  apply UInt64.toNat_inj.mp
  simp only [mk64, UInt64.toNat_ofNat', UInt8.toNat_ofNat', Nat.reducePow, Nat.mod_mod,
    ← Nat.mod_mul, Nat.reduceMul]
  exact Nat.mod_eq_of_lt v.toNat_lt

@[simp] theorem rd16_le16 (v : UInt16) (r : Bytes) : rd16 (le16 v ++ r) = some (v, r) := by
  simp only [le16, List.cons_append, List.nil_append, rd16, mk16_le16]

@[simp] theorem rd32_le32 (v : UInt32) (r : Bytes) : rd32 (le32 v ++ r) = some (v, r) := by
  simp only [le32, List.cons_append, List.nil_append, rd32, mk32_le32]

@[simp] theorem rd64_le64 (v : UInt64) (r : Bytes) : rd64 (le64 v ++ r) = some (v, r) := by
  simp only [le64, List.cons_append, List.nil_append, rd64, mk64_le64]

@[simp] theorem rdN_append (a r : Bytes) : rdN a.length (a ++ r) = some (a, r) := by
  simp [rdN]

theorem rdN_append' (n : Nat) (a r : Bytes) (h : a.length = n) : rdN n (a ++ r) = some (a, r) := by
  subst h; simp

theorem le16_inj {a b : UInt16} (h : le16 a = le16 b) : a = b := by
  have h1 : rd16 (le16 a ++ []) = rd16 (le16 b ++ []) := by rw [h]
  rw [rd16_le16, rd16_le16] at h1
  exact (Prod.mk.inj (Option.some.inj h1)).1

theorem le32_inj {a b : UInt32} (h : le32 a = le32 b) : a = b := by
  have h1 : rd32 (le32 a ++ []) = rd32 (le32 b ++ []) := by rw [h]
  rw [rd32_le32, rd32_le32] at h1
  exact (Prod.mk.inj (Option.some.inj h1)).1

theorem le64_inj {a b : UInt64} (h : le64 a = le64 b) : a = b := by
  have h1 : rd64 (le64 a ++ []) = rd64 (le64 b ++ []) := by rw [h]
  rw [rd64_le64, rd64_le64] at h1
  exact (Prod.mk.inj (Option.some.inj h1)).1

end ZipVerif
