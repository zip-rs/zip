/-
MS-DOS date/time field layout, read arithmetically (APPNOTE 4.4.6 / MS-DOS FAT documentation):
date = day (bits 0-4) | month (5-8) | year-1980 (9-15);  time = sec/2 (0-4) | min (5-10) | hour (11-15).
Independent of the crate's text: plain division and remainder on naturals.
-/

namespace ZipVerif.Spec.Dos

structure Fields where
  year : Nat
  month : Nat
  day : Nat
  hour : Nat
  minute : Nat
  second : Nat
  deriving DecidableEq, Repr

def unpack (d t : Nat) : Fields :=
  ⟨1980 + d / 512, d / 32 % 16, d % 32, t / 2048, t / 32 % 64, 2 * (t % 32)⟩

def packDate (f : Fields) : Nat := f.day + 32 * f.month + 512 * (f.year - 1980)
def packTime (f : Fields) : Nat := f.second / 2 + 32 * f.minute + 2048 * f.hour

/-- Field values that fit the bit fields. -/
def Representable (f : Fields) : Prop :=
  1980 ≤ f.year ∧ f.year ≤ 2107 ∧ f.month < 16 ∧ f.day < 32 ∧ f.hour < 32 ∧ f.minute < 64 ∧
    f.second < 64

instance (f : Fields) : Decidable (Representable f) := by unfold Representable; infer_instance

/-- The documented ranges of the checked constructor. -/
def InDocumentedRange (f : Fields) : Prop :=
  1980 ≤ f.year ∧ f.year ≤ 2107 ∧ 1 ≤ f.month ∧ f.month ≤ 12 ∧ 1 ≤ f.day ∧ f.day ≤ 31 ∧
    f.hour ≤ 23 ∧ f.minute ≤ 59 ∧ f.second ≤ 60

instance (f : Fields) : Decidable (InDocumentedRange f) := by
  unfold InDocumentedRange; infer_instance

/-- Rounding to the 2-second DOS resolution. -/
def round2s (f : Fields) : Fields := { f with second := 2 * (f.second / 2) }

/-! ### The calendar rule (Gregorian; ISO 8601 / RFC 3339 appendix C), written out here and NOT taken
from the `time` crate: `Date::from_calendar_date` is compared with it on every (year, month) of the DOS
range by the `dos.dim` correspondence op (1536 cases, both tiers). -/

/-- Leap years: divisible by 4, except centuries not divisible by 400 (2000 is, 2100 is not). -/
def isLeap (y : Int) : Bool := (y % 4 == 0) && ((y % 100 != 0) || (y % 400 == 0))

/-- Days of month `m` (1..12; anything else has none) in year `y`. -/
def daysInMonth (y : Int) (m : Nat) : Nat :=
  match m with
  | 1 | 3 | 5 | 7 | 8 | 10 | 12 => 31
  | 4 | 6 | 9 | 11 => 30
  | 2 => if isLeap y then 29 else 28
  | _ => 0

theorem daysInMonth_le (y : Int) (m : Nat) : daysInMonth y m ≤ 31 := by
  unfold daysInMonth; split <;> (try split) <;> omega

example : daysInMonth 2000 2 = 29 ∧ daysInMonth 2100 2 = 28 ∧ daysInMonth 2024 2 = 29 ∧
    daysInMonth 2023 2 = 28 ∧ daysInMonth 2021 4 = 30 ∧ daysInMonth 1980 0 = 0 ∧
    daysInMonth 2107 13 = 0 := by decide

/-- The three digits of any `n` in mixed radix `p`, `q`, put together again. -/
theorem pack3 (n p q : Nat) : n % p + p * (n / p % q) + p * q * (n / (p * q)) = n := by
  rw [← Nat.mod_mul, Nat.mod_add_div]

/-- Conversely digits `a < p`, `b < q` and any top digit `c` are read back from their sum. -/
theorem unpack3 {a b p q : Nat} (c : Nat) (ha : a < p) (hb : b < q) :
    (a + p * b + p * q * c) % p = a ∧ (a + p * b + p * q * c) / p % q = b ∧
      (a + p * b + p * q * c) / (p * q) = c := by
  have hp : 0 < p := Nat.zero_lt_of_lt ha
  have hq : 0 < q := Nat.zero_lt_of_lt hb
  rw [← Nat.div_div_eq_div_mul, Nat.mul_assoc, Nat.add_assoc, ← Nat.mul_add,
    Nat.add_mul_mod_self_left, Nat.mod_eq_of_lt ha, Nat.add_mul_div_left _ _ hp,
    Nat.div_eq_of_lt ha, Nat.zero_add, Nat.add_mul_mod_self_left, Nat.mod_eq_of_lt hb,
    Nat.add_mul_div_left _ _ hq, Nat.div_eq_of_lt hb, Nat.zero_add]
  exact ⟨rfl, rfl, rfl⟩

theorem unpack_pack (d t : Nat) (_hd : d < 65536) (_ht : t < 65536) :
    packDate (unpack d t) = d ∧ packTime (unpack d t) = t := by
  refine ⟨?_, ?_⟩
  · show d % 32 + 32 * (d / 32 % 16) + 512 * (1980 + d / 512 - 1980) = d
    rw [Nat.add_sub_cancel_left]; exact pack3 d 32 16
  · show 2 * (t % 32) / 2 + 32 * (t / 32 % 64) + 2048 * (t / 2048) = t
    rw [Nat.mul_div_cancel_left _ (by decide)]; exact pack3 t 32 64

theorem pack_unpack (f : Fields) (h : Representable f) :
    unpack (packDate f) (packTime f) = round2s f := by
  obtain ⟨y, mo, d, hh, mi, s⟩ := f
  obtain ⟨hy, -, hmo, hd, -, hmi, hs⟩ := h
  obtain ⟨day, month, year⟩ := unpack3 (p := 32) (q := 16) (y - 1980) hd hmo
  obtain ⟨sec, minute, hour⟩ :=
    unpack3 (p := 32) (q := 64) hh (Nat.div_lt_of_lt_mul (n := 2) (k := 32) hs) hmi
  unfold unpack packDate packTime round2s
  simp only [Fields.mk.injEq]
  exact ⟨(congrArg (1980 + ·) year).trans (Nat.add_sub_cancel' hy), month, day, hour, minute,
    congrArg (2 * ·) sec⟩

theorem documented_representable (f : Fields) (h : InDocumentedRange f) : Representable f := by
  unfold InDocumentedRange at h; unfold Representable; omega

end ZipVerif.Spec.Dos
