import ZipVerif.Basic.Bytes
/-
UTF-8, written from RFC 3629 §3 (encoding) and the Unicode Standard ch. 3.9, table 3-7 "Well-Formed
UTF-8 Byte Sequences" + the recommended "maximal subpart" replacement practice (decoding), which is
what Rust's `String::from_utf8_lossy` / `Utf8Chunks` documents and implements.

Decoded text is `List Char` everywhere: a Lean `Char` is exactly a Unicode scalar value
(`val < 0xD800 ∨ 0xDFFF < val < 0x110000`), i.e. exactly a Rust `char`; a Rust `String` is the UTF-8
encoding of a `List Char`.

No imports beyond core (this file is linked into `zvdriver`).
-/

namespace ZipVerif.Spec

/-- U+FFFD REPLACEMENT CHARACTER. -/
def replacement : Char := '�'

/-! ### Encoding (RFC 3629 §3)

```
0000 0000-0000 007F | 0xxxxxxx
0000 0080-0000 07FF | 110xxxxx 10xxxxxx
0000 0800-0000 FFFF | 1110xxxx 10xxxxxx 10xxxxxx
0001 0000-0010 FFFF | 11110xxx 10xxxxxx 10xxxxxx 10xxxxxx
``` -/

def utf8EncodeChar (c : Char) : Bytes :=
  let n := c.toNat
  if n < 0x80 then [UInt8.ofNat n]
  else if n < 0x800 then [UInt8.ofNat (0xC0 + n / 64), UInt8.ofNat (0x80 + n % 64)]
  else if n < 0x10000 then
    [UInt8.ofNat (0xE0 + n / 4096), UInt8.ofNat (0x80 + n / 64 % 64), UInt8.ofNat (0x80 + n % 64)]
  else
    [UInt8.ofNat (0xF0 + n / 262144), UInt8.ofNat (0x80 + n / 4096 % 64),
     UInt8.ofNat (0x80 + n / 64 % 64), UInt8.ofNat (0x80 + n % 64)]

/-- The UTF-8 encoding of a string of scalar values (what a Rust `String` holds as `as_bytes()`). -/
def utf8Encode : List Char → Bytes
  | [] => []
  | c :: s => utf8EncodeChar c ++ utf8Encode s

/-! ### Decoding (Unicode 15, table 3-7)

```
Code points          1st     2nd     3rd     4th
U+0000..U+007F       00..7F
U+0080..U+07FF       C2..DF  80..BF
U+0800..U+0FFF       E0      A0..BF  80..BF
U+1000..U+CFFF       E1..EC  80..BF  80..BF
U+D000..U+D7FF       ED      80..9F  80..BF
U+E000..U+FFFF       EE..EF  80..BF  80..BF
U+10000..U+3FFFF     F0      90..BF  80..BF  80..BF
U+40000..U+FFFFF     F1..F3  80..BF  80..BF  80..BF
U+100000..U+10FFFF   F4      80..8F  80..BF  80..BF
``` -/

/-- Lower bound of the second byte after lead byte `b0` (table 3-7). -/
def secondLo (b0 : Nat) : Nat := if b0 = 0xE0 then 0xA0 else if b0 = 0xF0 then 0x90 else 0x80
/-- Upper bound of the second byte after lead byte `b0` (table 3-7). -/
def secondHi (b0 : Nat) : Nat := if b0 = 0xED then 0x9F else if b0 = 0xF4 then 0x8F else 0xBF

/-- Scalar value of a 2/3/4-byte sequence (payload bits concatenated). -/
def scalar2 (b0 b1 : Nat) : Nat := (b0 - 0xC0) * 64 + (b1 - 0x80)
def scalar3 (b0 b1 b2 : Nat) : Nat := (b0 - 0xE0) * 4096 + (b1 - 0x80) * 64 + (b2 - 0x80)
def scalar4 (b0 b1 b2 b3 : Nat) : Nat :=
  (b0 - 0xF0) * 262144 + (b1 - 0x80) * 4096 + (b2 - 0x80) * 64 + (b3 - 0x80)

theorem secondLo_ge (b0 : Nat) : 0x80 ≤ secondLo b0 := by
  unfold secondLo; repeat' split
  all_goals decide

theorem secondHi_le (b0 : Nat) : secondHi b0 ≤ 0xBF := by
  unfold secondHi; repeat' split
  all_goals decide

/-- The second-byte window of table 3-7 spelt out: a continuation byte, narrowed after four lead bytes. -/
theorem second_iff {b0 b1 : Nat} : secondLo b0 ≤ b1 ∧ b1 ≤ secondHi b0 ↔
    (0x80 ≤ b1 ∧ b1 ≤ 0xBF) ∧ (b0 = 0xE0 → 0xA0 ≤ b1) ∧ (b0 = 0xF0 → 0x90 ≤ b1) ∧
      (b0 = 0xED → b1 ≤ 0x9F) ∧ (b0 = 0xF4 → b1 ≤ 0x8F) := by
  constructor
  · intro h
    exact ⟨⟨Nat.le_trans (secondLo_ge b0) h.1, Nat.le_trans h.2 (secondHi_le b0)⟩,
      fun e => by subst e; exact h.1, fun e => by subst e; exact h.1,
      fun e => by subst e; exact h.2, fun e => by subst e; exact h.2⟩
  · rintro ⟨h, hE0, hF0, hED, hF4⟩
    unfold secondLo secondHi
    constructor
    · split
      · exact hE0 ‹_›
      · split
        · exact hF0 ‹_›
        · exact h.1
    · split
      · exact hED ‹_›
      · split
        · exact hF4 ‹_›
        · exact h.2

theorem scalar1_valid {b0 : Nat} (h : b0 < 0x80) : b0.isValidChar := by
  unfold Nat.isValidChar; omega

theorem scalar2_valid {b0 b1 : Nat} (h0 : 0xC2 ≤ b0 ∧ b0 ≤ 0xDF) (h1 : 0x80 ≤ b1 ∧ b1 ≤ 0xBF) :
    (scalar2 b0 b1).isValidChar := by
  unfold Nat.isValidChar scalar2; omega

/- In the next two proofs each byte is written as its lower bound plus a payload, so that the
truncated subtractions of `scalar3`/`scalar4` cancel before `omega` sees them (it would split on each). -/
theorem scalar3_valid {b0 b1 b2 : Nat} (h0 : 0xE0 ≤ b0 ∧ b0 ≤ 0xEF)
    (h1 : secondLo b0 ≤ b1 ∧ b1 ≤ secondHi b0) (h2 : 0x80 ≤ b2 ∧ b2 ≤ 0xBF) :
    (scalar3 b0 b1 b2).isValidChar := by
  obtain ⟨⟨l1, u1⟩, -, -, hED, -⟩ := second_iff.mp h1
  obtain ⟨a, rfl⟩ := Nat.exists_eq_add_of_le h0.1
  obtain ⟨b, rfl⟩ := Nat.exists_eq_add_of_le l1
  obtain ⟨c, rfl⟩ := Nat.exists_eq_add_of_le h2.1
  unfold Nat.isValidChar scalar3
  simp only [Nat.add_sub_cancel_left]
  omega

theorem scalar4_valid {b0 b1 b2 b3 : Nat} (h0 : 0xF0 ≤ b0 ∧ b0 ≤ 0xF4)
    (h1 : secondLo b0 ≤ b1 ∧ b1 ≤ secondHi b0) (h2 : 0x80 ≤ b2 ∧ b2 ≤ 0xBF)
    (h3 : 0x80 ≤ b3 ∧ b3 ≤ 0xBF) : (scalar4 b0 b1 b2 b3).isValidChar := by
  obtain ⟨⟨l1, u1⟩, -, hF0, -, hF4⟩ := second_iff.mp h1
  obtain ⟨a, rfl⟩ := Nat.exists_eq_add_of_le h0.1
  obtain ⟨b, rfl⟩ := Nat.exists_eq_add_of_le l1
  obtain ⟨c, rfl⟩ := Nat.exists_eq_add_of_le h2.1
  obtain ⟨d, rfl⟩ := Nat.exists_eq_add_of_le h3.1
  unfold Nat.isValidChar scalar4
  simp only [Nat.add_sub_cancel_left]
  omega

/--
Split a byte string into decoded scalar values (`some c`) and ill-formed *maximal subparts* (`none`):
at each position, the longest prefix that is either a well-formed sequence of table 3-7 or an initial
part of one (at least one byte).  A byte that cannot start a sequence (80..C1, F5..FF) is a subpart of
length one; a sequence cut short (by a byte outside the admissible range or by the end of input) is
one subpart, and decoding resumes *at* the offending byte.
-/
def utf8Chunks : Bytes → List (Option Char)
  | [] => []
  | b0 :: r =>
    if h0 : b0.toNat < 0x80 then
      some (Char.ofNatAux b0.toNat (scalar1_valid h0)) :: utf8Chunks r
    else if hl2 : 0xC2 ≤ b0.toNat ∧ b0.toNat ≤ 0xDF then
      match r with
      | [] => [none]
      | b1 :: r1 =>
        if h1 : 0x80 ≤ b1.toNat ∧ b1.toNat ≤ 0xBF then
          some (Char.ofNatAux (scalar2 b0.toNat b1.toNat) (scalar2_valid hl2 h1)) :: utf8Chunks r1
        else none :: utf8Chunks (b1 :: r1)
    else if hl3 : 0xE0 ≤ b0.toNat ∧ b0.toNat ≤ 0xEF then
      match r with
      | [] => [none]
      | b1 :: r1 =>
        if h1 : secondLo b0.toNat ≤ b1.toNat ∧ b1.toNat ≤ secondHi b0.toNat then
          match r1 with
          | [] => [none]
          | b2 :: r2 =>
            if h2 : 0x80 ≤ b2.toNat ∧ b2.toNat ≤ 0xBF then
              some (Char.ofNatAux (scalar3 b0.toNat b1.toNat b2.toNat) (scalar3_valid hl3 h1 h2))
                :: utf8Chunks r2
            else none :: utf8Chunks (b2 :: r2)
        else none :: utf8Chunks (b1 :: r1)
    else if hl4 : 0xF0 ≤ b0.toNat ∧ b0.toNat ≤ 0xF4 then
      match r with
      | [] => [none]
      | b1 :: r1 =>
        if h1 : secondLo b0.toNat ≤ b1.toNat ∧ b1.toNat ≤ secondHi b0.toNat then
          match r1 with
          | [] => [none]
          | b2 :: r2 =>
            if h2 : 0x80 ≤ b2.toNat ∧ b2.toNat ≤ 0xBF then
              match r2 with
              | [] => [none]
              | b3 :: r3 =>
                if h3 : 0x80 ≤ b3.toNat ∧ b3.toNat ≤ 0xBF then
                  some (Char.ofNatAux (scalar4 b0.toNat b1.toNat b2.toNat b3.toNat)
                    (scalar4_valid hl4 h1 h2 h3)) :: utf8Chunks r3
                else none :: utf8Chunks (b3 :: r3)
            else none :: utf8Chunks (b2 :: r2)
        else none :: utf8Chunks (b1 :: r1)
    else
      -- 80..BF (lone continuation), C0, C1 (overlong leads), F5..FF: never part of well-formed UTF-8
      none :: utf8Chunks r

/-- Lossy decoding: every ill-formed maximal subpart becomes one U+FFFD (`String::from_utf8_lossy`). -/
def utf8Lossy (bs : Bytes) : List Char :=
  (utf8Chunks bs).map fun
    | some c => c
    | none => replacement

/-- All chunks well formed → the decoded string. -/
def allSome {α} : List (Option α) → Option (List α)
  | [] => some []
  | none :: _ => none
  | some a :: r => (allSome r).map (a :: ·)

/-- Strict decoding (`std::str::from_utf8`): `none` iff some subpart is ill-formed. -/
def utf8Strict (bs : Bytes) : Option (List Char) := allSome (utf8Chunks bs)

end ZipVerif.Spec
