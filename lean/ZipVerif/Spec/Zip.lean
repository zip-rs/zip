import ZipVerif.Basic.Bytes
/-
ZIP archive layout, written from APPNOTE 6.3.x sections 4.3-4.5 (independent of the crate's text).
A `Layout` says exactly which records an archive consists of; `build` lays the bytes out.  Offsets,
counts and sizes recorded in the central directory and end records are *computed* by `build`, so an
archive `build L` is correctly placed by construction; what remains to be required of `L` is that
every value fits the field (or the ZIP64 record) it is stored in (`Layout.Fits`).
-/

namespace ZipVerif.Spec.Zip
open ZipVerif

def sigLocal : UInt32 := 0x04034b50
def sigCentral : UInt32 := 0x02014b50
def sigEocd : UInt32 := 0x06054b50
def sigEocd64 : UInt32 := 0x06064b50
def sigLocator : UInt32 := 0x07064b50
def sigDesc : UInt32 := 0x08074b50

inductive Desc | none | sig32 | nosig32 | sig64 | nosig64
  deriving DecidableEq, Repr

/-- One entry: its central-directory record, how its local record differs, its stored data. -/
structure Entry where
  -- central record (authoritative)
  madeBy : UInt16
  versionNeeded : UInt16
  flags : UInt16
  method : UInt16
  time : UInt16
  date : UInt16
  crc : UInt32
  usize : UInt64                 -- uncompressed size (true value)
  name : Bytes
  centralExtra : Bytes           -- extra records other than the ZIP64 record built below
  comment : Bytes
  internalAttrs : UInt16
  externalAttrs : UInt32
  /-- put (usize, csize, offset) into the central ZIP64 record even when they fit 32 bits -/
  z64 : Bool × Bool × Bool
  -- local record
  localExtra : Bytes
  localZip64 : Bool              -- local sizes 0xFFFFFFFF + ZIP64 record holding both
  desc : Desc                    -- data descriptor (local crc/sizes zeroed, flag bit 3 set)
  gapBefore : Bytes              -- unrelated bytes before the local header
  data : Bytes                   -- the stored (compressed / encrypted) bytes
  /-- version-needed written in the LOCAL header when it differs from the central value
  (producers that write the local header before the sizes are known) -/
  localVersion : Option UInt16 := none
  deriving Repr

structure Layout where
  pre : Bytes                    -- bytes prepended to the archive (offsets are relative to its end)
  entries : List Entry
  gapBeforeCd : Bytes
  comment : Bytes
  zip64End : Bool                -- force a ZIP64 end record + locator
  trailing : Bytes               -- bytes after the end record's comment
  /-- (version made by, version needed) of the ZIP64 end record -/
  end64Versions : UInt16 × UInt16 := (45, 45)
  deriving Repr

def Entry.csize (e : Entry) : UInt64 := UInt64.ofNat e.data.length
def Entry.hasDesc (e : Entry) : Bool := e.desc != .none
def Entry.flagsOut (e : Entry) : UInt16 := if e.hasDesc then e.flags ||| 8 else e.flags

def lo32 (v : UInt64) : UInt32 := v.toUInt32

/-- local file header + file name + extra field (APPNOTE 4.3.7) -/
def localRecord (e : Entry) : Bytes :=
  let d := e.hasDesc
  let z : Bytes := if e.localZip64 then
      le16 1 ++ le16 16 ++ le64 (if d then 0 else e.usize) ++ le64 (if d then 0 else e.csize)
    else []
  let extra := z ++ e.localExtra
  le32 sigLocal ++ le16 (e.localVersion.getD e.versionNeeded) ++ le16 e.flagsOut ++ le16 e.method ++ le16 e.time ++
  le16 e.date ++ le32 (if d then 0 else e.crc) ++
  (if e.localZip64 then le32 0xFFFFFFFF ++ le32 0xFFFFFFFF
   else le32 (if d then 0 else lo32 e.csize) ++ le32 (if d then 0 else lo32 e.usize)) ++
  le16 (UInt16.ofNat e.name.length) ++ le16 (UInt16.ofNat extra.length) ++ e.name ++ extra

/-- data descriptor (APPNOTE 4.3.9) -/
def descriptor (e : Entry) : Bytes :=
  match e.desc with
  | .none => []
  | .sig32 => le32 sigDesc ++ le32 e.crc ++ le32 (lo32 e.csize) ++ le32 (lo32 e.usize)
  | .nosig32 => le32 e.crc ++ le32 (lo32 e.csize) ++ le32 (lo32 e.usize)
  | .sig64 => le32 sigDesc ++ le32 e.crc ++ le64 e.csize ++ le64 e.usize
  | .nosig64 => le32 e.crc ++ le64 e.csize ++ le64 e.usize

def Entry.localBytes (e : Entry) : Bytes := e.gapBefore ++ localRecord e ++ e.data ++ descriptor e

/-- which fields of the central record go through the ZIP64 extended information record -/
def Entry.zU (e : Entry) : Bool := e.z64.1 || e.usize ≥ 0xFFFFFFFF
def Entry.zC (e : Entry) : Bool := e.z64.2.1 || e.csize ≥ 0xFFFFFFFF
def Entry.zO (e : Entry) (off : UInt64) : Bool := e.z64.2.2 || off ≥ 0xFFFFFFFF

/-- central directory header (APPNOTE 4.3.12) for an entry whose local header is at `off`
(relative to the start of the archive proper) -/
def centralRecord (e : Entry) (off : UInt64) : Bytes :=
  let zu := e.zU; let zc := e.zC; let zo := e.zO off
  let n : Nat := (if zu then 8 else 0) + (if zc then 8 else 0) + (if zo then 8 else 0)
  let z : Bytes := if n = 0 then [] else
    le16 1 ++ le16 (UInt16.ofNat n) ++ (if zu then le64 e.usize else []) ++
    (if zc then le64 e.csize else []) ++ (if zo then le64 off else [])
  let extra := z ++ e.centralExtra
  le32 sigCentral ++ le16 e.madeBy ++ le16 e.versionNeeded ++ le16 e.flagsOut ++ le16 e.method ++
  le16 e.time ++ le16 e.date ++ le32 e.crc ++
  le32 (if zc then 0xFFFFFFFF else lo32 e.csize) ++ le32 (if zu then 0xFFFFFFFF else lo32 e.usize) ++
  le16 (UInt16.ofNat e.name.length) ++ le16 (UInt16.ofNat extra.length) ++
  le16 (UInt16.ofNat e.comment.length) ++ le16 0 ++ le16 e.internalAttrs ++ le32 e.externalAttrs ++
  le32 (if zo then 0xFFFFFFFF else lo32 off) ++ e.name ++ extra ++ e.comment

/-- offsets (relative to the archive proper) of the local headers, given the offset of the first -/
def localOffsets : List Entry → Nat → List Nat
  | [], _ => []
  | e :: es, start =>
    (start + e.gapBefore.length) :: localOffsets es (start + e.localBytes.length)

def localsBytes (es : List Entry) : Bytes := (es.map Entry.localBytes).flatten

def centralBytes : List Entry → List Nat → Bytes
  | e :: es, o :: os => centralRecord e (UInt64.ofNat o) ++ centralBytes es os
  | _, _ => []

def Layout.cdOffset (l : Layout) : Nat := (localsBytes l.entries).length + l.gapBeforeCd.length
def Layout.cdBytes (l : Layout) : Bytes := centralBytes l.entries (localOffsets l.entries 0)
def Layout.cdSize (l : Layout) : Nat := l.cdBytes.length
def Layout.count (l : Layout) : Nat := l.entries.length

def Layout.needs64 (l : Layout) : Bool :=
  l.zip64End || l.count > 0xFFFF || l.cdSize > 0xFFFFFFFF || l.cdOffset > 0xFFFFFFFF

/-- ZIP64 end of central directory record + locator (APPNOTE 4.3.14, 4.3.15) -/
def Layout.end64 (l : Layout) : Bytes :=
  if l.needs64 then
    le32 sigEocd64 ++ le64 44 ++ le16 l.end64Versions.1 ++ le16 l.end64Versions.2 ++ le32 0 ++ le32 0 ++
    le64 (UInt64.ofNat l.count) ++ le64 (UInt64.ofNat l.count) ++ le64 (UInt64.ofNat l.cdSize) ++
    le64 (UInt64.ofNat l.cdOffset) ++
    le32 sigLocator ++ le32 0 ++ le64 (UInt64.ofNat (l.cdOffset + l.cdSize)) ++ le32 1
  else []

/-- end of central directory record (APPNOTE 4.3.16) -/
def Layout.eocd (l : Layout) : Bytes :=
  let f := l.zip64End
  let n16 : UInt16 := if f || l.count > 0xFFFF then 0xFFFF else UInt16.ofNat l.count
  le32 sigEocd ++ le16 0 ++ le16 0 ++ le16 n16 ++ le16 n16 ++
  le32 (if f || l.cdSize > 0xFFFFFFFF then 0xFFFFFFFF else UInt32.ofNat l.cdSize) ++
  le32 (if f || l.cdOffset > 0xFFFFFFFF then 0xFFFFFFFF else UInt32.ofNat l.cdOffset) ++
  le16 (UInt16.ofNat l.comment.length) ++ l.comment

def build (l : Layout) : Bytes :=
  l.pre ++ localsBytes l.entries ++ l.gapBeforeCd ++ l.cdBytes ++ l.end64 ++ l.eocd ++ l.trailing


/-! ### Named parts of the central record (`centralRecord_eq` ties them to `centralRecord`) -/

/-- the ZIP64 extended information record of the central header (APPNOTE 4.5.3): only the fields whose
32-bit slot holds 0xFFFFFFFF, in the fixed order uncompressed size, compressed size, offset -/
def Entry.centralZ64 (e : Entry) (off : UInt64) : Bytes :=
  let zu := e.zU; let zc := e.zC; let zo := e.zO off
  let n : Nat := (if zu then 8 else 0) + (if zc then 8 else 0) + (if zo then 8 else 0)
  if n = 0 then [] else
    le16 1 ++ le16 (UInt16.ofNat n) ++ (if zu then le64 e.usize else []) ++
    (if zc then le64 e.csize else []) ++ (if zo then le64 off else [])

/-- the whole extra field of the central record -/
def Entry.centralExtraAll (e : Entry) (off : UInt64) : Bytes := e.centralZ64 off ++ e.centralExtra

theorem centralRecord_eq (e : Entry) (off : UInt64) :
    centralRecord e off =
      le32 sigCentral ++ (le16 e.madeBy ++ (le16 e.versionNeeded ++ (le16 e.flagsOut ++ (le16 e.method ++
      (le16 e.time ++ (le16 e.date ++ (le32 e.crc ++
      (le32 (if e.zC then 0xFFFFFFFF else lo32 e.csize) ++
      (le32 (if e.zU then 0xFFFFFFFF else lo32 e.usize) ++
      (le16 (UInt16.ofNat e.name.length) ++ (le16 (UInt16.ofNat (e.centralExtraAll off).length) ++
      (le16 (UInt16.ofNat e.comment.length) ++ (le16 0 ++ (le16 e.internalAttrs ++ (le32 e.externalAttrs ++
      (le32 (if e.zO off then 0xFFFFFFFF else lo32 off) ++
      (e.name ++ (e.centralExtraAll off ++ e.comment)))))))))))))))))) := by
  unfold centralRecord Entry.centralExtraAll Entry.centralZ64
  simp only [List.append_assoc]

theorem centralZ64_length_le (e : Entry) (off : UInt64) : (e.centralZ64 off).length ≤ 28 := by
  unfold Entry.centralZ64
  cases e.zU <;> cases e.zC <;> cases e.zO off <;> simp

/-! ### Extra fields (APPNOTE 4.5.1): a sequence of records `id, size, payload` -/

/-- The extra bytes are a sequence of complete records none of which carries an identifier that a
ZIP reader interprets structurally: 0x0001 (ZIP64 — `centralRecord` emits that record itself) and
0x9901 (WinZip AES, the subject of a separate property). -/
def extraOkAux : Nat → Bytes → Bool
  | 0, bs => bs.isEmpty
  | fuel + 1, bs =>
    if bs.isEmpty then true else
    match rd16 bs with
    | none => false
    | some (id, r1) =>
      match rd16 r1 with
      | none => false
      | some (len, r2) =>
        id != 0x0001 && id != 0x9901 && decide (len.toNat ≤ r2.length) &&
          extraOkAux fuel (r2.drop len.toNat)

def ExtraOk (bs : Bytes) : Prop := extraOkAux bs.length bs = true

instance (bs : Bytes) : Decidable (ExtraOk bs) := by unfold ExtraOk; infer_instance

example : ExtraOk [] := by decide
example : ExtraOk (le16 0x5455 ++ le16 5 ++ [1, 0, 0, 0, 0] ++ le16 0xcafe ++ le16 0) := by decide
example : ¬ ExtraOk (le16 0x0001 ++ le16 0) := by decide
example : ¬ ExtraOk (le16 0x5455 ++ le16 5 ++ [1, 0]) := by decide

/-- Every variable-length item fits its 16-bit length field (20 and 28: the local ZIP64 record, and the longest
central one, `centralZ64_length_le`), and the data and the uncompressed size are below 2^63. -/
def Entry.Fits (e : Entry) : Prop :=
  e.name.length ≤ 0xFFFF ∧ e.comment.length ≤ 0xFFFF ∧
  e.localExtra.length + (if e.localZip64 then 20 else 0) ≤ 0xFFFF ∧
  e.centralExtra.length + 28 ≤ 0xFFFF ∧ e.data.length < 2 ^ 63 ∧ e.usize.toNat < 2 ^ 63

instance (e : Entry) : Decidable e.Fits := by unfold Entry.Fits; infer_instance

def Layout.Fits (l : Layout) : Prop :=
  (∀ e ∈ l.entries, e.Fits) ∧ l.comment.length ≤ 0xFFFF ∧ (build l).length < 2 ^ 63

instance (l : Layout) : Decidable l.Fits := by unfold Layout.Fits; infer_instance

end ZipVerif.Spec.Zip
