import ZipVerif.Model.Records
/-
One record of `parse_extra_field`, as a function of what happens next (`stop` with a result, `go` on with an
updated entry and the remaining bytes), and the one fact every property of the loop comes from: a record only
ever sets the six fields `eraseExtra` blanks out, and hands on at least four bytes less.  The 0x0001 arm is
three times the same slot (`pefSlot`); what the loop does on a serialised record (`parseExtraField_foreign`,
`parseExtraField_z64`) is read off the step.
-/

namespace ZipVerif.Model
open ZipVerif

theorem rd16_length {bs r : Bytes} {v : UInt16} (h : rd16 bs = some (v, r)) :
    bs.length = r.length + 2 := by
  unfold rd16 at h
  split at h
  · cases h; simp
  · cases h

theorem ite_drop_length_le {c : Prop} [Decidable c] (k : Nat) (l : Bytes) :
    (if c then l.drop k else l).length ≤ l.length := by
  split
  · rw [List.length_drop]; exact Nat.sub_le _ _
  · exact Nat.le_refl _

def FileData.eraseExtra (f : FileData) : FileData :=
  { f with largeFile := false, uncompressedSize := 0, compressedSize := 0, headerStart := 0,
           aesMode := none, method := .stored }

variable {ρ : Type}

/-- One optional 8-byte field of a `0x0001` record: it is there exactly when the entry's current value `cur`
is the marker. -/
def pefSlot (cur : UInt64) (bs : Bytes) (eof : ρ) (k : Option UInt64 → Bytes → ρ) : ρ :=
  match takeU64If (cur == ZIP64_BYTES_THR) bs with
  | none => eof
  | some (v, r) => k v r

def pefZip64 (stop : FileData → Option ZErr → ρ) (go : FileData → Bytes → ρ)
    (f : FileData) (len : UInt16) (r2 : Bytes) : ρ :=
  pefSlot f.uncompressedSize r2 (stop { f with largeFile := true } (some (.io .unexpectedEof))) fun u r3 =>
    let f1 := match u with
      | some v => { f with largeFile := true, uncompressedSize := v }
      | none => f
    pefSlot f1.compressedSize r3 (stop { f1 with largeFile := true } (some (.io .unexpectedEof))) fun c r4 =>
      let f2 := match c with
        | some v => { f1 with largeFile := true, compressedSize := v }
        | none => f1
      pefSlot f2.headerStart r4 (stop f2 (some (.io .unexpectedEof))) fun h r5 =>
        let f3 := match h with
          | some v => { f2 with headerStart := v }
          | none => f2
        let used := (if u.isSome then 8 else 0) + (if c.isSome then 8 else 0) +
          (if h.isSome then 8 else 0)
        let lenLeft : Int := (len.toNat : Int) - used
        go f3 (if lenLeft > 0 then r5.drop lenLeft.toNat else r5)

def pefAes (stop : FileData → Option ZErr → ρ) (go : FileData → Bytes → ρ)
    (f : FileData) (len : UInt16) (r2 : Bytes) : ρ :=
  if len != 7 then stop f (some .unsupportedArchive) else
  match rd16 r2 with
  | none => stop f (some (.io .unexpectedEof))
  | some (vendorVersion, r3) =>
  match rd16 r3 with
  | none => stop f (some (.io .unexpectedEof))
  | some (vendorId, r4) =>
  match r4 with
  | [] => stop f (some (.io .unexpectedEof))
  | aesMode :: r5 =>
  match rd16 r5 with
  | none => stop f (some (.io .unexpectedEof))
  | some (cm, r6) =>
    if vendorId != 0x4541 then stop f (some .invalidArchive) else
    let vv : Option AesVendorVersion :=
      if vendorVersion == 1 then some .ae1 else if vendorVersion == 2 then some .ae2 else none
    match vv with
    | none => stop f (some .invalidArchive)
    | some vv =>
      let am : Option AesMode :=
        if aesMode == 1 then some .aes128 else if aesMode == 2 then some .aes192
        else if aesMode == 3 then some .aes256 else none
      match am with
      | none => stop f (some .invalidArchive)
      | some am => go { f with aesMode := some (am, vv), method := Method.fromU16 cm } r6

def pefStep (stop : FileData → Option ZErr → ρ) (go : FileData → Bytes → ρ)
    (f : FileData) (rest : Bytes) : ρ :=
  if rest.isEmpty then stop f none else
  match rd16 rest with
  | none => stop f (some (.io .unexpectedEof))
  | some (kind, r1) =>
  match rd16 r1 with
  | none => stop f (some (.io .unexpectedEof))
  | some (len, r2) =>
    if kind == 0x0001 then pefZip64 stop go f len r2
    else if kind == 0x9901 then pefAes stop go f len r2
    else go f (r2.drop len.toNat)

theorem parseExtraField_succ (fuel : Nat) (f : FileData) (rest : Bytes) :
    parseExtraField (fuel + 1) f rest = pefStep Prod.mk (parseExtraField fuel) f rest := rfl

variable {ρ₁ ρ₂ : Type} (R : ρ₁ → ρ₂ → Prop)
  {stop₁ : FileData → Option ZErr → ρ₁} {go₁ : FileData → Bytes → ρ₁}
  {stop₂ : FileData → Option ZErr → ρ₂} {go₂ : FileData → Bytes → ρ₂}

theorem rd64_drop {bs r : Bytes} {v : UInt64} (h : rd64 bs = some (v, r)) : r = bs.drop 8 := by
  unfold rd64 at h
  split at h
  · cases h; rfl
  · cases h

theorem takeU64If_drop {c : Bool} {bs r : Bytes} {v : Option UInt64}
    (h : takeU64If c bs = some (v, r)) : r = bs.drop (if v.isSome then 8 else 0) := by
  unfold takeU64If at h
  split at h
  · split at h
    · rename_i h64
      cases h
      exact rd64_drop h64
    · cases h
  · cases h; rfl

theorem pefSlot_rel (cur : UInt64) (bs : Bytes) {eof₁ : ρ₁} {eof₂ : ρ₂} {k₁ : Option UInt64 → Bytes → ρ₁}
    {k₂ : Option UInt64 → Bytes → ρ₂} (he : R eof₁ eof₂)
    (hk : ∀ v r, r = bs.drop (if v.isSome then 8 else 0) → R (k₁ v r) (k₂ v r)) :
    R (pefSlot cur bs eof₁ k₁) (pefSlot cur bs eof₂ k₂) := by
  unfold pefSlot
  split
  · exact he
  next h => exact hk _ _ (takeU64If_drop h)

theorem pefZip64_rel (f : FileData) (len : UInt16) (r2 : Bytes)
    (hs : ∀ f' e, f'.eraseExtra = f.eraseExtra → R (stop₁ f' e) (stop₂ f' e))
    (hg : ∀ f' r', f'.eraseExtra = f.eraseExtra → r'.length ≤ r2.length → R (go₁ f' r') (go₂ f' r')) :
    R (pefZip64 stop₁ go₁ f len r2) (pefZip64 stop₂ go₂ f len r2) := by
  refine pefSlot_rel R _ _ (hs _ _ rfl) fun u r3 l3 => ?_
  replace l3 := congrArg List.length l3
  extract_lets f1
  have e1 : f1.eraseExtra = f.eraseExtra := by cases u <;> rfl
  clear_value f1
  refine pefSlot_rel R _ _ (hs _ _ e1) fun c r4 l4 => ?_
  replace l4 := congrArg List.length l4
  extract_lets f2
  have e2 : f2.eraseExtra = f.eraseExtra := by cases c <;> exact e1
  clear_value f2
  refine pefSlot_rel R _ _ (hs _ _ e2) fun h r5 l5 => ?_
  replace l5 := congrArg List.length l5
  rw [List.length_drop] at l3 l4 l5
  extract_lets f3 used lenLeft
  have e3 : f3.eraseExtra = f.eraseExtra := by cases h <;> exact e2
  exact hg _ _ e3 (Nat.le_trans (ite_drop_length_le _ _) (by omega))

theorem pefAes_rel (f : FileData) (len : UInt16) (r2 : Bytes)
    (hs : ∀ f' e, f'.eraseExtra = f.eraseExtra → R (stop₁ f' e) (stop₂ f' e))
    (hg : ∀ f' r', f'.eraseExtra = f.eraseExtra → r'.length ≤ r2.length → R (go₁ f' r') (go₂ f' r')) :
    R (pefAes stop₁ go₁ f len r2) (pefAes stop₂ go₂ f len r2) := by
  unfold pefAes
  -- scrutinee by scrutinee: `split` is slow on a goal that carries the arm twice
  by_cases h7 : (len != 7) = true
  · rw [if_pos h7, if_pos h7]; exact hs _ _ rfl
  rw [if_neg h7, if_neg h7]
  cases h3 : rd16 r2 with
  | none => exact hs _ _ rfl
  | some x3 =>
  obtain ⟨vendorVersion, r3⟩ := x3
  dsimp only
  cases h4 : rd16 r3 with
  | none => exact hs _ _ rfl
  | some x4 =>
  obtain ⟨vendorId, r4⟩ := x4
  dsimp only
  cases r4 with
  | nil => exact hs _ _ rfl
  | cons aesMode r5 =>
  dsimp only
  cases h6 : rd16 r5 with
  | none => exact hs _ _ rfl
  | some x6 =>
  obtain ⟨cm, r6⟩ := x6
  dsimp only
  by_cases hid : (vendorId != 0x4541) = true
  · rw [if_pos hid, if_pos hid]; exact hs _ _ rfl
  rw [if_neg hid, if_neg hid]
  generalize (if vendorVersion == 1 then some AesVendorVersion.ae1
    else if vendorVersion == 2 then some .ae2 else none) = vv
  cases vv with
  | none => exact hs _ _ rfl
  | some vv =>
  dsimp only
  generalize (if aesMode == 1 then some AesMode.aes128 else if aesMode == 2 then some .aes192
    else if aesMode == 3 then some .aes256 else none) = am
  cases am with
  | none => exact hs _ _ rfl
  | some am =>
  refine hg _ _ rfl ?_
  have := rd16_length h3
  have := rd16_length h4
  have := rd16_length h6
  rw [List.length_cons] at *
  omega

theorem pefStep_rel (f : FileData) (rest : Bytes)
    (hs : ∀ f' e, f'.eraseExtra = f.eraseExtra → R (stop₁ f' e) (stop₂ f' e))
    (hg : ∀ f' r', f'.eraseExtra = f.eraseExtra → r'.length + 4 ≤ rest.length → R (go₁ f' r') (go₂ f' r')) :
    R (pefStep stop₁ go₁ f rest) (pefStep stop₂ go₂ f rest) := by
  unfold pefStep
  split
  · exact hs _ _ rfl
  split
  · exact hs _ _ rfl
  next h1 =>
  split
  · exact hs _ _ rfl
  next len r2 h2 =>
  have := rd16_length h1
  have := rd16_length h2
  have hg' : ∀ f' r', f'.eraseExtra = f.eraseExtra → r'.length ≤ r2.length → R (go₁ f' r') (go₂ f' r') :=
    fun f' r' e l => hg f' r' e (by omega)
  split
  · exact pefZip64_rel R f len r2 hs hg'
  split
  · exact pefAes_rel R f len r2 hs hg'
  · exact hg' _ _ rfl (by rw [List.length_drop]; omega)

theorem pefStep_ind (P : ρ → Prop) {stop : FileData → Option ZErr → ρ} {go : FileData → Bytes → ρ}
    (f : FileData) (rest : Bytes) (hs : ∀ f' e, f'.eraseExtra = f.eraseExtra → P (stop f' e))
    (hg : ∀ f' r', f'.eraseExtra = f.eraseExtra → r'.length + 4 ≤ rest.length → P (go f' r')) :
    P (pefStep stop go f rest) :=
  pefStep_rel (fun x (_ : ρ) => P x) (stop₂ := stop) (go₂ := go) f rest hs hg

theorem parseExtraField_frame : ∀ (fuel : Nat) (f : FileData) (rest : Bytes),
    (parseExtraField fuel f rest).1.eraseExtra = f.eraseExtra
  | 0, _, _ => rfl
  | fuel + 1, f, rest =>
    pefStep_ind (fun (r : FileData × Option ZErr) => r.1.eraseExtra = f.eraseExtra) f rest (fun _ _ e => e)
      fun f' r' e _ => (parseExtraField_frame fuel f' r').trans e

theorem parseExtraField_keeps {α : Type} (g : FileData → α) (hg : ∀ f, g f.eraseExtra = g f)
    (fuel : Nat) (f : FileData) (rest : Bytes) : g (parseExtraField fuel f rest).1 = g f := by
  rw [← hg, parseExtraField_frame, hg]

theorem parseExtraField_fuel_mono : ∀ (fuel : Nat) (f : FileData) (rest : Bytes) (extra : Nat),
    rest.length < fuel →
    parseExtraField (fuel + extra) f rest = parseExtraField fuel f rest := by
  intro fuel
  induction fuel with
  | zero => intro _ _ _ h; omega
  | succ n ih =>
    intro f rest extra h
    rw [show n + 1 + extra = (n + extra) + 1 by omega]
    exact pefStep_rel Eq f rest (fun _ _ _ => rfl) fun f' r' _ l => ih f' r' extra (by omega)

/-! ### record by record -/

theorem parseExtraField_nil (k : Nat) (f : FileData) : parseExtraField k f [] = (f, none) := by
  cases k <;> rfl

variable (stop : FileData → Option ZErr → ρ) (go : FileData → Bytes → ρ)

theorem pefStep_record (f : FileData) (id len : UInt16) (r2 : Bytes) :
    pefStep stop go f (le16 id ++ (le16 len ++ r2)) =
      if id == 0x0001 then pefZip64 stop go f len r2
      else if id == 0x9901 then pefAes stop go f len r2 else go f (r2.drop len.toNat) := by
  unfold pefStep
  rw [if_neg (by simp [le16]), rd16_le16]
  dsimp only
  rw [rd16_le16]

theorem pefSlot_le64 {cur : UInt64} {z : Bool} (hz : (cur == ZIP64_BYTES_THR) = z) (v : UInt64) (r : Bytes)
    (eof : ρ) (k : Option UInt64 → Bytes → ρ) :
    pefSlot cur ((if z then le64 v else []) ++ r) eof k = k (if z then some v else none) r := by
  unfold pefSlot takeU64If
  rw [hz]
  cases z
  · rfl
  · simp only [if_true, rd64_le64]

theorem pefSlot_skip {cur : UInt64} (h : cur ≠ ZIP64_BYTES_THR) (bs : Bytes) (eof : ρ)
    (k : Option UInt64 → Bytes → ρ) : pefSlot cur bs eof k = k none bs := by
  unfold pefSlot takeU64If
  rw [beq_false_of_ne h]
  rfl

theorem pefSlot_eof {cur : UInt64} (h : cur = ZIP64_BYTES_THR) {bs : Bytes} (h1 : rd64 bs = none) (eof : ρ)
    (k : Option UInt64 → Bytes → ρ) : pefSlot cur bs eof k = eof := by
  unfold pefSlot takeU64If
  rw [h, beq_self_eq_true, if_pos rfl, h1]

theorem pefSlot_some {cur : UInt64} (h : cur = ZIP64_BYTES_THR) {bs r : Bytes} {v : UInt64}
    (h1 : rd64 bs = some (v, r)) (eof : ρ) (k : Option UInt64 → Bytes → ρ) :
    pefSlot cur bs eof k = k (some v) r := by
  unfold pefSlot takeU64If
  rw [h, beq_self_eq_true, if_pos rfl, h1]

/-- **The ZIP64 extended information record (0x0001)**: 8 bytes are taken for each of the three fields that
currently holds the marker, in the fixed order uncompressed size, compressed size, offset — every subset, the
empty one included — and what is left of the record (`dk`: the disk-start field, or anything else) is
skipped. -/
theorem pefZip64_le64 (f : FileData) (u c o : UInt64) (dk rest : Bytes) (len : UInt16) (zu zc zo : Bool)
    (hu : (f.uncompressedSize == ZIP64_BYTES_THR) = zu) (hc : (f.compressedSize == ZIP64_BYTES_THR) = zc)
    (ho : (f.headerStart == ZIP64_BYTES_THR) = zo)
    (hl : len.toNat = (if zu then 8 else 0) + (if zc then 8 else 0) + (if zo then 8 else 0) + dk.length) :
    pefZip64 stop go f len ((if zu then le64 u else []) ++ ((if zc then le64 c else []) ++
        ((if zo then le64 o else []) ++ (dk ++ rest)))) =
      go { f with largeFile := f.largeFile || zu || zc,
                  uncompressedSize := if zu then u else f.uncompressedSize,
                  compressedSize := if zc then c else f.compressedSize,
                  headerStart := if zo then o else f.headerStart } rest := by
  unfold pefZip64
  rw [pefSlot_le64 hu]
  extract_lets f1
  have e1 : f1.compressedSize = f.compressedSize := by cases zu <;> rfl
  rw [pefSlot_le64 (e1 ▸ hc)]
  extract_lets f2
  have e2 : f2.headerStart = f.headerStart := by cases zu <;> cases zc <;> rfl
  rw [pefSlot_le64 (e2 ▸ ho)]
  extract_lets f3 used lenLeft
  have e3 : f3 = { f with largeFile := f.largeFile || zu || zc,
                          uncompressedSize := if zu then u else f.uncompressedSize,
                          compressedSize := if zc then c else f.compressedSize,
                          headerStart := if zo then o else f.headerStart } := by
    cases zu <;> cases zc <;> cases zo <;> simp only [f3, f2, f1, Bool.or_false, Bool.or_true, if_true,
      Bool.false_eq_true, if_false]
  have eu : lenLeft = dk.length := by
    have : ∀ (z : Bool) (v : UInt64),
        (if (if z then some v else none).isSome then (8 : Int) else 0) = ((if z then 8 else 0 : Nat) : Int) :=
      fun z v => by cases z <;> rfl
    simp only [lenLeft, used, this]
    omega
  rw [e3, eu, Int.toNat_natCast, List.drop_left]
  congr 1
  split
  · rfl
  · rw [List.eq_nil_of_length_eq_zero (l := dk) (by omega)]; rfl

theorem parseExtraField_z64 (f : FileData) (u c o : UInt64) (dk rest : Bytes) (k : Nat) (len : UInt16)
    (zu zc zo : Bool)
    (hu : (f.uncompressedSize == ZIP64_BYTES_THR) = zu) (hc : (f.compressedSize == ZIP64_BYTES_THR) = zc)
    (ho : (f.headerStart == ZIP64_BYTES_THR) = zo)
    (hl : len.toNat = (if zu then 8 else 0) + (if zc then 8 else 0) + (if zo then 8 else 0) + dk.length) :
    parseExtraField (k + 1) f
      (le16 1 ++ (le16 len ++ ((if zu then le64 u else []) ++ ((if zc then le64 c else []) ++
        ((if zo then le64 o else []) ++ (dk ++ rest))))))
    = parseExtraField k
        { f with largeFile := f.largeFile || zu || zc,
                 uncompressedSize := if zu then u else f.uncompressedSize,
                 compressedSize := if zc then c else f.compressedSize,
                 headerStart := if zo then o else f.headerStart } rest := by
  rw [parseExtraField_succ, pefStep_record, if_pos (beq_self_eq_true _)]
  exact pefZip64_le64 _ _ f u c o dk rest len zu zc zo hu hc ho hl

theorem parseExtraField_foreign (k : Nat) (f : FileData) {id len : UInt16} {pay : Bytes} (rest : Bytes)
    (h1 : id ≠ 1) (h99 : id ≠ 0x9901) (hl : pay.length = len.toNat) :
    parseExtraField (k + 1) f (le16 id ++ (le16 len ++ (pay ++ rest))) = parseExtraField k f rest := by
  rw [parseExtraField_succ, pefStep_record, if_neg (by simpa using h1), if_neg (by simpa using h99), ← hl,
    List.drop_left]

end ZipVerif.Model
