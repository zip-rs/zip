import ZipVerif.Lemmas.Extract
/-
Faithfulness of the extractor models: under `Consistent`, on a `Fresh` target, every error branch of
the operational model (kernel path walks, `create_dir_all`'s retry loop, `exists`, `File::create`,
`set_permissions`) is dead and the run produces exactly the expected tree `treeOf`.
Here: computation lemmas for the primitives, the invariant `Inv`, monotonicity of path walks.
-/

namespace ZipVerif.Spec.FS
open ZipVerif ZipVerif.Spec.Paths ZipVerif.Model.Paths

/-! ### permission bits -/

theorem hasBits_sub (m : Nat) (h : hasBits m 0o300 = true) : hasBits m 0o100 = true := by
  simp only [hasBits, beq_iff_eq] at *
  have e : (192 : Nat) &&& 64 = 64 := by decide
  have : m &&& 64 = (m &&& 192) &&& 64 := by rw [Nat.and_assoc, e]
  rw [this, h, e]

theorem hasBits_or (a b k : Nat) (h : hasBits a k = true) : hasBits (a ||| b) k = true := by
  simp only [hasBits, beq_iff_eq] at *
  rw [Nat.and_or_distrib_right, h]
  apply Nat.eq_of_testBit_eq
  intro i
  simp only [Nat.testBit_or, Nat.testBit_and]
  cases k.testBit i <;> simp

theorem hasBits_and (m k b : Nat) (h1 : hasBits m b = true) (h2 : hasBits k b = true) :
    hasBits (m &&& k) b = true := by
  simp only [hasBits, beq_iff_eq] at *
  rw [Nat.and_assoc, h2, h1]

/-- The owner may search and modify a directory / write a file. -/
def nodeOK : Node → Prop
  | .dir m => hasBits m 0o300 = true
  | .file _ m => hasBits m 0o200 = true

theorem nodeOK_dropPrivs {c : Cfg} {m : Nat} (hp : c.priv = false) (h : hasBits m 0o200 = true) (b : Bytes) :
    nodeOK (.file b (dropPrivs c m)) := by
  simp only [nodeOK, dropPrivs, hp, Bool.false_eq_true, if_false]
  split
  · exact hasBits_and _ _ _ h (by decide)
  · exact hasBits_and _ _ _ h (by decide)

/-! ### computation lemmas -/

theorem walkR_cons (c : Cfg) (fs : FS) (x : Comp) (up : List Comp) :
    walkR c fs (x :: up) = match walkR c fs up with
      | .error e => .error e
      | .ok cur => step c fs cur x := rfl

theorem walkR_cons_ok {c : Cfg} {fs : FS} {x : Comp} {up : List Comp} {cur : Path}
    (h : walkR c fs up = .ok cur) : walkR c fs (x :: up) = step c fs cur x := by
  rw [walkR_cons, h]

theorem walkR_cons_err {c : Cfg} {fs : FS} {x : Comp} {up : List Comp} {e : FsErr}
    (h : walkR c fs up = .error e) : walkR c fs (x :: up) = .error e := by
  rw [walkR_cons, h]

theorem walkR_cons_inv {c : Cfg} {fs : FS} {x : Comp} {up : List Comp} {p : Path}
    (h : walkR c fs (x :: up) = .ok p) : ∃ cur, walkR c fs up = .ok cur ∧ step c fs cur x = .ok p := by
  rw [walkR_cons] at h
  split at h
  · cases h
  · next cur hc => exact ⟨cur, hc, h⟩

theorem step_normal_dir {c : Cfg} {fs : FS} {cur : Path} {s : Name} {m : Nat}
    (hs : canSearch c fs cur = true) (hm : fs.lookup (cur ++ [s]) = some (.dir m)) :
    step c fs cur (.normal s) = .ok (cur ++ [s]) := by
  simp [step, hs, hm]

theorem step_parent {c : Cfg} {fs : FS} {cur : Path} (hs : canSearch c fs cur = true) :
    step c fs cur .parentDir = .ok cur.dropLast := by
  simp [step, hs]

theorem locateR_normal {c : Cfg} {fs : FS} {s : Name} {up : List Comp} {d : Path}
    (h1 : walkR c fs up = .ok d) (h2 : canSearch c fs d = true) :
    locateR c fs (.normal s :: up) = .ok (.entry d s) := by
  simp [locateR, h1, h2]

theorem locateR_cons_err {c : Cfg} {fs : FS} {x : Comp} {up : List Comp} {e : FsErr}
    (h : walkR c fs up = .error e) : locateR c fs (x :: up) = .error e := by
  cases x <;> simp [locateR, walkR, h]

/-- Looking a name up in the directory at `up` succeeds exactly when the walk through "`up`/." does. -/
theorem locateR_normal_iff {c : Cfg} {fs : FS} {s : Name} {up : List Comp} {t : Target} :
    locateR c fs (.normal s :: up) = .ok t ↔ ∃ d, walkR c fs (.curDir :: up) = .ok d ∧ t = .entry d s := by
  simp only [locateR, walkR]
  cases walkR c fs up with
  | error e => simp
  | ok d => simp only [step]; split <;> simp [eq_comm]

theorem locateR_other {c : Cfg} {fs : FS} {x : Comp} {up : List Comp} (hx : ∀ s, x ≠ .normal s) :
    locateR c fs (x :: up) = match walkR c fs (x :: up) with
      | .error e => .error e
      | .ok d => .ok (.self d) := by
  cases x with
  | normal s => exact absurd rfl (hx s)
  | rootDir => rfl
  | curDir => rfl
  | parentDir => rfl

theorem locateR_of_walkR {c : Cfg} {fs : FS} {rp : List Comp} {p : Path} (h : walkR c fs rp = .ok p) :
    ∃ t, locateR c fs rp = .ok t ∧ t.path = p := by
  cases rp with
  | nil => simp only [walkR, Except.ok.injEq] at h; exact ⟨.self [], rfl, by simp [Target.path, h]⟩
  | cons x up =>
    by_cases hx : ∃ s, x = .normal s
    · obtain ⟨s, rfl⟩ := hx
      obtain ⟨cur, hc, hst⟩ := walkR_cons_inv h
      obtain ⟨hs, hp, _⟩ := step_normal_inv hst
      exact ⟨.entry cur s, locateR_normal hc hs, by simp [Target.path, hp]⟩
    · have hx' : ∀ s, x ≠ .normal s := fun s e => hx ⟨s, e⟩
      refine ⟨.self p, ?_, rfl⟩
      rw [locateR_other hx', h]

theorem step_cur {c : Cfg} {fs : FS} {cur : Path} (hs : canSearch c fs cur = true) :
    step c fs cur .curDir = .ok cur := by
  simp [step, hs]

theorem walkR_dotted {c : Cfg} {fs : FS} {rp : List Comp} {p : Path} (dot : Bool)
    (h : walkR c fs rp = .ok p) (hs : dot = true → canSearch c fs p = true) :
    walkR c fs (dotted rp dot) = .ok p := by
  cases dot
  · simpa [dotted] using h
  · simp only [dotted, if_true]; rw [walkR_cons_ok h]; exact step_cur (hs rfl)

/-- `mkdir`, `is_dir` on a path that resolves completely: it exists. -/
theorem mkdir_exists {c : Cfg} {fs : FS} {rp : List Comp} {p : Path} {m : Nat}
    (h : walkR c fs rp = .ok p) (hm : fs.lookup p = some (.dir m)) :
    mkdir c fs rp = .error .alreadyExists ∧ isDir c fs rp = true := by
  obtain ⟨t, ht, hp⟩ := locateR_of_walkR h
  cases t with
  | self q =>
    simp only [Target.path] at hp; subst hp
    simp [mkdir, isDir, stat, ht, hm]
  | entry d s =>
    simp only [Target.path] at hp
    simp [mkdir, isDir, stat, ht, hp, hm]

theorem setPermissions_dir {c : Cfg} {fs : FS} {rp : List Comp} {p : Path} {m0 : Nat}
    (h : walkR c fs rp = .ok p) (hm : fs.lookup p = some (.dir m0)) (slash : Bool) (mode : Nat) :
    setPermissions c fs rp slash mode = .ok (fs.set p (.dir (mode &&& 0o7777))) := by
  obtain ⟨t, ht, rfl⟩ := locateR_of_walkR h
  rw [setPermissions_of_locateR ht, hm]

/-! ### monotonicity of walks -/

/-- Every directory of `fs` is still a directory in `fs'` (and still searchable). -/
def Keeps (c : Cfg) (fs fs' : FS) : Prop :=
  ∀ q m, fs.lookup q = some (.dir m) →
    ∃ m', fs'.lookup q = some (.dir m') ∧ (c.priv = true ∨ (hasBits m 0o100 = true → hasBits m' 0o100 = true))

theorem Keeps.refl (c : Cfg) (fs : FS) : Keeps c fs fs := fun _ m h => ⟨m, h, Or.inr id⟩

theorem Keeps.trans {c : Cfg} {a b d : FS} (h1 : Keeps c a b) (h2 : Keeps c b d) : Keeps c a d := by
  intro q m hq
  obtain ⟨m1, hq1, hb1⟩ := h1 q m hq
  obtain ⟨m2, hq2, hb2⟩ := h2 q m1 hq1
  refine ⟨m2, hq2, ?_⟩
  rcases hb1 with hb1 | hb1
  · exact Or.inl hb1
  · rcases hb2 with hb2 | hb2
    · exact Or.inl hb2
    · exact Or.inr fun h => hb2 (hb1 h)

theorem canSearch_keeps {c : Cfg} {fs fs' : FS} (hk : Keeps c fs fs') {d : Path}
    (h : canSearch c fs d = true) : canSearch c fs' d = true := by
  unfold canSearch at *
  cases hp : c.priv
  · simp only [hp, Bool.false_or] at h ⊢
    split at h
    · next m hm =>
      obtain ⟨m', hm', hb⟩ := hk d m hm
      rw [hm']
      rcases hb with hb | hb
      · rw [hp] at hb; cases hb
      · exact hb h
    · cases h
  · simp

theorem step_mono {c : Cfg} {fs fs' : FS} {cur p : Path} {x : Comp} (h : step c fs cur x = .ok p)
    (hs : canSearch c fs cur = true → canSearch c fs' cur = true)
    (hd : ∀ s m, fs.lookup (cur ++ [s]) = some (.dir m) → ∃ m', fs'.lookup (cur ++ [s]) = some (.dir m')) :
    step c fs' cur x = .ok p := by
  cases x with
  | rootDir => exact h
  | curDir =>
    obtain ⟨h1, hp⟩ := step_cur_inv h
    rw [hp]; exact step_cur (hs h1)
  | parentDir =>
    obtain ⟨h1, hp⟩ := step_parent_inv h
    rw [hp]; exact step_parent (hs h1)
  | normal s =>
    obtain ⟨h1, hp, m, hm⟩ := step_normal_inv h
    obtain ⟨m', hm'⟩ := hd s m hm
    rw [hp]; exact step_normal_dir (hs h1) hm'

theorem step_keeps {c : Cfg} {fs fs' : FS} (hk : Keeps c fs fs') {cur p : Path} {x : Comp}
    (h : step c fs cur x = .ok p) : step c fs' cur x = .ok p :=
  step_mono h (canSearch_keeps hk) fun _ m hm => (hk _ m hm).imp fun _ h => h.1

theorem walkR_keeps {c : Cfg} {fs fs' : FS} (hk : Keeps c fs fs') {rp : List Comp} {p : Path}
    (h : walkR c fs rp = .ok p) : walkR c fs' rp = .ok p := by
  induction rp generalizing p with
  | nil => exact h
  | cons x up ih =>
    obtain ⟨cur, hc, hst⟩ := walkR_cons_inv h
    rw [walkR_cons_ok (ih hc)]
    exact step_keeps hk hst

theorem keeps_set_nondir {c : Cfg} {fs : FS} {p : Path} (n : Node)
    (h : ∀ m, fs.lookup p ≠ some (.dir m)) : Keeps c fs (fs.set p n) := by
  intro q m hq
  have : q ≠ p := fun e => h m (e ▸ hq)
  exact ⟨m, by rw [lookup_set_ne _ _ this]; exact hq, Or.inr id⟩

theorem keeps_set_dir {c : Cfg} {fs : FS} {p : Path} (m' : Nat)
    (hb : c.priv = true ∨ hasBits m' 0o100 = true) : Keeps c fs (fs.set p (.dir m')) := by
  intro q m hq
  by_cases e : q = p
  · subst e
    refine ⟨m', lookup_set_self _ _ _, ?_⟩
    rcases hb with hb | hb
    · exact Or.inl hb
    · exact Or.inr fun _ => hb
  · exact ⟨m, by rw [lookup_set_ne _ _ e]; exact hq, Or.inr id⟩

/-! ### the invariant -/

/-- The target directory is reachable, everything bound below it hangs off a bound directory, and —
unless the caller is the superuser — the owner bits never lock the caller out. -/
structure Inv (c : Cfg) (root : Path) (fs : FS) : Prop where
  chain : walkR c fs (root.reverse.map Comp.normal) = .ok root
  rootDir : ∃ m, fs.lookup root = some (.dir m)
  wf : ∀ r, r ≠ [] → fs.lookup (root ++ r) ≠ none → ∃ m, fs.lookup (root ++ r.dropLast) = some (.dir m)
  perm : c.priv = true ∨ ∀ r n, fs.lookup (root ++ r) = some n → nodeOK n

theorem Inv.search {c : Cfg} {root : Path} {fs : FS} (hi : Inv c root fs) {r : Path} {m : Nat}
    (h : fs.lookup (root ++ r) = some (.dir m)) :
    canSearch c fs (root ++ r) = true ∧ canModifyDir c fs (root ++ r) = true := by
  unfold canSearch canModifyDir
  rcases hi.perm with hp | hp
  · simp [hp]
  · have := hp r _ h
    simp only [nodeOK] at this
    simp [h, this, hasBits_sub _ this]

theorem Inv.write {c : Cfg} {root : Path} {fs : FS} (hi : Inv c root fs) {r : Path} {b : Bytes} {m : Nat}
    (h : fs.lookup (root ++ r) = some (.file b m)) : canWriteFile c m = true := by
  unfold canWriteFile
  rcases hi.perm with hp | hp
  · simp [hp]
  · have := hp r _ h
    simp only [nodeOK] at this
    simp [this]

/-- Binding `root ++ r` keeps the invariant when all directories are kept, a path bound for the first
time lies in a bound directory, and the new node does not lock the caller out. -/
theorem Inv.set {c : Cfg} {root : Path} {fs : FS} (hi : Inv c root fs) {r : Path} {n : Node}
    (hk : Keeps c fs (fs.set (root ++ r) n))
    (hpar : fs.lookup (root ++ r) = none → ∃ m, fs.lookup (root ++ r.dropLast) = some (.dir m))
    (hok : c.priv = true ∨ nodeOK n) : Inv c root (fs.set (root ++ r) n) := by
  have dir : ∀ {q m}, fs.lookup q = some (.dir m) → ∃ m', (fs.set (root ++ r) n).lookup q = some (.dir m') :=
    fun h => (hk _ _ h).imp fun _ h' => h'.1
  refine ⟨walkR_keeps hk hi.chain, hi.rootDir.elim fun _ => dir, fun r2 hr2 hne => ?_, ?_⟩
  · have : ∃ m, fs.lookup (root ++ r2.dropLast) = some (.dir m) := by
      by_cases h0 : fs.lookup (root ++ r2) = none
      · rw [lookup_set_append] at hne
        split at hne
        · next e => subst e; exact hpar h0
        · exact absurd h0 hne
      · exact hi.wf r2 hr2 h0
    exact this.elim fun _ => dir
  · rcases hi.perm, hok with ⟨hp | hp, hok | hok⟩
    · exact Or.inl hp
    · exact Or.inl hp
    · exact Or.inl hok
    · refine Or.inr fun r2 n2 h2 => ?_
      rw [lookup_set_append] at h2
      split at h2
      · cases h2; exact hok
      · exact hp r2 n2 h2

theorem Inv.set_dir {c : Cfg} {root : Path} {fs : FS} (hi : Inv c root fs) {r : Path} {m m' : Nat}
    (hold : fs.lookup (root ++ r) = some (.dir m))
    (hok : c.priv = true ∨ nodeOK (.dir m')) : Inv c root (fs.set (root ++ r) (.dir m')) :=
  hi.set (keeps_set_dir m' (hok.imp id (hasBits_sub _))) (fun h => by rw [hold] at h; cases h) hok

end ZipVerif.Spec.FS
