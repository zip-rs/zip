import ZipVerif.Lemmas.FaithfulEntry
/-
Faithfulness: applying the recorded modes after every entry has been placed.

While modes are applied the invariant `Inv` (every node below the target keeps owner write/search) no
longer holds — that is the point: ANY permission bits may be recorded.  What is maintained instead is
`Reach`: for every mode still to be applied, the path `chmod` is handed still resolves (`locateR`) to
the entry's node.  A `chmod` of another node can only break that by removing search permission from a
directory the path is walked through (`searched`); the order of application (deepest first,
`sortModes`) together with `Unlocked` excludes it.
-/

namespace ZipVerif.Model.Extract
open ZipVerif ZipVerif.Spec.Paths ZipVerif.Spec.FS ZipVerif.Spec.Tree ZipVerif.Model.Paths

/-- The (reversed) component list `set_permissions(directory.join(name))` hands to the kernel. -/
def chmodPath (root : Path) (n : Name) : List Comp := dotted (joinedR root n) (tailDot n)

def isDirNode : Node → Bool
  | .dir _ => true
  | .file _ _ => false

/-- `chmod` of the entry's path will find the entry's node. -/
def Reach (c : Cfg) (root : Path) (fs : FS) (n : Name) : Prop :=
  ∃ t nd, locateR c fs (chmodPath root n) = .ok t ∧ t.path = resolveFrom root (relComps n) ∧
    fs.lookup t.path = some nd ∧ ((endsSlash n = true ∨ ∃ p, t = .self p) → isDirNode nd = true)

/-- The node after `chmod`: same kind, same bytes. -/
def withMode (mode : Option Nat) : Node → Node
  | .dir m => .dir (match mode with | some md => md &&& 0o7777 | none => m)
  | .file b m => .file b (match mode with | some md => md &&& 0o7777 | none => m)

theorem withMode_none (n : Node) : withMode none n = n := by cases n <;> rfl

theorem isDirNode_withMode (mode : Option Nat) (n : Node) : isDirNode (withMode mode n) = isDirNode n := by
  cases n <;> rfl

theorem chmodAt_of_bound {fs : FS} {T : Path} {nd : Node} (m : Nat) (h : fs.lookup T = some nd) :
    chmodAt fs T m = fs.set T (withMode (some m) nd) := by
  cases nd <;> simp [chmodAt, h, withMode]

theorem applyMode_of_reach {c : Cfg} {root : Path} {fs : FS} {n : Name} (m : Nat)
    (h : Reach c root fs n) : applyMode c root n (some m) fs = (setMode root n (some m) fs, none) := by
  obtain ⟨t, nd, hl, hp, hlk, hdir⟩ := h
  unfold chmodPath at hl
  simp only [applyMode, setMode, chmodAt, ← hp, hlk, setPermissions_of_locateR hl]
  cases nd with
  | dir m0 => rfl
  | file b m0 =>
    cases t with
    | self p => exact absurd (hdir (.inr ⟨p, rfl⟩)) (by simp [isDirNode])
    | entry d s =>
      cases hsl : endsSlash n with
      | true => exact absurd (hdir (.inl hsl)) (by simp [isDirNode])
      | false => rfl

theorem reach_of_placed {c : Cfg} {root : Path} {fs : FS} {n : Name} (hi : Inv c root fs)
    (hpl : Placed c root fs n) (hs : SafeR (relComps n).reverse)
    (hfile : isDirName n = false → tailDot n = false ∧ n ≠ []) : Reach c root fs n := by
  cases hd : isDirName n with
  | true =>
    obtain ⟨p, hp⟩ := (placed_dir hd).mp hpl
    obtain ⟨hpe, m0, hm0⟩ := walk_end hi hs hp
    have hpr : resolveFrom root (relComps n) = p := by
      rw [hpe, ← resolveFrom_root_safe root hs, List.reverse_reverse]
    have hw := walkR_dotted (tailDot n) hp (fun _ => (walk_end_search hi hs hp).1)
    obtain ⟨t, ht, htp⟩ := locateR_of_walkR hw
    refine ⟨t, .dir m0, ?_, by rw [htp, hpr], by rw [htp]; exact hm0, fun _ => rfl⟩
    unfold chmodPath; rw [joinedR_eq]; exact ht
  | false =>
    obtain ⟨s, up, d, b, m0, hr, hw, hl⟩ := (placed_file hd).mp hpl
    obtain ⟨hdot, hne⟩ := hfile hd
    rw [hr] at hs
    have hs0 := hs.tail
    have hsearch := (walk_end_search hi hs0 hw).1
    obtain ⟨hde, _⟩ := walk_end hi hs0 hw
    have hpr : resolveFrom root (relComps n) = d ++ [s] := by
      have : relComps n = (Comp.normal s :: up).reverse := by rw [← hr, List.reverse_reverse]
      rw [this, resolveFrom_reverse_cons, resolveFrom_root_safe root hs0, ← hde]; rfl
    refine ⟨.entry d s, .file b m0, ?_, by simp [Target.path, hpr], by simpa [Target.path] using hl, ?_⟩
    · unfold chmodPath
      rw [joinedR_eq, hr, hdot, List.cons_append]
      simp only [dotted, Bool.false_eq_true, if_false]
      exact locateR_normal hw hsearch
    · rintro (h | ⟨p, hp⟩)
      · rw [endsSlash_false hd hne] at h; cases h
      · cases hp

/-! ### re-binding one node with a node of the same kind -/

theorem canSearch_set_ne {c : Cfg} {fs : FS} {T q : Path} (nd : Node) (h : q ≠ T) :
    canSearch c (fs.set T nd) q = canSearch c fs q := by
  unfold canSearch; rw [lookup_set_ne _ _ h]

theorem step_set {c : Cfg} {fs : FS} {T cur p : Path} {nd : Node} {x : Comp}
    (h : step c fs cur x = .ok p)
    (hk : ∀ m, fs.lookup T = some (.dir m) → ∃ m', nd = .dir m')
    (hs : cur = T → canSearch c (fs.set T nd) T = true) : step c (fs.set T nd) cur x = .ok p := by
  refine step_mono h (fun h0 => ?_) (fun s m hm => ?_)
  · by_cases e : cur = T
    · rw [e]; exact hs e
    · rw [canSearch_set_ne nd e]; exact h0
  · rw [lookup_set]
    split
    · next e => exact (hk m (e ▸ hm)).imp fun _ h => by rw [h]
    · exact ⟨m, hm⟩

theorem suffix_cons_ne {α} {u up : List α} {x : α} (h : u <:+ up) : u ≠ x :: up := by
  intro e
  have := h.length_le
  rw [e] at this; simp only [List.length_cons] at this; omega

theorem walkR_set {c : Cfg} {fs : FS} {T : Path} {nd : Node} {rp : List Comp} {p : Path}
    (h : walkR c fs rp = .ok p)
    (hk : ∀ m, fs.lookup T = some (.dir m) → ∃ m', nd = .dir m')
    (hs : ∀ u, u <:+ rp → u ≠ rp → resolve u.reverse = T → canSearch c (fs.set T nd) T = true) :
    walkR c (fs.set T nd) rp = .ok p := by
  induction rp generalizing p with
  | nil => exact h
  | cons x up ih =>
    obtain ⟨cur, hc, hst⟩ := walkR_cons_inv h
    have h0 := ih hc (fun u hu hne hr =>
      hs u (List.suffix_cons_iff.mpr (Or.inr hu)) (suffix_cons_ne hu) hr)
    rw [walkR_cons_ok h0]
    apply step_set hst hk
    intro e
    exact hs up (List.suffix_cons _ _) (suffix_cons_ne (List.suffix_refl _)) (by rw [← walkR_lex hc]; exact e)

theorem locateR_set {c : Cfg} {fs : FS} {T : Path} {nd : Node} {rp : List Comp} {t : Target}
    (h : locateR c fs rp = .ok t)
    (hk : ∀ m, fs.lookup T = some (.dir m) → ∃ m', nd = .dir m')
    (hs : ∀ u, u <:+ rp → u ≠ rp → resolve u.reverse = T → canSearch c (fs.set T nd) T = true) :
    locateR c (fs.set T nd) rp = .ok t := by
  cases rp with
  | nil => exact h
  | cons x up =>
    by_cases hx : ∃ s, x = .normal s
    · obtain ⟨s, rfl⟩ := hx
      obtain ⟨d, hw, rfl⟩ := locateR_normal_iff.mp h
      refine locateR_normal_iff.mpr ⟨d, walkR_set hw hk fun u hu hne => ?_, rfl⟩
      have hu := (List.suffix_cons_iff.mp hu).resolve_left hne
      exact hs u (List.suffix_cons_iff.mpr (.inr hu)) (suffix_cons_ne hu)
    · have hx' : ∀ s, x ≠ .normal s := fun s e => hx ⟨s, e⟩
      rw [locateR_other hx'] at h ⊢
      cases hw : walkR c fs (x :: up) with
      | error e => rw [hw] at h; cases h
      | ok d => rw [hw] at h; rw [walkR_set hw hk hs]; exact h

/-- A `chmod` of the node at `T` keeps an entry reachable unless it takes search permission away from a
directory the entry's path is walked through. -/
theorem Reach.chmod {c : Cfg} {root : Path} {fs : FS} {n : Name} {T : Path} {nd : Node}
    (h : Reach c root fs n) (hT : fs.lookup T = some nd) (md : Nat)
    (hs : ∀ u, u <:+ chmodPath root n → u ≠ chmodPath root n → resolve u.reverse = T →
      canSearch c (chmodAt fs T md) T = true) : Reach c root (chmodAt fs T md) n := by
  rw [chmodAt_of_bound md hT] at hs ⊢
  obtain ⟨t, nd1, hl, hp, hlk, hdir⟩ := h
  have hl' := locateR_set hl (fun m h => by rw [hT] at h; cases h; exact ⟨_, rfl⟩) hs
  by_cases e : t.path = T
  · subst e
    rw [hT] at hlk; cases hlk
    exact ⟨t, _, hl', hp, lookup_set_self _ _ _, fun hreq => by rw [isDirNode_withMode]; exact hdir hreq⟩
  · exact ⟨t, nd1, hl', hp, by rw [lookup_set_ne _ _ e]; exact hlk, hdir⟩

/-! ### which directories a path is walked through -/

theorem resolveFrom_length_le (st : Path) (cs : List Comp) :
    (resolveFrom st cs).length ≤ st.length + cs.length := by
  induction cs generalizing st with
  | nil => simp [resolveFrom]
  | cons x cs ih =>
    have := ih (resolveStep st x)
    simp only [resolveFrom, List.foldl_cons, List.length_cons] at this ⊢
    have hx : (resolveStep st x).length ≤ st.length + 1 := by
      cases x <;> simp [resolveStep] <;> omega
    omega

theorem suffix_joined {u rr base : List Comp} (h : u <:+ rr ++ base) :
    (∃ t, t <:+ rr ∧ u = t ++ base) ∨ (u <:+ base ∧ u ≠ base) := by
  induction rr with
  | nil =>
    by_cases e : u = base
    · exact Or.inl ⟨[], List.suffix_refl _, by simp [e]⟩
    · exact Or.inr ⟨by simpa using h, e⟩
  | cons x rr ih =>
    rw [List.cons_append] at h
    rcases List.suffix_cons_iff.mp h with rfl | h
    · exact Or.inl ⟨x :: rr, List.suffix_refl _, rfl⟩
    · rcases ih h with ⟨t, ht, hu⟩ | h2
      · exact Or.inl ⟨t, List.suffix_cons_iff.mpr (Or.inr ht), hu⟩
      · exact Or.inr h2

/-- A proper initial part of the path handed to `chmod` that resolves to `root ++ r`: then `r` is one
of the directories the entry's path is walked through. -/
theorem searched_of_suffix {root : Path} {rr : List Comp} {dot : Bool} {u : List Comp} {r : Path}
    (hs : SafeR rr)
    (hu : u <:+ dotted (rr ++ rootRev root) dot) (hne : u ≠ dotted (rr ++ rootRev root) dot)
    (hr : resolve u.reverse = root ++ r) :
    r ∈ searchedR rr ++ (if dot then [resolve rr.reverse] else []) := by
  have hu1 : u <:+ rr ++ rootRev root := by
    cases dot with
    | false => exact hu
    | true => exact (List.suffix_cons_iff.mp hu).resolve_left hne
  rcases suffix_joined hu1 with ⟨t, ht, rfl⟩ | ⟨h1, h2⟩
  · rw [resolve_joined_safe root t (hs.suffix ht)] at hr
    obtain rfl := List.append_cancel_left hr
    by_cases e : t = rr
    · subst e
      cases dot with
      | false => exact absurd rfl hne
      | true => simp
    · apply List.mem_append_left
      cases rr with
      | nil => exact absurd (List.suffix_nil.mp ht) e
      | cons x up => exact mem_positionsR.mpr ⟨t, (List.suffix_cons_iff.mp ht).resolve_left e, rfl⟩
  · exfalso
    have hlen : u.length < (rootRev root).length := by
      have := h1.length_le
      have hne' : u.length ≠ (rootRev root).length := fun e => h2 (h1.eq_of_length e)
      omega
    have h3 := resolveFrom_length_le [] u.reverse
    have h4 := congrArg List.length hr
    simp only [resolve] at h4
    simp only [rootRev, List.length_map, List.length_reverse] at hlen
    simp only [List.length_nil, List.length_reverse, List.length_append] at h3 h4
    omega

theorem pathDepth_eq {n : Name} (h : (enclosedName n).isSome = true) :
    pathDepth n = (resolve (relComps n)).length := by
  obtain ⟨d', hw⟩ := Option.isSome_iff_exists.mp (enclosedName_isSome.mp h).2
  rw [pathDepth, depthStep_walk hw]
  rw [← walk_filter_curDir] at hw
  exact (resolveFrom_of_walk [] (relComps n) [] 0 d' rfl hw).2.symm

theorem searched_sub_dirPaths {c : Cfg} {es : List EntryView} {e : EntryView} (he : EntryOK c es e)
    {r : Path} (h : r ∈ searched e) : r ∈ dirPaths e := by
  unfold searched at h
  cases hd : isDirName e.name with
  | true =>
    rw [dirPaths_dir hd]
    rcases List.mem_append.mp h with h | h
    · cases hrr : (relComps e.name).reverse with
      | nil => rw [hrr] at h; simp [searchedR] at h
      | cons x up => rw [hrr] at h; exact List.mem_cons_of_mem _ h
    · split at h
      · obtain rfl := List.mem_singleton.mp h
        exact mem_positionsR.mpr ⟨_, List.suffix_refl _, by rw [List.reverse_reverse]; rfl⟩
      · cases h
  | false =>
    obtain ⟨hdot, hln⟩ := he.file hd
    obtain ⟨s, up, hr⟩ := lastNormal_reverse hln
    rw [dirPaths_file hd hr]
    simpa [searchedR, hdot, hr] using h

/-! ### the whole mode phase -/

theorem setMode_kinds {root : Path} {es : List EntryView} {fs : FS} (hk : Kinds root es fs) (n : Name)
    (mode : Option Nat) : Kinds root es (setMode root n mode fs) := by
  cases mode with
  | none => exact hk
  | some md =>
    cases hl : fs.lookup (resolveFrom root (relComps n)) with
    | none => simp only [setMode, chmodAt, hl]; exact hk
    | some nd =>
      rw [setMode, chmodAt_of_bound md hl]
      intro r nd2 h2
      rw [lookup_set] at h2
      split at h2
      · next e => cases h2; have := hk r nd (e ▸ hl); cases nd <;> exact this
      · exact hk r nd2 h2

/-- Applying the mode recorded as `a` cannot lock the later `chmod` of `b`'s path out: the caller is the
superuser, or the mode keeps owner search, or `a`'s path is not a directory `b`'s path is walked through. -/
def ModeSafe (c : Cfg) (a b : Name × Option Nat) : Prop :=
  c.priv = true ∨ ∀ md, a.2 = some md → isDirName a.1 = true → hasBits (md &&& 0o7777) 0o100 = false →
    target { name := a.1 } ∉ searched { name := b.1 }

/-- The mode phase for ANY order of application in which no mode locks a later one out. -/
theorem applyModes_of_safe {c : Cfg} {root : Path} {es : List EntryView}
    (hDF : ∀ r, DirAt es r → FileAt es r → False) (L : List (Name × Option Nat))
    (hsafe : L.Pairwise (ModeSafe c))
    (hL : ∀ m ∈ L, m.2.isSome = true ∧ ∃ e ∈ es, m = (e.name, e.mode) ∧ EntryOK c es e)
    (fs : FS) (hk : Kinds root es fs) (hreach : ∀ m ∈ L, Reach c root fs m.1) :
    applyModes c root L fs = (setModes root L fs, none) := by
  induction L generalizing fs with
  | nil => rfl
  | cons m0 L ih =>
    obtain ⟨hsome, e, he, hm0, heok⟩ := hL m0 (by simp)
    obtain ⟨md, hmd⟩ := Option.isSome_iff_exists.mp hsome
    have hr0 := hreach m0 (by simp)
    have happ := applyMode_of_reach md hr0
    simp only [applyModes, setModes]
    rw [hmd, happ]
    simp only
    rw [← hmd]
    rw [List.pairwise_cons] at hsafe
    apply ih hsafe.2 (fun m hm => hL m (List.mem_cons_of_mem _ hm))
    · exact setMode_kinds hk m0.1 m0.2
    · -- the remaining modes stay reachable
      intro m hm
      obtain ⟨t, nd, hl, hp, hlk, hdir⟩ := hr0
      have hname0 : m0.1 = e.name := by rw [hm0]
      have hT : resolveFrom root (relComps m0.1) = root ++ target e := hname0 ▸ heok.target root
      rw [hp] at hlk
      rw [hmd]
      refine (hreach m (List.mem_cons_of_mem _ hm)).chmod hlk md fun u hu hne hru => ?_
      cases hpv : c.priv with
      | true => simp [canSearch, hpv]
      | false =>
        -- the head's node is a directory that the later path is walked through
        obtain ⟨_, e', he', hm', heok'⟩ := hL m (List.mem_cons_of_mem _ hm)
        have hname : m.1 = e'.name := by rw [hm']
        have hmem : target e ∈ searched e' := by
          have := searched_of_suffix (r := target e) heok'.safe (hname ▸ hu) (hname ▸ hne) (hru.trans hT)
          rwa [List.reverse_reverse] at this
        have hda : DirAt es (target e) := Or.inr ⟨e', he', searched_sub_dirPaths heok' hmem⟩
        have hdn : isDirName e.name = true := by
          cases hdn : isDirName e.name with
          | true => rfl
          | false => exact (hDF _ hda ⟨e, he, by simp [filePath, hdn, target]⟩).elim
        rw [chmodAt_of_bound md hlk, canSearch, lookup_set_self, hpv]
        cases nd with
        | file b m1 => exact (hDF _ hda (hk (target e) _ (hT ▸ hlk))).elim
        | dir m1 =>
          cases hb : hasBits (md &&& 0o7777) 0o100 with
          | true => simpa [withMode] using hb
          | false =>
            rcases hsafe.1 m hm with hp | hs
            · rw [hpv] at hp; cases hp
            · rw [hname0, hname] at hs
              exact absurd hmem (hs md hmd hdn hb)

/-- Deepest first is such an order when no recorded mode locks the extractor out of a deeper path. -/
theorem applyModes_eq {c : Cfg} {root : Path} {es : List EntryView}
    (hDF : ∀ r, DirAt es r → FileAt es r → False) (hun : c.priv = true ∨ Unlocked es)
    (L : List (Name × Option Nat))
    (hsorted : L.Pairwise fun a b => pathDepth b.1 ≤ pathDepth a.1)
    (hL : ∀ m ∈ L, m.2.isSome = true ∧ ∃ e ∈ es, m = (e.name, e.mode) ∧ EntryOK c es e)
    (fs : FS) (hk : Kinds root es fs) (hreach : ∀ m ∈ L, Reach c root fs m.1) :
    applyModes c root L fs = (setModes root L fs, none) := by
  refine applyModes_of_safe hDF L (hsorted.imp_of_mem fun {a b} ha hb hab => ?_) hL fs hk hreach
  rcases hun with hp | hun
  · exact Or.inl hp
  · obtain ⟨_, ea, hea, rfl, hoka⟩ := hL a ha
    obtain ⟨hsb, eb, heb, rfl, hokb⟩ := hL b hb
    refine Or.inr fun md hmd hdn hbits hmem => ?_
    have := hun ea hea eb heb md (by simp [show ea.mode = some md from hmd]) hdn hbits hsb hmem
    rw [pathDepth_eq hoka.enclosed, pathDepth_eq hokb.enclosed] at hab
    exact absurd this (by unfold target; omega)

end ZipVerif.Model.Extract
