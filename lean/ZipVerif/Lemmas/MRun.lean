import ZipVerif.Model.Writer
import ZipVerif.Lemmas.WriteAt
/- Evaluation lemmas for the I/O monad `M` (bind, pure, `attempt`, `prim`, `retried`) and the writer plumbing (`io`). -/

namespace ZipVerif.Model
open ZipVerif

theorem M.bind_apply {α β} (x : M α) (f : α → M β) (fa : Option Nat) (d : Dev) :
    (x >>= f) fa d = match x fa d with
      | (.ok a, d') => f a fa d'
      | (.err e, d') => (.err e, d')
      | (.panic s, d') => (.panic s, d') := rfl

theorem M.pure_apply {α} (a : α) (fa : Option Nat) (d : Dev) : (Pure.pure a : M α) fa d = (.ok a, d) := rfl

theorem M.attempt_apply {α} (m : M α) (fa : Option Nat) (d : Dev) :
    M.attempt m fa d = match m fa d with
      | (.ok a, d') => (.ok (.ok a), d')
      | (.err e, d') => (.ok (.error e), d')
      | (.panic s, d') => (.panic s, d') := rfl

theorem M.bind_congr_at {α β} {x : M α} {f g : α → M β} {fa : Option Nat} {d : Dev}
    (h : ∀ a d', x fa d = (.ok a, d') → f a fa d' = g a fa d') : (x >>= f) fa d = (x >>= g) fa d := by
  rw [M.bind_apply, M.bind_apply]
  rcases hx : x fa d with ⟨o, d'⟩
  cases o with
  | ok a => exact h a d' hx
  | err e => rfl
  | panic s => rfl

theorem M.bind_congr_left_at {α β} {x y : M α} {f : α → M β} {fa : Option Nat} {d : Dev}
    (h : x fa d = y fa d) : (x >>= f) fa d = (y >>= f) fa d := by
  rw [M.bind_apply, M.bind_apply, h]

theorem M.bind_of_ok {α β} {x : M α} {f : α → M β} {fa : Option Nat} {d d' : Dev} {a : α}
    (h : x fa d = (.ok a, d')) : (x >>= f) fa d = f a fa d' := by
  rw [M.bind_apply, h]

theorem M.bind_of_err {α β} {x : M α} {f : α → M β} {fa : Option Nat} {d d' : Dev} {e : ZErr}
    (h : x fa d = (.err e, d')) : (x >>= f) fa d = (.err e, d') := by
  rw [M.bind_apply, h]

theorem M.bind_err_inv {α β} {x : M α} {f : α → M β} {fa : Option Nat} {d d'' : Dev} {e : ZErr}
    (h : (x >>= f) fa d = (.err e, d'')) :
    x fa d = (.err e, d'') ∨ ∃ a d', x fa d = (.ok a, d') ∧ f a fa d' = (.err e, d'') := by
  rw [M.bind_apply] at h
  generalize x fa d = r at h
  obtain ⟨(a | e' | s), d'⟩ := r
  · exact .inr ⟨a, d', rfl, h⟩
  · cases h
    exact .inl rfl
  · cases h

/-! ### `M.retried` -/

def bump {α} (r : Out α × Dev) : Out α × Dev := (r.1, { r.2 with calls := r.2.calls + 1 })

theorem M.retried_none {α} (m : M α) (d : Dev) : M.retried m none d = m none d := rfl

theorem M.retried_some {α} (m : M α) (k : Nat) (d : Dev) :
    M.retried m (some k) d =
      if d.fkind = .interrupted ∧ d.calls ≤ k ∧ k < (m none d).2.calls then bump (m none d) else m (some k) d := rfl

/-- A retry loop either changes nothing or — the device fails with `Interrupted` and the fault index lies among the
calls of the failure-free run — answers as that run does, with one more call counted. -/
theorem M.retried_cases {α} (m : M α) (fa : Option Nat) (d : Dev) :
    M.retried m fa d = m fa d ∨
    ∃ k, fa = some k ∧ d.fkind = .interrupted ∧ d.calls ≤ k ∧ k < (m none d).2.calls ∧
      M.retried m fa d = ((m none d).1, { (m none d).2 with calls := (m none d).2.calls + 1 }) := by
  cases fa with
  | none => exact Or.inl rfl
  | some k =>
    rw [M.retried_some]
    split
    · next h => exact Or.inr ⟨k, rfl, h.1, h.2.1, h.2.2, rfl⟩
    · exact Or.inl rfl

theorem M.retried_hard {α} (m : M α) (fa : Option Nat) (d : Dev) (h : d.fkind ≠ .interrupted) :
    M.retried m fa d = m fa d := by
  cases fa with
  | none => rfl
  | some k => rw [M.retried_some, if_neg (fun c => h c.1)]

theorem M.retried_outside {α} (m : M α) (k : Nat) (d : Dev) (h : k < d.calls) :
    M.retried m (some k) d = m (some k) d := by
  rw [M.retried_some, if_neg (fun c => Nat.not_le_of_lt h c.2.1)]

theorem M.retried_pure {α} (a : α) (fa : Option Nat) (d : Dev) : M.retried (pure a) fa d = (.ok a, d) := by
  cases fa with
  | none => rfl
  | some k =>
    rw [M.retried_some, if_neg (fun c => Nat.lt_irrefl _ (Nat.lt_of_le_of_lt c.2.1 c.2.2))]
    rfl

theorem M.retried_comp {α β} (g : Out α → Out β) {m : M α} {m' : M β}
    (h : ∀ fa d, m' fa d = (g (m fa d).1, (m fa d).2)) (fa : Option Nat) (d : Dev) :
    M.retried m' fa d = (g (M.retried m fa d).1, (M.retried m fa d).2) := by
  cases fa with
  | none => exact h none d
  | some k =>
    rw [M.retried_some, M.retried_some, h none d, h (some k) d]
    by_cases hc : d.fkind = .interrupted ∧ d.calls ≤ k ∧ k < (m none d).2.calls
    · rw [if_pos hc, if_pos hc]
      rfl
    · rw [if_neg hc, if_neg hc]

theorem M.retried_ok {α} {m : M α} (hm : ∀ fa d, ∃ r d', m fa d = (.ok r, d')) (fa : Option Nat) (d : Dev) :
    ∃ r d', M.retried m fa d = (.ok r, d') := by
  cases fa with
  | none => exact hm none d
  | some k =>
    rw [M.retried_some]
    split
    · obtain ⟨r, d', h⟩ := hm none d
      rw [h]
      exact ⟨_, _, rfl⟩
    · exact hm (some k) d

theorem io_run {α β} (s : WState) (m : M α) (k : α → M (Except ZErr β × WState)) (fa : Option Nat)
    (d : Dev) :
    io s m k fa d = match m fa d with
      | (.ok a, d') => k a fa d'
      | (.err e, d') => (.ok (.error e, s), d')
      | (.panic p, d') => (.panic p, d') := by
  unfold io
  rw [M.bind_apply]
  unfold M.attempt
  cases h : m fa d with
  | mk o d' => cases o <;> simp [M.pure_apply]

def Dev.tick (d : Dev) : Dev := { d with calls := d.calls + 1 }

theorem M.prim_run {α} (f : Dev → Out α × Dev) (fa : Option Nat) (d : Dev) :
    M.prim f fa d = if fa = some d.calls then (.err (.io d.fkind), d.tick) else f d.tick := rfl

/-- the call whose index is the injected fault fails, with the device's kind of error -/
theorem M.prim_fault {α} (f : Dev → Out α × Dev) (d : Dev) :
    M.prim f (some d.calls) d = (.err (.io d.fkind), d.tick) := if_pos rfl

theorem M.writeAll_run (bs : Bytes) (h : bs ≠ []) (fa : Option Nat) (d : Dev) :
    M.writeAll bs fa d =
      if fa = some d.calls then (.err (.io d.fkind), d.tick)
      else (.ok (), { d.tick with buf := writeAt d.buf d.pos bs, pos := d.pos + bs.length }) := by
  have hb : bs.isEmpty = false := by cases bs <;> simp_all
  unfold M.writeAll
  rw [hb]
  simp only [Bool.false_eq_true, if_false]
  rw [M.bind_apply]
  unfold M.write
  rw [M.prim_run]
  by_cases hfa : fa = some d.calls
  · rw [if_pos hfa, if_pos hfa]
  · rw [if_neg hfa, if_neg hfa]; rfl

theorem M.seek_start_run (n : Nat) (fa : Option Nat) (d : Dev) :
    M.seek (.start n) fa d =
      if fa = some d.calls then (.err (.io d.fkind), d.tick)
      else (.ok n, { d.tick with pos := n }) := by
  unfold M.seek
  rw [M.prim_run]
  split
  · rfl
  · simp [Dev.tick]

end ZipVerif.Model
