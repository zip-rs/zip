import ZipVerif.Lemmas.WLRun
/-
Ghost-level invariants in two parts, `Keeps I Q`: `I` of the closed entries, `Q` of the open one, kept by every call
once closing keeps `I` and `write` keeps `Q` (`KeepSpec`, `keeps_step`).  The instance `GoodP`: a property `P` of closed
entries that holds of the entries a run starts with and of every entry the writer closes (because a property `Q` holds
of the record `start_entry` pushes for it) holds of every entry of the emitted layout.  `Lemmas/WLGood.lean` is the
instance "representable and readable"; `Props/C13Layout.lean` uses the instance `AppendClean`.
-/

namespace ZipVerif.WL
open ZipVerif ZipVerif.Model ZipVerif.Spec.Zip
open ZipVerif.Props.C12 (Call)

theorem mem_snoc {α} {a : α} {l : List α} {b : α} (h : a ∈ l ++ [b]) : a ∈ l ∨ a = b := by
  rcases List.mem_append.mp h with h | h
  · exact Or.inl h
  · exact Or.inr (by simpa using h)

theorem OpenRec.write_f (o : OpenRec) (b : Bytes) : (o.write b).f = o.f := by
  unfold OpenRec.write; split <;> rfl

/-- A ghost-level invariant in two parts: `I` of the closed entries and the dead bytes behind them, `Q` of
the open entry.  Nothing is asked of a poisoned, stuck or lost ghost. -/
def Keeps (I : List Spec.Zip.Entry → Bytes → Prop) (Q : OpenRec → Prop) : Ghost → Prop
  | .idle done gap _ => I done gap
  | .opened done gap _ o => I done gap ∧ Q o
  | .dead => True
  | .stuck .. => True
  | .lost => True

/-- What makes `Keeps I Q` an invariant of `ghostStep`: closing an open entry that satisfies `Q` keeps `I`,
and an accepted `write` keeps `Q`. -/
structure KeepSpec (ext : WExt) (I : List Spec.Zip.Entry → Bytes → Prop) (Q : OpenRec → Prop) : Prop where
  close : ∀ {done gap o es gap'}, I done gap → Q o → closeRec ext done gap o = some (es, gap') → I es gap'
  write : ∀ {o} (b : Bytes), Q o → o.wf = true → Q (o.write b)

section
variable {I : List Spec.Zip.Entry → Bytes → Prop} {Q : OpenRec → Prop} {ext : WExt}

theorem Keeps.of_not_alive {g : Ghost} (h : ¬ g.alive) : Keeps I Q g := by
  cases g <;> first | trivial | exact absurd trivial h

theorem Keeps.close (hS : KeepSpec ext I Q) {g : Ghost} (hG : Keeps I Q g)
    {es : List Spec.Zip.Entry} {gap c : Bytes} (hg : g.close ext = some (es, gap, c)) : I es gap := by
  cases g with
  | idle done gap0 c0 => cases hg; exact hG
  | opened done gap0 c0 o => exact hS.close hG.1 hG.2 (Ghost.close_opened hg).1
  | _ => cases hg

/-- **One call keeps `Keeps I Q`**, provided the entry a start call opens satisfies `Q`. -/
theorem keeps_step (hS : KeepSpec ext I Q) (g : Ghost) (c : Call) (out : Out (Option Nat))
    (hq : ∀ {n o raw ok mk}, StartRow out c n o raw ok mk → ok = true → ¬ n.length > 65535 →
      ∀ hs ds, Q (mk (mkRec n o raw hs ds)))
    (hG : Keeps I Q g) : Keeps I Q (ghostStep ext g c out) := by
  by_cases ha' : (ghostStep ext g c out).alive
  case neg => exact .of_not_alive ha'
  obtain ⟨_, ⟨n, o, raw, ok, mk, hrow, ⟨_, e⟩ | ⟨es, gap, cm, f, hn, hok, hst, e⟩⟩ |
    ⟨b, _, ⟨D, gap, cm, o, rfl, hwf, _, e⟩ | ⟨_, e⟩⟩ | ⟨c', _, e⟩ | ⟨_, e⟩⟩ := ghostStep_shape ext ha'
  · rw [e]; exact hG
  · rw [e]
    obtain ⟨hs, ds, rfl⟩ := Ghost.start_rec hst
    exact ⟨hG.close hS (Ghost.start_close hst), hq hrow hok hn hs ds⟩
  · rw [e]; exact ⟨hG.1, hS.write b hG.2 hwf⟩
  · rw [e]; exact hG
  · rw [e]; cases g <;> exact hG
  · rw [e]; exact hG

theorem keeps_run (hS : KeepSpec ext I Q) {A : Call → Prop}
    (hq : ∀ {c}, A c → ∀ {out n o raw ok mk}, StartRow out c n o raw ok mk → ok = true →
      ¬ n.length > 65535 → ∀ hs ds, Q (mk (mkRec n o raw hs ds)))
    (calls : List Call) (outs : List (Out (Option Nat))) (g : Ghost) (hc : ∀ c ∈ calls, A c)
    (hG : Keeps I Q g) : Keeps I Q (ghostOf ext g calls outs) :=
  (ghostOf_isFold ext).induct (fun g c out hc hG => keeps_step hS g c out (hq hc) hG) calls outs g hc hG

end

/-- `Q` of a record implies `P` of the entry it is closed as; `Q` survives the back-patch. -/
structure GoodSpec (P : Spec.Zip.Entry → Prop) (Q : FileData → Prop) : Prop where
  spec : ∀ f dp gap data lv, Q f → P (specEntry f dp gap [] data lv)
  final : ∀ f plain data, Q f → Q (finalRec f plain data)

/-- the instance "every closed entry satisfies `P`, the record of the open one `Q`" -/
abbrev GoodP (P : Spec.Zip.Entry → Prop) (Q : FileData → Prop) : Ghost → Prop :=
  Keeps (fun done _ => ∀ e ∈ done, P e) (fun o => Q o.f)

/-- what `Q` asks of a call: the record it makes `start_entry` push satisfies `Q` -/
def CallQ (Q : FileData → Prop) : Call → Prop
  | .startFile n o => ∀ hs ds, Q (mkRec n (fileOpts o) none hs ds)
  | .addDirectory n o => ∀ hs ds, Q (mkRec (dirName n) (dirOpts o) none hs ds)
  | .addSymlink n _ o => ∀ hs ds, Q (mkRec n (linkOpts o) none hs ds)
  | .rawCopy src _ n => ∀ hs ds, Q (mkRec n (rawOpts src) (rawVals src) hs ds)
  | _ => True

section
variable {P : Spec.Zip.Entry → Prop} {Q : FileData → Prop}

theorem CallQ.row {c : Call} (h : CallQ Q c) {out n o raw ok mk} (hr : StartRow out c n o raw ok mk)
    (hs : Nat) (ds : UInt64) : Q (mkRec n o raw hs ds) := by
  cases hr <;> exact h hs ds

theorem all_snoc {done : List Spec.Zip.Entry} (hd : ∀ e ∈ done, P e) {x : Spec.Zip.Entry} (hx : P x) :
    ∀ e ∈ done ++ [x], P e := fun e he => (mem_snoc he).elim (hd e) fun h => h ▸ hx

theorem GoodSpec.keep (hS : GoodSpec P Q) (ext : WExt) :
    KeepSpec ext (fun done _ => ∀ e ∈ done, P e) (fun o => Q o.f) where
  close hd hq hcr := by
    obtain ⟨dp, _, ⟨_, rfl, _⟩ | ⟨_, _, rfl, _⟩⟩ := closeRec_some hcr
    · exact all_snoc hd (hS.spec _ _ _ _ _ hq)
    · exact all_snoc hd (hS.spec _ _ _ _ _ (hS.final _ _ _ hq))
  write b hq _ := by rw [OpenRec.write_f]; exact hq

theorem goodP_run (hS : GoodSpec P Q) (ext : WExt) (calls : List Call) (outs : List (Out (Option Nat)))
    (g : Ghost) (hc : ∀ c ∈ calls, CallQ Q c) (hG : GoodP P Q g) : GoodP P Q (ghostOf ext g calls outs) :=
  keeps_run (hS.keep ext) (fun hc _ _ _ _ _ _ hr _ _ hs ds => by rw [hr.mk_f]; exact hc.row hr hs ds)
    calls outs g hc hG

end

end ZipVerif.WL
