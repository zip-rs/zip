import ZipVerif.Lemmas.FaultReader
/-
C11, the streaming reader under faults after the repair of K-J for the visitor API: `ZipStreamReader::visit` drains
every entry itself (`ZipFile::drain_stream`) and returns a read error of that drain.

* `M.retried` (std's retry loops; `Model/IO.lean`): `Uniform` is kept (`Uniform.retried`); on a device that fails
  with any kind other than `Interrupted` it is the identity (`M.retried_hard`, `Lemmas/MRun.lean`); on one that
  fails with `Interrupted` a fault among the calls of the wrapped computation is invisible but for one more I/O
  call (`M.retried_interrupted`, in this file).
* `ErrOnFireH x`: on a device whose failures are hard ones (`fkind ≠ interrupted`), a fault that fires inside `x`
  makes `x` return an error.  With `Uniform` it is a logic (`ErrOnFireH.mlogic`) closed under `retried` too; the two
  places with an argument of their own are a first stage (the take loop, `takeLoop_onFire`) that turns the fired fault
  into a VALUE which the continuation then returns as an error — the failed read of the explicit drain and of the
  visitor (`drainE_onFire`, `visitFile_onFire`) — and, in `visitFile_onFire`, the drop-time drain behind a failed
  `visit_file`, which swallows a fault while `visit` is already returning the visitor's error.
* `streamEntryCI`: `Uniform`, and equal to `streamEntryC` on a device that fails with any kind other than `Interrupted`.
-/

namespace ZipVerif.Model
open ZipVerif

/-! ### `M.retried` -/

/-- **`Interrupted` inside a retry loop is invisible**: the device fails with `Interrupted`, the fault index falls
among the calls `m` makes — outcome and device are those of the failure-free run, one more call is counted. -/
theorem M.retried_interrupted {α} (m : M α) (k : Nat) (d : Dev) (hi : d.fkind = .interrupted)
    (hf : Fired k d (m none d).2) :
    M.retried m (some k) d = ((m none d).1, { (m none d).2 with calls := (m none d).2.calls + 1 }) := by
  unfold M.retried
  dsimp only
  rw [if_pos ⟨hi, hf.1, hf.2⟩]

theorem Uniform.retried {α} {m : M α} (hm : Uniform m) : Uniform (M.retried m) := by
  refine ⟨fun fa d => ?_, fun fa d => ?_, fun k d => ?_⟩
  · rcases M.retried_cases m fa d with e | ⟨_, _, _, _, _, e⟩ <;> rw [e]
    · exact hm.mono fa d
    · exact Nat.le_succ_of_le (hm.mono none d)
  · rcases M.retried_cases m fa d with e | ⟨_, _, _, _, _, e⟩ <;> rw [e]
    · exact hm.kind fa d
    · exact hm.kind none d
  · rcases M.retried_cases m (some k) d with e | ⟨_, hk, _, h1, h2, e⟩ <;> rw [e, M.retried_none]
    · exact hm.dich k d
    · cases hk
      exact Or.inr ⟨⟨h1, Nat.lt_succ_of_lt h2⟩, h1, h2⟩

/-! ### `ErrOnFireH` -/

/-- On a device whose failures are hard ones, a fault that fires inside `x` makes `x` return an error. -/
def ErrOnFireH {α} (x : M α) : Prop :=
  ∀ k d, d.fkind ≠ .interrupted → Fired k d (x (some k) d).2 → ∃ e, (x (some k) d).1 = .err e

theorem ErrOnFireH.retried {α} {m : M α} (h : ErrOnFireH m) : ErrOnFireH (M.retried m) := by
  intro k d hk hf
  rw [M.retried_hard m _ d hk] at hf ⊢
  exact h k d hk hf

def AlwaysErr {α} (x : M α) : Prop := ∀ fa d, ∃ e, (x fa d).1 = .err e

/-- The first stage `x` never fails but hands a fired fault on as a VALUE satisfying `P` (the error a consumer's
`read` returned), and the continuation returns an error for every such value: the fault is reported. -/
theorem ErrOnFireH.bind_val {α β} {x : M α} {f : α → M β} (P : α → Prop) (hx : Uniform x)
    (hfire : ∀ k d, Fired k d (x (some k) d).2 → ∃ a, (x (some k) d).1 = .ok a ∧ P a)
    (hP : ∀ a, P a → AlwaysErr (f a))
    (cf : ∀ a, ErrOnFireH (f a)) : ErrOnFireH (x >>= f) :=
  fun k d hk hf =>
    OnFire.fire_bind (Φx := fun _ o => ∃ a, o = .ok a ∧ P a) (Φ := fun κ o => κ ≠ .interrupted → ∃ e, o = .err e) hx hfire (fun a k d hf hk => cf a k d hk hf)
      (fun _ _ ⟨a, ho, hp⟩ => by subst ho; exact fun fa d _ => hP a hp fa d) k d hf hk

/-- `Uniform` and `ErrOnFireH` together, as a logic. -/
def ErrOnFireH.mlogic : MLogic :=
  OnFire.mlogic (fun κ o => κ ≠ .interrupted → ∃ e, o = .err e) (fun _ _ => ⟨_, rfl⟩) fun _ _ _ h hk =>
    let ⟨e, he⟩ := h hk
    ⟨e, by rw [he]; rfl⟩

theorem ErrOnFireH.of_mlogic {α} {x : M α} (h : ErrOnFireH.mlogic.P x) : ErrOnFireH x :=
  fun k d hk hf => h.fire k d hf hk

theorem ErrOnFireH.mlogic_retried {α} {x : M α} (h : ErrOnFireH.mlogic.P x) : ErrOnFireH.mlogic.P (M.retried x) :=
  ⟨Uniform.retried h.uni, fun k d hf hk => (ErrOnFireH.of_mlogic h).retried k d hk hf⟩

theorem AlwaysErr.onFire {α} {x : M α} (hu : Uniform x) (h : AlwaysErr x) : ErrOnFireH.mlogic.P x :=
  ⟨hu, fun k d _ _ => h (some k) d⟩

/-! ### The take loop as a first stage -/

theorem read_ok_or_err (n : Nat) (fa : Option Nat) (d : Dev) :
    (∃ bs d', M.read n fa d = (.ok bs, d')) ∨ (∃ e d', M.read n fa d = (.err e, d')) := by
  unfold M.read M.prim
  dsimp only
  split
  · exact Or.inr ⟨_, _, rfl⟩
  · exact Or.inl ⟨_, _, rfl⟩

/-- the take loop never fails: a read error is part of its value -/
theorem takeLoop_ok (chunk : Nat) : ∀ (fuel want : Nat) (fa : Option Nat) (d : Dev),
    ∃ r d', takeLoop chunk fuel want fa d = (.ok r, d')
  | 0, _, _, _ => by unfold takeLoop; exact ⟨_, _, rfl⟩
  | fuel + 1, want, fa, d => by
    unfold takeLoop
    split
    · exact ⟨_, _, rfl⟩
    · rw [M.bind_apply, M.attempt_apply]
      rcases read_ok_or_err (min want chunk) fa d with ⟨bs, d', h⟩ | ⟨e, d', h⟩
      · rw [h]
        dsimp only
        split
        · exact ⟨_, _, rfl⟩
        · rw [M.bind_apply]
          obtain ⟨r, d'', h2⟩ := takeLoop_ok chunk fuel (want - bs.length) fa d'
          rw [h2]
          exact ⟨_, _, rfl⟩
      · rw [h]
        exact ⟨_, _, rfl⟩

/-- a fault that fires inside the take loop is the error in its value -/
theorem takeLoop_fired (chunk : Nat) : ∀ (fuel want k : Nat) (d : Dev),
    Fired k d (takeLoop chunk fuel want (some k) d).2 →
    ∃ a, (takeLoop chunk fuel want (some k) d).1 = .ok a ∧ a.2.isSome = true
  | 0, _, _, _ => by
    unfold takeLoop
    intro hf
    exact absurd hf Fired.self
  | fuel + 1, want, k, d => by
    unfold takeLoop
    split
    · intro hf
      exact absurd hf Fired.self
    · rw [M.bind_apply, M.attempt_apply]
      have hcl := (Tight.read (min want chunk)).clean k d
      rcases read_ok_or_err (min want chunk) (some k) d with ⟨bs, d', h⟩ | ⟨e, d', h⟩
      · rw [h] at hcl ⊢
        dsimp only at hcl ⊢
        have hnf : ¬ Fired k d d' := fun c => by have := hcl c; cases this
        split
        · intro hf
          exact absurd hf hnf
        · rw [M.bind_apply]
          intro hf
          have ih := takeLoop_fired chunk fuel (want - bs.length) k d'
          obtain ⟨r, d'', h2⟩ := takeLoop_ok chunk fuel (want - bs.length) (some k) d'
          rw [h2] at hf ih ⊢
          have hf' : Fired k d d'' := hf
          dsimp only at ih ⊢
          obtain ⟨a, ha, hs⟩ := ih (by unfold Fired at *; omega)
          cases ha
          exact ⟨_, rfl, hs⟩
      · rw [h]
        intro _
        exact ⟨_, rfl, rfl⟩

theorem drain_ok (rem : Nat) (fa : Option Nat) (d : Dev) : ∃ d', drain rem fa d = (.ok (), d') := by
  unfold drain
  rw [M.bind_apply]
  obtain ⟨r, d', h⟩ := takeLoop_ok 65536 rem rem fa d
  rw [h]
  exact ⟨_, rfl⟩

theorem retried_drain_ok (rem : Nat) (fa : Option Nat) (d : Dev) :
    ∃ d', M.retried (drain rem) fa d = (.ok (), d') := by
  rcases M.retried_cases (drain rem) fa d with e | ⟨_, _, _, _, _, e⟩ <;> rw [e]
  · exact drain_ok rem fa d
  · obtain ⟨d', h⟩ := drain_ok rem none d
    rw [h]
    exact ⟨_, rfl⟩

/-- `Drop` drains silently, then the visitor's error is `visit`'s: an error whatever happens in the drain -/
theorem drain_throw_alwaysErr {α} (rem : Nat) (e : ZErr) :
    AlwaysErr (M.retried (drain rem) >>= fun _ => (M.throw e : M α)) := by
  intro fa d
  rw [M.bind_apply]
  obtain ⟨d', h⟩ := retried_drain_ok rem fa d
  rw [h]
  exact ⟨e, rfl⟩

/-! ### `drain_stream`, `visit` -/

/-- the take loop as a first stage: a fault that fires inside it is in its value -/
theorem takeLoop_onFire (chunk fuel want : Nat) :
    OnFire (fun _ o => ∃ a, o = .ok a ∧ a.2.isSome = true) (takeLoop chunk fuel want) :=
  ⟨takeLoop_uniform chunk fuel want, takeLoop_fired chunk fuel want⟩

theorem drainE_onFire (rem : Nat) : ErrOnFireH.mlogic.P (drainE rem) := by
  unfold drainE
  refine (takeLoop_onFire _ _ _).bind (fun r => ?_) fun _ _ ⟨a, ho, hs⟩ => ?_
  · obtain ⟨n, e⟩ := r
    cases e with
    | none => exact ErrOnFireH.mlogic.pure _
    | some e => exact ErrOnFireH.mlogic.throw _
  · subst ho
    obtain ⟨n, e⟩ := a
    cases e with
    | none => cases hs
    | some e => exact fun _ _ _ => ⟨e, rfl⟩

/-- **Up to the return of `visit_file`**: a fault that fires is an error of `visit` — in the header it is returned;
in one of the visitor's reads it is the error the visitor returns; the drop-time drain behind a failed `visit_file`
swallows a fault, but then `visit` is already returning the visitor's error. -/
theorem visitFile_onFire (ext : Ext) (c : Consume) : ErrOnFireH.mlogic.P (visitFile ext c) := by
  have hd : ∀ {α : Type} rem (e : ZErr), ErrOnFireH.mlogic.P (M.retried (drain rem) >>= fun _ => (M.throw e : M α)) :=
    fun rem e => (drain_throw_alwaysErr rem e).onFire
      (Uniform.bind (Uniform.retried (drain_uniform rem)) fun _ => Uniform.throw e)
  unfold visitFile
  refine ErrOnFireH.mlogic.bind (ErrOnFireH.mlogic_retried ErrOnFireH.mlogic.streamHeader) fun h => ?_
  cases h with
  | none => exact ErrOnFireH.mlogic.pure _
  | some f =>
    refine ErrOnFireH.mlogic.bind (OnFire.getDev _) fun d0 => ?_
    refine (takeLoop_onFire _ _ _).bind (fun r => ?_) fun _ _ ⟨a, ho, hs⟩ => ?_
    · obtain ⟨n, e⟩ := r
      cases e with
      | some e => exact hd _ e
      | none =>
        dsimp only
        split
        · exact hd _ _
        · exact OnFire.const _ _
        · exact ErrOnFireH.mlogic.pure _
    · subst ho
      obtain ⟨n, e⟩ := a
      cases e with
      | none => cases hs
      | some e => exact fun fa d _ => drain_throw_alwaysErr _ e fa d

/-- **One round of `visit`**: a fault that fires — header, visitor's reads, the explicit drain — is `visit`'s error. -/
theorem visitEntry_onFire (ext : Ext) (c : Consume) : ErrOnFireH.mlogic.P (visitEntry ext c) :=
  ErrOnFireH.mlogic.visitEntry ErrOnFireH.mlogic_retried (visitFile_onFire ext c) drainE_onFire

theorem visitEntry_uniform (ext : Ext) (c : Consume) : Uniform (visitEntry ext c) := (visitEntry_onFire ext c).uni

theorem visitEntries_onFire (ext : Ext) (pattern : List Consume) (fuel i : Nat) :
    ErrOnFireH.mlogic.P (visitEntries ext pattern fuel i) :=
  ErrOnFireH.mlogic.visitEntries ext (visitEntry_onFire ext) pattern fuel i

theorem visitEntries_uniform (ext : Ext) (pattern : List Consume) (fuel i : Nat) :
    Uniform (visitEntries ext pattern fuel i) :=
  (visitEntries_onFire ext pattern fuel i).uni

theorem streamVisitC_onFire (ext : Ext) (pattern : List Consume) : ErrOnFireH.mlogic.P (streamVisitC ext pattern) :=
  ErrOnFireH.mlogic.streamVisitC (OnFire.getDev _) (visitEntries_onFire ext pattern)
    (ErrOnFireH.mlogic.visitCentral ErrOnFireH.mlogic_retried)

theorem streamVisitC_uniform (ext : Ext) (pattern : List Consume) : Uniform (streamVisitC ext pattern) :=
  (streamVisitC_onFire ext pattern).uni

theorem streamVisitC_errOnFireH (ext : Ext) (pattern : List Consume) : ErrOnFireH (streamVisitC ext pattern) :=
  .of_mlogic (streamVisitC_onFire ext pattern)

/-! ### `streamEntryCI` -/

theorem streamEntryCI_uniform (ext : Ext) (c : Consume) : Uniform (streamEntryCI ext c) :=
  Uniform.mlogic.streamEntryCI takeLoop_uniform Tight.getDev.uni drain_uniform Uniform.retried ext c

theorem streamEntryCI_hard (ext : Ext) (c : Consume) (fa : Option Nat) (d : Dev) (hk : d.fkind ≠ .interrupted) :
    streamEntryCI ext c fa d = streamEntryC ext c fa d := by
  unfold streamEntryCI streamEntryC
  -- the two differ by `M.retried` around the header and around the drain, the identity when failures are hard
  -- (`M.retried_hard`); the drain starts on the device behind header and take loop, whose kind is `d`'s (`Uniform.kind`)
  rw [M.bind_apply, M.bind_apply, M.retried_hard _ _ _ hk]
  have hk1 := Uniform.mlogic.streamHeader.kind fa d
  cases h : streamHeader fa d with
  | mk o d1 =>
    rw [h] at hk1
    cases o with
    | err e => rfl
    | panic s => rfl
    | ok hd =>
      cases hd with
      | none => rfl
      | some f =>
        dsimp only at hk1 ⊢
        simp only [M.bind_apply, M.getDev]
        have hk2 := (takeLoop_uniform c.chunk (min c.pulled f.compressedSize.toNat)
          (min c.pulled f.compressedSize.toNat)).kind fa d1
        cases h2 : takeLoop c.chunk (min c.pulled f.compressedSize.toNat)
            (min c.pulled f.compressedSize.toNat) fa d1 with
        | mk o2 d2 =>
          rw [h2] at hk2
          cases o2 with
          | err e => rfl
          | panic s => rfl
          | ok ne =>
            obtain ⟨n, e⟩ := ne
            dsimp only at hk2 ⊢
            rw [M.retried_hard _ _ _ (by rw [hk2, hk1]; exact hk)]

end ZipVerif.Model
