import ZipVerif.Lemmas.ShortWrite
/-
On a FAULT-FREE sink the model's writer steps do not look at the device's I/O call counter: run
from two devices with the same bytes at the same position (`SameView`; the counters may differ) a step ends with the
same outcome, on devices that again have the same bytes at the same position.  Needed to compare a run whose raw
copies take one sink write per chunk with a run of the model, which takes one (`Tie/WriterComposeView.lean`).

Stated as a relation between two runs, this is closed under everything the generic writer is written with, so every
call is view invariant by `GW.rel_step` (`Lemmas/ShortWrite`).  The closure argument is the same for any relation `V`
between devices that `write`, `seek (.start _)`, `seek (.current _)` and `flush` keep with equal results (`RelOn V`,
`RelOn.writerRel`); `SameView` is one, `Tail` (Lemmas/TailInv.lean) another.
-/

namespace ZipVerif.Model

/-- fault-free, the computation depends on the device only through its bytes and position -/
structure VInv {α} (x : M α) : Prop where
  run : ∀ d d', SameView d d' → ∃ o e e', x none d = (o, e) ∧ x none d' = (o, e') ∧ SameView e e'

def RelOn (V : Dev → Dev → Prop) {α} (x y : M α) : Prop :=
  ∀ d d', V d d' → ∃ o e e', x none d = (o, e) ∧ y none d' = (o, e') ∧ V e e'

namespace RelOn
variable {V : Dev → Dev → Prop} {α β : Type}

theorem pure (a : α) : RelOn V (Pure.pure a : M α) (Pure.pure a) := fun d d' hv => ⟨.ok a, d, d', rfl, rfl, hv⟩

theorem bind {x y : M α} {f g : α → M β} (hx : RelOn V x y) (hf : ∀ a, RelOn V (f a) (g a)) :
    RelOn V (x >>= f) (y >>= g) := by
  intro d d' hv
  obtain ⟨o, e, e', h1, h2, hv1⟩ := hx d d' hv
  rw [M.bind_apply, M.bind_apply, h1, h2]
  cases o with
  | ok a => exact hf a e e' hv1
  | err z => exact ⟨_, e, e', rfl, rfl, hv1⟩
  | panic z => exact ⟨_, e, e', rfl, rfl, hv1⟩

theorem attempt {x y : M α} (hx : RelOn V x y) : RelOn V (M.attempt x) (M.attempt y) := by
  intro d d' hv
  obtain ⟨o, e, e', h1, h2, hv1⟩ := hx d d' hv
  rw [M.attempt_apply, M.attempt_apply, h1, h2]
  cases o <;> exact ⟨_, e, e', rfl, rfl, hv1⟩

/-- A device relation kept by the primitives the generic writer uses (it never seeks from the end), with equal
results, relates every generic writer function to itself. -/
@[reducible] def writerRel (hw : ∀ bs, RelOn V (M.write bs) (M.write bs))
    (hs : ∀ n, RelOn V (M.seek (.start n)) (M.seek (.start n)))
    (hc : ∀ off, RelOn V (M.seek (.current off)) (M.seek (.current off)))
    (hf : RelOn V M.flush M.flush) : WriterRel M M where
  R := RelOn V
  pure := RelOn.pure
  bind := RelOn.bind
  panic := fun s d d' hv => ⟨.panic s, d, d', rfl, rfl, hv⟩
  attempt := RelOn.attempt
  seekStart := hs
  seekCurrent := hc
  flush := hf
  writeAll := fun bs => by
    unfold WriterIO.wWriteAll instWriterIOM M.writeAll
    dsimp only
    split
    · exact RelOn.pure ()
    · exact RelOn.bind (hw bs) fun _ => RelOn.pure ()
  write := hw

end RelOn

namespace VInv
variable {α β : Type}

abbrev Rel (x y : M α) : Prop := RelOn SameView x y

theorem Rel.prim {f : Dev → Out α × Dev}
    (hf : ∀ d d', SameView d d' → (f d).1 = (f d').1 ∧ SameView (f d).2 (f d').2) :
    Rel (M.prim f) (M.prim f) := by
  intro d d' hv
  obtain ⟨h1, h2⟩ := hf { d with calls := d.calls + 1 } { d' with calls := d'.calls + 1 } hv
  exact ⟨_, _, _, rfl, by rw [h1]; rfl, h2⟩

theorem Rel.seek (s : SeekFrom) : Rel (M.seek s) (M.seek s) :=
  Rel.prim fun d d' ⟨hb, hp⟩ => by
    cases s <;> simp only [hb, hp, SameView] <;> split <;> simp only [hb, hp, and_self]

@[reducible] def writerRel : WriterRel M M :=
  RelOn.writerRel (fun bs => Rel.prim fun d d' ⟨hb, hp⟩ => by simp only [hb, hp, SameView, and_self])
    (fun _ => Rel.seek _) (fun _ => Rel.seek _) (Rel.prim fun _ _ hv => ⟨rfl, hv⟩)

end VInv

theorem vinv_step (ext : WExt) (c : Props.C12.Call) (s : WState) : VInv (Props.C12.step ext c s) :=
  ⟨GW.step_M ext c s ▸ GW.rel_step VInv.writerRel (fun x => x.length) ext c s⟩

end ZipVerif.Model
