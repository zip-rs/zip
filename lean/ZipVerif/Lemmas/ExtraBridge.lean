import ZipVerif.Model.Align
import ZipVerif.Model.Writer
import ZipVerif.Model.Aes
import ZipVerif.Model.Records
import ZipVerif.Lemmas.ParseExtra
/-
Bridges between pairs of hand-written models of the SAME Rust function.

* `validate_extra_data` (write.rs): `Model.Align.validateExtraData` (C17's theorems; fuel = length, out of
  fuel ⇒ `panic`) and `Model.validateExtraData` (Model/Writer.lean; fuel = length + 1, out of fuel ⇒ `ok`),
  the one `Tie.Records.tie_validate_extra_data` ties to the translated source.  They agree on every input
  (`validate_bridge`), so the tie reaches the C17 theorems.
* `parse_extra_field` (read.rs): `Model.Aes.parseExtraLoop` (C16's theorems: a cursor with a pending skip over
  the six fields the function touches) and `Model.parseExtraField` (Model/Records.lean, the whole record), the one
  `Tie.Parsers.tie_parse_extra_field` ties to the translated source.  `parseExtra_bridge`: run on the view of a
  record, the former returns the outcome and the view of the record the latter returns.
-/

namespace ZipVerif.Lemmas.ExtraBridge
open ZipVerif ZipVerif.Model

def ofExcept {α} : Except ZErr α → Out α
  | .ok a => .ok a
  | .error e => .err e

theorem reservedKind_eq (k : UInt16) :
    Align.reservedKind k = (decide (k ≤ 31) || validateExtraDataLoop.reservedExtraIds.contains k) := by
  unfold Align.reservedKind
  congr 1
  have e : Align.extraFieldMapping = validateExtraDataLoop.reservedExtraIds := rfl
  rw [e]
  induction validateExtraDataLoop.reservedExtraIds with
  | nil => rfl
  | cons x xs ih =>
    simp only [List.any_cons, List.contains_cons, ih]
    congr 1
    exact Bool.eq_iff_iff.mpr ⟨fun h => by rw [beq_iff_eq] at h ⊢; exact h.symm,
      fun h => by rw [beq_iff_eq] at h ⊢; exact h.symm⟩

theorem dropExact_eq (n : Nat) (l : Bytes) :
    Align.dropExact n l = if n > l.length then none else some (l.drop n) := by
  induction n generalizing l with
  | zero => cases l <;> simp [Align.dropExact]
  | succ n ih =>
    cases l with
    | nil => simp [Align.dropExact]
    | cons x t =>
      simp only [Align.dropExact, ih, List.length_cons, List.drop_succ_cons]
      by_cases h : n > t.length
      · rw [if_pos h, if_pos (by omega)]
      · rw [if_neg h, if_neg (by omega)]

/-- The two loops agree whenever the fuel of each is adequate (`data.length` resp. one more). -/
theorem validateLoop_bridge (fuel : Nat) (data : Bytes) (h : data.length ≤ fuel) :
    Align.validateLoop fuel data = ofExcept (validateExtraDataLoop (fuel + 1) data) := by
  induction fuel generalizing data with
  | zero =>
    have : data = [] := List.eq_nil_of_length_eq_zero (by omega)
    subst this
    rfl
  | succ fuel ih =>
    match data, h with
    | [], _ => rfl
    | [_], _ => rfl
    | [_, _], _ => rfl
    | [_, _, _], _ => rfl
    | a :: b :: c :: d :: rest, h =>
      rw [Align.validateLoop, validateExtraDataLoop]
      have hne : (a :: b :: c :: d :: rest).isEmpty = false := rfl
      have hl4 : ¬ ((a :: b :: c :: d :: rest).length < 4) := by simp only [List.length_cons]; omega
      simp only [hne, Bool.false_eq_true, if_false, if_neg hl4, rd16]
      by_cases hk : (mk16 a b == 0x0001) = true
      · simp only [hk, if_true]; rfl
      · simp only [hk, Bool.false_eq_true, if_false]
        rw [reservedKind_eq]
        by_cases hr : (decide (mk16 a b ≤ 31) || validateExtraDataLoop.reservedExtraIds.contains (mk16 a b)) = true
        · simp only [hr, if_true]; rfl
        · simp only [hr, Bool.false_eq_true, if_false]
          rw [dropExact_eq]
          by_cases hs : (mk16 c d).toNat > rest.length
          · simp only [hs, if_true]; rfl
          · simp only [hs, if_false]
            apply ih
            simp only [List.length_cons] at h
            simp only [List.length_drop]
            omega

/-- **The two models of `validate_extra_data` are the same function.** -/
theorem validate_bridge (f : FileData) :
    Align.validateExtraData f.largeFile f.extraField = ofExcept (validateExtraData f) := by
  unfold Align.validateExtraData validateExtraData Align.zip64Reserve
  by_cases h : f.extraField.length + (if f.largeFile = true then 20 else 0) > 65535
  · rw [if_pos h, if_pos h]; rfl
  · rw [if_neg h, if_neg h]
    exact validateLoop_bridge _ _ (Nat.le_refl _)

theorem validate_bridge_ok (f : FileData) :
    Align.validateExtraData f.largeFile f.extraField = .ok () ↔ validateExtraData f = .ok () := by
  rw [validate_bridge]
  cases validateExtraData f with
  | ok u => cases u; exact ⟨fun _ => rfl, fun _ => rfl⟩
  | error e =>
    constructor
    · intro h; cases h
    · intro h; cases h

theorem ofExcept_inj {α} {x y : Except ZErr α} (h : ofExcept x = ofExcept y) : x = y := by
  cases x <;> cases y <;> cases h <;> rfl

/-- A verdict of the C17 model, read on the writer model. -/
theorem validate_of_align {f : FileData} {r : Except ZErr Unit}
    (h : Align.validateExtraData f.largeFile f.extraField = ofExcept r) : validateExtraData f = r :=
  ofExcept_inj ((validate_bridge f).symm.trans h)

/-! ### `parse_extra_field`: the C16 model against the reader model -/

def methodView : Model.Method → Aes.Method
  | .stored => .stored | .deflated => .deflated | .bzip2 => .bzip2 | .aes => .aes | .zstd => .zstd
  | .unsupported v => .unsupported v

def modeView : Model.AesMode → Aes.AesMode
  | .aes128 => .aes128 | .aes192 => .aes192 | .aes256 => .aes256

def verView : Model.AesVendorVersion → Aes.VendorVersion
  | .ae1 => .ae1 | .ae2 => .ae2

/-- The part of the reader model's `FileData` that the C16 model's `ExtraSt` keeps. -/
def extraView (f : FileData) : Aes.ExtraSt :=
  { uncompressedSize := f.uncompressedSize, compressedSize := f.compressedSize, headerStart := f.headerStart,
    largeFile := f.largeFile, aesMode := f.aesMode.map (fun mv => (modeView mv.1, verView mv.2)),
    method := methodView f.method }

theorem methodView_fromU16 (v : UInt16) : methodView (Model.Method.fromU16 v) = Aes.Method.fromU16 v := by
  unfold Model.Method.fromU16 Aes.Method.fromU16
  by_cases h0 : v = 0
  · subst h0; rfl
  by_cases h8 : v = 8
  · subst h8; rfl
  by_cases h12 : v = 12
  · subst h12; rfl
  by_cases h93 : v = 93
  · subst h93; rfl
  by_cases h99 : v = 99
  · subst h99; rfl
  simp [h0, h8, h12, h93, h99, methodView]

theorem loop_skip : ∀ (s : Nat) (l : Bytes) (st : Aes.ExtraSt),
    Aes.parseExtraLoop s l st = Aes.parseExtraLoop 0 (l.drop s) st := by
  intro s
  induction s with
  | zero => intro l st; rfl
  | succ s ih =>
    intro l st
    cases l with
    | nil => simp [Aes.parseExtraLoop]
    | cons x t => simpa [Aes.parseExtraLoop] using ih t st

theorem thr_eq : Aes.ZIP64_BYTES_THR = Model.ZIP64_BYTES_THR := rfl

theorem drop8_drop {l r : Bytes} {v : UInt64} (h : rd64 l = some (v, r)) (n : Nat) :
    l.drop (8 + n) = r.drop n := by
  rw [rd64_drop h, List.drop_drop]

theorem drop_tail (rest rk : Bytes) (used len : Nat) (hrk : rk = rest.drop used) :
    rest.drop (used + (len - used)) =
      if ((len : Int) - (used : Int)) > 0 then rk.drop ((len : Int) - (used : Int)).toNat else rk := by
  subst hrk
  by_cases h : len > used
  · have h1 : ((len : Int) - (used : Int)) > 0 := by omega
    have h2 : ((len : Int) - (used : Int)).toNat = len - used := by omega
    rw [if_pos h1, h2, List.drop_drop]
  · have h1 : ¬ ((len : Int) - (used : Int)) > 0 := by omega
    have h2 : len - used = 0 := by omega
    rw [if_neg h1, h2, Nat.add_zero]

def outOf : Option ZErr → Out Unit
  | none => .ok ()
  | some e => .err e

theorem slot3 (cur : UInt64) (bs : Bytes) :
    cur ≠ Model.ZIP64_BYTES_THR ∨ (cur = Model.ZIP64_BYTES_THR ∧ rd64 bs = none) ∨
      ∃ v r, cur = Model.ZIP64_BYTES_THR ∧ rd64 bs = some (v, r) := by
  by_cases h : cur = Model.ZIP64_BYTES_THR
  · cases h1 : rd64 bs with
    | none => exact .inr (.inl ⟨h, rfl⟩)
    | some x => exact .inr (.inr ⟨x.1, x.2, h, rfl⟩)
  · exact .inl h

/-- `Aes.zip64Rec` slot by slot, in the shape of `pefZip64`. -/
theorem zip64Rec_slots (len : UInt16) (rest : Bytes) (st : Aes.ExtraSt) :
    Aes.zip64Rec len rest st =
      pefSlot st.uncompressedSize rest (.err (.io .unexpectedEof), { st with largeFile := true }) fun u r1 =>
        let st1 := match u with
          | some v => { st with largeFile := true, uncompressedSize := v }
          | none => st
        pefSlot st1.compressedSize r1 (.err (.io .unexpectedEof), { st1 with largeFile := true }) fun c r2 =>
          let st2 := match c with
            | some v => { st1 with largeFile := true, compressedSize := v }
            | none => st1
          pefSlot st2.headerStart r2 (.err (.io .unexpectedEof), st2) fun h _ =>
            let st3 := match h with
              | some v => { st2 with headerStart := v }
              | none => st2
            let n := (if u.isSome then 1 else 0) + (if c.isSome then 1 else 0) + (if h.isSome then 1 else 0)
            (.ok (8 * n + (len.toNat - 8 * n)), st3) := by
  unfold Aes.zip64Rec
  rw [thr_eq]
  -- each slot in turn is not at the marker (skipped), at the marker with fewer than 8 bytes left (`UnexpectedEof`), or
  -- read (`slot3`); the C16 model's `if`s and the `pefSlot` of the same slot then reduce by the same case
  rcases slot3 st.uncompressedSize rest with hu | ⟨hu, h1⟩ | ⟨v1, r1, hu, h1⟩
  · rw [pefSlot_skip hu]
    simp only [if_neg hu]
    rcases slot3 st.compressedSize rest with hc | ⟨hc, h2⟩ | ⟨v2, r2, hc, h2⟩
    · rw [pefSlot_skip hc]
      simp only [if_neg hc]
      rcases slot3 st.headerStart rest with hh | ⟨hh, h3⟩ | ⟨v3, r3, hh, h3⟩
      · rw [pefSlot_skip hh]; simp only [if_neg hh]; rfl
      · rw [pefSlot_eof hh h3]; simp only [if_pos hh, h3]
      · rw [pefSlot_some hh h3]; simp only [if_pos hh, h3]; rfl
    · rw [pefSlot_eof hc h2]; simp only [if_pos hc, h2]
    · rw [pefSlot_some hc h2]
      simp only [if_pos hc, h2]
      rcases slot3 st.headerStart r2 with hh | ⟨hh, h3⟩ | ⟨v3, r3, hh, h3⟩
      · rw [pefSlot_skip hh]; simp only [if_neg hh]; rfl
      · rw [pefSlot_eof hh h3]; simp only [if_pos hh, h3]
      · rw [pefSlot_some hh h3]; simp only [if_pos hh, h3]; rfl
  · rw [pefSlot_eof hu h1]; simp only [if_pos hu, h1]
  · rw [pefSlot_some hu h1]
    simp only [if_pos hu, h1]
    rcases slot3 st.compressedSize r1 with hc | ⟨hc, h2⟩ | ⟨v2, r2, hc, h2⟩
    · rw [pefSlot_skip hc]
      simp only [if_neg hc]
      rcases slot3 st.headerStart r1 with hh | ⟨hh, h3⟩ | ⟨v3, r3, hh, h3⟩
      · rw [pefSlot_skip hh]; simp only [if_neg hh]; rfl
      · rw [pefSlot_eof hh h3]; simp only [if_pos hh, h3]
      · rw [pefSlot_some hh h3]; simp only [if_pos hh, h3]; rfl
    · rw [pefSlot_eof hc h2]; simp only [if_pos hc, h2]
    · rw [pefSlot_some hc h2]
      simp only [if_pos hc, h2]
      rcases slot3 st.headerStart r2 with hh | ⟨hh, h3⟩ | ⟨v3, r3, hh, h3⟩
      · rw [pefSlot_skip hh]; simp only [if_neg hh]; rfl
      · rw [pefSlot_eof hh h3]; simp only [if_pos hh, h3]
      · rw [pefSlot_some hh h3]; simp only [if_pos hh, h3]; rfl
/-- What `Aes.parseExtraLoop` does with the outcome of a record's arm. -/
def afterRec (rest : Bytes) : Out Nat × Aes.ExtraSt → Out Unit × Aes.ExtraSt
  | (.ok skip, st') => Aes.parseExtraLoop skip rest st'
  | (.err e, st') => (.err e, st')
  | (.panic m, st') => (.panic m, st')

/-- The two continuations of `pefStep` that make it the C16 model: stop with the outcome and the view of the
record, go on with the loop on the view. -/
def stopV (g : FileData) (e : Option ZErr) : Out Unit × Aes.ExtraSt := (outOf e, extraView g)

def goV (g : FileData) (r : Bytes) : Out Unit × Aes.ExtraSt := Aes.parseExtraLoop 0 r (extraView g)

/-- The 0x0001 arm of the C16 model against the same arm of the reader model: slot by slot the states stay the
views of the records, and the C16 model's pending skip is where the reader model's cursor stands. -/
theorem zip64_arm (len : UInt16) (rest : Bytes) (f : FileData) :
    afterRec rest (Aes.zip64Rec len rest (extraView f)) = pefZip64 stopV goV f len rest := by
  rw [zip64Rec_slots]
  unfold pefZip64
  refine pefSlot_rel (fun x y => afterRec rest x = y) f.uncompressedSize rest rfl fun u r3 e3 => ?_
  extract_lets st1 f1
  have v1 : st1 = extraView f1 := by cases u <;> rfl
  clear_value st1 f1
  subst v1
  refine pefSlot_rel (fun x y => afterRec rest x = y) f1.compressedSize r3 rfl fun c r4 e4 => ?_
  extract_lets st2 f2
  have v2 : st2 = extraView f2 := by cases c <;> rfl
  clear_value st2 f2
  subst v2
  refine pefSlot_rel (fun x y => afterRec rest x = y) f2.headerStart r4 rfl fun h r5 e5 => ?_
  extract_lets st3 n f3 used lenLeft
  have v3 : st3 = extraView f3 := by cases h <;> rfl
  have hused : used = ((8 * n : Nat) : Int) := by cases u <;> cases c <;> cases h <;> rfl
  have h8 : ∀ o : Option UInt64, (if o.isSome then 8 else 0) = 8 * (if o.isSome then 1 else 0) :=
    fun o => by cases o <;> rfl
  have hr5 : r5 = rest.drop (8 * n) := by
    rw [e5, e4, e3, List.drop_drop, List.drop_drop, h8, h8, h8, ← Nat.mul_add, ← Nat.mul_add, ← Nat.add_assoc]
  show Aes.parseExtraLoop _ rest st3 = Aes.parseExtraLoop 0 _ _
  rw [v3, loop_skip, drop_tail rest r5 (8 * n) len.toNat hr5, ← hused]

theorem mode_chain {α : Type} (m : UInt8) (A : Aes.AesMode → α) (E : α) :
    (if m = 1 then A .aes128 else if m = 2 then A .aes192 else if m = 3 then A .aes256 else E) =
      match (if m == 1 then some Model.AesMode.aes128 else if m == 2 then some .aes192
        else if m == 3 then some .aes256 else none) with
      | none => E
      | some am => A (modeView am) := by
  by_cases h1 : m = 1
  · subst h1; rfl
  by_cases h2 : m = 2
  · subst h2; rfl
  by_cases h3 : m = 3
  · subst h3; rfl
  simp only [if_neg h1, if_neg h2, if_neg h3, beq_false_of_ne h1, beq_false_of_ne h2, beq_false_of_ne h3,
    Bool.false_eq_true, if_false]

theorem aes_ok (f : FileData) (am : Model.AesMode) (x : Model.AesVendorVersion) (cm : UInt16)
    (b0 b1 b2 b3 b4 b5 b6 : UInt8) (t : Bytes) :
    afterRec (b0 :: b1 :: b2 :: b3 :: b4 :: b5 :: b6 :: t)
        (.ok 7, { extraView f with aesMode := some (modeView am, verView x), method := Aes.Method.fromU16 cm }) =
      goV { f with aesMode := some (am, x), method := Model.Method.fromU16 cm } t := by
  rw [← methodView_fromU16]; rfl

theorem aes_arm (len : UInt16) (rest : Bytes) (f : FileData) :
    afterRec rest (Aes.aesRec len rest (extraView f)) = pefAes stopV goV f len rest := by
  unfold Aes.aesRec pefAes
  by_cases h7 : len = 7
  · rw [if_neg (not_not_intro h7), if_neg (by rw [h7]; decide)]
    rcases rest with _ | ⟨v0, _ | ⟨v1, _ | ⟨i0, _ | ⟨i1, _ | ⟨m, _ | ⟨c0, _ | ⟨c1, t⟩⟩⟩⟩⟩⟩⟩
    any_goals rfl
    simp only [rd16]
    generalize mk16 v0 v1 = vv
    generalize mk16 i0 i1 = id
    generalize mk16 c0 c1 = cm
    rw [mode_chain m (fun md => (Out.ok 7, ({ extraView f with
      aesMode := some (md, if vv = 1 then .ae1 else .ae2), method := Aes.Method.fromU16 cm } : Aes.ExtraSt)))]
    generalize (if (m == 1) = true then some Model.AesMode.aes128 else if (m == 2) = true then some .aes192
      else if (m == 3) = true then some .aes256 else none) = amo
    by_cases hid : id = 0x4541
    · subst hid
      by_cases hv1 : vv = 1
      · subst hv1
        cases amo with
        | none => rfl
        | some am => exact aes_ok f am .ae1 cm _ _ _ _ _ _ _ t
      by_cases hv2 : vv = 2
      · subst hv2
        cases amo with
        | none => rfl
        | some am => exact aes_ok f am .ae2 cm _ _ _ _ _ _ _ t
      simp only [ne_eq, hv1, hv2, not_false_eq_true, and_self, if_true, beq_false_of_ne hv1, beq_false_of_ne hv2,
        Bool.false_eq_true, if_false, bne_self_eq_false, not_true_eq_false]
      rfl
    · rw [if_pos hid, if_pos (by simpa using hid)]; rfl
  · rw [if_pos h7, if_pos (by simpa using h7)]; rfl
/-- One record of the C16 model's loop is `pefStep` with the two continuations above. -/
theorem aes_step (f : FileData) : ∀ extra : Bytes,
    Aes.parseExtraLoop 0 extra (extraView f) = pefStep stopV goV f extra
  | [] | [_] | [_, _] | [_, _, _] => rfl
  | a :: b :: c :: d :: rest => by
    rw [Aes.parseExtraLoop]
    unfold pefStep
    simp only [List.isEmpty_cons, Bool.false_eq_true, if_false, rd16]
    by_cases hk1 : mk16 a b = 0x0001
    · rw [if_pos hk1, if_pos (by rw [hk1]; rfl)]
      exact zip64_arm (mk16 c d) rest f
    rw [if_neg hk1, if_neg (show ¬(mk16 a b == 0x0001) = true by simpa using hk1)]
    by_cases hk2 : mk16 a b = 0x9901
    · rw [if_pos hk2, if_pos (by rw [hk2]; rfl)]
      exact aes_arm (mk16 c d) rest f
    rw [if_neg hk2, if_neg (show ¬(mk16 a b == 0x9901) = true by simpa using hk2), loop_skip]
    rfl

/-- **The two models of `parse_extra_field` agree**: the C16 model (`Model.Aes.parseExtraLoop`, a cursor
with a pending skip) run on the view of a record returns the outcome and the view of the record that the
reader model (`Model.parseExtraField`, the one tied to the source by `Tie.Parsers.tie_parse_extra_field`)
returns, for every record, every extra field and every adequate fuel. -/
theorem parseExtra_bridge : ∀ (fuel : Nat) (f : FileData) (extra : Bytes), extra.length < fuel →
    Aes.parseExtraLoop 0 extra (extraView f) =
      (outOf (parseExtraField fuel f extra).2, extraView (parseExtraField fuel f extra).1)
  | 0, _, _, h => absurd h (Nat.not_lt_zero _)
  | fuel + 1, f, extra, h => by
    rw [aes_step, parseExtraField_succ]
    exact pefStep_rel (fun x (y : FileData × Option ZErr) => x = (outOf y.2, extraView y.1)) f extra
      (fun _ _ _ => rfl) fun f' r' _ hl => parseExtra_bridge fuel f' r' (by omega)

theorem methodView_aes_iff (m : Model.Method) : methodView m = Aes.Method.aes ↔ m = Model.Method.aes := by
  cases m <;> simp [methodView]

/-- The tail of `central_header_to_zip_file` in the reader model (`Model.centralHeaderInner`): I/O errors of
the extra-field parser are swallowed, other errors returned, method 99 needs the AES record — as an outcome
over the view. -/
def readerTail (f : FileData) (extra : Bytes) : Out Aes.ExtraSt :=
  let fin (g : FileData) : Out Aes.ExtraSt :=
    if g.method == Model.Method.aes && g.aesMode.isNone then .err .invalidArchive else .ok (extraView g)
  match parseExtraField (extra.length + 1) f extra with
  | (g, none) => fin g
  | (g, some (.io _)) => fin g
  | (_, some e) => .err e

/-- **`Model.Aes.parseEntryExtra` is the reader model's tail of `central_header_to_zip_file`.** -/
theorem parseEntryExtra_bridge (f : FileData) (extra : Bytes) :
    Aes.parseEntryExtra (extraView f) extra = readerTail f extra := by
  unfold Aes.parseEntryExtra readerTail
  rw [parseExtra_bridge (extra.length + 1) f extra (Nat.lt_succ_self _)]
  have hfin : ∀ g : FileData,
      (if (extraView g).method = Aes.Method.aes ∧ (extraView g).aesMode.isNone = true then
          (Out.err ZErr.invalidArchive : Out Aes.ExtraSt) else .ok (extraView g)) =
      (if (g.method == Model.Method.aes && g.aesMode.isNone) = true then .err .invalidArchive
        else .ok (extraView g)) := by
    intro g
    have h1 : (extraView g).method = Aes.Method.aes ↔ g.method = Model.Method.aes := methodView_aes_iff g.method
    have h2 : (extraView g).aesMode.isNone = g.aesMode.isNone := by
      simp only [extraView]; cases g.aesMode <;> rfl
    by_cases hm : g.method = Model.Method.aes
    · have hm' : (g.method == Model.Method.aes) = true := by rw [hm]; rfl
      rw [h2]
      simp only [h1.mpr hm, hm', true_and, Bool.true_and]
    · have hm' : (g.method == Model.Method.aes) = false := beq_false_of_ne hm
      have : ¬ (extraView g).method = Aes.Method.aes := fun h => hm (h1.mp h)
      simp only [this, hm', false_and, Bool.false_and, Bool.false_eq_true, if_false]
  generalize parseExtraField (extra.length + 1) f extra = r
  obtain ⟨g, oe⟩ := r
  cases oe with
  | none => exact hfin g
  | some e =>
    cases e with
    | io k => exact hfin g
    | _ => rfl

end ZipVerif.Lemmas.ExtraBridge
