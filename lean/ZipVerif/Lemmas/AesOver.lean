import ZipVerif.Lemmas.AesEntry
import ZipVerif.Lemmas.Layers
import ZipVerif.Model.AesPipeline
/-
The AES reader as a LAYER of the layer model: over ANY reader that denotes a byte stream `B` (every short-read
behaviour), with declared payload length `L`.  One invariant (`Over`), one theorem about one call (`Over.read`),
one about the comparison (`Over.intact_of_fin`); the layer theorem `aes_denotes` and its complement
`neverEof_of_damaged`.  What is said elsewhere about the concrete byte-list source - whole entry with the right code
(`Props/C16`, `Lemmas/EntryBridgeAes`), wrong code or too few bytes (`neverEof_of_damaged`) - are uses of it;
`ListInv.over` takes the invariant of `Lemmas/AesList.lean` to this one.
-/

namespace ZipVerif.Model
open ZipVerif ZipVerif.Model.Layers

variable {σ : Type}

/-- One call on a denoting reader, in the AES model's terms. -/
theorem Aes.rd_of_denotes {S : Aes.Src σ} {s : σ} {B : Bytes} {o : Term} (h : Denotes (ofAes S) s B o) (n : Nat) :
    (∃ bs s' r', S.rd s n = (.ok bs, s') ∧ bs.length ≤ n ∧ (0 < n → bs = [] → B = []) ∧ B = bs ++ r' ∧
      Denotes (ofAes S) s' r' o) ∨
    (∃ k s', S.rd s n = (.err k, s') ∧ B = [] ∧ o = .err k) := by
  rcases e : S.rd s n with ⟨bs | k, s'⟩
  · rcases h.step n with ⟨bs', s'', r', e', hl, hz, hr, hd⟩ | ⟨k, s'', e', _⟩ <;> rw [ofAes_ok e] at e' <;> cases e'
    exact .inl ⟨bs, s', r', rfl, hl, fun hn hb => (hz hn hb).1, hr, hd⟩
  · rcases h.step n with ⟨bs', s'', r', e', _⟩ | ⟨k', s'', e', hB, ho⟩ <;> rw [ofAes_err e] at e' <;> cases e'
    exact .inr ⟨k, s', rfl, hB, ho⟩

/-- The byte-list source denotes its bytes, whatever its short-read schedule. -/
theorem listSrc_denotes (s : Aes.ListSrc) : Denotes (ofAes Aes.listSrc) s s.data .eof := by
  refine prefixSrc_denotes (ofAes Aes.listSrc) Aes.ListSrc.data (fun s n => ?_) s
  obtain ⟨d, sc⟩ := s
  obtain ⟨cap, h1, h2, e⟩ := Aes.listRd_eq d sc n
  exact ⟨cap, _, ofAes_ok e, h1, fun hn _ => h2 hn, rfl⟩

namespace Aes

/-- `read_exact` over a denoting reader: the next `n` bytes, or the stream's end. -/
theorem readExactAux_denotes (S : Src σ) {o : Term} : ∀ (f : Nat) (s : σ) (B : Bytes) (need : Nat) (acc : Bytes),
    need ≤ f → Denotes (ofAes S) s B o →
    (need ≤ B.length → ∃ s', readExactAux S f s need acc = (.ok (acc ++ B.take need), s') ∧
      Denotes (ofAes S) s' (B.drop need) o) ∧
    (B.length < need → ∃ s', readExactAux S f s need acc = (.err (.io (exactErr o)), s')) := by
  intro f s B need acc h hd
  have hb := readExactAux_ofAes S f s need acc
  obtain ⟨h1, h2⟩ := Layers.readExactAux_denotes f hd need h
  refine ⟨fun hle => ?_, fun hlt => ?_⟩
  · obtain ⟨s', e, hd'⟩ := h1 hle
    rw [e] at hb
    exact ⟨s', hb, hd'⟩
  · obtain ⟨s', e⟩ := h2 hlt
    rw [e] at hb
    exact ⟨s', hb⟩

theorem readExact_denotes {S : Src σ} {o : Term} {s : σ} {B : Bytes} (hd : Denotes (ofAes S) s B o) (n : Nat) :
    (n ≤ B.length → ∃ s', readExact S s n = (.ok (B.take n), s') ∧ Denotes (ofAes S) s' (B.drop n) o) ∧
    (B.length < n → ∃ s', readExact S s n = (.err (.io (exactErr o)), s')) := by
  have := readExactAux_denotes S n s B n [] (Nat.le_refl _) hd
  simpa only [readExact, List.nil_append] using this

/-- Payload and code are there and the stored code is the HMAC of the payload. -/
def Intact (P : AesPrims) (B : Bytes) (L : Nat) (hk : Bytes) : Prop :=
  L + AUTH_CODE_LENGTH ≤ B.length ∧ (P.hmac hk (B.take L)).take AUTH_CODE_LENGTH = (B.drop L).take AUTH_CODE_LENGTH

/-- For a whole entry `ct ‖ code ‖ rest`: the stored code is the HMAC of the payload. -/
theorem intact_entry {P : AesPrims} {ct code rest hk : Bytes} (hcl : code.length = AUTH_CODE_LENGTH) :
    Intact P (ct ++ (code ++ rest)) ct.length hk ↔ (P.hmac hk ct).take AUTH_CODE_LENGTH = code := by
  unfold Intact
  rw [List.take_left, List.drop_left, List.take_left' hcl, List.length_append, List.length_append, hcl]
  exact ⟨fun h => h.2, fun h => ⟨by omega, h⟩⟩

/-- A reader in the middle of an entry whose bytes behind the verifier are `B` (any length, any content), over a
reader `S` that denotes them; `acc` is what it has handed out. -/
structure Over (P : AesPrims) (S : Src σ) (B : Bytes) (o : Term) (L : Nat) (key hk : Bytes) (v : Valid σ)
    (acc : Bytes) : Prop where
  run : RunInv P L key hk v acc
  ghost : v.ghostCt = B.take (L - v.dataRemaining)
  inner : v.finalized = false → Denotes (ofAes S) v.inner (B.drop (L - v.dataRemaining)) o
  stored : ∀ c s, v.ghostMac = some (c, s) → L + AUTH_CODE_LENGTH ≤ B.length ∧ s = (B.drop L).take AUTH_CODE_LENGTH

theorem Over.init (P : AesPrims) (S : Src σ) {B : Bytes} {o : Term} {s : σ} (hd : Denotes (ofAes S) s B o)
    (L : Nat) (key hk : Bytes) : Over P S B o L key hk (initValid s L key hk) [] :=
  ⟨RunInv.init P s L key hk, by simp [initValid], fun _ => by simpa [initValid] using hd, fun c s h => by cases h⟩

/-- **The comparison**: a finalized reader has seen `L + 10` bytes and found the code right. -/
theorem Over.intact_of_fin {P : AesPrims} {S : Src σ} {B : Bytes} {o : Term} {L : Nat} {key hk : Bytes}
    {v : Valid σ} {acc : Bytes} (hI : Over P S B o L key hk v acc) (hf : v.finalized = true) : Intact P B L hk := by
  obtain ⟨h0, _, hm⟩ := hI.run.mac_of_fin hf
  obtain ⟨hlen, hs⟩ := hI.stored _ _ hm
  refine ⟨hlen, ?_⟩
  rwa [hI.ghost, h0, Nat.sub_zero] at hs

/-- A data chunk `bs` read from the source moves the reader `bs.length` bytes on in `B`. -/
theorem Over.adv {P : AesPrims} {S : Src σ} {B : Bytes} {o : Term} {L : Nat} {key hk : Bytes} {v : Valid σ}
    {acc : Bytes} (hI : Over P S B o L key hk v acc) (hp : 0 < v.dataRemaining) {m : Nat} {bs : Bytes} {s' : σ}
    (hrd : S.rd v.inner m = (.ok bs, s')) (hle : bs.length ≤ v.dataRemaining) :
    v.ghostCt ++ bs = B.take (L - (v.dataRemaining - bs.length)) ∧
      Denotes (ofAes S) s' (B.drop (L - (v.dataRemaining - bs.length))) o := by
  have hL : v.dataRemaining ≤ L := hI.run.inv.len ▸ Nat.le_add_left _ _
  rcases rd_of_denotes (hI.inner (hI.run.inv.notfin_of_pos hp)) m with ⟨_, _, r', e, _, _, hB, hd⟩ | ⟨_, _, e, _⟩ <;>
    cases hrd.symm.trans e
  rw [sub_sub_add hle hL, List.take_add, ← List.drop_drop, hB, List.take_left, List.drop_left, hI.ghost]
  exact ⟨rfl, hd⟩

/-- Reading and comparing the code from a reader that stands behind the payload. -/
theorem finish_over {P : AesPrims} {S : Src σ} {B : Bytes} {o : Term} {L : Nat} {v : Valid σ} {out : Bytes}
    {r : Out Bytes × Valid σ} (hin : Denotes (ofAes S) v.inner (B.drop L) o) (h : FinishCase P S v out r) :
    (L + AUTH_CODE_LENGTH ≤ B.length ∧
      (P.hmac v.hmacKey v.hmacMsg).take AUTH_CODE_LENGTH = (B.drop L).take AUTH_CODE_LENGTH ∧
      ∃ s, r = (.ok out, v.compared P s ((B.drop L).take AUTH_CODE_LENGTH))) ∨
    ((∃ e, r.1 = .err e) ∧ ¬ (L + AUTH_CODE_LENGTH ≤ B.length ∧
      (P.hmac v.hmacKey v.hmacMsg).take AUTH_CODE_LENGTH = (B.drop L).take AUTH_CODE_LENGTH)) := by
  obtain ⟨h1, h2⟩ := readExact_denotes hin AUTH_CODE_LENGTH
  by_cases hl : L + AUTH_CODE_LENGTH ≤ B.length
  · obtain ⟨s1, e1, _⟩ := h1 (by rw [List.length_drop]; exact Nat.le_sub_of_add_le' hl)
    cases h with
    | err e s hre => cases hre.symm.trans e1
    | panic m s hre => cases hre.symm.trans e1
    | bad c s hre hne => cases hre.symm.trans e1; exact .inr ⟨⟨_, rfl⟩, fun h => hne h.2⟩
    | ok c s hre heq => cases hre.symm.trans e1; exact .inl ⟨hl, heq, _, rfl⟩
  · obtain ⟨s1, e1⟩ := h2 (by have : AUTH_CODE_LENGTH = 10 := rfl
                              rw [List.length_drop]; omega)
    cases h with
    | err e s hre => exact .inr ⟨⟨_, rfl⟩, fun h => hl h.1⟩
    | panic m s hre => cases hre.symm.trans e1
    | bad c s hre hne => cases hre.symm.trans e1
    | ok c s hre heq => cases hre.symm.trans e1

/-- **One `read` call of the AES layer over a denoting reader**: it succeeds and keeps the invariant; or it reports
an error, and then bytes are missing or the stored code is wrong.  (No panic, whatever `B` is.) -/
theorem Over.read (P : AesPrims) (hW : P.WF) (S : Src σ) {B : Bytes} {L : Nat} (hL : L < U64) {key hk : Bytes}
    {v : Valid σ} {acc : Bytes} (hI : Over P S B .eof L key hk v acc) (n : Nat) :
    (∃ out v', Valid.read P S v n = (.ok out, v') ∧ Over P S B .eof L key hk v' (acc ++ out)) ∨
    ((∃ e, (Valid.read P S v n).1 = .err e) ∧ ¬ Intact P B L hk) := by
  have hc := read_cases P hW S hL v hI.run.inv n
  have hlen := hI.run.inv.len
  generalize hr : Valid.read P S v n = r at hc
  have hrun : ∀ {out v'}, r = (.ok out, v') → RunInv P L key hk v' (acc ++ out) :=
    fun e => hI.run.step P hW S hL n (hr.trans e)
  -- a reader with ciphertext outstanding whose source is at its end: bytes are missing
  have short : 0 < v.dataRemaining → B.drop (L - v.dataRemaining) = [] → ¬ Intact P B L hk := fun hp h0 hi => by
    have := List.drop_eq_nil_iff.mp h0
    have := hi.1
    omega
  cases hc with
  | done => exact .inl ⟨[], v, rfl, by rw [List.append_nil]; exact hI⟩
  | empty h0 hf hfc =>
    have hin := hI.inner hf
    rw [h0, Nat.sub_zero] at hin
    have hmsg : v.hmacMsg = B.take L := by rw [(hI.run.inv.notfin hf).1, hI.ghost, h0, Nat.sub_zero]
    rcases finish_over hin hfc with ⟨hl, _, s, rfl⟩ | hbad
    · exact .inl ⟨[], _, rfl, hrun rfl, hI.ghost, (fun h => by cases h), fun c s h => by cases h; exact ⟨hl, rfl⟩⟩
    · exact .inr ⟨hbad.1, fun hi => hbad.2 ⟨hi.1, by rw [hmsg, hI.run.hkeyEq]; exact hi.2⟩⟩
  | rdErr k s' hp hrd =>
    rcases rd_of_denotes (hI.inner (hI.run.inv.notfin_of_pos hp)) (min v.dataRemaining n) with
      ⟨_, _, _, e, _⟩ | ⟨_, _, _, h0, _⟩
    · cases hrd.symm.trans e
    · exact .inr ⟨⟨_, rfl⟩, short hp h0⟩
  | eof s' hp hn hrd =>
    rcases rd_of_denotes (hI.inner (hI.run.inv.notfin_of_pos hp)) (min v.dataRemaining n) with
      ⟨_, _, _, e, _, hz, _⟩ | ⟨_, _, e, _⟩
    · cases hrd.symm.trans e
      exact .inr ⟨⟨_, rfl⟩, short hp (hz (Nat.lt_min.mpr ⟨hp, hn⟩) rfl)⟩
    · cases hrd.symm.trans e
  | over bs s' _ hp hrd hlt =>
    rcases rd_of_denotes (hI.inner (hI.run.inv.notfin_of_pos hp)) (min v.dataRemaining n) with
      ⟨_, _, _, e, hl, _⟩ | ⟨_, _, e, _⟩ <;> cases hrd.symm.trans e
    exact absurd hl (Nat.not_le.mpr hlt)
  | mid bs s' pt c hrd hlt _ _ hch =>
    have hp : 0 < v.dataRemaining := Nat.lt_of_le_of_lt (Nat.zero_le _) hlt
    have hnf := hI.run.inv.notfin_of_pos hp
    obtain ⟨hg, hd'⟩ := hI.adv hp hrd (Nat.le_of_lt hlt)
    refine .inl ⟨pt, _, rfl, hrun rfl, hg, fun _ => hd', fun c s h => ?_⟩
    have hm := (hI.run.inv.notfin hnf).2
    rw [show v.ghostMac = some (c, s) from h] at hm
    cases hm
  | last bs s' pt c hrd hp hbr _ hch hfc =>
    have hp' : 0 < v.dataRemaining := hbr ▸ hp
    have hnf := hI.run.inv.notfin_of_pos hp'
    obtain ⟨hg, hd'⟩ := hI.adv hp' hrd (Nat.le_of_eq hbr)
    have h0 : v.dataRemaining - bs.length = 0 := by rw [hbr, Nat.sub_self]
    rw [h0, Nat.sub_zero] at hg hd'
    have hmsg : (v.adv s' bs c).hmacMsg = B.take L := by
      show v.hmacMsg ++ bs = _
      rw [(hI.run.inv.notfin hnf).1]; exact hg
    rcases finish_over (v := v.adv s' bs c) hd' hfc with ⟨hl, _, s, rfl⟩ | hbad
    · refine .inl ⟨pt, _, rfl, hrun rfl, ?_, (fun h => by cases h), fun c s h => by cases h; exact ⟨hl, rfl⟩⟩
      show v.ghostCt ++ bs = B.take (L - (v.dataRemaining - bs.length))
      rw [h0, Nat.sub_zero]; exact hg
    · exact .inr ⟨hbad.1, fun hi => hbad.2 ⟨hi.1, by rw [hmsg]; exact hI.run.hkeyEq ▸ hi.2⟩⟩

section
variable (P : AesPrims) (hW : P.WF) (S : Src σ) {B : Bytes} {L : Nat} (hL : L < U64) {key hk : Bytes}
include hW hL

theorem Over.step_ok {v v' : Valid σ} {acc out : Bytes} (hI : Over P S B .eof L key hk v acc) (n : Nat)
    (hr : Valid.read P S v n = (.ok out, v')) : Over P S B .eof L key hk v' (acc ++ out) := by
  rcases hI.read P hW S hL n with ⟨o, w, e, h⟩ | ⟨⟨e, he⟩, _⟩
  · cases hr.symm.trans e; exact h
  · rw [hr] at he; cases he

theorem Over.step (hi : Intact P B L hk) {v : Valid σ} {acc : Bytes} (hI : Over P S B .eof L key hk v acc) (n : Nat) :
    ∃ out v', Valid.read P S v n = (.ok out, v') ∧ Over P S B .eof L key hk v' (acc ++ out) :=
  (hI.read P hW S hL n).resolve_right fun h => h.2 hi

theorem over_stable : OkStable P S L (fun v => ∃ acc, Over P S B .eof L key hk v acc) :=
  ⟨fun _ n _ _ ⟨_, h⟩ hr => ⟨_, h.step_ok P hW S hL n hr⟩, fun _ ⟨_, h⟩ => h.run.inv⟩

/-- A successful end-of-file (`Ok(0)` on a non-empty buffer) is reported only over an intact entry. -/
theorem Over.intact_of_eof {v v' : Valid σ} {acc : Bytes} (hI : Over P S B .eof L key hk v acc) {n : Nat}
    (hn : 0 < n) (hr : Valid.read P S v n = (.ok [], v')) : Intact P B L hk :=
  (hI.step_ok P hW S hL n hr).intact_of_fin (read_eof P hW S hL hI.run.inv hn hr).2

end

/-- The invariant of `Lemmas/AesList.lean` for a whole entry `ct ‖ code ‖ rest` is this one. -/
theorem ListInv.over {P : AesPrims} {ct code rest key hk : Bytes} {v : Valid ListSrc} {acc : Bytes}
    (hcl : code.length = AUTH_CODE_LENGTH) (hI : ListInv P ct code rest key hk v acc) :
    Over P listSrc (ct ++ (code ++ rest)) .eof ct.length key hk v acc := by
  have hle : ct.length - v.dataRemaining ≤ ct.length := Nat.sub_le _ _
  refine ⟨hI.run, ?_, fun hf => ?_, fun c s h => ?_⟩
  · rw [hI.ghost, List.take_append_of_le_length hle]
  · obtain ⟨sc, hin⟩ := hI.inner hf
    rw [hin, List.drop_append_of_le_length hle]
    exact listSrc_denotes ⟨_, sc⟩
  · rw [hI.stored c s h, List.drop_left, List.take_left' hcl, List.length_append, List.length_append, hcl]
    exact ⟨by omega, rfl⟩

section
variable (P : AesPrims) (hW : P.WF) (S : Src σ) {B : Bytes} {L : Nat} (hL : L < U64) {key hk : Bytes}
  (hi : Intact P B L hk)
include hW hL hi

/-- Over an intact entry no call fails, and every non-empty buffer takes at least one byte while payload is left. -/
theorem drain_over : ∀ (bufs : List Nat) (v : Valid σ) (acc : Bytes), Over P S B .eof L key hk v acc →
    ∃ out v1, drain P S bufs v acc = (.ok out, v1) ∧ Over P S B .eof L key hk v1 out ∧
      v1.dataRemaining ≤ v.dataRemaining - posCount bufs := by
  intro bufs
  induction bufs with
  | nil => intro v acc hI; exact ⟨acc, v, rfl, hI, by simp [posCount]⟩
  | cons n ns ih =>
    intro v acc hI
    obtain ⟨out, v', hr, hI'⟩ := hI.step P hW S hL hi n
    obtain ⟨_, hrem, hpos, _⟩ := read_ok P hW S hL hI.run.inv hr
    obtain ⟨out1, v1, hd, hI1, hle1⟩ := ih v' (acc ++ out) hI'
    refine ⟨out1, v1, by rw [drain, hr]; exact hd, hI1, Nat.le_trans hle1 ?_⟩
    have hle' : v'.dataRemaining ≤ v.dataRemaining := hrem ▸ Nat.le_add_right _ _
    by_cases hn : 0 < n
    · rw [show posCount (n :: ns) = posCount ns + 1 by simp [posCount, hn], Nat.add_comm, ← Nat.sub_sub]
      by_cases hp : 0 < v.dataRemaining
      · exact Nat.sub_le_sub_right (Nat.le_sub_one_of_lt (hrem ▸ Nat.lt_add_of_pos_right (hpos hn hp))) _
      · rw [Nat.le_zero.mp (Nat.le_trans hle' (Nat.le_of_not_lt hp)), Nat.zero_sub]; exact Nat.zero_le _
    · rw [show posCount (n :: ns) = posCount ns by simp [posCount, hn]]
      exact Nat.sub_le_sub_right hle' _

/-- `finish_crypto` over an intact entry succeeds from every reachable reader state. -/
theorem finish_crypto_over (compressing : Bool) {v : Valid σ} {acc : Bytes} (hI : Over P S B .eof L key hk v acc) :
    ∃ v', finishCrypto P S compressing v = (.ok (), v') := by
  unfold finishCrypto
  cases compressing with
  | false => exact ⟨v, rfl⟩
  | true =>
    rw [if_pos rfl]
    have key : ∀ (f : Nat) (v : Valid σ) (acc : Bytes), Over P S B .eof L key hk v acc →
        v.dataRemaining < f → ∃ v', copyToSink P S f v = (.ok (), v') := by
      intro f
      induction f with
      | zero => intro v acc _ h; omega
      | succ f ih =>
        intro v acc hI hf
        obtain ⟨out, v', hr, hI'⟩ := hI.step P hW S hL hi 8192
        obtain ⟨_, hrem, _, _⟩ := read_ok P hW S hL hI.run.inv hr
        unfold copyToSink
        rw [hr]
        dsimp only
        cases out with
        | nil => exact ⟨v', rfl⟩
        | cons b t => exact ih v' _ hI' (by rw [List.length_cons] at hrem; omega)
    exact key _ v acc hI (Nat.lt_succ_self _)

end

/-- What the reader has handed out is a prefix of the decryption of the payload. -/
theorem Over.prefix {P : AesPrims} {S : Src σ} {B : Bytes} {o : Term} {L : Nat} {key hk : Bytes} {v : Valid σ}
    {acc pt : Bytes} {cfin : CtrState} (hI : Over P S B o L key hk v acc)
    (hpt : cryptBytes P key CtrState.new (B.take L) = .ok (pt, cfin)) : ∃ p2, pt = acc ++ p2 := by
  rw [← List.take_append_drop (L - v.dataRemaining) (B.take L), List.take_take,
    Nat.min_eq_left (Nat.sub_le _ _), ← hI.ghost, cryptBytes_append, hI.run.crypt, Out.bind_ok] at hpt
  cases h2 : cryptBytes P key v.ctr ((B.take L).drop (L - v.dataRemaining)) with
  | ok r2 => rw [h2] at hpt; cases hpt; exact ⟨r2.1, rfl⟩
  | err e => rw [h2] at hpt; cases hpt
  | panic m => rw [h2] at hpt; cases hpt

end Aes

open Aes in
/-- **The AES layer.**  Over any reader that denotes `B` followed by a clean end - payload of `L` bytes, stored
code, anything behind it -, when the stored code is the HMAC of the payload, `AesReaderValid` denotes the CTR
decryption of the payload followed by a clean end: for every schedule of caller buffers (zeros included), whatever
the short-read behaviour below. -/
theorem aes_denotes (P : AesPrims) (hW : P.WF) (S : Aes.Src σ) {B : Bytes} {L : Nat} (hL : L < U64) {key hk : Bytes}
    {s : σ} (hd : Denotes (ofAes S) s B .eof) (hi : Intact P B L hk) {pt : Bytes} {cfin : CtrState}
    (hpt : cryptBytes P key CtrState.new (B.take L) = .ok (pt, cfin)) :
    Denotes (aesSrc P S) (initValid s L key hk) pt .eof := by
  apply Denotes.of_invariant (fun v rest => ∃ acc, Over P S B .eof L key hk v acc ∧ acc ++ rest = pt)
  · rintro v rest n ⟨acc, hI, hacc⟩
    obtain ⟨out, v', hr, hI'⟩ := hI.step P hW S hL hi n
    obtain ⟨p2, hp⟩ := hI'.prefix hpt
    have hrest : rest = out ++ p2 := List.append_cancel_left (by rw [hacc, hp, List.append_assoc])
    have hrd : (aesSrc P S).rd v n = (.ok out, v') := by simp only [aesSrc, hr]
    refine stepOK_of_ok hrd (read_ok P hW S hL hI.run.inv hr).1 ?_ ⟨p2, hrest, acc ++ out, hI', hp.symm⟩
    -- at end-of-file all of the payload has been decrypted: what was delivered is all of `pt`
    intro hn ho
    subst ho
    have hcr := hI'.run.crypt
    rw [hI'.ghost, (read_eof P hW S hL hI.run.inv hn hr).1, Nat.sub_zero, hpt, List.append_nil] at hcr
    cases hcr
    exact ⟨List.append_cancel_left (hacc.trans (List.append_nil _).symm), rfl⟩
  · exact ⟨[], Over.init P S hd L key hk, rfl⟩

open Aes in
/-- **Over a damaged entry (bytes missing, or a wrong code) held by the byte-list source, no run of successful calls
ends in a successful end-of-file** - at the AES layer and at the level of `ZipFile::read`, for any decoder on top. -/
theorem neverEof_of_damaged (P : AesPrims) (hW : P.WF) {L : Nat} (hL : L < U64) (B : Bytes) (sc : List Nat)
    (key hk : Bytes) (hbad : ¬ Intact P B L hk) : NeverEof P (initValid ⟨B, sc⟩ L key hk) := by
  have h0 := Over.init P listSrc (listSrc_denotes ⟨B, sc⟩) L key hk
  constructor
  · intro bufs out v1 n v2 hrun hn heof
    have h1 := drain_preserves P listSrc (Over P listSrc B .eof L key hk)
      (fun _ _ n _ _ hI h => hI.step_ok P hW listSrc hL n h) bufs _ v1 [] out h0 hrun
    exact hbad (h1.intact_of_eof P hW listSrc hL hn heof)
  · intro δ H compressing D hD hS upd fin d0 c0 bufs out st1 n st2 hrun hn heof
    have hQ := over_stable P hW listSrc hL (B := B) (key := key) (hk := hk)
    have h1 := entryDrain_ok P hW listSrc hL hQ D hD compressing upd fin bufs _ st1 [] out ⟨[], h0⟩ hrun
    obtain ⟨acc, hI⟩ := (entryRead_ok P hW listSrc hL hQ D hD compressing upd fin st1 st2 n [] h1 heof).1
    exact hbad (hI.intact_of_fin (entryRead_eof P hW listSrc hL hQ D hD compressing hS upd fin st1 st2 n hn h1 heof).2)

end ZipVerif.Model
