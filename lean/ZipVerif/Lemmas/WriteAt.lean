import ZipVerif.Model.IO
/-
`writeAt buf p bs` (Model/IO.lean) on lists: its length, what lies before, under and behind the patch, and how patches
compose.  Nothing here mentions the device or the monad.
-/

namespace ZipVerif.Model
open ZipVerif

theorem drop_len_add {L R : Bytes} {n k : Nat} (h : L.length = n) : (L ++ R).drop (n + k) = R.drop k := by
  subst h
  rw [List.drop_append]
  simp

theorem take_len {L R : Bytes} {n : Nat} (h : L.length = n) : (L ++ R).take n = L := by
  subst h; simp

theorem writeAt_of_le {buf : Bytes} {p : Nat} (bs : Bytes) (h : p ≤ buf.length) :
    writeAt buf p bs = buf.take p ++ bs ++ buf.drop (p + bs.length) := if_pos h

/-- where the patch ends, when it starts inside the buffer -/
theorem length_take_append {buf : Bytes} {p : Nat} (bs : Bytes) (h : p ≤ buf.length) :
    (buf.take p ++ bs).length = p + bs.length := by
  rw [List.length_append, List.length_take, Nat.min_eq_left h]

/-! ### Length -/

theorem writeAt_length (buf : Bytes) (p : Nat) (bs : Bytes) :
    (writeAt buf p bs).length = max buf.length (p + bs.length) := by
  unfold writeAt
  split <;> simp only [List.length_append, List.length_take, List.length_drop, List.length_replicate] <;> omega

theorem writeAt_length_inside {buf : Bytes} {p : Nat} {bs : Bytes} (h : p + bs.length ≤ buf.length) :
    (writeAt buf p bs).length = buf.length := by
  rw [writeAt_length]; omega

theorem writeAt_length_ge (buf : Bytes) (p : Nat) (bs : Bytes) : p + bs.length ≤ (writeAt buf p bs).length := by
  rw [writeAt_length]; omega

theorem writeAt_length_le {buf : Bytes} {p : Nat} (bs : Bytes) {r : Nat} (hr : buf.length ≤ p + r) :
    (writeAt buf p bs).length ≤ p + bs.length + r := by
  rw [writeAt_length]; omega

/-! ### Behind the patch -/

theorem writeAt_drop_end (buf : Bytes) (p : Nat) (bs : Bytes) :
    (writeAt buf p bs).drop (p + bs.length) = buf.drop (p + bs.length) := by
  unfold writeAt
  split
  · next h =>
    rw [← length_take_append bs h, List.drop_left']
    rfl
  · next h =>
    rw [List.drop_of_length_le, List.drop_of_length_le]
    · omega
    · simp only [List.length_append, List.length_replicate]; omega

theorem writeAt_drop_ge (buf : Bytes) (p : Nat) (bs : Bytes) {k : Nat} (hk : p + bs.length ≤ k) :
    (writeAt buf p bs).drop k = buf.drop k := by
  have e : k = (p + bs.length) + (k - (p + bs.length)) := by omega
  rw [e, ← List.drop_drop, writeAt_drop_end, List.drop_drop]

/-! ### Up to the end of the patch -/

theorem writeAt_take_append {buf : Bytes} {p : Nat} (bs : Bytes) (h : p ≤ buf.length) :
    (writeAt buf p bs).take (p + bs.length) = buf.take p ++ bs := by
  rw [writeAt_of_le bs h, take_len (length_take_append bs h)]

/-- patch inside the live part: `take q` commutes with the patch -/
theorem writeAt_take_inside {buf : Bytes} {p q : Nat} {bs : Bytes} (h1 : p + bs.length ≤ q)
    (h2 : q ≤ buf.length) : (writeAt buf p bs).take q = writeAt (buf.take q) p bs := by
  have hl : (buf.take q).length = q := by simp only [List.length_take]; omega
  have e1 := length_take_append bs (show p ≤ buf.length by omega)
  rw [writeAt_of_le bs (by omega), writeAt_of_le bs (by omega), List.take_append, e1,
    List.take_of_length_le (by omega), List.take_take, Nat.min_eq_left (by omega)]
  congr 1
  rw [List.drop_take]

/-! ### Composition -/

theorem writeAt_nil {buf : Bytes} {p : Nat} (h : p ≤ buf.length) : writeAt buf p [] = buf := by
  rw [writeAt_of_le [] h]
  simp

theorem writeAt_split (buf : Bytes) (p : Nat) (a b : Bytes) :
    writeAt (writeAt buf p a) (p + a.length) b = writeAt buf p (a ++ b) := by
  unfold writeAt
  by_cases hp : p ≤ buf.length
  · rw [if_pos hp, if_pos hp]
    have hL := length_take_append a hp
    rw [if_pos (by rw [List.length_append, hL]; omega)]
    rw [take_len hL, drop_len_add hL, List.drop_drop, List.length_append]
    simp only [List.append_assoc]
    rw [Nat.add_assoc]
  · rw [if_neg hp, if_neg hp]
    have hL : (buf ++ List.replicate (p - buf.length) 0 ++ a).length = p + a.length := by
      simp only [List.length_append, List.length_replicate]; omega
    rw [if_pos (by rw [hL]; omega)]
    have : (buf ++ List.replicate (p - buf.length) 0 ++ a) = (buf ++ List.replicate (p - buf.length) 0 ++ a) ++ [] := by simp
    rw [this, take_len hL, drop_len_add hL]
    simp

/-- a write behind the prefix `A` leaves `A` alone (also beyond the end, where it pads with zeros) -/
theorem writeAt_skip (A : Bytes) {R X : Bytes} {p : Nat} (q : Nat) (hp : p = A.length + q) :
    writeAt (A ++ R) p X = A ++ writeAt R q X := by
  subst hp
  unfold writeAt
  by_cases hq : q ≤ R.length
  · rw [if_pos (by simp; omega), if_pos hq, List.take_append, List.take_of_length_le (by omega),
      Nat.add_sub_cancel_left, Nat.add_assoc, List.drop_append, List.drop_of_length_le (by omega),
      Nat.add_sub_cancel_left]
    simp only [List.append_assoc, List.nil_append]
  · rw [if_neg (by simp; omega), if_neg hq, List.length_append, Nat.add_sub_add_left]
    simp only [List.append_assoc]

/-- overwriting the head by as many bytes -/
theorem writeAt_head {X X' : Bytes} (B : Bytes) (hl : X'.length = X.length) : writeAt (X ++ B) 0 X' = X' ++ B := by
  rw [writeAt_of_le X' (Nat.zero_le _), List.take_zero, List.nil_append, Nat.zero_add, hl, List.drop_left]

end ZipVerif.Model

/-! The same with the hypotheses the layout development has at hand. -/

namespace ZipVerif.WL
open ZipVerif ZipVerif.Model

theorem writeAt_drop_inside {buf : Bytes} {p q : Nat} {bs : Bytes} (h1 : p + bs.length ≤ q)
    (h2 : q ≤ buf.length) : (writeAt buf p bs).drop q = buf.drop q :=
  -- `h2` is not needed
  (fun _ => writeAt_drop_ge buf p bs h1) h2

theorem writeAt_take_inside' {buf : Bytes} {p q : Nat} {bs : Bytes} (h1 : p + bs.length ≤ q)
    (h2 : q ≤ buf.length) :
    (writeAt buf p bs).take q = (buf.take q).take p ++ bs ++ (buf.take q).drop (p + bs.length) := by
  rw [writeAt_take_inside h1 h2]
  exact writeAt_of_le bs (by rw [List.length_take]; omega)

theorem writeAt_writeAt {buf : Bytes} {p : Nat} (a b : Bytes) (h : p ≤ buf.length) :
    writeAt (writeAt buf p a) (p + a.length) b = writeAt buf p (a ++ b) :=
  -- `h` is not needed
  (fun _ => writeAt_split buf p a b) h

end ZipVerif.WL
