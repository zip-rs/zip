import ZipVerif.Lemmas.WriteCase
/-
The generic writer `GW` (`Model/ShortWrite.lean`) is written with `pure`, `>>=`, pattern matching on data and the
`WriterIO` vocabulary only.  So a relation between two instances that is closed under `pure`, `>>=` and the vocabulary
(`WriterRel`) relates every generic writer function to itself - the `Interrupted` relation (`RI`,
`Lemmas/FaultInterruptedW`), view invariance (`VInv`, `Lemmas/ViewInv`; `Lemmas/TailInv`), `Uniform` (`Lemmas/FaultRun`) -
and one closed under all of it but the sink `write` of the data path (`WriterRel₀`) every function off that path: the
short-write simulation (`Sim`, `Lemmas/ShortWrite`).  The induction over each function body
(`GW.srel_*`) is made once, HERE, with the weaker rules of a `StepRel`, which every `WriterRel₀` has
(`WriterRel₀.stepRel`) and so have `StepOK` (`StepOK.stepRel`, `Lemmas/FaultWriter`) and the simulation up to the 4 GiB
refusal (`SimS`, `Lemmas/ShortWrite`); only `drop` is walked over a `WriterRel₀` itself.  The statements for the call
alphabet (`GW.srel_step` for a `StepRel`, `GW.rel_step` for a `WriterRel`, `drop` included) are in `Lemmas/ShortWrite`.
-/

namespace ZipVerif.Model
open ZipVerif WriterIO

/-- A relation between computations of two `WriterIO` instances, closed under everything the generic writer is written
with except the single sink `write` of the data path. -/
structure WriterRel₀ (m₁ m₂ : Type → Type) [WriterIO m₁] [WriterIO m₂] where
  R : {α : Type} → m₁ α → m₂ α → Prop
  pure : ∀ {α : Type} (a : α), R (Pure.pure a) (Pure.pure a)
  bind : ∀ {α β : Type} {x : m₁ α} {y : m₂ α} {f : α → m₁ β} {g : α → m₂ β},
    R x y → (∀ a, R (f a) (g a)) → R (x >>= f) (y >>= g)
  panic : ∀ {α : Type} (s : String), R (wPanic s : m₁ α) (wPanic s : m₂ α)
  attempt : ∀ {α : Type} {x : m₁ α} {y : m₂ α}, R x y → R (wAttempt x) (wAttempt y)
  -- the writer never seeks from the end: a relation need not be closed under `SeekFrom.endOff`
  seekStart : ∀ n : Nat, R (wSeek (.start n)) (wSeek (.start n))
  seekCurrent : ∀ off : Int, R (wSeek (.current off)) (wSeek (.current off))
  flush : R wFlush wFlush
  writeAll : ∀ bs : Bytes, R (wWriteAll bs) (wWriteAll bs)

/-- A `WriterRel₀` that is closed under the sink `write` too (the short-write simulation is not: the counts differ). -/
structure WriterRel (m₁ m₂ : Type → Type) [WriterIO m₁] [WriterIO m₂] extends WriterRel₀ m₁ m₂ where
  write : ∀ bs : Bytes, R (wWrite bs) (wWrite bs)

namespace WriterRel₀
variable {m₁ m₂ : Type → Type} [WriterIO m₁] [WriterIO m₂] (L : WriterRel₀ m₁ m₂) {α β : Type}

theorem ite {c : Prop} [Decidable c] {x x' : m₁ α} {y y' : m₂ α} (h : L.R x y) (h' : L.R x' y') :
    L.R (if c then x else x') (if c then y else y') := by
  split
  · exact h
  · exact h'

/-- `let (r, s) ← x; match r with | .error e => … | .ok v => …`: the two arms separately. -/
theorem tail {x : m₁ (Except ZErr α × WState)} {y : m₂ (Except ZErr α × WState)}
    {f : Except ZErr α × WState → m₁ β} {g : Except ZErr α × WState → m₂ β} (h : L.R x y)
    (he : ∀ e s, L.R (f (.error e, s)) (g (.error e, s))) (hk : ∀ v s, L.R (f (.ok v, s)) (g (.ok v, s))) :
    L.R (x >>= f) (y >>= g) :=
  L.bind h fun (r, s) => by
    cases r with
    | error e => exact he e s
    | ok v => exact hk v s

end WriterRel₀

namespace GW
variable {m₁ m₂ : Type → Type} [WriterIO m₁] [WriterIO m₂] (L : WriterRel₀ m₁ m₂)

theorem rel_liftP {α} (o : Except String α) : L.R (liftP o : m₁ α) (liftP o : m₂ α) := by
  cases o with
  | error site => exact L.panic site
  | ok a => exact L.pure a

theorem rel_writeChunks : ∀ cs : List Bytes, L.R (writeChunks cs : m₁ Unit) (writeChunks cs : m₂ Unit)
  | [] => L.pure _
  | c :: cs => L.bind (L.writeAll c) fun _ => rel_writeChunks cs

theorem rel_io {α β} (s : WState) {x : m₁ α} {y : m₂ α} {k : α → m₁ (Except ZErr β × WState)}
    {k' : α → m₂ (Except ZErr β × WState)} (h : L.R x y) (hk : ∀ a, L.R (k a) (k' a)) :
    L.R (GW.io s x k) (GW.io s y k') :=
  L.bind (L.attempt h) fun r => by
    cases r with
    | ok a => exact hk a
    | error e => exact L.pure _

theorem rel_emitFinish {β} (s : WState) (mm : Method) (enc : Option EncState) (bs : Bytes)
    {k : Option EncState → m₁ (Except ZErr β × WState)} {k' : Option EncState → m₂ (Except ZErr β × WState)}
    (hk : ∀ e, L.R (k e) (k' e)) : L.R (GW.emitFinish s mm enc bs k) (GW.emitFinish s mm enc bs k') := by
  unfold GW.emitFinish
  cases enc with
  | some e => exact hk _
  | none =>
    refine L.bind (L.attempt (L.writeAll bs)) fun r => ?_
    cases r with
    | ok _ => exact hk _
    | error e => exact L.ite (L.bind (L.attempt (L.writeAll bs)) fun _ => L.pure _) (L.pure _)

end GW

/-! ### Steps

A writer function is a step `WState → m (Except ZErr β × WState)` assembled from `pure`, a panic, the `?` on a callee's
result (`tail`) and the two idioms around a device action (`GW.io`, `GW.emitFinish`).  A `StepRel` has these as its
rules, with a relation of its own for device actions (`R`, with the leaves the generic writer uses: `seek`, `flush`,
`write_all`, `writeChunks`) and for the error arm of a `?` (`E e s`: of the arm that was given the error `e` and the
state `s`; `pureErr` is the arm that hands the error on).  Every relation closed under the vocabulary is one (`WriterRel₀.stepRel`), and
so are two that are not closed under `>>=`: fault transparency of a call (`StepOK` / `StepErr` / `Tight` of
`Lemmas/FaultCore`; `StepOK.stepRel`, `Lemmas/FaultWriter`) and the short-write simulation up to the 4 GiB refusal (`SimS`, `Lemmas/ShortWrite`).  Each
generic function is walked once, over `StepRel` (`GW.srel_*`). -/

structure StepRel (m₁ m₂ : Type → Type) [WriterIO m₁] [WriterIO m₂] where
  /-- device actions -/
  R : {α : Type} → m₁ α → m₂ α → Prop
  /-- steps -/
  S : {β : Type} → m₁ (Except ZErr β × WState) → m₂ (Except ZErr β × WState) → Prop
  /-- the arm of a `?` that is given the error `e` and the state `s` -/
  E : {β : Type} → ZErr → WState → m₁ (Except ZErr β × WState) → m₂ (Except ZErr β × WState) → Prop
  pure : ∀ {β : Type} (r : Except ZErr β × WState), S (Pure.pure r) (Pure.pure r)
  panic : ∀ {β : Type} (site : String), S (wPanic site : m₁ (Except ZErr β × WState)) (wPanic site)
  pureErr : ∀ {β : Type} (e : ZErr) (s : WState),
    E e s (Pure.pure (.error e, s) : m₁ (Except ZErr β × WState)) (Pure.pure (.error e, s))
  /-- `let (r, s) ← x; match r with | .error e => … | .ok v => …` -/
  tail : ∀ {α β : Type} {x : m₁ (Except ZErr α × WState)} {y : m₂ (Except ZErr α × WState)}
    {f : Except ZErr α × WState → m₁ (Except ZErr β × WState)} {g : Except ZErr α × WState → m₂ (Except ZErr β × WState)},
    S x y → (∀ e s, E e s (f (.error e, s)) (g (.error e, s))) → (∀ v s, S (f (.ok v, s)) (g (.ok v, s))) →
    S (x >>= f) (y >>= g)
  io : ∀ {α β : Type} (s : WState) {x : m₁ α} {y : m₂ α} {k : α → m₁ (Except ZErr β × WState)}
    {k' : α → m₂ (Except ZErr β × WState)}, R x y → (∀ a, S (k a) (k' a)) → S (GW.io s x k) (GW.io s y k')
  emitFinish : ∀ {β : Type} (s : WState) (mm : Method) (enc : Option EncState) (bs : Bytes)
    {k : Option EncState → m₁ (Except ZErr β × WState)} {k' : Option EncState → m₂ (Except ZErr β × WState)},
    (∀ e, S (k e) (k' e)) → S (GW.emitFinish s mm enc bs k) (GW.emitFinish s mm enc bs k')
  seekStart : ∀ n : Nat, R (wSeek (.start n)) (wSeek (.start n))
  seekCurrent : ∀ off : Int, R (wSeek (.current off)) (wSeek (.current off))
  flush : R wFlush wFlush
  writeAll : ∀ bs : Bytes, R (wWriteAll bs) (wWriteAll bs)
  writeChunks : ∀ cs : List Bytes, R (GW.writeChunks cs) (GW.writeChunks cs)

/-- every relation closed under the vocabulary -/
def WriterRel₀.stepRel {m₁ m₂ : Type → Type} [WriterIO m₁] [WriterIO m₂] (L : WriterRel₀ m₁ m₂) : StepRel m₁ m₂ where
  R := L.R
  S := L.R
  E _ _ := L.R
  pure := L.pure
  panic := L.panic
  pureErr _ _ := L.pure _
  tail := L.tail
  io s _ _ _ _ := GW.rel_io L s
  emitFinish s mm enc bs _ _ := GW.rel_emitFinish L s mm enc bs
  seekStart := L.seekStart
  seekCurrent := L.seekCurrent
  flush := L.flush
  writeAll := L.writeAll
  writeChunks := GW.rel_writeChunks L

/-- One step of the walk over a function body: a leaf rule of `L`, a hypothesis, one of the idioms, or one level of
structure.  The walks run it `with_reducible`, so that the rule of a callee that does not apply fails at once, without
unfolding the callee against the goal. -/
macro "srel_step " L:term : tactic => `(tactic| first
    | exact StepRel.pure $L _ | exact StepRel.panic $L _ | exact StepRel.pureErr $L _ _
    | exact StepRel.seekStart $L _ | exact StepRel.seekCurrent $L _ | exact StepRel.flush $L
    | exact StepRel.writeAll $L _ | exact StepRel.writeChunks $L _ | assumption
    | refine StepRel.io $L _ ?_ ?_
    | refine StepRel.emitFinish $L _ _ _ _ ?_
    | refine StepRel.tail $L ?_ ?_ ?_
    | intro _
    | dsimp only
    | split)

namespace GW
variable {m₁ m₂ : Type → Type} [WriterIO m₁] [WriterIO m₂] (L : StepRel m₁ m₂)

theorem srel_switchTo (ext : WExt) (c : Method) (l : Option Int) (s : WState) :
    L.S (GW.switchTo ext c l s : m₁ _) (GW.switchTo ext c l s : m₂ _) := by
  unfold GW.switchTo
  with_reducible repeat' srel_step L

theorem srel_endExtraData (ext : WExt) (s : WState) :
    L.S (GW.endExtraData ext s : m₁ _) (GW.endExtraData ext s : m₂ _) := by
  unfold GW.endExtraData
  with_reducible repeat' (first | exact srel_switchTo L _ _ _ _ | srel_step L)

theorem srel_updateLocalHeader {β} (s : WState) (f : FileData) {k : Unit → m₁ (Except ZErr β × WState)}
    {k' : Unit → m₂ (Except ZErr β × WState)} (hk : ∀ a, L.S (k a) (k' a)) :
    L.S (GW.updateLocalHeader s f k) (GW.updateLocalHeader s f k') := by
  unfold GW.updateLocalHeader
  with_reducible repeat' (first | exact hk _ | srel_step L)

theorem srel_afterEnc (s : WState) : L.S (GW.afterEnc s : m₁ _) (GW.afterEnc s : m₂ _) := by
  unfold GW.afterEnc streamPosition
  with_reducible repeat' (first | refine srel_updateLocalHeader L _ _ ?_ | srel_step L)

theorem srel_finishFile (ext : WExt) (s : WState) :
    L.S (GW.finishFile ext s : m₁ _) (GW.finishFile ext s : m₂ _) := by
  unfold GW.finishFile
  -- `Except.map _ (.error e)` in the `?` after `end_extra_data` has to be unfolded
  with_reducible repeat' first
    | exact srel_switchTo L _ _ _ _ | exact srel_endExtraData L _ _ | exact srel_afterEnc L _ | srel_step L
    | with_unfolding_all exact L.pureErr _ _

theorem srel_startEntry (ext : WExt) (name : Bytes) (o : FileOptions) (raw) (s : WState) :
    L.S (GW.startEntry ext name o raw s : m₁ _) (GW.startEntry ext name o raw s : m₂ _) := by
  unfold GW.startEntry streamPosition
  with_reducible repeat' (first | exact srel_finishFile L _ _ | srel_step L)

theorem srel_startFile (ext : WExt) (name : Bytes) (o : FileOptions) (s : WState) :
    L.S (GW.startFile ext name o s : m₁ _) (GW.startFile ext name o s : m₂ _) := by
  unfold GW.startFile
  with_reducible repeat' (first | exact srel_startEntry L _ _ _ _ _ | exact srel_switchTo L _ _ _ _ | srel_step L)

theorem srel_startFileWithExtraData (ext : WExt) (name : Bytes) (o : FileOptions) (s : WState) :
    L.S (GW.startFileWithExtraData ext name o s : m₁ _) (GW.startFileWithExtraData ext name o s : m₂ _) := by
  unfold GW.startFileWithExtraData
  with_reducible repeat' (first | exact srel_startEntry L _ _ _ _ _ | srel_step L)

theorem srel_endLocalStartCentral (ext : WExt) (s : WState) :
    L.S (GW.endLocalStartCentral ext s : m₁ _) (GW.endLocalStartCentral ext s : m₂ _) := by
  unfold GW.endLocalStartCentral
  with_reducible repeat' (first | exact srel_endExtraData L _ _ | srel_step L)

theorem srel_addDirectory (ext : WExt) (name : Bytes) (o : FileOptions) (s : WState) :
    L.S (GW.addDirectory ext name o s : m₁ _) (GW.addDirectory ext name o s : m₂ _) := by
  unfold GW.addDirectory
  with_reducible repeat' (first | exact srel_startEntry L _ _ _ _ _ | srel_step L)

theorem srel_writeAllCentral (s : WState) : ∀ fs : List FileData,
    L.S (GW.writeAllCentral s fs : m₁ _) (GW.writeAllCentral s fs : m₂ _)
  | [] => L.pure _
  | f :: rest => by
    have ih := srel_writeAllCentral s rest
    unfold GW.writeAllCentral
    with_reducible repeat' srel_step L

theorem srel_finalize (ext : WExt) (s : WState) :
    L.S (GW.finalize ext s : m₁ _) (GW.finalize ext s : m₂ _) := by
  unfold GW.finalize streamPosition
  with_reducible repeat' first
    | exact srel_finishFile L _ _ | exact srel_writeAllCentral L _ _ | srel_step L

theorem srel_finish (ext : WExt) (s : WState) :
    L.S (GW.finish ext s : m₁ _) (GW.finish ext s : m₂ _) := by
  unfold GW.finish
  with_reducible repeat' (first | exact srel_finalize L _ _ | srel_step L)

/-! #### The data path: `write_all` may go through encoders with different accept counts on the two sides -/

theorem srel_liftP {β} (o : Except String (Except ZErr β × WState)) : L.S (liftP o : m₁ _) (liftP o : m₂ _) := by
  cases o with
  | error site => exact L.panic site
  | ok r => exact L.pure r

theorem srel_write (hw : ∀ bs, L.R (wWrite bs : m₁ _) (wWrite bs)) (acc : Bytes → Nat) (buf : Bytes) (s : WState) :
    L.S (GW.write acc buf s : m₁ _) (GW.write acc buf s : m₂ _) := by
  rw [write_eq, write_eq]
  split
  · exact L.io s (hw buf) fun _ => srel_liftP L _
  · exact srel_liftP L _

theorem srel_writeAllLoop (hw : ∀ bs, L.R (wWrite bs : m₁ _) (wWrite bs)) (acc : Bytes → Nat) :
    ∀ (fuel : Nat) (buf : Bytes) (s : WState),
      L.S (GW.writeAllLoop acc fuel buf s : m₁ _) (GW.writeAllLoop acc fuel buf s : m₂ _)
  | 0, _, _ => L.panic _
  | fuel + 1, buf, s => by
    have ih := srel_writeAllLoop hw acc fuel
    unfold GW.writeAllLoop
    with_reducible repeat' (first | exact ih _ _ | exact srel_write L hw _ _ _ | srel_step L)

variable {acc₁ acc₂ : Bytes → Nat}
  (hwd : ∀ buf s, L.S (GW.writeData acc₁ buf s : m₁ _) (GW.writeData acc₂ buf s : m₂ _))
include hwd

theorem srel_startFileAligned (ext : WExt) (name : Bytes) (o : FileOptions) (a : UInt16) (s : WState) :
    L.S (GW.startFileAligned acc₁ ext name o a s : m₁ _) (GW.startFileAligned acc₂ ext name o a s : m₂ _) := by
  unfold GW.startFileAligned
  with_reducible repeat' first
    | exact srel_startFileWithExtraData L _ _ _ _ | exact hwd _ _
    | exact srel_endLocalStartCentral L _ _ | exact srel_endExtraData L _ _ | srel_step L

theorem srel_addSymlink (ext : WExt) (name target : Bytes) (o : FileOptions) (s : WState) :
    L.S (GW.addSymlink acc₁ ext name target o s : m₁ _) (GW.addSymlink acc₂ ext name target o s : m₂ _) := by
  unfold GW.addSymlink
  with_reducible repeat' (first | exact srel_startEntry L _ _ _ _ _ | exact hwd _ _ | srel_step L)

theorem srel_rawCopy (ext : WExt) (src : FileData) (raw name : Bytes) (s : WState) :
    L.S (GW.rawCopy acc₁ ext src raw name s : m₁ _) (GW.rawCopy acc₂ ext src raw name s : m₂ _) := by
  unfold GW.rawCopy
  with_reducible repeat' (first | exact srel_startEntry L _ _ _ _ _ | exact hwd _ _ | srel_step L)

end GW

/-! ### `Drop`, which discards what `finalize` and the encoder's last write answer: only for a relation closed under `>>=` -/

namespace GW
variable {m₁ m₂ : Type → Type} [WriterIO m₁] [WriterIO m₂] (L : WriterRel₀ m₁ m₂)

theorem rel_dropInner (ext : WExt) (s : WState) :
    L.R (GW.dropInner ext s : m₁ _) (GW.dropInner ext s : m₂ _) := by
  unfold GW.dropInner
  split
  · exact L.ite (L.bind (L.attempt (L.writeAll _)) fun _ => L.pure _) (L.pure _)
  · exact L.pure _

theorem rel_dropWriter (ext : WExt) (s : WState) :
    L.R (GW.dropWriter ext s : m₁ _) (GW.dropWriter ext s : m₂ _) := by
  unfold GW.dropWriter
  exact L.ite (L.pure _) (L.bind (srel_finalize L.stepRel ext s) fun _ => rel_dropInner L ext _)

end GW
end ZipVerif.Model
