import ZipVerif.Lemmas.ParseExtra
import ZipVerif.Spec.Zip
/- What a 32-bit size/offset slot of a header holds (`min32_eq`: the writer's `min(x, THR) as u32` is the
specification's "marker or low half"; `slot_spec`: what the reader finds there), and with it, for C08: the central
ZIP64 extended-information record written by `write_central_zip64_extra_field` is read back exactly by
`parse_extra_field`. -/

namespace ZipVerif.WL
open ZipVerif ZipVerif.Model ZipVerif.Spec.Zip

theorem min32_eq (x : UInt64) :
    min32 x = if x ≥ (0xFFFFFFFF : UInt64) then (0xFFFFFFFF : UInt32) else lo32 x := by
  unfold min32 lo32
  by_cases h : x ≥ (0xFFFFFFFF : UInt64)
  · rw [if_pos h]
    by_cases h2 : x ≤ ZIP64_BYTES_THR
    · rw [if_pos h2]
      have : x = 0xFFFFFFFF := UInt64.le_antisymm h2 h
      rw [this]; rfl
    · rw [if_neg h2]; rfl
  · rw [if_neg h]
    have h2 : x ≤ ZIP64_BYTES_THR := by
      have := UInt64.not_le.mp h
      exact UInt64.le_of_lt this
    rw [if_pos h2]

end ZipVerif.WL

namespace ZipVerif.Model
open ZipVerif ZipVerif.Spec.Zip

theorem lo32_small {v : UInt64} (h : ¬ v ≥ 0xFFFFFFFF) :
    (lo32 v).toUInt64 = v ∧ ((lo32 v).toUInt64 == ZIP64_BYTES_THR) = false := by
  have hv : v.toNat < 4294967295 := by
    have : ¬ (0xFFFFFFFF : UInt64).toNat ≤ v.toNat := fun h' => h (UInt64.le_iff_toNat_le.mpr h')
    have e : (0xFFFFFFFF : UInt64).toNat = 4294967295 := by decide
    omega
  have e1 : (lo32 v).toUInt64 = v := by
    apply UInt64.toNat_inj.mp
    rw [lo32, UInt32.toNat_toUInt64, UInt64.toNat_toUInt32]
    omega
  refine ⟨e1, ?_⟩
  rw [e1]
  apply beq_false_of_ne
  intro h2
  rw [h2] at hv
  have e : ZIP64_BYTES_THR.toNat = 4294967295 := by decide
  omega

/-- The 32-bit slot `s` of a field with real value `v` that goes through the ZIP64 record when forced or
`v ≥ 0xFFFFFFFF`: the slot holds the marker exactly then, and the real value otherwise. -/
theorem slot_spec {s v : UInt64} {z : Bool} (forced : Bool) (hz : z = (forced || decide (v ≥ 0xFFFFFFFF)))
    (hs : s = (if z then (0xFFFFFFFF : UInt32) else lo32 v).toUInt64) :
    (s == ZIP64_BYTES_THR) = z ∧ (if z then v else s) = v := by
  subst hs
  cases z with
  | true => exact ⟨rfl, rfl⟩
  | false =>
    have hv : ¬ v ≥ 0xFFFFFFFF := fun h => by simp [h] at hz
    simpa using (lo32_small hv).symm

theorem min32_toUInt64_of_lt {x : UInt64} (h : ¬ x ≥ ZIP64_BYTES_THR) : (min32 x).toUInt64 = x := by
  rw [WL.min32_eq, if_neg (show ¬ x ≥ (0xFFFFFFFF : UInt64) from h)]; exact (lo32_small h).1

theorem min32_toUInt64_of_ge {x : UInt64} (h : x ≥ ZIP64_BYTES_THR) :
    (min32 x).toUInt64 = ZIP64_BYTES_THR := by
  rw [WL.min32_eq, if_pos (show x ≥ (0xFFFFFFFF : UInt64) from h)]; rfl

theorem min32_eq_thr_iff (x : UInt64) : ((min32 x).toUInt64 == ZIP64_BYTES_THR) = decide (x ≥ ZIP64_BYTES_THR) :=
  (slot_spec (v := x) false (Bool.false_or _).symm
    (congrArg _ ((WL.min32_eq x).trans (by simp only [decide_eq_true_eq])))).1

end ZipVerif.Model

namespace ZipVerif.Model
open ZipVerif

/-- The writer emits a ZIP64 record in the central header exactly when one of the three values does not
fit below the marker. -/
theorem centralZip64Bytes_ne_nil_iff (f : FileData) :
    centralZip64Bytes f ≠ [] ↔
      (f.uncompressedSize ≥ ZIP64_BYTES_THR ∨ f.compressedSize ≥ ZIP64_BYTES_THR ∨
        f.headerStart ≥ ZIP64_BYTES_THR) := by
  unfold centralZip64Bytes
  by_cases hu : f.uncompressedSize ≥ ZIP64_BYTES_THR <;>
  by_cases hc : f.compressedSize ≥ ZIP64_BYTES_THR <;>
  by_cases hh : f.headerStart ≥ ZIP64_BYTES_THR <;>
  simp [hu, hc, hh, le16]

theorem centralZip64Bytes_length (f : FileData) : (centralZip64Bytes f).length ≤ 28 := by
  unfold centralZip64Bytes
  dsimp only
  have h1 : ∀ (c : Prop) [Decidable c] (v : UInt64), (if c then le64 v else []).length ≤ 8 := by
    intro c _ v; split <;> simp
  have a := h1 (f.uncompressedSize ≥ ZIP64_BYTES_THR) f.uncompressedSize
  have b := h1 (f.compressedSize ≥ ZIP64_BYTES_THR) f.compressedSize
  have c := h1 (f.headerStart ≥ ZIP64_BYTES_THR) f.headerStart
  by_cases h0 : ((if f.uncompressedSize ≥ ZIP64_BYTES_THR then 8 else 0) + (if f.compressedSize ≥ ZIP64_BYTES_THR then 8 else 0) + (if f.headerStart ≥ ZIP64_BYTES_THR then 8 else 0)) = 0
  · rw [if_pos h0]; simp
  · rw [if_neg h0]
    simp only [List.length_append, le16_length]
    omega

/-- What the central-header parser holds after the fixed 46 bytes and before the extra field. -/
def f32 (f : FileData) : FileData :=
  { f with uncompressedSize := (min32 f.uncompressedSize).toUInt64,
           compressedSize := (min32 f.compressedSize).toUInt64,
           headerStart := (min32 f.headerStart).toUInt64,
           largeFile := false }

/-- What it holds after the ZIP64 record has been parsed. -/
def f64 (f : FileData) : FileData :=
  { f with largeFile := decide (f.uncompressedSize ≥ ZIP64_BYTES_THR) || decide (f.compressedSize ≥ ZIP64_BYTES_THR) }

/-- The `0x0001` branch of `parse_extra_field` on a record holding exactly the fields whose 32-bit
value is the marker, in the fixed order. -/
theorem parse_zip64_record (f0 : FileData) (bu bc bh : Bool) (u c h : UInt64) (rest : Bytes)
    (fuel : Nat)
    (hu : (f0.uncompressedSize == ZIP64_BYTES_THR) = bu)
    (hc : (f0.compressedSize == ZIP64_BYTES_THR) = bc)
    (hh : (f0.headerStart == ZIP64_BYTES_THR) = bh) :
    parseExtraField (fuel + 1) f0
      (le16 0x0001 ++ le16 (UInt16.ofNat ((if bu then 8 else 0) + (if bc then 8 else 0) + (if bh then 8 else 0))) ++
        (if bu then le64 u else []) ++ (if bc then le64 c else []) ++ (if bh then le64 h else []) ++ rest) =
    parseExtraField fuel
      { f0 with largeFile := f0.largeFile || bu || bc,
                uncompressedSize := if bu then u else f0.uncompressedSize,
                compressedSize := if bc then c else f0.compressedSize,
                headerStart := if bh then h else f0.headerStart } rest := by
  have h8 : ∀ b : Bool, (if b then 8 else 0) ≤ 8 := fun b => by cases b <;> decide
  have := parseExtraField_z64 f0 u c h [] rest fuel
    (UInt16.ofNat ((if bu then 8 else 0) + (if bc then 8 else 0) + (if bh then 8 else 0))) bu bc bh hu hc hh
    (by rw [UInt16.toNat_ofNat']; have := h8 bu; have := h8 bc; have := h8 bh; simp only [List.length_nil]; omega)
  simpa only [List.append_assoc, List.nil_append] using this

/-- **Central ZIP64 record round trip**: the record `write_central_zip64_extra_field` emits for `f`,
followed by any further extra data, is parsed back to exactly `f`'s 64-bit values, for every `UInt64`
value of the three fields (including exactly 0xFFFFFFFF and either side). -/
theorem parse_central_zip64 (f : FileData) (rest : Bytes) (fuel : Nat) :
    parseExtraField (fuel + 1) (f32 f) (centralZip64Bytes f ++ rest) =
      if centralZip64Bytes f = [] then parseExtraField (fuel + 1) (f64 f) rest
      else parseExtraField fuel (f64 f) rest := by
  have eu := min32_eq_thr_iff f.uncompressedSize
  have ec := min32_eq_thr_iff f.compressedSize
  have eh := min32_eq_thr_iff f.headerStart
  by_cases hz : (decide (f.uncompressedSize ≥ ZIP64_BYTES_THR) || decide (f.compressedSize ≥ ZIP64_BYTES_THR) ||
      decide (f.headerStart ≥ ZIP64_BYTES_THR)) = false
  · -- no field needs ZIP64: nothing is written, and the 32-bit fields hold the values
    simp only [Bool.or_eq_false_iff, decide_eq_false_iff_not] at hz
    obtain ⟨⟨hu, hc⟩, hh⟩ := hz
    have hzb : centralZip64Bytes f = [] := Decidable.not_not.mp fun hne =>
      ((centralZip64Bytes_ne_nil_iff f).mp hne).elim hu (·.elim hc hh)
    rw [hzb, if_pos rfl, List.nil_append]
    congr 1
    simp [f32, f64, min32_toUInt64_of_lt hu, min32_toUInt64_of_lt hc, min32_toUInt64_of_lt hh, hu, hc]
  · have hzb : centralZip64Bytes f ≠ [] := by
      simp only [Bool.not_eq_false, Bool.or_eq_true, decide_eq_true_eq] at hz
      exact (centralZip64Bytes_ne_nil_iff f).mpr (hz.elim (·.elim Or.inl (Or.inr ∘ Or.inl)) (Or.inr ∘ Or.inr))
    rw [if_neg hzb]
    have key := parse_zip64_record (f32 f) (decide (f.uncompressedSize ≥ ZIP64_BYTES_THR))
      (decide (f.compressedSize ≥ ZIP64_BYTES_THR)) (decide (f.headerStart ≥ ZIP64_BYTES_THR))
      f.uncompressedSize f.compressedSize f.headerStart rest fuel eu ec eh
    have hbytes : centralZip64Bytes f ++ rest =
        le16 0x0001 ++ le16 (UInt16.ofNat ((if decide (f.uncompressedSize ≥ ZIP64_BYTES_THR) then 8 else 0) +
          (if decide (f.compressedSize ≥ ZIP64_BYTES_THR) then 8 else 0) +
          (if decide (f.headerStart ≥ ZIP64_BYTES_THR) then 8 else 0))) ++
        (if decide (f.uncompressedSize ≥ ZIP64_BYTES_THR) then le64 f.uncompressedSize else []) ++
        (if decide (f.compressedSize ≥ ZIP64_BYTES_THR) then le64 f.compressedSize else []) ++
        (if decide (f.headerStart ≥ ZIP64_BYTES_THR) then le64 f.headerStart else []) ++ rest := by
      unfold centralZip64Bytes at hzb ⊢
      simp only [decide_eq_true_eq] at hzb ⊢
      generalize (if f.uncompressedSize ≥ ZIP64_BYTES_THR then 8 else 0) +
        (if f.compressedSize ≥ ZIP64_BYTES_THR then 8 else 0) +
        (if f.headerStart ≥ ZIP64_BYTES_THR then 8 else 0) = sz at hzb ⊢
      cases sz with
      | zero => exact absurd (if_pos rfl) hzb
      | succ k => rw [if_neg (Nat.succ_ne_zero k)]
    rw [hbytes, key]
    congr 1
    have hre : ∀ x : UInt64, (if decide (x ≥ ZIP64_BYTES_THR) = true then x else (min32 x).toUInt64) = x := by
      intro x
      by_cases h : x ≥ ZIP64_BYTES_THR
      · rw [if_pos (decide_eq_true h)]
      · rw [if_neg (by simpa using h), min32_toUInt64_of_lt h]
    simp only [f32, f64, hre, Bool.false_or]

end ZipVerif.Model
