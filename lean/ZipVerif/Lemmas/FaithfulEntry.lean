import ZipVerif.Lemmas.FaithfulWalk
/-
Faithfulness: one entry.  Placing an entry of a consistent archive never fails and equals
`putEntry`; `PutOK` says what `putEntry` does to the tree.  (Applying the modes: Lemmas/FaithfulModes.lean.)
-/

namespace ZipVerif.Model.Extract
open ZipVerif ZipVerif.Spec.Paths ZipVerif.Spec.FS ZipVerif.Spec.Tree ZipVerif.Model.Paths

/-! ### which kind of node the archive wants where -/

def DirAt (es : List EntryView) (r : Path) : Prop := r = [] ∨ ∃ e ∈ es, r ∈ dirPaths e
def FileAt (es : List EntryView) (r : Path) : Prop := ∃ e ∈ es, filePath e = some r

/-- Everything bound below the target has the kind the archive wants there. -/
def Kinds (root : Path) (es : List EntryView) (fs : FS) : Prop :=
  ∀ r n, fs.lookup (root ++ r) = some n →
    match n with
    | .dir _ => DirAt es r
    | .file _ _ => FileAt es r

theorem mem_positionsR {rr : List Comp} {r : Path} :
    r ∈ positionsR rr ↔ ∃ t, t <:+ rr ∧ r = resolve t.reverse := by
  induction rr with
  | nil => simp [positionsR, resolve, resolveFrom]
  | cons x up ih =>
    simp only [positionsR, List.mem_cons, ih, List.suffix_cons_iff]
    constructor
    · rintro (rfl | ⟨t, ht, rfl⟩)
      · exact ⟨_, Or.inl rfl, rfl⟩
      · exact ⟨t, Or.inr ht, rfl⟩
    · rintro ⟨t, rfl | ht, rfl⟩
      · exact Or.inl rfl
      · exact Or.inr ⟨t, ht, rfl⟩

theorem Kinds.clear {root : Path} {es : List EntryView} {fs : FS} (hk : Kinds root es fs)
    (hDF : ∀ r, DirAt es r → FileAt es r → False) {rr : List Comp}
    (hs : SafeR rr) (hd : ∀ t, t <:+ rr → DirAt es (resolve t.reverse)) :
    Clear fs root rr := by
  intro t ht b m hl
  rw [resolveFrom_root_safe root (hs.suffix ht)] at hl
  exact hDF _ (hd t ht) (hk _ _ hl)

theorem Kinds.set {root : Path} {es : List EntryView} {fs : FS} (hk : Kinds root es fs) {r : Path} {n : Node}
    (hn : match n with
      | .dir _ => DirAt es r
      | .file _ _ => FileAt es r) : Kinds root es (fs.set (root ++ r) n) := by
  intro r2 n2 h2
  rw [lookup_set_append] at h2
  split at h2
  · cases h2; next e => exact e ▸ hn
  · exact hk r2 n2 h2

theorem Kinds.ens {root : Path} {es : List EntryView} {fs fs' : FS} (hk : Kinds root es fs)
    {rr : List Comp} (hf : EnsFrame fs fs' root rr) (hs : SafeR rr)
    (hd : ∀ t, t <:+ rr → DirAt es (resolve t.reverse)) : Kinds root es fs' := by
  intro r n h
  rcases hf (root ++ r) with e | ⟨_, ⟨t, ht, hq⟩, m, hm⟩
  · rw [e] at h; exact hk r n h
  · rw [hm] at h; cases h
    rw [resolveFrom_root_safe root (hs.suffix ht)] at hq
    have := List.append_cancel_left hq
    subst this
    exact hd t ht

/-! ### growth: directories stay (searchable) directories, files stay files -/

def Grows (c : Cfg) (fs fs' : FS) : Prop :=
  Keeps c fs fs' ∧ ∀ q b m, fs.lookup q = some (.file b m) → ∃ b' m', fs'.lookup q = some (.file b' m')

theorem Grows.refl (c : Cfg) (fs : FS) : Grows c fs fs := ⟨Keeps.refl c fs, fun _ b m h => ⟨b, m, h⟩⟩

theorem Grows.trans {c : Cfg} {a b d : FS} (h1 : Grows c a b) (h2 : Grows c b d) : Grows c a d :=
  ⟨h1.1.trans h2.1, fun q b0 m0 h => by
    obtain ⟨b1, m1, h'⟩ := h1.2 q b0 m0 h
    exact h2.2 q b1 m1 h'⟩

theorem grows_of_ens {c : Cfg} {fs fs' : FS} {root : Path} {rr : List Comp} (hk : Keeps c fs fs')
    (hf : EnsFrame fs fs' root rr) : Grows c fs fs' :=
  ⟨hk, fun _ b m h => ⟨b, m, hf.lookup h⟩⟩

theorem grows_set_file {c : Cfg} {fs : FS} {p : Path} (b : Bytes) (m : Nat)
    (h : ∀ m0, fs.lookup p ≠ some (.dir m0)) : Grows c fs (fs.set p (.file b m)) := by
  refine ⟨keeps_set_nondir _ h, fun q b0 m0 hq => ?_⟩
  by_cases e : q = p
  · subst e; exact ⟨b, m, lookup_set_self _ _ _⟩
  · exact ⟨b0, m0, by rw [lookup_set_ne _ _ e]; exact hq⟩

theorem grows_set_dir {c : Cfg} {fs : FS} {p : Path} {m0 : Nat} (m : Nat)
    (hold : fs.lookup p = some (.dir m0)) (hb : c.priv = true ∨ hasBits m 0o100 = true) :
    Grows c fs (fs.set p (.dir m)) := by
  refine ⟨keeps_set_dir m hb, fun q b1 m1 hq => ?_⟩
  have e : q ≠ p := fun e => by subst e; rw [hold] at hq; cases hq
  exact ⟨b1, m1, by rw [lookup_set_ne _ _ e]; exact hq⟩

/-! ### an entry that has been placed -/

/-- The path of the entry resolves in `fs`: to a directory for a directory name, to a regular file
in an existing directory otherwise. -/
def Placed (c : Cfg) (root : Path) (fs : FS) (n : Name) : Prop :=
  if isDirName n then ∃ p, walkR c fs ((relComps n).reverse ++ rootRev root) = .ok p
  else ∃ s up d b m, (relComps n).reverse = .normal s :: up ∧ walkR c fs (up ++ rootRev root) = .ok d ∧
    fs.lookup (d ++ [s]) = some (.file b m)

theorem placed_dir {c : Cfg} {root : Path} {fs : FS} {n : Name} (hd : isDirName n = true) :
    Placed c root fs n ↔ ∃ p, walkR c fs ((relComps n).reverse ++ rootRev root) = .ok p := by
  simp [Placed, hd]

theorem placed_file {c : Cfg} {root : Path} {fs : FS} {n : Name} (hd : isDirName n = false) :
    Placed c root fs n ↔ ∃ s up d b m, (relComps n).reverse = .normal s :: up ∧
      walkR c fs (up ++ rootRev root) = .ok d ∧ fs.lookup (d ++ [s]) = some (.file b m) := by
  simp [Placed, hd]

theorem Placed.grows {c : Cfg} {root : Path} {fs fs' : FS} {n : Name} (h : Placed c root fs n)
    (hg : Grows c fs fs') : Placed c root fs' n := by
  cases hd : isDirName n with
  | true =>
    obtain ⟨p, hp⟩ := (placed_dir hd).mp h
    exact (placed_dir hd).mpr ⟨p, walkR_keeps hg.1 hp⟩
  | false =>
    obtain ⟨s, up, d, b, m, h1, h2, h3⟩ := (placed_file hd).mp h
    obtain ⟨b', m', h3'⟩ := hg.2 _ b m h3
    exact (placed_file hd).mpr ⟨s, up, d, b', m', h1, walkR_keeps hg.1 h2, h3'⟩

/-! ### what `Consistent` says about one entry -/

structure EntryOK (c : Cfg) (es : List EntryView) (e : EntryView) : Prop where
  mem : e ∈ es
  enclosed : (enclosedName e.name).isSome = true
  openOk : e.openErr = none
  readOk : e.readErr = none
  file : isDirName e.name = false → tailDot e.name = false ∧ lastNormal (relComps e.name) = true
  dots : isDirName e.name = true → tailDot e.name = true → lastParentOrEmpty (relComps e.name) = true

theorem EntryOK.safe {c : Cfg} {es : List EntryView} {e : EntryView} (h : EntryOK c es e) :
    SafeR (relComps e.name).reverse := by
  exact safe_of_enclosed h.enclosed

/-- Where `chmod` and `putEntry` look for the entry: the target directory followed by the entry's path. -/
theorem EntryOK.target {c : Cfg} {es : List EntryView} {e : EntryView} (h : EntryOK c es e) (root : Path) :
    resolveFrom root (relComps e.name) = root ++ target e := by
  simpa [Spec.Tree.target] using resolveFrom_root_safe root h.safe

theorem lastNormal_reverse {cs : List Comp} (h : lastNormal cs = true) :
    ∃ s up, cs.reverse = .normal s :: up := by
  unfold lastNormal at h
  rw [List.getLast?_eq_head?_reverse] at h
  cases hr : cs.reverse with
  | nil => rw [hr] at h; simp at h
  | cons x up =>
    rw [hr] at h
    cases x with
    | normal s => exact ⟨s, up, rfl⟩
    | _ => simp at h

theorem lastParentOrEmpty_reverse {cs : List Comp} (h : lastParentOrEmpty cs = true) :
    cs.reverse = [] ∨ ∃ up, cs.reverse = .parentDir :: up := by
  unfold lastParentOrEmpty at h
  rw [List.getLast?_eq_head?_reverse] at h
  cases hr : cs.reverse with
  | nil => exact Or.inl rfl
  | cons x up =>
    rw [hr] at h
    cases x with
    | parentDir => exact Or.inr ⟨up, rfl⟩
    | _ => simp at h

theorem endsSlash_false {n : Name} (h1 : isDirName n = false) (h2 : n ≠ []) : endsSlash n = false := by
  unfold isDirName at h1
  unfold endsSlash
  cases hl : n.getLast? with
  | none => exact absurd (List.getLast?_eq_none_iff.mp hl) h2
  | some ch =>
    rw [hl] at h1
    simp only [beq_eq_false_iff_ne, ne_eq, Option.some.injEq] at h1
    simpa using h1

theorem relComps_nil : relComps [] = [] := by simp [relComps, components]

theorem EntryOK.fileName {c : Cfg} {es : List EntryView} {e : EntryView} (he : EntryOK c es e) :
    isDirName e.name = false → tailDot e.name = false ∧ e.name ≠ [] := by
  intro hd
  obtain ⟨h1, h2⟩ := he.file hd
  refine ⟨h1, ?_⟩
  intro e0
  rw [e0, relComps_nil] at h2; simp [lastNormal] at h2

/-! ### what placing one entry does to the tree -/

theorem dirPaths_dir {e : EntryView} (hd : isDirName e.name = true) :
    dirPaths e = positionsR (relComps e.name).reverse := by
  simp [dirPaths, dirPartR, hd]

theorem dirPaths_file {e : EntryView} (hd : isDirName e.name = false) {s : Name} {up : List Comp}
    (hr : (relComps e.name).reverse = .normal s :: up) : dirPaths e = positionsR up := by
  simp [dirPaths, dirPartR, hd, hr]

theorem dirAt_of_dirEntry {es : List EntryView} {e : EntryView} (hm : e ∈ es) (hd : isDirName e.name = true)
    (t : List Comp) (ht : t <:+ (relComps e.name).reverse) : DirAt es (resolve t.reverse) :=
  Or.inr ⟨e, hm, by rw [dirPaths_dir hd]; exact mem_positionsR.mpr ⟨t, ht, rfl⟩⟩

theorem dirAt_of_fileEntry {es : List EntryView} {e : EntryView} (hm : e ∈ es) (hd : isDirName e.name = false)
    {s : Name} {up : List Comp} (hr : (relComps e.name).reverse = .normal s :: up)
    (t : List Comp) (ht : t <:+ up) : DirAt es (resolve t.reverse) :=
  Or.inr ⟨e, hm, by rw [dirPaths_file hd hr]; exact mem_positionsR.mpr ⟨t, ht, rfl⟩⟩

theorem walk_positions {c : Cfg} {root : Path} {fs : FS} (hi : Inv c root fs) {rr : List Comp} {p : Path}
    (hs : SafeR rr) (h : walkR c fs (rr ++ rootRev root) = .ok p) :
    ∀ t, t <:+ rr → ∃ m, fs.lookup (root ++ resolve t.reverse) = some (.dir m) := by
  induction rr generalizing p with
  | nil =>
    intro t ht
    obtain rfl := List.suffix_nil.mp ht
    simpa [resolve, resolveFrom] using hi.rootDir
  | cons x up ih =>
    intro t ht
    rcases List.suffix_cons_iff.mp ht with rfl | ht
    · obtain ⟨hp, m, hm⟩ := walk_end hi hs h
      exact ⟨m, hp ▸ hm⟩
    · rw [List.cons_append] at h
      obtain ⟨cur, hc, _⟩ := walkR_cons_inv h
      exact ih (hs.tail) hc t ht

/-- Kind and content of the node are what the entry describes (mode aside). -/
def ContentIs (e : EntryView) (n : Node) : Prop :=
  if isDirName e.name then ∃ m, n = .dir m else ∃ m, n = .file e.data m

theorem contentIs_iff {e : EntryView} {n : Node} :
    ContentIs e n ↔ ∃ m, n = if isDirName e.name then .dir m else .file e.data m := by
  cases hd : isDirName e.name <;> simp [ContentIs, hd]

/-- What `putEntry` (resulting in `fs'`) does to the tree: the invariants are kept; the entry's path resolves;
everything bound stays as it is, except the file the entry (re)writes; the entry's node is there, and so is
every directory on the way. -/
structure PutOK (c : Cfg) (root : Path) (es : List EntryView) (e : EntryView) (fs fs' : FS) : Prop where
  inv : Inv c root fs'
  kinds : Kinds root es fs'
  grows : Grows c fs fs'
  placed : Placed c root fs' e.name
  frame : ∀ q n, fs.lookup q = some n → (isDirName e.name = false → q ≠ root ++ target e) → fs'.lookup q = some n
  content : ∃ n, fs'.lookup (root ++ target e) = some n ∧ ContentIs e n
  dirs : ∀ r ∈ dirPaths e, ∃ m, fs'.lookup (root ++ r) = some (.dir m)

/-! ### placing a directory entry -/

theorem placeEntry_dir {c : Cfg} {root : Path} {es : List EntryView} {fs : FS} {e : EntryView}
    (hi : Inv c root fs) (hk : Kinds root es fs) (hpc : PermCfg c)
    (hDF : ∀ r, DirAt es r → FileAt es r → False) (he : EntryOK c es e)
    (hd : isDirName e.name = true) :
    (∀ chk, placeEntry c chk root e fs = (putEntry c root e fs, none)) ∧
      PutOK c root es e fs (putEntry c root e fs) := by
  have hs := he.safe
  have hdirs := dirAt_of_dirEntry he.mem hd
  have hclear : Clear fs root (relComps e.name).reverse := hk.clear hDF hs hdirs
  obtain ⟨hw, hi', hk', hf'⟩ := ensureR_post hi hpc hs hclear
  obtain ⟨hp, m, hm⟩ := walk_end hi' hs hw
  have hput : putEntry c root e fs = (ensureR c root (relComps e.name).reverse fs).1 := by
    simp [putEntry, hd]
  have hcda : createDirAll c (joinedR root e.name) (tailDot e.name) fs =
      ((ensureR c root (relComps e.name).reverse fs).1, none) := by
    rw [joinedR_eq]
    cases hdot : tailDot e.name with
    | false => exact cda_eq hi hpc hs hclear
    | true => exact cda_eq_dot hi hpc hs hclear (lastParentOrEmpty_reverse (he.dots hd hdot))
  rw [hput]
  refine ⟨fun chk => by simp [placeEntry, hd, hcda, liftFs], hi', hk.ens hf' hs hdirs, grows_of_ens hk' hf',
    (placed_dir hd).mpr ⟨_, hw⟩, fun q n hq _ => hf'.lookup hq, ?_, fun r hr => ?_⟩
  · rw [hp, List.reverse_reverse] at hm
    exact ⟨_, hm, contentIs_iff.mpr ⟨m, by rw [if_pos hd]⟩⟩
  · rw [dirPaths_dir hd] at hr
    obtain ⟨t, ht, rfl⟩ := mem_positionsR.mp hr
    exact walk_positions hi' hs hw t ht

/-! ### placing a file entry -/

theorem pathExists_walk {c : Cfg} {root : Path} {fs : FS} (hi : Inv c root fs) {up : List Comp}
    (hs : SafeR up) (hclear : Clear fs root up)
    (h : pathExists c fs (up ++ rootRev root) = true) : ∃ cur, walkR c fs (up ++ rootRev root) = .ok cur := by
  cases up with
  | nil => exact ⟨root, hi.chain⟩
  | cons x up1 =>
    cases hw1 : walkR c fs (up1 ++ rootRev root) with
    | error e1 => simp [pathExists, stat, locateR_cons_err hw1] at h
    | ok d =>
      rcases walk_last hi hs hw1 (hclear _ (List.suffix_refl _)) with hp | ⟨s, rfl, hl⟩
      · exact hp
      · simp [pathExists, stat, locateR_normal hw1 (walk_end_search hi hs.tail hw1).1, hl] at h

theorem createFile_eq {c : Cfg} {fs : FS} {s : Name} {rest : List Comp} {d : Path}
    (hw : walkR c fs rest = .ok d) (hsearch : canSearch c fs d = true) (hmod : canModifyDir c fs d = true)
    (hnd : ∀ m, fs.lookup (d ++ [s]) ≠ some (.dir m))
    (hwr : ∀ b m, fs.lookup (d ++ [s]) = some (.file b m) → canWriteFile c m = true) :
    createFile c fs (.normal s :: rest) false =
      .ok (fs.set (d ++ [s]) (.file [] (openedFileMode c (fs.lookup (d ++ [s])))), d ++ [s]) := by
  have hloc := locateR_normal (s := s) hw hsearch
  cases hl : fs.lookup (d ++ [s]) with
  | none => simp [createFile, hloc, hl, hmod, openedFileMode]
  | some n =>
    cases n with
    | dir m => exact absurd hl (hnd m)
    | file b m => simp [createFile, hloc, hl, hwr b m hl, openedFileMode]

theorem placeEntry_file {c : Cfg} {root : Path} {es : List EntryView} {fs : FS} {e : EntryView}
    (hi : Inv c root fs) (hk : Kinds root es fs) (hpc : PermCfg c)
    (hDF : ∀ r, DirAt es r → FileAt es r → False) (he : EntryOK c es e)
    (hd : isDirName e.name = false) :
    (∀ chk, placeEntry c chk root e fs = (putEntry c root e fs, none)) ∧
      PutOK c root es e fs (putEntry c root e fs) := by
  have hs := he.safe
  obtain ⟨hdot, hln⟩ := he.file hd
  obtain ⟨s, up, hr⟩ := lastNormal_reverse hln
  rw [hr] at hs
  have hs0 := hs.tail
  have hdirs := dirAt_of_fileEntry he.mem hd hr
  have hclear : Clear fs root up := hk.clear hDF hs0 hdirs
  obtain ⟨hw0, hi0, hk0, hf0⟩ := ensureR_post hi hpc hs0 hclear
  have hkinds0 : Kinds root es (ensureR c root up fs).1 := hk.ens hf0 hs0 hdirs
  obtain ⟨hcur0, m0, hm0⟩ := walk_end hi0 hs0 hw0
  obtain ⟨hsearch0, hmod0⟩ := walk_end_search hi0 hs0 hw0
  have hpositions := walk_positions hi0 hs0 hw0
  have hslash := endsSlash_false hd (he.fileName hd).2
  -- the file's relative path
  have hrf : target e = resolve up.reverse ++ [s] := by
    have : relComps e.name = (Comp.normal s :: up).reverse := by rw [← hr, List.reverse_reverse]
    rw [target, this, resolve_reverse_cons]; rfl
  have hfileAt : FileAt es (target e) := ⟨e, he.mem, by simp [filePath, hd, target]⟩
  generalize hr0 : ensureR c root up fs = r0 at hw0 hi0 hk0 hf0 hkinds0 hcur0 hm0 hsearch0 hmod0 hpositions
  have hp : r0.2 ++ [s] = root ++ target e := by rw [hcur0, List.append_assoc, hrf]
  have hnd : ∀ m, r0.1.lookup (r0.2 ++ [s]) ≠ some (.dir m) := fun m hl =>
    hDF _ (hkinds0 _ _ (hp ▸ hl)) hfileAt
  have hwr : ∀ b m, r0.1.lookup (r0.2 ++ [s]) = some (.file b m) → canWriteFile c m = true :=
    fun b m hl => hi0.write (hp ▸ hl)
  -- the parent directories
  have hpar : ∀ chk, ensureParent c chk (joinedR root e.name) fs = (r0.1, none) := by
    intro chk
    rw [joinedR_eq, hr, List.cons_append]
    simp only [ensureParent]
    split
    · next hc =>
      simp only [Bool.and_eq_true] at hc
      obtain ⟨cur, hcur⟩ := pathExists_walk hi hs0 hclear hc.2
      rw [← hr0, ensureR_noop hcur]
    · rw [cda_eq hi hpc hs0 hclear, hr0]
  -- the file
  have hcf := createFile_eq (s := s) hw0 hsearch0 hmod0 hnd hwr
  generalize hm' : openedFileMode c (r0.1.lookup (r0.2 ++ [s])) = m' at hcf
  have hput : putEntry c root e fs =
      (r0.1.set (r0.2 ++ [s]) (.file [] m')).set (r0.2 ++ [s]) (.file e.data m') := by
    simp only [putEntry, hd, Bool.false_eq_true, if_false, hr, hr0]
    rw [hm']
  have hok' : c.priv = true ∨ hasBits m' 0o200 = true := by
    cases hpv : c.priv with
    | true => exact Or.inl rfl
    | false =>
      right
      rw [← hm']
      unfold openedFileMode
      split
      · next b m hl =>
        rcases hi0.perm with hp' | hp'
        · rw [hpv] at hp'; cases hp'
        · have hl' : r0.1.lookup (root ++ target e) = some (.file b m) := hp ▸ hl
          exact nodeOK_dropPrivs hpv (hp' _ _ hl') []
      · rcases hpc with hpc | hpc
        · rw [hpv] at hpc; cases hpc
        · exact hpc.2
  have hg2 : Grows c r0.1 (r0.1.set (r0.2 ++ [s]) (.file [] m')) := grows_set_file _ _ hnd
  have hg3 : Grows c (r0.1.set (r0.2 ++ [s]) (.file [] m'))
      ((r0.1.set (r0.2 ++ [s]) (.file [] m')).set (r0.2 ++ [s]) (.file e.data m')) :=
    grows_set_file _ _ (by rw [lookup_set_self]; simp)
  rw [hput]
  refine ⟨fun chk => ?_, ?_, ?_, ((grows_of_ens hk0 hf0).trans hg2).trans hg3, ?_, fun q n hq hne => ?_,
    ⟨_, by rw [← hp]; exact lookup_set_self .., contentIs_iff.mpr ⟨m', by simp [hd]⟩⟩, fun r hrm => ?_⟩
  · simp only [placeEntry, hd, Bool.false_eq_true, if_false, hpar chk]
    rw [joinedR_eq, hr, List.cons_append, hdot, hslash]
    simp only [dotted, Bool.false_eq_true, if_false]
    rw [hcf]
    simp only [he.readOk, writeAt, lookup_set_self]
  · rw [hp] at hg2 hg3 ⊢
    have hi2 : Inv c root (r0.1.set (root ++ target e) (.file [] m')) :=
      hi0.set hg2.1 (fun _ => by rw [hrf, List.dropLast_concat, ← hcur0]; exact ⟨m0, hm0⟩) hok'
    exact hi2.set hg3.1 (fun h => by rw [lookup_set_self] at h; cases h) hok'
  · rw [hp]
    exact (hkinds0.set (n := .file [] m') hfileAt).set (n := .file e.data m') hfileAt
  · exact (placed_file hd).mpr
      ⟨s, up, r0.2, e.data, m', hr, walkR_keeps (hg2.trans hg3).1 hw0, lookup_set_self _ _ _⟩
  · have hne' := hp ▸ hne hd
    rw [lookup_set_ne _ _ hne', lookup_set_ne _ _ hne']
    exact hf0.lookup hq
  · rw [dirPaths_file hd hr] at hrm
    obtain ⟨t, ht, rfl⟩ := mem_positionsR.mp hrm
    obtain ⟨m, hm⟩ := hpositions t ht
    exact ((hg2.trans hg3).1 _ m hm).imp fun _ h => h.1

/-- Placing an entry of a consistent archive, by either extractor, never fails and leaves `putEntry`. -/
theorem placeEntry_eq {c : Cfg} {root : Path} {es : List EntryView} {fs : FS} {e : EntryView}
    (hi : Inv c root fs) (hk : Kinds root es fs) (hpc : PermCfg c)
    (hDF : ∀ r, DirAt es r → FileAt es r → False) (he : EntryOK c es e) :
    (∀ chk, placeEntry c chk root e fs = (putEntry c root e fs, none)) ∧
      PutOK c root es e fs (putEntry c root e fs) := by
  cases hd : isDirName e.name with
  | true => exact placeEntry_dir hi hk hpc hDF he hd
  | false => exact placeEntry_file hi hk hpc hDF he hd

end ZipVerif.Model.Extract
