import ZipVerif.Lemmas.AesReader
/-
`validate`, and runs of `read` calls.
-/

namespace ZipVerif.Model.Aes
open ZipVerif

/-- The reader `validate` hands out. -/
def initValid {σ} (s : σ) (L : Nat) (key hmacKey : Bytes) : Valid σ :=
  { inner := s, dataRemaining := L, key := key, ctr := CtrState.new, hmacKey := hmacKey, hmacMsg := [], finalized := false, ghostCt := [], ghostMac := none }

theorem initValid_inv (P : AesPrims) {σ} (s : σ) (L : Nat) (key hk : Bytes) :
    Inv P L (initValid s L key hk) := by
  refine ⟨by simp [initValid], ⟨Nat.le_refl _, by simp [initValid, CtrState.new]⟩, rfl, fun _ => ⟨rfl, rfl⟩, ?_, ?_, ?_⟩
  · intro h; cases h
  · intro h hL; simp only [initValid] at h; omega
  · intro c s h; cases h

theorem dataLength_eq_some {mode : AesMode} {c L : Nat} :
    dataLength mode c = some L ↔ mode.saltLength + 12 ≤ c ∧ L = c - (mode.saltLength + 12) := by
  unfold dataLength PWD_VERIFY_LENGTH AUTH_CODE_LENGTH
  rw [show 2 + 10 + mode.saltLength = mode.saltLength + 12 from Nat.add_comm 12 _]
  dsimp only
  split
  · next h => rw [Option.some.injEq]; exact ⟨fun e => ⟨h, e.symm⟩, fun e => e.2.symm⟩
  · next h => exact ⟨(fun h => nomatch h), fun e => absurd e.1 h⟩

theorem dataLength_eq_none {mode : AesMode} {c : Nat} : dataLength mode c = none ↔ c < mode.saltLength + 12 := by
  unfold dataLength PWD_VERIFY_LENGTH AUTH_CODE_LENGTH
  rw [show 2 + 10 + mode.saltLength = mode.saltLength + 12 from Nat.add_comm 12 _]
  dsimp only
  split
  · next h => exact ⟨(fun h => nomatch h), fun e => absurd h (Nat.not_le.mpr e)⟩
  · next h => exact ⟨fun _ => Nat.lt_of_not_le h, fun _ => rfl⟩

section
variable {σ : Type} (P : AesPrims) (S : Src σ) (mode : AesMode) (L : Nat) {s s1 s2 : σ} (pw : Bytes)
  {salt pvv : Bytes} (h1 : readExact S s mode.saltLength = (.ok salt, s1))
  (h2 : readExact S s1 PWD_VERIFY_LENGTH = (.ok pvv, s2))
include h1 h2

theorem validate_rejects (hne : pvv ≠ (P.pbkdf2 pw salt (2 * mode.keyLength + 2)).drop (2 * mode.keyLength)) :
    validate P S mode (some L) s pw = (.ok none, s2) := by
  unfold validate
  simp only [h1, h2]
  exact if_pos hne

/-- Salt and verifier read, the verifier is the derived one: the reader starts with `data_remaining = L`,
counter 1, empty HMAC, keys `dk[0..k]`, `dk[k..2k]`; the `GenericArray::from_slice` panic is unreachable. -/
theorem validate_accepts (hW : P.WF)
    (heq : pvv = (P.pbkdf2 pw salt (2 * mode.keyLength + 2)).drop (2 * mode.keyLength)) :
    validate P S mode (some L) s pw =
      (.ok (some (initValid s2 L ((P.pbkdf2 pw salt (2 * mode.keyLength + 2)).take mode.keyLength)
        (((P.pbkdf2 pw salt (2 * mode.keyLength + 2)).drop mode.keyLength).take mode.keyLength))), s2) := by
  unfold validate
  simp only [h1, h2]
  rw [if_neg (fun h => h heq), if_neg]
  · rfl
  · rw [List.length_take, hW.pbkdf2_len]
    exact not_not_intro (Nat.min_eq_left
      (Nat.le_trans (Nat.le_mul_of_pos_left _ (by decide)) (Nat.le_add_right _ 2)))

end

theorem validate_ok {σ} (P : AesPrims) (S : Src σ) (mode : AesMode) (dl : Option Nat) (s s' : σ)
    (pw : Bytes) (v : Valid σ) (h : validate P S mode dl s pw = (.ok (some v), s')) :
    ∃ L salt pvv s1, dl = some L ∧ readExact S s mode.saltLength = (.ok salt, s1) ∧
      readExact S s1 PWD_VERIFY_LENGTH = (.ok pvv, s') ∧
      pvv = (P.pbkdf2 pw salt (2 * mode.keyLength + 2)).drop (2 * mode.keyLength) ∧
      v = initValid s' L ((P.pbkdf2 pw salt (2 * mode.keyLength + 2)).take mode.keyLength)
            (((P.pbkdf2 pw salt (2 * mode.keyLength + 2)).drop mode.keyLength).take mode.keyLength) := by
  unfold validate at h
  cases dl with
  | none => cases h
  | some L =>
    dsimp only at h
    rcases h1 : readExact S s mode.saltLength with ⟨r1, s1⟩
    rw [h1] at h
    rcases r1 with salt | e | m
    rotate_left
    · cases h
    · cases h
    dsimp only at h
    rcases h2 : readExact S s1 PWD_VERIFY_LENGTH with ⟨r2, s2⟩
    rw [h2] at h
    rcases r2 with pvv | e | m
    rotate_left
    · cases h
    · cases h
    dsimp only at h
    by_cases hp : pvv ≠ (P.pbkdf2 pw salt (2 * mode.keyLength + PWD_VERIFY_LENGTH)).drop (2 * mode.keyLength + PWD_VERIFY_LENGTH - 2)
    · rw [if_pos hp] at h; cases h
    rw [if_neg hp] at h
    by_cases hk : ((P.pbkdf2 pw salt (2 * mode.keyLength + PWD_VERIFY_LENGTH)).take mode.keyLength).length ≠ mode.keyLength
    · rw [if_pos hk] at h; cases h
    rw [if_neg hk] at h
    cases h
    exact ⟨L, salt, pvv, s1, rfl, rfl, h2, Decidable.not_not.mp hp, rfl⟩

/-- Facts carried along a run of successful `read` calls that started at `validate`'s reader. -/
structure RunInv (P : AesPrims) (L : Nat) (key hk : Bytes) {σ} (v : Valid σ) (acc : Bytes) : Prop where
  inv : Inv P L v
  keyEq : v.key = key
  hkeyEq : v.hmacKey = hk
  crypt : cryptBytes P key CtrState.new v.ghostCt = .ok (acc, v.ctr)
  passed : v.finalized = true → ∃ c, v.ghostMac = some (c, c)

theorem RunInv.init (P : AesPrims) {σ} (s : σ) (L : Nat) (key hk : Bytes) :
    RunInv P L key hk (initValid s L key hk) [] :=
  ⟨initValid_inv P s L key hk, rfl, rfl, rfl, fun h => by cases h⟩

theorem RunInv.step (P : AesPrims) (hW : P.WF) {σ} (S : Src σ) {L : Nat} (hL : L < U64)
    {key hk : Bytes} {v v' : Valid σ} {acc out : Bytes} (n : Nat)
    (hR : RunInv P L key hk v acc) (h : Valid.read P S v n = (.ok out, v')) :
    RunInv P L key hk v' (acc ++ out) := by
  have hc := read_cases P hW S hL v hR.inv n
  have hI' : Inv P L v' := by simpa only [h] using hc.inv hR.inv
  rw [h] at hc
  -- the output grows by the decryption of the chunk the ciphertext grows by
  have chunk : ∀ {bs pt c}, Chunk P v bs pt c →
      cryptBytes P key CtrState.new (v.ghostCt ++ bs) = .ok (acc ++ pt, c) := fun hch => by
    rw [cryptBytes_append, hR.crypt, Out.bind_ok, ← hR.keyEq, hch.bytes]; rfl
  cases hc with
  | done => rw [List.append_nil]; exact hR
  | empty _ _ hfc =>
    cases hfc with
    | ok code s _ heq =>
      rw [List.append_nil]
      exact ⟨hI', hR.keyEq, hR.hkeyEq, hR.crypt, fun _ => ⟨code, by show some _ = some _; rw [heq]⟩⟩
  | mid bs s' _ c _ hlt _ _ hch =>
    exact ⟨hI', hR.keyEq, hR.hkeyEq, chunk hch, fun hf => absurd (hR.inv.fin hf) (Nat.ne_of_gt (Nat.lt_of_le_of_lt (Nat.zero_le _) hlt))⟩
  | last bs s' pt c _ _ _ _ hch hfc =>
    cases hfc with
    | ok code s _ heq =>
      exact ⟨hI', hR.keyEq, hR.hkeyEq, chunk hch, fun _ => ⟨code, by show some _ = some _; rw [heq]⟩⟩

/-- Once finalized, the code computed over all `L` ciphertext bytes was found equal to the stored one. -/
theorem RunInv.mac_of_fin {P : AesPrims} {L : Nat} {key hk : Bytes} {σ} {v : Valid σ} {acc : Bytes}
    (hR : RunInv P L key hk v acc) (hf : v.finalized = true) :
    v.dataRemaining = 0 ∧ v.ghostCt.length = L ∧
      v.ghostMac = some ((P.hmac hk v.ghostCt).take AUTH_CODE_LENGTH, (P.hmac hk v.ghostCt).take AUTH_CODE_LENGTH) := by
  obtain ⟨c, hc⟩ := hR.passed hf
  obtain ⟨hc1, _, _⟩ := hR.inv.mac c c hc
  have hlen := hR.inv.len
  have h0 := hR.inv.fin hf
  exact ⟨h0, by rw [← hlen, h0]; rfl, by rw [hc, hc1, hR.hkeyEq]⟩

theorem drain_preserves (P : AesPrims) {σ} (S : Src σ) (I : Valid σ → Bytes → Prop)
    (step : ∀ v acc n out v', I v acc → Valid.read P S v n = (.ok out, v') → I v' (acc ++ out)) :
    ∀ (bufs : List Nat) (v v1 : Valid σ) (acc out : Bytes), I v acc →
      drain P S bufs v acc = (.ok out, v1) → I v1 out := by
  intro bufs
  induction bufs with
  | nil =>
    intro v v1 acc out hI h
    cases h
    exact hI
  | cons n ns ih =>
    intro v v1 acc out hI h
    unfold drain at h
    cases hr : Valid.read P S v n with
    | mk r v' =>
    rw [hr] at h
    cases r with
    | ok o => exact ih _ _ _ _ (step _ _ _ _ _ hI hr) h
    | err e => cases h
    | panic m => cases h

theorem drain_runInv (P : AesPrims) (hW : P.WF) {σ} (S : Src σ) {L : Nat} (hL : L < U64)
    {key hk : Bytes} (bufs : List Nat) (v v1 : Valid σ) (acc out : Bytes) :
    RunInv P L key hk v acc → drain P S bufs v acc = (.ok out, v1) → RunInv P L key hk v1 out :=
  drain_preserves P S (RunInv P L key hk) (fun _ _ n _ _ hR h => hR.step P hW S hL n h) bufs v v1 acc out

/-- One `read` call from a state satisfying `Inv` does not panic when the inner reader keeps the `Read`
contract (the `finalized` assertion and the cipher's counter overflow are excluded by `Inv` alone: `read_cases`). -/
theorem read_no_panic (P : AesPrims) (hW : P.WF) {σ} (S : Src σ) (hC : S.Contract) {L : Nat}
    (hL : L < U64) (v : Valid σ) (hI : Inv P L v) (n : Nat) (m : String) :
    (Valid.read P S v n).1 ≠ .panic m := by
  intro h
  have hc := read_cases P hW S hL v hI n
  generalize Valid.read P S v n = r at h hc
  obtain ⟨o, v'⟩ := r
  obtain rfl : o = .panic m := h
  have fin : ∀ {v0 : Valid σ} {out}, ¬ FinishCase P S v0 out (.panic m, v') := fun hfc => by
    cases hfc with
    | panic _ s hre => exact readExact_no_panic S hC _ _ m (by rw [hre])
  cases hc with
  | empty _ _ hfc => exact fin hfc
  | over bs s' _ _ hrd hlt => have := hC _ _ _ _ hrd; omega
  | last _ _ _ _ _ _ _ _ _ hfc => exact fin hfc

end ZipVerif.Model.Aes
