import ZipVerif.Lemmas.WL2Shape
import ZipVerif.Lemmas.WLGood
/-
Level 2, ghost-level invariant: the entries the writer closes are readable and (up to the size
bounds) representable by construction — names are checked by `start_entry`, extra data by
`validate_extra_data`, methods by `switch_to`; an encrypted entry carries flag bit 0 (`Good2`, an instance of the
generic two-part invariant `Keeps2 I O` the file starts with).  Behind it, what closing an entry produces: the aligned
data start, the fields of the closed entry, the stored bytes of an encrypted one.
-/

namespace ZipVerif.WL
open ZipVerif ZipVerif.Model ZipVerif.Spec.Zip
open ZipVerif.Props.C12 (Call)

/-! ### Ghost-level invariants of Level 2: `I` of the closed part, `O` of the open entry -/

def Keeps2 (I : List Spec.Zip.Entry → Bytes → Prop) (O : Open2 → Prop) : Ghost2 → Prop
  | .idle done gap _ => I done gap
  | .opened done gap _ o => I done gap ∧ O o
  | .dead => True
  | .stuck .. => True
  | .lost => True

/-- `O` survives the moves of extra-data mode, and closing an entry in its data phase keeps `I`. -/
structure KeepSpec2 (ext : WExt) (I : List Spec.Zip.Entry → Bytes → Prop) (O : Open2 → Prop) : Prop where
  xmove : ∀ {o o'}, O o → XMove o o' → O o'
  finData : ∀ {done gap o es gap'}, I done gap → O o → o.phase = .data →
    o.finData ext done gap = .ok es gap' → I es gap'

section
variable {I : List Spec.Zip.Entry → Bytes → Prop} {O : Open2 → Prop} {ext : WExt}

theorem Keeps2.of_not_alive {g : Ghost2} (h : ¬ g.alive) : Keeps2 I O g := by
  cases g <;> first | trivial | exact absurd trivial h

theorem Keeps2.mono {O' : Open2 → Prop} (h : ∀ o, O o → O' o) {g : Ghost2} (hG : Keeps2 I O g) :
    Keeps2 I O' g := by
  cases g with
  | opened done gap c o => exact ⟨hG.1, h o hG.2⟩
  | _ => exact hG

/-- `finish_file` (with its implicit `end_extra_data`, one more move) keeps `I`. -/
theorem Keeps2.fin (hS : KeepSpec2 ext I O) {g : Ghost2} (hG : Keeps2 I O g) {es : List Spec.Zip.Entry}
    {gap : Bytes} (hf : g.fin ext = .ok es gap) : I es gap := by
  cases g with
  | idle done gap0 c => cases hf; exact hG
  | opened done gap0 c o =>
    obtain ⟨o', ⟨hph, rfl⟩ | ⟨_, hx⟩, hf'⟩ := Open2.fin_ok (show o.fin ext done gap0 = .ok es gap from hf)
    · exact hS.finData hG.1 hG.2 hph hf'
    · exact hS.finData hG.1 (hS.xmove hG.2 (.endExtra hx)) (endExtra_phase hx) hf'
  | _ => cases hf

/-- **One call keeps `Keeps2 I O`**, provided the entry a start call opens satisfies `O` and a `write` of
this call into the data of an entry that satisfies `O` keeps it. -/
theorem keeps2_step (hS : KeepSpec2 ext I O) (g : Ghost2) (c : Call) (out : Out (Option Nat))
    (hstart : ∀ {n o raw es gap f dp o'}, startArgs c = some (n, o, raw) → ¬ n.length > 65535 →
      startRec2 n o raw es gap = some (f, dp) → StartRow2 out f c o' → O o')
    (hwrite : ∀ {o} b, c = .write b → O o → o.phase = .data → O (o.writeData b))
    (hG : Keeps2 I O g) : Keeps2 I O (ghostStep2 ext g c out) := by
  generalize hR : ghostStep2 ext g c out = R
  by_cases ha' : R.alive
  case neg => exact .of_not_alive ha'
  cases (ghostStep2_shape ext hR ha').2 with
  | refused => exact hG
  | same => exact hG
  | comment g c' => cases g <;> exact hG
  | moved _ hm => exact ⟨hG.1, hS.xmove hG.2 hm⟩
  | wrote b hph => exact ⟨hG.1, hwrite b rfl hG.2 hph⟩
  | started hargs hn hf hsr hrow => exact ⟨hG.fin hS hf, hstart hargs hn hsr hrow⟩

end

/-- What the writer guarantees of every entry it closes (Level 2). -/
structure EntryOk2 (e : Spec.Zip.Entry) : Prop where
  name : e.name.length ≤ 0xFFFF
  comment : e.comment = []
  lxOk : ExtraOk e.localExtra
  lxLen : e.localExtra.length + (if e.localZip64 then 20 else 0) ≤ 0xFFFF
  cxOk : ExtraOk e.centralExtra
  method : e.method ≠ 99
  desc : e.desc = .none
  z64 : e.z64 = (false, false, false)

/-- What holds of the open entry so that closing it gives an `EntryOk2` entry (by phase: the method is checked when
local extra-data mode is left, the central extra data validated on entering the data phase). -/
structure OpenOk (o : Open2) : Prop where
  name : o.f.fileName.length ≤ 0xFFFF
  x0 : o.f.extraField = []
  meth : o.phase ≠ .localX → o.f.method.toU16 ≠ 99
  lxOk : ExtraOk o.lx
  lxLen : o.lx.length + z64len o.f ≤ 65535
  cxOk : o.phase = .data → ExtraOk o.cx
  rawX : o.raw = true → o.lx = [] ∧ o.cx = [] ∧ o.phase = .data
  encF : o.f.encrypted = o.enc.isSome

abbrev Good2 : Ghost2 → Prop := Keeps2 (fun done _ => ∀ e ∈ done, EntryOk2 e) OpenOk

theorem not_refused_ok {c : Method} {l : Option Int} (h : ¬ Refused c l) : c.toU16 ≠ 99 := by
  cases c with
  | aes => exact absurd trivial h
  | unsupported v => exact absurd trivial h
  | stored => decide
  | deflated => decide
  | bzip2 => decide
  | zstd => decide

theorem OpenOk.endExtra {o o' : Open2} (h : OpenOk o) (hx : o.endExtra = .ok o') :
    OpenOk o' ∧ o'.phase = .data := by
  obtain ⟨hv, hx'⟩ := Open2.endExtra_ok hx
  have hcx : ExtraOk o.cx := validate_extraOk (f := { o.f with extraField := o.cx }) hv
  have hlen : o.cx.length + z64len o.f ≤ 65535 := validate_len (f := { o.f with extraField := o.cx }) hv
  rcases hx' with ⟨hph, hr, rfl⟩ | ⟨hph, rfl⟩
  · exact ⟨⟨h.name, h.x0, fun _ => not_refused_ok hr, hcx, hlen, fun _ => hcx,
      fun hr' => ⟨(h.rawX hr').2.1, (h.rawX hr').2.1, rfl⟩, h.encF⟩, rfl⟩
  · exact ⟨⟨h.name, h.x0, fun _ => h.meth hph, h.lxOk, h.lxLen, fun _ => hcx,
      fun hr' => ⟨(h.rawX hr').1, (h.rawX hr').2.1, rfl⟩, h.encF⟩, rfl⟩

theorem entryOk2_closed {o : Open2} (h : OpenOk o) (hph : o.phase = .data) (dp : UInt16) (gap : Bytes)
    (plain data : Bytes) (lv : UInt16) :
    EntryOk2 (specEntry (closedRec o.f o.cx plain data) dp gap o.lx data lv) :=
  ⟨h.name, rfl, h.lxOk, h.lxLen, h.cxOk hph, h.meth (by rw [hph]; intro h'; cases h'), rfl, rfl⟩

theorem entryOk2_raw {o : Open2} (h : OpenOk o) (hph : o.phase = .data) (dp : UInt16) (gap : Bytes)
    (data : Bytes) (lv : UInt16) : EntryOk2 (specEntry o.f dp gap [] data lv) :=
  ⟨h.name, rfl, by show ExtraOk []; decide, by show ([] : Bytes).length + _ ≤ _; split <;> simp,
    by show ExtraOk o.f.extraField; rw [h.x0]; decide, h.meth (by rw [hph]; intro h'; cases h'), rfl, rfl⟩

theorem OpenOk.finData {ext : WExt} {o : Open2} (h : OpenOk o) (hph : o.phase = .data)
    {done : List Spec.Zip.Entry} (hd : ∀ e ∈ done, EntryOk2 e) {gap : Bytes}
    {es : List Spec.Zip.Entry} {gap' : Bytes} (hf : o.finData ext done gap = .ok es gap') :
    ∀ e ∈ es, EntryOk2 e := by
  have hsnoc : ∀ x, EntryOk2 x → ∀ e ∈ done ++ [x], EntryOk2 e := fun x hx e he =>
    (mem_snoc he).elim (hd e) fun h1 => h1 ▸ hx
  obtain ⟨dp, _, ⟨_, rfl, _⟩ | ⟨_, _, rfl⟩⟩ := Open2.finData_ok hf
  · exact hsnoc _ (entryOk2_raw h hph _ _ _ _)
  · exact hsnoc _ (entryOk2_closed h hph _ _ _ _ _)

theorem openOk_new (name : Bytes) (o : FileOptions) (raw : Option (UInt32 × UInt64 × UInt64)) (hs : Nat)
    (hn : name.length ≤ 65535) (israw : Bool) (plain : Bytes) (wf : Bool) (ph : Phase)
    (hm : ph ≠ .localX → o.method.toU16 ≠ 99) (hrp : israw = true → ph = .data) :
    OpenOk (newOpen (mkRec name o raw hs 0) israw plain wf o.encryptWith ph) :=
  ⟨hn, rfl, hm, by show ExtraOk []; decide, by show ([] : Bytes).length + _ ≤ _; unfold z64len; split <;> simp,
    fun _ => by show ExtraOk []; decide, fun h' => ⟨rfl, rfl, hrp h'⟩, rfl⟩

/-- `Level2` plus what the reader needs of a raw copy's source: not a WinZip-AES entry. -/
def Level2R (c : Call) : Prop :=
  Level2 c ∧ match c with
    | .rawCopy src _ _ => src.method.toU16 ≠ 99
    | _ => True

instance : DecidablePred Level2R := fun c => by
  unfold Level2R
  cases c <;> infer_instance

theorem OpenOk.setCx {o : Open2} (h : OpenOk o) (hph : o.phase ≠ .data) (x : Bytes) :
    OpenOk { o with cx := x } :=
  ⟨h.name, h.x0, h.meth, h.lxOk, h.lxLen, fun h' => absurd h' hph,
    fun hr => absurd (h.rawX hr).2.2 hph, h.encF⟩

theorem OpenOk.not_raw {o : Open2} (h : OpenOk o) (hph : o.phase ≠ .data) : o.raw = false := by
  cases hr : o.raw
  · rfl
  · exact absurd (h.rawX hr).2.2 hph

theorem OpenOk.endLocal {o o' : Open2} (h : OpenOk o) (hph : o.phase ≠ .data)
    (hx : o.endLocal = .ok o') : OpenOk o' := by
  unfold Open2.endLocal at hx
  split at hx
  next o1 hx1 =>
    cases hx
    obtain ⟨h1, hp1⟩ := h.endExtra hx1
    have hraw : o1.raw = false := by rw [(endExtra_fields hx1).2.1]; exact h.not_raw hph
    refine ⟨h1.name, h1.x0, fun _ => h1.meth (by rw [hp1]; intro h'; cases h'), h1.lxOk, h1.lxLen,
      (fun h' => by cases h'), fun hr => ?_, h1.encF⟩
    have : o1.raw = true := hr
    rw [hraw] at this; cases this
  · cases hx
  · cases hx

theorem OpenOk.xmove {o o' : Open2} (h : OpenOk o) (hm : XMove o o') : OpenOk o' := by
  cases hm with
  | setCx x hph => exact h.setCx hph x
  | endExtra hx => exact (h.endExtra hx).1
  | endLocal hph hx => exact h.endLocal hph hx

theorem OpenOk.writeData {o : Open2} (ho : OpenOk o) (b : Bytes) : OpenOk (o.writeData b) := by
  unfold Open2.writeData
  split <;> exact ⟨ho.name, ho.x0, ho.meth, ho.lxOk, ho.lxLen, ho.cxOk, ho.rawX, ho.encF⟩

theorem good2Spec (ext : WExt) : KeepSpec2 ext (fun done _ => ∀ e ∈ done, EntryOk2 e) OpenOk :=
  ⟨OpenOk.xmove, fun hd ho hph hf => ho.finData hph hd hf⟩

theorem Good2.fin {ext : WExt} {g : Ghost2} (hG : Good2 g) {es : List Spec.Zip.Entry} {gap : Bytes}
    (hf : g.fin ext = .ok es gap) : ∀ e ∈ es, EntryOk2 e := Keeps2.fin (good2Spec ext) hG hf

/-- the entry a `Level2R` start call opens -/
theorem Level2R.row {c : Call} (hc : Level2R c) {out : Out (Option Nat)} {n : Bytes} {o : FileOptions}
    {raw : Option (UInt32 × UInt64 × UInt64)} {es : List Spec.Zip.Entry} {gap : Bytes} {f : FileData}
    {dp : UInt16} {o' : Open2} (hargs : startArgs c = some (n, o, raw)) (hn : ¬ n.length > 65535)
    (hsr : startRec2 n o raw es gap = some (f, dp)) (hrow : StartRow2 out f c o') : OpenOk o' := by
  have hf' := startRec2_rec hsr
  subst hf'
  have hn' : n.length ≤ 65535 := by omega
  have hst : Method.stored.toU16 ≠ 99 := by decide
  obtain ⟨⟨ha, _⟩, hr⟩ := hc
  have hx : ∀ (o : FileOptions), o.encryptWith = none → ∀ {o'}, XMoves (newOpen (mkRec n o none
      ((localsBytes es).length + gap.length) 0) false [] true none .localX) o' → OpenOk o' := by
    intro o henc o' hm
    have := openOk_new n o none ((localsBytes es).length + gap.length) hn' false [] true .localX
      (fun h' => absurd rfl h') nofun
    rw [henc] at this
    exact hm.keeps (fun _ _ hm h => h.xmove hm) this
  cases hrow with
  | startFile n o _ hw =>
    cases hargs
    exact openOk_new n (fileOpts o) none _ hn' false [] true .data (fun _ => writable_not_aes hw) nofun
  | addDirectory n o =>
    cases hargs
    exact openOk_new (dirName n) (dirOpts o) none _ hn' false [] false .data (fun _ => hst) nofun
  | addSymlink n t o =>
    cases hargs
    exact openOk_new n (linkOpts o) none _ hn' false t false .data (fun _ => hst) nofun
  | rawCopy src raw n =>
    cases hargs
    exact openOk_new n (rawOpts src) (rawVals src) _ hn' true raw true .data (fun _ => hr) fun _ => rfl
  | withExtraData n o => cases hargs; exact hx (fileOpts o) ha.2 (.refl _)
  | aligned n o a hm => cases hargs; exact hx (fileOpts o) ha.2 hm

theorem good2_step (ext : WExt) (g : Ghost2) (c : Call) (hc : Level2R c) (out : Out (Option Nat))
    (hG : Good2 g) : Good2 (ghostStep2 ext g c out) :=
  keeps2_step (good2Spec ext) g c out hc.row (fun b _ ho _ => ho.writeData b) hG

theorem good2_run (ext : WExt) (calls : List Call) (outs : List (Out (Option Nat))) (g : Ghost2)
    (hc : ∀ c ∈ calls, Level2R c) (hG : Good2 g) : Good2 (ghostOf2 ext g calls outs) :=
  (ghostOf2_isFold ext).induct (fun g c out hc hG => good2_step ext g c hc out hG) calls outs g hc hG

/-! ### What closing an entry produces; alignment; encryption -/

theorem endExtra_localX {o o' : Open2} (hph : o.phase = .localX) (hx : o.endExtra = .ok o') :
    o' = { o with lx := o.cx, phase := .data } := by
  rcases (Open2.endExtra_ok hx).2 with ⟨_, _, h⟩ | ⟨h, _⟩
  · exact h
  · exact absurd hph h

theorem endExtra_centralX {o o' : Open2} (hph : o.phase = .centralX) (hx : o.endExtra = .ok o') :
    o' = { o with phase := .data } := by
  rcases (Open2.endExtra_ok hx).2 with ⟨h, _⟩ | ⟨_, h⟩
  · rw [hph] at h; cases h
  · exact h

theorem padRecord_length (pad : Nat) : (padRecord pad).length = 4 + pad := by
  simp [padRecord]; omega

/-- **`start_file_aligned` aligns the data**: when the call leaves the new entry in its data phase (it
succeeded), the position where the entry's data start is a multiple of the alignment. -/
theorem aligned_dataStart (a : UInt16) (es : List Spec.Zip.Entry) (gap c : Bytes) (f : FileData)
    (o4 : Open2) (ha : 1 ≤ a.toNat) (h : alignedAfter a es gap c f = .opened es gap c o4)
    (hph : o4.phase = .data) : (o4.dataStart es gap) % a.toNat = 0 ∧ o4.f = f ∧ o4.raw = false := by
  unfold alignedAfter at h
  dsimp only at h
  split at h
  next hpad =>
    split at h
    · cases h; cases hph
    · cases h
    next o3 hx3 =>
      unfold Open2.endLocal at hx3
      split at hx3
      next o2' hx2 =>
        cases hx3
        have e2 := endExtra_localX rfl hx2
        split at h
        next o4' hx4 =>
          cases h
          have e4 := endExtra_centralX rfl hx4
          subst e4 e2
          refine ⟨?_, rfl, rfl⟩
          show (_ + _ + hdrLen f + (padRecord _).length) % a.toNat = 0
          rw [padRecord_length]
          have := Model.pad_aligned ((localsBytes es).length + gap.length + hdrLen f) a.toNat (by omega)
          have e : Open2.dataStart es gap (newOpen f false [] true none .localX) =
              (localsBytes es).length + gap.length + hdrLen f := by
            simp [Open2.dataStart, newOpen]
          rw [e]
          rw [← this]
          congr 1
          omega
        · cases h; cases hph
        · cases h
      · cases hx3
      · cases hx3
  next hpad =>
    split at h
    next o4' hx4 =>
      cases h
      have e4 := endExtra_localX rfl hx4
      subst e4
      refine ⟨?_, rfl, rfl⟩
      have e : Open2.dataStart es gap (newOpen f false [] true none .localX) =
          (localsBytes es).length + gap.length + hdrLen f := by
        simp [Open2.dataStart, newOpen]
      rw [e] at hpad
      show (_ + _ + hdrLen f + ([] : Bytes).length) % a.toNat = 0
      simp only [List.length_nil, Nat.add_zero]
      by_cases h1 : a.toNat > 1
      · exact Classical.not_not.mp (fun hne => hpad ⟨h1, hne⟩)
      · have : a.toNat = 1 := by omega
        rw [this]; exact Nat.mod_one _
    · cases h; cases hph
    · cases h

/-- **The entry closed from an open entry** (not a raw copy, data phase): its fields, and where its data
lie — at the entry's data start. -/
theorem finData_entry {ext : WExt} {o : Open2} (hraw : o.raw = false)
    {done : List Spec.Zip.Entry} {gap : Bytes} {es : List Spec.Zip.Entry} {gap' : Bytes}
    (hf : o.finData ext done gap = .ok es gap') :
    ∃ dp, o.f.time.datepart = some dp ∧ gap' = [] ∧
      es = done ++ [specEntry (closedRec o.f o.cx o.plain (dataOf2 ext o.f o.enc o.plain)) dp gap o.lx
        (dataOf2 ext o.f o.enc o.plain) o.f.versionNeeded] := by
  obtain ⟨dp, hdp, ⟨hr, _⟩ | ⟨_, h1, h2⟩⟩ := Open2.finData_ok hf
  · rw [hraw] at hr; cases hr
  · exact ⟨dp, hdp, h1, h2⟩

theorem specEntry_data_offset (f : FileData) (dp : UInt16) (gap lx data : Bytes) (lv : UInt16) :
    (specEntry f dp gap lx data lv).gapBefore.length + (localRecord (specEntry f dp gap lx data lv)).length =
      gap.length + hdrLen f + lx.length := by
  rw [localRecord_length]
  unfold Entry.localExtraAll hdrLen z64len
  show gap.length + (30 + f.fileName.length + ((if f.largeFile then _ else _) ++ lx).length) = _
  cases f.largeFile <;> simp <;> omega

/-- **Encrypted entries**: the stored bytes are `zcEncrypt pw (11 zero bytes ++ [crc >>> 24] ++ payload)`
for the (compressed) plaintext `payload`, the recorded CRC is the plaintext's, and flag bit 0 is set in
the flag word both header writers emit. -/
theorem encrypted_entry (ext : WExt) (f : FileData) (cx plain : Bytes) (pw : Bytes) (dp : UInt16)
    (gap lx : Bytes) (lv : UInt16) (henc : f.encrypted = true) :
    let e := specEntry (closedRec f cx plain (dataOf2 ext f (some pw) plain)) dp gap lx
      (dataOf2 ext f (some pw) plain) lv
    e.data = ext.zcEncrypt pw (zcPlain (Spec.Crc32.crc32 plain) (dataOf ext f plain)) ∧
    e.crc = Spec.Crc32.crc32 plain ∧ e.usize = UInt64.ofNat plain.length ∧
    (e.flagsOut &&& 1 == 1) = true := by
  refine ⟨rfl, rfl, rfl, ?_⟩
  show (flagOf (closedRec f cx plain _) &&& 1 == 1) = true
  unfold flagOf
  have : (closedRec f cx plain (dataOf2 ext f (some pw) plain)).encrypted = true := henc
  rw [this]
  cases isAscii (closedRec f cx plain (dataOf2 ext f (some pw) plain)).fileName <;> decide

/-! ### From `EntryOk2` to the reader's hypotheses

`+ 28` is the clause of `Entry.Fits`: room for the largest central ZIP64 record (4 + 3 × 8 bytes) in the 16-bit length. -/

theorem EntryOk2.readable {e : Spec.Zip.Entry} (h : EntryOk2 e) : e.Readable := ⟨h.cxOk, h.method⟩

theorem EntryOk2.fits {e : Spec.Zip.Entry} (h : EntryOk2 e) (hd : e.data.length < 2 ^ 63)
    (hu : e.usize.toNat < 2 ^ 63) (hcx : e.centralExtra.length + 28 ≤ 0xFFFF) : e.Fits :=
  ⟨h.name, by rw [h.comment]; decide, h.lxLen, hcx, hd, hu⟩

theorem layout_fits_readable2 {es : List Spec.Zip.Entry} (gap c t : Bytes) (hes : ∀ e ∈ es, EntryOk2 e)
    (hc : c.length ≤ 65535) (hsize : (build (layoutOf es gap c t)).length < 2 ^ 63)
    (hu : ∀ e ∈ es, e.usize.toNat < 2 ^ 63) (hcx : ∀ e ∈ es, e.centralExtra.length + 28 ≤ 0xFFFF) :
    (layoutOf es gap c t).Fits ∧ (layoutOf es gap c t).Readable :=
  layout_fits_readable_of gap c t hc hsize (fun e he hd => (hes e he).fits hd (hu e he) (hcx e he))
    fun e he => (hes e he).readable

end ZipVerif.WL
