import ZipVerif.Model.Clones
/-
C20: the invariants of the clone system (`InvH`, `CellsInv`, `Good`), the simulation of an
interleaved run by the solo runs of its handles (`sim_local`), the length of a solo run (a call is one atomic step or
three, `call_steps`), and call-level schedules read as atomic schedules (`calls_as_steps`).
-/

namespace ZipVerif.Model.Clones
open ZipVerif

/-- The entry whose cell the handle depends on: the one it is about to wrap into a `ZipFile` (its own
store has already happened) or the one its open `ZipFile` refers to. -/
def held (H : Handle) : Option Nat :=
  match H.pc with
  | .seeking i _ _ => some i
  | _ => H.file.map (·.idx)

structure InvH (A : Arch) (cells : List UInt64) (H : Handle) : Prop where
  storing : ∀ i md v, H.pc = .storing i md v → A.f i = some v
  held : ∀ i, held H = some i → ∃ v, A.f i = some v ∧ cells[i]? = some v

structure CellsInv (A : Arch) (cells : List UInt64) : Prop where
  len : cells.length = A.entries.length
  val : ∀ i v, cells[i]? = some v → v = 0 ∨ A.f i = some v

theorem f_lt {A : Arch} {i : Nat} {v : UInt64} (h : A.f i = some v) : i < A.entries.length := by
  unfold Arch.f at h
  cases he : A.entries[i]? with
  | none => rw [he] at h; cases h
  | some e => exact (List.getElem?_eq_some_iff.mp he).1

theorem cellsInv_init (A : Arch) : CellsInv A (initCells A) := by
  refine ⟨by simp [initCells], ?_⟩
  intro i v h
  left
  simp only [initCells, List.getElem?_map, Option.map_eq_some_iff] at h
  obtain ⟨_, _, rfl⟩ := h
  rfl

theorem invH_init (A : Arch) (cells : List UInt64) (s : List Op) : InvH A cells (Handle.init s) := by
  refine ⟨?_, ?_⟩
  · intro i md v h; cases h
  · intro i h; cases h

/-! ### `beginOpen` -/

theorem g_eq_f {A : Arch} {i : Nat} {e : Entry} {md : Mode} (he : A.entries[i]? = some e)
    (hn : needsPw md e = false) : A.g i md = A.f i := by
  unfold Arch.g; rw [he]; exact if_neg (by rw [hn]; nofun)

theorem g_eq_none {A : Arch} {i : Nat} {e : Entry} {md : Mode} (he : A.entries[i]? = some e)
    (hn : needsPw md e = true) : A.g i md = none := by
  unfold Arch.g; rw [he]; exact if_pos hn

theorem g_some_f {A : Arch} {i : Nat} {md : Mode} {v : UInt64} (h : A.g i md = some v) :
    A.f i = some v := by
  unfold Arch.g at h
  split at h
  · cases h
  · split at h
    · cases h
    · exact h

theorem beginOpen_eq (A : Arch) (h : Handle) (i : Nat) (md : Mode) :
    match A.g i md with
    | some v => ∃ e, A.entries[i]? = some e ∧ beginOpen A h i md =
        { h with file := none, pc := .storing i md v, pos := e.headerStart.toNat + 30 }
    | none => ∃ p o, beginOpen A h i md = { h with file := none, pos := p }.emit o := by
  unfold beginOpen Arch.g Arch.f
  cases A.entries[i]? with
  | none => exact ⟨h.pos, _, rfl⟩
  | some e =>
    dsimp only
    cases needsPw md e with
    | true => exact ⟨h.pos, _, rfl⟩
    | false =>
      cases findContent A.bytes e.headerStart with
      | ok v => exact ⟨e, rfl, rfl⟩
      | err er => exact ⟨_, _, rfl⟩
      | panic => exact ⟨_, _, rfl⟩

theorem beginOpen_some {A : Arch} {i : Nat} {v : UInt64} (h : Handle) (md : Mode)
    (hv : A.g i md = some v) :
    ∃ e, A.entries[i]? = some e ∧ beginOpen A h i md =
      { h with file := none, pc := .storing i md v, pos := e.headerStart.toNat + 30 } := by
  have := beginOpen_eq A h i md
  rwa [hv] at this

theorem beginOpen_none {A : Arch} {i : Nat} (h : Handle) (md : Mode) (hv : A.g i md = none) :
    ∃ p o, beginOpen A h i md = { h with file := none, pos := p }.emit o := by
  have := beginOpen_eq A h i md
  rwa [hv] at this

/-- `(None, true) => return Err(UnsupportedArchive(PASSWORD_REQUIRED))`: nothing but the error. -/
theorem beginOpen_needsPw {A : Arch} {i : Nat} {e : Entry} {md : Mode} (he : A.entries[i]? = some e)
    (hn : needsPw md e = true) (h : Handle) :
    beginOpen A h i md = { h with file := none }.emit (.openErr .passwordRequired) := by
  unfold beginOpen; rw [he]; exact if_pos hn

theorem beginOpen_none_mode {A : Arch} {i : Nat} {e : Entry} {md md' : Mode} (he : A.entries[i]? = some e)
    (hn : needsPw md e = needsPw md' e) (hv : A.g i md = none) (h : Handle) :
    beginOpen A h i md = beginOpen A h i md' := by
  unfold Arch.g Arch.f at hv
  unfold beginOpen
  rw [he] at hv ⊢
  dsimp only at hv ⊢
  rw [← hn]
  cases hb : needsPw md e with
  | true => rfl
  | false =>
    rw [hb] at hv
    cases hfc : findContent A.bytes e.headerStart with
    | ok w => rw [hfc] at hv; cases hv
    | err er => rfl
    | panic => rfl

theorem invH_of_idle_nofile {A : Arch} {cells : List UInt64} {H : Handle}
    (hpc : H.pc = .idle) (hf : H.file = none) : InvH A cells H := by
  refine ⟨?_, ?_⟩
  · intro i md v h; rw [hpc] at h; cases h
  · intro i h; simp [held, hpc, hf] at h

theorem invH_beginOpen (A : Arch) (cells : List UInt64) (h : Handle) (i : Nat) (md : Mode)
    (hpc : h.pc = .idle) : InvH A cells (beginOpen A h i md) := by
  cases hv : A.g i md with
  | none =>
    obtain ⟨p, o, hb⟩ := beginOpen_none h md hv
    rw [hb]
    exact invH_of_idle_nofile hpc rfl
  | some v =>
    obtain ⟨e, _, hb⟩ := beginOpen_some h md hv
    rw [hb]
    exact ⟨fun j md' v' hj => by cases hj; exact g_some_f hv, fun j hj => by cases hj⟩

/-! ### Frame: a store of `f i` into cell `i` keeps every handle's invariant -/

theorem invH_set {A : Arch} {cells : List UInt64} {G : Handle} {i : Nat} {v : UInt64}
    (hG : InvH A cells G) (hv : A.f i = some v) : InvH A (cells.set i v) G := by
  refine ⟨hG.storing, ?_⟩
  intro j hj
  obtain ⟨w, hw, hc⟩ := hG.held j hj
  refine ⟨w, hw, ?_⟩
  by_cases hij : i = j
  · subst hij
    rw [List.getElem?_set_self (List.getElem?_eq_some_iff.mp hc).1]
    exact hv.symm.trans hw
  · rw [List.getElem?_set_ne hij]; exact hc

theorem cellsInv_set {A : Arch} {cells : List UInt64} {i : Nat} {v : UInt64}
    (hc : CellsInv A cells) (hv : A.f i = some v) : CellsInv A (cells.set i v) := by
  refine ⟨by rw [List.length_set]; exact hc.len, ?_⟩
  intro j w hj
  by_cases hij : i = j
  · subst hij
    rw [List.getElem?_set] at hj
    simp only [if_true] at hj
    split at hj
    · cases hj; right; exact hv
    · cases hj
  · rw [List.getElem?_set] at hj
    simp only [hij, if_false] at hj
    exact hc.val j w hj

/-! ### One atomic step -/

theorem stepH_cells (A : Arch) (cells : List UInt64) (H : Handle) :
    (stepH A cells H).1 = cells ∨
    ∃ i md v, H.pc = .storing i md v ∧ (stepH A cells H).1 = cells.set i v := by
  unfold stepH
  split
  · rename_i i md v hpc
    right; exact ⟨i, md, v, hpc, rfl⟩
  · left; rfl
  · left
    split <;> rfl

theorem stepH_idle_cons (A : Arch) (c : List UInt64) {H : Handle} {op : Op} {rest : List Op}
    (hpc : H.pc = .idle) (hs : H.script = op :: rest) :
    stepH A c H = (c, doOp A c { H with script := rest } op) := by
  unfold stepH; rw [hpc]; simp only; rw [hs]

theorem held_emit (H : Handle) (o : Obs) : held (H.emit o) = held H := rfl

theorem finishOpen_eq (A : Arch) (h : Handle) (i : Nat) (md : Mode) (v : UInt64) :
    ∃ fo o, finishOpen A h i md v = { h with pc := .idle, pos := v.toNat, file := fo }.emit o ∧
      ∀ fl, fo = some fl → fl.idx = i := by
  have hsome : ∀ (fl : OpenFile) o, fl.idx = i →
      ∃ fo o', { h with pc := .idle, pos := v.toNat, file := some fl }.emit o =
        { h with pc := .idle, pos := v.toNat, file := fo }.emit o' ∧ ∀ fl, fo = some fl → fl.idx = i :=
    fun fl o hi => ⟨_, o, rfl, fun _ e => Option.some.inj e ▸ hi⟩
  have hnone : ∀ o, ∃ fo o', { h with pc := .idle, pos := v.toNat, file := none }.emit o =
        { h with pc := .idle, pos := v.toNat, file := fo }.emit o' ∧ ∀ fl, fo = some fl → fl.idx = i :=
    fun o => ⟨_, o, rfl, nofun⟩
  unfold finishOpen
  cases A.entries[i]? with
  | none => exact hnone _
  | some e =>
    cases md with
    | raw => exact hsome _ _ rfl
    | noPw =>
      dsimp only
      cases e.decodable
      · exact hnone _
      · exact hsome _ _ rfl
    | pw p =>
      dsimp only
      cases e.decodable
      · exact hnone _
      · cases e.encrypted
        · exact hsome _ _ rfl
        · cases A.unlock i p
          · exact hnone _
          · exact hnone _
          · exact hsome _ _ rfl

theorem finishOpen_done (A : Arch) (h : Handle) (i : Nat) (md : Mode) (v : UInt64) :
    (finishOpen A h i md v).pc = .idle ∧ (finishOpen A h i md v).script = h.script ∧
      (finishOpen A h i md v).obs.length = h.obs.length + 1 := by
  obtain ⟨fo, o, e, _⟩ := finishOpen_eq A h i md v
  rw [e]
  exact ⟨rfl, rfl, List.length_append⟩

theorem finishOpen_noPw {A : Arch} {i : Nat} {e : Entry} (he : A.entries[i]? = some e)
    (hdec : e.decodable = true) (h : Handle) (v : UInt64) :
    finishOpen A h i .noPw v =
      { h with pc := .idle, pos := v.toNat,
               file := some ⟨i, e.stored, e.compSize.toNat, 0, e.content, e.eofErr⟩ }.emit .opened := by
  unfold finishOpen; rw [he]; exact if_pos hdec

/-- "Password supplied, but none needed! Discard." -/
theorem finishOpen_pw_plain {A : Arch} {i : Nat} {e : Entry} (he : A.entries[i]? = some e)
    (henc : e.encrypted = false) (h : Handle) (p : Bytes) (v : UInt64) :
    finishOpen A h i (.pw p) v = finishOpen A h i .noPw v := by
  unfold finishOpen; rw [he]; dsimp only; rw [henc]
  cases e.decodable <;> rfl

theorem doOp_target {A : Arch} {op : Op} {i : Nat} {md : Mode} (c : List UInt64) (h : Handle)
    (ht : op.target A = some (i, md)) : doOp A c h op = beginOpen A h i md := by
  cases op <;> cases ht <;> rfl

theorem doOp_local {A : Arch} {op : Op} (c : List UInt64) (h : Handle) (ht : op.target A = none) :
    ∃ p fo o, doOp A c h op = { h with pos := p, file := fo }.emit o ∧
      (fo = none ∨ fo.map (·.idx) = h.file.map (·.idx)) := by
  obtain ⟨s, pc, pos, file, obs⟩ := h
  have keep : ∀ o, ∃ p fo o', Handle.emit ⟨s, pc, pos, file, obs⟩ o = Handle.emit ⟨s, pc, p, fo, obs⟩ o' ∧
      (fo = none ∨ fo.map (·.idx) = file.map (·.idx)) := fun o => ⟨_, _, o, rfl, .inr rfl⟩
  cases file with
  | none => cases op <;> cases ht <;> exact keep _
  | some fl =>
    cases op with
    | read n => dsimp only [doOp, doRead]; cases fl.direct <;> exact ⟨_, _, _, rfl, .inr rfl⟩
    | dataStart => dsimp only [doOp]; cases c[fl.idx]? <;> exact keep _
    | info => dsimp only [doOp]; cases A.entries[fl.idx]? <;> exact keep _
    | close => exact ⟨_, _, _, rfl, .inl rfl⟩
    | len => exact keep _
    | _ => cases ht

theorem invH_doOp {A : Arch} {cells : List UInt64} {h : Handle} (op : Op)
    (hpc : h.pc = .idle) (hh : InvH A cells h) : InvH A cells (doOp A cells h op) := by
  cases ht : op.target A with
  | some t => rw [doOp_target cells h ht]; exact invH_beginOpen A cells h t.1 t.2 hpc
  | none =>
    obtain ⟨p, fo, o, e, hfo⟩ := doOp_local cells h ht
    rw [e]
    refine ⟨hh.storing, fun i hi => hh.held i ?_⟩
    simp only [held, hpc] at hi ⊢
    rcases hfo with hfo | hfo
    · rw [hfo] at hi; cases hi
    · rw [← hfo]; exact hi

theorem stepH_invH {A : Arch} {cells : List UInt64} {H : Handle}
    (hc : CellsInv A cells) (hH : InvH A cells H) :
    InvH A (stepH A cells H).1 (stepH A cells H).2 := by
  unfold stepH
  split
  · rename_i i md v hpc
    have hv := hH.storing i md v hpc
    have hlt : i < cells.length := by rw [hc.len]; exact f_lt hv
    refine ⟨nofun, fun j hj => ?_⟩
    cases hj
    exact ⟨v, hv, List.getElem?_set_self hlt⟩
  · rename_i i md v hpc
    have hi := hH.held i (by simp only [held, hpc])
    obtain ⟨fo, o, e, hfo⟩ := finishOpen_eq A H i md v
    simp only [e]
    refine ⟨nofun, fun j hj => ?_⟩
    obtain ⟨fl, hfl, rfl⟩ := Option.map_eq_some_iff.mp hj
    rw [hfo fl hfl]
    exact hi
  · rename_i hpc
    split
    · exact hH
    · exact invH_doOp _ hpc ⟨hH.storing, hH.held⟩

theorem doOp_dataStart {A : Arch} {c : List UInt64} {h : Handle} {fl : OpenFile} {v : UInt64}
    (hf : h.file = some fl) (hc : c[fl.idx]? = some v) :
    doOp A c h .dataStart = h.emit (.dataStart v) := by
  unfold doOp; rw [hf]; dsimp only; rw [hc]

/-- Only `dataStart` looks at the cells, and only at the cell of the open file. -/
theorem doOp_congr {A : Arch} {c1 c2 : List UInt64} (h : Handle) (op : Op)
    (hc : ∀ fl, h.file = some fl → c1[fl.idx]? = c2[fl.idx]?) : doOp A c1 h op = doOp A c2 h op := by
  cases op with
  | dataStart =>
    unfold doOp
    cases hf : h.file with
    | none => rfl
    | some fl => simp only [hc fl hf]
  | _ => rfl

/-- The handle-local result of a step does not depend on which cells it ran against, as long as both
satisfy the handle's invariant: the only load (`dataStart`) reads a cell that holds `f i` in both. -/
theorem stepH_congr {A : Arch} {c1 c2 : List UInt64} {H : Handle}
    (h1 : InvH A c1 H) (h2 : InvH A c2 H) : (stepH A c1 H).2 = (stepH A c2 H).2 := by
  unfold stepH
  split
  · rfl
  · rfl
  · rename_i hpc
    split
    · rfl
    · refine doOp_congr _ _ fun fl hf => ?_
      have hheld : held H = some fl.idx := by simp only [held, hpc]; exact congrArg (Option.map _) hf
      obtain ⟨v1, hv1, hc1⟩ := h1.held _ hheld
      obtain ⟨v2, hv2, hc2⟩ := h2.held _ hheld
      rw [hc1, hc2, ← hv1, hv2]

/-! ### The system -/

structure Good (A : Arch) (s : Sys) : Prop where
  cells : CellsInv A s.cells
  handles : ∀ H ∈ s.hs, InvH A s.cells H

theorem good_init (A : Arch) (scripts : List (List Op)) : Good A (Sys.init A scripts) := by
  refine ⟨cellsInv_init A, ?_⟩
  intro H hH
  simp only [Sys.init, List.mem_map] at hH
  obtain ⟨s, _, rfl⟩ := hH
  exact invH_init A _ s

theorem good_step {A : Arch} {s : Sys} (hs : Good A s) (h : Nat) : Good A (Sys.step A s h) := by
  unfold Sys.step
  cases hH : s.hs[h]? with
  | none => exact hs
  | some H =>
    have hmem : H ∈ s.hs := List.mem_of_getElem? hH
    have hinv := hs.handles H hmem
    have hact := stepH_invH hs.cells hinv
    rcases stepH_cells A s.cells H with hc | ⟨i, md, v, hpc, hc⟩
    · refine ⟨by simp only [hc]; exact hs.cells, ?_⟩
      intro G hG
      simp only at hG ⊢
      rcases List.mem_or_eq_of_mem_set hG with hG | rfl
      · rw [hc]; exact hs.handles G hG
      · exact hact
    · have hv := hinv.storing i md v hpc
      refine ⟨by simp only [hc]; exact cellsInv_set hs.cells hv, ?_⟩
      intro G hG
      simp only at hG ⊢
      rcases List.mem_or_eq_of_mem_set hG with hG | rfl
      · rw [hc]; exact invH_set (hs.handles G hG) hv
      · exact hact

theorem rev_ind {α : Type} {P : List α → Prop} (h0 : P [])
    (h1 : ∀ l x, P l → P (l ++ [x])) : ∀ l, P l := by
  intro l
  rw [← List.reverse_reverse l]
  induction l.reverse with
  | nil => exact h0
  | cons x t ih => rw [List.reverse_cons]; exact h1 _ _ ih

theorem run_append (A : Arch) (s : Sys) (a b : List Nat) :
    run A s (a ++ b) = run A (run A s a) b := by
  simp [run, List.foldl_append]

theorem run_snoc (A : Arch) (s : Sys) (σ : List Nat) (x : Nat) :
    run A s (σ ++ [x]) = Sys.step A (run A s σ) x := run_append A s σ [x]

theorem good_run {A : Arch} {s : Sys} (hs : Good A s) (σ : List Nat) : Good A (run A s σ) := by
  induction σ using rev_ind with
  | h0 => exact hs
  | h1 l x ih => rw [run_snoc]; exact good_step ih x

theorem step_length (A : Arch) (s : Sys) (h : Nat) : (Sys.step A s h).hs.length = s.hs.length := by
  unfold Sys.step
  split <;> simp

theorem run_length (A : Arch) (s : Sys) (σ : List Nat) : (run A s σ).hs.length = s.hs.length := by
  induction σ using rev_ind with
  | h0 => rfl
  | h1 l x ih => rw [run_snoc, step_length, ih]

theorem solo_inv (A : Arch) (script : List Op) (n : Nat) :
    CellsInv A (soloRun A (initCells A) (Handle.init script) n).1 ∧
    InvH A (soloRun A (initCells A) (Handle.init script) n).1
      (soloRun A (initCells A) (Handle.init script) n).2 := by
  induction n with
  | zero => exact ⟨cellsInv_init A, invH_init A _ _⟩
  | succ n ih =>
    obtain ⟨hc, hh⟩ := ih
    refine ⟨?_, stepH_invH hc hh⟩
    show CellsInv A (stepH A _ _).1
    rcases stepH_cells A (soloRun A (initCells A) (Handle.init script) n).1
        (soloRun A (initCells A) (Handle.init script) n).2 with e | ⟨i, md, v, hpc, e⟩
    · rw [e]; exact hc
    · rw [e]; exact cellsInv_set hc (hh.storing i md v hpc)

/-- **Simulation.** After any schedule, the complete local state of handle `h` (position, open file,
remaining script, observations) is the state it reaches alone after as many atomic steps as the
schedule gave it. -/
theorem sim_local (A : Arch) (scripts : List (List Op)) (σ : List Nat) (h : Nat)
    (hh : h < scripts.length) :
    (run A (Sys.init A scripts) σ).hs[h]? =
      some (soloRun A (initCells A) (Handle.init scripts[h]) (σ.count h)).2 := by
  induction σ using rev_ind with
  | h0 =>
    show (scripts.map Handle.init)[h]? = _
    rw [List.getElem?_map, List.getElem?_eq_getElem hh]; rfl
  | h1 l x ih =>
    rw [run_snoc]
    have hg := good_run (good_init A scripts) l
    by_cases hx : x = h
    · subst hx
      rw [List.count_append, List.count_singleton_self]
      show _ = some (stepH A _ _).2
      unfold Sys.step
      rw [ih]
      simp only
      have hlen : x < (run A (Sys.init A scripts) l).hs.length := by
        rw [run_length, Sys.init, List.length_map]; exact hh
      rw [List.getElem?_set_self hlen]
      congr 1
      have hmem := List.mem_of_getElem? ih
      exact stepH_congr (hg.handles _ hmem) (solo_inv A scripts[x] (l.count x)).2
    · rw [List.count_append, List.count_eq_zero.mpr fun hm => hx (List.eq_of_mem_singleton hm).symm,
        Nat.add_zero, ← ih]
      unfold Sys.step
      split
      · rfl
      · simp only
        rw [List.getElem?_set_ne hx]

/-! ### A script run alone runs to completion in exactly `atomicSteps` steps -/

theorem soloRun_add (A : Arch) (c : List UInt64) (H : Handle) (n m : Nat) :
    soloRun A c H (n + m) = soloRun A (soloRun A c H n).1 (soloRun A c H n).2 m := by
  induction m with
  | zero => rfl
  | succ m ih =>
    show stepH A (soloRun A c H (n + m)).1 (soloRun A c H (n + m)).2 = _
    rw [ih]
    rfl

theorem soloRun_add_eq {A : Arch} {c c' : List UInt64} {H H' : Handle} {n : Nat}
    (h : soloRun A c H n = (c', H')) (m : Nat) : soloRun A c H (n + m) = soloRun A c' H' m := by
  rw [soloRun_add, h]

theorem opSteps_target {A : Arch} {op : Op} {i : Nat} {md : Mode}
    (ht : op.target A = some (i, md)) : opSteps A op = if (A.g i md).isSome then 3 else 1 := by
  cases op <;> cases ht <;> rfl

theorem opSteps_some {A : Arch} {op : Op} {i : Nat} {md : Mode} {v : UInt64}
    (ht : op.target A = some (i, md)) (hv : A.g i md = some v) : opSteps A op = 3 := by
  rw [opSteps_target ht, hv]; rfl

theorem opSteps_none {A : Arch} {op : Op} {i : Nat} {md : Mode}
    (ht : op.target A = some (i, md)) (hv : A.g i md = none) : opSteps A op = 1 := by
  rw [opSteps_target ht, hv]; rfl

theorem opSteps_nontarget {A : Arch} {op : Op} (ht : op.target A = none) : opSteps A op = 1 := by
  cases op <;> cases ht <;> rfl

theorem atomicSteps_cons (A : Arch) (op : Op) (rest : List Op) :
    atomicSteps A (op :: rest) = opSteps A op + atomicSteps A rest := List.sum_cons

theorem atomicSteps_append (A : Arch) (a b : List Op) :
    atomicSteps A (a ++ b) = atomicSteps A a + atomicSteps A b := by
  simp [atomicSteps]

/-- A successful-so-far open run alone: three steps = header parse, store, `finishOpen`. -/
theorem solo_open3 (A : Arch) (c : List UInt64) (H : Handle) (op : Op) (rest : List Op)
    (hpc : H.pc = .idle) (hs : H.script = op :: rest) (i : Nat) (md : Mode)
    (ht : op.target A = some (i, md)) (v : UInt64) (hv : A.g i md = some v) :
    soloRun A c H 3 = (c.set i v, finishOpen A
        { beginOpen A { H with script := rest } i md with pc := .seeking i md v } i md v) := by
  obtain ⟨e, _, hb⟩ := beginOpen_some { H with script := rest } md hv
  have e1 : soloRun A c H 1 = (c, beginOpen A { H with script := rest } i md) := by
    show stepH A c H = _; rw [stepH_idle_cons A c hpc hs, doOp_target c _ ht]
  have e2 : soloRun A c H 2 =
      (c.set i v, { beginOpen A { H with script := rest } i md with pc := .seeking i md v }) := by
    show stepH A (soloRun A c H 1).1 (soloRun A c H 1).2 = _
    rw [e1, hb]; rfl
  show stepH A (soloRun A c H 2).1 (soloRun A c H 2).2 = _
  rw [e2]; rfl

/-- One whole call, run alone from an idle handle, takes exactly `opSteps` atomic steps, consumes the
call from the script and yields exactly one observation. It is a single step, or three with the handle
not idle after the first. -/
theorem call_steps (A : Arch) (c : List UInt64) (H : Handle) (op : Op) (rest : List Op)
    (hpc : H.pc = .idle) (hs : H.script = op :: rest) :
    (soloRun A c H (opSteps A op)).2.pc = .idle ∧
    (soloRun A c H (opSteps A op)).2.script = rest ∧
    (soloRun A c H (opSteps A op)).2.obs.length = H.obs.length + 1 ∧
    (opSteps A op = 1 ∨ opSteps A op = 3 ∧ (stepH A c H).2.pc ≠ .idle) := by
  have step1 := stepH_idle_cons A c hpc hs
  have one : opSteps A op = 1 → ∀ p fo o,
      doOp A c { H with script := rest } op = { H with script := rest, pos := p, file := fo }.emit o →
      (soloRun A c H (opSteps A op)).2.pc = .idle ∧ (soloRun A c H (opSteps A op)).2.script = rest ∧
      (soloRun A c H (opSteps A op)).2.obs.length = H.obs.length + 1 ∧
      (opSteps A op = 1 ∨ opSteps A op = 3 ∧ (stepH A c H).2.pc ≠ .idle) := by
    intro h1 p fo o e
    rw [h1]
    show (stepH A c H).2.pc = _ ∧ (stepH A c H).2.script = _ ∧ (stepH A c H).2.obs.length = _ ∧ _
    rw [step1, e]
    exact ⟨hpc, rfl, List.length_append, .inl rfl⟩
  cases ht : op.target A with
  | none =>
    obtain ⟨p, fo, o, e, _⟩ := doOp_local c { H with script := rest } ht
    exact one (opSteps_nontarget ht) p fo o e
  | some t =>
    obtain ⟨i, md⟩ := t
    cases hv : A.g i md with
    | none =>
      obtain ⟨p, o, hb⟩ := beginOpen_none { H with script := rest } md hv
      exact one (opSteps_none ht hv) p none o ((doOp_target c _ ht).trans hb)
    | some v =>
      obtain ⟨e, _, hb⟩ := beginOpen_some { H with script := rest } md hv
      obtain ⟨f1, f2, f3⟩ := finishOpen_done A
        { beginOpen A { H with script := rest } i md with pc := .seeking i md v } i md v
      rw [opSteps_some ht hv, solo_open3 A c H op rest hpc hs i md ht v hv, step1, doOp_target c _ ht]
      rw [hb] at f1 f2 f3 ⊢
      exact ⟨f1, f2, f3, .inr ⟨rfl, nofun⟩⟩

theorem solo_finished (A : Arch) (script : List Op) :
    ∀ (c : List UInt64) (H : Handle), H.pc = .idle → H.script = script →
      (soloRun A c H (atomicSteps A script)).2.pc = .idle ∧
      (soloRun A c H (atomicSteps A script)).2.script = [] ∧
      (soloRun A c H (atomicSteps A script)).2.obs.length = H.obs.length + script.length := by
  induction script with
  | nil => intro c H hpc hs; exact ⟨hpc, hs, rfl⟩
  | cons op rest ih =>
    intro c H hpc hs
    rw [atomicSteps_cons, soloRun_add]
    obtain ⟨c1, c2, c3, _⟩ := call_steps A c H op rest hpc hs
    obtain ⟨i1, i2, i3⟩ := ih _ _ c1 c2
    refine ⟨i1, i2, ?_⟩
    rw [i3, c3, List.length_cons, Nat.add_assoc, Nat.add_comm 1]

/-! ### Call-level schedules are atomic schedules -/

theorem solo_prefix (A : Arch) (pre post : List Op) :
    ∀ (c : List UInt64) (H : Handle), H.pc = .idle → H.script = pre ++ post →
      (soloRun A c H (atomicSteps A pre)).2.pc = .idle ∧
      (soloRun A c H (atomicSteps A pre)).2.script = post := by
  induction pre with
  | nil => intro c H hpc hs; exact ⟨hpc, hs⟩
  | cons op rest ih =>
    intro c H hpc hs
    rw [atomicSteps_cons, soloRun_add]
    obtain ⟨c1, c2, _⟩ := call_steps A c H op (rest ++ post) hpc hs
    exact ih _ _ c1 c2

theorem take_succ_of_lt {α : Type} (l : List α) (m : Nat) (h : m < l.length) :
    l.take (m + 1) = l.take m ++ [l[m]] := by
  rw [List.take_add_one, List.getElem?_eq_getElem h]; rfl

theorem call_as_steps (A : Arch) (scripts : List (List Op)) (σ : List Nat) (x m : Nat)
    (hx : x < scripts.length) (hm : m < scripts[x].length)
    (hσ : σ.count x = atomicSteps A (scripts[x].take m)) :
    Sys.call A (run A (Sys.init A scripts) σ) x =
      run A (Sys.init A scripts) (σ ++ List.replicate (opSteps A scripts[x][m]) x) := by
  obtain ⟨p1, p2⟩ := solo_prefix A (scripts[x].take m) (scripts[x][m] :: scripts[x].drop (m + 1))
    (initCells A) (Handle.init scripts[x]) rfl (by simp [Handle.init])
  have hloc := sim_local A scripts (σ ++ [x]) x hx
  rw [List.count_append, hσ, List.count_singleton_self, soloRun_add] at hloc
  unfold Sys.call
  rw [← run_snoc]
  simp only [hloc]
  obtain ⟨c1, _, _, h1 | ⟨h3, hne⟩⟩ := call_steps A
    (soloRun A (initCells A) (Handle.init scripts[x]) (atomicSteps A (scripts[x].take m))).1
    (soloRun A (initCells A) (Handle.init scripts[x]) (atomicSteps A (scripts[x].take m))).2 _ _ p1 p2
  · rw [h1] at c1 ⊢
    simp only [c1]
    rfl
  · rw [h3]
    split
    · rename_i heq; exact absurd heq hne
    · rw [← run_snoc, ← run_snoc, List.append_assoc, List.append_assoc]; rfl

/-- A call-level schedule that gives no handle more calls than its script has is an atomic schedule
giving each handle exactly the atomic steps of the calls it made. -/
theorem calls_as_steps (A : Arch) (scripts : List (List Op)) (calls : List Nat) :
    (∀ x ∈ calls, x < scripts.length) →
    (∀ h (hh : h < scripts.length), calls.count h ≤ scripts[h].length) →
    ∃ σ, calls.foldl (Sys.call A) (Sys.init A scripts) = run A (Sys.init A scripts) σ ∧
      (∀ x ∈ σ, x < scripts.length) ∧
      ∀ h (hh : h < scripts.length),
        σ.count h = atomicSteps A (scripts[h].take (calls.count h)) := by
  induction calls using rev_ind with
  | h0 => intro _ _; exact ⟨[], rfl, nofun, fun h hh => rfl⟩
  | h1 l x ih =>
    intro hmem hcnt
    have hx : x < scripts.length := hmem x (List.mem_append_right l (List.mem_singleton_self x))
    obtain ⟨σ, hrun, hσmem, hσcnt⟩ := ih (fun y hy => hmem y (List.mem_append_left _ hy))
      (fun h hh => Nat.le_trans ((List.sublist_append_left l [x]).count_le h) (hcnt h hh))
    have hm : l.count x < scripts[x].length := by
      have := hcnt x hx
      rw [List.count_append, List.count_singleton_self] at this
      exact this
    refine ⟨σ ++ List.replicate (opSteps A scripts[x][l.count x]) x, ?_, ?_, ?_⟩
    · rw [List.foldl_append, hrun]
      exact call_as_steps A scripts σ x (l.count x) hx hm (hσcnt x hx)
    · intro y hy
      rcases List.mem_append.mp hy with hy | hy
      · exact hσmem y hy
      · rw [List.eq_of_mem_replicate hy]; exact hx
    · intro h hh
      rw [List.count_append, List.count_append, hσcnt h hh, List.count_replicate, List.count_singleton]
      by_cases e : x = h
      · subst e
        simp only [beq_self_eq_true, if_true, take_succ_of_lt _ _ hm, atomicSteps_append]
        rfl
      · simp only [beq_iff_eq, e, if_false, Nat.add_zero]

end ZipVerif.Model.Clones
