import ZipVerif.Lemmas.WriterTrack
/-
Byte-level facts about the device, for the "writer emits a layout" development (`writeAt` on lists alone:
Lemmas/WriteAt.lean).

Device convention: the sink may hold STALE bytes after the current position (an archive opened with
`new_append`), so nothing is ever stated about `d.buf` as a whole: `LiveAt d q L r` says that the
first `q` bytes of the device are `L` (the LIVE part) and that at most `r` bytes follow them.
-/

namespace ZipVerif.WL
open ZipVerif ZipVerif.Model

/-! ### The live part of a device -/

structure LiveAt (d : Dev) (q : Nat) (L : Bytes) (r : Nat) : Prop where
  le : q ≤ d.buf.length
  eq : d.buf.take q = L
  rest : d.buf.length ≤ q + r

theorem LiveAt.length {d : Dev} {q : Nat} {L : Bytes} {r : Nat} (h : LiveAt d q L r) : L.length = q := by
  rw [← h.eq, List.length_take]; exact Nat.min_eq_left h.le

theorem LiveAt.congr {d d' : Dev} {q : Nat} {L : Bytes} {r : Nat} (h : LiveAt d q L r)
    (hb : d'.buf = d.buf) : LiveAt d' q L r := ⟨hb ▸ h.le, hb ▸ h.eq, hb ▸ h.rest⟩

theorem LiveAt.cast {d : Dev} {q : Nat} {L L' : Bytes} {r : Nat} (h : LiveAt d q L r) (e : L = L') :
    LiveAt d q L' r := e ▸ h

theorem LiveAt.castPos {d : Dev} {q q' : Nat} {L : Bytes} {r : Nat} (h : LiveAt d q L r) (e : q = q') :
    LiveAt d q' L r := e ▸ h

theorem LiveAt.append {d d' : Dev} {q : Nat} {L : Bytes} {r : Nat} (h : LiveAt d q L r) (bs : Bytes)
    (hb : d'.buf = writeAt d.buf q bs) : LiveAt d' (q + bs.length) (L ++ bs) r := by
  refine ⟨?_, ?_, ?_⟩
  · rw [hb]; exact writeAt_length_ge _ _ bs
  · rw [hb, writeAt_take_append bs h.le, h.eq]
  · rw [hb]; exact writeAt_length_le bs h.rest

theorem LiveAt.patch {d d' : Dev} {q : Nat} {L : Bytes} {r : Nat} (h : LiveAt d q L r) {p : Nat}
    {bs : Bytes} (hp : p + bs.length ≤ q) (hb : d'.buf = writeAt d.buf p bs) :
    LiveAt d' q (writeAt L p bs) r := by
  refine ⟨?_, ?_, ?_⟩
  · rw [hb, writeAt_length_inside (by have := h.le; omega)]; exact h.le
  · rw [hb, writeAt_take_inside hp h.le, h.eq]
  · rw [hb, writeAt_length_inside (by have := h.le; omega)]; exact h.rest

theorem LiveAt.buf_eq {d : Dev} {q : Nat} {L : Bytes} {r : Nat} (h : LiveAt d q L r) :
    d.buf = L ++ d.buf.drop q := by
  rw [← h.eq, List.take_append_drop]

theorem LiveAt.buf_eq_of_zero {d : Dev} {q : Nat} {L : Bytes} (h : LiveAt d q L 0) : d.buf = L := by
  rw [← h.eq, List.take_of_length_le]
  have := h.rest
  omega

/-! ### Device primitives with their effect on the contents -/

theorem MSat.prim' {α} {f : Dev → Out α × Dev} {fa d} {Q : α → Dev → Prop}
    (h : ∀ d1, d1.pos = d.pos → d1.buf = d.buf → match f d1 with
      | (.ok a, d') => Q a d'
      | (.err _, _) => False
      | (.panic _, _) => False) : MSat (M.prim f) fa d Q := by
  unfold MSat M.prim
  by_cases hf : fa = some d.calls
  · simp only [hf, if_true]; exact fun h => by cases h
  · simp only [hf, if_false]
    have := h { d with calls := d.calls + 1 } rfl rfl
    split at this <;> simp_all

theorem MSat.write_buf (bs : Bytes) (fa d) :
    MSat (M.write bs) fa d (fun _ d' => d'.pos = d.pos + bs.length ∧ d'.buf = writeAt d.buf d.pos bs) := by
  apply MSat.prim'
  intro d1 h1 h2
  simp only [h1, h2, and_self]

theorem MSat.seekStart_buf (n : Nat) (fa d) :
    MSat (M.seek (.start n)) fa d (fun r d' => r = n ∧ d'.pos = n ∧ d'.buf = d.buf) := by
  apply MSat.prim'
  intro d1 _ h2
  have : ¬ ((n : Int) < 0) := by omega
  simp only [this, if_false, Int.toNat_natCast, h2, and_self]

theorem MSat.streamPosition_buf (fa d) :
    MSat M.streamPosition fa d (fun r d' => r = d.pos ∧ d'.pos = d.pos ∧ d'.buf = d.buf) := by
  apply MSat.prim'
  intro d1 h1 h2
  have : ¬ ((d1.pos : Int) + 0 < 0) := by omega
  simp only [Int.add_zero, Int.toNat_natCast, h1, h2, and_self]

theorem MSat.writeAll_buf (bs : Bytes) (fa d) :
    MSat (M.writeAll bs) fa d (fun _ d' => d'.pos = d.pos + bs.length ∧
      (d.pos ≤ d.buf.length → d'.buf = writeAt d.buf d.pos bs)) := by
  unfold M.writeAll
  split
  · next h =>
    apply MSat.pure
    have : bs = [] := List.isEmpty_iff.mp h
    subst this
    exact ⟨by simp, fun hp => (writeAt_nil hp).symm⟩
  · apply MSat.bind
    apply MSat.mono (MSat.write_buf bs fa d)
    intro _ d' h
    exact MSat.pure ⟨h.1, fun _ => h.2⟩

theorem MSat.writeAll_append (bs : Bytes) (fa) {d : Dev} {L : Bytes} {r : Nat}
    (h : LiveAt d d.pos L r) :
    MSat (M.writeAll bs) fa d (fun _ d' => d'.pos = d.pos + bs.length ∧
      LiveAt d' (d.pos + bs.length) (L ++ bs) r) := by
  apply MSat.mono (MSat.writeAll_buf bs fa d)
  intro _ d' ⟨h1, h2⟩
  exact ⟨h1, h.append bs (h2 h.le)⟩

theorem MSat.writeAll_patch (bs : Bytes) (fa) {d : Dev} {q : Nat} {L : Bytes} {r : Nat}
    (h : LiveAt d q L r) (hp : d.pos + bs.length ≤ q) :
    MSat (M.writeAll bs) fa d (fun _ d' => d'.pos = d.pos + bs.length ∧
      LiveAt d' q (writeAt L d.pos bs) r) := by
  apply MSat.mono (MSat.writeAll_buf bs fa d)
  intro _ d' ⟨h1, h2⟩
  exact ⟨h1, h.patch hp (h2 (by have := h.le; omega))⟩

theorem MSat.writeChunks_append (cs : List Bytes) (fa) {d : Dev} {L : Bytes} {r : Nat}
    (h : LiveAt d d.pos L r) :
    MSat (M.writeChunks cs) fa d (fun _ d' => d'.pos = d.pos + (ser cs).length ∧
      LiveAt d' (d.pos + (ser cs).length) (L ++ ser cs) r) := by
  induction cs generalizing d L with
  | nil =>
    apply MSat.pure
    simp only [ser, List.flatten_nil, List.length_nil, Nat.add_zero, List.append_nil]
    exact ⟨trivial, h⟩
  | cons c cs ih =>
    unfold M.writeChunks
    apply MSat.bind
    apply MSat.mono (MSat.writeAll_append c fa h)
    intro _ d' ⟨h1, h2⟩
    rw [← h1] at h2
    apply MSat.mono (ih h2)
    intro _ d'' ⟨h3, h4⟩
    simp only [ser, List.flatten_cons, List.length_append] at h3 h4 ⊢
    refine ⟨by omega, ?_⟩
    rw [List.append_assoc] at h4
    exact h4.castPos (by omega)

theorem MSat.seekStart_live (n : Nat) (fa) {d : Dev} {q : Nat} {L : Bytes} {r : Nat}
    (h : LiveAt d q L r) :
    MSat (M.seek (.start n)) fa d (fun v d' => v = n ∧ d'.pos = n ∧ LiveAt d' q L r) := by
  apply MSat.mono (MSat.seekStart_buf n fa d)
  intro _ d' ⟨h1, h2, h3⟩
  exact ⟨h1, h2, h.congr h3⟩

theorem MSat.streamPosition_live (fa) {d : Dev} {q : Nat} {L : Bytes} {r : Nat}
    (h : LiveAt d q L r) :
    MSat M.streamPosition fa d (fun v d' => v = d.pos ∧ d'.pos = d.pos ∧ LiveAt d' q L r) := by
  apply MSat.mono (MSat.streamPosition_buf fa d)
  intro _ d' ⟨h1, h2, h3⟩
  exact ⟨h1, h2, h.congr h3⟩

end ZipVerif.WL
