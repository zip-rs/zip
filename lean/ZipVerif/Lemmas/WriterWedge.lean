import ZipVerif.Lemmas.WriterTrack
/-
The writer after `end_extra_data` (explicit, or implicit in `start_*` / `finish`) refused the extra data
of the open entry: what state it is in (`Wedged`) and what a later call does (C17 / C12) - `end_extra_data`,
`end_local_start_central_extra_data`, `finish_file`, the `start_file*` calls, `finish` (name resp. comment of at most
65535 bytes) return the same error and change nothing; a `write` succeeds and appends to the rejected field.  Not covered: `add_directory`, `add_symlink`, raw copies,
`set_comment`, `flush`, `Drop`.
-/

namespace ZipVerif.Model
open ZipVerif

/-- **The wedged writer**: still in extra-field mode, not closed, and `validate_extra_data` refuses the
open entry's extra field with `e`. -/
structure Wedged (s : WState) (e : ZErr) : Prop where
  inExtra : s.writingToExtraField = true
  notClosed : s.inner.isClosed = false
  refused : ∃ file, s.files.getLast? = some file ∧ validateExtraData file = .error e

/-- `end_extra_data` on data that does not validate returns the validation error and changes nothing —
neither the writer (still in extra-field mode, the rejected bytes still in `extra_field`) nor the sink. -/
theorem endExtraData_wedged (ext : WExt) {s : WState} {e : ZErr} (h : Wedged s e) :
    endExtraData ext s = pure (.error e, s) := by
  obtain ⟨file, hl, hv⟩ := h.refused
  unfold endExtraData
  simp only [h.inExtra, h.notClosed, Bool.not_true, Bool.false_eq_true, if_false, hl, hv]

theorem endLocalStartCentral_wedged (ext : WExt) {s : WState} {e : ZErr} (h : Wedged s e) :
    endLocalStartCentral ext s = pure (.error e, s) :=
  M.error_bind (endExtraData_wedged ext h) fun _ _ => rfl

theorem finishFile_wedged (ext : WExt) {s : WState} {e : ZErr} (h : Wedged s e) :
    finishFile ext s = pure (.error e, s) := by
  rw [finishFile_eq, h.inExtra, if_pos rfl]
  exact M.error_bind (M.error_bind (endExtraData_wedged ext h) fun _ _ => rfl) fun _ _ => rfl

theorem startEntry_wedged (ext : WExt) (name : Bytes) (o : FileOptions) (raw) {s : WState} {e : ZErr}
    (h : Wedged s e) (hn : name.length ≤ 65535) : startEntry ext name o raw s = pure (.error e, s) := by
  unfold startEntry
  rw [if_neg (Nat.not_lt.mpr hn)]
  exact M.error_bind (finishFile_wedged ext h) fun _ _ => rfl

theorem startFile_wedged (ext : WExt) (name : Bytes) (o : FileOptions) {s : WState} {e : ZErr}
    (h : Wedged s e) (hn : name.length ≤ 65535) : startFile ext name o s = pure (.error e, s) :=
  M.error_bind (startEntry_wedged ext _ _ _ h hn) fun _ _ => rfl

theorem startFileWithExtraData_wedged (ext : WExt) (name : Bytes) (o : FileOptions) {s : WState} {e : ZErr}
    (h : Wedged s e) (hn : name.length ≤ 65535) :
    startFileWithExtraData ext name o s = pure (.error e, s) :=
  M.error_bind (startEntry_wedged ext _ _ _ h hn) fun _ _ => rfl

theorem startFileAligned_wedged (ext : WExt) (name : Bytes) (o : FileOptions) (al : UInt16) {s : WState}
    {e : ZErr} (h : Wedged s e) (hn : name.length ≤ 65535) :
    startFileAligned ext name o al s = pure (.error e, s) :=
  M.error_bind (startFileWithExtraData_wedged ext _ _ h hn) fun _ _ => rfl

theorem finalize_wedged (ext : WExt) {s : WState} {e : ZErr} (h : Wedged s e)
    (hc : s.comment.length ≤ 65535) : finalize ext s = pure (.error e, s) := by
  unfold finalize
  rw [if_neg (Nat.not_lt.mpr hc)]
  exact M.error_bind (finishFile_wedged ext h) fun _ _ => rfl

/-- `finish()` of a wedged writer fails with the SAME error and leaves the writer wedged: nothing is
written, the entries written earlier never get their central directory. -/
theorem finish_wedged (ext : WExt) {s : WState} {e : ZErr} (h : Wedged s e)
    (hc : s.comment.length ≤ 65535) : finish ext s = pure (.error e, s) :=
  M.error_bind (finalize_wedged ext h hc) fun _ _ => rfl

/-- A `write` on a wedged writer reports success and appends to the REJECTED extra field (it does not
reach the sink and is not counted as entry data). -/
theorem writeData_wedged (buf : Bytes) {s : WState} {e : ZErr} (h : Wedged s e)
    (hw : s.writingToFile = true) :
    ∃ f, s.files.getLast? = some f ∧
      writeData buf s = pure (.ok (), { s with files := setLast s.files { f with extraField := f.extraField ++ buf } }) := by
  obtain ⟨file, hl, _⟩ := h.refused
  refine ⟨file, hl, writeData_extra hw h.inExtra (fun hi => ?_) hl buf⟩
  have := h.notClosed
  rw [hi] at this
  cases this

end ZipVerif.Model
