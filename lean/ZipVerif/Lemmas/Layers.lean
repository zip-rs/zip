import ZipVerif.Model.Layers
/-
Lemmas about the sources, denotations and layers of `Model/Layers.lean` (C04, C09, C15, C16).  A reader denotes a byte
stream when an invariant of its steps says so (`Denotes.of_invariant`); the sources (`prefixSrc_denotes`,
`scripted_denotes`) and each layer as a transformer of denotations (`take_denotes`, `crc_denotes`, `map_layer_denotes`
for the per-byte transforms `mapBytes` / `mapKey`, with `mapBytes_inverse`); what a denotation lets a caller observe
(`readToEnd_run`, `readExact_denotes`).  Also here: the writer side (`write_all` over a `ZipWriter` sink and over the scripted
sink), `ZipCryptoReader::validate`, and the example codecs against the chunk-independence hypothesis on decoders.
-/

namespace ZipVerif.Model.Layers
open ZipVerif ZipVerif.Spec

variable {σ : Type}

/-! ### Unfolding `Conforms` -/

theorem conforms_ok {src : Src σ} {o : Term} {s s' : σ} {rest bs : Bytes} {n : Nat} {ns : List Nat}
    (e : src.rd s n = (.ok bs, s')) :
    Conforms src o s rest (n :: ns) ↔
      (bs.length ≤ n ∧ bs <+: rest ∧ (0 < n → bs = [] → rest = [] ∧ o = .eof) ∧
        Conforms src o s' (rest.drop bs.length) ns) := by
  simp only [Conforms, e]

theorem conforms_err {src : Src σ} {o : Term} {s s' : σ} {rest : Bytes} {n : Nat} {ns : List Nat}
    {e' : IoKind} (e : src.rd s n = (.err e', s')) :
    Conforms src o s rest (n :: ns) ↔ (rest = [] ∧ o = .err e') := by
  simp only [Conforms, e]

theorem conforms_panic {src : Src σ} {o : Term} {s s' : σ} {rest : Bytes} {n : Nat} {ns : List Nat}
    (e : src.rd s n = (.panic, s')) :
    Conforms src o s rest (n :: ns) ↔ False := by
  simp only [Conforms, e]

theorem Denotes.step {src : Src σ} {s : σ} {rest : Bytes} {o : Term} (h : Denotes src s rest o) (n : Nat) :
    (∃ bs s' r', src.rd s n = (.ok bs, s') ∧ bs.length ≤ n ∧ (0 < n → bs = [] → rest = [] ∧ o = .eof) ∧
        rest = bs ++ r' ∧ Denotes src s' r' o) ∨
    (∃ e s', src.rd s n = (.err e, s') ∧ rest = [] ∧ o = .err e) := by
  match e : src.rd s n with
  | (.ok bs, s') =>
    obtain ⟨hl, ⟨r', hr'⟩, hz, _⟩ := (conforms_ok e).mp (h [n])
    refine Or.inl ⟨bs, s', r', rfl, hl, hz, hr'.symm, fun ns => ?_⟩
    have h2 := ((conforms_ok e).mp (h (n :: ns))).2.2.2
    rwa [← hr', List.drop_left] at h2
  | (.err e', s') => exact Or.inr ⟨e', s', rfl, (conforms_err e).mp (h [n])⟩
  | (.panic, s') => exact ((conforms_panic e).mp (h [n])).elim

/-- Coinduction principle: any step-closed invariant gives a denotation. -/
theorem Denotes.of_invariant {src : Src σ} {o : Term} (P : σ → Bytes → Prop)
    (hstep : ∀ s rest n, P s rest → StepOK src o P s rest n)
    {s : σ} {B : Bytes} (h0 : P s B) : Denotes src s B o := by
  intro reqs
  induction reqs generalizing s B with
  | nil => trivial
  | cons n ns ih =>
    obtain ⟨hok, herr, hpanic⟩ := hstep s B n h0
    match e : src.rd s n with
    | (.ok bs, s') =>
      obtain ⟨hl, hz, r', hr', hP⟩ := hok bs s' e
      rw [conforms_ok e]
      refine ⟨hl, ⟨r', hr'.symm⟩, hz, ?_⟩
      rw [hr', List.drop_left]
      exact ih hP
    | (.err e', s') =>
      rw [conforms_err e]
      exact herr e' s' e
    | (.panic, s') => exact absurd e (hpanic s')


theorem stepOK_of_ok {src : Src σ} {o : Term} {P : σ → Bytes → Prop} {s s' : σ} {rest bs : Bytes}
    {n : Nat} (e : src.rd s n = (.ok bs, s')) (h1 : bs.length ≤ n)
    (h2 : 0 < n → bs = [] → rest = [] ∧ o = .eof) (h3 : ∃ rest', rest = bs ++ rest' ∧ P s' rest') :
    StepOK src o P s rest n := by
  refine ⟨?_, ?_, ?_⟩
  · intro bs2 s2 e2
    rw [e] at e2
    cases e2
    exact ⟨h1, h2, h3⟩
  · intro e' s2 e2
    rw [e] at e2
    cases e2
  · intro s2 e2
    rw [e] at e2
    cases e2

theorem stepOK_of_err {src : Src σ} {o : Term} {P : σ → Bytes → Prop} {s s' : σ} {rest : Bytes}
    {n : Nat} {e' : IoKind} (e : src.rd s n = (.err e', s')) (h : rest = [] ∧ o = .err e') :
    StepOK src o P s rest n := by
  refine ⟨?_, ?_, ?_⟩
  · intro bs2 s2 e2
    rw [e] at e2
    cases e2
  · intro e2' s2 e2
    rw [e] at e2
    cases e2
    exact h
  · intro s2 e2
    rw [e] at e2
    cases e2

theorem prefixSrc_denotes (src : Src σ) (view : σ → Bytes)
    (h : ∀ s n, ∃ k s', src.rd s n = (.ok ((view s).take k), s') ∧ k ≤ n ∧
      (0 < n → view s ≠ [] → 0 < k) ∧ view s' = (view s).drop k) (s : σ) :
    Denotes src s (view s) .eof := by
  apply Denotes.of_invariant (fun s r => r = view s)
  · rintro s _ n rfl
    obtain ⟨k, s', e, hk, hpos, hv⟩ := h s n
    refine stepOK_of_ok e (Nat.le_trans (List.length_take_le _ _) hk) (fun hn hb => ⟨?_, rfl⟩)
      ⟨(view s).drop k, (List.take_append_drop k _).symm, hv.symm⟩
    rcases List.take_eq_nil_iff.mp hb with h0 | h0
    · exact Classical.byContradiction fun hne => absurd h0 (Nat.ne_of_gt (hpos hn hne))
    · exact h0
  · rfl

/-! ### `Take` -/

theorem take_denotes (inner : Src σ) {s : σ} {B : Bytes} {o : Term} (lim : Nat)
    (h : Denotes inner s B o) :
    Denotes (take inner) (s, lim) (takeBytes lim B) (takeTerm lim B o) := by
  -- last clause: the limit left lies within the bytes left iff the original one did, which is what `takeTerm` asks
  apply Denotes.of_invariant
    (fun st rest => ∃ r, Denotes inner st.1 r o ∧ rest = r.take st.2 ∧
      (st.2 ≤ r.length ↔ lim ≤ B.length))
  · rintro ⟨si, l⟩ rest n ⟨r, hd, hrest, hiff⟩
    simp only at hd hrest hiff
    by_cases hl : l = 0
    · subst hl
      have e : (take inner).rd (si, 0) n = (.ok [], (si, 0)) := by simp [take]
      refine stepOK_of_ok e (Nat.zero_le _) ?_ ⟨rest, rfl, r, hd, hrest, hiff⟩
      intro _ _
      refine ⟨by rw [hrest]; rfl, ?_⟩
      have : lim ≤ B.length := hiff.mp (Nat.zero_le _)
      simp [takeTerm, this]
    · rcases hd.step (min n l) with ⟨bs, s', r', e, hlen, hz, hr', hd'⟩ | ⟨e', s', e, hr0, ho⟩
      · have hbl : bs.length ≤ l := Nat.le_trans hlen (Nat.min_le_right _ _)
        have e2 : (take inner).rd (si, l) n = (.ok bs, (s', l - bs.length)) := by
          simp only [take, if_neg hl, e, if_pos hbl]
        refine stepOK_of_ok e2 (Nat.le_trans hlen (Nat.min_le_left _ _)) ?_ ⟨r'.take (l - bs.length), ?_, r', hd', rfl, ?_⟩
        · intro hn hb
          obtain ⟨hr0, ho⟩ := hz (Nat.lt_min.mpr ⟨hn, Nat.pos_of_ne_zero hl⟩) hb
          exact ⟨by rw [hrest, hr0, List.take_nil], by rw [ho]; exact ite_self _⟩
        · rw [hrest, hr', List.take_append, List.take_of_length_le hbl]
        · rw [← hiff, hr', List.length_append]
          exact Nat.sub_le_iff_le_add'
      · have e2 : (take inner).rd (si, l) n = (.err e', (s', l)) := by
          simp only [take, if_neg hl, e]
        refine stepOK_of_err e2 ⟨by rw [hrest, hr0, List.take_nil], ?_⟩
        have : ¬ lim ≤ B.length := by
          rw [← hiff, hr0]
          exact fun h => hl (Nat.le_zero.mp h)
        rw [takeTerm, if_neg this, ho]
  · exact ⟨B, h, rfl, Iff.rfl⟩


theorem take_denotes_eof (inner : Src σ) {s : σ} {B : Bytes} (lim : Nat) (h : Denotes inner s B .eof) :
    Denotes (take inner) (s, lim) (B.take lim) .eof := by
  have := take_denotes inner lim h
  rwa [takeTerm, ite_self] at this

/-! ### CRC layer -/

theorem crcLayer_rd_zero {inner : Src σ} {check : UInt32} {ae2 : Bool} (st : σ × UInt32) :
    (crcLayer inner check ae2).rd st 0 = (.ok [], st) :=
  rfl

theorem crcLayer_rd_ok {inner : Src σ} {check : UInt32} {ae2 : Bool} {si s' : σ} {reg : UInt32}
    {n : Nat} {bs : Bytes} (hn : n ≠ 0) (e : inner.rd si n = (.ok bs, s')) :
    (crcLayer inner check ae2).rd (si, reg) n =
      if bs = [] ∧ check ≠ Crc32.finalize reg ∧ ae2 = false then (.err .other, (s', reg))
      else if bs.length ≤ n then (.ok bs, (s', Crc32.updateBytes reg bs))
      else (.panic, (s', reg)) := by
  unfold crcLayer
  dsimp only
  rw [if_neg hn, e]
  refine ite_congr ?_ (fun _ => rfl) (fun _ => rfl)
  simp only [Bool.and_eq_true, List.isEmpty_iff, bne_iff_ne, ne_eq, Bool.not_eq_true']

theorem crcLayer_rd_err {inner : Src σ} {check : UInt32} {ae2 : Bool} {si s' : σ} {reg : UInt32}
    {n : Nat} {e' : IoKind} (hn : n ≠ 0) (e : inner.rd si n = (.err e', s')) :
    (crcLayer inner check ae2).rd (si, reg) n = (.err e', (s', reg)) := by
  unfold crcLayer
  dsimp only
  rw [if_neg hn, e]

theorem crcLayer_rd_panic {inner : Src σ} {check : UInt32} {ae2 : Bool} {si s' : σ} {reg : UInt32}
    {n : Nat} (hn : n ≠ 0) (e : inner.rd si n = (.panic, s')) :
    (crcLayer inner check ae2).rd (si, reg) n = (.panic, (s', reg)) := by
  unfold crcLayer
  dsimp only
  rw [if_neg hn, e]

theorem guardZero_rd_pos (src : Src σ) (s : σ) {n : Nat} (hn : n ≠ 0) :
    (guardZero src).rd s n = src.rd s n := by
  simp [guardZero, hn]

/-- The CRC layer needs its inner reader to be well behaved on NON-EMPTY requests only. -/
theorem crc_denotes_nz (inner : Src σ) (check : UInt32) (ae2 : Bool) {s : σ} {B : Bytes} {o : Term}
    (h : Denotes (guardZero inner) s B o) :
    Denotes (crcLayer inner check ae2) (s, Crc32.init) B (crcTerm check ae2 B o) := by
  apply Denotes.of_invariant
    (fun st rest => ∃ done, Denotes (guardZero inner) st.1 rest o ∧ done ++ rest = B ∧
      st.2 = Crc32.updateBytes Crc32.init done)
  · rintro ⟨si, reg⟩ rest n ⟨done, hd, hB, hreg⟩
    simp only at hd hreg
    by_cases hn0 : n = 0
    · subst hn0
      exact stepOK_of_ok (crcLayer_rd_zero _) (Nat.le_refl _) (fun h => absurd h (Nat.lt_irrefl 0))
        ⟨rest, rfl, done, hd, hB, hreg⟩
    rcases hd.step n with ⟨bs, s', r', e, hlen, hz, hr', hd'⟩ | ⟨e', s', e, hr0, ho⟩ <;>
      rw [guardZero_rd_pos inner si hn0] at e
    · have hv := crcLayer_rd_ok (check := check) (ae2 := ae2) (reg := reg) hn0 e
      by_cases hc : bs = [] ∧ check ≠ Crc32.finalize reg ∧ ae2 = false
      · rw [if_pos hc] at hv
        obtain ⟨hb, hne, hae⟩ := hc
        obtain ⟨hr0, ho⟩ := hz (Nat.pos_of_ne_zero hn0) hb
        refine stepOK_of_err hv ⟨hr0, ?_⟩
        have hdone : done = B := by rw [← hB, hr0, List.append_nil]
        have hcrc : Crc32.crc32 B ≠ check := by
          rw [Crc32.crc32_eq_finalize, ← hdone, ← hreg]
          exact fun h => hne h.symm
        simp [crcTerm, ho, hae, hcrc]
      · rw [if_neg hc, if_pos hlen] at hv
        refine stepOK_of_ok hv hlen ?_ ⟨r', hr', done ++ bs, hd', ?_, ?_⟩
        · intro hn hb
          obtain ⟨hr0, ho⟩ := hz hn hb
          refine ⟨hr0, ?_⟩
          have hdone : done = B := by rw [← hB, hr0, List.append_nil]
          have : ae2 = true ∨ Crc32.crc32 B = check := by
            rw [Crc32.crc32_eq_finalize, ← hdone, ← hreg]
            cases hae : ae2
            · right
              apply Classical.byContradiction
              intro hne
              exact hc ⟨hb, fun h => hne h.symm, hae⟩
            · left; rfl
          simp only [crcTerm, ho]
          rw [if_pos this]
        · rw [List.append_assoc, ← hr', hB]
        · simp only
          rw [Crc32.updateBytes_append, ← hreg]
    · exact stepOK_of_err (crcLayer_rd_err hn0 e) ⟨hr0, by rw [ho]; rfl⟩
  · exact ⟨[], h, rfl, rfl⟩

/-! ### Per-byte stateful transforms (ZipCrypto, AES-CTR style) -/

variable {κ : Type}

@[simp] theorem mapBytes_nil (f : κ → UInt8 → UInt8 × κ) (k : κ) : mapBytes f k [] = [] := rfl
@[simp] theorem mapKey_nil (f : κ → UInt8 → UInt8 × κ) (k : κ) : mapKey f k [] = k := rfl

theorem mapKey_cons (f : κ → UInt8 → UInt8 × κ) (k : κ) (b : UInt8) (bs : Bytes) :
    mapKey f k (b :: bs) = mapKey f (f k b).2 bs := rfl

@[simp] theorem mapBytes_length (f : κ → UInt8 → UInt8 × κ) (k : κ) (bs : Bytes) :
    (mapBytes f k bs).length = bs.length := by
  induction bs generalizing k with
  | nil => rfl
  | cons b bs ih => simp [mapBytes, ih]

theorem mapBytes_eq_nil (f : κ → UInt8 → UInt8 × κ) (k : κ) (bs : Bytes) :
    mapBytes f k bs = [] ↔ bs = [] := by
  cases bs <;> simp [mapBytes]

theorem mapBytes_append (f : κ → UInt8 → UInt8 × κ) (k : κ) (xs ys : Bytes) :
    mapBytes f k (xs ++ ys) = mapBytes f k xs ++ mapBytes f (mapKey f k xs) ys := by
  induction xs generalizing k with
  | nil => rfl
  | cons b bs ih => simp [mapBytes, mapKey_cons, ih]

theorem mapKey_append (f : κ → UInt8 → UInt8 × κ) (k : κ) (xs ys : Bytes) :
    mapKey f k (xs ++ ys) = mapKey f (mapKey f k xs) ys := by
  simp [mapKey, List.foldl_append]

/-- If `g` undoes `f` byte by byte and leaves the same state, it undoes it on streams. -/
theorem mapBytes_inverse {f g : κ → UInt8 → UInt8 × κ} (h : ∀ k b, g k (f k b).1 = (b, (f k b).2)) (k : κ)
    (bs : Bytes) : mapBytes g k (mapBytes f k bs) = bs ∧ mapKey g k (mapBytes f k bs) = mapKey f k bs := by
  induction bs generalizing k with
  | nil => exact ⟨rfl, rfl⟩
  | cons b bs ih => simp only [mapBytes, mapKey_cons, h, ih]; exact ⟨trivial, trivial⟩

theorem map_layer_denotes (f : κ → UInt8 → UInt8 × κ) (inner : Src σ) (k : κ) {s : σ} {B : Bytes}
    {o : Term} (h : Denotes inner s B o) :
    Denotes (statefulMapLayer f inner) (s, k) (mapBytes f k B) o := by
  apply Denotes.of_invariant
    (fun st rest => ∃ r, Denotes inner st.1 r o ∧ rest = mapBytes f st.2 r)
  · rintro ⟨si, ki⟩ rest n ⟨r, hd, hrest⟩
    simp only at hd hrest
    rcases hd.step n with ⟨bs, s', r', e, hlen, hz, hr', hd'⟩ | ⟨e', s', e, hr0, ho⟩
    · have hv : (statefulMapLayer f inner).rd (si, ki) n =
          (.ok (mapBytes f ki bs), (s', mapKey f ki bs)) := by
        simp only [statefulMapLayer, e, if_pos hlen]
      refine stepOK_of_ok hv (by rw [mapBytes_length]; exact hlen) ?_
        ⟨mapBytes f (mapKey f ki bs) r', ?_, r', hd', rfl⟩
      · intro hn hb
        obtain ⟨hr0, ho⟩ := hz hn ((mapBytes_eq_nil f ki bs).mp hb)
        exact ⟨by rw [hrest, hr0]; rfl, ho⟩
      · rw [hrest, hr', mapBytes_append]
    · have hv : (statefulMapLayer f inner).rd (si, ki) n = (.err e', (s', ki)) := by
        simp only [statefulMapLayer, e]
      exact stepOK_of_err hv ⟨by rw [hrest, hr0]; rfl, ho⟩
  · exact ⟨B, h, rfl⟩

/-! ### The scripted source denotes its data -/

theorem chunk_bounds (nx : Option Nat) {n : Nat} (hn : 0 < n) : 1 ≤ chunk nx n ∧ chunk nx n ≤ n := by
  cases nx with
  | none => exact ⟨hn, Nat.le_refl _⟩
  | some k => exact ⟨Nat.le_min.mpr ⟨hn, Nat.le_max_right k 1⟩, Nat.min_le_left ..⟩

theorem scripted_denotes (st : Scripted) : Denotes scripted st st.rest st.term := by
  apply Denotes.of_invariant (o := st.term)
    (fun s rest => rest = s.rest ∧ s.fail = st.fail)
  · rintro s rest n ⟨hrest, hfail⟩
    subst hrest
    by_cases hn : n = 0
    · have e : scripted.rd s n = (.ok [], s) := if_pos hn
      exact stepOK_of_ok e (Nat.zero_le _) (fun h => absurd hn (Nat.ne_of_gt h)) ⟨s.rest, rfl, rfl, hfail⟩
    · by_cases hr : s.rest = []
      · cases hf : s.fail with
        | none =>
          have e : scripted.rd s n = (.ok [], s) := by simp only [scripted, if_neg hn, if_pos hr, hf]
          refine stepOK_of_ok e (Nat.zero_le _) ?_ ⟨s.rest, rfl, rfl, hfail⟩
          intro _ _
          refine ⟨hr, ?_⟩
          simp [Scripted.term, ← hfail, hf]
        | some e' =>
          have e : scripted.rd s n = (.err e', s) := by simp only [scripted, if_neg hn, if_pos hr, hf]
          refine stepOK_of_err e ⟨hr, ?_⟩
          simp [Scripted.term, ← hfail, hf]
      · generalize hm : chunk s.next.1 n = m
        have hm1 : 1 ≤ m ∧ m ≤ n := by
          subst hm
          exact chunk_bounds _ (Nat.pos_of_ne_zero hn)
        have e : scripted.rd s n =
            (.ok (s.rest.take m), { s with rest := s.rest.drop m, cur := s.next.2 }) := by
          simp only [scripted, if_neg hn, if_neg hr, hm]
        refine stepOK_of_ok e ?_ ?_ ⟨s.rest.drop m, (List.take_append_drop m s.rest).symm, rfl, hfail⟩
        · rw [List.length_take]; exact Nat.le_trans (Nat.min_le_left ..) hm1.2
        · intro _ hb
          exfalso
          cases hs : s.rest with
          | nil => exact hr hs
          | cons a t =>
            rw [hs] at hb
            obtain ⟨m', rfl⟩ : ∃ m', m = m' + 1 := ⟨m - 1, (Nat.sub_add_cancel hm1.1).symm⟩
            simp at hb
  · exact ⟨rfl, rfl⟩

/-! ### Observable consequences of a denotation -/

theorem eof_sticky {src : Src σ} {s : σ} (h : Denotes src s [] .eof) (n : Nat) :
    ∃ s', src.rd s n = (.ok [], s') ∧ Denotes src s' [] .eof := by
  rcases h.step n with ⟨bs, s', r', e, _, _, hr', hd'⟩ | ⟨_, _, _, _, ho⟩
  · obtain ⟨rfl, rfl⟩ := List.append_eq_nil_iff.mp hr'.symm
    exact ⟨s', e, hd'⟩
  · cases ho

theorem eof_sticky_run {src : Src σ} {s : σ} (h : Denotes src s [] .eof) (reqs : List Nat) :
    ∀ r ∈ (run src s reqs).1, r = .ok [] := by
  induction reqs generalizing s with
  | nil => intro r hr; cases hr
  | cons n ns ih =>
    obtain ⟨s', e, hd'⟩ := eof_sticky h n
    intro r hr
    simp only [run, e, List.mem_cons] at hr
    rcases hr with rfl | hr
    · rfl
    · exact ih hd' r hr

/-- **Every schedule reads the same thing.** If a read-to-end loop with *any* list of buffer sizes
terminates, it has returned exactly `B` and ended the way the denotation says; after a clean EOF the
source is in an EOF-forever state. -/
theorem denotes_readToEnd {src : Src σ} {s : σ} {B : Bytes} {o : Term} (h : Denotes src s B o)
    {reqs : List Nat} {b : Bytes} {t : Term} {s' : σ}
    (hr : readToEnd src s reqs = some (b, t, s')) :
    b = B ∧ t = o ∧ (t = .eof → Denotes src s' [] .eof) := by
  induction reqs generalizing s B b t s' with
  | nil => cases hr
  | cons n ns ih =>
    rcases h.step n with ⟨bs, s1, r', e, _, hz, hr', hd'⟩ | ⟨e', s1, e, hB, ho⟩
    · simp only [readToEnd, e] at hr
      by_cases hc : 0 < n ∧ bs = []
      · rw [if_pos hc] at hr
        cases hr
        obtain ⟨hB, ho⟩ := hz hc.1 hc.2
        rw [hB, hc.2] at hr'
        rw [(List.append_eq_nil_iff.mp hr'.symm).2, ho] at hd'
        exact ⟨hB.symm, ho.symm, fun _ => hd'⟩
      · rw [if_neg hc] at hr
        rcases e2 : readToEnd src s1 ns with _ | ⟨b2, t2, s2⟩
        · rw [e2] at hr; cases hr
        · rw [e2] at hr
          cases hr
          obtain ⟨h1, h2, h3⟩ := ih hd' e2
          exact ⟨by rw [hr', h1], h2, h3⟩
    · simp only [readToEnd, e] at hr
      cases hr
      exact ⟨hB.symm, ho.symm, fun h => by cases h⟩

theorem readToEnd_run {src : Src σ} {s : σ} {reqs : List Nat} {b : Bytes} {t : Term} {s' : σ}
    (h : readToEnd src s reqs = some (b, t, s')) :
    ∃ pre n, b = delivered (run src s pre).1 ∧
      match t with
      | .eof => 0 < n ∧ src.rd (run src s pre).2 n = (.ok [], s')
      | .err e => src.rd (run src s pre).2 n = (.err e, s') := by
  induction reqs generalizing s b with
  | nil => cases h
  | cons m ms ih =>
    simp only [readToEnd] at h
    rcases e : src.rd s m with ⟨bs | e' | _, s1⟩
    · rw [e] at h
      simp only at h
      by_cases hc : 0 < m ∧ bs = []
      · rw [if_pos hc] at h
        cases h
        exact ⟨[], m, rfl, hc.1, by rw [← hc.2]; exact e⟩
      · rw [if_neg hc] at h
        rcases e2 : readToEnd src s1 ms with _ | ⟨b2, t2, s2⟩
        · rw [e2] at h; cases h
        · rw [e2] at h
          cases h
          obtain ⟨pre, n, hb, ht⟩ := ih e2
          refine ⟨m :: pre, n, ?_, ?_⟩
          · simp only [run, e, delivered]
            rw [hb]
          · simp only [run, e]
            exact ht
    · rw [e] at h
      cases h
      exact ⟨[], m, rfl, e⟩
    · rw [e] at h; cases h

def nonzero (reqs : List Nat) : Nat := (reqs.filter (0 < ·)).length

/-- **Progress.** A read-to-end loop terminates as soon as the schedule contains more than
`B.length` non-empty requests (each of them delivers at least one byte or ends the stream). -/
theorem denotes_readToEnd_terminates {src : Src σ} {s : σ} {B : Bytes} {o : Term}
    (h : Denotes src s B o) {reqs : List Nat} (hn : B.length < nonzero reqs) :
    (readToEnd src s reqs).isSome = true := by
  induction reqs generalizing s B with
  | nil => simp [nonzero] at hn
  | cons n ns ih =>
    rcases h.step n with ⟨bs, s1, r', e, _, hz, hr', hd'⟩ | ⟨e', s1, e, _, _⟩
    · simp only [readToEnd, e]
      by_cases hc : 0 < n ∧ bs = []
      · rw [if_pos hc]; rfl
      · rw [if_neg hc]
        have : r'.length < nonzero ns := by
          have hl : B.length = bs.length + r'.length := by rw [hr', List.length_append]
          by_cases h0 : 0 < n
          · have hb : bs ≠ [] := fun hb => hc ⟨h0, hb⟩
            have : 0 < bs.length := List.length_pos_iff.mpr hb
            simp [nonzero, h0] at hn
            simp only [nonzero]
            have h1 : r'.length + 1 ≤ B.length := by
              rw [hl, Nat.add_comm bs.length]; exact Nat.add_le_add_left this _
            exact Nat.lt_of_succ_lt_succ (Nat.lt_of_le_of_lt h1 hn)
          · simp [nonzero, h0] at hn
            simp only [nonzero]
            exact Nat.lt_of_le_of_lt (hl ▸ Nat.le_add_left _ _) hn
        have := ih hd' this
        simpa using this
    · simp only [readToEnd, e]; rfl


/-! ### `read_exact` -/

/-- The error `read_exact` reports when the stream ends early. -/
def exactErr : Term → IoKind
  | .eof => .unexpectedEof
  | .err e => e

theorem readExactAux_len (inner : Src σ) (fuel : Nat) (s : σ) (n : Nat) (bs : Bytes) (s' : σ)
    (h : readExactAux inner fuel s n = (.ok bs, s')) : bs.length = n := by
  induction fuel generalizing s n bs s' with
  | zero =>
    cases n with
    | zero => simp [readExactAux] at h; simp [h.1.symm]
    | succ n => simp [readExactAux] at h
  | succ f ih =>
    cases n with
    | zero => simp [readExactAux] at h; simp [h.1.symm]
    | succ n =>
      simp only [readExactAux] at h
      rcases hr : inner.rd s (n + 1) with ⟨r, s1⟩
      rw [hr] at h
      cases r with
      | err e => simp at h
      | panic => simp at h
      | ok b1 =>
        simp only at h
        by_cases hb : b1 = []
        · simp [hb] at h
        · simp only [hb, if_false] at h
          by_cases hl : b1.length ≤ n + 1
          · simp only [hl, if_true] at h
            rcases h2 : readExactAux inner f s1 (n + 1 - b1.length) with ⟨r2, s2⟩
            rw [h2] at h
            cases r2 with
            | ok rest =>
              simp only [Prod.mk.injEq, ExactRes.ok.injEq] at h
              have := ih _ _ _ _ h2
              rw [← h.1, List.length_append, this]; exact Nat.add_sub_cancel' hl
            | err e => simp at h
            | panic => simp at h
          · simp [hl] at h

theorem readExactAux_denotes {src : Src σ} {o : Term} (fuel : Nat) {s : σ} {B : Bytes}
    (h : Denotes src s B o) (n : Nat) (hf : n ≤ fuel) :
    (n ≤ B.length → ∃ s', readExactAux src fuel s n = (.ok (B.take n), s') ∧
        Denotes src s' (B.drop n) o) ∧
    (B.length < n → ∃ s', readExactAux src fuel s n = (.err (exactErr o), s')) := by
  induction fuel generalizing s B n with
  | zero =>
    cases Nat.le_zero.mp hf
    exact ⟨fun _ => ⟨s, rfl, h⟩, fun hlt => absurd hlt (Nat.not_lt_zero _)⟩
  | succ fuel ih =>
    cases n with
    | zero => exact ⟨fun _ => ⟨s, rfl, h⟩, fun hlt => absurd hlt (Nat.not_lt_zero _)⟩
    | succ n =>
      rcases h.step (n + 1) with ⟨bs, s1, r', e, hlen, hz, hr', hd'⟩ | ⟨e', s1, e, hB, ho⟩
      · by_cases hb : bs = []
        · obtain ⟨hB, ho⟩ := hz (Nat.succ_pos n) hb
          have hv : readExactAux src (fuel + 1) s (n + 1) = (.err .unexpectedEof, s1) := by
            simp [readExactAux, e, hb]
          refine ⟨fun hle => by rw [hB] at hle; simp at hle, fun _ => ⟨s1, ?_⟩⟩
          rw [hv, ho]; rfl
        · have hpos : 0 < bs.length := List.length_pos_iff.mpr hb
          obtain ⟨ih1, ih2⟩ := ih hd' (n + 1 - bs.length)
            (Nat.sub_le_of_le_add (Nat.le_trans hf (Nat.add_le_add_left hpos fuel)))
          have hBl : B.length = bs.length + r'.length := by rw [hr', List.length_append]
          constructor
          · intro hle
            obtain ⟨s2, hv2, hd2⟩ := ih1 (Nat.sub_le_iff_le_add'.mpr (hBl ▸ hle))
            refine ⟨s2, ?_, ?_⟩
            · simp only [readExactAux, e, hb, if_false, hlen, if_true, hv2]
              rw [hr', List.take_append, List.take_of_length_le hlen]
            · have : B.drop (n + 1) = r'.drop (n + 1 - bs.length) := by
                rw [hr', List.drop_append, List.drop_eq_nil_of_le hlen, List.nil_append]
              rw [this]; exact hd2
          · intro hlt
            obtain ⟨s2, hv2⟩ := ih2 (Nat.lt_sub_iff_add_lt'.mpr (hBl ▸ hlt))
            refine ⟨s2, ?_⟩
            simp only [readExactAux, e, hb, if_false, hlen, if_true, hv2]
      · refine ⟨fun hle => (by rw [hB] at hle; cases hle), fun _ => ⟨s1, ?_⟩⟩
        simp only [readExactAux, e, ho, exactErr]

/-! ### CRC layer over an arbitrary inner reader (no assumption on the reader at all) -/

theorem crcLayer_ok_nil {inner : Src σ} {check : UInt32} {ae2 : Bool} {si : σ} {reg : UInt32}
    {n : Nat} (hn : 0 < n) (h : ((crcLayer inner check ae2).rd (si, reg) n).1 = .ok []) :
    ae2 = true ∨ Crc32.finalize reg = check := by
  have hn0 : n ≠ 0 := Nat.ne_of_gt hn
  match e : inner.rd si n with
  | (.ok bs, s') =>
    rw [crcLayer_rd_ok hn0 e] at h
    by_cases hc : bs = [] ∧ check ≠ Crc32.finalize reg ∧ ae2 = false
    · rw [if_pos hc] at h; cases h
    · rw [if_neg hc] at h
      by_cases hl : bs.length ≤ n
      · rw [if_pos hl] at h
        have hb : bs = [] := by injection h
        cases hae : ae2
        · right
          apply Classical.byContradiction
          intro hne
          exact hc ⟨hb, fun h => hne h.symm, hae⟩
        · left; rfl
      · rw [if_neg hl] at h; cases h
  | (.err e', s') => rw [crcLayer_rd_err hn0 e] at h; cases h
  | (.panic, s') => rw [crcLayer_rd_panic hn0 e] at h; cases h

theorem crc_run_register (inner : Src σ) (check : UInt32) (ae2 : Bool) (s : σ) (reg : UInt32)
    (reqs : List Nat) :
    (run (crcLayer inner check ae2) (s, reg) reqs).2.2 =
      Crc32.updateBytes reg (delivered (run (crcLayer inner check ae2) (s, reg) reqs).1) := by
  induction reqs generalizing s reg with
  | nil => rfl
  | cons n ns ih =>
    simp only [run]
    by_cases hn0 : n = 0
    · subst hn0
      rw [crcLayer_rd_zero]
      simp only [delivered, List.nil_append]; exact ih s reg
    match e : inner.rd s n with
    | (.ok bs, s') =>
      rw [crcLayer_rd_ok hn0 e]
      split
      · simp only [delivered]; exact ih s' reg
      · split
        · simp only [delivered]
          rw [Crc32.updateBytes_append]
          exact ih s' _
        · simp only [delivered]; exact ih s' reg
    | (.err e', s') =>
      rw [crcLayer_rd_err hn0 e]
      simp only [delivered]; exact ih s' reg
    | (.panic, s') =>
      rw [crcLayer_rd_panic hn0 e]
      simp only [delivered]; exact ih s' reg

/-! ### Writer side -/

variable {ω : Type}

theorem writeAllAux_inv {w : Wr ω} (I : ω → Bytes → Prop)
    (hstep : ∀ t buf, buf ≠ [] → I t buf →
      ∃ k t', w.wr t buf = (.ok k, t') ∧ 1 ≤ k ∧ k ≤ buf.length ∧ I t' (buf.drop k))
    (fuel : Nat) (t : ω) (buf : Bytes) (hf : buf.length ≤ fuel) (h0 : I t buf) :
    ∃ t', writeAllAux w fuel t buf = (.ok (), t') ∧ I t' [] := by
  induction fuel generalizing t buf with
  | zero =>
    cases List.eq_nil_of_length_eq_zero (Nat.le_zero.mp hf)
    exact ⟨t, rfl, h0⟩
  | succ fuel ih =>
    cases buf with
    | nil => exact ⟨t, rfl, h0⟩
    | cons b bs =>
      obtain ⟨k, t1, e, hk, hkl, hI⟩ := hstep t (b :: bs) (List.cons_ne_nil _ _) h0
      obtain ⟨t2, hv, hI2⟩ := ih t1 ((b :: bs).drop k)
        (by rw [List.length_drop]; exact Nat.sub_le_of_le_add (Nat.le_trans hf (Nat.add_le_add_left hk fuel))) hI
      obtain ⟨k', rfl⟩ : ∃ k', k = k' + 1 := ⟨k - 1, (Nat.sub_add_cancel hk).symm⟩
      exact ⟨t2, by simp only [writeAllAux, e, hkl, if_true]; exact hv, hI2⟩

theorem writeAllAux_spec {w : Wr ω} {contents : ω → Bytes} (hs : SinkSpec w contents)
    (hl : SinkLive w) (fuel : Nat) (t : ω) (buf : Bytes) (hf : buf.length ≤ fuel) :
    ∃ t', writeAllAux w fuel t buf = (.ok (), t') ∧ contents t' = contents t ++ buf := by
  obtain ⟨t', hv, h⟩ := writeAllAux_inv (fun s rest => contents s ++ rest = contents t ++ buf)
    (fun s rest hr hI => by
      obtain ⟨k, s', e, hk⟩ := hl s rest hr
      obtain ⟨hkl, hc⟩ := hs.ok s rest k s' e
      exact ⟨k, s', e, hk, hkl, by rw [hc, List.append_assoc, List.take_append_drop]; exact hI⟩)
    fuel t buf hf rfl
  exact ⟨t', hv, by rw [← h, List.append_nil]⟩

/-- Accounting invariant of `ZipWriter::write`, one call. -/
theorem zipWriterWr_ok {w : Wr ω} {contents : ω → Bytes} (hs : SinkSpec w contents)
    {st st' : ZwState ω} {buf : Bytes} {k : Nat} (h : (zipWriterWr w).wr st buf = (.ok k, st')) :
    k ≤ buf.length ∧ contents st'.sink = contents st.sink ++ buf.take k ∧
      st'.reg = Crc32.updateBytes st.reg (buf.take k) ∧ st'.written = st.written + k ∧
      st'.closed = false ∧ st'.largeFile = st.largeFile := by
  simp only [zipWriterWr] at h
  by_cases hc : st.closed = true
  · rw [if_pos hc] at h; cases h
  · rw [if_neg hc] at h
    rcases e : w.wr st.sink buf with ⟨k1 | e1 | _, t1⟩
    · rw [e] at h
      obtain ⟨hkl, hcont⟩ := hs.ok _ _ _ _ e
      simp only [hkl, if_true] at h
      split at h
      · cases h
      · cases h
        exact ⟨hkl, hcont, rfl, rfl, by simpa using hc, rfl⟩
    · rw [e] at h; cases h
    · rw [e] at h; cases h

/-- One call of `ZipWriter::write` with a non-empty buffer succeeds, with a non-zero count, while the writer is open and
below the ZIP64 threshold (or in large-file mode). -/
theorem zipWriterWr_live {w : Wr ω} {contents : ω → Bytes} (hs : SinkSpec w contents) (hl : SinkLive w)
    {st : ZwState ω} {buf : Bytes} (hb : buf ≠ []) (hopen : st.closed = false)
    (hsz : st.written + buf.length ≤ zip64BytesThr ∨ st.largeFile = true) :
    ∃ k st', (zipWriterWr w).wr st buf = (.ok k, st') ∧ 1 ≤ k := by
  obtain ⟨k, t1, e, hk⟩ := hl st.sink buf hb
  obtain ⟨hkl, _⟩ := hs.ok _ _ _ _ e
  have hthr : ¬ ((st.written + k > zip64BytesThr) && !st.largeFile) = true := by
    rcases hsz with h | h
    · simp; intro h2
      exact absurd (Nat.lt_of_lt_of_le h2 (Nat.le_trans (Nat.add_le_add_left hkl _) h)) (Nat.lt_irrefl _)
    · simp [h]
  refine ⟨k, { st with sink := t1, reg := Crc32.updateBytes st.reg (buf.take k), written := st.written + k },
    ?_, hk⟩
  simp only [zipWriterWr, hopen, e, hkl, if_true, Bool.false_eq_true, if_false]
  rw [if_neg hthr]

theorem zipWriter_writeAllAux {w : Wr ω} {contents : ω → Bytes} (hs : SinkSpec w contents)
    (hl : SinkLive w) (fuel : Nat) (st : ZwState ω) (buf : Bytes) (hf : buf.length ≤ fuel)
    (hopen : st.closed = false)
    (hsz : st.written + buf.length ≤ zip64BytesThr ∨ st.largeFile = true) :
    ∃ st', writeAllAux (zipWriterWr w) fuel st buf = (.ok (), st') ∧
      contents st'.sink = contents st.sink ++ buf ∧
      st'.reg = Crc32.updateBytes st.reg buf ∧ st'.written = st.written + buf.length ∧
      st'.closed = false ∧ st'.largeFile = st.largeFile := by
  obtain ⟨st', hv, h1, _, h3, h4, h5, h6⟩ := writeAllAux_inv
    (fun s rest => s.closed = false ∧ (s.written + rest.length ≤ zip64BytesThr ∨ s.largeFile = true) ∧
      contents s.sink ++ rest = contents st.sink ++ buf ∧
      Crc32.updateBytes s.reg rest = Crc32.updateBytes st.reg buf ∧
      s.written + rest.length = st.written + buf.length ∧ s.largeFile = st.largeFile)
    (fun s rest hr ⟨g1, g2, g3, g4, g5, g6⟩ => by
      obtain ⟨k, s', e, hk⟩ := zipWriterWr_live hs hl hr g1 g2
      obtain ⟨hkl, f1, f2, f3, f4, f5⟩ := zipWriterWr_ok hs e
      refine ⟨k, s', e, hk, hkl, f4, ?_, ?_, ?_, ?_, f5.trans g6⟩
      · rw [f5, f3, List.length_drop, Nat.add_assoc, Nat.add_sub_cancel' hkl]
        exact g2
      · rw [f1, List.append_assoc, List.take_append_drop]; exact g3
      · rw [f2, ← Crc32.updateBytes_append, List.take_append_drop]; exact g4
      · rw [f3, List.length_drop, Nat.add_assoc, Nat.add_sub_cancel' hkl]; exact g5)
    fuel st buf hf ⟨hopen, hsz, rfl, rfl, rfl, rfl⟩
  exact ⟨st', hv, by rw [← h3, List.append_nil], h4, h5, h1, h6⟩


theorem zipWriter_writeAllSeq {w : Wr ω} {contents : ω → Bytes} (hs : SinkSpec w contents)
    (hl : SinkLive w) (st : ZwState ω) (cs : List Bytes) (hopen : st.closed = false)
    (hsz : st.written + cs.flatten.length ≤ zip64BytesThr ∨ st.largeFile = true) :
    ∃ st', writeAllSeq (zipWriterWr w) st cs = (.ok (), st') ∧
      contents st'.sink = contents st.sink ++ cs.flatten ∧
      st'.reg = Crc32.updateBytes st.reg cs.flatten ∧
      st'.written = st.written + cs.flatten.length ∧
      st'.closed = false ∧ st'.largeFile = st.largeFile := by
  induction cs generalizing st with
  | nil => exact ⟨st, rfl, by simp, rfl, rfl, hopen, rfl⟩
  | cons c cs ih =>
    simp only [List.flatten_cons, List.length_append] at hsz
    obtain ⟨st1, hv, h1, h2, h3, h4, h5⟩ :=
      zipWriter_writeAllAux hs hl c.length st c (Nat.le_refl _) hopen
        (hsz.imp_left (Nat.le_trans (Nat.add_le_add_left (Nat.le_add_right ..) _)))
    obtain ⟨st2, hv2, g1, g2, g3, g4, g5⟩ := ih st1 h4
      (by rw [h3, h5, Nat.add_assoc]; exact hsz)
    refine ⟨st2, ?_, ?_, ?_, ?_, g4, by rw [g5, h5]⟩
    · simp only [writeAllSeq, writeAll, hv]; exact hv2
    · rw [g1, h1, List.flatten_cons, List.append_assoc]
    · rw [g2, h2, List.flatten_cons, Crc32.updateBytes_append]
    · rw [g3, h3, List.flatten_cons, List.length_append, Nat.add_assoc]

theorem scriptedSink_spec : SinkSpec scriptedSink SSink.contents := by
  constructor
  · intro t buf k t' h
    simp only [scriptedSink] at h
    by_cases hb : buf = []
    · rw [if_pos hb] at h
      cases h
      subst hb
      exact ⟨Nat.le_refl _, by simp⟩
    · rw [if_neg hb] at h
      cases h
      have hpos : 0 < buf.length := List.length_pos_iff.mpr hb
      exact ⟨(chunk_bounds _ hpos).2, rfl⟩
  · intro t buf e t' h
    simp only [scriptedSink] at h
    split at h <;> cases h

theorem scriptedSink_live : SinkLive scriptedSink := by
  intro t buf hb
  have hpos : 0 < buf.length := List.length_pos_iff.mpr hb
  refine ⟨_, _, by simp only [scriptedSink, if_neg hb]; rfl, (chunk_bounds _ hpos).1⟩


/-! ### `ZipCryptoReader::validate` -/

theorem readExact_denotes {src : Src σ} {o : Term} {s : σ} {B : Bytes} (h : Denotes src s B o)
    (n : Nat) :
    (n ≤ B.length → ∃ s', readExact src s n = (.ok (B.take n), s') ∧ Denotes src s' (B.drop n) o) ∧
    (B.length < n → ∃ s', readExact src s n = (.err (exactErr o), s')) :=
  readExactAux_denotes n h n (Nat.le_refl _)

theorem zcValidate_denotes (dec : κ → UInt8 → UInt8 × κ) (inner : Src σ) {s : σ} {B : Bytes}
    {o : Term} (k : κ) (expect : UInt8) (h : Denotes inner s B o) :
    (12 ≤ B.length → (mapBytes dec k (B.take 12))[11]? = some expect →
      ∃ s', zcValidate dec inner s k expect = .valid (s', mapKey dec k (B.take 12)) ∧
        Denotes (zipCryptoLayer dec inner) (s', mapKey dec k (B.take 12))
          (mapBytes dec (mapKey dec k (B.take 12)) (B.drop 12)) o) ∧
    (12 ≤ B.length → (mapBytes dec k (B.take 12))[11]? ≠ some expect →
      zcValidate dec inner s k expect = .wrongPassword) ∧
    (B.length < 12 → zcValidate dec inner s k expect = .err (exactErr o)) := by
  obtain ⟨h1, h2⟩ := readExact_denotes h 12
  refine ⟨?_, ?_, ?_⟩
  · intro hl hv
    obtain ⟨s', e, hd⟩ := h1 hl
    refine ⟨s', ?_, map_layer_denotes dec inner _ hd⟩
    simp only [zcValidate, e, hv, if_true]
  · intro hl hv
    obtain ⟨s', e, _⟩ := h1 hl
    simp only [zcValidate, e, hv, if_false]
  · intro hl
    obtain ⟨s', e⟩ := h2 hl
    simp only [zcValidate, e]


/-! ### Zero-length requests -/

theorem guardZero_denotes {src : Src σ} {s : σ} {B : Bytes} {o : Term} (h : Denotes src s B o) :
    Denotes (guardZero src) s B o := by
  apply Denotes.of_invariant (fun s' r' => Denotes src s' r' o)
  · intro s1 rest n hd
    by_cases hn : n = 0
    · have e : (guardZero src).rd s1 n = (.ok [], s1) := by simp [guardZero, hn]
      exact stepOK_of_ok e (Nat.zero_le _) (fun h => absurd hn (Nat.ne_of_gt h)) ⟨rest, rfl, hd⟩
    · rcases hd.step n with ⟨bs, s', r', e, hlen, hz, hr', hd'⟩ | ⟨e', s', e, h0⟩ <;>
        rw [← guardZero_rd_pos src s1 hn] at e
      · exact stepOK_of_ok e hlen hz ⟨r', hr', hd'⟩
      · exact stepOK_of_err e h0
  · exact h

theorem crc_denotes (inner : Src σ) (check : UInt32) (ae2 : Bool) {s : σ} {B : Bytes} {o : Term}
    (h : Denotes inner s B o) :
    Denotes (crcLayer inner check ae2) (s, Crc32.init) B (crcTerm check ae2 B o) :=
  crc_denotes_nz inner check ae2 (guardZero_denotes h)

end ZipVerif.Model.Layers

namespace ZipVerif.Model.Layers
open ZipVerif ZipVerif.Spec

variable {σ : Type}

/-! ### Codec hypotheses -/

theorem Codec.ChunkIndependentNZ.on {c : Codec} (hc : c.ChunkIndependentNZ) (C : Bytes) (o : Term) :
    c.ChunkIndependentOn C o :=
  fun inner s h => hc.denotes inner s C o h

theorem storedCodec_on (C : Bytes) (o : Term) : storedCodec.ChunkIndependentOn C o :=
  fun _ _ h => guardZero_denotes h

theorem xorCodec_on (C : Bytes) (o : Term) : xorCodec.ChunkIndependentOn C o :=
  fun inner _ h => guardZero_denotes (map_layer_denotes _ inner () h)

theorem xor_mapBytes_involutive (p : Bytes) :
    mapBytes (fun (_ : Unit) b => (b ^^^ 0x55, ())) () (p.map (· ^^^ 0x55)) = p := by
  induction p with
  | nil => rfl
  | cons b bs ih =>
    simp only [List.map_cons, mapBytes, ih]
    congr 1
    rw [UInt8.xor_assoc]
    simp

theorem xorCodec_intact : xorCodec.IntactOK (fun p => p.map (· ^^^ 0x55)) :=
  ⟨fun p => by simp only [xorCodec, xor_mapBytes_involutive], fun p => xorCodec_on _ _⟩

theorem all_of_prefix {bs rest r' : Bytes} {f : UInt8 → Bool} (h : rest = bs ++ r')
    (ha : rest.all f = true) : bs.all f = true ∧ r'.all f = true := by
  rw [h, List.all_append, Bool.and_eq_true] at ha
  exact ha

theorem pickyLayer_denotes (inner : Src σ) {s : σ} {C : Bytes} {o : Term}
    (hC : C.all (· < 0x80) = true) (h : Denotes inner s C o) : Denotes (pickyLayer inner) s C o := by
  apply Denotes.of_invariant (fun s' r => Denotes inner s' r o ∧ r.all (· < 0x80) = true)
  · rintro s1 rest n ⟨hd, hall⟩
    rcases hd.step n with ⟨bs, s', r', e, hlen, hz, hr', hd'⟩ | ⟨e', s', e, h0⟩
    · obtain ⟨hb, hr⟩ := all_of_prefix hr' hall
      have hv : (pickyLayer inner).rd s1 n = (.ok bs, s') := by
        simp only [pickyLayer, e, hb, if_true]
      exact stepOK_of_ok hv hlen hz ⟨r', hr', hd', hr⟩
    · have hv : (pickyLayer inner).rd s1 n = (.err e', s') := by
        simp only [pickyLayer, e]
      exact stepOK_of_err hv h0
  · exact ⟨h, hC⟩

theorem pickyCodec_on_intact {C : Bytes} (hC : C.all (· < 0x80) = true) (o : Term) :
    pickyCodec.ChunkIndependentOn C o := by
  intro σ inner s h
  have hd : pickyCodec.decode C o = (C, o) := by simp only [pickyCodec, hC, if_true]
  rw [hd]
  exact guardZero_denotes (pickyLayer_denotes inner hC h)

/-- On a stream outside its format the picky decoder's result DOES depend on the chunking: the all-streams
hypothesis fails for it (as it does for zstd / flate2 / bzip2). -/
theorem pickyCodec_not_chunk_independent : ¬ pickyCodec.ChunkIndependentNZ := by
  intro hc
  have h := hc.denotes scripted ⟨[1, 0x80], [], [], none⟩ [1, 0x80] .eof (scripted_denotes _) [2]
  have e : (guardZero (pickyCodec.layer scripted)).rd
      (pickyCodec.init (⟨[1, 0x80], [], [], none⟩ : Scripted)) 2 =
        (.err .invalidData, ({ rest := [], cur := [], full := [], fail := none } : Scripted)) := rfl
  have hd : (pickyCodec.decode [1, 0x80] .eof).1 = [1] := by decide
  rw [conforms_err e, hd] at h
  exact absurd h.1 (by decide)

/-! ### The declared CRC changed, everything else (reader below, schedule) the same -/

theorem readToEnd_crc_other_check (inner : Src σ) (check check' : UInt32) (hne : check' ≠ check)
    (reqs : List Nat) (s : σ) (reg : UInt32) {b : Bytes} {s' : σ × UInt32}
    (h : readToEnd (crcLayer inner check false) (s, reg) reqs = some (b, .eof, s')) :
    ∃ s'', readToEnd (crcLayer inner check' false) (s, reg) reqs = some (b, .err .other, s'') := by
  -- the declared CRC is looked at only when the inner reader answers a non-empty buffer with nothing: until then both
  -- runs hand on the same chunks and keep the same register (`ih`); there the first run's clean end says
  -- `check = finalize reg`, so `check'` differs from it and the second run reports the mismatch
  induction reqs generalizing s reg b s' with
  | nil => cases h
  | cons n ns ih =>
    by_cases hn0 : n = 0
    · subst hn0
      simp only [readToEnd, crcLayer_rd_zero, Nat.lt_irrefl, false_and, if_false] at h ⊢
      rcases e2 : readToEnd (crcLayer inner check false) (s, reg) ns with _ | ⟨b2, t2, s2⟩
      · rw [e2] at h; cases h
      · rw [e2] at h
        simp only [Option.map_some, Option.some.injEq, Prod.mk.injEq, List.nil_append] at h
        obtain ⟨hb, ht, hs⟩ := h
        subst hb ht hs
        obtain ⟨s3, e3⟩ := ih s reg e2
        exact ⟨s3, by rw [e3]; rfl⟩
    · have hpos : 0 < n := Nat.pos_of_ne_zero hn0
      match e : inner.rd s n with
      | (.ok bs, s1) =>
        have hv := crcLayer_rd_ok (check := check) (ae2 := false) (reg := reg) hn0 e
        have hv' := crcLayer_rd_ok (check := check') (ae2 := false) (reg := reg) hn0 e
        by_cases hb : bs = []
        · subst hb
          by_cases hc : check = Crc32.finalize reg
          · have hc' : check' ≠ Crc32.finalize reg := fun h2 => hne (h2.trans hc.symm)
            rw [if_neg (fun h3 => h3.2.1 hc), if_pos (show ([] : Bytes).length ≤ n from Nat.zero_le _)] at hv
            rw [if_pos ⟨rfl, hc', rfl⟩] at hv'
            simp only [readToEnd, hv, hpos, true_and, if_true] at h
            cases h
            exact ⟨(s1, reg), by simp only [readToEnd, hv']⟩
          · rw [if_pos ⟨rfl, hc, rfl⟩] at hv
            simp only [readToEnd, hv] at h
            cases h
        · rw [if_neg (fun h3 => hb h3.1)] at hv hv'
          by_cases hl : bs.length ≤ n
          · rw [if_pos hl] at hv hv'
            simp only [readToEnd, hv, hb, and_false, if_false] at h
            rcases e2 : readToEnd (crcLayer inner check false) (s1, Crc32.updateBytes reg bs) ns with
              _ | ⟨b2, t2, s2⟩
            · rw [e2] at h; cases h
            · rw [e2] at h
              simp only [Option.map_some, Option.some.injEq, Prod.mk.injEq] at h
              obtain ⟨hb2, ht, hs⟩ := h
              subst hb2 ht hs
              obtain ⟨s3, e3⟩ := ih s1 _ e2
              refine ⟨s3, ?_⟩
              simp only [readToEnd, hv', hb, and_false, if_false, e3, Option.map_some]
          · rw [if_neg hl] at hv
            simp only [readToEnd, hv] at h
            cases h
      | (.err e', s1) =>
        simp only [readToEnd, crcLayer_rd_err hn0 e] at h
        cases h
      | (.panic, s1) =>
        simp only [readToEnd, crcLayer_rd_panic hn0 e] at h
        cases h

end ZipVerif.Model.Layers
