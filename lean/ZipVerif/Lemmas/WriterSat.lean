import ZipVerif.Lemmas.MRun
import ZipVerif.Lemmas.Align
import ZipVerif.Lemmas.WriteCase
import ZipVerif.Lemmas.Dos
import ZipVerif.Lemmas.SetLast
/-
A small Hoare-style toolkit over the I/O monad `M` and the writer steps `Step`, and the writer
invariant `Inv` under which every panic site of `Model/Writer.lean` is unreachable (C12).

* `MSat x fa d Q` — device-level action `x`, started on device `d` with injected-fault index `fa`:
  it returns a value satisfying `Q`, or a device error (only possible when a fault is injected:
  `fa ≠ none`), or it panics — and a panic is only admitted on a device whose position has left the
  `u64` range (`Huge`), a state no Rust `Seek` implementation can be in.
* `Sat x fa d Q` — the same for a writer step (`M (Except ZErr β × WState)`): steps never produce a
  device-level error (they convert them with `io`), so that case is `False`.

The invariant `Inv`, the postcondition shape `Post P` (`Inv` always, `P` on success), and a `_sat` lemma per
internal step and per public call of the writer: started under `Inv`, the call satisfies `Sat … (Post …)` with
what later files need of its result (continuation-style rules `Sat.emit`, `Sat.emitFinish`, `Sat.updateLocalHeader`,
`Sat.switchTo` for the steps that sit inside a caller's text; `start_file_with_extra_data` and `start_file_aligned`:
`Lemmas/AlignedSat.lean`; `flushWriter` has none).

The `MSat`/`Sat` lemmas are stated for EVERY fault index and EVERY device; `emitFinish_none` is for the
fault-free sink (`fa = none`).  Where it helps the function itself is given as an equation of `M` computations, valid
for every fault index: `switchTo_eq`, `writeData_eq` (in `Lemmas/WriteCase`), `finishFile_plain` (`finish_file` on a
plain storer is its tail `afterEnc`) / `finishFile_idle` (and that tail does no I/O when there is nothing to close);
what other files say of them is read off these.
-/

namespace ZipVerif.Model
open ZipVerif

/-- The device position is outside the `u64` range: unreachable for any Rust `Seek` implementation
(`stream_position()` returns a `u64`). -/
def Huge (d : Dev) : Prop := 18446744073709551616 ≤ d.pos

def MSat {α} (x : M α) (fa : Option Nat) (d : Dev) (Q : α → Dev → Prop) : Prop :=
  match x fa d with
  | (.ok a, d') => Q a d'
  | (.err _, _) => fa ≠ none
  | (.panic _, d') => Huge d'

def Sat {β} (x : M (Except ZErr β × WState)) (fa : Option Nat) (d : Dev)
    (Q : Except ZErr β × WState → Dev → Prop) : Prop :=
  match x fa d with
  | (.ok r, d') => Q r d'
  | (.err _, _) => False
  | (.panic _, d') => Huge d'

/-! ### Structural rules -/

theorem MSat.mono {α} {x : M α} {fa d} {Q Q' : α → Dev → Prop}
    (h : MSat x fa d Q) (hq : ∀ a d', Q a d' → Q' a d') : MSat x fa d Q' := by
  unfold MSat at *
  split <;> simp_all

theorem Sat.mono {β} {x : M (Except ZErr β × WState)} {fa d} {Q Q' : Except ZErr β × WState → Dev → Prop}
    (h : Sat x fa d Q) (hq : ∀ r d', Q r d' → Q' r d') : Sat x fa d Q' := by
  unfold Sat at *
  split <;> simp_all

theorem Sat.pure {β} {r : Except ZErr β × WState} {fa d} {Q : Except ZErr β × WState → Dev → Prop}
    (h : Q r d) : Sat (pure r) fa d Q := h

theorem Sat.bind {α β} {x : M (Except ZErr α × WState)} {f : Except ZErr α × WState → M (Except ZErr β × WState)}
    {fa d} {Q : Except ZErr β × WState → Dev → Prop}
    (h : Sat x fa d (fun r d' => Sat (f r) fa d' Q)) : Sat (x >>= f) fa d Q := by
  unfold Sat at h ⊢
  rw [M.bind_apply]
  split at h
  · next a d' he => rw [he]; exact h
  · exact h.elim
  · next s d' he => rw [he]; exact h

/-- A panic branch: admissible only on a `Huge` device (normally closed by contradiction). -/
theorem Sat.panic {β} {site : String} {fa d} {Q : Except ZErr β × WState → Dev → Prop}
    (h : Huge d) : Sat (M.panic site : M (Except ZErr β × WState)) fa d Q := h

theorem Sat.of_eq {β} {x y : M (Except ZErr β × WState)} {fa d} {Q} (e : x = y) (h : Sat y fa d Q) :
    Sat x fa d Q := e ▸ h

/-- `io s m k`: a device action whose failure becomes the call's error with state `s`. -/
theorem Sat.io {α β} {s : WState} {m : M α} {k : α → M (Except ZErr β × WState)} {fa d}
    {Q : Except ZErr β × WState → Dev → Prop}
    (hm : MSat m fa d (fun a d' => Sat (k a) fa d' Q))
    (he : fa ≠ none → ∀ e d', Q (.error e, s) d') : Sat (Model.io s m k) fa d Q := by
  unfold MSat at hm
  unfold Sat Model.io
  rw [M.bind_apply, M.attempt_apply]
  split at hm
  · next a d' h => rw [h]; exact hm
  · next e d' h => rw [h]; exact he hm e d'
  · next s' d' h => rw [h]; exact hm

/-! ### Device primitives never panic; their effect on the position -/

theorem MSat.prim {α} {f : Dev → Out α × Dev} {fa d} {Q : α → Dev → Prop}
    (h : ∀ d1, d1.pos = d.pos → match f d1 with
      | (.ok a, d') => Q a d'
      | (.err _, _) => False
      | (.panic _, _) => False) : MSat (M.prim f) fa d Q := by
  unfold MSat M.prim
  by_cases hf : fa = some d.calls
  · simp only [hf, if_true]; exact fun h => by cases h
  · simp only [hf, if_false]
    have := h { d with calls := d.calls + 1 } rfl
    split at this <;> simp_all

theorem MSat.write (bs : Bytes) (fa d) :
    MSat (M.write bs) fa d (fun _ d' => d'.pos = d.pos + bs.length) := by
  apply MSat.prim
  intro d1 h1
  simp only [h1]

theorem MSat.flush (fa d) : MSat M.flush fa d (fun _ d' => d'.pos = d.pos) := by
  apply MSat.prim
  intro d1 h1
  simp only [h1]

theorem MSat.seekStart (n : Nat) (fa d) :
    MSat (M.seek (.start n)) fa d (fun r d' => r = n ∧ d'.pos = n) := by
  apply MSat.prim
  intro d1 _
  have : ¬ ((n : Int) < 0) := by omega
  simp only [this, if_false, Int.toNat_natCast, and_self]

theorem MSat.streamPosition (fa d) :
    MSat M.streamPosition fa d (fun r d' => r = d.pos ∧ d'.pos = d.pos) := by
  apply MSat.prim
  intro d1 h1
  have : ¬ ((d1.pos : Int) + 0 < 0) := by omega
  simp only [Int.add_zero, Int.toNat_natCast, h1, and_self]

theorem MSat.pure {α} {a : α} {fa d} {Q : α → Dev → Prop} (h : Q a d) :
    MSat (Pure.pure a : M α) fa d Q := h

theorem MSat.bind {α β} {x : M α} {f : α → M β} {fa d} {Q : β → Dev → Prop}
    (h : MSat x fa d (fun a d' => MSat (f a) fa d' Q)) : MSat (x >>= f) fa d Q := by
  unfold MSat at h ⊢
  rw [M.bind_apply]
  split at h
  · next a d' he => rw [he]; exact h
  · next e d' he => rw [he]; exact h
  · next s d' he => rw [he]; exact h

theorem MSat.writeAll (bs : Bytes) (fa d) :
    MSat (M.writeAll bs) fa d (fun _ d' => d'.pos = d.pos + bs.length) := by
  unfold M.writeAll
  split
  · next h =>
    apply MSat.pure
    have : bs = [] := List.isEmpty_iff.mp h
    simp [this]
  · apply MSat.bind
    apply MSat.mono (MSat.write bs fa d)
    intro _ d' h
    exact MSat.pure h

theorem MSat.writeChunks (cs : List Bytes) (fa d) :
    MSat (M.writeChunks cs) fa d (fun _ d' => d'.pos = d.pos + cs.flatten.length) := by
  induction cs generalizing d with
  | nil => exact MSat.pure (by simp)
  | cons c cs ih =>
    unfold M.writeChunks
    apply MSat.bind
    apply MSat.mono (MSat.writeAll c fa d)
    intro _ d' h
    apply MSat.mono (ih d')
    intro _ d'' h'
    simp only [List.flatten_cons, List.length_append]
    omega

/-! ### `emit`, `emitFinish` -/

section
variable {β : Type} {s : WState} {fa : Option Nat} {d : Dev}
  {Q : Except ZErr β × WState → Dev → Prop}

theorem Sat.emit {enc : Option EncState} {bs : Bytes}
    {k : Option EncState → M (Except ZErr β × WState)}
    (hsome : ∀ e, enc = some e → Sat (k (some { e with buffer := e.buffer ++ bs })) fa d Q)
    (hnone : enc = none → ∀ d', d'.pos = d.pos + bs.length → Sat (k none) fa d' Q)
    (he : fa ≠ none → ∀ e d', Q (.error e, s) d') : Sat (emit s enc bs k) fa d Q := by
  unfold Model.emit
  cases enc with
  | some e => exact hsome e rfl
  | none => exact Sat.io (MSat.mono (MSat.writeAll bs fa d) fun _ d' h => hnone rfl d' h) he

/-- `emitFinish`: as `emit`, with the destructor's retry on the error path. -/
theorem Sat.emitFinish {m : Method} {enc : Option EncState} {bs : Bytes}
    {k : Option EncState → M (Except ZErr β × WState)}
    (hsome : ∀ e, enc = some e → Sat (k (some { e with buffer := e.buffer ++ bs })) fa d Q)
    (hnone : enc = none → ∀ d', d'.pos = d.pos + bs.length → Sat (k none) fa d' Q)
    (he : fa ≠ none → ∀ e d', Q (.error e, s) d') : Sat (emitFinish s m enc bs k) fa d Q := by
  unfold Model.emitFinish
  cases enc with
  | some e => exact hsome e rfl
  | none =>
    dsimp only
    have h1 := MSat.writeAll bs fa d
    unfold MSat at h1
    unfold Sat
    rw [M.bind_apply, M.attempt_apply]
    cases heq : M.writeAll bs fa d with
    | mk o d' =>
      rw [heq] at h1
      cases o with
      | ok a =>
        dsimp only at h1 ⊢
        have := hnone rfl d' h1
        unfold Sat at this
        exact this
      | panic s' => exact h1
      | err e =>
        dsimp only at h1 ⊢
        by_cases hm : (m == .deflated || m == .bzip2) = true
        · rw [if_pos hm, M.bind_apply, M.attempt_apply]
          have h2 := MSat.writeAll bs fa d'
          unfold MSat at h2
          cases heq2 : M.writeAll bs fa d' with
          | mk o2 d2 =>
            rw [heq2] at h2
            cases o2 with
            | ok a2 => exact he h1 e d2
            | err e2 => exact he h1 e d2
            | panic s2 => exact h2
        · rw [if_neg hm]
          exact he h1 e d'

end

/-- **On a fault-free sink `emitFinish` is `emit`** (the retry only exists on the error path). -/
theorem emitFinish_none {β} (s : WState) (m : Method) (enc : Option EncState) (bs : Bytes)
    (k : Option EncState → M (Except ZErr β × WState)) (d : Dev) :
    emitFinish s m enc bs k none d = emit s enc bs k none d := by
  unfold emitFinish emit
  cases enc with
  | some e => rfl
  | none =>
    dsimp only
    unfold Model.io
    rw [M.bind_apply, M.bind_apply, M.attempt_apply]
    have h1 := MSat.writeAll bs none d
    unfold MSat at h1
    split at h1
    · next he => rw [he]
    · exact absurd rfl h1
    · next he => rw [he]

theorem ne_nil_of_getLast? {files : List FileData} {f : FileData} (h : files.getLast? = some f) : files ≠ [] := by
  intro hn; subst hn; simp at h

theorem exists_getLast? {files : List FileData} (h : files ≠ []) : ∃ f, files.getLast? = some f := by
  cases hl : files.getLast? with
  | none => exact absurd (List.getLast?_eq_none_iff.mp hl) h
  | some f => exact ⟨f, rfl⟩

/-! ### The writer invariant -/

def Inner.enc? : Inner → Option EncState
  | .closed => none
  | .storer e => e
  | .compressor _ _ e _ => e

/-- `ZipCryptoWriter::finish` indexes `buffer[11]`: the buffer always holds the 12-byte header. -/
def EncOk (enc : Option EncState) : Prop := ∀ e, enc = some e → 12 ≤ e.buffer.length

/-- A `Compressor` variant is never the `Stored` method (Rust: the variants are Deflater/Bzip2/Zstd). -/
def InnerOk : Inner → Prop
  | .closed => True
  | .storer enc => EncOk enc
  | .compressor m _ enc _ => m ≠ .stored ∧ EncOk enc

theorem EncOk.append {e : EncState} (h : EncOk (some e)) (bs : Bytes) :
    EncOk (some { e with buffer := e.buffer ++ bs }) := by
  intro e' he
  cases he
  have := h e rfl
  simp only [List.length_append]
  omega

/-- `datepart`'s checked `year - 1980` does not underflow. -/
def TimeOk (t : DateTime) : Prop := ¬ t.year < 1980

/-- `from_msdos` yields years 1980…2107 only. -/
theorem timeOk_fromMsdos (d t : UInt16) : TimeOk (DateTime.fromMsdos d t) := by
  unfold TimeOk
  have h := (DateTime.fromMsdos_toNat d t).1
  have e : (1980 : UInt16).toNat = 1980 := by decide
  rw [UInt16.lt_iff_toNat_lt, e, h]
  omega

/-- The invariant of `ZipWriter` that makes every panic site unreachable. -/
structure Inv (s : WState) : Prop where
  /-- extra-field mode refers to the last entry (`files.last_mut().unwrap()`) -/
  extraFiles : s.writingToExtraField = true → s.files ≠ []
  /-- so does file mode -/
  fileFiles : s.writingToFile = true → s.files ≠ []
  /-- the central-only flag is only ever set together with the extra-field flag -/
  centralExtra : s.centralOnly = true → s.writingToExtraField = true
  /-- in local extra-field mode `get_plain` is called: the writer is a plain storer, or already
  closed (then `end_extra_data` refuses with BrokenPipe — the D11 repair) -/
  extraPlain : s.writingToExtraField = true → s.centralOnly = false →
    s.inner = .storer none ∨ s.inner = .closed
  innerOk : InnerOk s.inner
  /-- every recorded entry has a timestamp `datepart` accepts -/
  times : ∀ f ∈ s.files, TimeOk f.time

theorem inv_init : Inv WState.init :=
  ⟨by simp [WState.init], by simp [WState.init], by simp [WState.init], by simp [WState.init],
   by simp [WState.init, InnerOk, EncOk], by simp [WState.init]⟩

/-! ### `switch_to` -/

theorem levelRange_ne_stored {m : Method} {r : Int × Int × Int} (h : levelRange m = some r) : m ≠ .stored := by
  cases m <;> simp only [levelRange] at h <;> first | (cases h; done) | (intro e; cases e)

/-- What `switch_to` decides once the old writer has been taken out: the call's result and the writer it
installs around `enc` for the target method `c` at level `l` (closed when it refuses). -/
def switchPick (c : Method) (l : Option Int) (enc : Option EncState) : Except ZErr Unit × Inner :=
  match c with
  | .stored => if l.isSome then (.error .unsupportedArchive, .closed) else (.ok (), .storer enc)
  | .aes => (.error .unsupportedArchive, .closed)
  | .unsupported _ => (.error .unsupportedArchive, .closed)
  | m =>
    match levelRange m with
    | none => (.error .unsupportedArchive, .closed)
    | some (lo, hi, dflt) =>
      if lo ≤ l.getD dflt ∧ l.getD dflt ≤ hi then (.ok (), .compressor m (l.getD dflt) enc [])
      else (.error .unsupportedArchive, .closed)

/-- What the proofs need of the pair `switch_to` picks for the target `c` around `enc`: the new writer keeps
`enc` and has the requested method; a refusal leaves the writer closed. -/
def PickOk (c : Method) (enc : Option EncState) (x : Except ZErr Unit × Inner) : Prop :=
  (EncOk enc → InnerOk x.2) ∧ (enc = none → x.2.enc? = none) ∧ (∀ e, x.1 = .error e → x.2 = .closed) ∧
    (x.1 = .ok () → x.2.currentCompression = some c)

theorem switchPick_spec (c : Method) (l : Option Int) (enc : Option EncState) :
    PickOk c enc (switchPick c l enc) := by
  have herr : PickOk c enc (.error .unsupportedArchive, .closed) :=
    ⟨fun _ => trivial, fun _ => rfl, fun _ _ => rfl, nofun⟩
  unfold switchPick
  split
  · split
    · exact herr
    · exact ⟨id, id, nofun, fun _ => rfl⟩
  · exact herr
  · exact herr
  · split
    · exact herr
    · next hl =>
      split
      · exact ⟨fun h => ⟨levelRange_ne_stored hl, h⟩, id, nofun, fun _ => rfl⟩
      · exact herr

/-- `switch_to` with the choice of the new writer named: no I/O unless a compressor has to be finished. -/
theorem switchTo_eq (ext : WExt) (c : Method) (l : Option Int) (s : WState) :
    switchTo ext c l s =
      match s.inner with
      | .closed => pure (.error (.io .brokenPipe), s)
      | .storer enc =>
        if Method.stored == c then pure (.ok (), s)
        else pure ((switchPick c l enc).1, { s with inner := (switchPick c l enc).2 })
      | .compressor m lv enc pending =>
        if m == c then pure (.ok (), s)
        else emitFinish { s with inner := .closed } m enc (ext.compress m lv pending) fun enc =>
          pure ((switchPick c l enc).1, { s with inner := (switchPick c l enc).2 }) := by
  unfold switchTo
  extract_lets s0 cont
  have hcont : cont = fun enc => pure ((switchPick c l enc).1, { s with inner := (switchPick c l enc).2 }) := by
    funext enc
    dsimp only [cont, switchPick]
    cases c with
    | stored => dsimp only; split <;> rfl
    | aes => rfl
    | unsupported v => rfl
    | deflated => dsimp only [levelRange]; split <;> rfl
    | bzip2 => dsimp only [levelRange]; split <;> rfl
    | zstd => dsimp only [levelRange]; split <;> rfl
  rw [hcont]
  cases hin : s.inner <;> simp only [Inner.currentCompression]
  rfl

/-- `Stored` from a storer is the early return of `switch_to`: nothing changes, whatever the level. -/
theorem switchTo_stored (ext : WExt) (l : Option Int) (s : WState) (enc : Option EncState)
    (hin : s.inner = .storer enc) : switchTo ext .stored l s = pure (.ok (), s) := by
  rw [switchTo_eq, hin]
  rfl

theorem switchTo_sat (ext : WExt) (c : Method) (l : Option Int) (s : WState) (fa : Option Nat) (d : Dev) :
    Sat (switchTo ext c l s) fa d (fun rs d' => ∃ i,
      rs.2 = { s with inner := i } ∧ (InnerOk s.inner → InnerOk i) ∧
      (s.inner.enc? = none → i.enc? = none) ∧
      (∀ enc, s.inner = .storer enc → d'.pos = d.pos) ∧
      (∀ e, rs.1 = .error e → i = .closed) ∧
      (rs.1 = .ok () → i.currentCompression = some c)) := by
  rw [switchTo_eq]
  cases hin : s.inner with
  | closed => exact ⟨.closed, by rw [← hin], id, id, nofun, fun _ _ => rfl, nofun⟩
  | storer enc =>
    dsimp only
    split
    · next h =>
      exact ⟨.storer enc, by rw [← hin], id, id, fun _ _ => rfl, nofun, fun _ => congrArg some (eq_of_beq h)⟩
    · obtain ⟨h1, h2, h3, h4⟩ := switchPick_spec c l enc
      exact ⟨_, rfl, h1, h2, fun _ _ => rfl, h3, h4⟩
  | compressor m lv enc pending =>
    dsimp only
    split
    · next h =>
      exact ⟨.compressor m lv enc pending, by rw [← hin], id, id, nofun, nofun,
        fun _ => congrArg some (eq_of_beq h)⟩
    · refine Sat.emitFinish (fun e he => ?_) (fun he d' _ => ?_)
        (fun _ _ _ => ⟨.closed, rfl, fun _ => trivial, fun _ => rfl, nofun, fun _ _ => rfl, nofun⟩)
      · subst he
        obtain ⟨h1, -, h3, h4⟩ := switchPick_spec c l (some { e with buffer := e.buffer ++ ext.compress m lv pending })
        exact ⟨_, rfl, fun h => h1 (EncOk.append h.2 _), nofun, nofun, h3, h4⟩
      · subst he
        obtain ⟨h1, h2, h3, h4⟩ := switchPick_spec c l none
        exact ⟨_, rfl, fun _ => h1 nofun, fun _ => h2 rfl, nofun, h3, h4⟩

/-! ### Postconditions under the invariant; the model's `?` -/

def Post {β} (P : β → WState → Dev → Prop) : Except ZErr β × WState → Dev → Prop :=
  fun rs d' => Inv rs.2 ∧ ∀ v, rs.1 = .ok v → P v rs.2 d'

theorem Post.error {β} {P : β → WState → Dev → Prop} {e : ZErr} {s : WState} {d : Dev} (h : Inv s) :
    Post P (.error e, s) d := ⟨h, fun _ h => by cases h⟩

theorem Post.ok {β} {P : β → WState → Dev → Prop} {v : β} {s : WState} {d : Dev} (h : Inv s) (hp : P v s d) :
    Post P (.ok v, s) d := ⟨h, fun _ h => by cases h; exact hp⟩

section
variable {β : Type} {s : WState} {fa : Option Nat} {d : Dev} {P : β → WState → Dev → Prop}

theorem Sat.err {e : ZErr} (h : Inv s) : Sat (Pure.pure (.error e, s)) fa d (Post P) := Post.error h

theorem Sat.ok {v : β} (h : Inv s) (hp : P v s d) : Sat (Pure.pure (.ok v, s)) fa d (Post P) := Post.ok h hp

/-- `io s m k` under a postcondition `Post P`: a failure of `m` ends the call in state `s`, so all it owes is `Inv s`. -/
theorem Sat.ioI {α} {m : M α} {R : α → Dev → Prop} {k : α → M (Except ZErr β × WState)} (hI : Inv s)
    (hm : MSat m fa d R) (hk : ∀ a d', R a d' → Sat (k a) fa d' (Post P)) : Sat (Model.io s m k) fa d (Post P) :=
  Sat.io (MSat.mono hm hk) fun _ _ _ => Post.error hI

end

/-- The model's `?` (`let (r, s) ← x; match r with | .error e => pure (.error e, s) | .ok v => …`): the
continuation `f` hands an error of `x` on unchanged (`herr`, by `rfl`), so only the success branch is left. -/
theorem Sat.step {α β} {x : M (Except ZErr α × WState)}
    {f : Except ZErr α × WState → M (Except ZErr β × WState)} {fa d}
    {P : α → WState → Dev → Prop} {Q : β → WState → Dev → Prop}
    (hx : Sat x fa d (Post P)) (herr : ∀ e s, f (.error e, s) = Pure.pure (.error e, s))
    (hk : ∀ v s d', Inv s → P v s d' → Sat (f (.ok v, s)) fa d' (Post Q)) :
    Sat (x >>= f) fa d (Post Q) := by
  apply Sat.bind
  apply Sat.mono hx
  intro ⟨r, s1⟩ d1 ⟨hI1, hp⟩
  cases r with
  | error e => rw [herr]; exact Sat.err hI1
  | ok v => exact hk v s1 d1 hI1 (hp v rfl)

/-! ### Updates of the state that keep the invariant -/

theorem Inv.closeInner {s : WState} (hI : Inv s) : Inv { s with inner := .closed } :=
  { hI with extraPlain := fun _ _ => Or.inr rfl, innerOk := trivial }

theorem Inv.setInner {s : WState} (hI : Inv s) {i : Inner} (hi : InnerOk i)
    (hwe : s.writingToExtraField = false) : Inv { s with inner := i } :=
  { hI with extraPlain := fun h => absurd (hwe.symm.trans h) nofun, innerOk := hi }

theorem Inv.stats {s : WState} (hI : Inv s) (st sb : Nat) (sh : UInt32) :
    Inv { s with statsStart := st, statsBytes := sb, statsHasher := sh } :=
  { hI with }

theorem Inv.leaveExtra {s : WState} (hI : Inv s) :
    Inv { s with writingToExtraField := false, centralOnly := false } :=
  { hI with extraFiles := nofun, centralExtra := nofun, extraPlain := nofun }

theorem Inv.leaveFile {s : WState} (hI : Inv s) (wr : Bool) :
    Inv { s with writingToFile := false, writingRaw := wr } :=
  { hI with fileFiles := nofun }

theorem Inv.enterFile {s : WState} (hI : Inv s) (hne : s.files ≠ []) (wr : Bool) :
    Inv { s with writingToFile := true, writingRaw := wr } :=
  { hI with fileFiles := fun _ => hne }

theorem Inv.setLast_same_time {s : WState} (hI : Inv s) {f g : FileData} (hf : s.files.getLast? = some f)
    (hg : g.time = f.time) : Inv { s with files := setLast s.files g } := by
  have hne := ne_nil_of_getLast? hf
  refine { hI with extraFiles := fun _ => setLast_ne_nil hne, fileFiles := fun _ => setLast_ne_nil hne, times := ?_ }
  intro x hx
  rcases mem_setLast hx with h | h
  · subst h; rw [hg]; exact hI.times f (List.mem_of_getLast? hf)
  · exact hI.times _ h

/-- A call of `switch_to` followed by `?`: a refusal leaves the writer closed, otherwise the continuation
runs with the new inner writer `i`. -/
theorem Sat.switchTo {β} {ext : WExt} {c : Method} {l : Option Int} {s : WState} {fa d}
    {f : Except ZErr Unit × WState → M (Except ZErr β × WState)} {Q : β → WState → Dev → Prop}
    (hI : Inv s) (herr : ∀ e s, f (.error e, s) = Pure.pure (.error e, s))
    (hk : ∀ i d', InnerOk i → i.currentCompression = some c → (s.inner.enc? = none → i.enc? = none) →
      (∀ enc, s.inner = .storer enc → d'.pos = d.pos) → Sat (f (.ok (), { s with inner := i })) fa d' (Post Q)) :
    Sat (Model.switchTo ext c l s >>= f) fa d (Post Q) := by
  apply Sat.bind
  apply Sat.mono (switchTo_sat ext c l s fa d)
  intro ⟨r, s2⟩ d2 ⟨i, hs2, hio, henc, hpos, hcl, hok⟩
  dsimp only at hs2 hcl hok
  subst hs2
  cases r with
  | error e => rw [herr, hcl e rfl]; exact Sat.err hI.closeInner
  | ok u => exact hk i d2 (hio hI.innerOk) (hok rfl) henc hpos

/-! ### `end_extra_data` -/

theorem validateLoop_header (fuel : Nat) (a b c d : UInt8) (rest : Bytes) :
    validateExtraDataLoop (fuel + 1) (a :: b :: c :: d :: rest) =
      if mk16 a b == 0x0001 then .error (.io .other)
      else if mk16 a b ≤ 31 || validateExtraDataLoop.reservedExtraIds.contains (mk16 a b) then
        .error (.io .other)
      else if (mk16 c d).toNat > rest.length then .error (.io .other)
      else validateExtraDataLoop fuel (rest.drop (mk16 c d).toNat) := by
  rw [validateExtraDataLoop]
  simp only [List.isEmpty_cons, Bool.false_eq_true, if_false, List.length_cons, rd16]
  rw [if_neg (by omega)]

theorem validate_len {f : FileData} (h : validateExtraData f = .ok ()) :
    f.extraField.length + (if f.largeFile then 20 else 0) ≤ 65535 := by
  unfold validateExtraData at h
  by_cases hc : f.extraField.length + (if f.largeFile then 20 else 0) > 65535
  · rw [if_pos hc] at h; cases h
  · omega

theorem localExtraLen_ok {f : FileData} (h : f.extraField.length + (if f.largeFile then 20 else 0) ≤ 65535) :
    ∃ el, localExtraLen f = .ok el := by
  unfold localExtraLen
  have : (if f.largeFile then 20 else 0) + f.extraField.length % 65536 < 65536 := by
    have : f.extraField.length % 65536 = f.extraField.length := Nat.mod_eq_of_lt (by omega)
    omega
  simp only [this, if_true]
  exact ⟨_, rfl⟩

/-- What a successful `end_extra_data` leaves, by the mode it was called in. -/
def EndExtraPost (s : WState) (d : Dev) (ds : Nat) (s' : WState) (d' : Dev) : Prop :=
  s'.writingToExtraField = false ∧ s'.centralOnly = false ∧ s'.writingToFile = s.writingToFile ∧
  ∃ f, s.files.getLast? = some f ∧
    (s.centralOnly = true → ds = f.dataStart.toNat ∧ s'.files = s.files ∧ s'.inner = s.inner ∧ d'.pos = d.pos) ∧
    (s.centralOnly = false → ds = f.dataStart.toNat + f.extraField.length ∧ d'.pos = ds ∧
       s'.files = setLast s.files { f with dataStart := UInt64.ofNat ds })

theorem endExtraData_sat (ext : WExt) (s : WState) (hI : Inv s) (fa : Option Nat) (d : Dev) :
    Sat (endExtraData ext s) fa d (Post (EndExtraPost s d)) := by
  unfold endExtraData
  split
  · exact Sat.err hI
  next hwe =>
  split
  · exact Sat.err hI
  next hcl =>
  obtain ⟨file, hfile⟩ := exists_getLast? (hI.extraFiles (by simpa using hwe))
  rw [hfile]
  dsimp only
  split
  · exact Sat.err hI
  next hval =>
  split
  · next hco =>
    have hco' : s.centralOnly = false := by simpa using hco
    split
    · next hin =>
      refine Sat.ioI hI (MSat.writeAll ..) fun _ d1 _ => ?_
      obtain ⟨el, hel⟩ := localExtraLen_ok (f := { file with dataStart := UInt64.ofNat (file.dataStart.toNat + file.extraField.length) }) (validate_len hval)
      simp only [hel]
      have hI1 := (hI.setLast_same_time hfile (g := { file with dataStart := UInt64.ofNat (file.dataStart.toNat + file.extraField.length) }) rfl).stats
        (file.dataStart.toNat + file.extraField.length) s.statsBytes s.statsHasher
      refine Sat.ioI hI1 (MSat.seekStart ..) fun _ d2 _ => ?_
      refine Sat.ioI hI1 (MSat.writeAll ..) fun _ d3 _ => ?_
      refine Sat.ioI hI1 (MSat.seekStart ..) fun _ d4 hd4 => ?_
      refine Sat.switchTo hI1 (fun _ _ => rfl) fun i d5 hi _ _ hpos => ?_
      exact Sat.ok ((hI1.leaveExtra).setInner hi rfl)
        ⟨rfl, rfl, rfl, file, hfile, (fun h => absurd (hco'.symm.trans h) nofun), fun _ => ⟨rfl, by rw [hpos none hin, hd4.2], rfl⟩⟩
    · next hin' =>
      rcases hI.extraPlain (by simpa using hwe) hco' with h | h
      · exact absurd h hin'
      · rw [h] at hcl; exact absurd rfl hcl
  · next hco =>
    exact Sat.ok hI.leaveExtra ⟨rfl, rfl, rfl, file, hfile, fun _ => ⟨rfl, rfl, rfl, rfl⟩,
      fun h => absurd (by rw [h]; rfl) hco⟩

/-! ### `finish_file` -/

theorem Sat.updateLocalHeader {β} {s : WState} {file : FileData} {k : Unit → M (Except ZErr β × WState)}
    {fa : Option Nat} {d : Dev} {P : β → WState → Dev → Prop} (hI : Inv s)
    (hk : ∀ d', Sat (k ()) fa d' (Post P)) : Sat (Model.updateLocalHeader s file k) fa d (Post P) := by
  unfold Model.updateLocalHeader
  split
  · exact Sat.err hI
  refine Sat.ioI hI (MSat.seekStart ..) fun _ d1 _ => ?_
  refine Sat.ioI hI (MSat.writeAll ..) fun _ d2 _ => ?_
  split
  · refine Sat.ioI hI (MSat.seekStart ..) fun _ d3 _ => ?_
    refine Sat.ioI hI (MSat.writeAll ..) fun _ d4 _ => ?_
    exact Sat.ioI hI (MSat.writeAll ..) fun _ d5 _ => hk d5
  · refine Sat.ioI hI (MSat.writeAll ..) fun _ d3 _ => ?_
    exact Sat.ioI hI (MSat.writeAll ..) fun _ d4 _ => hk d4

/-- The tail of `finish_file` once the writer is a plain storer: a copy of the local function
`afterEnc` of `finishFile`, so that lemmas can speak of it. -/
def afterEnc (s : WState) : M (Except ZErr Unit × WState) :=
  match s.inner with
  | .storer none =>
    if !s.writingRaw then
      match s.files.getLast? with
      | none => pure (.ok (), s)
      | some file =>
        let file := { file with crc32 := hasherFinalize s.statsHasher,
                                uncompressedSize := UInt64.ofNat s.statsBytes }
        let s := { s with files := setLast s.files file }
        io s M.streamPosition fun fileEnd =>
        if fileEnd < s.statsStart then pure (.error (.io .other), s) else
        let file := { file with compressedSize := UInt64.ofNat (fileEnd - s.statsStart) }
        let s := { s with files := setLast s.files file }
        updateLocalHeader s file fun _ =>
        io s (M.seek (.start fileEnd)) fun _ =>
        pure (.ok (), { s with writingToFile := false, writingRaw := false })
    else pure (.ok (), { s with writingToFile := false, writingRaw := false })
  | _ => M.panic "write.rs:1027 get_plain"

/-- `finish_file` behind its two fallible first steps: the writer is taken out, an encrypting storer flushed. -/
def finishTail (ext : WExt) (s : WState) : M (Except ZErr Unit × WState) :=
  match s.inner with
  | .storer (some e) =>
    if e.buffer.length < 12 then M.panic "zipcrypto.rs:133 buffer[11]" else
    io { s with inner := .closed } (M.writeAll (ext.zcEncrypt e.pw
      (e.buffer.take 11 ++ [(hasherFinalize s.statsHasher >>> 24).toUInt8] ++ e.buffer.drop 12))) fun _ =>
    io { s with inner := .closed } M.flush fun _ =>
    afterEnc { s with inner := .storer none }
  | .storer none => afterEnc s
  | _ => M.panic "write.rs:434 unreachable"

theorem finishFile_eq (ext : WExt) (s : WState) : finishFile ext s = (do
    let (r0, s) ← (if s.writingToExtraField then do
        let (r, s') ← endExtraData ext s
        pure (r.map fun _ => (), s')
      else pure (.ok (), s))
    match r0 with
    | .error e => pure (.error e, s)
    | .ok () =>
    let (r1, s) ← switchTo ext .stored none s
    match r1 with
    | .error e => pure (.error e, s)
    | .ok () => finishTail ext s) := rfl

theorem finishFile_plain (ext : WExt) {s : WState} (hwe : s.writingToExtraField = false)
    (hin : s.inner = .storer none) : finishFile ext s = afterEnc s := by
  rw [finishFile_eq, hwe]
  show (switchTo ext .stored none s >>= _) = _
  rw [switchTo_stored ext none s none hin]
  show finishTail ext s = _
  rw [finishTail, hin]

/-- `finish_file`'s tail with nothing of its own to close — the current entry is a raw copy (or the writer was
just opened by `new_append`), or there is no entry yet: no I/O, only the two mode flags are cleared. -/
theorem afterEnc_of_idle {s : WState} (hin : s.inner = .storer none) (hidle : s.writingRaw = true ∨ s.files = []) :
    afterEnc s = pure (.ok (),
      if s.writingRaw then { s with writingToFile := false, writingRaw := false } else s) := by
  unfold afterEnc
  split
  · rcases hidle with hr | hf
    · rw [hr]; rfl
    · cases hr : s.writingRaw
      · rw [hf]; rfl
      · rfl
  · next h => exact absurd hin h

theorem finishFile_idle (ext : WExt) {s : WState} (hwe : s.writingToExtraField = false)
    (hin : s.inner = .storer none) (hidle : s.writingRaw = true ∨ s.files = []) :
    finishFile ext s = pure (.ok (),
      if s.writingRaw then { s with writingToFile := false, writingRaw := false } else s) := by
  rw [finishFile_plain ext hwe hin, afterEnc_of_idle hin hidle]

def FinishPost (_ : Unit) (s' : WState) (_ : Dev) : Prop :=
  s'.inner = .storer none ∧ s'.writingToExtraField = false ∧ s'.centralOnly = false ∧
  s'.writingToFile = false ∧ s'.writingRaw = false

theorem afterEnc_sat (s : WState) (hI : Inv s) (hin : s.inner = .storer none)
    (hwe : s.writingToExtraField = false) (fa : Option Nat) (d : Dev) :
    Sat (afterEnc s) fa d (Post FinishPost) := by
  have hco : s.centralOnly = false := by
    cases h : s.centralOnly
    · rfl
    · have := hI.centralExtra h; rw [hwe] at this; cases this
  unfold afterEnc
  split
  · split
    · split
      · next hl =>
        refine Sat.ok hI ⟨hin, hwe, hco, ?_, by simp_all⟩
        cases h : s.writingToFile
        · rfl
        · exact absurd (List.getLast?_eq_none_iff.mp hl) (hI.fileFiles h)
      · next file hfile =>
        have hne := ne_nil_of_getLast? hfile
        have hI1 := hI.setLast_same_time hfile (g := { file with crc32 := hasherFinalize s.statsHasher, uncompressedSize := UInt64.ofNat s.statsBytes }) rfl
        dsimp only
        refine Sat.ioI hI1 (MSat.streamPosition ..) fun a d1 ⟨ha, _⟩ => ?_
        subst ha
        split
        · exact Sat.err hI1
        · have hI2 := hI1.setLast_same_time (getLast?_setLast hne) (g := { file with crc32 := hasherFinalize s.statsHasher, uncompressedSize := UInt64.ofNat s.statsBytes, compressedSize := UInt64.ofNat (d.pos - s.statsStart) }) rfl
          refine Sat.updateLocalHeader hI2 fun d2 => ?_
          refine Sat.ioI hI2 (MSat.seekStart ..) fun _ d3 _ => ?_
          exact Sat.ok (hI2.leaveFile false) ⟨hin, hwe, hco, rfl, rfl⟩
    · exact Sat.ok (hI.leaveFile false) ⟨hin, hwe, hco, rfl, rfl⟩
  · next h => exact absurd hin h

theorem finishFile_sat (ext : WExt) (s : WState) (hI : Inv s) (fa : Option Nat) (d : Dev) :
    Sat (finishFile ext s) fa d (Post FinishPost) := by
  rw [finishFile_eq]
  have step1 : Sat (if s.writingToExtraField then do
      let (r, s') ← endExtraData ext s
      pure (r.map fun _ => (), s')
    else pure (.ok (), s)) fa d (Post fun _ s' _ => s'.writingToExtraField = false) := by
    split
    · apply Sat.bind
      apply Sat.mono (endExtraData_sat ext s hI fa d)
      intro ⟨r, s'⟩ d' ⟨h1, h2⟩
      refine Sat.pure ⟨h1, ?_⟩
      cases r with
      | error e => nofun
      | ok v => exact fun _ _ => (h2 v rfl).1
    · next h => exact Sat.ok hI (by simpa using h)
  refine Sat.step step1 (fun _ _ => rfl) fun _ s1 d1 hI1 hwe => ?_
  refine Sat.switchTo hI1 (fun _ _ => rfl) fun i d2 hi hcc _ _ => ?_
  unfold finishTail
  cases i with
  | closed => cases hcc
  | compressor m l enc p => exact absurd (Option.some.inj hcc) hi.1
  | storer enc =>
    cases enc with
    | none => exact afterEnc_sat _ (hI1.setInner hi hwe) rfl hwe fa d2
    | some e =>
      dsimp only
      have : ¬ e.buffer.length < 12 := Nat.not_lt.mpr (hi e rfl)
      simp only [this, if_false]
      refine Sat.ioI hI1.closeInner (MSat.writeAll ..) fun _ d3 _ => ?_
      refine Sat.ioI hI1.closeInner (MSat.flush ..) fun _ d4 _ => ?_
      exact afterEnc_sat { s1 with inner := .storer none } (hI1.setInner nofun hwe) rfl hwe fa d4

/-! ### `start_entry` -/

theorem datepartOut_ok {t : DateTime} (h : TimeOk t) : ∃ dp, datepartOut t = .ok dp := by
  unfold datepartOut DateTime.datepart
  unfold TimeOk at h
  simp only [h, if_false]
  exact ⟨_, rfl⟩

theorem localHeaderChunks_ok {f : FileData} (ht : TimeOk f.time)
    (hl : f.extraField.length + (if f.largeFile then 20 else 0) ≤ 65535) :
    ∃ c, localHeaderChunks f = .ok c := by
  obtain ⟨dp, hdp⟩ := datepartOut_ok ht
  obtain ⟨el, hel⟩ := localExtraLen_ok hl
  unfold localHeaderChunks
  rw [hdp, hel]
  exact ⟨_, rfl⟩

theorem localHeaderChunks_new {f : FileData} {r : Out (List Bytes)} (h : localHeaderChunks f = r)
    (ht : TimeOk f.time) (hx : f.extraField = []) : ∃ c, r = .ok c := by
  obtain ⟨c, hc⟩ := localHeaderChunks_ok ht (by rw [hx]; split <;> simp)
  exact ⟨c, by rw [← h, hc]⟩

theorem centralHeaderChunks_no_panic {f : FileData} (ht : TimeOk f.time) (site : String) :
    centralHeaderChunks f ≠ .panic site := by
  obtain ⟨dp, hdp⟩ := datepartOut_ok ht
  unfold centralHeaderChunks
  rw [hdp]
  dsimp only
  split <;> intro h <;> cases h

def StartEntryPost (o : FileOptions) (_ : Unit) (s' : WState) (d' : Dev) : Prop :=
  s'.writingToExtraField = false ∧ s'.centralOnly = false ∧ s'.writingToFile = false ∧
  s'.writingRaw = false ∧
  s'.inner = (match o.encryptWith with
    | some pw => .storer (some { pw, buffer := List.replicate 12 0 })
    | none => .storer none) ∧
  ∃ f, s'.files.getLast? = some f ∧ f.dataStart = UInt64.ofNat d'.pos ∧ f.extraField = []

theorem Inv.push {s : WState} (hI : Inv s) {f : FileData} (hf : TimeOk f.time) :
    Inv { s with files := s.files ++ [f] } := by
  refine { hI with extraFiles := fun _ => by simp, fileFiles := fun _ => by simp, times := fun g hg => ?_ }
  rcases List.mem_append.mp hg with h | h
  · exact hI.times g h
  · rw [List.mem_singleton.mp h]; exact hf

/-- `start_entry`: besides `StartEntryPost`, the byte counter is reset and the new entry carries the options'
`large_file` and records a header start that is a sink position not behind the position after its local header. -/
theorem startEntry_spec (ext : WExt) (name : Bytes) (o : FileOptions) (raw : Option (UInt32 × UInt64 × UInt64))
    (ho : TimeOk o.time) (s : WState) (hI : Inv s) (fa : Option Nat) (d : Dev) :
    Sat (startEntry ext name o raw s) fa d (Post fun u s' d' => StartEntryPost o u s' d' ∧ s'.statsBytes = 0 ∧
      ∃ f p, s'.files.getLast? = some f ∧ f.headerStart = UInt64.ofNat p ∧ p ≤ d'.pos ∧
        f.largeFile = o.largeFile) := by
  unfold startEntry
  split
  · exact Sat.err hI
  refine Sat.step (finishFile_sat ext s hI fa d) (fun _ _ => rfl) fun _ s1 d1 hI1 ⟨hin, hwe, hco, hwf, hwr⟩ => ?_
  dsimp only
  split
  · refine Sat.ioI hI1 (MSat.streamPosition ..) fun a d2 ⟨ha, hd2⟩ => ?_
    subst ha
    split
    · next site h => obtain ⟨c, hc⟩ := localHeaderChunks_new h ho rfl; cases hc
    · next e h => obtain ⟨c, hc⟩ := localHeaderChunks_new h ho rfl; cases hc
    next chunks hch =>
    refine Sat.ioI hI1 (MSat.writeChunks ..) fun _ d3 hd3 => ?_
    refine Sat.ioI hI1 (MSat.streamPosition ..) fun a d4 ⟨ha, hd4⟩ => ?_
    subst ha
    have hle : d1.pos ≤ d4.pos := by omega
    split
    · next pw hpw =>
      refine Sat.ok (((hI1.push ho).stats _ _ _).setInner (by simp [InnerOk, EncOk]) hwe)
        ⟨⟨hwe, hco, hwf, hwr, by rw [hpw], _, List.getLast?_concat .., by rw [hd4], rfl⟩, rfl,
          _, d1.pos, List.getLast?_concat .., rfl, hle, rfl⟩
    · next hpw =>
      refine Sat.ok ((hI1.push ho).stats _ _ _)
        ⟨⟨hwe, hco, hwf, hwr, by rw [hpw]; exact hin, _, List.getLast?_concat .., by rw [hd4], rfl⟩, rfl,
          _, d1.pos, List.getLast?_concat .., rfl, hle, rfl⟩
  · next h => exact absurd hin h

theorem startEntry_sat (ext : WExt) (name : Bytes) (o : FileOptions) (raw : Option (UInt32 × UInt64 × UInt64))
    (ho : TimeOk o.time) (s : WState) (hI : Inv s) (fa : Option Nat) (d : Dev) :
    Sat (startEntry ext name o raw s) fa d (Post (StartEntryPost o)) :=
  Sat.mono (startEntry_spec ext name o raw ho s hI fa d) fun _ _ h => ⟨h.1, fun v hv => (h.2 v hv).1⟩

/-! ### `write` -/

def WriteDataPost (s : WState) (_ : Unit) (s' : WState) (_ : Dev) : Prop :=
  s'.writingToExtraField = s.writingToExtraField ∧ s'.centralOnly = s.centralOnly ∧
  s'.writingToFile = s.writingToFile ∧ s'.writingRaw = s.writingRaw

theorem Inner.eq_closed {i : Inner} (h : i.isClosed = true) : i = .closed := by
  cases i <;> first | rfl | cases h

theorem Inner.isClosed_eq_false {i : Inner} (h : i ≠ .closed) : i.isClosed = false := by
  cases i <;> first | rfl | exact absurd rfl h

theorem GW.absorb_nil (i : Inner) : GW.absorb i [] = i := by
  cases i with
  | closed => rfl
  | storer enc => cases enc <;> simp [GW.absorb]
  | compressor m l enc p => simp [GW.absorb]

theorem Inner.sunk_nil (i : Inner) : i.sunk [] = [] := by
  cases i with
  | storer enc => cases enc <;> rfl
  | _ => rfl

theorem GW.fin_nil (s : WState) : GW.fin s [] = s := by
  unfold GW.fin
  rw [GW.absorb_nil]
  rfl

theorem InnerOk.absorb {i : Inner} (h : InnerOk i) (bs : Bytes) : InnerOk (GW.absorb i bs) := by
  cases i with
  | closed => exact h
  | storer enc => cases enc with
    | none => exact h
    | some e => exact EncOk.append h bs
  | compressor m l enc p => exact h

theorem Inv.fin {s : WState} (hI : Inv s) (hwe : s.writingToExtraField = false) (buf : Bytes) :
    Inv (GW.fin s buf) :=
  (hI.setInner (hI.innerOk.absorb buf) hwe).stats _ _ _

theorem writeData_sat (buf : Bytes) (s : WState) (hI : Inv s) (fa : Option Nat) (d : Dev) :
    Sat (writeData buf s) fa d (Post (WriteDataPost s)) := by
  rw [writeData_eq]
  split
  · exact Sat.ok hI ⟨rfl, rfl, rfl, rfl⟩
  split
  · exact Sat.err hI
  next hwf =>
  obtain ⟨f, hf⟩ := exists_getLast? (hI.fileFiles (by simpa using hwf))
  rw [hf]
  split
  · exact Sat.err hI
  split
  · exact Sat.ok (hI.setLast_same_time hf rfl) ⟨rfl, rfl, rfl, rfl⟩
  next hwe =>
  have hI' := hI.fin (by simpa using hwe) buf
  refine Sat.ioI hI (MSat.writeAll ..) fun _ d1 _ => ?_
  dsimp only
  split
  · exact Sat.err hI'.closeInner
  · exact Sat.ok hI' ⟨rfl, rfl, rfl, rfl⟩

theorem writeData_extra {s : WState} {f : FileData} (hwf : s.writingToFile = true)
    (hwe : s.writingToExtraField = true) (hcl : s.inner ≠ .closed) (hf : s.files.getLast? = some f)
    (buf : Bytes) :
    writeData buf s =
      pure (.ok (), { s with files := setLast s.files { f with extraField := f.extraField ++ buf } }) := by
  rw [writeData_eq]
  split
  · next hb =>
    have : setLast s.files { f with extraField := f.extraField ++ buf } = s.files := by
      obtain ⟨ys, h⟩ := List.getLast?_eq_some_iff.mp hf
      rw [List.isEmpty_iff.mp hb, List.append_nil, h, setLast_snoc]
    rw [this]
  · rw [hwf, Inner.isClosed_eq_false hcl, hwe, hf]
    rfl

/-! ### the start calls -/

theorem startFile_sat (ext : WExt) (name : Bytes) (o : FileOptions) (ho : TimeOk o.time)
    (s : WState) (hI : Inv s) (fa : Option Nat) (d : Dev) :
    Sat (startFile ext name o s) fa d
      (Post fun _ s' _ => s'.writingToFile = true ∧ s'.writingToExtraField = false) := by
  unfold startFile
  refine Sat.step (startEntry_sat ext name (withFilePerm o 0o644 0o100000) none ho s hI fa d) (fun _ _ => rfl)
    fun _ s1 d1 hI1 ⟨hwe, _, _, _, _, f, hf, _⟩ => ?_
  dsimp only
  refine Sat.switchTo hI1 (fun _ _ => rfl) fun i d2 hi _ _ _ => ?_
  exact Sat.ok (((hI1.setInner hi hwe).enterFile (ne_nil_of_getLast? hf) _)) ⟨rfl, hwe⟩

/-- `end_local_start_central_extra_data` from local extra-field mode: the offset is the old data start plus
the extra field and is the sink position; the open entry keeps its header start and has an empty extra field
again. -/
def EndLocalPost (s : WState) (ds : Nat) (s' : WState) (d' : Dev) : Prop :=
  s'.writingToExtraField = true ∧ s'.centralOnly = true ∧ s'.writingToFile = s.writingToFile ∧
  (s.centralOnly = false → ∃ f, s.files.getLast? = some f ∧
    ds = f.dataStart.toNat + f.extraField.length ∧ d'.pos = ds ∧
    ∃ f', s'.files.getLast? = some f' ∧ f'.dataStart = UInt64.ofNat ds ∧ f'.extraField = [] ∧
      f'.headerStart = f.headerStart)

theorem endLocalStartCentral_sat (ext : WExt) (s : WState) (hI : Inv s) (fa : Option Nat) (d : Dev) :
    Sat (endLocalStartCentral ext s) fa d (Post (EndLocalPost s)) := by
  unfold endLocalStartCentral
  refine Sat.step (endExtraData_sat ext s hI fa d) (fun _ _ => rfl)
    fun ds s1 d1 hI1 ⟨hwe, hco, hwf, f, hf, hcen, hloc⟩ => ?_
  dsimp only
  have hne := ne_nil_of_getLast? hf
  have hne1 : s1.files ≠ [] := by
    cases hc : s.centralOnly
    · rw [(hloc hc).2.2]; exact setLast_ne_nil hne
    · rw [(hcen hc).2.1]; exact hne
  obtain ⟨f1, hf1⟩ := exists_getLast? hne1
  rw [hf1]
  have := hI1.setLast_same_time hf1 (g := { f1 with extraField := [] }) rfl
  refine Sat.ok { this with extraFiles := fun _ => setLast_ne_nil hne1, centralExtra := fun _ => rfl, extraPlain := nofun }
    ⟨rfl, rfl, hwf, fun hco0 => ?_⟩
  obtain ⟨hds, hpos, hfiles⟩ := hloc hco0
  rw [hfiles, getLast?_setLast hne] at hf1
  cases hf1
  exact ⟨f, hf, hds, hpos, _, getLast?_setLast hne1, rfl, rfl, rfl⟩

/-- `(d + 4 + pad) % a = 0` for the pad `start_file_aligned` computes. -/
theorem pad_aligned (d a : Nat) (ha : 0 < a) : (d + 4 + (a - (d + 4) % a) % a) % a = 0 :=
  Align.padNat_aligned d a ha

/-! ### directories, symlinks, raw copies -/

theorem addDirectory_sat (ext : WExt) (name : Bytes) (o : FileOptions) (ho : TimeOk o.time)
    (s : WState) (hI : Inv s) (fa : Option Nat) (d : Dev) :
    Sat (addDirectory ext name o s) fa d (Post fun _ s' _ => s'.writingToFile = false) := by
  unfold addDirectory
  dsimp only
  -- `by exact ho` (here and below) is elaborated last, when the goal has fixed the options `_`, whose time is `o.time` by
  -- unfolding; a plain `ho` would fix them to `o`
  refine Sat.step (startEntry_sat ext _ _ none (by exact ho) s hI fa d) (fun _ _ => rfl) fun _ s1 d1 hI1 _ => ?_
  exact Sat.ok (hI1.leaveFile _) rfl

theorem addSymlink_sat (ext : WExt) (name target : Bytes) (o : FileOptions) (ho : TimeOk o.time)
    (s : WState) (hI : Inv s) (fa : Option Nat) (d : Dev) :
    Sat (addSymlink ext name target o s) fa d (Post fun _ s' _ => s'.writingToFile = false) := by
  unfold addSymlink
  dsimp only
  refine Sat.step (startEntry_sat ext _ _ none (by exact ho) s hI fa d) (fun _ _ => rfl)
    fun _ s1 d1 hI1 ⟨_, _, _, _, _, f, hf, _⟩ => ?_
  dsimp only
  refine Sat.step (writeData_sat target _ (hI1.enterFile (ne_nil_of_getLast? hf) _) fa d1) (fun _ _ => rfl)
    fun _ s2 d2 hI2 _ => ?_
  exact Sat.ok (hI2.leaveFile _) rfl

theorem rawCopy_sat (ext : WExt) (src : FileData) (raw name : Bytes) (ho : TimeOk src.time)
    (s : WState) (hI : Inv s) (fa : Option Nat) (d : Dev) :
    Sat (rawCopy ext src raw name s) fa d (Post fun _ _ _ => True) := by
  unfold rawCopy
  dsimp only
  refine Sat.step (startEntry_sat ext _ _ _ (by exact ho) s hI fa d) (fun _ _ => rfl)
    fun _ s1 d1 hI1 ⟨_, _, _, _, _, f, hf, _⟩ => ?_
  exact Sat.mono (writeData_sat raw _ (hI1.enterFile (ne_nil_of_getLast? hf) true) fa d1)
    fun _ _ h => ⟨h.1, fun _ _ => trivial⟩

/-! ### `finalize`, `finish`, `Drop` -/

theorem writeAllCentral_sat (s : WState) (hI : Inv s) (fs : List FileData) (hfs : ∀ f ∈ fs, TimeOk f.time)
    (fa : Option Nat) (d : Dev) :
    Sat (finalize.writeAllCentral s fs) fa d (Post fun _ s' d' => s' = s ∧ d.pos ≤ d'.pos) := by
  induction fs generalizing d with
  | nil =>
    unfold finalize.writeAllCentral
    exact Sat.ok hI ⟨rfl, Nat.le_refl _⟩
  | cons f rest ih =>
    unfold finalize.writeAllCentral
    split
    · next site h => exact absurd h (centralHeaderChunks_no_panic (hfs f (by simp)) site)
    · exact Sat.err hI
    · refine Sat.ioI hI (MSat.writeChunks ..) fun _ d1 hd1 => ?_
      apply Sat.mono (ih (fun g hg => hfs g (by simp [hg])) d1)
      intro rs d2 ⟨h1, h2⟩
      exact ⟨h1, fun v hv => ⟨(h2 v hv).1, by have := (h2 v hv).2; omega⟩⟩

/-- the optional pair of writes of `finalize`: ZIP64 end record, then locator -/
theorem Sat.z64 {s : WState} (hI : Inv s) {c : Prop} [Decidable c] {a b : List Bytes} {fa d} :
    Sat (if c then Model.io s (M.writeChunks a) fun _ => Model.io s (M.writeChunks b) fun _ => Pure.pure (.ok (), s)
      else Pure.pure (.ok (), s)) fa d (Post fun _ s' _ => s' = s) := by
  split
  · refine Sat.ioI hI (MSat.writeChunks ..) fun _ d5 _ => ?_
    exact Sat.ioI hI (MSat.writeChunks ..) fun _ d6 _ => Sat.ok hI rfl
  · exact Sat.ok hI rfl

theorem finalize_sat (ext : WExt) (s : WState) (hI : Inv s) (fa : Option Nat) (d : Dev) :
    Sat (finalize ext s) fa d (Post FinishPost) := by
  unfold finalize
  split
  · exact Sat.err hI
  refine Sat.step (finishFile_sat ext s hI fa d) (fun _ _ => rfl) fun _ s1 d1 hI1 hp => ?_
  dsimp only
  split
  · refine Sat.ioI hI1 (MSat.streamPosition ..) fun a d2 ⟨ha, hd2⟩ => ?_
    subst ha
    refine Sat.step (writeAllCentral_sat s1 hI1 s1.files hI1.times fa d2) (fun _ _ => rfl)
      fun _ s3 d3 _ ⟨hs3, hpos3⟩ => ?_
    subst hs3
    dsimp only
    refine Sat.ioI hI1 (MSat.streamPosition ..) fun a d4 ⟨ha, hd4⟩ => ?_
    subst ha
    rw [if_neg (by omega)]
    refine Sat.step (Sat.z64 hI1) (fun _ _ => rfl) fun _ s5 d5 _ hs5 => ?_
    subst hs5
    dsimp only
    refine Sat.ioI hI1 (MSat.writeChunks ..) fun _ d6 _ => ?_
    exact Sat.ok hI1 hp
  · next h => exact absurd hp.1 h

theorem finish_sat (ext : WExt) (s : WState) (hI : Inv s) (fa : Option Nat) (d : Dev) :
    Sat (finish ext s) fa d (Post fun _ s' _ => s'.inner = .closed ∧ s'.writingToFile = false) := by
  unfold finish
  refine Sat.step (finalize_sat ext s hI fa d) (fun _ _ => rfl) fun _ s1 d1 hI1 ⟨hin, _, _, hwf, _⟩ => ?_
  dsimp only
  split
  · exact Sat.ok hI1.closeInner ⟨rfl, hwf⟩
  · next h => exact absurd hin h

theorem dropInner_sat' (ext : WExt) (s : WState) (hI : Inv s) (fa : Option Nat) (d : Dev) :
    Sat (dropInner ext s) fa d (fun rs _ => Inv rs.2 ∧ rs.1 = .ok ()) := by
  unfold dropInner
  split
  · next m l pending _ =>
    split
    · have h := MSat.writeAll (ext.compress m l pending) fa d
      unfold MSat at h
      unfold Sat
      rw [M.bind_apply, M.attempt_apply]
      split at h
      · next he => rw [he]; exact ⟨hI.closeInner, rfl⟩
      · next he => rw [he]; exact ⟨hI.closeInner, rfl⟩
      · next he => rw [he]; exact h
    · exact Sat.pure ⟨hI, rfl⟩
  · exact Sat.pure ⟨hI, rfl⟩

theorem dropInner_sat (ext : WExt) (s : WState) (hI : Inv s) (fa : Option Nat) (d : Dev) :
    Sat (dropInner ext s) fa d (Post fun _ _ _ => True) :=
  Sat.mono (dropInner_sat' ext s hI fa d) (fun _ _ h => ⟨h.1, fun _ _ => trivial⟩)

theorem dropWriter_sat (ext : WExt) (s : WState) (hI : Inv s) (fa : Option Nat) (d : Dev) :
    Sat (dropWriter ext s) fa d (Post fun _ _ _ => True) := by
  unfold dropWriter
  split
  · exact Sat.ok hI trivial
  · apply Sat.bind
    apply Sat.mono (finalize_sat ext s hI fa d)
    intro ⟨r, s1⟩ d1 ⟨hI1, hp⟩
    exact dropInner_sat ext s1 hI1 fa d1

end ZipVerif.Model
