import ZipVerif.Lemmas.ReaderTotal
import ZipVerif.Lemmas.ParseExtra
/-
How far a successful parser advances the device (`AdvBy`, with its walker `adv`), and from that, for C05: the adequacy
of the fuel of the two end-record searches and of the two streaming loops (`*_fuel_mono`; `parseExtraField`'s is in
`Lemmas/ParseExtra`, the loops of `streamVisitC` are in `Lemmas/VisitBounds`) and the bounds on loop iterations, entry
counts and transient buffer sizes; last, where a successful `new_append` leaves the sink.
-/

namespace ZipVerif.Model
open ZipVerif

/-! ## `AdvBy`: bytes consumed by a successful run -/

/-- When `x` succeeds with a value satisfying `p`, it has left the buffer alone, has advanced the
position by at least `k`, and (if it started inside the buffer or `k > 0`) stands inside the buffer:
the `k` bytes really exist. -/
def Adv {α} (p : α → Prop) (k : Nat) (x : M α) : Prop :=
  ∀ fa d a d', x fa d = (.ok a, d') → p a →
    d'.buf = d.buf ∧ d.pos + k ≤ d'.pos ∧ ((d.pos ≤ d.buf.length ∨ 0 < k) → d'.pos ≤ d.buf.length)

/-- The same with the budget a function of the RESULT (`Adv p n` is `k a = n` on `p`): a successful run has left the
buffer alone and has moved forward by at least `k a` bytes that exist.  With it a loop is a body like any other
(`30 * l.length`, `46 * l.length`), and "so many records need so many bytes" is `AdvBy.room`. -/
def AdvBy {α} (k : α → Nat) (x : M α) : Prop :=
  ∀ fa d a d', x fa d = (.ok a, d') →
    d'.buf = d.buf ∧ d.pos + k a ≤ d'.pos ∧ ((d.pos ≤ d.buf.length ∨ 0 < k a) → d'.pos ≤ d.buf.length)

namespace Adv

theorem streamPosition {p : Nat → Prop} : Adv p 0 M.streamPosition := by
  intro fa d r d' h _
  obtain ⟨_, hb, hp⟩ := M.streamPosition_ok_inv h
  exact ⟨hb, by omega, by omega⟩

theorem readExact {p : Bytes → Prop} (n : Nat) : Adv p n (M.readExact n) := by
  intro fa d r d' h _
  obtain ⟨_, hb, hp, hl⟩ := M.readExact_ok_inv h
  exact ⟨hb, by omega, by omega⟩

theorem readU64 {p : UInt64 → Prop} : Adv p 8 M.readU64 := by
  intro fa d r d' h _
  obtain ⟨hb, hp, hl⟩ := M.readU64_ok_inv h
  exact ⟨hb, by omega, by omega⟩

end Adv

namespace AdvBy
variable {α β : Type} {k : α → Nat}

theorem of_adv {n : Nat} {x : M α} (h : Adv (fun _ => True) n x) : AdvBy (fun _ => n) x :=
  fun fa d a d' hr => h fa d a d' hr trivial

theorem elim {x : M α} (h : AdvBy k x) {fa : Option Nat} {d d' : Dev} {a : α} (hr : x fa d = (.ok a, d')) :
    d'.buf = d.buf ∧ d.pos + k a ≤ d'.pos ∧ ((d.pos ≤ d.buf.length ∨ 0 < k a) → d'.pos ≤ d.buf.length) :=
  h _ _ _ _ hr

/-- what a successful run reports to have consumed was there -/
theorem room {x : M α} (h : AdvBy k x) {fa : Option Nat} {d d' : Dev} {a : α} (hr : x fa d = (.ok a, d')) :
    k a ≤ d.buf.length - d.pos := by
  obtain ⟨_, hp, hl⟩ := h _ _ _ _ hr
  by_cases h0 : 0 < k a
  · have := hl (.inr h0); omega
  · omega

theorem pure (a : α) (h : k a = 0) : AdvBy k (Pure.pure a : M α) := by
  intro fa d b d' hr
  obtain ⟨rfl, rfl⟩ := M.pure_ok_inv hr
  exact ⟨rfl, by omega, fun h' => h'.elim id fun h' => by omega⟩

theorem throw (e : ZErr) : AdvBy k (M.throw e : M α) := fun _ _ _ _ h => (M.throw_ok_inv h).elim

theorem panic (s : String) : AdvBy k (M.panic s : M α) := fun _ _ _ _ h => by cases h

/-- The bind rule, in "remaining budget" form: what `x` has consumed is taken off what the whole must consume. -/
theorem bind {j : β → Nat} {x : M β} {f : β → M α} (hx : AdvBy j x) (hf : ∀ b, AdvBy (fun a => k a - j b) (f b)) :
    AdvBy k (x >>= f) := by
  intro fa d a d'' h
  obtain ⟨b, d1, h1, h2⟩ := M.bind_ok_inv h
  obtain ⟨b1, p1, i1⟩ := hx _ _ _ _ h1
  obtain ⟨b2, p2, i2⟩ := hf b _ _ _ _ h2
  rw [b1] at i2
  dsimp only at p2 i2
  exact ⟨b2.trans b1, by omega, by omega⟩

theorem ite {c : Prop} [Decidable c] {x y : M α} (hx : AdvBy k x) (hy : AdvBy k y) :
    AdvBy k (if c then x else y) := by
  split
  · exact hx
  · exact hy

theorem getDev : AdvBy (fun _ => 0) M.getDev := by
  intro fa d a d' h
  cases h
  exact ⟨rfl, Nat.le_refl _, fun h => h.elim id fun h => absurd h (Nat.lt_irrefl 0)⟩

theorem read (n : Nat) : AdvBy (fun _ => 0) (M.read n) := by
  intro fa d r d' h
  dsimp only
  obtain ⟨hr, hb, hp⟩ := M.read_ok_inv h
  have hl : r.length ≤ d.buf.length - d.pos := by
    rw [hr, List.length_take, List.length_drop]; omega
  exact ⟨hb, by omega, by omega⟩

theorem streamPosition : AdvBy (fun _ => 0) M.streamPosition := of_adv Adv.streamPosition

/-- A variable-length read contributes nothing to the guaranteed advance. -/
theorem readExact0 (n : Nat) : AdvBy (fun _ => 0) (M.readExact n) := fun fa d a d' hr => by
  obtain ⟨hb, hp, hl⟩ := of_adv (Adv.readExact n) fa d a d' hr
  dsimp only at hp hl ⊢
  exact ⟨hb, by omega, by omega⟩

theorem readU16 : AdvBy (fun _ => 2) M.readU16 := by
  intro fa d r d' h
  dsimp only
  obtain ⟨hb, hp, hl⟩ := M.readU16_ok_inv h
  exact ⟨hb, by omega, by omega⟩

theorem readU32 : AdvBy (fun _ => 4) M.readU32 := by
  intro fa d r d' h
  dsimp only
  obtain ⟨hb, hp, hl⟩ := M.readU32_ok_inv h
  exact ⟨hb, by omega, by omega⟩

theorem readU64 : AdvBy (fun _ => 8) M.readU64 := of_adv Adv.readU64

end AdvBy

attribute [irreducible] Adv AdvBy

/-- Walk a `do` block with the `AdvBy` rules: the goal states the total, every bind subtracts what its
first action guarantees, and a `pure` leaf checks that nothing is left. -/
syntax "adv" (" [" term,* "]")? : tactic
macro_rules
  | `(tactic| adv) => `(tactic| adv [])
  | `(tactic| adv [$ts,*]) => `(tactic|
      repeat (first
        | first $[| with_reducible exact $ts]*
        | with_reducible exact AdvBy.throw _
        | with_reducible exact AdvBy.panic _
        | with_reducible exact AdvBy.readExact0 _
        | with_reducible exact AdvBy.readU16
        | with_reducible exact AdvBy.readU32
        | with_reducible exact AdvBy.readU64
        | with_reducible exact AdvBy.read _
        | with_reducible exact AdvBy.streamPosition
        | with_reducible exact AdvBy.getDev
        | exact AdvBy.pure _ rfl
        | with_reducible apply AdvBy.bind
        | with_reducible apply AdvBy.ite
        | intro _
        | dsimp only
        | split))

theorem takeAll_adv (limit : Nat) : AdvBy (fun _ => 0) (takeAll limit) := by
  unfold takeAll
  adv

-- 46 = the fixed part of a central header, 42 of it behind the signature
theorem centralHeaderInner_adv (off start : Nat) : AdvBy (fun _ => 42) (centralHeaderInner off start) := by
  unfold centralHeaderInner
  adv

theorem centralHeader_adv (off : Nat) : AdvBy (fun _ => 46) (centralHeader off) := by
  unfold centralHeader
  adv [centralHeaderInner_adv _ _]

/-- an entry costs 30 bytes; the answer "no more entries" is free -/
def entryCost {α} (o : Option α) : Nat := if o.isSome then 30 else 0

theorem streamHeader_adv : AdvBy entryCost streamHeader := by
  unfold streamHeader
  adv

theorem streamEntry_adv (ext : Ext) : AdvBy entryCost (streamEntry ext) := by
  unfold streamEntry
  adv [streamHeader_adv, takeAll_adv _]

/-! ## Fuel adequacy of the two end-of-central-directory searches -/

/-- Backward search: once `fuel ≥ pos + 1 - bound` (the number of positions `pos, pos-1, …, bound`),
more fuel changes nothing: the recursion always ends through the loop's own exits. -/
theorem findEocdLoop_fuel_mono (bound : Nat) : ∀ (fuel pos extra : Nat), pos + 1 - bound ≤ fuel →
    findEocdLoop bound (fuel + extra) pos = findEocdLoop bound fuel pos := by
  intro fuel
  induction fuel with
  | zero =>
    intro pos extra h
    have hlt : pos < bound := by omega
    cases extra with
    | zero => rfl
    | succ e =>
      rw [Nat.zero_add]
      unfold findEocdLoop
      rw [if_pos hlt]
  | succ n ih =>
    intro pos extra h
    rw [show n + 1 + extra = (n + extra) + 1 by omega]
    unfold findEocdLoop
    split
    · rfl
    · refine bind_congr fun _ => bind_congr fun w => ?_
      split
      · rfl
      · split
        · rfl
        · exact ih _ _ (by omega)

/-- Forward search for the ZIP64 record: `fuel ≥ upper + 1 - pos` is adequate. -/
theorem findEocd64Loop_fuel_mono (nominal upper : Nat) : ∀ (fuel pos extra : Nat),
    upper + 1 - pos ≤ fuel →
    findEocd64Loop nominal upper (fuel + extra) pos = findEocd64Loop nominal upper fuel pos := by
  intro fuel
  induction fuel with
  | zero =>
    intro pos extra h
    have hlt : pos > upper := by omega
    cases extra with
    | zero => rfl
    | succ e =>
      rw [Nat.zero_add]
      unfold findEocd64Loop
      rw [if_pos hlt]
  | succ n ih =>
    intro pos extra h
    rw [show n + 1 + extra = (n + extra) + 1 by omega]
    unfold findEocd64Loop
    split
    · rfl
    · refine bind_congr fun _ => bind_congr fun w => ?_
      split
      · rfl
      · exact ih _ _ (by omega)

theorem findEocdLoop_pos_le (bound : Nat) : ∀ (fuel pos : Nat) {fa : Option Nat} {d d' : Dev}
    {e : Eocd} {c : Nat}, findEocdLoop bound fuel pos fa d = (.ok (e, c), d') → c ≤ pos := by
  intro fuel
  induction fuel with
  | zero =>
    intro pos fa d d' e c h
    unfold findEocdLoop at h
    exact (M.throw_ok_inv h).elim
  | succ n ih =>
    intro pos fa d d' e c h
    have hp : PostV (fun r : Eocd × Nat => r.2 ≤ pos) (findEocdLoop bound (n + 1) pos) := by
      unfold findEocdLoop
      apply PostV.ite (PostV.throw _)
      apply PostV.bind_any; intro _
      apply PostV.bind_any; intro w
      apply PostV.ite
      · apply PostV.bind_any; intro _
        refine PostV.bind (PostV.seekStart pos) ?_
        intro c hc
        apply PostV.bind_any; intro e
        apply PostV.pure
        exact Nat.le_of_eq hc
      · apply PostV.ite (PostV.throw _)
        refine PostV.intro fun fa d r d' hr => ?_
        exact Nat.le_trans (ih (pos - 1) (e := r.1) (c := r.2) hr) (Nat.sub_le _ _)
    exact hp.elim h

theorem findAndParseEocd_cde_le {fa : Option Nat} {d d' : Dev} {e : Eocd} {c : Nat}
    (h : findAndParseEocd fa d = (.ok (e, c), d')) : c + 22 ≤ d.buf.length := by
  delta findAndParseEocd at h
  obtain ⟨fl, d1, h1, h2⟩ := M.bind_ok_inv h
  obtain ⟨hfl, _⟩ := M.seek_end0_ok_inv h1
  dsimp only at h2
  by_cases hlt : fl < 22
  · rw [if_pos hlt] at h2
    exact (M.throw_ok_inv h2).elim
  · rw [if_neg hlt] at h2
    have := findEocdLoop_pos_le _ _ _ h2
    omega

/-! ## Streaming reader: fuel adequacy -/

/-- Entry loop of the streaming reader: every entry consumes ≥ 30 bytes that exist, so
`(len - pos) / 30 + 1` iterations always suffice; more fuel changes nothing. -/
theorem streamEntries_fuel_mono (ext : Ext) : ∀ (fuel extra : Nat) (fa : Option Nat) (d : Dev),
    d.buf.length - d.pos < 30 * fuel →
    streamEntries ext (fuel + extra) fa d = streamEntries ext fuel fa d := by
  intro fuel
  induction fuel with
  | zero => intro extra fa d h; omega
  | succ n ih =>
    intro extra fa d h
    rw [show n + 1 + extra = (n + extra) + 1 by omega]
    unfold streamEntries
    refine M.bind_congr_at fun e d1 he => ?_
    split
    · rfl
    · rename_i x
      obtain ⟨hb, hp, hl⟩ := (streamEntry_adv ext).elim he
      have hp : d.pos + 30 ≤ d1.pos := hp
      have hl := hl (.inr (show 0 < 30 by omega))
      refine M.bind_congr_left_at (ih extra fa d1 ?_)
      rw [hb]
      omega

/-- Central-directory loop of the streaming reader: ≥ 46 bytes per record. -/
theorem streamCentralLoop_fuel_mono : ∀ (fuel extra : Nat) (fa : Option Nat) (d : Dev),
    d.buf.length - d.pos < 46 * fuel →
    streamCentralLoop (fuel + extra) fa d = streamCentralLoop fuel fa d := by
  intro fuel
  induction fuel with
  | zero => intro extra fa d h; omega
  | succ n ih =>
    intro extra fa d h
    rw [show n + 1 + extra = (n + extra) + 1 by omega]
    unfold streamCentralLoop
    refine M.bind_congr_at fun sig d1 hs => ?_
    obtain ⟨hb1, hp1, hl1⟩ := M.readU32_ok_inv hs
    split
    · rfl
    · refine M.bind_congr_at fun f d2 hf => ?_
      obtain ⟨hb2, hp2, hl2⟩ := (centralHeaderInner_adv 0 0).elim hf
      have hl2 := hl2 (.inr (show 0 < 42 by omega))
      refine M.bind_congr_left_at (ih extra fa d2 ?_)
      rw [hb2, hb1] at *
      omega

/-- `ZipStreamReader::visit` with explicit fuels. -/
def streamVisitFuel (ext : Ext) (f1 f2 : Nat) : M (List (FileData × Out Bytes) × List FileData) := do
  let files ← streamEntries ext f1
  let first ← centralHeaderInner 0 0
  let rest ← streamCentralLoop f2
  pure (files, first :: rest)

theorem streamVisit_eq_fuel (ext : Ext) (fa : Option Nat) (d : Dev) :
    streamVisit ext fa d = streamVisitFuel ext (d.buf.length / 30 + 1) (d.buf.length / 46 + 1) fa d :=
  rfl

theorem streamVisitFuel_mono (ext : Ext) (fa : Option Nat) (d : Dev) (k1 k2 : Nat) :
    streamVisitFuel ext (d.buf.length / 30 + 1 + k1) (d.buf.length / 46 + 1 + k2) fa d =
      streamVisitFuel ext (d.buf.length / 30 + 1) (d.buf.length / 46 + 1) fa d := by
  unfold streamVisitFuel
  have h1 : d.buf.length - d.pos < 30 * (d.buf.length / 30 + 1) := by omega
  refine (M.bind_congr_left_at (streamEntries_fuel_mono ext _ k1 fa d h1)).trans ?_
  refine M.bind_congr_at fun files d1 hfiles => ?_
  have hb1 := (streamEntries_readOnly ext _).ok hfiles
  refine M.bind_congr_at fun first d2 hfirst => ?_
  have hb2 := (centralHeaderInner_readOnly 0 0).ok hfirst
  have h2 : d2.buf.length - d2.pos < 46 * (d.buf.length / 46 + 1) := by
    rw [hb2, hb1]; omega
  exact M.bind_congr_left_at (streamCentralLoop_fuel_mono _ k2 fa d2 h2)

/-! ## The central-directory loop of `ZipArchive::new` -/

theorem readCentralLoop_adv (off : Nat) : ∀ n, AdvBy (fun l => 46 * l.length) (readCentralLoop off n)
  | 0 => AdvBy.pure _ rfl
  | n + 1 => by
    unfold readCentralLoop
    refine AdvBy.bind (centralHeader_adv off) fun f => ?_
    refine AdvBy.bind (readCentralLoop_adv off n) fun rest => AdvBy.pure _ ?_
    show 46 * (rest.length + 1) - 46 - 46 * rest.length = 0
    omega

theorem readCentralLoop_length (off : Nat) : ∀ n, PostV (fun l => l.length = n) (readCentralLoop off n)
  | 0 => PostV.pure rfl
  | n + 1 => by
    unfold readCentralLoop
    exact PostV.bind_any fun f => PostV.bind (readCentralLoop_length off n) fun rest h =>
      PostV.pure (by rw [List.length_cons, h])

theorem readCentralLoop_ok (off n : Nat) {fa : Option Nat} {d d' : Dev} {files : List FileData}
    (h : readCentralLoop off n fa d = (.ok files, d')) :
    files.length = n ∧ d'.buf = d.buf ∧ d.pos + 46 * n ≤ d'.pos ∧ (0 < n → d'.pos ≤ d.buf.length) := by
  obtain rfl := (readCentralLoop_length off n).elim h
  obtain ⟨hb, hp, hl⟩ := (readCentralLoop_adv off _).elim h
  exact ⟨rfl, hb, hp, fun hn => hl (.inr (show 0 < 46 * files.length by omega))⟩

/-- The loop stops at the first error: a larger declared count fails in exactly the same way. -/
theorem readCentralLoop_err_mono (off : Nat) : ∀ (n k : Nat) {fa : Option Nat} {d d' : Dev} {e : ZErr},
    readCentralLoop off n fa d = (.err e, d') → readCentralLoop off (n + k) fa d = (.err e, d') := by
  intro n
  induction n with
  | zero =>
    intro k fa d d' e h
    unfold readCentralLoop at h
    cases h
  | succ n ih =>
    intro k fa d d' e h
    rw [show n + 1 + k = (n + k) + 1 by omega]
    unfold readCentralLoop at h ⊢
    rcases M.bind_err_inv h with h1 | ⟨f, d1, h1, h2⟩
    · exact M.bind_of_err h1
    · rw [M.bind_of_ok h1]
      rcases M.bind_err_inv h2 with h3 | ⟨rest, d2, _, h4⟩
      · exact M.bind_of_err (ih k h3)
      · cases h4

/-! ## Transient buffers: every `vec![0; n]` of the parsers has a 16-bit length -/

theorem parseEocd_comment_len : PostV (fun e => e.comment.length ≤ 65535) parseEocd := by
  unfold parseEocd
  postv
  rename_i clen comment hc
  have := clen.toNat_lt
  show comment.length ≤ 65535
  omega

theorem findEocdLoop_comment_len (bound : Nat) : ∀ (fuel pos : Nat),
    PostV (fun r => r.1.comment.length ≤ 65535) (findEocdLoop bound fuel pos) := by
  intro fuel
  induction fuel with
  | zero => intro pos; unfold findEocdLoop; exact PostV.throw _
  | succ n ih =>
    intro pos
    unfold findEocdLoop
    postv [ih _, PostV.bind parseEocd_comment_len fun e he => PostV.pure he]

/-- A successful `find_and_parse` returns a comment of at most 65535 bytes (its length is read from a `u16` field):
that is what makes `-(20 + 22 + comment.len() as i64)` of `get_directory_counts` safe. -/
theorem findAndParseEocd_comment_len :
    PostV (fun r => r.1.comment.length ≤ 65535) findAndParseEocd := by
  unfold findAndParseEocd
  postv [findEocdLoop_comment_len _ _ _]

theorem u16_le (x : UInt16) : x.toNat ≤ 65535 := Nat.le_of_lt_succ x.toNat_lt

theorem centralHeaderInner_raw_len (off start : Nat) :
    PostV (fun f => f.fileNameRaw.length ≤ 65535 ∧ f.extraField.length ≤ 65535)
      (centralHeaderInner off start) := by
  unfold centralHeaderInner
  postv
  all_goals
    refine ⟨?_, ?_⟩
    · show (parseExtraField _ _ _).1.fileNameRaw.length ≤ 65535
      rw [parseExtraField_keeps FileData.fileNameRaw fun _ => rfl]
      dsimp only
      simp only [*]
      exact u16_le _
    · show (parseExtraField _ _ _).1.extraField.length ≤ 65535
      rw [parseExtraField_keeps FileData.extraField fun _ => rfl]
      dsimp only
      simp only [*]
      exact u16_le _

theorem centralHeader_raw_len (off : Nat) :
    PostV (fun f => f.fileNameRaw.length ≤ 65535 ∧ f.extraField.length ≤ 65535)
      (centralHeader off) := by
  unfold centralHeader
  postv [centralHeaderInner_raw_len _ _]

/-! ## Bounds on what `ZipArchive::new` builds -/

/-- Whatever count the archive declares, the loop performs at most `len / 46 + 1` iterations: for
every larger count it fails exactly like the loop of `len / 46 + 1` iterations (same error, same
final device state). -/
theorem readCentralLoop_iters (off n : Nat) (fa : Option Nat) (d : Dev)
    (hn : d.buf.length / 46 + 1 ≤ n) :
    ∃ e d', readCentralLoop off (d.buf.length / 46 + 1) fa d = (.err e, d') ∧
      readCentralLoop off n fa d = (.err e, d') := by
  generalize hr : readCentralLoop off (d.buf.length / 46 + 1) fa d = r
  obtain ⟨(files | e | s), d'⟩ := r
  · obtain ⟨_, _, hp, hl⟩ := readCentralLoop_ok off _ hr
    have := hl (by omega)
    omega
  · refine ⟨e, d', rfl, ?_⟩
    have := readCentralLoop_err_mono off _ (n - (d.buf.length / 46 + 1)) hr
    rwa [show d.buf.length / 46 + 1 + (n - (d.buf.length / 46 + 1)) = n by omega] at this
  · have := (readCentralLoop_noPanic off (d.buf.length / 46 + 1)).elim fa d
    rw [hr] at this
    exact (this rfl).elim

/-- An opened archive has at most `len / 46` entries. -/
theorem openArchive_entries_bound {fa : Option Nat} {d d' : Dev} {a : Archive}
    (h : openArchive fa d = (.ok a, d')) : 46 * a.files.length ≤ d.buf.length := by
  unfold openArchive at h
  obtain ⟨⟨footer, cde⟩, d1, h1, h2⟩ := M.bind_ok_inv h
  dsimp only at h2
  split at h2
  · exact (M.throw_ok_inv h2).elim
  · obtain ⟨⟨off, ds, n⟩, d2, h3, h4⟩ := M.bind_ok_inv h2
    dsimp only at h4
    obtain ⟨r, d3, h5, h6⟩ := M.bind_ok_inv h4
    cases r with
    | error e => exact (M.throw_ok_inv h6).elim
    | ok v =>
      dsimp only at h6
      obtain ⟨files, d4, h7, h8⟩ := M.bind_ok_inv h6
      obtain ⟨rfl, _⟩ := M.pure_ok_inv h8
      obtain ⟨hlen, _, hp, hl⟩ := readCentralLoop_ok off n h7
      have b1 := findAndParseEocd_readOnly.ok h1
      have b2 := (getDirectoryCounts_readOnly _ _).ok h3
      have b3 := (ReadOnly.attempt (ReadOnly.seek _)).ok h5
      have hb : d3.buf.length = d.buf.length := by rw [b3, b2, b1]
      show 46 * files.length ≤ d.buf.length
      by_cases hn : 0 < n
      · have := hl hn
        omega
      · omega

/-- `openArchiveAlloc` (the function the translated `ZipArchive::new` is tied to): the entry bound of
`openArchive`, and where the requested capacity comes from. -/
theorem openArchiveAlloc_bounds {fa : Option Nat} {d d' : Dev} {a : Archive} {cap : Nat}
    (h : openArchiveAlloc fa d = (.ok (a, cap), d')) :
    46 * a.files.length ≤ d.buf.length ∧
    ∃ e cde d1 n ds, findAndParseEocd fa d = (.ok (e, cde), d1) ∧ cap = fileCapacity n cde ds := by
  unfold openArchiveAlloc at h
  obtain ⟨⟨footer, cde⟩, d1, h1, h2⟩ := M.bind_ok_inv h
  dsimp only at h2
  split at h2
  · exact (M.throw_ok_inv h2).elim
  · obtain ⟨⟨off, ds, n⟩, d2, h3, h4⟩ := M.bind_ok_inv h2
    dsimp only at h4
    obtain ⟨r, d3, h5, h6⟩ := M.bind_ok_inv h4
    cases r with
    | error e => exact (M.throw_ok_inv h6).elim
    | ok v =>
      dsimp only at h6
      obtain ⟨files, d4, h7, h8⟩ := M.bind_ok_inv h6
      obtain ⟨he, _⟩ := M.pure_ok_inv h8
      obtain ⟨rfl, rfl⟩ := Prod.mk.inj he
      obtain ⟨hlen, _, hp, hl⟩ := readCentralLoop_ok off n h7
      have b1 := findAndParseEocd_readOnly.ok h1
      have b2 := (getDirectoryCounts_readOnly _ _).ok h3
      have b3 := (ReadOnly.attempt (ReadOnly.seek _)).ok h5
      have hb : d3.buf.length = d.buf.length := by rw [b3, b2, b1]
      refine ⟨?_, footer, cde, d1, n, ds, h1, rfl⟩
      show 46 * files.length ≤ d.buf.length
      by_cases hn : 0 < n
      · have := hl hn
        omega
      · omega

/-! ## `new_append`: where the writer stands afterwards -/

theorem newAppend_loop_adv (off : Nat) : ∀ n, AdvBy (fun _ => 46 * n) (newAppend.loop off n)
  | 0 => AdvBy.pure _ rfl
  | n + 1 => by
    unfold newAppend.loop
    -- the A6 check (decoded name too long to be written back) performs no I/O
    refine AdvBy.bind (centralHeader_adv off) fun f => AdvBy.ite (AdvBy.throw _) ?_
    exact AdvBy.bind (newAppend_loop_adv off n) fun rest =>
      AdvBy.pure _ (by show 46 * (n + 1) - 46 - 46 * n = 0; omega)

theorem newAppend_loop_ok (off : Nat) : ∀ (n : Nat) {fa : Option Nat} {d d' : Dev}
    {files : List FileData}, newAppend.loop off n fa d = (.ok files, d') →
    d'.buf = d.buf ∧ d.pos ≤ d'.pos ∧ (0 < n → d'.pos ≤ d.buf.length) := by
  intro n fa d d' files h
  obtain ⟨hb, hp, hl⟩ := (newAppend_loop_adv off n).elim h
  exact ⟨hb, by omega, fun hn => hl (.inr (show 0 < 46 * n by omega))⟩

theorem M.attempt_ok_inv {α} {x : M α} {fa : Option Nat} {d d' : Dev} {r : Except ZErr α}
    (h : M.attempt x fa d = (.ok r, d')) :
    (∃ a, r = .ok a ∧ x fa d = (.ok a, d')) ∨ (∃ e, r = .error e ∧ x fa d = (.err e, d')) := by
  unfold M.attempt at h
  generalize x fa d = q at h
  obtain ⟨(a | e | s), d1⟩ := q
  · cases h; exact .inl ⟨a, rfl, rfl⟩
  · cases h; exact .inr ⟨e, rfl, rfl⟩
  · cases h

theorem M.seek_start_err_inv {n : Nat} {fa : Option Nat} {d d' : Dev} {e : ZErr}
    (h : M.seek (.start n) fa d = (.err e, d')) :
    d'.buf = d.buf ∧ d'.pos = d.pos ∧ fa ≠ none := by
  unfold M.seek M.prim at h
  dsimp only at h
  split at h
  · rename_i hfa
    cases h
    exact ⟨rfl, rfl, by rw [hfa]; exact fun h => by cases h⟩
  · split at h
    · rename_i hneg
      exact absurd hneg (by omega)
    · cases h

/-- A successful `new_append` — under ANY fault index — leaves the sink untouched and positioned on the
directory start, at least 22 bytes in front of the end of the input (since the D22 repair a failure of
the repositioning seek is an error: `Ok` means the seek happened). -/
theorem newAppend_position_bounded {fa : Option Nat} {d d' : Dev} {s : WState}
    (h : newAppend fa d = (.ok s, d')) :
    d'.buf = d.buf ∧ d'.pos + 22 ≤ d.buf.length := by
  obtain ⟨_, _, _, _, _, _, _, _, _, h1, hds, _, hp, _⟩ := newAppend_ok_inv h
  have := findAndParseEocd_cde_le h1
  exact ⟨newAppend_readOnly.ok h, by omega⟩

end ZipVerif.Model
