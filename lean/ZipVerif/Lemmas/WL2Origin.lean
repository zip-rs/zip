import ZipVerif.Lemmas.WL2Good
import ZipVerif.Lemmas.WLOrigin
/-
Level 2: where each closed entry of the ghost comes from (the analogue of `Lemmas/WLOrigin.lean` for
`Ghost2`): the record pushed for it, its password, local and central extra data and the plaintext
the `write` calls delivered.
-/

namespace ZipVerif.WL
open ZipVerif ZipVerif.Model ZipVerif.Spec.Zip
open ZipVerif.Props.C12 (Call)

/-- Where a closed entry comes from (Level 2). -/
inductive Origin2
  | old
  /-- started through the writer: record, ZipCrypto password (if any), local extra data, central extra
  data, plaintext -/
  | written (f : FileData) (enc : Option Bytes) (lx cx plain : Bytes)
  | raw (f : FileData) (data : Bytes)

def OriginRel2 (ext : WExt) : Origin2 → Spec.Zip.Entry → Prop
  | .old, _ => True
  | .written f enc lx cx plain, e => ∃ dp gap, f.time.datepart = some dp ∧
      e = specEntry (closedRec f cx plain (dataOf2 ext f enc plain)) dp gap lx (dataOf2 ext f enc plain)
        f.versionNeeded
  | .raw f data, e => ∃ dp gap, f.time.datepart = some dp ∧
      e = specEntry f dp gap [] data f.versionNeeded

/-- the open entry as `finish_file` closes it (after the implicit `end_extra_data`) -/
def Open2.closing (o : Open2) : Open2 :=
  match o.phase with
  | .data => o
  | _ => match o.endExtra with
    | .ok o' => o'
    | _ => o

def Open2.origin (o : Open2) : Origin2 :=
  if o.closing.raw then .raw o.closing.f o.closing.plain
  else .written o.closing.f o.closing.enc o.closing.lx o.closing.cx o.closing.plain

def Ghost2.closeOrigins (g : Ghost2) (org : List Origin2) : List Origin2 :=
  match g with
  | .opened _ _ _ o => org ++ [o.origin]
  | _ => org

def orgNext2 (g g' : Ghost2) (org : List Origin2) : List Origin2 :=
  match g, g' with
  | .opened D _ _ o, .opened D' _ _ _ => if D'.length = D.length then org else org ++ [o.origin]
  | _, _ => org

def originStep2 (ext : WExt) (g : Ghost2) (c : Call) (out : Out (Option Nat)) (org : List Origin2) :
    List Origin2 := orgNext2 g (ghostStep2 ext g c out) org

def originsOf2 (ext : WExt) : Ghost2 → List Origin2 → List Call → List (Out (Option Nat)) → List Origin2
  | g, org, c :: cs, o :: os => originsOf2 ext (ghostStep2 ext g c o) (originStep2 ext g c o org) cs os
  | _, org, _, _ => org

def Traced2 (ext : WExt) (g : Ghost2) (org : List Origin2) : Prop :=
  g.alive → Forall2 (OriginRel2 ext) org g.done

theorem finData_origin {ext : WExt} {o : Open2} {D : List Spec.Zip.Entry} {gap : Bytes}
    {es : List Spec.Zip.Entry} {gap' : Bytes} (h : o.finData ext D gap = .ok es gap') :
    ∃ e, es = D ++ [e] ∧ OriginRel2 ext (if o.raw then .raw o.f o.plain
      else .written o.f o.enc o.lx o.cx o.plain) e := by
  obtain ⟨dp, hdp, ⟨hraw, rfl, _⟩ | ⟨hraw, _, rfl⟩⟩ := Open2.finData_ok h <;> rw [hraw]
  · exact ⟨_, rfl, dp, gap, hdp, rfl⟩
  · exact ⟨_, rfl, dp, gap, hdp, rfl⟩

theorem fin_opened {ext : WExt} {D : List Spec.Zip.Entry} {gap c : Bytes} {o : Open2}
    {es : List Spec.Zip.Entry} {gap' : Bytes}
    (h : (Ghost2.opened D gap c o).fin ext = .ok es gap') :
    ∃ e, es = D ++ [e] ∧ OriginRel2 ext o.origin e := by
  obtain ⟨o', ho', h'⟩ := Open2.fin_ok (show o.fin ext D gap = .ok es gap' from h)
  have : o.closing = o' := by
    unfold Open2.closing
    rcases ho' with ⟨hp, rfl⟩ | ⟨hp, hx⟩
    · rw [hp]
    · cases hp' : o.phase with
      | data => exact absurd hp' hp
      | _ => simp only [hx]
  unfold Open2.origin
  rw [this]
  exact finData_origin h'

theorem fin_prefix {ext : WExt} {g : Ghost2} {es : List Spec.Zip.Entry} {gap : Bytes}
    (h : g.fin ext = .ok es gap) : g.done <+: es := by
  cases g with
  | dead => cases h
  | stuck ss n wf => cases h
  | lost => cases h
  | idle D gap0 c0 => cases h; exact List.prefix_refl _
  | opened D gap0 c0 o =>
    obtain ⟨e, hes, _⟩ := fin_opened h
    subst hes
    exact List.prefix_append _ _

/-- After `finish`: one origin per entry of the emitted layout, in order. -/
theorem traced2_final {ext : WExt} {g : Ghost2} {org : List Origin2} (hT : Traced2 ext g org)
    {es : List Spec.Zip.Entry} {gap : Bytes} (hg : g.fin ext = .ok es gap) :
    Forall2 (OriginRel2 ext) (g.closeOrigins org) es := by
  cases g with
  | idle D gap0 c0 => cases hg; exact hT trivial
  | opened D gap0 c0 o =>
    obtain ⟨e, hes, hrel⟩ := fin_opened hg
    subst hes
    exact (hT trivial).snoc hrel
  | _ => cases hg

theorem orgNext2_same {g g' : Ghost2} (h : g'.done = g.done) (org : List Origin2) : orgNext2 g g' org = org := by
  cases g <;> cases g' <;> first | rfl | skip
  next D _ _ o D' _ _ _ =>
    have : D' = D := h
    subst this
    simp [orgNext2]

theorem orgNext2_fin {ext : WExt} {g : Ghost2} {es : List Spec.Zip.Entry} {gap : Bytes}
    (hf : g.fin ext = .ok es gap) (gap' c' : Bytes) (o' : Open2) (org : List Origin2) :
    orgNext2 g (.opened es gap' c' o') org = g.closeOrigins org := by
  cases g with
  | opened D gap0 c0 o =>
    obtain ⟨e, rfl, _⟩ := fin_opened hf
    show (if (D ++ [e]).length = D.length then org else org ++ [o.origin]) = _
    rw [if_neg (by simp)]; rfl
  | _ => rfl

theorem traced2_step (ext : WExt) (g : Ghost2) (c : Call) (out : Out (Option Nat)) (org : List Origin2)
    (hT : Traced2 ext g org) : Traced2 ext (ghostStep2 ext g c out) (originStep2 ext g c out org) := by
  unfold originStep2
  generalize hR : ghostStep2 ext g c out = R
  intro ha'
  obtain ⟨ha, hs⟩ := ghostStep2_shape ext hR ha'
  have hsame : R.done = g.done → Forall2 (OriginRel2 ext) (orgNext2 g R org) R.done := fun e => by
    rw [orgNext2_same e, e]; exact hT ha
  cases hs with
  | started _ _ hf => rw [orgNext2_fin hf]; exact traced2_final hT hf
  | comment g c' => exact hsame (by cases g <;> rfl)
  | _ => exact hsame rfl

theorem traced2_run (ext : WExt) : ∀ (calls : List Call) (outs : List (Out (Option Nat))) (g : Ghost2)
    (org : List Origin2), Traced2 ext g org →
    Traced2 ext (ghostOf2 ext g calls outs) (originsOf2 ext g org calls outs)
  | [], outs, g, org, h => by cases outs <;> exact h
  | c :: cs, [], g, org, h => h
  | c :: cs, o :: os, g, org, h => traced2_run ext cs os _ _ (traced2_step ext g c o org h)

end ZipVerif.WL
