import ZipVerif.Lemmas.AesRun
/-
The concrete byte-list source with a short-read schedule, holding a whole entry `ct ‖ code ‖ rest`.
-/

namespace ZipVerif.Model.Aes
open ZipVerif

theorem sub_sub_add {a b c : Nat} (h1 : c ≤ b) (h2 : b ≤ a) : a - (b - c) = a - b + c := by
  rw [Nat.sub_eq_iff_eq_add (Nat.le_trans (Nat.sub_le _ _) h2), Nat.add_assoc, Nat.add_sub_cancel' h1,
    Nat.sub_add_cancel h2]

theorem listRd_eq (d : Bytes) (sc : List Nat) (m : Nat) :
    ∃ cap, cap ≤ m ∧ (0 < m → 0 < cap) ∧
      listSrc.rd ⟨d, sc⟩ m = (.ok (d.take cap), ⟨d.drop cap, sc.tail⟩) := by
  cases sc with
  | nil => exact ⟨m, Nat.le_refl _, id, rfl⟩
  | cons k t => exact ⟨min m (k + 1), Nat.min_le_left _ _, fun h => by omega, rfl⟩

theorem listSrc_contract : listSrc.Contract := by
  intro s n bs s' h
  obtain ⟨d, sc⟩ := s
  obtain ⟨cap, h1, _, h3⟩ := listRd_eq d sc n
  rw [h3] at h
  simp only [Prod.mk.injEq, RdRes.ok.injEq] at h
  rw [← h.1, List.length_take]
  omega

theorem readExactAux_list : ∀ (f : Nat) (d : Bytes) (sc : List Nat) (need : Nat) (acc : Bytes),
    need ≤ f → need ≤ d.length →
    ∃ sc', readExactAux listSrc f ⟨d, sc⟩ need acc = (.ok (acc ++ d.take need), ⟨d.drop need, sc'⟩) := by
  intro f
  induction f with
  | zero =>
    intro d sc need acc h _
    have : need = 0 := by omega
    subst this
    exact ⟨sc, by simp [readExactAux]⟩
  | succ f ih =>
    intro d sc need acc h hd
    cases need with
    | zero => exact ⟨sc, by simp [readExactAux]⟩
    | succ need =>
      obtain ⟨cap, h1, h2, h3⟩ := listRd_eq d sc (need + 1)
      have hcap : 0 < cap := h2 (Nat.succ_pos need)
      unfold readExactAux
      rw [h3]
      have hl : (d.take cap).length = cap := by
        rw [List.length_take]; exact Nat.min_eq_left (Nat.le_trans h1 hd)
      simp only [hl]
      rw [if_neg (Nat.ne_of_gt hcap), if_neg (Nat.not_lt.mpr h1)]
      obtain ⟨sc', e⟩ := ih (d.drop cap) sc.tail (need + 1 - cap) (acc ++ d.take cap)
        (Nat.le_trans (Nat.sub_le_sub_right h cap) (Nat.sub_le_of_le_add (Nat.add_le_add_left hcap f)))
        (by rw [List.length_drop]; exact Nat.sub_le_sub_right hd cap)
      have ec : cap + (need + 1 - cap) = need + 1 := Nat.add_sub_cancel' h1
      refine ⟨sc', ?_⟩
      rw [e, List.append_assoc, List.drop_drop, ← List.take_add, ec]

theorem readExact_list (d : Bytes) (sc : List Nat) (n : Nat) (h : n ≤ d.length) :
    ∃ sc', readExact listSrc ⟨d, sc⟩ n = (.ok (d.take n), ⟨d.drop n, sc'⟩) := by
  obtain ⟨sc', e⟩ := readExactAux_list n d sc n [] (Nat.le_refl _) h
  exact ⟨sc', by rw [readExact, e]; rfl⟩

/-- A reader in the middle of the concrete entry `ct ‖ code ‖ rest`. -/
structure ListInv (P : AesPrims) (ct code rest key hk : Bytes) (v : Valid ListSrc) (acc : Bytes) : Prop where
  run : RunInv P ct.length key hk v acc
  ghost : v.ghostCt = ct.take (ct.length - v.dataRemaining)
  inner : v.finalized = false →
    ∃ sc, v.inner = ⟨ct.drop (ct.length - v.dataRemaining) ++ (code ++ rest), sc⟩
  stored : ∀ c s, v.ghostMac = some (c, s) → s = code

def posCount (bufs : List Nat) : Nat := (bufs.filter (0 < ·)).length

theorem validate_list_reads (n : Nat) (salt pvv tail : Bytes) (sc : List Nat) (hs : salt.length = n)
    (hp : pvv.length = PWD_VERIFY_LENGTH) :
    ∃ sc1 sc2, readExact listSrc ⟨salt ++ pvv ++ tail, sc⟩ n = (.ok salt, ⟨pvv ++ tail, sc1⟩) ∧
      readExact listSrc ⟨pvv ++ tail, sc1⟩ PWD_VERIFY_LENGTH = (.ok pvv, ⟨tail, sc2⟩) := by
  obtain ⟨sc1, e1⟩ := readExact_list (salt ++ pvv ++ tail) sc n (by simp [List.length_append]; omega)
  obtain ⟨sc2, e2⟩ := readExact_list (pvv ++ tail) sc1 PWD_VERIFY_LENGTH (by simp [List.length_append]; omega)
  refine ⟨sc1, sc2, ?_, ?_⟩
  · rw [e1, List.append_assoc, ← hs, List.take_left, List.drop_left]
  · rw [e2, ← hp, List.take_left, List.drop_left]

theorem validate_list_inv (P : AesPrims) (mode : AesMode) (L : Nat) (pw salt pvv tail : Bytes) (sched : List Nat)
    (hs : salt.length = mode.saltLength) (hp : pvv.length = PWD_VERIFY_LENGTH) {v0 : Valid ListSrc} {s' : ListSrc}
    (hv : validate P listSrc mode (some L) ⟨salt ++ pvv ++ tail, sched⟩ pw = (.ok (some v0), s')) :
    pvv = (P.pbkdf2 pw salt (2 * mode.keyLength + 2)).drop (2 * mode.keyLength) ∧
      ∃ sc, v0 = initValid ⟨tail, sc⟩ L ((P.pbkdf2 pw salt (2 * mode.keyLength + 2)).take mode.keyLength)
        (((P.pbkdf2 pw salt (2 * mode.keyLength + 2)).drop mode.keyLength).take mode.keyLength) := by
  obtain ⟨L', salt', pvv', s1, hdl, hr1, hr2, hpv, rfl⟩ := validate_ok P listSrc mode _ _ s' pw v0 hv
  cases hdl
  obtain ⟨sc1, sc2, e1, e2⟩ := validate_list_reads mode.saltLength salt pvv tail sched hs hp
  cases e1.symm.trans hr1
  cases e2.symm.trans hr2
  exact ⟨hpv, sc2, rfl⟩

/-- `ListInv` holds of the reader `validate` hands out over a whole entry. -/
theorem ListInv.init (P : AesPrims) (ct code rest key hk : Bytes) (sc : List Nat) :
    ListInv P ct code rest key hk (initValid ⟨ct ++ (code ++ rest), sc⟩ ct.length key hk) [] := by
  refine ⟨RunInv.init P _ _ key hk, by simp [initValid], fun _ => ⟨sc, by simp [initValid]⟩, ?_⟩
  intro c s h; cases h

end ZipVerif.Model.Aes
