import ZipVerif.Lemmas.FaultVisit
import ZipVerif.Lemmas.ShortRead
import ZipVerif.Model.Interrupted
import ZipVerif.Lemmas.ReaderTotal
/-
C11, `ErrorKind::Interrupted` on the SEEKABLE reader: the general theorem.

`Model/Interrupted.lean` instantiates the generic parsers at `MI` (`read_exact` / `read_to_end` are std's retry loops:
`M.retried`; `seek` is a bare call).  Here: a relation `RI x y` between a computation `x` over `M` (every kind is a hard
failure) and its counterpart `y` over `MI`, closed under every combinator the parsers are written with (`RI.parserRel`), hence holding
of every generic parser (`G.rel_*`, `Lemmas/ParserRel`).  `RI x y` says, for every fault index and
device: EITHER `y` answers exactly as `x` does (always when the device does not fail with `Interrupted`, when there is
no fault, when the fault is not reached, and when it hits a bare call - then `x`'s answer is the reported error), OR
the device fails with `Interrupted`, the fault index lies among the calls of the failure-free run of `x`, and `y`
returns the outcome, value and device of that failure-free run with one more call counted (the fault hit a call
inside a retry loop).

Two side conditions on the `M` side make the relation compositional: `Uniform x` (`Lemmas/FaultCore`) and
`Shiftable x` - the failure-free run does not look at the call counter.
-/

namespace ZipVerif.Model
open ZipVerif

/-! ### `Shiftable`: the failure-free run does not depend on the call counter -/

structure Shiftable {α} (x : M α) : Prop where
  eq : ∀ d c, x none (d.shift c) = ((x none d).1, (x none d).2.shift c)

namespace Shiftable
variable {α β : Type}

theorem const (o : Out α) : Shiftable (fun _ d => (o, d) : M α) := ⟨fun _ _ => rfl⟩
theorem pure (a : α) : Shiftable (Pure.pure a : M α) := const _
theorem throw (e : ZErr) : Shiftable (M.throw e : M α) := const _
theorem panic (s : String) : Shiftable (M.panic s : M α) := const _

theorem bind {x : M α} {f : α → M β} (hx : Shiftable x) (hf : ∀ a, Shiftable (f a)) :
    Shiftable (x >>= f) := by
  refine ⟨fun d c => ?_⟩
  rw [M.bind_apply, M.bind_apply, hx.eq d c]
  cases h : x none d with
  | mk o d1 =>
    cases o with
    | ok a => exact (hf a).eq d1 c
    | err e => rfl
    | panic s => rfl

theorem attempt {x : M α} (hx : Shiftable x) : Shiftable (M.attempt x) := by
  refine ⟨fun d c => ?_⟩
  rw [M.attempt_apply, M.attempt_apply, hx.eq d c]
  cases h : x none d with
  | mk o d1 => cases o <;> rfl

theorem prim {f : Dev → Out α × Dev} (hf : ∀ d c, f (d.shift c) = ((f d).1, (f d).2.shift c)) :
    Shiftable (M.prim f) := by
  refine ⟨fun d c => ?_⟩
  have e : ∀ d' : Dev, M.prim f none d' = f { d' with calls := d'.calls + 1 } := by
    intro d'
    unfold M.prim
    dsimp only
    rw [if_neg (by simp)]
  rw [e, e]
  have : ({ d.shift c with calls := (d.shift c).calls + 1 } : Dev) =
      ({ d with calls := d.calls + 1 } : Dev).shift c := by
    unfold Dev.shift
    dsimp only
    rw [Nat.add_right_comm]
  rw [this, hf]

theorem read (n : Nat) : Shiftable (M.read n) := prim fun _ _ => rfl
theorem write (bs : Bytes) : Shiftable (M.write bs) := prim fun _ _ => rfl
theorem flush : Shiftable M.flush := prim fun _ _ => rfl
theorem seek (s : SeekFrom) : Shiftable (M.seek s) := by
  apply prim
  intro d c
  cases s <;> dsimp only [Dev.shift] <;> split <;> rfl

end Shiftable

/-- Not closed under `getDev`, which hands the call counter out as a value. -/
def Shiftable.mlogic : MLogic where
  P := Shiftable
  pure := Shiftable.pure
  bind := Shiftable.bind
  throw := Shiftable.throw
  read := Shiftable.read
  seek := Shiftable.seek

theorem Shiftable.readExact (n : Nat) : Shiftable (M.readExact n) := Shiftable.mlogic.readExact n

theorem Shiftable.writeAll (bs : Bytes) : Shiftable (M.writeAll bs) := by
  unfold M.writeAll
  split
  · exact Shiftable.pure _
  · exact Shiftable.bind (Shiftable.write _) fun _ => Shiftable.pure _

theorem Shiftable.takeAll (n : Nat) : Shiftable (takeAll n) := Shiftable.mlogic.takeAll n

/-! ### The relation -/

/-- `x` over `M` (every failure is a hard one) and `y`, the same computation with std's `Interrupted` convention. -/
structure RI {α} (x : M α) (y : MI α) : Prop where
  uni : Uniform x
  shift : Shiftable x
  rel : ∀ fa d, y fa d = x fa d ∨
    ∃ k, fa = some k ∧ d.fkind = .interrupted ∧ Fired k d (x none d).2 ∧
      y fa d = ((x none d).1, (x none d).2.shift 1)

namespace RI
variable {α β : Type}

/-- a computation without retry loops: the same on both sides -/
theorem same {x : M α} (hu : Uniform x) (hs : Shiftable x) : RI x x := ⟨hu, hs, fun _ _ => Or.inl rfl⟩

/-- a computation all of whose calls sit in retry loops -/
theorem retried {x : M α} (hu : Uniform x) (hs : Shiftable x) : RI x (M.retried x) := by
  refine ⟨hu, hs, fun fa d => ?_⟩
  rcases M.retried_cases x fa d with e | ⟨k, hk, hi, h1, h2, e⟩
  · exact Or.inl e
  · exact Or.inr ⟨k, hk, hi, ⟨h1, h2⟩, e⟩

theorem pure (a : α) : RI (Pure.pure a : M α) (Pure.pure a : MI α) := same (Uniform.pure a) (Shiftable.pure a)
theorem throw (e : ZErr) : RI (ParserIO.ioThrow e : M α) (ParserIO.ioThrow e : MI α) :=
  same (Uniform.throw e) (Shiftable.throw e)
theorem panic (s : String) : RI (ParserIO.ioPanic s : M α) (ParserIO.ioPanic s : MI α) :=
  same (Uniform.panic s) (Shiftable.panic s)
theorem seek (s : SeekFrom) : RI (ParserIO.ioSeek s : M Nat) (ParserIO.ioSeek s : MI Nat) :=
  same (Tight.seek s).uni (Shiftable.seek s)
theorem readExact (n : Nat) : RI (ParserIO.ioReadExact n : M Bytes) (ParserIO.ioReadExact n : MI Bytes) :=
  retried (Tight.readExact n).uni (Shiftable.readExact n)
theorem takeAll (n : Nat) : RI (ParserIO.ioTakeAll n : M Bytes) (ParserIO.ioTakeAll n : MI Bytes) :=
  retried (takeAll_tight n).uni (Shiftable.takeAll n)

theorem bind {x : M α} {y : MI α} {f : α → M β} {g : α → MI β} (h1 : RI x y)
    (h2 : ∀ a, RI (f a) (g a)) : RI (x >>= f) (y >>= g) := by
  refine ⟨Uniform.bind h1.uni fun a => (h2 a).uni, Shiftable.bind h1.shift fun a => (h2 a).shift, ?_⟩
  intro fa d
  have hy : (y >>= g) fa d = (match y fa d with
      | (.ok a, d') => g a fa d'
      | (.err e, d') => (.err e, d')
      | (.panic s, d') => (.panic s, d')) := rfl
  rcases h1.rel fa d with e | ⟨k, rfl, hi, hf, e⟩
  · rw [hy, e, M.bind_apply]
    cases h : x fa d with
    | mk o d1 =>
      cases o with
      | err e => exact Or.inl rfl
      | panic s => exact Or.inl rfl
      | ok a =>
        dsimp only
        rcases (h2 a).rel fa d1 with e2 | ⟨k, rfl, hi2, hf2, e2⟩
        · exact Or.inl e2
        · right
          have hk1 := h1.uni.kind (some k) d
          have hm1 := h1.uni.mono (some k) d
          rw [h] at hk1 hm1
          dsimp only at hk1 hm1
          have hnf : ¬ Fired k d (x (some k) d).2 := by
            rw [h]; unfold Fired at *; dsimp only; omega
          have h0 : x none d = (.ok a, d1) := by rw [← h1.uni.same_of_not_fired hnf, h]
          have hb : (x >>= f) none d = f a none d1 := by rw [M.bind_apply, h0]
          refine ⟨k, rfl, by rw [← hk1]; exact hi2, ?_, ?_⟩
          · rw [hb]; unfold Fired at *; omega
          · rw [hb]; exact e2
  · rw [hy, e]
    right
    cases h : x none d with
    | mk o d1 =>
      rw [h] at hf
      dsimp only at hf
      have hb := M.bind_apply x f none d
      rw [h] at hb
      cases o with
      | err e => exact ⟨k, rfl, hi, by rw [hb]; exact hf, by rw [hb]⟩
      | panic s => exact ⟨k, rfl, hi, by rw [hb]; exact hf, by rw [hb]⟩
      | ok a =>
        dsimp only at hb ⊢
        have hm2 := (h2 a).uni.mono none d1
        refine ⟨k, rfl, hi, by rw [hb]; unfold Fired at *; omega, ?_⟩
        rw [hb]
        -- a retry loop inside `x` absorbed the fault: the continuation starts on the failure-free device with one more
        -- call counted, where the fault lies in the past (`hlt`); it runs failure-free there, and `Shiftable` is what
        -- carries that run back to `d1`
        have hlt : k < (d1.shift 1).calls := by unfold Fired at hf; unfold Dev.shift; dsimp only; omega
        rcases (h2 a).rel (some k) (d1.shift 1) with e2 | ⟨k', hk', _, hf2, _⟩
        · rw [e2, (h2 a).uni.same_of_outside (Or.inl hlt), (h2 a).shift.eq d1 1]
        · cases hk'
          unfold Fired at hf2
          omega

theorem attempt {x : M α} {y : MI α} (h : RI x y) :
    RI (ParserIO.ioAttempt x : M (Except ZErr α)) (ParserIO.ioAttempt y : MI (Except ZErr α)) := by
  refine ⟨Uniform.attempt h.uni, Shiftable.attempt h.shift, ?_⟩
  intro fa d
  have hy : (ParserIO.ioAttempt y : MI (Except ZErr α)) fa d = (match y fa d with
      | (.ok a, d') => (.ok (.ok a), d')
      | (.err e, d') => (.ok (.error e), d')
      | (.panic s, d') => (.panic s, d')) := rfl
  have hx : ∀ fa, (ParserIO.ioAttempt x : M (Except ZErr α)) fa d = (match x fa d with
      | (.ok a, d') => (.ok (.ok a), d')
      | (.err e, d') => (.ok (.error e), d')
      | (.panic s, d') => (.panic s, d')) := fun _ => rfl
  rcases h.rel fa d with e | ⟨k, rfl, hi, hf, e⟩
  · left
    rw [hy, hx, e]
  · right
    have hd : ((ParserIO.ioAttempt x : M (Except ZErr α)) none d).2 = (x none d).2 := by
      rw [hx]; cases x none d with
      | mk o d1 => cases o <;> rfl
    refine ⟨k, rfl, hi, by rw [hd]; exact hf, ?_⟩
    rw [hy, e, hx]
    cases x none d with
    | mk o d1 => cases o <;> rfl

theorem ite {c : Prop} [Decidable c] {x x' : M α} {y y' : MI α} (h1 : RI x y) (h2 : RI x' y') :
    RI (if c then x else x') (if c then y else y') := by
  split
  · exact h1
  · exact h2

end RI

/-! ### Consequences of `RI` -/

theorem RI.hard {α} {x : M α} {y : MI α} (h : RI x y) (fa : Option Nat) (d : Dev) (hk : d.fkind ≠ .interrupted) :
    y fa d = x fa d := by
  rcases h.rel fa d with e | ⟨_, _, hi, _⟩
  · exact e
  · exact absurd hi hk

theorem RI.no_fault {α} {x : M α} {y : MI α} (h : RI x y) (d : Dev) : y none d = x none d := by
  rcases h.rel none d with e | ⟨_, hk, _⟩
  · exact e
  · cases hk

/-- **The trichotomy under an `Interrupted` fault**: not reached - the failure-free run; absorbed by a retry loop -
the failure-free outcome and device, one more call; or it fired in the hard-failure run too (a bare call). -/
theorem RI.interrupted {α} {x : M α} {y : MI α} (h : RI x y) (k : Nat) (d : Dev) :
    (¬ Fired k d (x none d).2 ∧ y (some k) d = x none d) ∨
    (Fired k d (x none d).2 ∧ d.fkind = .interrupted ∧ y (some k) d = ((x none d).1, (x none d).2.shift 1)) ∨
    (Fired k d (x none d).2 ∧ Fired k d (x (some k) d).2 ∧ y (some k) d = x (some k) d) := by
  rcases h.rel (some k) d with e | ⟨k', hk', hi, hf, e⟩
  · rcases h.uni.dich k d with ⟨e2, hw⟩ | ⟨f1, f2⟩
    · left
      exact ⟨by unfold Fired; omega, by rw [e, e2]⟩
    · right; right
      exact ⟨f2, f1, e⟩
  · cases hk'
    right; left
    exact ⟨hf, hi, e⟩

/-- `RI.interrupted` with what the hard-failure model says of a fired fault (its error) carried over to the third case. -/
theorem RI.interrupted_with {α} {x : M α} {y : MI α} (h : RI x y) (k : Nat) (d : Dev) {E : Out α → Prop}
    (hE : Fired k d (x (some k) d).2 → E (x (some k) d).1) :
    (¬ Fired k d (x none d).2 ∧ y (some k) d = x none d) ∨
    (Fired k d (x none d).2 ∧ d.fkind = .interrupted ∧ y (some k) d = ((x none d).1, (x none d).2.shift 1)) ∨
    (Fired k d (x none d).2 ∧ Fired k d (x (some k) d).2 ∧ y (some k) d = x (some k) d ∧ E (y (some k) d).1) := by
  rcases h.interrupted k d with h | h | ⟨h1, h2, h3⟩
  · exact Or.inl h
  · exact Or.inr (Or.inl h)
  · exact Or.inr (Or.inr ⟨h1, h2, h3, h3 ▸ hE h2⟩)

/-- **Any kind, `Interrupted` included**: when `x` reports every fired fault as an error, an `Ok` of `y` under a fault
carries the failure-free value, and the device is the failure-free one - with one more call counted when a retry loop
absorbed an `Interrupted`. -/
theorem RI.ok_is_faultfree {α} {x : M α} {y : MI α} (h : RI x y) (he : ErrOnFire x) {k : Nat} {d d' : Dev} {a : α}
    (hr : y (some k) d = (.ok a, d')) :
    ∃ d0, x none d = (.ok a, d0) ∧ (d' = d0 ∨ (d.fkind = .interrupted ∧ Fired k d d0 ∧ d' = d0.shift 1)) := by
  rcases h.rel (some k) d with e | ⟨k', hk', hi, hf, e⟩
  · rw [e] at hr
    exact ⟨d', ErrOnFire.ok_faultfree h.uni he hr, Or.inl rfl⟩
  · cases hk'
    rw [e] at hr
    cases h0 : x none d with
    | mk o d0 =>
      rw [h0] at hr hf
      cases hr
      exact ⟨d0, rfl, Or.inr ⟨hi, hf, rfl⟩⟩

theorem RI.noPanicOn {α} {x : M α} {y : MI α} (h : RI x y) {P : Dev → Prop} (hx : NoPanicOn P x) : NoPanicOn P y := by
  intro fa d hP
  rcases h.rel fa d with e | ⟨k, _, _, _, e⟩
  · rw [e]; exact hx fa d hP
  · rw [e]; exact hx none d hP

theorem RI.noPanic {α} {x : M α} {y : MI α} (h : RI x y) (hx : NoPanic x) : NoPanic (y : M α) := by
  exact NoPanic.intro fun fa d => h.noPanicOn (P := fun _ => True) (NoPanic.on hx) fa d trivial

/-! ### Every metadata parser of the seekable reader -/

/-- One step of a walk with the `RI` rules.  The leaf rules are tried at reducible transparency first (at the default
one a failing `exact` unfolds the whole body); the last three catch leaves stated with the `M` operations. -/
syntax "ri_step" : tactic
macro_rules
  | `(tactic| ri_step) => `(tactic| first
    | with_reducible_and_instances exact RI.pure _ | with_reducible_and_instances exact RI.throw _
    | with_reducible_and_instances exact RI.panic _ | with_reducible_and_instances exact RI.seek _
    | with_reducible_and_instances exact RI.readExact _ | with_reducible_and_instances exact RI.takeAll _
    | assumption
    | refine RI.bind ?_ ?_
    | refine RI.attempt ?_
    | refine RI.ite ?_ ?_
    | intro _
    | dsimp only
    | split
    | exact RI.pure _ | exact RI.throw _ | exact RI.panic _)

def RI.parserRel : ParserRel M MI where
  R := RI
  pure := RI.pure
  bind := RI.bind
  throw := RI.throw
  seek := RI.seek
  readExact := RI.readExact
  takeAll := RI.takeAll
  attempt := RI.attempt

namespace G

theorem ri_findAndParseEocd : RI (findAndParseEocd : M (Eocd × Nat)) (findAndParseEocd : MI (Eocd × Nat)) :=
  rel_findAndParseEocd RI.parserRel.toParserRel₀

theorem ri_getDirectoryCounts (footer : Eocd) (cdeStart : Nat) :
    RI (getDirectoryCounts footer cdeStart : M (Nat × Nat × Nat))
      (getDirectoryCounts footer cdeStart : MI (Nat × Nat × Nat)) :=
  rel_getDirectoryCounts RI.parserRel footer cdeStart

theorem ri_centralHeader (off : Nat) : RI (centralHeader off : M FileData) (centralHeader off : MI FileData) :=
  rel_centralHeader RI.parserRel.toParserRel₀ off

end G

/-- **`ZipArchive::new`: the hard-failure model and the model with std's `Interrupted` convention are related.** -/
theorem openArchiveI_ri : RI openArchive openArchiveI :=
  G.openArchive_M ▸ G.rel_openArchive RI.parserRel

/-- **`find_content`: the hard-failure model and the model with std's `Interrupted` convention are related.** -/
theorem findContentI_ri (f : FileData) : RI (findContent f) (findContentI f) :=
  G.findContent_M f ▸ G.rel_findContent RI.parserRel.toParserRel₀ RI.panic f

/-- **`by_index` + reading the entry to its end**, whichever way the consumer reads (`ta`: std's retrying loops or a
bare `read` loop). -/
theorem byIndexReadWith_ri (ta : Nat → MI Bytes) (hta : ∀ n, RI (takeAll n) (ta n)) (ext : Ext) (a : Archive) (i : Nat)
    (pw : Option Bytes) : RI (byIndexRead ext a i pw) (byIndexReadWith findContentI ta ext a i pw) := by
  rw [← byIndexReadWith_model]
  unfold byIndexReadWith
  repeat' first | with_reducible exact hta _ | with_reducible exact findContentI_ri _ | ri_step

theorem byIndexReadI_ri (ext : Ext) (a : Archive) (i : Nat) (pw : Option Bytes) :
    RI (byIndexRead ext a i pw) (byIndexReadI ext a i pw) :=
  byIndexReadWith_ri _ (fun n => RI.retried (takeAll_tight n).uni (Shiftable.takeAll n)) ext a i pw

theorem byIndexReadB_ri (ext : Ext) (a : Archive) (i : Nat) (pw : Option Bytes) :
    RI (byIndexRead ext a i pw) (byIndexReadB ext a i pw) :=
  byIndexReadWith_ri _ (fun n => RI.same (takeAll_tight n).uni (Shiftable.takeAll n)) ext a i pw

/-! ### The read scenario: `ZipArchive::new`, then every entry by index with a bare-read consumer (the driver's `fault.read`) -/

/-- `readEntries` (`Lemmas/FaultReader`) over `byIndexReadB`. -/
def readEntriesB (ext : Ext) (a : Archive) (pw : Option Bytes) (fa : Option Nat) :
    List Nat → Dev → List (Out (PwResult (Nat × Out Bytes))) × Dev
  | [], d => ([], d)
  | i :: is, d =>
    ((byIndexReadB ext a i pw fa d).1 :: (readEntriesB ext a pw fa is (byIndexReadB ext a i pw fa d).2).1,
     (readEntriesB ext a pw fa is (byIndexReadB ext a i pw fa d).2).2)

/-- `openAndReadAll` with std's `Interrupted` convention and the bare-read consumer. -/
def openAndReadAllB (ext : Ext) (pw : Option Bytes) (fa : Option Nat) (d : Dev) :
    Out Archive × List (Out (PwResult (Nat × Out Bytes))) × Dev :=
  match openArchiveI fa d with
  | (.ok a, d') => (.ok a, readEntriesB ext a pw fa (List.range a.files.length) d')
  | (o, d') => (o, [], d')

theorem readEntriesB_past (ext : Ext) (a : Archive) (pw : Option Bytes) (k : Nat) : ∀ (is : List Nat) (d : Dev),
    k < d.calls → readEntriesB ext a pw (some k) is d = readEntries ext a pw none is d
  | [], _, _ => rfl
  | i :: is, d, hk => by
    have e : byIndexReadB ext a i pw (some k) d = byIndexRead ext a i pw none d := by
      rcases (byIndexReadB_ri ext a i pw).rel (some k) d with e | ⟨k', hk', _, hf, _⟩
      · rw [e, (byIndexRead_tight ext a i pw).uni.same_of_outside (Or.inl hk)]
      · cases hk'; unfold Fired at hf; omega
    have hm := (byIndexRead_tight ext a i pw).uni.mono none d
    rw [readEntriesB, readEntries, e, readEntriesB_past ext a pw k is _ (by omega)]

theorem readEntries_shift (ext : Ext) (a : Archive) (pw : Option Bytes) (c : Nat) : ∀ (is : List Nat) (d : Dev),
    readEntries ext a pw none is (d.shift c) =
      ((readEntries ext a pw none is d).1, (readEntries ext a pw none is d).2.shift c)
  | [], _ => rfl
  | i :: is, d => by
    have e := (byIndexReadB_ri ext a i pw).shift.eq d c
    rw [readEntries, readEntries, e]
    dsimp only
    rw [readEntries_shift ext a pw c is]

/-- every entry read returned a value under one fault of ANY kind ⇒ the failure-free results; the device is the
failure-free one, with one more call counted when a retry loop absorbed an `Interrupted` -/
theorem readEntriesB_all_ok (ext : Ext) (a : Archive) (pw : Option Bytes) (k : Nat) : ∀ (is : List Nat) (d : Dev),
    (∀ o ∈ (readEntriesB ext a pw (some k) is d).1, o.isOk = true) →
    (readEntriesB ext a pw (some k) is d).1 = (readEntries ext a pw none is d).1 ∧
    ((readEntriesB ext a pw (some k) is d).2 = (readEntries ext a pw none is d).2 ∨
      (d.fkind = .interrupted ∧ (readEntriesB ext a pw (some k) is d).2 = (readEntries ext a pw none is d).2.shift 1))
  | [], _, _ => ⟨rfl, Or.inl rfl⟩
  | i :: is, d, hok => by
    rw [readEntriesB] at hok ⊢
    rw [readEntries]
    rcases h : byIndexReadB ext a i pw (some k) d with ⟨(r | e | p), d'⟩ <;> rw [h] at hok <;> dsimp only at hok ⊢
    · obtain ⟨d0, h0, hd⟩ := (byIndexReadB_ri ext a i pw).ok_is_faultfree (byIndexRead_tight ext a i pw).errOnFire h
      have hkd := (byIndexRead_tight ext a i pw).uni.kind none d
      rw [h0] at hkd ⊢
      dsimp only at hkd ⊢
      rcases hd with rfl | ⟨hi, hf, rfl⟩
      · obtain ⟨i1, i2⟩ := readEntriesB_all_ok ext a pw k is d' (fun o ho => hok o (List.mem_cons_of_mem _ ho))
        refine ⟨by rw [i1], ?_⟩
        rcases i2 with i2 | ⟨hi, i2⟩
        · exact Or.inl i2
        · exact Or.inr ⟨by rw [← hkd]; exact hi, i2⟩
      · have hp := readEntriesB_past ext a pw k is (d0.shift 1)
          (by unfold Fired at hf; unfold Dev.shift; dsimp only; omega)
        rw [hp, readEntries_shift]
        exact ⟨rfl, Or.inr ⟨hi, rfl⟩⟩
    · exact absurd (hok _ (List.mem_cons_self ..)) (by simp [Out.isOk])
    · exact absurd (hok _ (List.mem_cons_self ..)) (by simp [Out.isOk])

/-- **The read scenario under one fault of ANY kind**: `new` returned an archive and every entry read returned a value ⇒
the archive value and every entry's result are those of the failure-free scenario, and so is the device - with one more
call counted when a retry loop absorbed an `Interrupted`. -/
theorem openAndReadAllB_all_ok (ext : Ext) (pw : Option Bytes) (k : Nat) (d : Dev)
    (h1 : (openAndReadAllB ext pw (some k) d).1.isOk = true)
    (h2 : ∀ o ∈ (openAndReadAllB ext pw (some k) d).2.1, o.isOk = true) :
    (openAndReadAllB ext pw (some k) d).1 = (openAndReadAll ext pw none d).1 ∧
    (openAndReadAllB ext pw (some k) d).2.1 = (openAndReadAll ext pw none d).2.1 ∧
    ((openAndReadAllB ext pw (some k) d).2.2 = (openAndReadAll ext pw none d).2.2 ∨
      (d.fkind = .interrupted ∧ (openAndReadAllB ext pw (some k) d).2.2 = (openAndReadAll ext pw none d).2.2.shift 1)) := by
  unfold openAndReadAllB at h1 h2 ⊢
  unfold openAndReadAll
  rcases h : openArchiveI (some k) d with ⟨(a | e | p), d'⟩ <;> rw [h] at h1 h2 <;> dsimp only at h1 h2 ⊢
  · obtain ⟨d0, h0, hd⟩ := openArchiveI_ri.ok_is_faultfree openArchive_errOnFire h
    have hkd := openArchive_uniform.kind none d
    rw [h0] at hkd ⊢
    dsimp only at hkd ⊢
    rcases hd with rfl | ⟨hi, hf, rfl⟩
    · obtain ⟨i1, i2⟩ := readEntriesB_all_ok ext a pw k (List.range a.files.length) d' h2
      refine ⟨rfl, i1, ?_⟩
      rcases i2 with i2 | ⟨hi, i2⟩
      · exact Or.inl i2
      · exact Or.inr ⟨by rw [← hkd]; exact hi, i2⟩
    · have hp := readEntriesB_past ext a pw k (List.range a.files.length) (d0.shift 1)
        (by unfold Fired at hf; unfold Dev.shift; dsimp only; omega)
      rw [hp, readEntries_shift]
      exact ⟨rfl, rfl, Or.inr ⟨hi, rfl⟩⟩
  · cases h1
  · cases h1

theorem readEntriesB_hard (ext : Ext) (a : Archive) (pw : Option Bytes) (fa : Option Nat) : ∀ (is : List Nat) (d : Dev),
    (d.fkind ≠ .interrupted ∨ fa = none) → readEntriesB ext a pw fa is d = readEntries ext a pw fa is d
  | [], _, _ => rfl
  | i :: is, d, hk => by
    have e : byIndexReadB ext a i pw fa d = byIndexRead ext a i pw fa d := by
      rcases hk with hk | rfl
      · exact (byIndexReadB_ri ext a i pw).hard fa d hk
      · exact (byIndexReadB_ri ext a i pw).no_fault d
    have hkd := (byIndexRead_tight ext a i pw).uni.kind fa d
    rw [readEntriesB, readEntries, e, readEntriesB_hard ext a pw fa is _ (by rw [hkd]; exact hk)]

theorem openAndReadAllB_hard (ext : Ext) (pw : Option Bytes) (fa : Option Nat) (d : Dev)
    (hk : d.fkind ≠ .interrupted ∨ fa = none) : openAndReadAllB ext pw fa d = openAndReadAll ext pw fa d := by
  have e : openArchiveI fa d = openArchive fa d := by
    rcases hk with hk | rfl
    · exact openArchiveI_ri.hard fa d hk
    · exact openArchiveI_ri.no_fault d
  have hkd := openArchive_uniform.kind fa d
  unfold openAndReadAllB openAndReadAll
  rw [e]
  rcases h : openArchive fa d with ⟨(a | e | p), d'⟩ <;> rw [h] at hkd <;> dsimp only at hkd ⊢
  rw [readEntriesB_hard ext a pw fa _ d' (by rw [hkd]; exact hk)]

theorem seek_fault (s : SeekFrom) (d : Dev) : M.seek s (some d.calls) d = (.err (.io d.fkind), d.shift 1) :=
  M.prim_fault _ d

/-- **The first I/O call of `ZipArchive::new` is a bare `seek(End(0))`**: its failure - of whatever kind, `Interrupted`
included - is reported, with std's convention as without. -/
theorem openArchiveI_first_seek (d : Dev) :
    openArchiveI (some d.calls) d = (.err (.io d.fkind), d.shift 1) :=
  M.bind_of_err (M.bind_of_err (seek_fault _ d))

/-- **The first I/O call of `find_content` is a bare `seek(Start(header_start))`**: its failure - of whatever kind - is
reported, with std's convention as without. -/
theorem findContentI_first_seek (f : FileData) (d : Dev) :
    findContentI f (some d.calls) d = (.err (.io d.fkind), d.shift 1) :=
  M.bind_of_err (seek_fault _ d)

end ZipVerif.Model
