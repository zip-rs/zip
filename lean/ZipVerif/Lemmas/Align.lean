import ZipVerif.Model.Align
import ZipVerif.Spec.Extra
/-
C17: `validate_extra_data` against the APPNOTE record grammar (what it accepts, and the malformed remainders it
refuses), the `end_extra_data` step, and `start_file_aligned` and the user-facing extra-data sequences
(`alignedPlacement`, `extraPlacement`) with every checked operation resolved.
-/

namespace ZipVerif.Model.Align
open ZipVerif ZipVerif.Spec.Extra

/-- Decidable equality of outcomes (for `decide` on concrete model evaluations); written out under
its own name so that it cannot clash with a derived instance elsewhere. -/
instance outDecEq {α : Type} [DecidableEq α] : DecidableEq (Out α)
  | .ok a, .ok b => if h : a = b then isTrue (by rw [h]) else isFalse (fun e => h (Out.ok.inj e))
  | .err a, .err b => if h : a = b then isTrue (by rw [h]) else isFalse (fun e => h (Out.err.inj e))
  | .panic a, .panic b => if h : a = b then isTrue (by rw [h]) else isFalse (fun e => h (Out.panic.inj e))
  | .ok _, .err _ => isFalse (fun e => by cases e)
  | .ok _, .panic _ => isFalse (fun e => by cases e)
  | .err _, .ok _ => isFalse (fun e => by cases e)
  | .err _, .panic _ => isFalse (fun e => by cases e)
  | .panic _, .ok _ => isFalse (fun e => by cases e)
  | .panic _, .err _ => isFalse (fun e => by cases e)

theorem dropExact_append (p r : Bytes) : dropExact p.length (p ++ r) = some r := by
  induction p with
  | nil => cases r <;> rfl
  | cons x p ih => exact ih

theorem dropExact_some {n : Nat} {l r : Bytes} (h : dropExact n l = some r) :
    ∃ p, p.length = n ∧ l = p ++ r := by
  induction n generalizing l with
  | zero =>
    cases l <;> (simp only [dropExact, Option.some.injEq] at h; subst h; exact ⟨[], rfl, rfl⟩)
  | succ n ih =>
    cases l with
    | nil => simp [dropExact] at h
    | cons x t =>
      obtain ⟨p, hp, ht⟩ := ih (l := t) h
      exact ⟨x :: p, by simp [hp], by simp [ht]⟩

theorem dropExact_none {n : Nat} {l : Bytes} (h : dropExact n l = none) : l.length < n := by
  induction n generalizing l with
  | zero => cases l <;> simp [dropExact] at h
  | succ n ih =>
    cases l with
    | nil => simp
    | cons x t => have := ih (l := t) h; simp only [List.length_cons]; omega

theorem mk16_toNat (a b : UInt8) : (mk16 a b).toNat = a.toNat + 256 * b.toNat := by
  have ha := a.toNat_lt
  have hb := b.toNat_lt
  simp only [mk16, UInt16.toNat_ofNat']
  omega

theorem u16le_mk16 (a b : UInt8) : u16le (mk16 a b).toNat = [a, b] := by
  have ha := a.toNat_lt
  have hb := b.toNat_lt
  rw [mk16_toNat]
  simp only [u16le]
  have h1 : (a.toNat + 256 * b.toNat) % 256 = a.toNat := by omega
  have h2 : (a.toNat + 256 * b.toNat) / 256 = b.toNat := by omega
  rw [h1, h2, UInt8.ofNat_toNat, UInt8.ofNat_toNat]

theorem mk16_u16le (n : Nat) (h : n < 65536) :
    (mk16 (UInt8.ofNat (n % 256)) (UInt8.ofNat (n / 256))).toNat = n := by
  rw [mk16_toNat]
  simp only [UInt8.toNat_ofNat']
  omega

theorem extraFieldMapping_toNat : extraFieldMapping.map UInt16.toNat = reservedIds := by decide

theorem reservedKind_iff (k : UInt16) :
    reservedKind k = true ↔ k.toNat ≤ 31 ∨ k.toNat ∈ reservedIds := by
  have e31 : (31 : UInt16).toNat = 31 := by decide
  unfold reservedKind
  rw [Bool.or_eq_true, decide_eq_true_iff, UInt16.le_iff_toNat_le, e31, List.any_eq_true,
    ← extraFieldMapping_toNat, List.mem_map]
  constructor
  · rintro (h | ⟨x, hx, hxk⟩)
    · exact Or.inl h
    · exact Or.inr ⟨x, hx, by rw [eq_of_beq hxk]⟩
  · rintro (h | ⟨x, hx, hxk⟩)
    · exact Or.inl h
    · exact Or.inr ⟨x, hx, by rw [UInt16.toNat_inj.mp hxk]; exact beq_self_eq_true k⟩

/-! ### `validate_extra_data` = the record grammar -/

theorem validateLoop_sound (fuel : Nat) (data : Bytes) (h : validateLoop fuel data = .ok ()) :
    ∃ rs : List Record, (∀ r ∈ rs, r.Fits ∧ r.Allowed) ∧ encodeAll rs = data := by
  fun_induction validateLoop fuel data with
  | case1 => exact ⟨[], by simp, rfl⟩
  | case2 => cases h
  | case3 => cases h
  | case4 => cases h
  | case5 => cases h
  | case6 fuel a b c d rest kind size hk hr r hd ih =>
    obtain ⟨rs, hrs, henc⟩ := ih h
    obtain ⟨p, hp, hrest⟩ := dropExact_some hd
    have hk1 : kind.toNat ≠ 1 := by
      intro e
      apply hk
      have : kind = 1 := UInt16.toNat_inj.mp (by rw [e]; rfl)
      rw [this]; rfl
    have hres : ¬ (kind.toNat ≤ 31 ∨ kind.toNat ∈ reservedIds) := fun hx => hr ((reservedKind_iff kind).mpr hx)
    refine ⟨⟨kind.toNat, p⟩ :: rs, ?_, ?_⟩
    · intro x hx
      rcases List.mem_cons.mp hx with rfl | hx
      · refine ⟨⟨kind.toNat_lt, ?_⟩, hk1, ?_, ?_⟩
        · show p.length < 65536
          rw [hp]; exact (mk16 c d).toNat_lt
        · show 31 < kind.toNat
          omega
        · exact fun hm => hres (Or.inr hm)
      · exact hrs x hx
    · show u16le kind.toNat ++ u16le p.length ++ p ++ encodeAll rs = a :: b :: c :: d :: rest
      rw [hp, henc, hrest, u16le_mk16, u16le_mk16]
      rfl
  | case7 => cases h

theorem encodeAll_length_ge (rs : List Record) : 4 * rs.length ≤ (encodeAll rs).length := by
  induction rs with
  | nil => simp [encodeAll]
  | cons r rs ih =>
    simp only [encodeAll, Record.encode, u16le, List.length_append, List.length_cons, List.length_nil]
    omega

/-- One iteration on an encoded record header: the ID decides acceptance (the ZIP64 ID 1 lies in the reserved
range 0..31), the declared size what is skipped. -/
theorem validateLoop_record {id size : Nat} (hid : id < 65536) (hsize : size < 65536) (rest : Bytes) (fuel : Nat) :
    validateLoop (fuel + 1) (u16le id ++ u16le size ++ rest) =
      if id ≤ 31 ∨ id ∈ reservedIds then .err (.io .other)
      else match dropExact size rest with
        | none => .err (.io .other)
        | some r => validateLoop fuel r := by
  show validateLoop (fuel + 1) (UInt8.ofNat (id % 256) :: UInt8.ofNat (id / 256) :: UInt8.ofNat (size % 256) ::
    UInt8.ofNat (size / 256) :: rest) = _
  rw [validateLoop.eq_3, mk16_u16le size hsize]
  have hkn := mk16_u16le id hid
  generalize mk16 (UInt8.ofNat (id % 256)) (UInt8.ofNat (id / 256)) = k at hkn ⊢
  subst hkn
  by_cases hres : k.toNat ≤ 31 ∨ k.toNat ∈ reservedIds
  · rw [if_pos hres, if_pos ((reservedKind_iff k).mpr hres)]
    split <;> rfl
  · rw [if_neg hres, if_neg (fun h => hres ((reservedKind_iff k).mp h)), if_neg]
    · rfl
    · intro e
      rw [eq_of_beq e] at hres
      exact hres (Or.inl (by decide))

theorem validateLoop_skip (rs : List Record) (hrs : ∀ r ∈ rs, r.Fits ∧ r.Allowed) (tail : Bytes)
    (fuel : Nat) (hf : rs.length ≤ fuel) :
    validateLoop fuel (encodeAll rs ++ tail) = validateLoop (fuel - rs.length) tail := by
  induction rs generalizing fuel with
  | nil => simp [encodeAll]
  | cons r rs ih =>
    obtain ⟨⟨hid, hlen⟩, -, h31, hmem⟩ := hrs r (List.mem_cons_self ..)
    have hshape : encodeAll (r :: rs) ++ tail =
        u16le r.id ++ u16le r.payload.length ++ (r.payload ++ (encodeAll rs ++ tail)) := by
      simp only [encodeAll, Record.encode, List.append_assoc]
    obtain ⟨fuel, rfl⟩ : ∃ f, fuel = f + 1 := ⟨fuel - 1, by simp only [List.length_cons] at hf; omega⟩
    rw [hshape, validateLoop_record hid hlen, if_neg (fun h => h.elim (Nat.not_le_of_lt h31) hmem), dropExact_append]
    simp only [List.length_cons] at hf ⊢
    rw [ih (fun x hx => hrs x (List.mem_cons_of_mem _ hx)) fuel (by omega)]
    congr 1
    omega

theorem validateLoop_complete (rs : List Record) (hrs : ∀ r ∈ rs, r.Fits ∧ r.Allowed) (fuel : Nat)
    (hf : (encodeAll rs).length ≤ fuel) : validateLoop fuel (encodeAll rs) = .ok () := by
  have h := validateLoop_skip rs hrs [] fuel (by have := encodeAll_length_ge rs; omega)
  rw [List.append_nil] at h
  rw [h]
  exact validateLoop.eq_1 _

/-- Every outcome of the loop: accepted, refused with `Other`, or out of fuel — the last only when the fuel is
below the length. -/
theorem validateLoop_cases (fuel : Nat) (data : Bytes) :
    validateLoop fuel data = .ok () ∨ validateLoop fuel data = .err (.io .other) ∨
      (fuel < data.length ∧ ∃ s, validateLoop fuel data = .panic s) := by
  fun_induction validateLoop fuel data with
  | case1 => exact .inl rfl
  | case2 => exact .inr (.inr ⟨Nat.succ_pos _, _, rfl⟩)
  | case3 => exact .inr (.inl rfl)
  | case4 => exact .inr (.inl rfl)
  | case5 => exact .inr (.inl rfl)
  | case6 fuel a b c d rest kind size hk hr r hd ih =>
    refine ih.imp_right (Or.imp_right fun ⟨hlt, hs⟩ => ⟨?_, hs⟩)
    obtain ⟨p, _, hrest⟩ := dropExact_some hd
    rw [hrest, List.length_cons, List.length_cons, List.length_cons, List.length_cons, List.length_append]
    omega
  | case7 => exact .inr (.inl rfl)

theorem validateLoop_fuel (fuel : Nat) (data : Bytes) (hf : data.length ≤ fuel) (s : String) :
    validateLoop fuel data ≠ .panic s := by
  rcases validateLoop_cases fuel data with h | h | ⟨hlt, -⟩
  · rw [h]; nofun
  · rw [h]; nofun
  · exact absurd hlt (Nat.not_lt_of_le hf)

theorem validateExtraData_ok_iff (large : Bool) (ed : Bytes) :
    validateExtraData large ed = .ok () ↔
      WFExtra ed ∧ ed.length + zip64LocalRecordLen large ≤ 65535 := by
  have hz : zip64Reserve large = zip64LocalRecordLen large := rfl
  unfold validateExtraData
  rw [hz]
  by_cases hl : ed.length + zip64LocalRecordLen large > 65535
  · rw [if_pos hl]
    constructor
    · intro h; cases h
    · intro h; omega
  · rw [if_neg hl]
    constructor
    · intro h
      exact ⟨⟨by omega, validateLoop_sound _ _ h⟩, by omega⟩
    · rintro ⟨⟨_, rs, hrs, henc⟩, _⟩
      subst henc
      exact validateLoop_complete rs hrs _ (Nat.le_refl _)

theorem validateExtraData_no_panic (large : Bool) (ed : Bytes) (s : String) :
    validateExtraData large ed ≠ .panic s := by
  unfold validateExtraData
  split
  · intro h; cases h
  · exact validateLoop_fuel _ _ (Nat.le_refl _) s

theorem validate_ok_len {large : Bool} {ed : Bytes} (h : validateExtraData large ed = .ok ()) :
    ed.length + zip64Reserve large ≤ 65535 := by
  unfold validateExtraData at h
  split at h
  · cases h
  · omega

theorem base16_toNat (large : Bool) :
    (if large then (20 : UInt16) else 0).toNat = zip64Reserve large := by
  cases large <;> rfl

theorem checkedAdd64_ok {site : String} {a b : UInt64} (h : a.toNat + b.toNat < 18446744073709551616) :
    checkedAdd64 site a b = .ok (a + b) := if_pos h

theorem checkedAdd64_panic {site : String} {a b : UInt64} (h : ¬ a.toNat + b.toNat < 18446744073709551616) :
    checkedAdd64 site a b = .panic site := if_neg h

def EntrySt.afterLocal (st : EntrySt) : EntrySt :=
  { st with localExtra := st.localExtra ++ st.extraField,
            dataStart := st.dataStart + UInt64.ofNat st.extraField.length,
            xlenField := (if st.largeFile then 20 else 0) + UInt16.ofNat st.extraField.length,
            inExtra := false, centralOnly := false }

/-- `end_extra_data` with the `u16` addition resolved: after a successful validation
`20 + len as u16` cannot overflow. -/
theorem endExtraData_eq (st : EntrySt) : st.endExtraData =
    if !st.inExtra then .err (.io .other)
    else if st.closed then .err (.io .brokenPipe)
    else match validateExtraData st.largeFile st.extraField with
      | .err e => .err e
      | .panic s => .panic s
      | .ok () =>
        if st.centralOnly then .ok ({ st with inExtra := false, centralOnly := false }, st.dataStart)
        else if st.dataStart.toNat + st.extraField.length < 18446744073709551616 then
          if st.headerStart.toNat + 28 < 18446744073709551616 then
            .ok (st.afterLocal, st.dataStart + UInt64.ofNat st.extraField.length)
          else .panic "write.rs end_extra_data: header_start + 28"
        else .panic "write.rs end_extra_data: data_start + len" := by
  rw [EntrySt.endExtraData]
  congr 2
  generalize hv : validateExtraData st.largeFile st.extraField = v
  cases v with
  | err e => rfl
  | panic s => rfl
  | ok u =>
    dsimp only
    congr 1
    have hlen := validate_ok_len hv
    have hlt : st.extraField.length < 65536 := Nat.lt_succ_of_le (Nat.le_trans (Nat.le_add_right _ _) hlen)
    have h64 : (UInt64.ofNat st.extraField.length).toNat = st.extraField.length :=
      UInt64.toNat_ofNat_of_lt' (Nat.lt_trans hlt (by decide))
    have hb : (if st.largeFile = true then (20 : UInt16) else 0).toNat +
        (UInt16.ofNat st.extraField.length).toNat < 65536 := by
      rw [base16_toNat, UInt16.toNat_ofNat_of_lt' hlt]; exact Nat.lt_succ_of_le (Nat.add_comm _ _ ▸ hlen)
    by_cases h1 : st.dataStart.toNat + st.extraField.length < 18446744073709551616
    · rw [checkedAdd64_ok (h64.symm ▸ h1), if_pos h1]
      dsimp only
      rw [if_pos hb]
      by_cases h2 : st.headerStart.toNat + 28 < 18446744073709551616
      · rw [checkedAdd64_ok h2, if_pos h2]; rfl
      · rw [checkedAdd64_panic h2, if_neg h2]
    · rw [checkedAdd64_panic (h64.symm ▸ h1), if_neg h1]

def base16 (lf : Bool) : UInt16 := if lf then 20 else 0

theorem endExtraData_local_eval (hs : UInt64) (lf : Bool) (ds : UInt64) (ef le : Bytes) (xl : UInt16) :
    EntrySt.endExtraData ⟨hs, lf, ds, ef, true, false, false, le, xl⟩ =
      match validateExtraData lf ef with
      | .err e => .err e
      | .panic s => .panic s
      | .ok () =>
        if ds.toNat + ef.length < 18446744073709551616 then
          if hs.toNat + 28 < 18446744073709551616 then
            .ok (⟨hs, lf, ds + UInt64.ofNat ef.length, ef, false, false, false, le ++ ef,
                  base16 lf + UInt16.ofNat ef.length⟩, ds + UInt64.ofNat ef.length)
          else .panic "write.rs end_extra_data: header_start + 28"
        else .panic "write.rs end_extra_data: data_start + len" := by
  rw [endExtraData_eq]
  rfl

theorem endExtraData_central_eval (hs : UInt64) (lf : Bool) (ds : UInt64) (ef le : Bytes) (xl : UInt16) :
    EntrySt.endExtraData ⟨hs, lf, ds, ef, true, true, false, le, xl⟩ =
      match validateExtraData lf ef with
      | .err e => .err e
      | .panic s => .panic s
      | .ok () => .ok (⟨hs, lf, ds, ef, false, false, false, le, xl⟩, ds) := by
  rw [endExtraData_eq]
  rfl

theorem validate_nil (lf : Bool) : validateExtraData lf [] = .ok () := by cases lf <;> rfl

def zaBytes (p : Nat) : Bytes := [0x7a, 0x61] ++ le16 (UInt16.ofNat p) ++ List.replicate p 0

theorem zaBytes_length (p : Nat) : (zaBytes p).length = 4 + p := by
  simp only [zaBytes, List.length_append, List.length_cons, List.length_nil, le16_length,
    List.length_replicate]

theorem zaBytes_encode (p : Nat) (hp : p < 65536) :
    encodeAll [⟨0x617a, List.replicate p 0⟩] = zaBytes p := by
  have e : (UInt16.ofNat p).toNat = p := by rw [UInt16.toNat_ofNat']; omega
  simp only [encodeAll, Record.encode, u16le, zaBytes, le16, List.length_replicate, e,
    List.append_nil]
  rfl

theorem validate_za (lf : Bool) (p : Nat) (hp : p < 65536) :
    validateExtraData lf (zaBytes p) =
      if 4 + p + zip64Reserve lf > 65535 then .err (.io .invalidData) else .ok () := by
  by_cases h : 4 + p + zip64Reserve lf > 65535
  · rw [if_pos h]
    unfold validateExtraData
    rw [zaBytes_length, if_pos h]
  · rw [if_neg h, validateExtraData_ok_iff]
    refine ⟨⟨by rw [zaBytes_length]; omega, [⟨0x617a, List.replicate p 0⟩], ?_, zaBytes_encode p hp⟩, ?_⟩
    · intro r hr
      rw [List.mem_singleton] at hr
      subst hr
      refine ⟨⟨?_, by simpa using hp⟩, ?_, ?_, ?_⟩
      · show (0x617a : Nat) < 65536
        decide
      · show (0x617a : Nat) ≠ 1
        decide
      · show 31 < (0x617a : Nat)
        decide
      · show (0x617a : Nat) ∉ reservedIds
        decide
    · rw [zaBytes_length]
      exact Nat.le_of_not_gt h

theorem foldl_zaRecord (st : EntrySt) (p : UInt64) :
    (zaRecord p).foldl EntrySt.write st = { st with extraField := st.extraField ++ zaBytes p.toNat } := by
  have e : p.toUInt16 = UInt16.ofNat p.toNat := by
    apply UInt16.toNat_inj.mp
    rw [UInt64.toNat_toUInt16, UInt16.toNat_ofNat']
  simp only [zaRecord, List.foldl, EntrySt.write, zaBytes, e, List.append_assoc]

def padNat (d a : Nat) : Nat := (a - (d + 4) % a) % a

theorem padNat_lt (d a : Nat) (ha : 0 < a) : padNat d a < a := Nat.mod_lt _ ha

theorem padNat_aligned (d a : Nat) (ha : 0 < a) : (d + 4 + padNat d a) % a = 0 := by
  unfold padNat
  have hm : (d + 4) % a < a := Nat.mod_lt _ ha
  have hd := Nat.div_add_mod (d + 4) a
  by_cases h0 : (d + 4) % a = 0
  · rw [h0, Nat.sub_zero, Nat.mod_self, Nat.add_zero, h0]
  · have hlt : a - (d + 4) % a < a := by omega
    rw [Nat.mod_eq_of_lt hlt]
    have : d + 4 + (a - (d + 4) % a) = a * ((d + 4) / a + 1) := by
      rw [Nat.mul_add, Nat.mul_one]; omega
    rw [this, Nat.mul_mod_right]

theorem le_of_mod_eq_zero {a c x y : Nat} (hx : x < a) (h1 : (c + x) % a = 0) (h2 : (c + y) % a = 0) : x ≤ y := by
  apply Nat.le_of_not_lt
  intro hlt
  have hd : a ∣ (c + x) - (c + y) := Nat.dvd_sub (Nat.dvd_of_mod_eq_zero h1) (Nat.dvd_of_mod_eq_zero h2)
  rw [Nat.add_sub_add_left] at hd
  exact absurd (Nat.le_of_dvd (Nat.sub_pos_of_lt hlt) hd) (by omega)

theorem padLength_toNat (ds a : UInt64) (h4 : ds.toNat + 4 < 18446744073709551616)
    (ha : 0 < a.toNat) : (padLength ds a).toNat = padNat ds.toNat a.toNat := by
  have e4 : (4 : UInt64).toNat = 4 := by decide
  have hadd : (ds + 4).toNat = ds.toNat + 4 := by
    rw [UInt64.toNat_add, e4]; exact Nat.mod_eq_of_lt h4
  have hmod : ((ds + 4) % a).toNat = (ds.toNat + 4) % a.toNat := by rw [UInt64.toNat_mod, hadd]
  have hle : (ds + 4) % a ≤ a := by
    rw [UInt64.le_iff_toNat_le, hmod]; exact Nat.le_of_lt (Nat.mod_lt _ ha)
  unfold padLength padNat
  rw [UInt64.toNat_mod, UInt64.toNat_sub_of_le _ _ hle, hmod]

/-- A checked `u64` addition of a length, read in `Nat`. -/
theorem toNat_add_ofNat {d : UInt64} {k : Nat} (h : d.toNat + k < 18446744073709551616) :
    (d + UInt64.ofNat k).toNat = d.toNat + k := by
  rw [UInt64.toNat_add, UInt64.toNat_ofNat_of_lt' (Nat.lt_of_le_of_lt (Nat.le_add_left _ _) h), Nat.mod_eq_of_lt h]

/-! ### `start_file_aligned`, evaluated -/

/-- State after a successful `start_file_aligned` that wrote `extra` into the local header. -/
def alignedFinal (hs : UInt64) (lf : Bool) (ds : UInt64) (le extra : Bytes) : EntrySt :=
  { headerStart := hs, largeFile := lf, dataStart := ds + UInt64.ofNat extra.length,
    extraField := [], inExtra := false, centralOnly := false, closed := false,
    localExtra := le ++ extra, xlenField := base16 lf + UInt16.ofNat extra.length }

theorem startFileAligned_unpadded (hs : UInt64) (lf : Bool) (ds : UInt64) (le : Bytes) (xl : UInt16)
    (al : UInt16) (hnp : ¬ (1 < al.toNat ∧ ds.toNat % al.toNat ≠ 0)) :
    EntrySt.startFileAligned ⟨hs, lf, ds, [], true, false, false, le, xl⟩ al =
      if hs.toNat + 28 < 18446744073709551616 then .ok (alignedFinal hs lf ds le [], 0)
      else .panic "write.rs end_extra_data: header_start + 28" := by
  have hc : ¬ (1 < al.toUInt64 ∧ ds % al.toUInt64 ≠ 0) := by
    rw [UInt64.lt_iff_toNat_lt, Ne, ← UInt64.toNat_inj, UInt64.toNat_mod, UInt16.toNat_toUInt64]
    exact hnp
  have e0 : ds + UInt64.ofNat ([] : Bytes).length = ds := UInt64.add_zero ds
  rw [EntrySt.startFileAligned]
  dsimp only
  rw [if_neg hc]
  dsimp only
  rw [endExtraData_local_eval, validate_nil]
  dsimp only
  rw [if_pos (show ds.toNat + ([] : Bytes).length < 18446744073709551616 from ds.toNat_lt)]
  by_cases h28 : hs.toNat + 28 < 18446744073709551616
  · rw [if_pos h28, if_pos h28]
    dsimp only
    rw [e0, if_pos (Nat.le_refl _), UInt64.sub_self, alignedFinal, e0]
  · rw [if_neg h28, if_neg h28]

theorem startFileAligned_padded (hs : UInt64) (lf : Bool) (ds : UInt64) (le : Bytes) (xl : UInt16)
    (al : UInt16) (hp : 1 < al.toNat ∧ ds.toNat % al.toNat ≠ 0) :
    EntrySt.startFileAligned ⟨hs, lf, ds, [], true, false, false, le, xl⟩ al =
      if ds.toNat + 4 < 18446744073709551616 then
        if 4 + padNat ds.toNat al.toNat + zip64Reserve lf > 65535 then .err (.io .invalidData)
        else if ds.toNat + (4 + padNat ds.toNat al.toNat) < 18446744073709551616 then
          if hs.toNat + 28 < 18446744073709551616 then
            .ok (alignedFinal hs lf ds le (zaBytes (padNat ds.toNat al.toNat)),
                 UInt64.ofNat (4 + padNat ds.toNat al.toNat))
          else .panic "write.rs end_extra_data: header_start + 28"
        else .panic "write.rs end_extra_data: data_start + len"
      else .panic "write.rs start_file_aligned: data_start + 4" := by
  have ha : 0 < al.toUInt64.toNat := by rw [UInt16.toNat_toUInt64]; exact Nat.lt_trans Nat.zero_lt_one hp.1
  have hc : 1 < al.toUInt64 ∧ ds % al.toUInt64 ≠ 0 := by
    rw [UInt64.lt_iff_toNat_lt, Ne, ← UInt64.toNat_inj, UInt64.toNat_mod, UInt16.toNat_toUInt64]
    exact hp
  rw [EntrySt.startFileAligned]
  dsimp only
  rw [if_pos hc]
  by_cases h4 : ds.toNat + 4 < 18446744073709551616
  · rw [if_pos h4, if_pos h4]
    have hpl := padLength_toNat ds al.toUInt64 h4 ha
    rw [UInt16.toNat_toUInt64] at hpl
    have hplt : padNat ds.toNat al.toNat < 65536 :=
      Nat.lt_trans (padNat_lt ds.toNat al.toNat (Nat.lt_trans Nat.zero_lt_one hp.1)) al.toNat_lt
    have hsub : ((ds + 4) % al.toUInt64).toNat ≤ al.toUInt64.toNat := by
      rw [UInt64.toNat_mod]; exact Nat.le_of_lt (Nat.mod_lt _ ha)
    rw [if_pos hsub, foldl_zaRecord, hpl]
    dsimp only
    rw [List.nil_append, EntrySt.endLocalStartCentral, endExtraData_local_eval, validate_za lf _ hplt, zaBytes_length]
    by_cases hv : 4 + padNat ds.toNat al.toNat + zip64Reserve lf > 65535
    · rw [if_pos hv, if_pos hv]
    rw [if_neg hv, if_neg hv]
    dsimp only
    by_cases h1 : ds.toNat + (4 + padNat ds.toNat al.toNat) < 18446744073709551616
    rotate_left
    · rw [if_neg h1, if_neg h1]
    rw [if_pos h1, if_pos h1]
    by_cases h28 : hs.toNat + 28 < 18446744073709551616
    rotate_left
    · rw [if_neg h28, if_neg h28]
    rw [if_pos h28, if_pos h28]
    dsimp only
    have hfin : (ds + UInt64.ofNat (4 + padNat ds.toNat al.toNat)).toNat =
        ds.toNat + 4 + padNat ds.toNat al.toNat := by
      rw [toNat_add_ofNat h1, Nat.add_assoc]
    have hal : (ds + UInt64.ofNat (4 + padNat ds.toNat al.toNat)) % al.toUInt64 = 0 := by
      apply UInt64.toNat_inj.mp
      rw [UInt64.toNat_mod, hfin, UInt16.toNat_toUInt64]
      exact padNat_aligned ds.toNat al.toNat (Nat.lt_trans Nat.zero_lt_one hp.1)
    have hle : ds.toNat ≤ (ds + UInt64.ofNat (4 + padNat ds.toNat al.toNat)).toNat := by
      rw [hfin, Nat.add_assoc]; exact Nat.le_add_right _ _
    rw [if_pos hal]
    dsimp only
    rw [endExtraData_central_eval, validate_nil]
    dsimp only
    have hret : ds + UInt64.ofNat (4 + padNat ds.toNat al.toNat) - ds = UInt64.ofNat (4 + padNat ds.toNat al.toNat) := by
      rw [UInt64.add_comm, UInt64.add_sub_cancel]
    rw [if_pos hle, hret, alignedFinal, zaBytes_length]
  · rw [if_neg h4, if_neg h4]

/-! ### `alignedPlacement` and `extraPlacement`, evaluated -/

/-- Preliminary data start: stream position behind the local header, the name and the ZIP64 record. -/
def prelim (hs : UInt64) (n : Nat) (lf : Bool) : UInt64 := hs + UInt64.ofNat (30 + n + zip64Reserve lf)

theorem readerDataStart_of_toNat {hs ds : UInt64} {n : Nat} {x : UInt16} (hn : n ≤ 65535)
    (hds : ds.toNat = hs.toNat + 30 + n + x.toNat) :
    readerDataStart hs (UInt16.ofNat n) x = .ok ds := by
  have en : (UInt16.ofNat n).toNat = n := by rw [UInt16.toNat_ofNat']; exact Nat.mod_eq_of_lt (Nat.lt_succ_of_le hn)
  have hlt : hs.toNat + 30 + n + x.toNat < 18446744073709551616 := hds ▸ ds.toNat_lt
  unfold readerDataStart
  rw [en, if_pos hlt]
  congr 1
  apply UInt64.toNat_inj.mp
  have e30 : (30 : UInt64).toNat = 30 := rfl
  have h1 : (hs + 30).toNat = hs.toNat + 30 := by
    rw [UInt64.toNat_add, e30]
    exact Nat.mod_eq_of_lt (Nat.lt_of_le_of_lt (Nat.le_add_right _ _) (Nat.lt_of_le_of_lt (Nat.le_add_right _ _) hlt))
  have h2 : (hs + 30 + (UInt16.ofNat n).toUInt64).toNat = hs.toNat + 30 + n := by
    rw [UInt64.toNat_add, h1, UInt16.toNat_toUInt64, en]
    exact Nat.mod_eq_of_lt (Nat.lt_of_le_of_lt (Nat.le_add_right _ _) hlt)
  rw [UInt64.toNat_add, h2, UInt16.toNat_toUInt64, hds]
  exact Nat.mod_eq_of_lt hlt
theorem zip64Reserve_le (lf : Bool) : zip64Reserve lf ≤ 20 := by cases lf <;> decide

/-- The offset inequalities below the wrap bound (65585 = 30 + 20 + 65535: local header, ZIP64 record, a maximal
extra field).  The bound is a variable: an `omega` goal that mentions the literal 2^64 is slow to check. -/
theorem noWrap_bounds {B h n r p : Nat} (hw : h + n + 65585 < B) (hr : r ≤ 20) (hv : p + r ≤ 65535) :
    h + 28 < B ∧ h + 30 + n + r + 4 < B ∧ h + 30 + n + r + p < B := by omega

theorem prelim_eq_ofNat (hs : UInt64) (n : Nat) (lf : Bool) :
    prelim hs n lf = UInt64.ofNat (hs.toNat + 30 + n + zip64Reserve lf) := by
  rw [Nat.add_assoc, Nat.add_assoc, UInt64.ofNat_add, UInt64.ofNat_toNat, ← Nat.add_assoc]; rfl

theorem prelim_toNat {hs : UInt64} {n : Nat} (lf : Bool)
    (hw : hs.toNat + n + 65585 < 18446744073709551616) :
    (prelim hs n lf).toNat = hs.toNat + 30 + n + zip64Reserve lf := by
  rw [prelim_eq_ofNat]
  exact UInt64.toNat_ofNat_of_lt' (Nat.lt_of_le_of_lt (Nat.le_add_right _ 4)
    (noWrap_bounds hw (zip64Reserve_le lf) (p := 0) (by have := zip64Reserve_le lf; omega)).2.1)

theorem base16_eq_ofNat (lf : Bool) : base16 lf = UInt16.ofNat (zip64Reserve lf) := by cases lf <;> rfl

theorem placed_toNat {hs : UInt64} {n : Nat} {lf : Bool} (hw : hs.toNat + n + 65585 < 18446744073709551616)
    {len : Nat} (hlen : len + zip64Reserve lf ≤ 65535) :
    (prelim hs n lf + UInt64.ofNat len).toNat = hs.toNat + 30 + n + zip64Reserve lf + len ∧
    (base16 lf + UInt16.ofNat len).toNat = zip64Reserve lf + len := by
  rw [prelim_eq_ofNat, ← UInt64.ofNat_add, base16_eq_ofNat, ← UInt16.ofNat_add]
  exact ⟨UInt64.toNat_ofNat_of_lt' (noWrap_bounds hw (zip64Reserve_le lf) hlen).2.2,
    UInt16.toNat_ofNat_of_lt' (Nat.lt_succ_of_le (Nat.add_comm _ _ ▸ hlen))⟩

theorem init_eq (hs : UInt64) (n : Nat) (lf : Bool) :
    EntrySt.init hs n lf = ⟨hs, lf, prelim hs n lf, [], true, false, false, [], base16 lf⟩ := rfl

theorem ite_bind {α β} (c : Prop) [Decidable c] (a b : Out α) (k : α → Out β) :
    ((if c then a else b) >>= k) = if c then a >>= k else b >>= k := by split <;> rfl

/-- `start_file_aligned` with every checked operation resolved. -/
theorem alignedPlacement_eq (hs : UInt64) (n : Nat) (lf : Bool) (al : UInt16) :
    alignedPlacement hs n lf al =
      if n > 65535 then .err .invalidArchive
      else if 1 < al.toNat ∧ (prelim hs n lf).toNat % al.toNat ≠ 0 then
        if (prelim hs n lf).toNat + 4 < 18446744073709551616 then
          let pad := padNat (prelim hs n lf).toNat al.toNat
          if 4 + pad + zip64Reserve lf > 65535 then .err (.io .invalidData)
          else if (prelim hs n lf).toNat + (4 + pad) < 18446744073709551616 then
            if hs.toNat + 28 < 18446744073709551616 then
              .ok ⟨UInt64.ofNat (4 + pad), prelim hs n lf + UInt64.ofNat (4 + pad),
                   base16 lf + UInt16.ofNat (4 + pad), zaBytes pad, []⟩
            else .panic "write.rs end_extra_data: header_start + 28"
          else .panic "write.rs end_extra_data: data_start + len"
        else .panic "write.rs start_file_aligned: data_start + 4"
      else if hs.toNat + 28 < 18446744073709551616 then
        .ok ⟨0, prelim hs n lf, base16 lf, [], []⟩
      else .panic "write.rs end_extra_data: header_start + 28" := by
  have hbind : alignedPlacement hs n lf al = if n > 65535 then .err .invalidArchive else
      ((EntrySt.init hs n lf).startFileAligned al >>= fun p =>
        Out.ok (⟨p.2, p.1.dataStart, p.1.xlenField, p.1.localExtra, p.1.extraField⟩ : AlignResult)) := by
    unfold alignedPlacement
    congr 1
    cases (EntrySt.init hs n lf).startFileAligned al <;> rfl
  rw [hbind]
  congr 1
  rw [init_eq]
  by_cases hp : 1 < al.toNat ∧ (prelim hs n lf).toNat % al.toNat ≠ 0
  · rw [if_pos hp, startFileAligned_padded _ _ _ _ _ _ hp]
    simp only [ite_bind, Out.bind_ok, Out.bind_err, Out.bind_panic, alignedFinal, zaBytes_length, List.nil_append]
  · rw [if_neg hp, startFileAligned_unpadded _ _ _ _ _ _ hp]
    have e0 : UInt64.ofNat 0 = 0 := rfl
    have e1 : UInt16.ofNat 0 = 0 := rfl
    simp only [ite_bind, Out.bind_ok, Out.bind_panic, alignedFinal, List.append_nil, List.length_nil, e0, e1,
      UInt64.add_zero, UInt16.add_zero]

theorem ok_of_ite_panic {α} {c : Prop} [Decidable c] {a : Out α} {site : String} {r : α}
    (h : (if c then a else .panic site) = .ok r) : c ∧ a = .ok r := by
  by_cases hc : c
  · exact ⟨hc, (if_pos hc).symm.trans h⟩
  · rw [if_neg hc] at h; cases h

theorem ok_of_ite_err {α} {c : Prop} [Decidable c] {a : Out α} {e : ZErr} {r : α}
    (h : (if c then .err e else a) = .ok r) : ¬ c ∧ a = .ok r := by
  by_cases hc : c
  · rw [if_pos hc] at h; cases h
  · exact ⟨hc, (if_neg hc).symm.trans h⟩

theorem panic_of_ite_panic {α} {c : Prop} [Decidable c] {a : Out α} {site s : String}
    (h : (if c then a else .panic site) = .panic s) : s = site ∨ a = .panic s := by
  by_cases hc : c
  · exact Or.inr ((if_pos hc).symm.trans h)
  · rw [if_neg hc] at h; exact Or.inl (Out.panic.inj h).symm

/-- A successful `start_file_aligned`: nothing added when the data is aligned already, else the `za`
record with `padNat` zero bytes, whose end does not wrap. -/
theorem alignedPlacement_ok {hs : UInt64} {n : Nat} {lf : Bool} {al : UInt16} {r : AlignResult}
    (h : alignedPlacement hs n lf al = .ok r) :
    (¬ (1 < al.toNat ∧ (prelim hs n lf).toNat % al.toNat ≠ 0) ∧ r = ⟨0, prelim hs n lf, base16 lf, [], []⟩) ∨
    (1 < al.toNat ∧ 4 + padNat (prelim hs n lf).toNat al.toNat + zip64Reserve lf ≤ 65535 ∧
      (prelim hs n lf).toNat + (4 + padNat (prelim hs n lf).toNat al.toNat) < 18446744073709551616 ∧
      r = ⟨UInt64.ofNat (4 + padNat (prelim hs n lf).toNat al.toNat),
           prelim hs n lf + UInt64.ofNat (4 + padNat (prelim hs n lf).toNat al.toNat),
           base16 lf + UInt16.ofNat (4 + padNat (prelim hs n lf).toNat al.toNat),
           zaBytes (padNat (prelim hs n lf).toNat al.toNat), []⟩) := by
  rw [alignedPlacement_eq] at h
  obtain ⟨-, h⟩ := ok_of_ite_err h
  by_cases hp : 1 < al.toNat ∧ (prelim hs n lf).toNat % al.toNat ≠ 0
  · rw [if_pos hp] at h
    obtain ⟨-, h⟩ := ok_of_ite_panic h
    obtain ⟨hv, h⟩ := ok_of_ite_err h
    obtain ⟨h1, h⟩ := ok_of_ite_panic h
    obtain ⟨-, h⟩ := ok_of_ite_panic h
    exact Or.inr ⟨hp.1, Nat.le_of_not_lt hv, h1, (Out.ok.inj h).symm⟩
  · rw [if_neg hp] at h
    obtain ⟨-, h⟩ := ok_of_ite_panic h
    exact Or.inl ⟨hp, (Out.ok.inj h).symm⟩

/-! ### The user-facing extra-data sequences, evaluated -/

/-- What the local phase writes. -/
def localPart (mode : ExtraMode) (lo : Bytes) : Bytes := if mode = .centralOnly then [] else lo

/-- What the central record carries. -/
def centralPart (mode : ExtraMode) (lo ce : Bytes) : Bytes := if mode = .shared then lo else ce

def extraFinal (hs : UInt64) (n : Nat) (lf : Bool) (lo ce : Bytes) : EntrySt :=
  ⟨hs, lf, prelim hs n lf + UInt64.ofNat lo.length, ce, false, false, false, lo,
    base16 lf + UInt16.ofNat lo.length⟩

/-- the state the local phase ends the extra data from -/
def localSt (hs : UInt64) (n : Nat) (lf : Bool) (x : Bytes) : EntrySt :=
  ⟨hs, lf, prelim hs n lf, x, true, false, false, [], base16 lf⟩

/-- All three local phases are `end_extra_data` from one state (`centralOnly` is `split` with nothing written);
the split modes then reopen the field for the central part. -/
theorem extraLocalPhase_eq (hs : UInt64) (n : Nat) (lf : Bool) (mode : ExtraMode) (lo : Bytes) :
    extraLocalPhase hs n lf mode lo =
      (localSt hs n lf (localPart mode lo)).endExtraData >>= fun p =>
        .ok (if mode = .shared then p.1 else { p.1 with extraField := [], inExtra := true, centralOnly := true }) := by
  cases mode
  · show (match (localSt hs n lf lo).endExtraData with
      | .ok (st, _) => Out.ok st | .err e => .err e | .panic s => .panic s) = (localSt hs n lf lo).endExtraData >>= _
    rcases (localSt hs n lf lo).endExtraData with ⟨st, ds⟩ | e | s <;> rfl
  · show (match (localSt hs n lf lo).endLocalStartCentral with
      | .ok (st, _) => Out.ok st | .err e => .err e | .panic s => .panic s) = (localSt hs n lf lo).endExtraData >>= _
    unfold EntrySt.endLocalStartCentral
    rcases (localSt hs n lf lo).endExtraData with ⟨st, ds⟩ | e | s <;> rfl
  · show (match (localSt hs n lf []).endLocalStartCentral with
      | .ok (st, _) => Out.ok st | .err e => .err e | .panic s => .panic s) = (localSt hs n lf []).endExtraData >>= _
    unfold EntrySt.endLocalStartCentral
    rcases (localSt hs n lf []).endExtraData with ⟨st, ds⟩ | e | s <;> rfl

theorem extraPlacement_eq (hs : UInt64) (n : Nat) (lf : Bool) (mode : ExtraMode) (lo ce : Bytes) :
    extraPlacement hs n lf mode lo ce =
      match validateExtraData lf (localPart mode lo) with
      | .err e => .err e
      | .panic s => .panic s
      | .ok () =>
        if (prelim hs n lf).toNat + (localPart mode lo).length < 18446744073709551616 then
          if hs.toNat + 28 < 18446744073709551616 then
            if mode = .shared then .ok (extraFinal hs n lf lo lo)
            else match validateExtraData lf ce with
              | .err e => .err e
              | .panic s => .panic s
              | .ok () => .ok (extraFinal hs n lf (localPart mode lo) ce)
          else .panic "write.rs end_extra_data: header_start + 28"
        else .panic "write.rs end_extra_data: data_start + len" := by
  unfold extraPlacement
  rw [extraLocalPhase_eq, localSt, endExtraData_local_eval]
  cases validateExtraData lf (localPart mode lo) with
  | err e => rfl
  | panic s => rfl
  | ok u =>
    dsimp only
    by_cases h1 : (prelim hs n lf).toNat + (localPart mode lo).length < 18446744073709551616
    · by_cases h28 : hs.toNat + 28 < 18446744073709551616
      · rw [if_pos h1, if_pos h1, if_pos h28, if_pos h28]
        by_cases hm : mode = .shared
        · subst hm; rfl
        · rw [if_neg hm]
          simp only [Out.bind_ok, if_neg hm, extraCentralPhase, EntrySt.write, List.nil_append,
            endExtraData_central_eval]
          cases validateExtraData lf ce <;> rfl
      · rw [if_pos h1, if_pos h1, if_neg h28, if_neg h28]; rfl
    · rw [if_neg h1, if_neg h1]; rfl

theorem extraPlacement_ok {hs : UInt64} {n : Nat} {lf : Bool} {mode : ExtraMode} {lo ce : Bytes} {st : EntrySt}
    (h : extraPlacement hs n lf mode lo ce = .ok st) :
    validateExtraData lf (localPart mode lo) = .ok () ∧
    (mode = .shared ∨ validateExtraData lf ce = .ok ()) ∧
    st = extraFinal hs n lf (localPart mode lo) (centralPart mode lo ce) := by
  rw [extraPlacement_eq] at h
  cases hv : validateExtraData lf (localPart mode lo) with
  | err e => rw [hv] at h; cases h
  | panic s => rw [hv] at h; cases h
  | ok u =>
    rw [hv] at h
    replace h := (ok_of_ite_panic (ok_of_ite_panic h).2).2
    by_cases hm : mode = .shared
    · rw [if_pos hm] at h
      subst hm
      exact ⟨rfl, Or.inl rfl, (Out.ok.inj h).symm⟩
    · rw [if_neg hm] at h
      cases hc : validateExtraData lf ce with
      | err e => rw [hc] at h; cases h
      | panic s => rw [hc] at h; cases h
      | ok u' =>
        rw [hc] at h
        exact ⟨rfl, Or.inr rfl, by rw [centralPart, if_neg hm]; exact (Out.ok.inj h).symm⟩

/-- Below the wrap bound (`C17.NoWrap`) no offset computation of the sequence can overflow: the outcome is
decided by the two validations alone. -/
theorem extraPlacement_eq_of_noWrap (hs : UInt64) (n : Nat) (lf : Bool) (mode : ExtraMode) (lo ce : Bytes)
    (hw : hs.toNat + n + 65585 < 18446744073709551616) :
    extraPlacement hs n lf mode lo ce =
      match validateExtraData lf (localPart mode lo) with
      | .err e => .err e
      | .panic s => .panic s
      | .ok () =>
        if mode = .shared then .ok (extraFinal hs n lf lo lo)
        else match validateExtraData lf ce with
          | .err e => .err e
          | .panic s => .panic s
          | .ok () => .ok (extraFinal hs n lf (localPart mode lo) ce) := by
  rw [extraPlacement_eq]
  cases hv : validateExtraData lf (localPart mode lo) with
  | err e => rfl
  | panic s => rfl
  | ok u =>
    obtain ⟨h28, -, h1⟩ := noWrap_bounds hw (zip64Reserve_le lf) (p := (localPart mode lo).length)
      (validate_ok_len hv)
    dsimp only
    rw [if_pos (by rw [prelim_toNat lf hw]; exact h1), if_pos h28]

/-! ### Rejection of malformed remainders -/

theorem validateLoop_malformed (tail : Bytes) (h : Malformed tail) (fuel : Nat) :
    validateLoop (fuel + 1) tail = .err (.io .other) := by
  cases h with
  | shortHeader t h0 h4 =>
    apply validateLoop.eq_4
    · intro e; rw [e] at h0; simp at h0
    · intro a b c d rest e; rw [e] at h4; simp only [List.length_cons] at h4; omega
  | badId r more hfit hbad =>
    have hshape : r.encode ++ more = u16le r.id ++ u16le r.payload.length ++ (r.payload ++ more) := by
      simp only [Record.encode, List.append_assoc]
    rw [hshape, validateLoop_record hfit.1 hfit.2, if_pos]
    by_cases h31 : r.id ≤ 31
    · exact Or.inl h31
    · exact Or.inr (Classical.byContradiction fun hm => hbad ⟨by omega, by omega, hm⟩)
  | overrun id size payload hid hsize hshort =>
    rw [validateLoop_record hid hsize]
    split
    · rfl
    · cases hd : dropExact size payload with
      | none => rfl
      | some r =>
        obtain ⟨p, hp, hpl⟩ := dropExact_some hd
        rw [hpl, List.length_append, hp] at hshort
        omega

theorem malformed_ne_nil {t : Bytes} (h : Malformed t) : 0 < t.length := by
  cases h with
  | shortHeader t h0 _ => exact h0
  | badId r more _ _ => simp [Record.encode, u16le]
  | overrun id size payload _ _ _ => simp [u16le]

theorem validateExtraData_malformed (lf : Bool) (rs : List Record) (hrs : ∀ r ∈ rs, r.Fits ∧ r.Allowed)
    (tail : Bytes) (h : Malformed tail) :
    validateExtraData lf (encodeAll rs ++ tail) = .err (.io .invalidData) ∨
      validateExtraData lf (encodeAll rs ++ tail) = .err (.io .other) := by
  unfold validateExtraData
  split
  · exact Or.inl rfl
  · right
    have h1 := encodeAll_length_ge rs
    have h2 := malformed_ne_nil h
    rw [validateLoop_skip rs hrs tail _ (by rw [List.length_append]; omega)]
    obtain ⟨f, hf⟩ : ∃ f, (encodeAll rs ++ tail).length - rs.length = f + 1 :=
      ⟨(encodeAll rs ++ tail).length - rs.length - 1, by rw [List.length_append]; omega⟩
    rw [hf]
    exact validateLoop_malformed tail h f


end ZipVerif.Model.Align
