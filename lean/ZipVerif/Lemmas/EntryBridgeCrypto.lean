import ZipVerif.Lemmas.EntryBridge
import ZipVerif.Model.CryptoExt
import ZipVerif.Lemmas.ZipCryptoMap
/-
Bridge between the two models of "read an entry", ENCRYPTED entries (C09; `Lemmas/EntryBridge.lean` has the
unencrypted ones).

* `Model/Reader.lean` with the environment `Model.cryptoExt` (`Model/CryptoExt.lean`): `byIndexRead` positions
  the device, `takeAll`s the compressed bytes in one go and applies the ONE-SHOT `zipCryptoLayer pw check raw`
  (12-byte header, check byte, decryption of the rest), then `Ext.decode`, then `crcCheck`;
* `Model/Layers.lean`: `ZipCryptoReader::validate` (`zcValidate`: `read_exact` of the header through the
  `Take`, over a reader with arbitrary short reads) and then
  `Crc32Reader(decoder(ZipCryptoReaderValid(Take(reader))))` driven call by call (`entryPipelineZc`), both
  instantiated with the crate's cipher `ZipCrypto.decryptByte` and the keys derived from the password.
-/

namespace ZipVerif.Model
open ZipVerif ZipVerif.Spec ZipVerif.Model.Layers

/-- The one-shot `zipCryptoLayer` of `cryptoExt`, spelled with the layer model's transform. -/
theorem zipCryptoLayer_cases (pw : Bytes) (check : UInt8) (raw : Bytes) :
    (raw.length < 12 ∧ zipCryptoLayer pw check raw = .err (.io .unexpectedEof)) ∨
    (12 ≤ raw.length ∧
      (mapBytes ZipCrypto.decryptByte (ZipCrypto.derive pw) (raw.take 12))[11]? = some check ∧
      zipCryptoLayer pw check raw = .ok (some (mapBytes ZipCrypto.decryptByte
        (mapKey ZipCrypto.decryptByte (ZipCrypto.derive pw) (raw.take 12)) (raw.drop 12)))) ∨
    (12 ≤ raw.length ∧
      (mapBytes ZipCrypto.decryptByte (ZipCrypto.derive pw) (raw.take 12))[11]? ≠ some check ∧
      zipCryptoLayer pw check raw = .ok none) := by
  unfold zipCryptoLayer rdN
  by_cases hl : 12 ≤ raw.length
  · rw [if_pos hl]
    simp only [decryptAll_eq_map]
    by_cases hv : (mapBytes ZipCrypto.decryptByte (ZipCrypto.derive pw) (raw.take 12))[11]? = some check
    · exact Or.inr (Or.inl ⟨hl, hv, by rw [if_pos hv]⟩)
    · exact Or.inr (Or.inr ⟨hl, hv, by rw [if_neg hv]⟩)
  · rw [if_neg hl]
    exact Or.inl ⟨Nat.lt_of_not_le hl, rfl⟩

/-- **Bridge, seekable reader, ZipCrypto entries, every method.**  `by_index_decrypt` with password `pw` on a
ZipCrypto entry `i` of archive value `a` over device `d`, in the environment `cryptoExt` (the crate's own
decryption layer, one shot over the whole entry), returns `r`.  Then for EVERY reader `inner` holding the
device's bytes from the data start `ds` (every short-read behaviour):

* `r = Ok(file)` with read-to-end result `res`: `ZipCryptoReader::validate` over `Take(inner, compressed_size)`
  (the `read_exact` of the 12-byte header, whatever the fragmentation) accepts the password, and for EVERY
  schedule of caller buffers the read loop over `Crc32Reader(decoder(ZipCryptoReaderValid(Take(..))))`, if it
  finishes, returns `res`;
* `r = Err(InvalidPassword)`: `validate` rejects the password, whatever the fragmentation. -/
theorem entry_bridge_zipcrypto {P : Aes.AesPrims} {decode : Method → Bytes → Out Bytes}
    {a : Archive} {i : Nat} {data : FileData} {pw : Bytes} {fa : Option Nat} {d d' : Dev}
    {r : PwResult (Nat × Out Bytes)}
    (hfile : a.files[i]? = some data) (henc : data.encrypted = true) (haes : data.aesMode = none)
    (h : byIndexRead (cryptoExt P decode) a i (some pw) fa d = (.ok r, d')) :
    ∃ ds, (∃ d1, findContent data fa d = (.ok ds, d1) ∧ d1.buf = d.buf ∧ d1.pos = ds) ∧
    ∀ (σ : Type) (inner : Src σ) (s : σ), Denotes inner s (d.buf.drop ds) .eof →
      (∀ res, r = .ok (ds, res) →
        ∃ st, zcValidate ZipCrypto.decryptByte (take inner) (s, data.compressedSize.toNat)
            (ZipCrypto.derive pw) (zcCheck data) = .valid st ∧
          ∃ pt, zipCryptoLayer pw (zcCheck data) ((d.buf.drop ds).take data.compressedSize.toNat) = .ok (some pt) ∧
          Denotes (Layers.zipCryptoLayer ZipCrypto.decryptByte (take inner)) st pt .eof ∧
          ∀ (c : Codec), CodecFor (cryptoExt P decode) data.method c pt →
          ∀ (reqs : List Nat) (b : Bytes) (t : Term) (e : c.St ((σ × Nat) × ZipCrypto.Keys) × UInt32),
            readToEnd (entryPipelineZc c ZipCrypto.decryptByte inner data.crc32) (c.init st, Crc32.init) reqs
              = some (b, t, e) →
            res = outOfLoop (b, t)) ∧
      (r = .invalidPassword →
        zcValidate ZipCrypto.decryptByte (take inner) (s, data.compressedSize.toNat)
          (ZipCrypto.derive pw) (zcCheck data) = .wrongPassword) := by
  obtain ⟨ds, d1, h1, hb1, hp1, hr⟩ := byIndexRead_ok_inv hfile h
  rw [henc, if_pos rfl, haes] at hr
  have hr := readChoice_ok_inv hr (by rw [hb1, hp1])
  simp only [cryptoChoice, zcCheck_eq] at hr
  refine ⟨ds, ⟨d1, h1, hb1, hp1⟩, ?_⟩
  intro σ inner s hin
  obtain ⟨hv1, hv2, _⟩ := zcValidate_denotes ZipCrypto.decryptByte (take inner) (ZipCrypto.derive pw)
    (zcCheck data) (take_denotes_eof inner data.compressedSize.toNat hin)
  have hz : (cryptoExt P decode).zipCrypto = zipCryptoLayer := rfl
  rw [hz] at hr
  rcases zipCryptoLayer_cases pw (zcCheck data) ((d.buf.drop ds).take data.compressedSize.toNat) with
    ⟨_, hc⟩ | ⟨hl, hv, hc⟩ | ⟨hl, hv, hc⟩ <;> rw [hc] at hr
  · rcases hr with ⟨_, hh, _⟩ | ⟨hh, _⟩ <;> cases hh
  · rcases hr with ⟨pt, hh, rfl⟩ | ⟨hh, _⟩
    · cases hh
      obtain ⟨st, hval, hden⟩ := hv1 hl hv
      refine ⟨?_, fun hinv => by cases hinv⟩
      rintro res ⟨⟩
      refine ⟨_, hval, _, hc, hden, ?_⟩
      intro c hcf reqs b t e hrun
      exact layer_eq_decode_crc (cryptoExt P decode) data.method c _ data.crc32 false hcf _ _ hden reqs hrun
    · cases hh
  · rcases hr with ⟨pt, hh, _⟩ | ⟨_, rfl⟩
    · cases hh
    · exact ⟨fun res hres => (by cases hres), fun _ => hv2 hl hv⟩

/-! ### A concrete ZipCrypto archive for the non-vacuity example of C09 -/

/-- One Stored entry `a` = `[1,2,3,4,5]`, ZipCrypto-encrypted under the password "pw" - what the WRITER model
produces for `start_file("a", encrypt_with "pw"); write([1,2,3,4,5]); finish()` with the C15 cipher
(`Props/C09Writer`: `writer_produces_zcEntry`), 117 bytes. -/
def zcEntry : Bytes :=
  [80, 75, 3, 4, 20, 0, 1, 0, 0, 0, 0, 0, 33, 0, 244, 153, 11, 71, 17, 0, 0, 0, 5, 0, 0, 0, 1, 0, 0, 0, 97,
   227, 193, 173, 208, 144, 193, 200, 23, 194, 140, 243, 118, 132, 34, 6, 245, 41,
   80, 75, 1, 2, 46, 3, 20, 0, 1, 0, 0, 0, 0, 0, 33, 0, 244, 153, 11, 71, 17, 0, 0, 0, 5, 0, 0, 0, 1, 0, 0, 0,
   0, 0, 0, 0, 0, 0, 0, 0, 164, 129, 0, 0, 0, 0, 97,
   80, 75, 5, 6, 0, 0, 0, 0, 1, 0, 1, 0, 47, 0, 0, 0, 48, 0, 0, 0, 0, 0]

/-- `cryptoExt` for evaluation: Stored-only decoding, all-zero AES primitives (not used by ZipCrypto entries). -/
def evalCryptoExt : Ext :=
  cryptoExt ⟨fun _ _ n => List.replicate n 0, fun _ _ => List.replicate 16 0, fun _ _ => List.replicate 20 0⟩
    (fun _ raw => .ok raw)

/-- Open `bytes`, hand out ZipCrypto entry `i` with password `pw` (reader model, one-shot decryption), then
read it through the layer model: `validate` over `Take(scripted reader over the archive bytes from the data
start)`, then `Crc32Reader(ZipCryptoReaderValid(Take(..)))` call by call; report both results. -/
def zcReadBoth (bytes : Bytes) (i : Nat) (pw : Bytes) (script reqs : List Nat) :
    Option (Nat × Bytes × Option (Bytes × Term)) :=
  match openArchive.runPure (Dev.ofBytes bytes) with
  | (.ok a, d) =>
    match a.files[i]?, (byIndexRead evalCryptoExt a i (some pw)).runPure d with
    | some data, (.ok (.ok (ds, .ok content)), _) =>
      match zcValidate ZipCrypto.decryptByte (take scripted)
          ((⟨bytes.drop ds, script, script, none⟩ : Scripted), data.compressedSize.toNat)
          (ZipCrypto.derive pw) (zcCheck data) with
      | .valid st =>
        some (ds, content,
          (readToEnd (entryPipelineZc storedCodec ZipCrypto.decryptByte scripted data.crc32)
            (st, Crc32.init) reqs).map fun r => (r.1, r.2.1))
      | _ => none
    | _, _ => none
  | _ => none

end ZipVerif.Model
