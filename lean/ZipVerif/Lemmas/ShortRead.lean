import ZipVerif.Lemmas.ParserRel
import ZipVerif.Lemmas.Layers
import ZipVerif.Lemmas.ReaderBounds
/-
C09: the metadata parsers are invariant under short reads of the underlying reader.  `read_exact` and the draining
of a `Take` over the short-reading device `MS` (any schedule) against the single calls of the model monad `M`
(`M_*_spec`, `short_*_spec`; `MS.*_apply` evaluate `MS`); the simulation `Sim` between the two, closed under the
`ParserIO` operations (`Sim.parserRel`), hence of every generic parser (`Lemmas/ParserRel`; stated here for the four
entry points, `G.sim_openArchive`, `_findContent`, `_streamHeader`, `_streamVisitF`); `shortSrc_denotes`: the
short-reading device is a reader of the layer model; `openBoth`: both runs, for the examples of `Props/C09`.
Writer side: `write_all` over a short-writing sink leaves what the model's whole write leaves
(`short_writeAll_sim`, `short_writeChunks_sim`), the base of `Lemmas/ShortWrite`.
-/

namespace ZipVerif.Model
open ZipVerif ZipVerif.Model.Layers

/-! ### `read_exact` over the short-reading device = `read_exact` over the `Cursor` -/

theorem add_min_sub {n L c : Nat} (h1 : c ≤ n) (h2 : c ≤ L) : c + min (n - c) (L - c) = min n L := by
  rw [← Nat.add_min_add_left, Nat.add_sub_cancel' h1, Nat.add_sub_cancel' h2]

theorem M.read_none (n : Nat) (d : Dev) :
    M.read n none d = (.ok ((d.buf.drop d.pos).take n),
      { d with pos := d.pos + min n (d.buf.length - d.pos), calls := d.calls + 1 }) := by
  rw [← List.length_drop, ← List.length_take]
  rfl

theorem M_readExact_spec (n : Nat) (d : Dev) :
    ∃ d', d'.buf = d.buf ∧ d'.pos = d.pos + min n (d.buf.length - d.pos) ∧
      M.readExact n none d =
        (if n ≤ d.buf.length - d.pos then .ok ((d.buf.drop d.pos).take n)
          else .err (.io .unexpectedEof), d') := by
  unfold M.readExact
  by_cases h0 : n = 0
  · subst h0
    rw [if_pos rfl, if_pos (Nat.zero_le _)]
    exact ⟨d, rfl, by omega, rfl⟩
  · rw [if_neg h0, M.bind_of_ok (M.read_none n d), List.length_take, List.length_drop]
    by_cases hle : n ≤ d.buf.length - d.pos
    · rw [if_pos (Nat.min_eq_left hle), if_pos hle]
      exact ⟨{ d with pos := d.pos + min n (d.buf.length - d.pos), calls := d.calls + 1 }, rfl, rfl, rfl⟩
    · rw [if_neg (by omega), if_neg hle]
      by_cases hz : min n (d.buf.length - d.pos) = 0
      · rw [if_pos hz]
        exact ⟨{ d with pos := d.pos + min n (d.buf.length - d.pos), calls := d.calls + 1 }, rfl, rfl, rfl⟩
      · rw [if_neg hz, M.bind_of_ok (M.read_none _ _)]
        refine ⟨_, ?_, ?_, rfl⟩
        · rfl
        · show d.pos + _ + min _ (d.buf.length - (d.pos + _)) = _
          rw [Nat.add_assoc, Nat.sub_add_eq, add_min_sub (Nat.min_le_left ..) (Nat.min_le_right ..)]

theorem take_split {X : Bytes} {c m : Nat} (hc : c ≤ m) :
    X.take c ++ (X.drop c).take (m - c) = X.take m := by
  have : m = c + (m - c) := by omega
  rw [this, List.take_add]
  congr 2
  omega

theorem take_ne_nil {X : Bytes} {c : Nat} (h0 : c ≠ 0) (hc : c ≤ X.length) : X.take c ≠ [] := fun h => by
  have := congrArg List.length h
  rw [List.length_take, List.length_nil] at this
  omega

/-- All that is used of a schedule: one call delivers some `c ≤ n` of the bytes behind the position, and for `n > 0` it
delivers nothing only at the end of the device. -/
theorem shortSrc_rd (sch : Nat → Nat) (d : Dev) (n : Nat) :
    ∃ c, c ≤ n ∧ c ≤ d.buf.length - d.pos ∧ (0 < n → c = 0 → d.buf.length - d.pos = 0) ∧
      (shortSrc sch).rd d n =
        (.ok ((d.buf.drop d.pos).take c), { d with pos := d.pos + c, calls := d.calls + 1 }) := by
  generalize hk : (if n = 0 then 0 else min n (max (sch d.calls) 1)) = k
  have hkn : k ≤ n ∧ (0 < n → 0 < k) := by
    subst hk
    split <;> omega
  have hlen : ((d.buf.drop d.pos).take k).length = min k (d.buf.length - d.pos) := by
    rw [List.length_take, List.length_drop]
  have htk : (d.buf.drop d.pos).take k = (d.buf.drop d.pos).take (min k (d.buf.length - d.pos)) := by
    rw [List.take_eq_take_iff, List.length_drop]
    omega
  refine ⟨min k (d.buf.length - d.pos), by omega, by omega, by omega, ?_⟩
  rw [← htk, ← hlen]
  simp only [shortSrc, hk]

theorem short_readExactAux_spec (sch : Nat → Nat) :
    ∀ (fuel : Nat) (d : Dev) (n : Nat), n ≤ fuel →
      ∃ d', d'.buf = d.buf ∧ d'.pos = d.pos + min n (d.buf.length - d.pos) ∧
        readExactAux (shortSrc sch) fuel d n =
          (if n ≤ d.buf.length - d.pos then ExactRes.ok ((d.buf.drop d.pos).take n)
            else .err .unexpectedEof, d')
  | fuel, d, 0, _ => ⟨d, rfl, by omega, by rw [readExactAux, if_pos (Nat.zero_le _), List.take_zero]⟩
  | fuel + 1, d, n + 1, hn => by
    -- one call delivers `c` bytes; the recursive call for the other `n + 1 - c` starts `c` further on, and the two pieces
    -- are rejoined by `take_split` (the bytes) and `add_min_sub` (the position); `c = 0` is the end of the device
    obtain ⟨c, hc1, hc2, hc0, hrd⟩ := shortSrc_rd sch d (n + 1)
    rw [readExactAux, hrd]
    dsimp only
    by_cases h0 : c = 0
    · subst h0
      have hL := hc0 (Nat.succ_pos n) rfl
      rw [List.take_zero, if_pos rfl, if_neg (by omega)]
      exact ⟨{ d with pos := d.pos + 0, calls := d.calls + 1 }, rfl, by show d.pos + 0 = d.pos + min _ _; rw [hL, Nat.min_zero], rfl⟩
    · have hl : ((d.buf.drop d.pos).take c).length = c := by
        rw [List.length_take, List.length_drop]; omega
      rw [if_neg (take_ne_nil h0 (by rw [List.length_drop]; exact hc2)), hl, if_pos hc1]
      obtain ⟨d2, hb2, hp2, hv2⟩ := short_readExactAux_spec sch fuel
        { d with pos := d.pos + c, calls := d.calls + 1 } (n + 1 - c) (by omega)
      rw [hv2]
      dsimp only at hb2 hp2 ⊢
      refine ⟨d2, hb2, by rw [hp2, Nat.add_assoc, Nat.sub_add_eq, add_min_sub hc1 hc2], ?_⟩
      have hiff : n + 1 - c ≤ d.buf.length - (d.pos + c) ↔ n + 1 ≤ d.buf.length - d.pos := by
        rw [Nat.sub_add_eq, Nat.sub_le_sub_iff_right hc2]
      by_cases hle : n + 1 ≤ d.buf.length - d.pos
      · rw [if_pos (hiff.mpr hle), if_pos hle]
        dsimp only
        rw [← List.drop_drop, take_split hc1]
      · rw [if_neg (mt hiff.mp hle), if_neg hle]

theorem M_takeAll_spec (n : Nat) (d : Dev) :
    ∃ d', d'.buf = d.buf ∧ d'.pos = d.pos + min n (d.buf.length - d.pos) ∧
      takeAll n none d = (.ok ((d.buf.drop d.pos).take n), d') := by
  unfold takeAll
  by_cases h0 : n = 0
  · subst h0
    rw [if_pos rfl]
    exact ⟨d, rfl, by omega, rfl⟩
  · rw [if_neg h0, M.bind_of_ok (M.read_none n d), List.length_take, List.length_drop]
    by_cases hle : min n (d.buf.length - d.pos) = n
    · rw [if_pos hle]
      exact ⟨{ d with pos := d.pos + min n (d.buf.length - d.pos), calls := d.calls + 1 }, rfl, rfl, rfl⟩
    · rw [if_neg hle]
      by_cases hz : min n (d.buf.length - d.pos) = 0
      · rw [if_pos hz]
        exact ⟨{ d with pos := d.pos + min n (d.buf.length - d.pos), calls := d.calls + 1 }, rfl, rfl, rfl⟩
      · rw [if_neg hz, M.bind_of_ok (M.read_none _ _)]
        refine ⟨_, ?_, ?_, rfl⟩
        · rfl
        · show d.pos + _ + min _ (d.buf.length - (d.pos + _)) = _
          rw [Nat.add_assoc, Nat.sub_add_eq, add_min_sub (Nat.min_le_left ..) (Nat.min_le_right ..)]

theorem short_takeAllAux_spec (sch : Nat → Nat) :
    ∀ (fuel : Nat) (d : Dev) (n : Nat), n ≤ fuel →
      ∃ d', d'.buf = d.buf ∧ d'.pos = d.pos + min n (d.buf.length - d.pos) ∧
        MS.takeAllAux sch fuel d n = ((d.buf.drop d.pos).take n, d')
  | 0, d, n, hn => ⟨d, rfl, by omega, by rw [Nat.le_zero.mp hn, MS.takeAllAux, List.take_zero]⟩
  | fuel + 1, d, 0, _ => ⟨d, rfl, by omega, by rw [MS.takeAllAux, List.take_zero]⟩
  | fuel + 1, d, n + 1, hn => by
    -- as in `short_readExactAux_spec`, without the error at a short end
    obtain ⟨c, hc1, hc2, hc0, hrd⟩ := shortSrc_rd sch d (n + 1)
    rw [MS.takeAllAux, hrd]
    dsimp only
    by_cases h0 : c = 0
    · subst h0
      have hL := hc0 (Nat.succ_pos n) rfl
      have hnil : d.buf.drop d.pos = [] := List.eq_nil_of_length_eq_zero (by rw [List.length_drop]; exact hL)
      rw [List.take_zero, if_pos rfl, hnil, List.take_nil]
      exact ⟨{ d with pos := d.pos + 0, calls := d.calls + 1 }, rfl, by show d.pos + 0 = d.pos + min _ _; rw [hL, Nat.min_zero], rfl⟩
    · have hl : ((d.buf.drop d.pos).take c).length = c := by
        rw [List.length_take, List.length_drop]; omega
      rw [if_neg (take_ne_nil h0 (by rw [List.length_drop]; exact hc2)), hl]
      obtain ⟨d2, hb2, hp2, hv2⟩ := short_takeAllAux_spec sch fuel
        { d with pos := d.pos + c, calls := d.calls + 1 } (n + 1 - c) (by omega)
      rw [hv2]
      dsimp only at hb2 hp2 ⊢
      refine ⟨d2, hb2, by rw [hp2, Nat.add_assoc, Nat.sub_add_eq, add_min_sub hc1 hc2], ?_⟩
      rw [← List.drop_drop, take_split hc1]

theorem MS.bind_apply {α β} (x : MS α) (f : α → MS β) (sch : Nat → Nat) (d : Dev) :
    (x >>= f) sch d = match x sch d with
      | (.ok a, d') => f a sch d'
      | (.err e, d') => (.err e, d')
      | (.panic s, d') => (.panic s, d') := rfl

theorem MS.pure_apply {α} (a : α) (sch : Nat → Nat) (d : Dev) : (pure a : MS α) sch d = (.ok a, d) := rfl

theorem MS.attempt_apply {α} (m : MS α) (sch : Nat → Nat) (d : Dev) :
    MS.attempt m sch d = match m sch d with
      | (.ok a, d') => (.ok (.ok a), d')
      | (.err e, d') => (.ok (.error e), d')
      | (.panic s, d') => (.panic s, d') := rfl

/-! ### Simulation: `M` (never-short device, fault-free) vs `MS` (any short-read schedule) -/

/-- Same bytes, same position; the call counters differ (a short-reading device needs more calls). -/
def SameView (d sd : Dev) : Prop := sd.buf = d.buf ∧ sd.pos = d.pos

/-- `x` over the `Cursor` and `y` over the short-reading device, started on the same bytes at the same
position, end with the SAME outcome (value, error or panic) and again on the same bytes at the same
position - for every schedule. -/
def Sim {α : Type} (x : M α) (y : MS α) : Prop :=
  ∀ (sch : Nat → Nat) (d sd : Dev), SameView d sd →
    ∃ o d' sd', x none d = (o, d') ∧ y sch sd = (o, sd') ∧ SameView d' sd'

namespace Sim
variable {α β : Type}

theorem pure (a : α) : Sim (Pure.pure a : M α) (Pure.pure a : MS α) :=
  fun _ d sd hv => ⟨.ok a, d, sd, rfl, rfl, hv⟩

theorem throw (e : ZErr) : Sim (ParserIO.ioThrow e : M α) (ParserIO.ioThrow e : MS α) :=
  fun _ d sd hv => ⟨.err e, d, sd, rfl, rfl, hv⟩

theorem panic (s : String) : Sim (ParserIO.ioPanic s : M α) (ParserIO.ioPanic s : MS α) :=
  fun _ d sd hv => ⟨.panic s, d, sd, rfl, rfl, hv⟩

theorem bind {x : M α} {y : MS α} {f : α → M β} {g : α → MS β} (h1 : Sim x y)
    (h2 : ∀ a, Sim (f a) (g a)) : Sim (x >>= f) (y >>= g) := by
  intro sch d sd hv
  obtain ⟨o, d1, sd1, e1, e2, hv1⟩ := h1 sch d sd hv
  rw [M.bind_apply, MS.bind_apply, e1, e2]
  cases o with
  | ok a => exact h2 a sch d1 sd1 hv1
  | err e => exact ⟨.err e, d1, sd1, rfl, rfl, hv1⟩
  | panic s => exact ⟨.panic s, d1, sd1, rfl, rfl, hv1⟩

theorem attempt {x : M α} {y : MS α} (h : Sim x y) :
    Sim (ParserIO.ioAttempt x : M (Except ZErr α)) (ParserIO.ioAttempt y : MS (Except ZErr α)) := by
  intro sch d sd hv
  obtain ⟨o, d1, sd1, e1, e2, hv1⟩ := h sch d sd hv
  rw [show (ParserIO.ioAttempt x : M (Except ZErr α)) = M.attempt x from rfl, M.attempt_apply,
    show (ParserIO.ioAttempt y : MS (Except ZErr α)) = MS.attempt y from rfl, MS.attempt_apply, e1, e2]
  cases o with
  | ok a => exact ⟨_, d1, sd1, rfl, rfl, hv1⟩
  | err e => exact ⟨_, d1, sd1, rfl, rfl, hv1⟩
  | panic s => exact ⟨_, d1, sd1, rfl, rfl, hv1⟩

theorem seek (s : SeekFrom) : Sim (ParserIO.ioSeek s : M Nat) (ParserIO.ioSeek s : MS Nat) := by
  intro sch d sd ⟨hb, hp⟩
  have hx : (ParserIO.ioSeek s : M Nat) none d = MS.seek s sch d := rfl
  have hy : (ParserIO.ioSeek s : MS Nat) sch sd = MS.seek s sch sd := rfl
  rw [hx, hy]
  unfold MS.seek
  simp only [hb, hp]
  cases s <;> dsimp only <;> split <;> exact ⟨_, _, _, rfl, rfl, rfl, rfl⟩

/-- **`read_exact` does not see short reads**: the retry loop over any schedule returns what the single
call on the `Cursor` returns, leaves the same position, fails with `UnexpectedEof` in the same cases. -/
theorem readExact (n : Nat) :
    Sim (ParserIO.ioReadExact n : M Bytes) (ParserIO.ioReadExact n : MS Bytes) := by
  intro sch d sd ⟨hb, hp⟩
  obtain ⟨d1, hb1, hp1, e1⟩ := M_readExact_spec n d
  obtain ⟨sd1, hsb1, hsp1, e2⟩ := short_readExactAux_spec sch n sd n (Nat.le_refl _)
  have hy : (ParserIO.ioReadExact n : MS Bytes) sch sd =
      (match Layers.readExact (shortSrc sch) sd n with
        | (.ok bs, d') => (.ok bs, d')
        | (.err e, d') => (.err (.io e), d')
        | (.panic, d') => (.panic "read_exact", d')) := rfl
  have hx : (ParserIO.ioReadExact n : M Bytes) none d = M.readExact n none d := rfl
  rw [hx, hy, e1]
  unfold Layers.readExact
  rw [e2, hb, hp]
  by_cases hle : n ≤ d.buf.length - d.pos
  · simp only [if_pos hle]
    exact ⟨_, d1, sd1, rfl, rfl, by rw [hsb1, hb1, hb], by rw [hsp1, hp1, hb, hp]⟩
  · simp only [if_neg hle]
    exact ⟨_, d1, sd1, rfl, rfl, by rw [hsb1, hb1, hb], by rw [hsp1, hp1, hb, hp]⟩

/-- **Draining an entry's `Take` does not see short reads**: the same bytes, the same position after. -/
theorem takeAll (n : Nat) :
    Sim (ParserIO.ioTakeAll n : M Bytes) (ParserIO.ioTakeAll n : MS Bytes) := by
  intro sch d sd ⟨hb, hp⟩
  obtain ⟨d1, hb1, hp1, e1⟩ := M_takeAll_spec n d
  obtain ⟨sd1, hsb1, hsp1, e2⟩ := short_takeAllAux_spec sch n sd n (Nat.le_refl _)
  have hy : (ParserIO.ioTakeAll n : MS Bytes) sch sd =
      (.ok (MS.takeAllAux sch n sd n).1, (MS.takeAllAux sch n sd n).2) := rfl
  have hx : (ParserIO.ioTakeAll n : M Bytes) none d = Model.takeAll n none d := rfl
  rw [hx, hy, e1, e2, hb, hp]
  exact ⟨_, d1, sd1, rfl, rfl, by rw [hsb1, hb1, hb], by rw [hsp1, hp1, hb, hp]⟩

-- `Sim` is made irreducible below: from there on only `elim` opens it.
theorem elim {x : M α} {y : MS α} (h : Sim x y) (sch : Nat → Nat) (d sd : Dev)
    (hv : SameView d sd) :
    ∃ o d' sd', x none d = (o, d') ∧ y sch sd = (o, sd') ∧ SameView d' sd' := h sch d sd hv

end Sim

attribute [irreducible] Sim
/-! ### Every metadata parser is invariant under short reads -/

def Sim.parserRel : ParserRel M MS where
  R := Sim
  pure := Sim.pure
  bind := Sim.bind
  throw := Sim.throw
  seek := Sim.seek
  readExact := Sim.readExact
  takeAll := Sim.takeAll
  attempt := Sim.attempt

namespace G

theorem sim_openArchive : Sim (openArchive : M Archive) (openArchive : MS Archive) :=
  rel_openArchive Sim.parserRel

theorem sim_findContent (f : FileData) : Sim (findContent f : M Nat) (findContent f : MS Nat) :=
  rel_findContent Sim.parserRel.toParserRel₀ Sim.panic f

theorem sim_streamHeader : Sim (streamHeader : M (Option FileData)) (streamHeader : MS (Option FileData)) :=
  rel_streamHeader Sim.parserRel.toParserRel₀

theorem sim_streamVisitF (ext : Ext) (fuel₁ fuel₂ : Nat) :
    Sim (streamVisitF ext fuel₁ fuel₂ : M _) (streamVisitF ext fuel₁ fuel₂ : MS _) :=
  rel_streamVisitF Sim.parserRel.toParserRel₀ ext fuel₁ fuel₂

end G

/-! ### The short-reading device is one of the readers of the layer model -/

/-- Whatever the schedule, the short-reading device delivers exactly the bytes behind its position and
then a clean end of file: the entry data path over it is covered by the pipeline theorems. -/
theorem shortSrc_denotes (sch : Nat → Nat) (d : Dev) :
    Denotes (shortSrc sch) d (d.buf.drop d.pos) .eof := by
  refine prefixSrc_denotes (shortSrc sch) (fun d => d.buf.drop d.pos) (fun s n => ?_) d
  obtain ⟨c, hcn, hc, h0, hrd⟩ := shortSrc_rd sch s n
  refine ⟨c, _, hrd, hcn, fun hn hne => Nat.pos_of_ne_zero fun hc0 => hne ?_, (List.drop_drop ..).symm⟩
  exact List.eq_nil_of_length_eq_zero (by rw [List.length_drop]; exact h0 hn hc0)

/-- For the non-vacuity example of C09: open `bs` over the `Cursor` and over the short-reading device;
names of the entries from both runs, calls and final position of both. -/
def openBoth (bs : Bytes) (sch : Nat → Nat) : Option (List Bytes × List Bytes × (Nat × Nat) × (Nat × Nat)) :=
  match openArchive none (Dev.ofBytes bs), (G.openArchive : MS Archive) sch (Dev.ofBytes bs) with
  | (.ok a, d), (.ok b, sd) =>
    some (a.files.map (·.fileNameRaw), b.files.map (·.fileNameRaw), (d.calls, d.pos), (sd.calls, sd.pos))
  | _, _ => none

/-! ### Writer side: `write_all` absorbs short writes of the sink -/

/-- **`write_all` absorbs short writes**: the retry loop over the short-writing device leaves exactly
the buffer and position that the single whole write of the writer model's `M.writeAll` leaves. -/
theorem short_writeAllAux (sch : Nat → Nat) : ∀ (fuel : Nat) (d : Dev) (bs : Bytes), bs.length ≤ fuel →
    ∃ d', writeAllAux (shortWr sch) fuel d bs = (.ok (), d') ∧
      d'.buf = (if bs = [] then d.buf else writeAt d.buf d.pos bs) ∧ d'.pos = d.pos + bs.length := by
  intro fuel
  induction fuel with
  | zero =>
    intro d bs h
    have : bs = [] := List.eq_nil_of_length_eq_zero (by omega)
    subst this
    exact ⟨d, rfl, rfl, rfl⟩
  | succ fuel ih =>
    intro d bs h
    cases bs with
    | nil => exact ⟨d, rfl, rfl, rfl⟩
    | cons x xs =>
      generalize hk : min (x :: xs).length (max (sch d.calls) 1) = k
      have hk1 : 1 ≤ k ∧ k ≤ (x :: xs).length := by
        simp only [List.length_cons] at hk ⊢; omega
      have hwr : (shortWr sch).wr d (x :: xs) = (.ok k,
          { buf := writeAt d.buf d.pos ((x :: xs).take k), pos := d.pos + k, calls := d.calls + 1 }) := by
        simp only [shortWr, reduceCtorEq, if_false, hk]
      obtain ⟨d2, hv, hb2, hp2⟩ := ih
        { buf := writeAt d.buf d.pos ((x :: xs).take k), pos := d.pos + k, calls := d.calls + 1 }
        ((x :: xs).drop k) (by rw [List.length_drop]; simp only [List.length_cons] at h hk1 ⊢; omega)
      simp only at hb2 hp2
      refine ⟨d2, ?_, ?_, ?_⟩
      · obtain ⟨k', rfl⟩ : ∃ k', k = k' + 1 := ⟨k - 1, by omega⟩
        simp only [writeAllAux, hwr, hk1.2, if_true]
        exact hv
      · rw [if_neg (List.cons_ne_nil x xs), hb2]
        have hlen : ((x :: xs).take k).length = k := by rw [List.length_take]; omega
        split
        · rename_i hnil
          have h2 := List.take_append_drop k (x :: xs)
          rw [hnil, List.append_nil] at h2
          rw [h2]
        · have := writeAt_split d.buf d.pos ((x :: xs).take k) ((x :: xs).drop k)
          rw [hlen, List.take_append_drop] at this
          exact this
      · rw [hp2, List.length_drop]; omega


theorem M_writeAll_spec (bs : Bytes) (d : Dev) :
    ∃ d', M.writeAll bs none d = (.ok (), d') ∧
      d'.buf = (if bs = [] then d.buf else writeAt d.buf d.pos bs) ∧ d'.pos = d.pos + bs.length := by
  cases bs with
  | nil => exact ⟨d, rfl, rfl, rfl⟩
  | cons x xs => exact ⟨_, rfl, rfl, rfl⟩

theorem short_writeAll_sim (sch : Nat → Nat) (bs : Bytes) (d sd : Dev) (hv : SameView d sd) :
    ∃ d' sd', M.writeAll bs none d = (.ok (), d') ∧
      Layers.writeAll (shortWr sch) sd bs = (.ok (), sd') ∧ SameView d' sd' := by
  obtain ⟨d1, e1, hb1, hp1⟩ := M_writeAll_spec bs d
  obtain ⟨sd1, e2, hb2, hp2⟩ := short_writeAllAux sch bs.length sd bs (Nat.le_refl _)
  refine ⟨d1, sd1, e1, e2, ?_, ?_⟩
  · rw [hb2, hb1, hv.1, hv.2]
  · rw [hp2, hp1, hv.2]

/-- A sequence of `write_all`s (how every header, the central directory and the end records are
written: `M.writeChunks`). -/
theorem short_writeChunks_sim (sch : Nat → Nat) : ∀ (cs : List Bytes) (d sd : Dev), SameView d sd →
    ∃ d' sd', M.writeChunks cs none d = (.ok (), d') ∧
      Layers.writeAllSeq (shortWr sch) sd cs = (.ok (), sd') ∧ SameView d' sd'
  | [], d, sd, hv => ⟨d, sd, rfl, rfl, hv⟩
  | c :: cs, d, sd, hv => by
    obtain ⟨d1, sd1, e1, e2, hv1⟩ := short_writeAll_sim sch c d sd hv
    obtain ⟨d2, sd2, f1, f2, hv2⟩ := short_writeChunks_sim sch cs d1 sd1 hv1
    refine ⟨d2, sd2, ?_, ?_, hv2⟩
    · unfold M.writeChunks
      rw [M.bind_of_ok e1]
      exact f1
    · simp only [Layers.writeAllSeq, e2]
      exact f2

end ZipVerif.Model
