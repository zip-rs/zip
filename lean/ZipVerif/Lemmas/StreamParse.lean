import ZipVerif.Lemmas.CentralParseZ
import ZipVerif.Lemmas.ZipLayout
import ZipVerif.Lemmas.ParseExtra
import ZipVerif.Lemmas.ReaderTotal
/-
The model's streaming header parser (`streamHeader` = `read_zipfile_from_stream` up to the entry) applied to the SPEC's
serialisation of the LOCAL record of an arbitrary entry: it consumes exactly the record and answers `streamDecision e`,
a pure function of the layout (`parsesO_streamHeader`: any flags, any local extra bytes, descriptor or not).  For
foreign local extra data without a ZIP64 record (`ExtraOk`, part of `LocalSizesOk`) the answer is named: the view
`streamViewEntry e` for `LocalSizesOk e`, `UnsupportedArchive` for the descriptor bit, the encryption bit or a method
without decoder.  Last, on
ANY device and under ANY injected fault: an entry that is handed out has the encryption and descriptor flags clear and a
method with a decoder (`streamHeader_some_sound`).
-/

namespace ZipVerif.Spec.Zip
open ZipVerif ZipVerif.Model

/-! ### The fixed fields of the LOCAL header, named -/

def Entry.localVer (e : Entry) : UInt16 := e.localVersion.getD e.versionNeeded
def Entry.localCrc (e : Entry) : UInt32 := if e.hasDesc then 0 else e.crc
def Entry.localCs32 (e : Entry) : UInt32 :=
  if e.localZip64 then 0xFFFFFFFF else if e.hasDesc then 0 else lo32 e.csize
def Entry.localUs32 (e : Entry) : UInt32 :=
  if e.localZip64 then 0xFFFFFFFF else if e.hasDesc then 0 else lo32 e.usize

theorem localRecord_fields (e : Entry) :
    localRecord e =
      le32 sigLocal ++ (le16 e.localVer ++ (le16 e.flagsOut ++ (le16 e.method ++ (le16 e.time ++
      (le16 e.date ++ (le32 e.localCrc ++ (le32 e.localCs32 ++ (le32 e.localUs32 ++
      (le16 (UInt16.ofNat e.name.length) ++ (le16 (UInt16.ofNat e.localExtraAll.length) ++
      (e.name ++ e.localExtraAll))))))))))) := by
  unfold localRecord Entry.localExtraAll Entry.localVer Entry.localCrc Entry.localCs32 Entry.localUs32
  cases e.localZip64 <;> simp only [List.append_assoc, if_true, if_false, Bool.false_eq_true]

/-- **The entries a non-seekable reader can serve**: the sizes are in the local header (no data
descriptor: neither the layout's descriptor nor general-purpose bit 3), the entry is not encrypted
(bit 0 clear), the foreign local extra data are well-formed records without the identifiers the reader
interprets (0x0001 — the local ZIP64 record is laid out by `localRecord` itself — and 0x9901), the
method has a decoder, and without a local ZIP64 record both sizes fit the 32-bit fields. -/
def LocalSizesOk (e : Entry) : Prop :=
  e.hasDesc = false ∧ (e.flags &&& 1 == 1) = false ∧ (e.flags &&& 0x0008 != 0) = false ∧
  ExtraOk e.localExtra ∧ (Method.fromU16 e.method).decodable = true ∧
  (e.localZip64 = false → e.csize.toNat < 4294967296 ∧ e.usize.toNat < 4294967296)

instance (e : Entry) : Decidable (LocalSizesOk e) := by unfold LocalSizesOk; infer_instance

/-- **What the streaming reader must report for an entry**, written from the LOCAL record alone:
sizes and CRC as recorded there (through the local ZIP64 record when present), the name decoded by the
flag, the local extra field verbatim.  NOT available from a stream (documented by the crate): the entry
comment (`[]`), the external attributes (`0`, hence `unix_mode() = None`), header / data / central-header
offsets (`0`).  `system` / `version_made_by` are derived from the local header's only version field
("version needed to extract"): the local header has no "version made by". -/
def streamViewEntry (e : Entry) : FileData :=
  let utf8 : Bool := e.flagsOut &&& 0x0800 != 0
  { system := System.fromU8 (e.localVer >>> 8).toUInt8
    versionMadeBy := e.localVer.toUInt8
    encrypted := e.flagsOut &&& 1 == 1
    usingDataDescriptor := e.flagsOut &&& 0x0008 != 0
    method := Method.fromU16 e.method
    level := none
    time := DateTime.fromMsdos e.date e.time
    crc32 := e.crc
    compressedSize := e.csize
    uncompressedSize := e.usize
    fileName := Text.decodeToUtf8 utf8 e.name
    fileNameRaw := e.name
    extraField := e.localExtraAll
    fileComment := []
    headerStart := 0
    centralHeaderStart := 0
    dataStart := 0
    externalAttributes := 0
    largeFile := e.localZip64
    aesMode := none }

end ZipVerif.Spec.Zip

namespace ZipVerif.Model
open ZipVerif ZipVerif.Spec.Zip

/-! ### `ParsesO`: seek-free parsers consuming a known prefix, with an arbitrary outcome -/

def ParsesO {α} (m : M α) (p : Nat) (x : Bytes) (o : Out α) : Prop :=
  ∀ B rest, B.drop p = x ++ rest → Runs m B p o (p + x.length)

namespace ParsesO
variable {α β : Type} {p : Nat}

theorem ofParses {m : M α} {x : Bytes} {a : α} (h : Parses m p x a) : ParsesO m p x (.ok a) := h
theorem toParses {m : M α} {x : Bytes} {a : α} (h : ParsesO m p x (.ok a)) : Parses m p x a := h

theorem pure (a : α) : ParsesO (Pure.pure a : M α) p [] (.ok a) := fun _ _ _ => Runs.pure a
theorem throw (e : ZErr) : ParsesO (M.throw e : M α) p [] (.err e) := fun _ _ _ => Runs.throw e

theorem bind {m : M α} {f : α → M β} {x y : Bytes} {a : α} {o : Out β}
    (h1 : Parses m p x a) (h2 : ParsesO (f a) (p + x.length) y o) : ParsesO (m >>= f) p (x ++ y) o := by
  intro B rest hb
  rw [List.append_assoc] at hb
  have h3 := h2 B rest (drop_past hb)
  exact (Runs.bind (h1 B _ hb) h3).cast rfl (by simp [Nat.add_assoc])

theorem bind_last {m : M α} {f : α → M β} {x : Bytes} {a : α} {o : Out β}
    (h1 : Parses m p x a) (h2 : ParsesO (f a) (p + x.length) [] o) : ParsesO (m >>= f) p x o := by
  have := bind h1 h2
  simpa using this

theorem toRuns {m : M α} {x rest B : Bytes} {o : Out α} (h : ParsesO m p x o) (hb : B.drop p = x ++ rest) :
    Runs m B p o (p + x.length) := h B rest hb

end ParsesO

/-! ### The record the parser has built when it turns to the extra field -/

def rawLocal (e : Entry) : FileData :=
  let utf8 : Bool := e.flagsOut &&& 0x0800 != 0
  { system := System.fromU8 (e.localVer >>> 8).toUInt8
    versionMadeBy := e.localVer.toUInt8
    encrypted := e.flagsOut &&& 1 == 1
    usingDataDescriptor := e.flagsOut &&& 0x0008 != 0
    method := Method.fromU16 e.method
    level := none
    time := DateTime.fromMsdos e.date e.time
    crc32 := e.localCrc
    compressedSize := e.localCs32.toUInt64
    uncompressedSize := e.localUs32.toUInt64
    fileName := Text.decodeToUtf8 utf8 e.name
    fileNameRaw := e.name
    extraField := e.localExtraAll
    fileComment := []
    headerStart := 0
    centralHeaderStart := 0
    dataStart := 0
    externalAttributes := 0
    largeFile := false
    aesMode := none }

def streamDecision (e : Entry) : Out (Option FileData) :=
  match parseExtraField (e.localExtraAll.length + 1) (rawLocal e) e.localExtraAll with
  | (result, perr) =>
    match perr with
    | some (.io _) | none =>
      if (e.flagsOut &&& 1 == 1) = true then .err .unsupportedArchive
      else if (e.flagsOut &&& 0x0008 != 0) = true then .err .unsupportedArchive
      else match result.method with
        | .unsupported _ => .err .unsupportedArchive
        | .aes => .err .unsupportedArchive
        | _ => .ok (some result)
    | some err => .err err

theorem localExtraAll_le (e : Entry) (hf : e.Fits) : e.localExtraAll.length ≤ 65535 := by
  obtain ⟨_, _, hxl, _, _, _⟩ := hf
  unfold Entry.localExtraAll
  revert hxl; cases e.localZip64 <;> simp <;> omega

theorem parsesO_streamHeader (e : Entry) (p : Nat) (hf : e.Fits) :
    ParsesO streamHeader p (localRecord e) (streamDecision e) := by
  have hxl := localExtraAll_le e hf
  obtain ⟨hn, _, _, _, _, _⟩ := hf
  rw [localRecord_fields]
  unfold streamHeader
  refine ParsesO.bind (Parses.readU32 _) ?_
  rw [if_neg (by decide), if_neg (by decide)]
  refine ParsesO.bind (Parses.readU16 _) ?_
  refine ParsesO.bind (Parses.readU16 _) ?_
  refine ParsesO.bind (Parses.readU16 _) ?_
  refine ParsesO.bind (Parses.readU16 _) ?_
  refine ParsesO.bind (Parses.readU16 _) ?_
  refine ParsesO.bind (Parses.readU32 _) ?_
  refine ParsesO.bind (Parses.readU32 _) ?_
  refine ParsesO.bind (Parses.readU32 _) ?_
  refine ParsesO.bind (Parses.readU16 _) ?_
  refine ParsesO.bind (Parses.readU16 _) ?_
  refine ParsesO.bind (Parses.readExact (ofNat_toNat_of_le hn).symm) ?_
  refine ParsesO.bind_last (Parses.readExact (ofNat_toNat_of_le hxl).symm) ?_
  unfold streamDecision rawLocal
  dsimp only
  generalize parseExtraField _ _ _ = r
  obtain ⟨result, perr⟩ := r
  dsimp only
  cases perr with
  | none =>
    dsimp only
    split
    · exact ParsesO.throw _
    · split
      · exact ParsesO.throw _
      · cases result.method <;> first | exact ParsesO.throw _ | exact ParsesO.pure _
  | some err =>
    cases err with
    | io k =>
      dsimp only
      split
      · exact ParsesO.throw _
      · split
        · exact ParsesO.throw _
        · cases result.method <;> first | exact ParsesO.throw _ | exact ParsesO.pure _
    | invalidArchive => exact ParsesO.throw _
    | unsupportedArchive => exact ParsesO.throw _
    | passwordRequired => exact ParsesO.throw _
    | fileNotFound => exact ParsesO.throw _


/-! ### The local extra field: the local ZIP64 record + foreign records -/

theorem lo32_toUInt64 {v : UInt64} (h : v.toNat < 4294967296) : (lo32 v).toUInt64 = v := by
  apply UInt64.toNat_inj.mp
  rw [lo32, UInt32.toNat_toUInt64, UInt64.toNat_toUInt32]
  omega

/-- `parse_extra_field` on the LOCAL ZIP64 record (both sizes, 16 bytes) when both 32-bit slots hold the
marker and the (dummy) header offset does not. -/
theorem parseExtra_z64_local (f : FileData) (u c : UInt64) (cx : Bytes) (k : Nat)
    (hu : (f.uncompressedSize == ZIP64_BYTES_THR) = true) (hc : (f.compressedSize == ZIP64_BYTES_THR) = true)
    (ho : (f.headerStart == ZIP64_BYTES_THR) = false) :
    parseExtraField (k + 1) f (le16 1 ++ (le16 16 ++ (le64 u ++ (le64 c ++ cx)))) =
      parseExtraField k { f with largeFile := true, uncompressedSize := u, compressedSize := c } cx := by
  have h := parseExtraField_z64 f u c 0 [] cx k 16 true true false hu hc ho rfl
  simp only [if_true, Bool.false_eq_true, if_false, List.nil_append, Bool.or_true] at h
  exact h

/-- the record after `parse_extra_field` has run over a well-formed local extra field -/
def localParsed (e : Entry) : FileData :=
  if e.localZip64 then
    { rawLocal e with
        largeFile := true
        uncompressedSize := if e.hasDesc then 0 else e.usize
        compressedSize := if e.hasDesc then 0 else e.csize }
  else rawLocal e

theorem extra_on_local (e : Entry) (hx : ExtraOk e.localExtra) (k : Nat) :
    parseExtraField (k + 1) (rawLocal e) e.localExtraAll = (localParsed e, none) := by
  cases hz : e.localZip64 with
  | false =>
    have h1 : e.localExtraAll = e.localExtra := by simp [Entry.localExtraAll, hz]
    rw [h1, parseExtra_ok hx]
    simp [localParsed, hz]
  | true =>
    have h1 : e.localExtraAll = le16 1 ++ (le16 16 ++ (le64 (if e.hasDesc then 0 else e.usize) ++
        (le64 (if e.hasDesc then 0 else e.csize) ++ e.localExtra))) := by
      simp [Entry.localExtraAll, hz]
    have hu : ((rawLocal e).uncompressedSize == ZIP64_BYTES_THR) = true := by
      show (e.localUs32.toUInt64 == ZIP64_BYTES_THR) = true
      rw [Entry.localUs32, hz, if_pos rfl]; decide
    have hc : ((rawLocal e).compressedSize == ZIP64_BYTES_THR) = true := by
      show (e.localCs32.toUInt64 == ZIP64_BYTES_THR) = true
      rw [Entry.localCs32, hz, if_pos rfl]; decide
    have ho : ((rawLocal e).headerStart == ZIP64_BYTES_THR) = false := by
      show ((0 : UInt64) == ZIP64_BYTES_THR) = false
      decide
    rw [h1, parseExtra_z64_local _ _ _ _ _ hu hc ho, parseExtra_ok hx]
    simp [localParsed, hz]

theorem streamDecision_of_extraOk (e : Entry) (hx : ExtraOk e.localExtra) :
    streamDecision e =
      if (e.flagsOut &&& 1 == 1) = true then .err .unsupportedArchive
      else if (e.flagsOut &&& 0x0008 != 0) = true then .err .unsupportedArchive
      else match Method.fromU16 e.method with
        | .unsupported _ => .err .unsupportedArchive
        | .aes => .err .unsupportedArchive
        | _ => .ok (some (localParsed e)) := by
  unfold streamDecision
  rw [extra_on_local e hx]
  have hm : (localParsed e).method = Method.fromU16 e.method := by
    unfold localParsed; split <;> rfl
  dsimp only
  rw [hm]

theorem localParsed_eq_streamView (e : Entry) (h : LocalSizesOk e) : localParsed e = streamViewEntry e := by
  obtain ⟨hd, _, _, _, _, hsz⟩ := h
  unfold localParsed
  cases hz : e.localZip64 with
  | true =>
    simp [rawLocal, streamViewEntry, hd, hz, Entry.localCrc]
  | false =>
    obtain ⟨h1, h2⟩ := hsz hz
    simp [rawLocal, streamViewEntry, hd, hz, Entry.localCrc, Entry.localCs32, Entry.localUs32,
      lo32_toUInt64 h1, lo32_toUInt64 h2]

theorem flagsOut_of_noDesc {e : Entry} (h : e.hasDesc = false) : e.flagsOut = e.flags := by
  simp [Entry.flagsOut, h]

theorem streamDecision_ok (e : Entry) (h : LocalSizesOk e) :
    streamDecision e = .ok (some (streamViewEntry e)) := by
  have hv := localParsed_eq_streamView e h
  obtain ⟨hd, h0, h3, hx, hm, _⟩ := h
  rw [streamDecision_of_extraOk e hx, flagsOut_of_noDesc hd, h0, h3, hv]
  simp only [Bool.false_eq_true, if_false]
  generalize Method.fromU16 e.method = m at hm
  cases m <;> simp only [Method.decodable] at hm <;> first | contradiction | rfl

theorem parses_streamHeader (e : Entry) (p : Nat) (hf : e.Fits) (h : LocalSizesOk e) :
    Parses streamHeader p (localRecord e) (some (streamViewEntry e)) := by
  have := parsesO_streamHeader e p hf
  rw [streamDecision_ok e h] at this
  exact this

/-- An entry the stream cannot serve: data-descriptor bit, encryption bit, or a method without decoder
(method 99 = the AES pseudo method included). -/
def StreamRefused (e : Entry) : Prop :=
  (e.flagsOut &&& 1 == 1) = true ∨ (e.flagsOut &&& 0x0008 != 0) = true ∨
  (Method.fromU16 e.method).decodable = false

instance (e : Entry) : Decidable (StreamRefused e) := by unfold StreamRefused; infer_instance

theorem hasDesc_refused {e : Entry} (h : e.hasDesc = true) : StreamRefused e := by
  refine Or.inr (Or.inl ?_)
  have e1 : e.flagsOut = e.flags ||| 8 := by simp [Entry.flagsOut, h]
  rw [e1]
  have : (e.flags ||| 8) &&& 8 = 8 := by
    apply UInt16.toNat_inj.mp
    apply Nat.eq_of_testBit_eq
    intro i
    simp only [UInt16.toNat_and, UInt16.toNat_or, Nat.testBit_and, Nat.testBit_or]
    cases h8 : (8 : UInt16).toNat.testBit i <;> simp
  rw [this]; decide

theorem streamDecision_refuses (e : Entry) (hx : ExtraOk e.localExtra) (h : StreamRefused e) :
    streamDecision e = .err .unsupportedArchive := by
  rw [streamDecision_of_extraOk e hx]
  rcases h with h | h | h
  · rw [if_pos h]
  · split
    · rfl
    · first | rfl | rw [if_pos h]
  · split
    · rfl
    · split
      · rfl
      · generalize Method.fromU16 e.method = m at h
        cases m <;> simp only [Method.decodable] at h <;> first | contradiction | rfl

/-- **The refusals, on the bytes**: the local record of an entry with the data-descriptor bit, the
encryption bit or an undecodable method (99 included) is answered with `UnsupportedArchive` after the
header has been consumed — no entry, no data. -/
theorem parsesO_streamHeader_refuses (e : Entry) (p : Nat) (hf : e.Fits) (hx : ExtraOk e.localExtra)
    (h : StreamRefused e) : ParsesO streamHeader p (localRecord e) (.err .unsupportedArchive) := by
  have := parsesO_streamHeader e p hf
  rw [streamDecision_refuses e hx h] at this
  exact this


/-! ### Soundness on arbitrary input: whatever the bytes, whatever fault is injected -/

theorem M.bind_ok_elim {α β : Type} {m : M α} {f : α → M β} {fa : Option Nat} {d d' : Dev} {b : β}
    (h : (m >>= f) fa d = (.ok b, d')) : ∃ a d1, m fa d = (.ok a, d1) ∧ f a fa d1 = (.ok b, d') :=
  M.bind_ok_inv h

theorem M.pure_ok_eq {α : Type} {a b : α} {fa : Option Nat} {d d' : Dev}
    (h : (Pure.pure a : M α) fa d = (.ok b, d')) : a = b := by
  cases h; rfl

/-- **Whatever the bytes and whatever fault is injected**: an entry `read_zipfile_from_stream` hands out
has the encryption flag and the data-descriptor flag clear and a method the crate has a decoder for.
Encrypted and data-descriptor entries therefore never produce an entry (hence never data): the call
ends in an error. -/
theorem streamHeader_some_sound (fa : Option Nat) (d d' : Dev) (f : FileData)
    (h : streamHeader fa d = (.ok (some f), d')) :
    f.encrypted = false ∧ f.usingDataDescriptor = false ∧ f.method.decodable = true := by
  have hp : PostV (fun o => ∀ f, o = some f →
      f.encrypted = false ∧ f.usingDataDescriptor = false ∧ f.method.decodable = true) streamHeader := by
    unfold streamHeader
    postv
    · intro _ hf; cases hf
    all_goals
      rename_i he hd _ hu ha
      intro _ hf; cases hf
      refine ⟨?_, ?_, ?_⟩
      · rw [parseExtraField_keeps FileData.encrypted fun _ => rfl]
        exact Bool.eq_false_iff.2 he
      · rw [parseExtraField_keeps FileData.usingDataDescriptor fun _ => rfl]
        exact Bool.eq_false_iff.2 hd
      · revert hu ha
        generalize FileData.method _ = m
        cases m <;> intro hu ha <;> first | rfl | exact (ha rfl).elim | exact (hu _ rfl).elim
  exact hp.elim h f rfl

end ZipVerif.Model
