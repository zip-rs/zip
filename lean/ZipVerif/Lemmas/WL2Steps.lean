import ZipVerif.Lemmas.WL2Records
/-
Level 2 step lemmas: an open entry with local extra data `lx` in the sink, central extra data `cx` in
its record, and possibly a ZipCrypto buffer in front of the sink — `start_entry` with the encryption
option (`StartCore.post2`), `write` in extra-data mode (`writeData_extra`), `end_extra_data`, and `finish_file` on an
entry in its data phase (used by Level 1 too, with no encryption layer and no extra data); that `finish_file` keeps
`centralOnly` (`finishFile_co`).  Last section: inner writer and sink as functions of the plaintext written so far
(`innerOf`, `sunkData`), for the ghost of `Lemmas/WL2Run.lean`.
-/

namespace ZipVerif.WL
open ZipVerif ZipVerif.Model ZipVerif.Spec.Zip

/-- One entry (not a raw copy) is open: header (extra length = ZIP64 record + `lx`), local extra data
`lx` and the bytes `sunk` are in the sink; the record holds the central extra data `cx`. -/
structure Op2 (done : List Spec.Zip.Entry) (gap : Bytes) (r : Nat) (f0 : FileData) (dp : UInt16)
    (lx cx sunk : Bytes) (s : WState) (d : Dev) : Prop where
  live : LiveAt d d.pos (localsBytes done ++ gap ++
    localHdr2 f0 dp f0.versionNeeded (z64len f0 + lx.length) ++ lx ++ sunk) r
  files : ∃ cf, s.files = cf ++ [curRec f0 cx (UInt64.ofNat s.statsStart)] ∧ ClosedAll done 0 cf
  dp : f0.time.datepart = some dp
  hs : f0.headerStart = UInt64.ofNat ((localsBytes done).length + gap.length)
  hsLt : (localsBytes done).length + gap.length + hdrLen f0 < 18446744073709551616
  udd : f0.usingDataDescriptor = false
  ss : s.statsStart = (localsBytes done).length + gap.length + hdrLen f0 + lx.length

theorem Op2.frame {done gap r f0 dp lx cx sunk s d s'} (h : Op2 done gap r f0 dp lx cx sunk s d)
    (hf : s'.files = s.files) (hss : s'.statsStart = s.statsStart) {d' : Dev} {sunk' : Bytes}
    (hl : LiveAt d' d'.pos (localsBytes done ++ gap ++
      localHdr2 f0 dp f0.versionNeeded (z64len f0 + lx.length) ++ lx ++ sunk') r) :
    Op2 done gap r f0 dp lx cx sunk' s' d' :=
  ⟨hl, by rw [hf, hss]; exact h.files, h.dp, h.hs, h.hsLt, h.udd, by rw [hss]; exact h.ss⟩

theorem Op2.toC {done gap r f0 dp lx cx sunk s d} (h : Op2 done gap r f0 dp lx cx sunk s d) :
    OpC done gap r f0 dp lx cx sunk s d :=
  let ⟨cf, hf, hcl⟩ := h.files
  ⟨h.live, ⟨cf, _, hf, hcl⟩, h.dp, h.hs, Nat.lt_of_le_of_lt (Nat.le_add_right _ _) h.hsLt, h.udd, h.ss⟩

/-! ### `switch_to` with an encryption layer -/

theorem switchTo_flush_enc (ext : WExt) (s : WState) (m : Method) (l : Int) (e : EncState) (p : Bytes)
    (h : s.inner = .compressor m l (some e) p) (hm : m ≠ .stored) :
    switchTo ext .stored none s =
      pure (.ok (), { s with inner := .storer (some { e with buffer := e.buffer ++ ext.compress m l p }) }) := by
  rw [switchTo_eq, h]
  exact if_neg (by simpa using hm)

/-! ### `finish_file` -/

theorem MSat.flush_live (fa) {d : Dev} {q : Nat} {L : Bytes} {r : Nat} (h : LiveAt d q L r) :
    MSat M.flush fa d (fun _ d' => d'.pos = d.pos ∧ LiveAt d' q L r) := by
  apply MSat.prim'
  intro d1 h1 h2
  exact ⟨h1, h.congr h2⟩

/-- the buffer `ZipCryptoWriter::finish` encrypts: 11 zero bytes, the CRC's high byte, the payload -/
def zcPlain (crc : UInt32) (payload : Bytes) : Bytes :=
  List.replicate 11 (0 : UInt8) ++ [(crc >>> 24).toUInt8] ++ payload

/-- `finish_file` on an entry behind the ZipCrypto layer: after `switch_to(Stored)` (which flushes a
compressor into the encryption buffer without I/O) the whole payload is buffered; its encryption is
written to the sink, then the tail runs on the plain storer. -/
theorem finishFile_of_enc (ext : WExt) (s s1 : WState) (hwe : s.writingToExtraField = false)
    (hsw : switchTo ext .stored none s = pure (.ok (), s1))
    (pw payload : Bytes) (hin : s1.inner = .storer (some ⟨pw, List.replicate 12 0 ++ payload⟩))
    {d : Dev} {L : Bytes} {r : Nat} (hl : LiveAt d d.pos L r)
    {Q : Except ZErr Unit × WState → Dev → Prop}
    (h : ∀ d', LiveAt d' d'.pos (L ++ ext.zcEncrypt pw (zcPlain (hasherFinalize s1.statsHasher) payload)) r →
      WSat (afterEnc { s1 with inner := .storer none }) none d' Q) :
    WSat (finishFile ext s) none d Q := by
  unfold finishFile
  simp only [hwe, Bool.false_eq_true, if_false]
  apply WSat.bind
  apply WSat.pure
  dsimp only
  rw [hsw]
  apply WSat.bind
  apply WSat.pure
  dsimp only
  simp only [hin]
  have hlen : ¬ (List.replicate 12 (0 : UInt8) ++ payload).length < 12 := by simp
  rw [if_neg hlen]
  have hbuf : (List.replicate 12 (0 : UInt8) ++ payload).take 11 ++ [(hasherFinalize s1.statsHasher >>> 24).toUInt8] ++
      (List.replicate 12 (0 : UInt8) ++ payload).drop 12 = zcPlain (hasherFinalize s1.statsHasher) payload := by
    unfold zcPlain
    rw [List.take_append_of_le_length (by simp), List.drop_left' (by simp)]
    rfl
  rw [hbuf]
  apply WSat.io_none (MSat.writeAll_append _ none hl); intro _ d1 ⟨hp1, hl1⟩
  apply WSat.io_none (MSat.flush_live none (hl1.castPos hp1.symm)); intro _ d2 ⟨hp2, hl2⟩
  exact h d2 (hl2.castPos hp2.symm)

theorem afterEnc_co (s : WState) (d : Dev) :
    WSat (afterEnc s) none d (fun rs _ => rs.2.centralOnly = s.centralOnly) := by
  unfold afterEnc
  split
  · split
    · split
      · exact WSat.pure rfl
      · dsimp only
        apply WSat.io_none (MSat.streamPosition none d); intro fe d1 _
        split
        · exact WSat.pure rfl
        · apply WSat.updateLocalHeader_none
          · intro d2
            apply WSat.io_none (MSat.seekStart _ none d2); intro _ d3 _
            exact WSat.pure rfl
          · intro d2; rfl
    · exact WSat.pure rfl
  · exact WSat.panic

theorem finishFile_co (ext : WExt) (s : WState) (hwe : s.writingToExtraField = false) (d : Dev) :
    WSat (finishFile ext s) none d (fun rs _ => rs.2.centralOnly = s.centralOnly) := by
  unfold finishFile
  simp only [hwe, Bool.false_eq_true, if_false]
  apply WSat.bind
  apply WSat.pure
  dsimp only
  apply WSat.bind
  apply WSat.mono (switchTo_sat ext .stored none s none d).toWSat
  intro ⟨r1, s2⟩ d2 ⟨i, hs2, _⟩
  dsimp only at hs2 ⊢
  subst hs2
  cases r1 with
  | error e => exact WSat.pure rfl
  | ok u =>
    dsimp only
    split
    · split
      · exact WSat.panic
      · apply WSat.io_none (MSat.writeAll _ none d2); intro _ d3 _
        apply WSat.io_none (MSat.flush none d3); intro _ d4 _
        exact afterEnc_co { s with inner := .storer none } d4
    · exact afterEnc_co { s with inner := .storer none } d2
    · exact WSat.panic

/-! ### `start_entry` (Level 2: with the encryption option) -/

def StartPost2 (es : List Spec.Zip.Entry) (gap : Bytes) (r : Nat) (c : Bytes) (co : Bool) (f : FileData)
    (dp : UInt16) (o : FileOptions) : Except ZErr Unit × WState → Dev → Prop :=
  fun rs d' => rs.1 = .ok () ∧ Op2 es gap r f dp [] [] [] rs.2 d' ∧ rs.2.inner = startInner o ∧
    rs.2.writingRaw = false ∧ rs.2.writingToFile = false ∧ rs.2.writingToExtraField = false ∧
    rs.2.centralOnly = co ∧ rs.2.statsBytes = 0 ∧ rs.2.statsHasher = 0xFFFFFFFF ∧ rs.2.comment = c

/-- What Level 2 reads off `StartCore` (a timestamp from 1980 on; the header ends within the `u64` range). -/
theorem StartCore.post2 {name : Bytes} {o : FileOptions} {raw : Option (UInt32 × UInt64 × UInt64)}
    {es : List Spec.Zip.Entry} {gap : Bytes} {r : Nat} {c : Bytes} {co : Bool}
    {rs : Except ZErr Unit × WState} {d' : Dev}
    (h : StartCore name o raw es gap r c (fun s => s.centralOnly = co) rs d') {dp : UInt16}
    (hdp : o.time.datepart = some dp)
    (hlt : (localsBytes es).length + gap.length +
      hdrLen (mkRec name o raw ((localsBytes es).length + gap.length) 0) < 18446744073709551616) :
    StartPost2 es gap r c co (mkRec name o raw ((localsBytes es).length + gap.length) 0) dp o rs d' := by
  obtain ⟨chunks, s1, i, hX, hi, hrs, hl, hcl, hwe, hwr, hwf, hc, hco⟩ := h
  obtain ⟨dp0, hdp0, hser⟩ := ser_localHeaderChunks hX rfl
  obtain rfl : dp0 = dp := Option.some.inj (hdp0.symm.trans hdp)
  have hserlen : (ser chunks).length = hdrLen (mkRec name o raw ((localsBytes es).length + gap.length) 0) := by
    rw [hser, localHdr2_length]; rfl
  subst hrs hi
  refine ⟨rfl, ⟨?_, ⟨s1.files, rfl, hcl⟩, hdp0, rfl, hlt, rfl, ?_⟩, rfl, hwr, hwf, hwe, hco, rfl, rfl, hc⟩
  · refine hl.cast ?_
    rw [hser]
    simp only [List.append_nil, List.length_nil, Nat.add_zero]
  · show _ + (ser chunks).length = _
    rw [hserlen]; simp

/-! ### `write` in extra-data mode -/

/-- `write` in extra-data mode: the bytes are appended to the extra field of the open entry's record;
no I/O, no statistics. -/
theorem writeData_extra (buf : Bytes) (s : WState) (hwf : s.writingToFile = true)
    (hwe : s.writingToExtraField = true) (hcl : s.inner ≠ .closed) (cf : List FileData) (f : FileData)
    (hfiles : s.files = cf ++ [f]) :
    writeData buf s =
      pure (.ok (), { s with files := cf ++ [{ f with extraField := f.extraField ++ buf }] }) := by
  rw [Model.writeData_extra hwf hwe hcl (by rw [hfiles, List.getLast?_concat]), hfiles, setLast_snoc]

/-! ### `end_extra_data` -/

theorem switchTo_storer_cases (ext : WExt) (c : Method) (l : Option Int) (st : WState)
    (h : st.inner = .storer none) {d : Dev} {Q : Except ZErr Unit × WState → Dev → Prop}
    (hok : ¬ Refused c l → Q (.ok (), { st with inner := innerFor c l }) d)
    (herr : Refused c l → ∀ e, Q (.error e, { st with inner := .closed }) d) :
    WSat (switchTo ext c l st) none d Q := by
  rcases switchTo_from_storer ext c l st none h with ⟨hsw, _, hnr⟩ | ⟨⟨e, hsw⟩, hr⟩
  · rw [hsw]; exact WSat.pure (hok hnr)
  · rw [hsw]; exact WSat.pure (herr hr e)

theorem endExtraData_invalid (ext : WExt) (s : WState) (cf : List FileData) (f : FileData) (e : ZErr)
    (hwe : s.writingToExtraField = true) (hcl : s.inner ≠ .closed) (hfiles : s.files = cf ++ [f])
    (hv : validateExtraData f = .error e) : endExtraData ext s = pure (.error e, s) := by
  unfold endExtraData
  have : s.inner.isClosed = false := by
    cases hi : s.inner <;> simp_all [Inner.isClosed]
  simp [hwe, this, hfiles, hv]

theorem endExtraData_central (ext : WExt) (s : WState) (cf : List FileData) (f : FileData)
    (hwe : s.writingToExtraField = true) (hco : s.centralOnly = true) (hcl : s.inner ≠ .closed)
    (hfiles : s.files = cf ++ [f]) (hv : validateExtraData f = .ok ()) :
    endExtraData ext s =
      pure (.ok f.dataStart.toNat, { s with writingToExtraField := false, centralOnly := false }) := by
  unfold endExtraData
  have : s.inner.isClosed = false := by
    cases hi : s.inner <;> simp_all [Inner.isClosed]
  simp [hwe, this, hfiles, hv, hco]

/-- everything `end_extra_data` does not touch -/
structure SameX (s s' : WState) : Prop where
  wf : s'.writingToFile = s.writingToFile
  wr : s'.writingRaw = s.writingRaw
  bytes : s'.statsBytes = s.statsBytes
  hash : s'.statsHasher = s.statsHasher
  comment : s'.comment = s.comment

/-- **`end_extra_data` in local mode**: the buffered extra data `cx` are written after the header, the
16-bit extra length at header + 28 is back-patched, the data start moves behind them, and the writer for
the entry's method is installed — or the method/level is refused and the writer is left closed. -/
theorem endExtraData_local (ext : WExt) {done : List Spec.Zip.Entry} {gap : Bytes} {r : Nat}
    {f0 : FileData} {dp : UInt16} {cx : Bytes} {s : WState} {d : Dev}
    (h : Op2 done gap r f0 dp [] cx [] s d) (hwe : s.writingToExtraField = true)
    (hco : s.centralOnly = false) (hin : s.inner = .storer none)
    (hv : validateExtraData (curRec f0 cx (UInt64.ofNat s.statsStart)) = .ok ()) :
    WSat (endExtraData ext s) none d (fun rs d' =>
      (¬ Refused f0.method f0.level → (∃ v, rs.1 = .ok v) ∧ Op2 done gap r f0 dp cx cx [] rs.2 d' ∧
        rs.2.inner = innerFor f0.method f0.level ∧ rs.2.writingToExtraField = false ∧
        rs.2.centralOnly = false ∧ SameX s rs.2) ∧
      (Refused f0.method f0.level → (∃ e, rs.1 = .error e) ∧ rs.2.inner = .closed)) := by
  obtain ⟨cf, hfiles, hcl⟩ := h.files
  have hss : s.statsStart = (localsBytes done).length + gap.length + hdrLen f0 := by
    rw [h.ss]; simp
  have hds : (UInt64.ofNat s.statsStart).toNat = s.statsStart :=
    U64.toNat_ofNat (by rw [hss]; exact h.hsLt)
  have hpos : d.pos = s.statsStart := by
    rw [← h.live.length, hss]
    simp only [List.length_append, localHdr2_length, List.length_nil, hdrLen]; omega
  have hvl : _ + z64len _ ≤ 65535 := validate_len hv
  unfold endExtraData
  have hncl : s.inner.isClosed = false := by rw [hin]; rfl
  simp only [hwe, hfiles, List.getLast?_concat, hv, hco, hin, Bool.not_true, Bool.false_eq_true,
    if_false, Bool.not_false, if_true, setLast_snoc]
  -- four sink actions, each leaving a `LiveAt` of its own (`hl1` … `hl4`): `cx` written behind the header, a seek to
  -- header + 28, the extra length patched there (`patch_xlen`), a seek back behind `cx`; then `switch_to`, either way
  apply WSat.io_none (MSat.writeAll_append _ none h.live); intro _ d1 ⟨hp1, hl1⟩
  have hel := localExtraLen_val (f := { curRec f0 cx (UInt64.ofNat s.statsStart) with
    dataStart := UInt64.ofNat ((curRec f0 cx (UInt64.ofNat s.statsStart)).dataStart.toNat +
      (curRec f0 cx (UInt64.ofNat s.statsStart)).extraField.length) }) hvl
  rw [hel]
  dsimp only
  have hhs : (curRec f0 cx (UInt64.ofNat s.statsStart)).headerStart.toNat =
      (localsBytes done ++ gap).length := by
    show f0.headerStart.toNat = _
    rw [h.hs, U64.toNat_ofNat (by have := h.hsLt; omega)]; simp
  have hl1' : LiveAt d1 (d.pos + cx.length) ((localsBytes done ++ gap) ++
      (localHdr2 f0 dp f0.versionNeeded (z64len f0 + 0) ++ cx)) r := by
    refine hl1.cast ?_
    show _ ++ (curRec f0 cx _).extraField = _
    simp only [curRec, List.append_nil, List.append_assoc, List.length_nil]
  apply WSat.io_none (MSat.seekStart_live _ none hl1'); intro _ d2 ⟨_, hp2, hl2⟩
  have hq : d.pos + cx.length = (localsBytes done ++ gap).length + hdrLen f0 + cx.length := by
    rw [hpos, hss]; simp
  apply WSat.io_none (MSat.writeAll_patch _ none hl2 (by
    rw [hp2, hhs, le16_length, hq]; unfold hdrLen; omega)); intro _ d3 ⟨hp3, hl3⟩
  rw [hp2, hhs] at hl3
  have hl3' := hl3.cast (patch_xlen (localsBytes done ++ gap) cx f0 dp f0.versionNeeded (z64len f0 + 0)
    (z64len f0 + cx.length) (localsBytes done ++ gap).length rfl)
  apply WSat.io_none (MSat.seekStart_live _ none hl3'); intro _ d4 ⟨_, hp4, hl4⟩
  have hend : (curRec f0 cx (UInt64.ofNat s.statsStart)).dataStart.toNat +
      (curRec f0 cx (UInt64.ofNat s.statsStart)).extraField.length = s.statsStart + cx.length := by
    show (UInt64.ofNat s.statsStart).toNat + cx.length = _
    rw [hds]
  rw [hend] at hp4 ⊢
  have hop : ∀ (i : Inner) (wE cO : Bool), Op2 done gap r f0 dp cx cx []
      { s with inner := i, statsStart := s.statsStart + cx.length, files := cf ++ [{ curRec f0 cx (UInt64.ofNat s.statsStart) with dataStart := UInt64.ofNat (s.statsStart + cx.length) }], writingToExtraField := wE, centralOnly := cO } d4 := by
    intro i wE cO
    refine ⟨?_, ⟨cf, rfl, hcl⟩, h.dp, h.hs, h.hsLt, h.udd, ?_⟩
    · rw [hp4]
      refine (hl4.castPos (by rw [hpos])).cast ?_
      simp only [List.append_assoc, List.append_nil]
    · show s.statsStart + cx.length = _
      rw [hss]
  apply WSat.bind
  apply switchTo_storer_cases ext _ _ _ rfl
  · intro hnr
    dsimp only
    apply WSat.pure
    refine ⟨fun _ => ⟨⟨_, rfl⟩, hop _ _ _, rfl, rfl, rfl, ⟨rfl, rfl, rfl, rfl, rfl⟩⟩, fun hr => absurd hr hnr⟩
  · intro hr e
    dsimp only
    apply WSat.pure
    exact ⟨fun hnr => absurd hr hnr, fun _ => ⟨⟨_, rfl⟩, rfl⟩⟩

/-! ### `finish_file` on an entry in its data phase -/

/-- the stored bytes of a finished entry: the (compressed) plaintext, behind the encryption header and encrypted
(`zcPlain`) when the ZipCrypto option was given -/
def dataOf2 (ext : WExt) (f0 : FileData) (enc : Option Bytes) (plain : Bytes) : Bytes :=
  match enc with
  | none => dataOf ext f0 plain
  | some pw => ext.zcEncrypt pw (zcPlain (Spec.Crc32.crc32 plain) (dataOf ext f0 plain))

/-- the layered writer of an entry in its data phase -/
def InnerData (f0 : FileData) (enc : Option Bytes) (plain : Bytes) (i : Inner) : Prop :=
  match enc with
  | none => (f0.method = .stored ∧ i = .storer none) ∨
      (f0.method ≠ .stored ∧ i = .compressor f0.method (effLevel f0.method f0.level) none plain)
  | some pw => (f0.method = .stored ∧ i = .storer (some ⟨pw, List.replicate 12 0 ++ plain⟩)) ∨
      (f0.method ≠ .stored ∧
        i = .compressor f0.method (effLevel f0.method f0.level) (some ⟨pw, List.replicate 12 0⟩) plain)

/-- the data bytes already in the sink (only a plain storer writes through) -/
def sunkData (f0 : FileData) (enc : Option Bytes) (plain : Bytes) : Bytes :=
  match enc with
  | none => if f0.method = .stored then plain else []
  | some _ => []

/-- the encryption layer `start_entry` sets up -/
def encLayer (enc : Option Bytes) : Option EncState := enc.map fun pw => ⟨pw, List.replicate 12 0⟩

/-- the layered writer of an entry in its data phase that has taken the plaintext `p` -/
def innerOf (f : FileData) (enc : Option Bytes) (p : Bytes) : Inner :=
  if f.method = .stored then .storer (enc.map fun pw => ⟨pw, List.replicate 12 0 ++ p⟩)
  else .compressor f.method (effLevel f.method f.level) (encLayer enc) p

theorem innerData_iff {f : FileData} {enc : Option Bytes} {p : Bytes} {i : Inner} :
    InnerData f enc p i ↔ i = innerOf f enc p := by
  unfold InnerData innerOf
  by_cases hm : f.method = .stored
  · rw [if_pos hm]; cases enc <;> simp [hm]
  · rw [if_neg hm]; cases enc <;> simp [hm, encLayer]

/-- **`finish_file` flushes the layered writer of an entry**: whatever of the stored bytes `dataOf2` is not
yet in the sink (`sunkData`) is written, and the tail runs on the plain storer. -/
theorem finishFile_flush (ext : WExt) {f0 : FileData} {enc : Option Bytes} {plain : Bytes} {s : WState} {d : Dev}
    {L : Bytes} {r : Nat} (hwe : s.writingToExtraField = false)
    (hh : s.statsHasher = Spec.Crc32.updateBytes 0xFFFFFFFF plain) (hi : s.inner = innerOf f0 enc plain)
    (hl : LiveAt d d.pos (L ++ sunkData f0 enc plain) r) {Q : Except ZErr Unit × WState → Dev → Prop}
    (h : ∀ d', LiveAt d' d'.pos (L ++ dataOf2 ext f0 enc plain) r →
      WSat (afterEnc { s with inner := .storer none }) none d' Q) :
    WSat (finishFile ext s) none d Q := by
  have hcrc : hasherFinalize s.statsHasher = Spec.Crc32.crc32 plain := by rw [hh]; rfl
  unfold innerOf at hi
  unfold sunkData at hl
  unfold dataOf2 dataOf at h
  by_cases hst : f0.method = .stored
  · rw [if_pos hst] at hi h
    cases enc with
    | none =>
      rw [if_pos hst] at hl
      have hi' : s.inner = .storer none := hi
      apply finishFile_of_storer ext s hwe hi'
      have hs : ({ s with inner := .storer none } : WState) = s := by rw [← hi']
      rw [← hs]
      exact h d hl
    | some pw =>
      apply finishFile_of_enc ext s s hwe (switchTo_stored ext none s _ hi) pw plain hi hl
      intro d1 hl1
      rw [hcrc] at hl1
      exact h d1 (hl1.cast (by simp only [List.append_nil]))
  · rw [if_neg hst] at hi h
    cases enc with
    | none =>
      rw [if_neg hst] at hl
      apply finishFile_of_compressor ext s hwe _ _ _ hi hst hl
      intro d1 hl1
      exact h d1 (hl1.cast (by simp only [List.append_nil]))
    | some pw =>
      apply finishFile_of_enc ext s _ hwe (switchTo_flush_enc ext s _ _ ⟨pw, List.replicate 12 0⟩ plain hi hst) pw
        (ext.compress f0.method (effLevel f0.method f0.level) plain) rfl hl
      intro d1 hl1
      exact h d1 ((hcrc ▸ hl1).cast (by simp only [List.append_nil]))

/-- What `finish_file` leaves of an entry written through the writer (`norm`: not a raw copy), the postcondition of
`afterEnc_norm` at the stored bytes `dataOf2`: refused with the writer `Stuck`, or the entry closed. -/
def NormPost2 (ext : WExt) (r : Nat) (done : List Spec.Zip.Entry) (gap : Bytes) (f0 : FileData)
    (dp : UInt16) (lx cx : Bytes) (enc : Option Bytes) (plain : Bytes) (s : WState) :
    Except ZErr Unit × WState → Dev → Prop :=
  fun rs d' =>
    (f0.largeFile = false ∧ UInt64.ofNat (dataOf2 ext f0 enc plain).length > ZIP64_BYTES_THR ∧
      (∃ e, rs.1 = .error e) ∧ rs.2.comment = s.comment ∧
      (s.statsStart + (dataOf2 ext f0 enc plain).length < 18446744073709551616 →
        Stuck s.statsStart (dataOf2 ext f0 enc plain).length s.writingToFile rs.2 d')) ∨
    (¬ (f0.largeFile = false ∧ UInt64.ofNat (dataOf2 ext f0 enc plain).length > ZIP64_BYTES_THR) ∧
      FinPost (done ++ [specEntry (closedRec f0 cx plain (dataOf2 ext f0 enc plain)) dp gap lx
        (dataOf2 ext f0 enc plain) f0.versionNeeded]) [] r s.comment rs d' ∧
      rs.2.centralOnly = s.centralOnly)

theorem finishFile_data2 (ext : WExt) {done : List Spec.Zip.Entry} {gap : Bytes} {r : Nat} {f0 : FileData}
    {dp : UInt16} {lx cx : Bytes} {enc : Option Bytes} {plain : Bytes} {s : WState} {d : Dev}
    (h : OpC done gap r f0 dp lx cx (sunkData f0 enc plain) s d)
    (hwe : s.writingToExtraField = false) (hwr : s.writingRaw = false)
    (hb : s.statsBytes = plain.length) (hh : s.statsHasher = Spec.Crc32.updateBytes 0xFFFFFFFF plain)
    (hi : InnerData f0 enc plain s.inner)
    (hcf : (centralZip64Bytes (closedRec f0 cx plain (dataOf2 ext f0 enc plain))).length + cx.length ≤ 65535) :
    WSat (finishFile ext s) none d (NormPost2 ext r done gap f0 dp lx cx enc plain s) := by
  apply finishFile_flush ext hwe hh (innerData_iff.mp hi) h.live
  intro d1 hl1
  exact afterEnc_norm plain (OpC.frame (s' := { s with inner := .storer none }) h rfl rfl hl1) rfl hwr hwe hb hh hcf

/-! ### The layered writer as a function of the plaintext -/

theorem innerOf_start (f : FileData) (enc : Option Bytes) :
    innerOf f enc [] = innerFor2 f.method f.level (encLayer enc) := by
  unfold innerOf innerFor2 encLayer
  cases enc <;> simp

theorem absorb_innerOf (f : FileData) (enc : Option Bytes) (p b : Bytes) :
    GW.absorb (innerOf f enc p) b = innerOf f enc (p ++ b) := by
  unfold innerOf
  split
  · cases enc <;> simp [GW.absorb]
  · rfl

theorem sunk_innerOf (f : FileData) (enc : Option Bytes) (p b : Bytes) :
    sunkData f enc p ++ (innerOf f enc p).sunk b = sunkData f enc (p ++ b) := by
  unfold innerOf sunkData
  by_cases hm : f.method = .stored <;> cases enc <;> simp [hm, Inner.sunk]

/-- A `write` into the data of an entry in its data phase is absorbed by its layered writer: only the
plain storer lets the bytes through to the sink. -/
theorem WritePost.absorb {b : Bytes} {s : WState} {L : Bytes} {r : Nat} {u : Unit} {s2 : WState} {d2 : Dev}
    {f : FileData} {enc : Option Bytes} {p : Bytes}
    (hq : WritePost b s (L ++ sunkData f enc p) r (.ok u, s2) d2) (hin : s.inner = innerOf f enc p) :
    s2.inner = innerOf f enc (p ++ b) ∧ LiveAt d2 d2.pos (L ++ sunkData f enc (p ++ b)) r := by
  obtain ⟨rfl, -, hl⟩ := hq
  rw [hin] at hl
  exact ⟨by show GW.absorb s.inner b = _; rw [hin, absorb_innerOf],
    hl.cast (by rw [List.append_assoc, sunk_innerOf])⟩

end ZipVerif.WL
