import ZipVerif.Lemmas.WLRun
/-
Level 2 of the "writer emits a layout" development: the ghost state, the invariant `Lay2` and the
per-call lemmas for the WHOLE call alphabet — extra-data mode (`start_file_with_extra_data`, `write`
into the extra field, `end_local_start_central_extra_data`, `end_extra_data`), `start_file_aligned`,
and the ZipCrypto option of `start_file` / `add_directory` / `add_symlink`.  `level2` makes Level 2 a
`Level` (`Lemmas/WLLevel.lean`): the common part of the start calls, `finish` and `Drop` come from there.
-/

namespace ZipVerif.WL
open ZipVerif ZipVerif.Model ZipVerif.Spec.Zip
open ZipVerif.Props.C12 (Call step runCalls outcomeOf mapStep mapStep_wsat mapStep_pure)

/-! ### Ghost state -/

/-- where an open entry is in the extra-data protocol -/
inductive Phase
  /-- `write` goes to the entry's data -/
  | data
  /-- after `start_file_with_extra_data`: `write` goes to the extra field, which `end_extra_data` will
  put into the local header (and leave in the record, i.e. in the central header too) -/
  | localX
  /-- after `end_local_start_central_extra_data`: `write` goes to the extra field of the record only -/
  | centralX
  deriving DecidableEq

/-- The entry being written, as the calls so far determine it (Level 2). -/
structure Open2 where
  /-- the record `start_entry` pushed -/
  f : FileData
  raw : Bool
  /-- plaintext accepted so far (raw copy: the raw bytes) -/
  plain : Bytes
  /-- raw copy only: bytes written after the raw data -/
  junk : Bytes
  wf : Bool
  /-- the ZipCrypto password, if the entry is encrypted -/
  enc : Option Bytes
  /-- local extra data already in the sink behind the header -/
  lx : Bytes
  /-- extra data held by the record (what the central header will carry) -/
  cx : Bytes
  phase : Phase

inductive Ghost2
  | idle (done : List Spec.Zip.Entry) (gap : Bytes) (c : Bytes)
  | opened (done : List Spec.Zip.Entry) (gap : Bytes) (c : Bytes) (o : Open2)
  /-- poisoned (closed): `finish` can only fail -/
  | dead
  /-- stuck on an entry that cannot be closed (see `WL.Stuck`) -/
  | stuck (ss n : Nat) (wf : Bool)
  /-- nothing is claimed of such a run: a panic outcome, a sink position ≥ 2^64, a pre-1980 timestamp, or an
  entry whose central extra field (ZIP64 record + extra data, more than 65535 bytes — it takes a 4 GiB
  size or offset AND more than 65507 bytes of extra data) `finalize` will refuse -/
  | lost

/-- the bytes of the open entry that are in the sink behind header and local extra data -/
def Open2.sunk (o : Open2) : Bytes :=
  if o.raw then o.plain ++ o.junk else sunkData o.f o.enc o.plain

/-- result of (an explicit or implicit) `end_extra_data` -/
inductive XRes
  | ok (o : Open2)
  /-- validation refuses: an error, nothing changes -/
  | unchanged
  /-- the method/level is refused by `switch_to`: the writer is left closed -/
  | dead

/-- `end_extra_data` on an entry in extra-data mode. -/
def Open2.endExtra (o : Open2) : XRes :=
  match validateExtraData { o.f with extraField := o.cx } with
  | .error _ => .unchanged
  | .ok () =>
    match o.phase with
    | .localX => if Refused o.f.method o.f.level then .dead else .ok { o with lx := o.cx, phase := .data }
    | _ => .ok { o with phase := .data }

/-- where the data of the open entry start -/
def Open2.dataStart (done : List Spec.Zip.Entry) (gap : Bytes) (o : Open2) : Nat :=
  (localsBytes done).length + gap.length + hdrLen o.f + o.lx.length

/-- `finish_file` on an entry in its data phase. -/
def Open2.finData (ext : WExt) (done : List Spec.Zip.Entry) (gap : Bytes) (o : Open2) : FinRes :=
  match o.f.time.datepart with
  | none => .lost
  | some dp =>
    if o.raw then .ok (done ++ [specEntry o.f dp gap [] o.plain o.f.versionNeeded]) o.junk
    else
      -- never true on a run of the writer (see `Lay2`): makes the bound visible on the ghost
      if o.f.largeFile = false ∧ o.plain.length > 0xFFFFFFFF then .lost
      else if (centralZip64Bytes (closedRec o.f o.cx o.plain (dataOf2 ext o.f o.enc o.plain))).length +
          o.cx.length > 65535 then .lost
      else if o.f.largeFile = false ∧
          UInt64.ofNat (dataOf2 ext o.f o.enc o.plain).length > ZIP64_BYTES_THR then
        (if o.dataStart done gap + (dataOf2 ext o.f o.enc o.plain).length < 18446744073709551616 then
          .stuck (o.dataStart done gap) (dataOf2 ext o.f o.enc o.plain).length o.wf
         else .lost)
      else .ok (done ++ [specEntry (closedRec o.f o.cx o.plain (dataOf2 ext o.f o.enc o.plain)) dp gap o.lx
        (dataOf2 ext o.f o.enc o.plain) o.f.versionNeeded]) []

def Open2.fin (ext : WExt) (done : List Spec.Zip.Entry) (gap : Bytes) (o : Open2) : FinRes :=
  match o.phase with
  | .data => o.finData ext done gap
  | _ =>
    match o.endExtra with
    | .ok o' => o'.finData ext done gap
    | .unchanged => .unchanged
    | .dead => .dead

def Ghost2.fin (ext : WExt) : Ghost2 → FinRes
  | .idle done gap _ => .ok done gap
  | .opened done gap _ o => o.fin ext done gap
  | .dead => .dead
  | .stuck ss n wf => .stuck ss n wf
  | .lost => .lost

def Ghost2.cmt : Ghost2 → Bytes
  | .idle _ _ c => c
  | .opened _ _ c _ => c
  | _ => []

/-- The archive `finish` emits: closed entries, dead bytes, comment. -/
def Ghost2.close (ext : WExt) (g : Ghost2) : Option (List Spec.Zip.Entry × Bytes × Bytes) :=
  match g.fin ext with
  | .ok es gap => some (es, gap, g.cmt)
  | _ => none

/-! ### The invariant -/

/-- a non-raw open entry: the writer's state by phase.  In `.localX` the sink is still a plain storer (`end_extra_data`
will install the writer for the method); in `.centralX` that has happened. -/
def Mode2 (o : Open2) (s : WState) : Prop :=
  s.writingRaw = false ∧ (o.f.largeFile = false → o.plain.length ≤ 0xFFFFFFFF) ∧
  s.statsBytes = o.plain.length ∧ s.statsHasher = Spec.Crc32.updateBytes 0xFFFFFFFF o.plain ∧
  o.junk = [] ∧ o.f.extraField = [] ∧
  match o.phase with
  | .data => s.writingToExtraField = false ∧ s.centralOnly = false ∧ InnerData o.f o.enc o.plain s.inner
  | .localX => s.writingToExtraField = true ∧ s.centralOnly = false ∧ s.inner = .storer none ∧
      o.plain = [] ∧ o.enc = none ∧ o.lx = [] ∧ o.wf = true
  | .centralX => s.writingToExtraField = true ∧ s.centralOnly = true ∧
      s.inner = innerFor o.f.method o.f.level ∧ o.plain = [] ∧ o.enc = none ∧ o.wf = true

def ModeRaw (o : Open2) (s : WState) : Prop :=
  s.writingRaw = true ∧ s.inner = .storer none ∧ o.f.compressedSize = UInt64.ofNat o.plain.length ∧
  s.writingToExtraField = false ∧ s.centralOnly = false ∧ o.enc = none ∧ o.lx = [] ∧ o.cx = [] ∧
  o.phase = .data ∧ o.f.extraField = []

def Lay2 (r : Nat) : Ghost2 → WState → Dev → Prop
  | .idle done gap c, s, d =>
    Cl done gap r s d ∧ s.writingToFile = false ∧ (s.files = [] ∨ s.writingRaw = true) ∧ s.comment = c ∧
      s.centralOnly = false
  | .opened done gap c o, s, d =>
    ∃ dp, Op2 done gap r o.f dp o.lx o.cx o.sunk s d ∧ s.writingToFile = o.wf ∧ s.comment = c ∧
      (if o.raw then ModeRaw o s else Mode2 o s)
  | .dead, s, _ => s.inner = .closed
  | .stuck ss n wf, s, d => Stuck ss n wf s d
  | .lost, _, _ => True

/-- The ghost's plaintext-bound check (`Open2.finData`) never fires on a writer in step with it: `write`
poisons the writer before the plaintext of a non-ZIP64 entry exceeds 0xFFFFFFFF bytes. -/
theorem Lay2.plain_bound {r : Nat} {done : List Spec.Zip.Entry} {gap c : Bytes} {o : Open2} {s : WState}
    {d : Dev} (h : Lay2 r (.opened done gap c o) s d) (hraw : o.raw = false) :
    ¬ (o.f.largeFile = false ∧ o.plain.length > 0xFFFFFFFF) := by
  obtain ⟨_, _, _, _, hm⟩ := h
  rw [hraw] at hm
  simp only [Bool.false_eq_true, if_false] at hm
  intro hbad
  have := hm.2.1 hbad.1
  omega

theorem lay2_init_empty : Lay2 0 (.idle [] [] []) WState.init (Dev.ofBytes []) :=
  ⟨⟨⟨Nat.le_refl _, rfl, Nat.le_refl _⟩, trivial, rfl, rfl⟩, rfl, Or.inl rfl, rfl, rfl⟩

/-- the `.idle` case of `Lay2` from its raw ingredients (the state `new_append` returns) -/
theorem lay2_idle_intro {done : List Spec.Zip.Entry} {gap : Bytes} {s : WState} {d : Dev}
    (hpos : d.pos ≤ d.buf.length) (hlive : d.buf.take d.pos = localsBytes done ++ gap)
    (hcl : ClosedAll done 0 s.files) (hin : s.inner = .storer none) (hwf : s.writingToFile = false)
    (hwe : s.writingToExtraField = false) (hco : s.centralOnly = false)
    (hidle : s.files = [] ∨ s.writingRaw = true) :
    Lay2 (d.buf.length - d.pos) (.idle done gap s.comment) s d :=
  ⟨⟨⟨hpos, hlive, by omega⟩, hcl, hin, hwe⟩, hwf, hidle, rfl, hco⟩

/-! ### `end_extra_data` on the ghost -/

def XPost (r : Nat) (done : List Spec.Zip.Entry) (gap c : Bytes) (s : WState) (d : Dev) :
    XRes → Except ZErr Nat × WState → Dev → Prop
  | .ok o', rs, d' => (∃ v, rs.1 = .ok v) ∧ Lay2 r (.opened done gap c o') rs.2 d'
  | .unchanged, rs, d' => (∃ e, rs.1 = .error e) ∧ rs.2 = s ∧ d' = d
  | .dead, rs, _ => (∃ e, rs.1 = .error e) ∧ rs.2.inner = .closed

theorem XPost.cases {r : Nat} {done : List Spec.Zip.Entry} {gap c : Bytes} {s : WState} {d : Dev} {x : XRes}
    {r1 : Except ZErr Nat} {s' : WState} {d' : Dev} (h : XPost r done gap c s d x (r1, s') d') :
    (∃ o' v, x = .ok o' ∧ r1 = .ok v ∧ Lay2 r (.opened done gap c o') s' d') ∨
    (∃ e, x = .unchanged ∧ r1 = .error e ∧ s' = s ∧ d' = d) ∨
    (∃ e, x = .dead ∧ r1 = .error e ∧ s'.inner = .closed) := by
  cases x with
  | ok o' => obtain ⟨⟨v, hv⟩, hl⟩ := h; exact Or.inl ⟨o', v, rfl, hv, hl⟩
  | unchanged => obtain ⟨⟨e, he⟩, h2, h3⟩ := h; exact Or.inr (Or.inl ⟨e, rfl, he, h2, h3⟩)
  | dead => obtain ⟨⟨e, he⟩, h2⟩ := h; exact Or.inr (Or.inr ⟨e, rfl, he, h2⟩)

theorem innerFor_ne_closed (c : Method) (l : Option Int) : innerFor c l ≠ .closed := by
  unfold innerFor; split <;> (intro h; cases h)

theorem innerData_innerFor (f : FileData) : InnerData f none [] (innerFor f.method f.level) := by
  unfold InnerData innerFor
  by_cases h : f.method = .stored
  · left; exact ⟨h, by rw [if_pos h]⟩
  · right; exact ⟨h, by rw [if_neg h]⟩

theorem sunkData_nil (f : FileData) : sunkData f none [] = [] := by
  simp [sunkData]

theorem endExtraData_ghost (ext : WExt) {r : Nat} {done : List Spec.Zip.Entry} {gap c : Bytes} {o : Open2}
    {s : WState} {d : Dev} (h : Lay2 r (.opened done gap c o) s d) (hraw : o.raw = false)
    (hph : o.phase ≠ .data) :
    WSat (endExtraData ext s) none d (XPost r done gap c s d o.endExtra) := by
  obtain ⟨dp, hop, hwf, hc, hm⟩ := h
  rw [hraw] at hm
  simp only [Bool.false_eq_true, if_false] at hm
  obtain ⟨hwr, hbd, hb, hh, hj, hx0, hphase⟩ := hm
  obtain ⟨cf, hfiles, hcl⟩ := hop.files
  have hsunk : o.sunk = sunkData o.f o.enc o.plain := by simp [Open2.sunk, hraw]
  unfold Open2.endExtra
  have hval : validateExtraData (curRec o.f o.cx (UInt64.ofNat s.statsStart)) =
      validateExtraData { o.f with extraField := o.cx } := rfl
  cases hph' : o.phase with
  | data => exact absurd hph' hph
  | localX =>
    rw [hph'] at hphase
    obtain ⟨hwe, hco, hin, hpl, henc, hlx, hwfo⟩ := hphase
    cases hv : validateExtraData { o.f with extraField := o.cx } with
    | error e =>
      rw [endExtraData_invalid ext s cf _ e hwe (by rw [hin]; intro h'; cases h') hfiles (hval.trans hv)]
      exact WSat.pure ⟨⟨_, rfl⟩, rfl, rfl⟩
    | ok u =>
      have hop' : Op2 done gap r o.f dp [] o.cx [] s d := by
        have := hop
        rw [hsunk, hpl, henc, sunkData_nil, hlx] at this
        exact this
      apply WSat.mono (endExtraData_local ext hop' hwe hco hin (hval.trans hv))
      intro rs d' ⟨h1, h2⟩
      dsimp only
      by_cases hr : Refused o.f.method o.f.level
      · rw [if_pos hr]
        exact h2 hr
      · rw [if_neg hr]
        obtain ⟨hok, hop2, hin2, hwe2, hco2, hsx⟩ := h1 hr
        refine ⟨hok, dp, ?_, by rw [hsx.wf]; exact hwf, by rw [hsx.comment]; exact hc, ?_⟩
        · show Op2 done gap r o.f dp o.cx o.cx (Open2.sunk { o with lx := o.cx, phase := .data }) rs.2 d'
          have : Open2.sunk { o with lx := o.cx, phase := .data } = [] := by
            simp [Open2.sunk, hraw, hpl, henc, sunkData_nil]
          rw [this]; exact hop2
        · show (if o.raw then _ else _)
          rw [hraw]
          simp only [Bool.false_eq_true, if_false]
          refine ⟨by rw [hsx.wr]; exact hwr, hbd, by rw [hsx.bytes]; exact hb, by rw [hsx.hash]; exact hh,
            hj, hx0, hwe2, hco2, ?_⟩
          show InnerData o.f o.enc o.plain rs.2.inner
          rw [hin2, hpl, henc]; exact innerData_innerFor o.f
  | centralX =>
    rw [hph'] at hphase
    obtain ⟨hwe, hco, hin, hpl, henc, hwfo⟩ := hphase
    have hncl : s.inner ≠ .closed := by rw [hin]; exact innerFor_ne_closed _ _
    cases hv : validateExtraData { o.f with extraField := o.cx } with
    | error e =>
      rw [endExtraData_invalid ext s cf _ e hwe hncl hfiles (hval.trans hv)]
      exact WSat.pure ⟨⟨_, rfl⟩, rfl, rfl⟩
    | ok u =>
      rw [endExtraData_central ext s cf _ hwe hco hncl hfiles (hval.trans hv)]
      apply WSat.pure
      refine ⟨⟨_, rfl⟩, dp, ?_, hwf, hc, ?_⟩
      · show Op2 done gap r o.f dp o.lx o.cx (Open2.sunk { o with phase := .data }) _ d
        have : Open2.sunk { o with phase := .data } = o.sunk := rfl
        rw [this]
        refine Op2.frame hop ?_ ?_ hop.live <;> rfl
      · show (if o.raw then _ else _)
        rw [hraw]
        simp only [Bool.false_eq_true, if_false]
        refine ⟨hwr, hbd, hb, hh, hj, hx0, rfl, rfl, ?_⟩
        show InnerData o.f o.enc o.plain s.inner
        rw [hin, hpl, henc]; exact innerData_innerFor o.f

/-! ### `finish_file` on the ghost -/

/-- what `finish_file` leaves, by its result on the ghost (Level 2: not in central-only mode after a success) -/
abbrev FinPost2 := FinPostG (fun s : WState => s.centralOnly = false)

theorem finishFile_data_ghost (ext : WExt) {r : Nat} {done : List Spec.Zip.Entry} {gap c : Bytes}
    {o : Open2} {s : WState} {d : Dev} (h : Lay2 r (.opened done gap c o) s d) (hph : o.phase = .data) :
    WSat (finishFile ext s) none d (FinPost2 r c s d (o.finData ext done gap)) := by
  obtain ⟨dp, hop, hwf, hc, hm⟩ := h
  unfold Open2.finData
  rw [hop.dp]
  dsimp only
  cases hraw : o.raw with
  | true =>
    rw [hraw] at hm
    simp only [if_true] at hm ⊢
    obtain ⟨hwr, hin, hcs, hwe, hco, henc, hlx, hcx, _, hx0⟩ := hm
    apply finishFile_of_storer ext s hwe hin
    have hop' : Op2 done gap r o.f dp [] [] o.sunk s d := by
      have := hop; rw [hlx, hcx] at this; exact this
    apply WSat.mono (afterEnc_raw o.plain o.junk hop'.toC hin hwr hwe hx0 (by simp [Open2.sunk, hraw]) hcs)
    intro rs d' ⟨h1, h2⟩
    exact ⟨by rw [← hc]; exact h1, h2.trans hco⟩
  | false =>
    rw [hraw] at hm
    simp only [Bool.false_eq_true, if_false] at hm ⊢
    obtain ⟨hwr, hbd, hb, hh, hj, hx0, hphase⟩ := hm
    rw [hph] at hphase
    obtain ⟨hwe, hco, hin⟩ := hphase
    have hsunk : o.sunk = sunkData o.f o.enc o.plain := by simp [Open2.sunk, hraw]
    rw [hsunk] at hop
    by_cases hbad : o.f.largeFile = false ∧ o.plain.length > 0xFFFFFFFF
    · -- impossible: `write` keeps the plaintext of a non-ZIP64 entry within 0xFFFFFFFF bytes
      have := hbd hbad.1
      omega
    rw [if_neg hbad]
    by_cases hcf : (centralZip64Bytes (closedRec o.f o.cx o.plain (dataOf2 ext o.f o.enc o.plain))).length +
        o.cx.length > 65535
    · rw [if_pos hcf]; exact WSat.trivial _ _ _
    rw [if_neg hcf]
    have hpost := finishFile_data2 ext hop.toC hwe hwr hb hh hin (by omega)
    unfold NormPost2 at hpost
    by_cases hov : o.f.largeFile = false ∧ UInt64.ofNat (dataOf2 ext o.f o.enc o.plain).length > ZIP64_BYTES_THR
    · rw [if_pos hov]
      by_cases hlt : o.dataStart done gap + (dataOf2 ext o.f o.enc o.plain).length < 18446744073709551616
      · rw [if_pos hlt]
        apply WSat.mono hpost
        intro rs d' hq
        rcases hq with hq | hq
        · have hss : s.statsStart = o.dataStart done gap := hop.ss
          refine ⟨hq.2.2.1, ?_⟩
          have := hq.2.2.2.2 (by rw [hss]; exact hlt)
          rw [hss, hwf] at this
          exact this
        · exact absurd hov hq.1
      · rw [if_neg hlt]; exact WSat.trivial _ _ _
    · rw [if_neg hov]
      apply WSat.mono hpost
      intro rs d' hq
      rcases hq with hq | hq
      · exact absurd ⟨hq.1, hq.2.1⟩ hov
      · exact ⟨by rw [← hc]; exact hq.2.1, hq.2.2.trans hco⟩

/-- `finish_file` in extra-data mode: the implicit `end_extra_data`, then `finish_file` proper. -/
theorem finishFile_via_endExtra (ext : WExt) (s : WState) (hwe : s.writingToExtraField = true) {d : Dev}
    {P : Except ZErr Nat × WState → Dev → Prop} {Q : Except ZErr Unit × WState → Dev → Prop}
    (hx : WSat (endExtraData ext s) none d P)
    (hk : ∀ r s' d', P (r, s') d' → match r with
      | .error e => Q (.error e, s') d'
      | .ok _ => s'.writingToExtraField = false ∧ WSat (finishFile ext s') none d' Q) :
    WSat (finishFile ext s) none d Q := by
  unfold finishFile
  simp only [hwe, if_true]
  apply WSat.bind
  apply WSat.bind
  apply WSat.mono hx
  intro ⟨r, s'⟩ d' hp
  have := hk r s' d' hp
  cases r with
  | error e =>
    apply WSat.pure
    dsimp only
    exact WSat.pure this
  | ok v =>
    obtain ⟨hwe', hfin⟩ := this
    apply WSat.pure
    dsimp only
    unfold finishFile at hfin
    simp only [hwe', Bool.false_eq_true, if_false] at hfin
    exact hfin

/-- `finish_file` on an entry in its data phase: lost, stuck, or closed — a raw copy
as it stands, an entry written through the writer with its final record. -/
theorem Open2.finData_cases (ext : WExt) (done : List Spec.Zip.Entry) (gap : Bytes) (o : Open2) :
    o.finData ext done gap = .lost ∨ (∃ ss n wf, o.finData ext done gap = .stuck ss n wf) ∨
    ∃ dp, o.f.time.datepart = some dp ∧
      ((o.raw = true ∧ o.finData ext done gap =
          .ok (done ++ [specEntry o.f dp gap [] o.plain o.f.versionNeeded]) o.junk) ∨
       (o.raw = false ∧ ¬ (o.f.largeFile = false ∧ o.plain.length > 0xFFFFFFFF) ∧
        ¬ (o.f.largeFile = false ∧ UInt64.ofNat (dataOf2 ext o.f o.enc o.plain).length > ZIP64_BYTES_THR) ∧
        o.finData ext done gap =
          .ok (done ++ [specEntry (closedRec o.f o.cx o.plain (dataOf2 ext o.f o.enc o.plain)) dp gap o.lx
            (dataOf2 ext o.f o.enc o.plain) o.f.versionNeeded]) [])) := by
  generalize hR : o.finData ext done gap = R
  unfold Open2.finData at hR
  cases hdp : o.f.time.datepart with
  | none => rw [hdp] at hR; exact Or.inl hR.symm
  | some dp =>
    rw [hdp] at hR
    dsimp only at hR
    by_cases hraw : o.raw = true
    · rw [if_pos hraw] at hR; exact Or.inr (Or.inr ⟨dp, rfl, Or.inl ⟨hraw, hR.symm⟩⟩)
    rw [if_neg hraw] at hR
    by_cases h1 : o.f.largeFile = false ∧ o.plain.length > 0xFFFFFFFF
    · rw [if_pos h1] at hR; exact Or.inl hR.symm
    rw [if_neg h1] at hR
    by_cases h3 : (centralZip64Bytes (closedRec o.f o.cx o.plain (dataOf2 ext o.f o.enc o.plain))).length +
        o.cx.length > 65535
    · rw [if_pos h3] at hR; exact Or.inl hR.symm
    rw [if_neg h3] at hR
    by_cases h2 : o.f.largeFile = false ∧
        UInt64.ofNat (dataOf2 ext o.f o.enc o.plain).length > ZIP64_BYTES_THR
    · rw [if_pos h2] at hR
      by_cases h4 : o.dataStart done gap + (dataOf2 ext o.f o.enc o.plain).length < 18446744073709551616
      · rw [if_pos h4] at hR; exact Or.inr (Or.inl ⟨_, _, _, hR.symm⟩)
      · rw [if_neg h4] at hR; exact Or.inl hR.symm
    · rw [if_neg h2] at hR
      exact Or.inr (Or.inr ⟨dp, rfl, Or.inr ⟨by simpa using hraw, h1, h2, hR.symm⟩⟩)

theorem finData_ne_unchanged (ext : WExt) (done : List Spec.Zip.Entry) (gap : Bytes) (o : Open2) :
    o.finData ext done gap ≠ .unchanged := by
  rcases Open2.finData_cases ext done gap o with h | ⟨_, _, _, h⟩ | ⟨_, _, ⟨_, h⟩ | ⟨_, _, _, h⟩⟩ <;> rw [h] <;> nofun

theorem Open2.finData_ok {ext : WExt} {done : List Spec.Zip.Entry} {gap : Bytes} {o : Open2}
    {es : List Spec.Zip.Entry} {g' : Bytes} (h : o.finData ext done gap = .ok es g') :
    ∃ dp, o.f.time.datepart = some dp ∧
      ((o.raw = true ∧ es = done ++ [specEntry o.f dp gap [] o.plain o.f.versionNeeded] ∧ g' = o.junk) ∨
       (o.raw = false ∧ g' = [] ∧
        es = done ++ [specEntry (closedRec o.f o.cx o.plain (dataOf2 ext o.f o.enc o.plain)) dp gap o.lx
          (dataOf2 ext o.f o.enc o.plain) o.f.versionNeeded])) := by
  rcases Open2.finData_cases ext done gap o with h1 | ⟨_, _, _, h1⟩ | ⟨dp, hdp, ⟨hraw, h1⟩ | ⟨hraw, _, _, h1⟩⟩ <;>
    rw [h1] at h <;> cases h
  · exact ⟨dp, hdp, Or.inl ⟨hraw, rfl, rfl⟩⟩
  · exact ⟨dp, hdp, Or.inr ⟨hraw, rfl, rfl⟩⟩

theorem Open2.fin_data {ext : WExt} {done : List Spec.Zip.Entry} {gap : Bytes} {o : Open2}
    (hph : o.phase = .data) : o.fin ext done gap = o.finData ext done gap := by
  unfold Open2.fin; rw [hph]

theorem Open2.fin_extra {ext : WExt} {done : List Spec.Zip.Entry} {gap : Bytes} {o : Open2}
    (hph : o.phase ≠ .data) : o.fin ext done gap =
      match o.endExtra with
      | .ok o' => o'.finData ext done gap
      | .unchanged => .unchanged
      | .dead => .dead := by
  unfold Open2.fin
  cases hp : o.phase with
  | data => exact absurd hp hph
  | localX => rfl
  | centralX => rfl

/-- A successful `finish_file`: the entry is in its data phase, or the implicit `end_extra_data` puts
it there; then it is closed. -/
theorem Open2.fin_ok {ext : WExt} {done : List Spec.Zip.Entry} {gap : Bytes} {o : Open2}
    {es : List Spec.Zip.Entry} {g' : Bytes} (h : o.fin ext done gap = .ok es g') :
    ∃ o', (o.phase = .data ∧ o' = o ∨ o.phase ≠ .data ∧ o.endExtra = .ok o') ∧
      o'.finData ext done gap = .ok es g' := by
  by_cases hph : o.phase = .data
  · rw [Open2.fin_data hph] at h
    exact ⟨o, Or.inl ⟨hph, rfl⟩, h⟩
  · rw [Open2.fin_extra hph] at h
    cases hx : o.endExtra with
    | ok o' => rw [hx] at h; exact ⟨o', Or.inr ⟨hph, rfl⟩, h⟩
    | unchanged => rw [hx] at h; cases h
    | dead => rw [hx] at h; cases h

theorem Open2.fin_unchanged_iff {ext : WExt} {done : List Spec.Zip.Entry} {gap : Bytes} {o : Open2} :
    o.fin ext done gap = .unchanged ↔ o.phase ≠ .data ∧ o.endExtra = .unchanged := by
  by_cases hph : o.phase = .data
  · rw [Open2.fin_data hph]
    exact ⟨fun h => absurd h (finData_ne_unchanged ext done gap o), fun h => absurd hph h.1⟩
  · rw [Open2.fin_extra hph]
    cases o.endExtra with
    | ok o' => exact ⟨fun h => absurd h (finData_ne_unchanged ext done gap o'), nofun⟩
    | unchanged => exact ⟨fun _ => ⟨hph, rfl⟩, fun _ => rfl⟩
    | dead => exact ⟨nofun, nofun⟩

/-- A successful `end_extra_data`: the extra data validate; in local mode the method is accepted and
the extra data become local; the entry is in its data phase. -/
theorem Open2.endExtra_ok {o o' : Open2} (hx : o.endExtra = .ok o') :
    validateExtraData { o.f with extraField := o.cx } = .ok () ∧
    ((o.phase = .localX ∧ ¬ Refused o.f.method o.f.level ∧ o' = { o with lx := o.cx, phase := .data }) ∨
     (o.phase ≠ .localX ∧ o' = { o with phase := .data })) := by
  unfold Open2.endExtra at hx
  split at hx
  · cases hx
  next hv =>
    refine ⟨hv, ?_⟩
    split at hx
    · next hp =>
      split at hx
      · cases hx
      · next hr => cases hx; exact Or.inl ⟨hp, hr, rfl⟩
    · next hp => cases hx; exact Or.inr ⟨fun h => hp h, rfl⟩

/-- `end_extra_data` on extra data that validate. -/
theorem Open2.endExtra_valid {o : Open2} (hv : validateExtraData { o.f with extraField := o.cx } = .ok ()) :
    o.endExtra = match o.phase with
      | .localX => if Refused o.f.method o.f.level then .dead else .ok { o with lx := o.cx, phase := .data }
      | _ => .ok { o with phase := .data } := by
  unfold Open2.endExtra
  rw [hv]

theorem endExtra_phase {o o' : Open2} (hx : o.endExtra = .ok o') : o'.phase = .data := by
  rcases (Open2.endExtra_ok hx).2 with ⟨_, _, rfl⟩ | ⟨_, rfl⟩ <;> rfl

theorem endExtra_fields {o o' : Open2} (hx : o.endExtra = .ok o') :
    o'.f = o.f ∧ o'.raw = o.raw ∧ o'.plain = o.plain ∧ o'.junk = o.junk ∧ o'.wf = o.wf ∧ o'.enc = o.enc ∧
    o'.cx = o.cx := by
  rcases (Open2.endExtra_ok hx).2 with ⟨_, _, rfl⟩ | ⟨_, rfl⟩ <;> exact ⟨rfl, rfl, rfl, rfl, rfl, rfl, rfl⟩

theorem Lay2.extra_mode {r : Nat} {done : List Spec.Zip.Entry} {gap c : Bytes} {o : Open2} {s : WState}
    {d : Dev} (h : Lay2 r (.opened done gap c o) s d) (hph : o.phase ≠ .data) :
    o.raw = false ∧ s.writingToExtraField = true ∧ o.wf = true ∧ s.inner ≠ .closed := by
  obtain ⟨dp, hop, hwf, hc, hm⟩ := h
  cases hr : o.raw with
  | true =>
    rw [hr] at hm; simp only [if_true] at hm
    exact absurd hm.2.2.2.2.2.2.2.2.1 hph
  | false =>
    rw [hr] at hm; simp only [Bool.false_eq_true, if_false] at hm
    have := hm.2.2.2.2.2.2
    cases hp : o.phase with
    | data => exact absurd hp hph
    | localX =>
      rw [hp] at this
      exact ⟨rfl, this.1, this.2.2.2.2.2.2, by rw [this.2.2.1]; intro h'; cases h'⟩
    | centralX =>
      rw [hp] at this
      exact ⟨rfl, this.1, this.2.2.2.2.2, by rw [this.2.2.1]; exact innerFor_ne_closed _ _⟩

theorem Lay2.data_mode {r : Nat} {done : List Spec.Zip.Entry} {gap c : Bytes} {o : Open2} {s : WState}
    {d : Dev} (h : Lay2 r (.opened done gap c o) s d) (hph : o.phase = .data) :
    s.writingToExtraField = false := by
  obtain ⟨dp, hop, hwf, hc, hm⟩ := h
  cases hr : o.raw with
  | true => rw [hr] at hm; simp only [if_true] at hm; exact hm.2.2.2.1
  | false =>
    rw [hr] at hm; simp only [Bool.false_eq_true, if_false] at hm
    have := hm.2.2.2.2.2.2
    rw [hph] at this
    exact this.1

theorem finishFile_ghost2 (ext : WExt) {r : Nat} {g : Ghost2} {s : WState} {d : Dev} (h : Lay2 r g s d) :
    WSat (finishFile ext s) none d (FinPost2 r g.cmt s d (g.fin ext)) := by
  cases g with
  | lost => exact WSat.trivial _ _ _
  | dead =>
    obtain ⟨e, he⟩ := finishFile_closed ext h
    rw [he]
    exact WSat.pure ⟨⟨_, rfl⟩, h⟩
  | stuck ss n wf =>
    apply WSat.mono (finishFile_stuck ext h)
    intro rs d' hq
    exact ⟨hq.1, hq.2.1⟩
  | idle done gap c =>
    obtain ⟨hcl, hwf, hidle, hc, hco⟩ := h
    apply WSat.mono ((finishFile_of_storer ext s hcl.we hcl.inner (afterEnc_idle hcl hwf hidle)).and
      (finishFile_co ext s hcl.we d))
    intro rs d' ⟨h1, h2⟩
    exact ⟨by rw [← hc]; exact h1, h2.trans hco⟩
  | opened done gap c o =>
    show WSat (finishFile ext s) none d (FinPost2 r c s d (o.fin ext done gap))
    by_cases hph : o.phase = .data
    · rw [Open2.fin_data hph]
      exact finishFile_data_ghost ext h hph
    · rw [Open2.fin_extra hph]
      obtain ⟨hraw, hwe, _, _⟩ := h.extra_mode hph
      apply finishFile_via_endExtra ext s hwe (endExtraData_ghost ext h hraw hph)
      intro r1 s' d' hp
      rcases hp.cases with ⟨o', v, hx, rfl, hl⟩ | ⟨e, hx, rfl, rfl, rfl⟩ | ⟨e, hx, rfl, h2⟩ <;> rw [hx]
      · have hph' := endExtra_phase hx
        refine ⟨hl.data_mode hph', ?_⟩
        apply WSat.mono (finishFile_data_ghost ext hl hph')
        intro rs d2 hq
        show FinPost2 r c s d (o'.finData ext done gap) rs d2
        cases hfd : o'.finData ext done gap with
        | ok es gap' => rw [hfd] at hq; exact hq
        | lost => trivial
        | stuck ss n wf => rw [hfd] at hq; exact hq
        | dead => rw [hfd] at hq; exact hq
        | unchanged => exact absurd hfd (finData_ne_unchanged ext done gap o')
      · exact ⟨⟨_, rfl⟩, rfl, rfl⟩
      · exact ⟨⟨_, rfl⟩, h2⟩

theorem Lay2.cmt_eq {r : Nat} {g : Ghost2} {s : WState} {d : Dev} (h : Lay2 r g s d)
    {es : List Spec.Zip.Entry} {gap : Bytes} (hg : g.fin ext = .ok es gap) : s.comment = g.cmt := by
  cases g with
  | idle done gap0 c => exact h.2.2.2.1
  | opened done gap0 c o => obtain ⟨_, _, _, hc, _⟩ := h; exact hc
  | dead => cases hg
  | stuck ss n wf => cases hg
  | lost => cases hg

def level2 (ext : WExt) (r : Nat) : Level ext r Ghost2 where
  L := Lay2 r
  fin := Ghost2.fin ext
  cmt := Ghost2.cmt
  dead := .dead
  lost := .lost
  stuck := .stuck
  X := fun s => s.centralOnly = false
  L_dead := id
  L_stuck := id
  L_lost := trivial
  comment := fun h hf => Lay2.cmt_eq h hf
  finishFile := finishFile_ghost2 ext

/-! ### Calls that start an entry -/

/-- the record `start_entry` pushes after the previous entries `es` and dead bytes `gap`, and its DOS
date — unless the header would end at or beyond 2^64, or the timestamp is before 1980 -/
def startRec2 (name : Bytes) (o : FileOptions) (raw : Option (UInt32 × UInt64 × UInt64))
    (es : List Spec.Zip.Entry) (gap : Bytes) : Option (FileData × UInt16) :=
  match o.time.datepart with
  | none => none
  | some dp =>
    if (localsBytes es).length + gap.length +
        hdrLen (mkRec name o raw ((localsBytes es).length + gap.length) 0) < 18446744073709551616 then
      some (mkRec name o raw ((localsBytes es).length + gap.length) 0, dp)
    else none

/-- A call that runs `start_entry`: a too-long name is refused without effect; otherwise the previous
entry is finished (which may be refused, poison the writer, or get it stuck) and the new record pushed;
`after` says what the rest of the call makes of it. -/
def startG2 (ext : WExt) (g : Ghost2) (name : Bytes) (o : FileOptions)
    (raw : Option (UInt32 × UInt64 × UInt64))
    (after : List Spec.Zip.Entry → Bytes → Bytes → FileData → Ghost2) : Ghost2 :=
  if name.length > 65535 then g else
  match g.fin ext with
  | .unchanged => g
  | .dead => .dead
  | .stuck ss n wf => .stuck ss n wf
  | .lost => .lost
  | .ok es gap =>
    match startRec2 name o raw es gap with
    | none => .lost
    | some (f, _) => after es gap g.cmt f

theorem startRec2_some {name : Bytes} {o : FileOptions} {raw : Option (UInt32 × UInt64 × UInt64)}
    {es : List Spec.Zip.Entry} {gap : Bytes} {f : FileData} {dp : UInt16}
    (h : startRec2 name o raw es gap = some (f, dp)) :
    f = mkRec name o raw ((localsBytes es).length + gap.length) 0 ∧ o.time.datepart = some dp ∧
      (localsBytes es).length + gap.length + hdrLen f < 18446744073709551616 := by
  unfold startRec2 at h
  split at h
  · cases h
  next dp' hdp =>
    split at h
    next hlt => cases h; exact ⟨rfl, hdp, hlt⟩
    · cases h

theorem startRec2_rec {name : Bytes} {o : FileOptions} {raw : Option (UInt32 × UInt64 × UInt64)}
    {es : List Spec.Zip.Entry} {gap : Bytes} {f : FileData} {dp : UInt16}
    (h : startRec2 name o raw es gap = some (f, dp)) :
    f = mkRec name o raw ((localsBytes es).length + gap.length) 0 :=
  (startRec2_some h).1

theorem startG2_eq (ext : WExt) (r : Nat) (g : Ghost2) (name : Bytes) (o : FileOptions)
    (raw : Option (UInt32 × UInt64 × UInt64))
    (after : List Spec.Zip.Entry → Bytes → Bytes → FileData → Ghost2) :
    startG2 ext g name o raw after = (level2 ext r).startG g name fun es gap =>
      match startRec2 name o raw es gap with
      | none => .lost
      | some (f, _) => after es gap g.cmt f := rfl

/-- A call that runs `start_entry` (Level 2): `k` is the rest of the call, `after` its ghost. -/
theorem start_call2 {β} (ext : WExt) (name : Bytes) (o : FileOptions)
    (raw : Option (UInt32 × UInt64 × UInt64)) {r : Nat} {g : Ghost2} {s : WState} {d : Dev}
    (h : Lay2 r g s d) (k : Except ZErr Unit × WState → M (Except ZErr β × WState))
    (after : Except ZErr β → List Spec.Zip.Entry → Bytes → Bytes → FileData → Ghost2)
    (herr : ∀ e s', k (.error e, s') = pure (.error e, s'))
    (hk : ∀ es gap f dp s1 d1, g.fin ext = .ok es gap → startRec2 name o raw es gap = some (f, dp) →
      StartPost2 es gap r g.cmt false f dp o (.ok (), s1) d1 →
      WSat (k (.ok (), s1)) none d1 (fun rs d' => Lay2 r (after rs.1 es gap g.cmt f) rs.2 d')) :
    WSat (startEntry ext name o raw s >>= k) none d (fun rs d' =>
      Lay2 r (startG2 ext g name o raw (after rs.1)) rs.2 d') := by
  simp only [startG2_eq ext r]
  refine (level2 ext r).start_call name o raw h k herr (fun r1 es gap =>
    match startRec2 name o raw es gap with
    | none => .lost
    | some (f, _) => after r1 es gap g.cmt f) fun es gap rs1 d1 hf hp => ?_
  cases hsr : startRec2 name o raw es gap with
  | none => exact WSat.of_forall fun _ _ => trivial
  | some x =>
    obtain ⟨f, dp⟩ := x
    obtain ⟨rfl, hdp, hlt⟩ := startRec2_some hsr
    have hp2 := hp.post2 hdp hlt
    obtain ⟨r1, s1⟩ := rs1
    obtain rfl : r1 = .ok () := hp2.1
    exact hk es gap _ dp s1 d1 hf hsr hp2

theorem startInner_eq (o : FileOptions) : startInner o = .storer (encLayer o.encryptWith) := by
  unfold startInner encLayer
  cases o.encryptWith <;> rfl

theorem sunkData_start (f : FileData) (enc : Option Bytes) : sunkData f enc [] = [] := by
  cases enc <;> simp [sunkData]

def newOpen (f : FileData) (raw : Bool) (plain : Bytes) (wf : Bool) (enc : Option Bytes) (ph : Phase) : Open2 :=
  ⟨f, raw, plain, [], wf, enc, [], [], ph⟩

/-- the entry `start_entry` has pushed, once its writer is installed: open, in step, nothing written -/
theorem lay2_fresh {es : List Spec.Zip.Entry} {gap c : Bytes} {r : Nat} {f : FileData} {dp : UInt16}
    {o : FileOptions} {s1 : WState} {d1 : Dev} (hp : StartPost2 es gap r c false f dp o (.ok (), s1) d1)
    (hx0 : f.extraField = []) (wf : Bool) {i : Inner} (hi : i = innerOf f o.encryptWith []) :
    Lay2 r (.opened es gap c (newOpen f false [] wf o.encryptWith .data))
      { s1 with inner := i, writingToFile := wf } d1 := by
  obtain ⟨_, hop, _, hwr, _, hwe, hco, hsb, hsh, hcm⟩ := hp
  refine ⟨dp, ?_, rfl, hcm, hwr, fun _ => Nat.zero_le _, hsb, hsh, rfl, hx0, hwe, hco, innerData_iff.mpr hi⟩
  have hs : Open2.sunk (newOpen f false [] wf o.encryptWith .data) = [] := by
    simp [Open2.sunk, newOpen, sunkData_start]
  show Op2 es gap r f dp [] [] (Open2.sunk (newOpen f false [] wf o.encryptWith .data)) _ d1
  rw [hs]
  refine Op2.frame hop ?_ ?_ hop.live <;> rfl

theorem Lay2.setWf {r : Nat} {done : List Spec.Zip.Entry} {gap c : Bytes} {o : Open2} {s : WState} {d : Dev}
    (h : Lay2 r (.opened done gap c o) s d) (hraw : o.raw = false) (hph : o.phase = .data) (wf : Bool) :
    Lay2 r (.opened done gap c { o with wf := wf }) { s with writingToFile := wf } d := by
  obtain ⟨dp, hop, _, hc, hm⟩ := h
  refine ⟨dp, ?_, rfl, hc, ?_⟩
  · exact Op2.frame hop (s' := { s with writingToFile := wf }) rfl rfl hop.live
  · rw [hraw] at hm
    show (if o.raw then _ else _)
    rw [hraw]
    obtain ⟨h1, h2, h3, h4, h5, h6, h7⟩ := hm
    rw [hph] at h7
    refine ⟨h1, h2, h3, h4, h5, h6, ?_⟩
    show (match o.phase with | .data => _ | .localX => _ | .centralX => _)
    rw [hph]
    exact h7

/-- **`write` into the data of an open entry** (not a raw copy) that accepts it: the plaintext grows, or
the writer is poisoned. -/
theorem write_data2 (b : Bytes) {r : Nat} {done : List Spec.Zip.Entry} {gap c : Bytes} {o : Open2}
    {s : WState} {d : Dev} (h : Lay2 r (.opened done gap c o) s d) (hraw : o.raw = false)
    (hph : o.phase = .data) (hwf : s.writingToFile = true) :
    WSat (writeData b s) none d (fun rs d' => match rs.1 with
      | .error _ => rs.2.inner = .closed
      | .ok _ => Lay2 r (.opened done gap c { o with plain := o.plain ++ b }) rs.2 d') := by
  have hwe := h.data_mode hph
  obtain ⟨dp, hop, hwfo, hc, hm⟩ := h
  rw [hraw] at hm
  obtain ⟨hwr, hbd, hb, hh, hj, hx0, hphase⟩ := hm
  rw [hph] at hphase
  obtain ⟨_, hco, hin⟩ := hphase
  obtain ⟨cf, hfiles, hcl⟩ := hop.files
  have hsunk : o.sunk = sunkData o.f o.enc o.plain := by simp [Open2.sunk, hraw]
  apply WSat.mono (writeData_lay b s hwf hwe (hop.live.cast (by rw [hsunk])))
  intro ⟨r2, s2⟩ d2 hq
  cases r2 with
  | error e => exact hq
  | ok u =>
    obtain ⟨hin2, hl2⟩ := WritePost.absorb hq (innerData_iff.mp hin)
    obtain ⟨rfl, hbd2, -⟩ := hq
    refine ⟨dp, Op2.frame (s' := GW.fin _ _) hop rfl rfl (hl2.cast (by simp [Open2.sunk, hraw])), hwfo, hc, ?_⟩
    show (if o.raw then _ else _)
    rw [hraw]
    refine ⟨hwr, fun hlf => ?_, by show s.statsBytes + b.length = _; rw [hb, List.length_append],
      by show Spec.Crc32.updateBytes s.statsHasher b = _; rw [hh, ← Spec.Crc32.updateBytes_append], hj, hx0, ?_⟩
    · rcases hbd2 _ (by rw [hfiles, List.getLast?_concat]) with h1 | h1 | h1
      · have : o.f.largeFile = true := h1
        rw [hlf] at this; cases this
      · rw [h1, List.append_nil]; exact hbd hlf
      · rw [List.length_append, ← hb]; exact h1
    · show (match o.phase with | .data => _ | .localX => _ | .centralX => _)
      rw [hph]
      exact ⟨hwe, hco, innerData_iff.mpr hin2⟩

theorem startFile_ghost2 (ext : WExt) (n : Bytes) (o : FileOptions)
    {r : Nat} {g : Ghost2} {s : WState} {d : Dev} (h : Lay2 r g s d) :
    WSat (startFile ext n o s) none d (fun rs d' =>
      Lay2 r (startG2 ext g n (fileOpts o) none fun es gap c f =>
        if okE rs.1 && writable (fileOpts o).method then
          .opened es gap c (newOpen f false [] true o.encryptWith .data) else .dead) rs.2 d') := by
  unfold startFile
  refine start_call2 ext n (fileOpts o) none h _
    (fun r1 es gap c f => if okE r1 && writable (fileOpts o).method then
      .opened es gap c (newOpen f false [] true o.encryptWith .data) else .dead) (fun _ _ => rfl) ?_
  intro es gap f dp s1 d1 hfin hsr hp
  have hf := startRec2_rec hsr
  have hin : s1.inner = .storer (encLayer (fileOpts o).encryptWith) := by
    rw [← startInner_eq]; exact hp.2.2.1
  dsimp only
  rcases switchTo_from_storer ext (withFilePerm o 0o644 0o100000).method (withFilePerm o 0o644 0o100000).level
    s1 _ hin with ⟨hsw, hwr', _⟩ | ⟨⟨e, hsw⟩, _⟩
  · rw [hsw]
    apply WSat.pure
    have hw : (okE (Except.ok () : Except ZErr Unit) && writable (fileOpts o).method) = true := by
      show (true && writable (withFilePerm o 0o644 0o100000).method) = true
      rw [hwr']; rfl
    dsimp only
    rw [hw, if_pos rfl]
    exact lay2_fresh hp (by rw [hf]; rfl) true (by rw [innerOf_start, hf]; rfl)
  · rw [hsw]
    exact WSat.pure rfl

theorem addDirectory_ghost2 (ext : WExt) (n : Bytes) (o : FileOptions)
    {r : Nat} {g : Ghost2} {s : WState} {d : Dev} (h : Lay2 r g s d) :
    WSat (addDirectory ext n o s) none d (fun rs d' =>
      Lay2 r (startG2 ext g (dirName n) (dirOpts o) none fun es gap c f =>
        if okE rs.1 then .opened es gap c (newOpen f false [] false o.encryptWith .data) else .dead) rs.2 d') := by
  unfold addDirectory
  refine start_call2 ext (dirName n) (dirOpts o) none h _
    (fun r1 es gap c f => if okE r1 then
      .opened es gap c (newOpen f false [] false o.encryptWith .data) else .dead) (fun _ _ => rfl) ?_
  intro es gap f dp s1 d1 hfin hsr hp
  have hf := startRec2_rec hsr
  apply WSat.pure
  exact lay2_fresh hp (by rw [hf]; rfl) false
    (by rw [innerOf_start, hf]; exact hp.2.2.1.trans (startInner_eq _))

theorem addSymlink_ghost2 (ext : WExt) (n t : Bytes) (o : FileOptions)
    {r : Nat} {g : Ghost2} {s : WState} {d : Dev} (h : Lay2 r g s d) :
    WSat (addSymlink ext n t o s) none d (fun rs d' =>
      Lay2 r (startG2 ext g n (linkOpts o) none fun es gap c f =>
        if okE rs.1 then .opened es gap c (newOpen f false t false o.encryptWith .data) else .dead) rs.2 d') := by
  unfold addSymlink
  refine start_call2 ext n (linkOpts o) none h _
    (fun r1 es gap c f => if okE r1 then
      .opened es gap c (newOpen f false t false o.encryptWith .data) else .dead) (fun _ _ => rfl) ?_
  intro es gap f dp s1 d1 hfin hsr hp
  have hf := startRec2_rec hsr
  have h1 := lay2_fresh hp (by rw [hf]; rfl) true (i := s1.inner)
    (by rw [innerOf_start, hf]; exact hp.2.2.1.trans (startInner_eq _))
  apply WSat.bind
  apply WSat.mono (write_data2 t h1 rfl rfl rfl)
  intro ⟨r2, s2⟩ d2 hq
  cases r2 with
  | error e => exact WSat.pure hq
  | ok u => exact WSat.pure ((Lay2.setWf hq rfl rfl false))

theorem rawCopy_ghost2 (ext : WExt) (src : FileData) (raw n : Bytes)
    (hraw : raw.length = src.compressedSize.toNat)
    {r : Nat} {g : Ghost2} {s : WState} {d : Dev} (h : Lay2 r g s d) :
    WSat (rawCopy ext src raw n s) none d (fun rs d' =>
      Lay2 r (startG2 ext g n (rawOpts src) (rawVals src) fun es gap c f =>
        if okE rs.1 then .opened es gap c (newOpen f true raw true none .data) else .dead) rs.2 d') := by
  unfold rawCopy
  refine start_call2 ext n (rawOpts src) (rawVals src) h _
    (fun r1 es gap c f => if okE r1 then
      .opened es gap c (newOpen f true raw true none .data) else .dead) (fun _ _ => rfl) ?_
  intro es gap f dp s1 d1 hfin hsr ⟨_, hop, hin, hwr, hwf, hwe, hco, hsb, hsh, hcm⟩
  have hf := startRec2_rec hsr
  have hcs : f.compressedSize = UInt64.ofNat raw.length := by
    rw [hf, hraw, UInt64.ofNat_toNat]; rfl
  dsimp only at hop hin hwr hwf hwe hco hsb hsh hcm ⊢
  replace hin : s1.inner = .storer none := hin
  apply WSat.mono (writeData_lay raw { s1 with writingToFile := true, writingRaw := true } rfl hwe hop.live)
  intro ⟨r2, s2⟩ d2 hq
  cases r2 with
  | error e => exact hq
  | ok u =>
    obtain ⟨hin2, hl2⟩ := hq.storer hin
    obtain ⟨rfl, -⟩ := hq
    show Lay2 r (.opened es gap g.cmt (newOpen f true raw true none .data)) _ d2
    refine ⟨dp, ?_, rfl, hcm, ?_⟩
    · show Op2 es gap r f dp [] [] (Open2.sunk (newOpen f true raw true none .data)) _ d2
      have : Open2.sunk (newOpen f true raw true none .data) = raw := by simp [Open2.sunk, newOpen]
      rw [this]
      exact Op2.frame (s' := GW.fin { s1 with writingToFile := true, writingRaw := true } raw) hop rfl rfl
        (hl2.cast (by simp only [List.append_nil]))
    · show ModeRaw (newOpen f true raw true none .data) _
      exact ⟨rfl, hin2, hcs, hwe, hco, rfl, rfl, rfl, rfl, by rw [hf]; rfl⟩

theorem lay2_of_localX_start {r : Nat} {es : List Spec.Zip.Entry} {gap c : Bytes} {f : FileData}
    {dp : UInt16} {o : FileOptions} {s1 : WState} {d1 : Dev} (henc : o.encryptWith = none)
    (hx0 : f.extraField = [])
    (hp : StartPost2 es gap r c false f dp o (.ok (), s1) d1) :
    Lay2 r (.opened es gap c (newOpen f false [] true none .localX))
      { s1 with writingToFile := true, writingToExtraField := true } d1 := by
  obtain ⟨_, hop, hin, hwr, hwf, hwe, hco, hsb, hsh, hcm⟩ := hp
  dsimp only at hop hin hwr hwf hwe hco hsb hsh hcm
  have hin' : s1.inner = .storer none := by
    rw [hin]; unfold startInner; rw [henc]
  refine ⟨dp, ?_, rfl, hcm, ?_⟩
  · show Op2 es gap r f dp [] [] (Open2.sunk (newOpen f false [] true none .localX)) _ d1
    have : Open2.sunk (newOpen f false [] true none .localX) = [] := by
      simp [Open2.sunk, newOpen, sunkData_start]
    rw [this]
    refine Op2.frame hop ?_ ?_ hop.live <;> rfl
  · show Mode2 (newOpen f false [] true none .localX) _
    exact ⟨hwr, fun _ => by simp [newOpen], hsb, hsh, rfl, hx0, rfl, hco, hin', rfl, rfl, rfl, rfl⟩

theorem startFileWithExtraData_ghost2 (ext : WExt) (n : Bytes) (o : FileOptions)
    (henc : o.encryptWith = none)
    {r : Nat} {g : Ghost2} {s : WState} {d : Dev} (h : Lay2 r g s d) :
    WSat (startFileWithExtraData ext n o s) none d (fun rs d' =>
      Lay2 r (startG2 ext g n (fileOpts o) none fun es gap c f =>
        .opened es gap c (newOpen f false [] true none .localX)) rs.2 d') := by
  unfold startFileWithExtraData
  refine start_call2 ext n (fileOpts o) none h _
    (fun _ es gap c f => .opened es gap c (newOpen f false [] true none .localX)) (fun _ _ => rfl) ?_
  intro es gap f dp s1 d1 hfin hsr hp
  have hl1 := lay2_of_localX_start (r := r) (o := fileOpts o) henc (by rw [startRec2_rec hsr]; rfl) hp
  obtain ⟨cf, hfiles, _⟩ := hp.2.1.files
  dsimp only at hfiles ⊢
  rw [hfiles, List.getLast?_concat]
  rw [hfiles] at hl1
  exact WSat.pure hl1

/-! ### `write` -/

def Open2.writeData (o : Open2) (b : Bytes) : Open2 :=
  if o.raw then { o with junk := o.junk ++ b } else { o with plain := o.plain ++ b }

/-- `write(b)`: into the extra field in extra-data mode; into the entry's data when it accepts data (an
error then poisons the writer); refused without effect otherwise. -/
def Ghost2.write (b : Bytes) (ok : Bool) : Ghost2 → Ghost2
  | .opened done gap c o =>
    match o.phase with
    | .data =>
      if o.wf then (if ok then .opened done gap c (o.writeData b) else .dead) else .opened done gap c o
    | _ => .opened done gap c { o with cx := o.cx ++ b }
  | .stuck ss n wf =>
    if wf then
      (if ok then
        (if ss + (n + b.length) < 18446744073709551616 then .stuck ss (n + b.length) wf else .lost)
       else .dead)
    else .stuck ss n wf
  | .idle done gap c => .idle done gap c
  | .dead => .dead
  | .lost => .lost

theorem Ghost2.write_data {done : List Spec.Zip.Entry} {gap c : Bytes} {o : Open2} (hph : o.phase = .data)
    (b : Bytes) (ok : Bool) : (Ghost2.opened done gap c o).write b ok =
      if o.wf then (if ok then .opened done gap c (o.writeData b) else .dead) else .opened done gap c o := by
  unfold Ghost2.write; dsimp only; rw [hph]

theorem Ghost2.write_extra {done : List Spec.Zip.Entry} {gap c : Bytes} {o : Open2} (hph : o.phase ≠ .data)
    (b : Bytes) (ok : Bool) :
    (Ghost2.opened done gap c o).write b ok = .opened done gap c { o with cx := o.cx ++ b } := by
  unfold Ghost2.write; dsimp only
  split
  · next hp => exact absurd hp hph
  · rfl

/-- `write` in extra-data mode: the bytes go to the extra field of the record; no I/O -/
theorem write_extra_ghost (b : Bytes) {r : Nat} {done : List Spec.Zip.Entry} {gap c : Bytes} {o : Open2}
    {s : WState} {d : Dev} (h : Lay2 r (.opened done gap c o) s d) (hph : o.phase ≠ .data) :
    ∃ s', writeData b s = pure (.ok (), s') ∧ Lay2 r (.opened done gap c { o with cx := o.cx ++ b }) s' d := by
  obtain ⟨hraw, hwe, hwfo, hncl⟩ := h.extra_mode hph
  obtain ⟨dp, hop, hwf, hc, hm⟩ := h
  obtain ⟨cf, hfiles, hcl⟩ := hop.files
  refine ⟨_, writeData_extra b s (by rw [hwf]; exact hwfo) hwe hncl cf _ hfiles, ?_⟩
  refine ⟨dp, ⟨hop.live, ⟨cf, rfl, hcl⟩, hop.dp, hop.hs, hop.hsLt, hop.udd, hop.ss⟩, hwf, hc, ?_⟩
  show (if o.raw then _ else _)
  rw [hraw] at hm ⊢
  exact hm

theorem write_ghost2 (b : Bytes) {r : Nat} {g : Ghost2} {s : WState} {d : Dev} (h : Lay2 r g s d) :
    WSat (writeData b s) none d (fun rs d' => Lay2 r (g.write b (okE rs.1)) rs.2 d') := by
  cases g with
  | lost => exact WSat.of_forall fun _ _ => trivial
  | dead =>
    obtain ⟨r0, he⟩ := writeData_closed b h
    rw [he]; exact WSat.pure h
  | idle done gap c =>
    obtain ⟨r0, he⟩ := writeData_nofile b s h.2.1
    rw [he]; exact WSat.pure h
  | stuck ss n wf =>
    cases wf with
    | false =>
      obtain ⟨r0, he⟩ := writeData_nofile b s h.wf
      rw [he]; exact WSat.pure h
    | true =>
      apply WSat.mono (writeData_stuck b h)
      intro ⟨r1, s'⟩ d' hq
      cases r1 with
      | error e => exact hq
      | ok u =>
        show Lay2 r (if ss + (n + b.length) < 18446744073709551616 then _ else _) s' d'
        split
        · next hlt => exact hq.2 hlt
        · trivial
  | opened done gap c o =>
    by_cases hph : o.phase = .data
    · have hwe := h.data_mode hph
      simp only [Ghost2.write_data hph]
      obtain ⟨dp, hop, hwf, hc, hm⟩ := h
      cases hwfo : o.wf with
      | false =>
        obtain ⟨r0, he⟩ := writeData_nofile b s (by rw [hwf, hwfo])
        rw [he]
        apply WSat.pure
        simp only [Bool.false_eq_true, if_false]
        exact ⟨dp, hop, hwf, hc, hm⟩
      | true =>
        simp only [if_true]
        cases hraw : o.raw with
        | false =>
          have hw : o.writeData b = { o with plain := o.plain ++ b } := by simp [Open2.writeData, hraw]
          rw [hw]
          apply WSat.mono (write_data2 b ⟨dp, hop, hwf, hc, hm⟩ hraw hph (by rw [hwf, hwfo]))
          intro ⟨r2, s2⟩ d2 hq
          cases r2 <;> exact hq
        | true =>
          apply WSat.mono (writeData_lay b s (by rw [hwf, hwfo]) hwe hop.live)
          intro ⟨r2, s2⟩ d2 hq
          cases r2 with
          | error e => exact hq
          | ok u =>
            show Lay2 r (.opened done gap c (o.writeData b)) s2 d2
            rw [hraw] at hm; simp only [if_true] at hm
            obtain ⟨hwr, hin, hcs, _, hco, henc, hlx, hcx, _, hx0⟩ := hm
            obtain ⟨hin2, hl2⟩ := hq.storer hin
            obtain ⟨rfl, -⟩ := hq
            have hw : o.writeData b = { o with junk := o.junk ++ b } := by simp [Open2.writeData, hraw]
            rw [hw]
            refine ⟨dp, ?_, hwf, hc, ?_⟩
            · refine Op2.frame (s' := GW.fin _ _) hop rfl rfl (hl2.cast ?_)
              simp [Open2.sunk, hraw]
            · show (if o.raw then _ else _)
              rw [hraw]; simp only [if_true]
              exact ⟨hwr, hin2, hcs, hwe, hco, henc, hlx, hcx, hph, hx0⟩
    · simp only [Ghost2.write_extra hph]
      obtain ⟨s', he, hl'⟩ := write_extra_ghost b h hph
      rw [he]; exact WSat.pure hl'

/-! ### `end_extra_data`, `end_local_start_central_extra_data`, `set_comment` as calls -/

theorem innerData_nil_inv {f : FileData} {i : Inner} (h : InnerData f none [] i) :
    i = innerFor f.method f.level := by
  unfold InnerData at h
  unfold innerFor
  rcases h with ⟨h1, h2⟩ | ⟨h1, h2⟩
  · rw [if_pos h1]; exact h2
  · rw [if_neg h1]; exact h2

theorem Lay2.extra_facts {r : Nat} {done : List Spec.Zip.Entry} {gap c : Bytes} {o : Open2} {s : WState}
    {d : Dev} (h : Lay2 r (.opened done gap c o) s d) (hph : o.phase ≠ .data) :
    o.plain = [] ∧ o.enc = none := by
  obtain ⟨hraw, _, _, _⟩ := h.extra_mode hph
  obtain ⟨dp, hop, hwf, hc, hm⟩ := h
  rw [hraw] at hm; simp only [Bool.false_eq_true, if_false] at hm
  have := hm.2.2.2.2.2.2
  cases hp : o.phase with
  | data => exact absurd hp hph
  | localX => rw [hp] at this; exact ⟨this.2.2.2.1, this.2.2.2.2.1⟩
  | centralX => rw [hp] at this; exact ⟨this.2.2.2.1, this.2.2.2.2.1⟩

def Ghost2.endExtraCall : Ghost2 → Ghost2
  | .opened done gap c o =>
    if o.phase = .data then .opened done gap c o else
    match o.endExtra with
    | .ok o' => .opened done gap c o'
    | .unchanged => .opened done gap c o
    | .dead => .dead
  | .idle done gap c => .idle done gap c
  | .dead => .dead
  | .stuck ss n wf => .stuck ss n wf
  | .lost => .lost

theorem Lay2.no_extra {r : Nat} {g : Ghost2} {s : WState} {d : Dev} (h : Lay2 r g s d)
    (hg : ∀ done gap c o, g = .opened done gap c o → o.phase = .data) (hl : g ≠ .lost) :
    s.writingToExtraField = false ∨ s.inner = .closed := by
  cases g with
  | lost => exact absurd rfl hl
  | dead => exact Or.inr h
  | stuck ss n wf => exact Or.inl h.we
  | idle done gap c => exact Or.inl h.1.we
  | opened done gap c o => exact Or.inl (h.data_mode (hg _ _ _ _ rfl))

theorem endExtraCall_ghost2 (ext : WExt) {r : Nat} {g : Ghost2} {s : WState} {d : Dev} (h : Lay2 r g s d) :
    WSat (endExtraData ext s) none d (fun rs d' => Lay2 r g.endExtraCall rs.2 d') := by
  by_cases hx : ∃ done gap c o, g = .opened done gap c o ∧ o.phase ≠ .data
  · obtain ⟨done, gap, c, o, rfl, hph⟩ := hx
    obtain ⟨hraw, _⟩ := h.extra_mode hph
    apply WSat.mono (endExtraData_ghost ext h hraw hph)
    intro rs d' hq
    show Lay2 r (if o.phase = .data then _ else _) rs.2 d'
    rw [if_neg hph]
    cases hxr : o.endExtra with
    | ok o' => rw [hxr] at hq; exact hq.2
    | unchanged => rw [hxr] at hq; obtain ⟨_, h2, h3⟩ := hq; rw [h2, h3]; exact h
    | dead => rw [hxr] at hq; exact hq.2
  · by_cases hl : g = .lost
    · subst hl; exact WSat.of_forall fun _ _ => trivial
    have hdata : ∀ done gap c o, g = .opened done gap c o → o.phase = .data := by
      intro done gap c o hg
      exact Classical.not_not.mp (fun hp => hx ⟨done, gap, c, o, hg, hp⟩)
    obtain ⟨e, he⟩ := endExtraData_noop ext s (h.no_extra hdata hl)
    rw [he]
    apply WSat.pure
    have : g.endExtraCall = g := by
      cases g with
      | opened done gap c o =>
        show (if o.phase = .data then _ else _) = _
        rw [if_pos (hdata _ _ _ _ rfl)]
      | _ => rfl
    rw [this]; exact h

/-- `end_local_start_central_extra_data` on an entry in extra-data mode: `end_extra_data`, then the
record's extra field is emptied and the central-only mode entered. -/
def Open2.endLocal (o : Open2) : XRes :=
  match o.endExtra with
  | .ok o' => .ok { o' with cx := [], phase := .centralX }
  | .unchanged => .unchanged
  | .dead => .dead

theorem endLocal_ghost (ext : WExt) {r : Nat} {done : List Spec.Zip.Entry} {gap c : Bytes} {o : Open2}
    {s : WState} {d : Dev} (h : Lay2 r (.opened done gap c o) s d) (hph : o.phase ≠ .data) :
    WSat (endLocalStartCentral ext s) none d (XPost r done gap c s d o.endLocal) := by
  obtain ⟨hraw, _, hwfo, _⟩ := h.extra_mode hph
  obtain ⟨hpl, henc⟩ := h.extra_facts hph
  unfold endLocalStartCentral Open2.endLocal
  apply WSat.bind
  apply WSat.mono (endExtraData_ghost ext h hraw hph)
  intro ⟨r1, s'⟩ d' hq
  rcases hq.cases with ⟨o', v, hx, rfl, hl⟩ | ⟨e, hx, rfl, rfl, rfl⟩ | ⟨e, hx, rfl, h2⟩ <;> rw [hx]
  · obtain ⟨hf', hraw', hpl', hj', hwf', henc', hcx'⟩ := endExtra_fields hx
    have hph' := endExtra_phase hx
    obtain ⟨dp, hop, hwf, hc, hm⟩ := hl
    rw [hraw', hraw] at hm
    simp only [Bool.false_eq_true, if_false] at hm
    obtain ⟨hwr, hbd, hb, hh, hj, hx0, hphase⟩ := hm
    rw [hph'] at hphase
    obtain ⟨hwe, hco, hin⟩ := hphase
    obtain ⟨cf, hfiles, hcl⟩ := hop.files
    dsimp only
    rw [hfiles, List.getLast?_concat]
    dsimp only
    apply WSat.pure
    rw [setLast_snoc]
    refine ⟨⟨_, rfl⟩, dp, ?_, hwf, hc, ?_⟩
    · show Op2 done gap r o'.f dp o'.lx [] (Open2.sunk { o' with cx := [], phase := .centralX }) _ d'
      have : Open2.sunk { o' with cx := [], phase := .centralX } = o'.sunk := rfl
      rw [this]
      exact ⟨hop.live, ⟨cf, rfl, hcl⟩, hop.dp, hop.hs, hop.hsLt, hop.udd, hop.ss⟩
    · show (if o'.raw then _ else _)
      rw [hraw', hraw]
      simp only [Bool.false_eq_true, if_false]
      refine ⟨hwr, hbd, hb, hh, hj, hx0, rfl, rfl, ?_, by rw [hpl', hpl], by rw [henc', henc],
        by rw [hwf', hwfo]⟩
      show s'.inner = innerFor o'.f.method o'.f.level
      rw [hpl', hpl, henc', henc] at hin
      exact innerData_nil_inv hin
  · exact WSat.pure ⟨⟨_, rfl⟩, rfl, rfl⟩
  · exact WSat.pure ⟨⟨_, rfl⟩, h2⟩

def Ghost2.endLocalCall : Ghost2 → Ghost2
  | .opened done gap c o =>
    if o.phase = .data then .opened done gap c o else
    match o.endLocal with
    | .ok o' => .opened done gap c o'
    | .unchanged => .opened done gap c o
    | .dead => .dead
  | .idle done gap c => .idle done gap c
  | .dead => .dead
  | .stuck ss n wf => .stuck ss n wf
  | .lost => .lost

theorem endLocalCall_ghost2 (ext : WExt) {r : Nat} {g : Ghost2} {s : WState} {d : Dev} (h : Lay2 r g s d) :
    WSat (endLocalStartCentral ext s) none d (fun rs d' => Lay2 r g.endLocalCall rs.2 d') := by
  by_cases hx : ∃ done gap c o, g = .opened done gap c o ∧ o.phase ≠ .data
  · obtain ⟨done, gap, c, o, rfl, hph⟩ := hx
    apply WSat.mono (endLocal_ghost ext h hph)
    intro rs d' hq
    show Lay2 r (if o.phase = .data then _ else _) rs.2 d'
    rw [if_neg hph]
    cases hxr : o.endLocal with
    | ok o' => rw [hxr] at hq; exact hq.2
    | unchanged => rw [hxr] at hq; obtain ⟨_, h2, h3⟩ := hq; rw [h2, h3]; exact h
    | dead => rw [hxr] at hq; exact hq.2
  · by_cases hl : g = .lost
    · subst hl; exact WSat.of_forall fun _ _ => trivial
    have hdata : ∀ done gap c o, g = .opened done gap c o → o.phase = .data := by
      intro done gap c o hg
      exact Classical.not_not.mp (fun hp => hx ⟨done, gap, c, o, hg, hp⟩)
    obtain ⟨e, he⟩ := endLocalStartCentral_noop ext s (h.no_extra hdata hl)
    rw [he]
    apply WSat.pure
    have : g.endLocalCall = g := by
      cases g with
      | opened done gap c o =>
        show (if o.phase = .data then _ else _) = _
        rw [if_pos (hdata _ _ _ _ rfl)]
      | _ => rfl
    rw [this]; exact h

def Ghost2.setComment (c' : Bytes) : Ghost2 → Ghost2
  | .idle done gap _ => .idle done gap c'
  | .opened done gap _ o => .opened done gap c' o
  | .dead => .dead
  | .stuck ss n wf => .stuck ss n wf
  | .lost => .lost

theorem setComment_ghost2 (c' : Bytes) {r : Nat} {g : Ghost2} {s : WState} {d : Dev} (h : Lay2 r g s d) :
    Lay2 r (g.setComment c') { s with comment := c' } d := by
  cases g with
  | dead => exact h
  | lost => exact h
  | stuck ss n wf => exact ⟨h.inner, h.wr, h.we, h.files, h.start, h.pos, h.le, h.big, h.lt, h.wf⟩
  | idle done gap c =>
    obtain ⟨hcl, hwf, hidle, _, hco⟩ := h
    exact ⟨⟨hcl.live, hcl.closed, hcl.inner, hcl.we⟩, hwf, hidle, rfl, hco⟩
  | opened done gap c o =>
    obtain ⟨dp, hop, hwf, _, hm⟩ := h
    refine ⟨dp, by refine Op2.frame hop ?_ ?_ hop.live <;> rfl, hwf, rfl, ?_⟩
    cases hr : o.raw
    · rw [hr] at hm; exact hm
    · rw [hr] at hm; exact hm

/-! ### `start_file_aligned` -/

theorem M.bind_assoc {α β γ} (x : M α) (f : α → M β) (g : β → M γ) :
    (x >>= f) >>= g = x >>= fun a => f a >>= g := by
  funext fa d
  simp only [M.bind_apply]
  cases h : x fa d with
  | mk o d' => cases o <;> rfl

/-- the padding record `start_file_aligned` writes: id 0x617a, length, zeros -/
def padRecord (pad : Nat) : Bytes :=
  [0x7a, 0x61] ++ le16 (UInt16.ofNat pad) ++ List.replicate pad 0

/-- `start_file_aligned` after `start_file_with_extra_data` pushed `f`: pad (when the data start `ds0`
is not aligned) through the local extra field, then leave extra-data mode.  The pad is the crate's
`(align - (data_start + 4) % align) % align` (write.rs 547): the 4 are the padding record's own id and length. -/
def alignedAfter (align : UInt16) (es : List Spec.Zip.Entry) (gap c : Bytes) (f : FileData) : Ghost2 :=
  let o1 := newOpen f false [] true none .localX
  let ds0 := o1.dataStart es gap
  let a := align.toNat
  if a > 1 ∧ ds0 % a ≠ 0 then
    let o2 : Open2 := { o1 with cx := padRecord ((a - (ds0 + 4) % a) % a) }
    match o2.endLocal with
    | .unchanged => .opened es gap c o2
    | .dead => .dead
    | .ok o3 =>
      match o3.endExtra with
      | .ok o4 => .opened es gap c o4
      | .unchanged => .opened es gap c o3
      | .dead => .dead
  else
    match o1.endExtra with
    | .ok o4 => .opened es gap c o4
    | .unchanged => .opened es gap c o1
    | .dead => .dead

theorem startFileAligned_ghost2 (ext : WExt) (n : Bytes) (o : FileOptions) (align : UInt16)
    (henc : o.encryptWith = none)
    {r : Nat} {g : Ghost2} {s : WState} {d : Dev} (h : Lay2 r g s d) :
    WSat (startFileAligned ext n o align s) none d (fun rs d' =>
      Lay2 r (startG2 ext g n (fileOpts o) none (alignedAfter align)) rs.2 d') := by
  unfold startFileAligned startFileWithExtraData
  rw [M.bind_assoc]
  refine start_call2 ext n (fileOpts o) none h _ (fun _ => alignedAfter align) (fun _ _ => rfl) ?_
  intro es gap f dp s1 d1 hfin hsr hp
  have hl1 := lay2_of_localX_start (r := r) henc (by rw [startRec2_rec hsr]; rfl) hp
  obtain ⟨_, hop, _⟩ := hp
  obtain ⟨cf, hfiles, hcl⟩ := hop.files
  have hds : (curRec f [] (UInt64.ofNat s1.statsStart)).dataStart.toNat =
      (newOpen f false [] true none .localX).dataStart es gap := by
    show (UInt64.ofNat s1.statsStart).toNat = _
    rw [U64.toNat_ofNat (by rw [hop.ss]; have := hop.hsLt; simp; omega), hop.ss]
    rfl
  dsimp only at hfiles ⊢
  rw [hfiles, List.getLast?_concat]
  rw [hfiles] at hl1
  show WSat ((pure (Except.ok (curRec f [] (UInt64.ofNat s1.statsStart)).dataStart.toNat, _) : M _) >>= _) none d1 _
  rw [hds]
  apply WSat.bind
  apply WSat.pure
  dsimp only
  unfold alignedAfter
  dsimp only
  generalize (newOpen f false [] true none .localX).dataStart es gap = ds0
  -- the tail: `end_extra_data` on whatever entry `o3` the padding step left in extra-data mode
  have htail : ∀ (o3 : Open2) (s3 : WState) (d3 : Dev), Lay2 r (.opened es gap g.cmt o3) s3 d3 →
      o3.phase ≠ .data →
      WSat (do
        let __x ← endExtraData ext s3
        match __x.fst with
          | Except.error e => pure (Except.error e, __x.snd)
          | Except.ok extraDataEnd =>
            if extraDataEnd < ds0 then M.panic "write.rs:518 sub"
            else pure (Except.ok (extraDataEnd - ds0), __x.snd)) none d3
        (fun rs d' => Lay2 r (match o3.endExtra with
          | .ok o4 => .opened es gap g.cmt o4
          | .unchanged => .opened es gap g.cmt o3
          | .dead => .dead) rs.2 d') := by
    intro o3 s3 d3 hl3 hph3
    obtain ⟨hraw3, _⟩ := hl3.extra_mode hph3
    apply WSat.bind
    apply WSat.mono (endExtraData_ghost ext hl3 hraw3 hph3)
    intro ⟨r4, s4⟩ d4 hq
    rcases hq.cases with ⟨o4, v, hx, rfl, hl4⟩ | ⟨e, hx, rfl, rfl, rfl⟩ | ⟨e, hx, rfl, h2⟩ <;> rw [hx]
    · dsimp only
      split
      · exact WSat.panic
      · exact WSat.pure hl4
    · exact WSat.pure hl3
    · exact WSat.pure h2
  have hph1 : (newOpen f false [] true none .localX).phase ≠ .data := nofun
  by_cases hpad : align.toNat > 1 ∧ ds0 % align.toNat ≠ 0
  · rw [if_pos (by simpa using hpad), if_pos hpad]
    obtain ⟨s2, he2, hl2⟩ := write_extra_ghost [122, 97] hl1 hph1
    obtain ⟨s3, he3, hl3⟩ := write_extra_ghost
      (le16 (UInt16.ofNat ((align.toNat - (ds0 + 4) % align.toNat) % align.toNat))) hl2 hph1
    obtain ⟨s4, he4, hl4⟩ := write_extra_ghost
      (List.replicate ((align.toNat - (ds0 + 4) % align.toNat) % align.toNat) 0) hl3 hph1
    -- the three writes have put the padding record into the extra field
    replace hl4 : Lay2 r (.opened es gap g.cmt { newOpen f false [] true none .localX with
        cx := padRecord ((align.toNat - (ds0 + 4) % align.toNat) % align.toNat) }) s4 d1 :=
      Eq.mp (congrArg (fun cx => Lay2 r (.opened es gap g.cmt
        { newOpen f false [] true none .localX with cx := cx }) s4 d1) (by simp [newOpen, padRecord])) hl4
    rw [he2]
    apply WSat.bind; apply WSat.bind; apply WSat.pure; dsimp only
    rw [he3]
    apply WSat.bind; apply WSat.pure; dsimp only
    rw [he4]
    apply WSat.bind; apply WSat.pure; dsimp only
    apply WSat.bind
    apply WSat.mono (endLocal_ghost ext hl4 hph1)
    intro ⟨r5, s5⟩ d5 hq
    rcases hq.cases with ⟨o3, v, hx, rfl, hl5⟩ | ⟨e, hx, rfl, rfl, rfl⟩ | ⟨e, hx, rfl, h2⟩ <;> rw [hx] <;> dsimp only
    · have hph3 : o3.phase ≠ .data := by
        unfold Open2.endLocal at hx
        split at hx <;> cases hx
        nofun
      split
      · exact WSat.panic
      · apply WSat.pure; dsimp only
        exact htail o3 s5 d5 hl5 hph3
    · apply WSat.pure; dsimp only
      exact WSat.pure hl4
    · apply WSat.pure; dsimp only
      exact WSat.pure h2
  · rw [if_neg (by simpa using hpad), if_neg hpad]
    apply WSat.bind; apply WSat.pure; dsimp only
    exact htail _ _ _ hl1 hph1

/-! ### The ghost transition over the whole alphabet, one call, scripts -/

/-- What a call that returned `out` does to the expected archive (Level 2: every call). -/
def ghostStep2 (ext : WExt) (g : Ghost2) (call : Call) (out : Out (Option Nat)) : Ghost2 :=
  match out with
  | .panic _ => .lost
  | out =>
    match call with
    | .startFile n o =>
      startG2 ext g n (fileOpts o) none fun es gap c f =>
        if okO out && writable (fileOpts o).method then
          .opened es gap c (newOpen f false [] true o.encryptWith .data) else .dead
    | .addDirectory n o =>
      startG2 ext g (dirName n) (dirOpts o) none fun es gap c f =>
        if okO out then .opened es gap c (newOpen f false [] false o.encryptWith .data) else .dead
    | .addSymlink n t o =>
      startG2 ext g n (linkOpts o) none fun es gap c f =>
        if okO out then .opened es gap c (newOpen f false t false o.encryptWith .data) else .dead
    | .rawCopy src raw n =>
      startG2 ext g n (rawOpts src) (rawVals src) fun es gap c f =>
        if okO out then .opened es gap c (newOpen f true raw true none .data) else .dead
    | .startFileWithExtraData n o =>
      startG2 ext g n (fileOpts o) none fun es gap c f =>
        .opened es gap c (newOpen f false [] true none .localX)
    | .startFileAligned n o a => startG2 ext g n (fileOpts o) none (alignedAfter a)
    | .write b => g.write b (okO out)
    | .endExtraData => g.endExtraCall
    | .endLocalStartCentral => g.endLocalCall
    | .setComment c' => g.setComment c'
    | .finish => g
    | .drop => g

def ghostOf2 (ext : WExt) : Ghost2 → List Call → List (Out (Option Nat)) → Ghost2
  | g, c :: cs, o :: os => ghostOf2 ext (ghostStep2 ext g c o) cs os
  | g, _, _ => g

/-- The whole call alphabet, as `Props.C12.Call.Admissible` admits it (timestamps of the public API;
the encryption option not together with the extra-data calls); a raw copy's bytes have the length its
source records; `finish` / `Drop` close the script. -/
def Level2 (c : Call) : Prop :=
  c.Admissible ∧
  match c with
  | .rawCopy src raw _ => raw.length = src.compressedSize.toNat
  | .finish => False
  | .drop => False
  | _ => True

instance : DecidablePred Level2 := fun c => by
  unfold Level2
  cases c <;> infer_instance

/-- **Every call of the alphabet keeps the sink in step with the ghost** (fault-free sink). -/
theorem lay_step2 (ext : WExt) (c : Call) (hc : Level2 c) {r : Nat} {g : Ghost2} {s : WState}
    {d : Dev} (h : Lay2 r g s d) :
    WSat (step ext c s) none d (fun rs d' => Lay2 r (ghostStep2 ext g c (outcomeOf rs.1)) rs.2 d') := by
  obtain ⟨ha, hx⟩ := hc
  -- in each row `hq` is the goal once the returned result is `Ok _` or `Err _`: `outcomeOf` of it is no panic
  cases c with
  | startFile n o =>
    apply mapStep_wsat _ _ s none d _ _ (startFile_ghost2 ext n o h)
    intro r1 s' d' hq
    cases r1 <;> exact hq
  | addDirectory n o =>
    apply mapStep_wsat _ _ s none d _ _ (addDirectory_ghost2 ext n o h)
    intro r1 s' d' hq
    cases r1 <;> exact hq
  | addSymlink n t o =>
    apply mapStep_wsat _ _ s none d _ _ (addSymlink_ghost2 ext n t o h)
    intro r1 s' d' hq
    cases r1 <;> exact hq
  | rawCopy src raw n =>
    apply mapStep_wsat _ _ s none d _ _ (rawCopy_ghost2 ext src raw n hx h)
    intro r1 s' d' hq
    cases r1 <;> exact hq
  | startFileWithExtraData n o =>
    apply mapStep_wsat _ _ s none d _ _ (startFileWithExtraData_ghost2 ext n o ha.2 h)
    intro r1 s' d' hq
    cases r1 <;> exact hq
  | startFileAligned n o a =>
    apply mapStep_wsat _ _ s none d _ _ (startFileAligned_ghost2 ext n o a ha.2 h)
    intro r1 s' d' hq
    cases r1 <;> exact hq
  | write b =>
    apply mapStep_wsat _ _ s none d _ _ (write_ghost2 b h)
    intro r1 s' d' hq
    cases r1 <;> exact hq
  | endExtraData =>
    apply mapStep_wsat _ _ s none d _ _ (endExtraCall_ghost2 ext h)
    intro r1 s' d' hq
    cases r1 <;> exact hq
  | endLocalStartCentral =>
    apply mapStep_wsat _ _ s none d _ _ (endLocalCall_ghost2 ext h)
    intro r1 s' d' hq
    cases r1 <;> exact hq
  | setComment c' => exact WSat.pure (setComment_ghost2 c' h)
  | finish => exact hx.elim
  | drop => exact hx.elim

theorem ghostOf2_isFold (ext : WExt) : IsFold (ghostStep2 ext) (ghostOf2 ext) :=
  ⟨fun _ _ _ _ _ => rfl, fun _ os => by cases os <;> rfl, fun _ cs => by cases cs <;> rfl⟩

theorem run_lay2 (ext : WExt) (calls : List Call) (hc : ∀ c ∈ calls, Level2 c) (r : Nat) :
    ∀ (g : Ghost2) (s : WState) (d : Dev), Inv s → Lay2 r g s d →
      Lay2 r (ghostOf2 ext g calls (runCalls ext calls s none d).1) (runCalls ext calls s none d).2.1
        (runCalls ext calls s none d).2.2 :=
  run_keeps ext (gs := ghostStep2 ext) (L := Lay2 r) (ghostOf2_isFold ext)
    (fun _ h => h.1) (fun c h _ _ _ => lay_step2 ext c h) (fun _ _ _ _ _ => trivial) calls hc

/-! ### `finish` -/

theorem Ghost2.close_fin {ext : WExt} {g : Ghost2} {es : List Spec.Zip.Entry} {gap c : Bytes}
    (hg : g.close ext = some (es, gap, c)) : g.fin ext = .ok es gap ∧ c = g.cmt := by
  unfold Ghost2.close at hg
  split at hg
  · cases hg; exact ⟨by assumption, rfl⟩
  · cases hg

theorem finish_ghost2 (ext : WExt) {r : Nat} {g : Ghost2} {s : WState} {d : Dev} (h : Lay2 r g s d)
    {es : List Spec.Zip.Entry} {gap c : Bytes} (hg : g.close ext = some (es, gap, c)) :
    WSat (finish ext s) none d (fun rs d' =>
      FinalPost es gap c r s d rs d' ∧ (rs.1 = .ok () → rs.2.inner = .closed)) := by
  obtain ⟨hf, rfl⟩ := Ghost2.close_fin hg
  exact (level2 ext r).finish h hf

theorem drop_ghost2 (ext : WExt) {r : Nat} {g : Ghost2} {s : WState} {d : Dev} (h : Lay2 r g s d)
    {es : List Spec.Zip.Entry} {gap c : Bytes} (hg : g.close ext = some (es, gap, c))
    (hclen : ¬ c.length > 65535) :
    WSat (dropWriter ext s) none d (fun rs d' =>
      rs.1 = .ok () ∧ LiveAt d' d'.pos (build (layoutOf es gap c [])) r) := by
  obtain ⟨hf, rfl⟩ := Ghost2.close_fin hg
  exact (level2 ext r).drop h hf hclen

end ZipVerif.WL
