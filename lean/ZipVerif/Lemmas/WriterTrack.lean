import ZipVerif.Lemmas.WriterSat
import ZipVerif.Lemmas.Zip64
/-
For C12, on top of `Lemmas/WriterSat.lean`: what a closed (poisoned) writer does, and the bookkeeping
invariant that ties `ZipWriter.files` to the calls that succeeded (`files_track_calls_partial` in
Props/C12).

`WSat` is the partial-correctness triple (a panic or a device error satisfies it vacuously): it is
used together with the total `Sat` lemmas of `Lemmas/WriterSat.lean`, which already exclude panics.
-/

namespace ZipVerif.Model
open ZipVerif

/-! ### Closed (poisoned) writers: every call fails (a `write` of no bytes apart, which succeeds) and leaves the writer closed -/

theorem M.error_bind {α β} {x : M (Except ZErr α × WState)} {f : Except ZErr α × WState → M (Except ZErr β × WState)}
    {e : ZErr} {s : WState} (h : x = pure (.error e, s)) (herr : ∀ e s, f (.error e, s) = pure (.error e, s)) :
    x >>= f = pure (.error e, s) := by
  rw [h]; exact herr e s

theorem switchTo_closed (ext : WExt) (c : Method) (l : Option Int) {s : WState} (h : s.inner = .closed) :
    switchTo ext c l s = pure (.error (.io .brokenPipe), s) := by
  rw [switchTo_eq, h]

theorem endExtraData_closed (ext : WExt) {s : WState} (h : s.inner = .closed) :
    ∃ e, endExtraData ext s = pure (.error e, s) := by
  unfold endExtraData
  cases hw : s.writingToExtraField
  · exact ⟨.io .other, by simp⟩
  · exact ⟨.io .brokenPipe, by simp [h, Inner.isClosed]⟩

theorem finishFile_closed (ext : WExt) {s : WState} (h : s.inner = .closed) :
    ∃ e, finishFile ext s = pure (.error e, s) := by
  rw [finishFile_eq]
  cases hw : s.writingToExtraField
  · exact ⟨_, M.error_bind (x := switchTo ext .stored none s) (switchTo_closed ext _ _ h) fun _ _ => rfl⟩
  · obtain ⟨e, he⟩ := endExtraData_closed ext h
    exact ⟨e, M.error_bind (M.error_bind he fun _ _ => rfl) fun _ _ => rfl⟩

theorem startEntry_closed (ext : WExt) (name : Bytes) (o : FileOptions) (raw) {s : WState}
    (h : s.inner = .closed) : ∃ e, startEntry ext name o raw s = pure (.error e, s) := by
  unfold startEntry
  split
  · exact ⟨_, rfl⟩
  · obtain ⟨e, he⟩ := finishFile_closed ext h
    exact ⟨e, M.error_bind he fun _ _ => rfl⟩

theorem writeData_closed (buf : Bytes) {s : WState} (h : s.inner = .closed) :
    ∃ r, writeData buf s = pure (r, s) := by
  rw [writeData_eq]
  split
  · exact ⟨_, rfl⟩
  split
  · exact ⟨_, rfl⟩
  · exact ⟨_, if_pos (by rw [h]; rfl)⟩

theorem finalize_closed (ext : WExt) {s : WState} (h : s.inner = .closed) :
    ∃ e, finalize ext s = pure (.error e, s) := by
  unfold finalize
  by_cases hc : s.comment.length > 65535
  · exact ⟨_, if_pos hc⟩
  · obtain ⟨e, he⟩ := finishFile_closed ext h
    exact ⟨e, (if_neg hc).trans (M.error_bind he fun _ _ => rfl)⟩

/-- **After the writer has been closed (by `finish`, or poisoned by a refused method/level or an
over-long file), `finish` fails** and leaves it closed. -/
theorem finish_closed (ext : WExt) {s : WState} (h : s.inner = .closed) :
    ∃ e, finish ext s = pure (.error e, s) := by
  obtain ⟨e, he⟩ := finalize_closed ext h
  exact ⟨e, M.error_bind he fun _ _ => rfl⟩

theorem startFile_closed (ext : WExt) (name : Bytes) (o : FileOptions) {s : WState}
    (h : s.inner = .closed) : ∃ e, startFile ext name o s = pure (.error e, s) := by
  obtain ⟨e, he⟩ := startEntry_closed ext name (withFilePerm o 0o644 0o100000) none h
  exact ⟨e, M.error_bind he fun _ _ => rfl⟩

theorem addDirectory_closed (ext : WExt) (name : Bytes) (o : FileOptions) {s : WState}
    (h : s.inner = .closed) : ∃ e, addDirectory ext name o s = pure (.error e, s) := by
  obtain ⟨e, he⟩ := startEntry_closed ext _ _ _ h
  exact ⟨e, M.error_bind he fun _ _ => rfl⟩

theorem addSymlink_closed (ext : WExt) (name target : Bytes) (o : FileOptions) {s : WState}
    (h : s.inner = .closed) : ∃ e, addSymlink ext name target o s = pure (.error e, s) := by
  obtain ⟨e, he⟩ := startEntry_closed ext _ _ _ h
  exact ⟨e, M.error_bind he fun _ _ => rfl⟩

theorem rawCopy_closed (ext : WExt) (src : FileData) (raw name : Bytes) {s : WState}
    (h : s.inner = .closed) : ∃ e, rawCopy ext src raw name s = pure (.error e, s) := by
  obtain ⟨e, he⟩ := startEntry_closed ext _ _ _ h
  exact ⟨e, M.error_bind he fun _ _ => rfl⟩

theorem endLocalStartCentral_closed (ext : WExt) {s : WState}
    (h : s.inner = .closed) : ∃ e, endLocalStartCentral ext s = pure (.error e, s) := by
  obtain ⟨e, he⟩ := endExtraData_closed ext h
  exact ⟨e, M.error_bind he fun _ _ => rfl⟩

/-! ### Partial-correctness triples -/

def WSat {β} (x : M (Except ZErr β × WState)) (fa : Option Nat) (d : Dev)
    (Q : Except ZErr β × WState → Dev → Prop) : Prop :=
  match x fa d with
  | (.ok r, d') => Q r d'
  | _ => True

section
variable {α β : Type} {x : M (Except ZErr β × WState)} {fa : Option Nat} {d : Dev}
  {Q Q' : Except ZErr β × WState → Dev → Prop}

theorem Sat.toWSat (h : Sat x fa d Q) : WSat x fa d Q := by
  unfold Sat at h; unfold WSat
  split at h <;> simp_all

theorem WSat.and (h : WSat x fa d Q) (h' : WSat x fa d Q') : WSat x fa d (fun r d' => Q r d' ∧ Q' r d') := by
  unfold WSat at *
  split <;> simp_all

theorem WSat.mono (h : WSat x fa d Q) (hq : ∀ r d', Q r d' → Q' r d') : WSat x fa d Q' := by
  unfold WSat at *
  split <;> simp_all

theorem WSat.pure {r : Except ZErr β × WState} (h : Q r d) : WSat (Pure.pure r) fa d Q := h

theorem WSat.panic {site : String} :
    WSat (M.panic site : M (Except ZErr β × WState)) fa d Q := trivial

theorem WSat.bind {x : M (Except ZErr α × WState)} {f : Except ZErr α × WState → M (Except ZErr β × WState)}
    (h : WSat x fa d (fun r d' => WSat (f r) fa d' Q)) : WSat (x >>= f) fa d Q := by
  unfold WSat at h ⊢
  rw [M.bind_apply]
  split at h
  · next a d' he => rw [he]; exact h
  · next hne =>
    split <;> first | trivial | skip
    next r d' heq =>
      split at heq
      · next a d'' he => exact absurd he (hne a d'')
      · cases heq
      · cases heq

theorem WSat.io_none {s : WState} {m : M α} {k : α → M (Except ZErr β × WState)} {P : α → Dev → Prop}
    (hm : MSat m none d P) (hk : ∀ a d', P a d' → WSat (k a) none d' Q) :
    WSat (Model.io s m k) none d Q := by
  unfold MSat at hm
  unfold WSat Model.io
  rw [M.bind_apply, M.attempt_apply]
  split at hm
  · next a d' h => rw [h]; exact hk a d' hm
  · exact absurd rfl hm
  · next h => rw [h]; trivial

theorem WSat.elim (h : WSat x fa d Q) {r : Except ZErr β × WState} {d' : Dev} (he : x fa d = (.ok r, d')) : Q r d' := by
  unfold WSat at h
  rw [he] at h
  exact h

/-- Total correctness from the panic-freedom lemma plus a partial-correctness fact. -/
theorem Sat.andW (h : Sat x fa d Q) (h' : WSat x fa d Q') : Sat x fa d (fun r d' => Q r d' ∧ Q' r d') := by
  unfold Sat at *
  unfold WSat at h'
  split <;> simp_all

/-- A postcondition of the successful path alone, proved by a walk in which error and panic branches need no
attention, holds in the total sense once some `Sat` fact says that the computation returns. -/
theorem Sat.of_wsat {P : Except ZErr β × WState → Dev → Prop} (hs : Sat x fa d P) (hw : WSat x fa d Q) : Sat x fa d Q :=
  Sat.mono (hs.andW hw) fun _ _ h => h.2

theorem WSat.of_run_eq {y : M (Except ZErr β × WState)} (h : x none d = y none d) (hy : WSat y none d Q) :
    WSat x none d Q := by
  unfold WSat at *
  rw [h]
  exact hy

theorem WSat.emit_none {s : WState} {enc : Option EncState} {bs : Bytes}
    {k : Option EncState → M (Except ZErr β × WState)}
    (hk : ∀ enc' d', WSat (k enc') none d' Q) : WSat (Model.emit s enc bs k) none d Q := by
  unfold Model.emit
  cases enc with
  | some e => exact hk _ d
  | none => exact WSat.io_none (MSat.writeAll bs none d) (fun _ d' _ => hk none d')

theorem WSat.updateLocalHeader_none' {s : WState} {file : FileData} {k : Unit → M (Except ZErr β × WState)}
    (hk : ∀ d', WSat (k ()) none d' Q)
    (hbig : file.largeFile = false → file.compressedSize > ZIP64_BYTES_THR →
      ∀ d', Q (.error (.io .other), s) d') :
    WSat (Model.updateLocalHeader s file k) none d Q := by
  unfold Model.updateLocalHeader
  split
  · next hg =>
    simp only [Bool.and_eq_true, Bool.not_eq_true', decide_eq_true_eq] at hg
    exact WSat.pure (hbig hg.1 hg.2 d)
  apply WSat.io_none (MSat.seekStart _ none d); intro _ d1 _
  apply WSat.io_none (MSat.writeAll _ none d1); intro _ d2 _
  split
  · apply WSat.io_none (MSat.seekStart _ none d2); intro _ d3 _
    apply WSat.io_none (MSat.writeAll _ none d3); intro _ d4 _
    apply WSat.io_none (MSat.writeAll _ none d4); intro _ d5 _
    exact hk d5
  · apply WSat.io_none (MSat.writeAll _ none d2); intro _ d3 _
    apply WSat.io_none (MSat.writeAll _ none d3); intro _ d4 _
    exact hk d4

theorem WSat.updateLocalHeader_none {s : WState} {file : FileData} {k : Unit → M (Except ZErr β × WState)}
    (hk : ∀ d', WSat (k ()) none d' Q)
    (hbig : ∀ d', Q (.error (.io .other), s) d') :
    WSat (Model.updateLocalHeader s file k) none d Q :=
  WSat.updateLocalHeader_none' hk (fun _ _ => hbig)

end

theorem WSat.trivial {β} (x : M (Except ZErr β × WState)) (fa : Option Nat) (d : Dev) :
    WSat x fa d (fun _ _ => True) := by
  unfold WSat
  split <;> trivial

-- from here on `WSat` is used through the rules above only
attribute [irreducible] WSat

theorem WSat.emitFinish_none {β} {s : WState} {m : Method} {enc : Option EncState} {bs : Bytes}
    {k : Option EncState → M (Except ZErr β × WState)} {d} {Q : Except ZErr β × WState → Dev → Prop}
    (hk : ∀ enc' d', WSat (k enc') none d' Q) : WSat (Model.emitFinish s m enc bs k) none d Q :=
  WSat.of_run_eq (Model.emitFinish_none s m enc bs k d) (WSat.emit_none hk)

inductive Forall2 {α β} (R : α → β → Prop) : List α → List β → Prop
  | nil : Forall2 R [] []
  | cons {a b l1 l2} : R a b → Forall2 R l1 l2 → Forall2 R (a :: l1) (b :: l2)

theorem Forall2.snoc {α β} {R : α → β → Prop} {l1 : List α} {l2 : List β} {a : α} {b : β}
    (h : Forall2 R l1 l2) (hab : R a b) : Forall2 R (l1 ++ [a]) (l2 ++ [b]) := by
  induction h with
  | nil => exact .cons hab .nil
  | cons h1 _ ih => exact .cons h1 ih

theorem Forall2.get_left {α β} {R : α → β → Prop} {l1 : List α} {l2 : List β} (h : Forall2 R l1 l2) :
    ∀ (i : Nat) (a : α), l1[i]? = some a → ∃ b, l2[i]? = some b ∧ R a b := by
  induction h with
  | nil => intro i a ha; simp at ha
  | cons hab _ ih =>
    intro i a ha
    cases i with
    | zero => simp at ha; subst ha; exact ⟨_, rfl, hab⟩
    | succ i => simp at ha; simpa using ih i a ha

/-! ### The bookkeeping relation between the call log and `ZipWriter.files` -/

/-- What the calls that succeeded say the archive should contain. -/
structure Entry where
  name : Bytes
  /-- the bytes `write` accepted as this entry's content (a symlink's target) -/
  data : Bytes
  /-- the source entry of a raw copy -/
  raw : Option FileData

/-- A raw copy carries its source's checksum, sizes and method. -/
def RawVals (src f : FileData) : Prop :=
  f.crc32 = src.crc32 ∧ f.compressedSize = src.compressedSize ∧
  f.uncompressedSize = src.uncompressedSize ∧ f.method = src.method

/-- The central-directory record of a finished entry agrees with the log. -/
def Closed (e : Entry) (f : FileData) : Prop :=
  f.fileName = e.name ∧
  match e.raw with
  | none => f.crc32 = Spec.Crc32.crc32 e.data ∧ f.uncompressedSize = UInt64.ofNat e.data.length
  | some src => RawVals src f

/-- The entry being written: its running checksum / byte count agree with the log. -/
def Open (s : WState) (e : Entry) (f : FileData) : Prop :=
  f.fileName = e.name ∧
  match e.raw with
  | none => s.writingRaw = false ∧ s.statsHasher = Spec.Crc32.updateBytes 0xFFFFFFFF e.data ∧
      s.statsBytes = e.data.length
  | some src => s.writingRaw = true ∧ RawVals src f

/-- `ZipWriter.files` agrees with the log: nothing yet, or every record but the last is `Closed` and the last one is
`Open`; outside extra-data mode, no record with extra data. -/
structure Tr (log : List Entry) (s : WState) : Prop where
  noExtra : s.writingToExtraField = false
  extraNil : ∀ f ∈ s.files, f.extraField = []
  shape : (log = [] ∧ s.files = [] ∧ s.writingRaw = false) ∨
    ∃ cl cf e f, log = cl ++ [e] ∧ s.files = cf ++ [f] ∧ Forall2 Closed cl cf ∧ Open s e f

/-- The writer is poisoned (every later `finish` fails), or its files agree with the log. -/
def Track (log : List Entry) (s : WState) : Prop := s.inner = .closed ∨ Tr log s

/-- All entries are finished and agree with the log (the state `finish_file` leaves). -/
structure Done (log : List Entry) (s : WState) : Prop where
  noExtra : s.writingToExtraField = false
  notRaw : s.writingRaw = false
  extraNil : ∀ f ∈ s.files, f.extraField = []
  closed : Forall2 Closed log s.files

/-- Postcondition shape of the tracking lemmas: an error leaves a `Track`ed writer, success gives `P`. -/
def TPost {β} (log : List Entry) (P : β → WState → Prop) : Except ZErr β × WState → Dev → Prop :=
  fun rs _ => match rs.1 with
    | .error _ => Track log rs.2
    | .ok v => P v rs.2

/-- The model's `?` under `TPost` (cf. `Sat.step`): an error of the first step is handed on with the same
`Track`ed writer. -/
theorem WSat.step {α β} {x : M (Except ZErr α × WState)}
    {f : Except ZErr α × WState → M (Except ZErr β × WState)} {fa d} {log : List Entry}
    {P : α → WState → Prop} {Q : β → WState → Prop}
    (hx : WSat x fa d (TPost log P)) (herr : ∀ e s, f (.error e, s) = Pure.pure (.error e, s))
    (hk : ∀ v s d', P v s → WSat (f (.ok v, s)) fa d' (TPost log Q)) :
    WSat (x >>= f) fa d (TPost log Q) := by
  apply WSat.bind
  apply WSat.mono hx
  intro ⟨r, s1⟩ d1 hp
  cases r with
  | error e => rw [herr]; exact WSat.pure hp
  | ok v => exact hk v s1 d1 hp

/-- `switch_to` followed by `?`: a refusal leaves the writer closed, which is `Track`ed. -/
theorem WSat.switchTo {β} {ext : WExt} {c : Method} {l : Option Int} {s : WState} {fa d} {log : List Entry}
    {f : Except ZErr Unit × WState → M (Except ZErr β × WState)} {Q : β → WState → Prop}
    (herr : ∀ e s, f (.error e, s) = Pure.pure (.error e, s))
    (hk : ∀ i d', WSat (f (.ok (), { s with inner := i })) fa d' (TPost log Q)) :
    WSat (Model.switchTo ext c l s >>= f) fa d (TPost log Q) := by
  apply WSat.bind
  apply WSat.mono (switchTo_sat ext c l s fa d).toWSat
  intro ⟨r, s2⟩ d2 ⟨i, hs2, _, _, _, hcl, _⟩
  dsimp only at hs2 hcl
  subst hs2
  cases r with
  | error e => rw [herr]; exact WSat.pure (Or.inl (hcl e rfl))
  | ok u => exact hk i d2

theorem Tr.of_getLast? {log : List Entry} {s : WState} (h : Tr log s) {file : FileData}
    (hf : s.files.getLast? = some file) :
    ∃ cl cf e, log = cl ++ [e] ∧ s.files = cf ++ [file] ∧ Forall2 Closed cl cf ∧ Open s e file := by
  rcases h.shape with ⟨_, h2, _⟩ | ⟨cl, cf, e, f, hlog, hfiles, hcl, hop⟩
  · rw [h2] at hf; cases hf
  · rw [hfiles, List.getLast?_concat] at hf
    cases hf
    exact ⟨cl, cf, e, hlog, hfiles, hcl, hop⟩

theorem Tr.setLast {log : List Entry} {s : WState} (hT : Tr log s) (hwr : s.writingRaw = false)
    {file g : FileData} (hf : s.files.getLast? = some file) (hn : g.fileName = file.fileName)
    (hx : g.extraField = []) : Tr log { s with files := Model.setLast s.files g } := by
  obtain ⟨cl, cf, e, hlog, hfiles, hcl, hname, hraw⟩ := hT.of_getLast? hf
  refine ⟨hT.noExtra, fun x hx' => ?_,
    Or.inr ⟨cl, cf, e, g, hlog, by rw [hfiles, setLast_snoc], hcl, hn.trans hname, ?_⟩⟩
  · rcases mem_setLast hx' with h | h
    · rw [h]; exact hx
    · exact hT.extraNil x h
  · cases her : e.raw with
    | none => rw [her] at hraw; exact hraw
    | some src => rw [her] at hraw; rw [hraw.1] at hwr; cases hwr

theorem Tr.close {log : List Entry} {s : WState} (hT : Tr log s) (hwr : s.writingRaw = false)
    {file g : FileData} (hf : s.files.getLast? = some file) (hn : g.fileName = file.fileName)
    (hx : g.extraField = []) (hc : g.crc32 = hasherFinalize s.statsHasher)
    (hu : g.uncompressedSize = UInt64.ofNat s.statsBytes) :
    Done log { s with files := Model.setLast s.files g, writingToFile := false, writingRaw := false } := by
  obtain ⟨cl, cf, e, hlog, hfiles, hcl, hname, hraw⟩ := hT.of_getLast? hf
  refine ⟨hT.noExtra, rfl, (hT.setLast hwr hf hn hx).extraNil, ?_⟩
  show Forall2 Closed log (Model.setLast s.files g)
  rw [hlog, hfiles, setLast_snoc]
  refine Forall2.snoc hcl ⟨hn.trans hname, ?_⟩
  cases her : e.raw with
  | some src => rw [her] at hraw; rw [hraw.1] at hwr; cases hwr
  | none => rw [her] at hraw; exact ⟨by rw [hc, hraw.2.1]; rfl, by rw [hu, hraw.2.2]⟩

theorem afterEnc_track (log : List Entry) (s : WState) (hT : Tr log s) (d : Dev) :
    WSat (afterEnc s) none d (TPost log fun _ s' => Done log s') := by
  unfold afterEnc
  split
  · split
    · next hwr =>
      have hwr' : s.writingRaw = false := by simpa using hwr
      split
      · next hl =>
        have hnil : s.files = [] := List.getLast?_eq_none_iff.mp hl
        rcases hT.shape with ⟨h1, h2, h3⟩ | ⟨cl, cf, e, f, _, h2, _⟩
        · exact WSat.pure ⟨hT.noExtra, hwr', hT.extraNil, by rw [h1, h2]; exact .nil⟩
        · rw [hnil] at h2; simp at h2
      · next file hfile =>
        have hx : file.extraField = [] := hT.extraNil file (List.mem_of_getLast? hfile)
        have hl1 := fun g => getLast?_setLast (f := g) (ne_nil_of_getLast? hfile)
        have hT1 := hT.setLast hwr' hfile
          (g := { file with crc32 := hasherFinalize s.statsHasher, uncompressedSize := UInt64.ofNat s.statsBytes }) rfl hx
        dsimp only
        apply WSat.io_none (MSat.streamPosition none d); intro fileEnd d1 _
        split
        · exact WSat.pure (Or.inr hT1)
        · apply WSat.updateLocalHeader_none
          · intro d2
            apply WSat.io_none (MSat.seekStart _ none d2); intro _ d3 _
            exact WSat.pure (hT1.close hwr' (hl1 _) rfl hx rfl rfl)
          · exact fun d2 => Or.inr (hT1.setLast hwr' (hl1 _) rfl hx)
    · next hwr =>
      have hwr' : s.writingRaw = true := by simpa using hwr
      refine WSat.pure ⟨hT.noExtra, rfl, hT.extraNil, ?_⟩
      rcases hT.shape with ⟨_, _, h3⟩ | ⟨cl, cf, e, f, hlog, hfiles, hcl, hname, hraw⟩
      · rw [h3] at hwr'; cases hwr'
      · dsimp only
        rw [hlog, hfiles]
        refine Forall2.snoc hcl ⟨hname, ?_⟩
        cases her : e.raw with
        | none => rw [her] at hraw; rw [hraw.1] at hwr'; cases hwr'
        | some src => rw [her] at hraw; exact hraw.2
  · exact WSat.panic

theorem finishFile_track (ext : WExt) (log : List Entry) (s : WState) (hT : Tr log s) (d : Dev) :
    WSat (finishFile ext s) none d (TPost log fun _ s' => Done log s') := by
  rw [finishFile_eq, hT.noExtra]
  apply WSat.bind
  apply WSat.pure
  dsimp only
  refine WSat.switchTo (fun _ _ => rfl) fun i d2 => ?_
  unfold finishTail
  dsimp only
  split
  · split
    · exact WSat.panic
    · apply WSat.io_none (MSat.writeAll _ none d2); intro _ d3 _
      apply WSat.io_none (MSat.flush none d3); intro _ d4 _
      exact afterEnc_track log { s with inner := .storer none } { hT with } d4
  · exact afterEnc_track log { s with inner := .storer none } { hT with } d2
  · exact WSat.panic

theorem localHeaderChunks_ne_err (f : FileData) (e : ZErr) : localHeaderChunks f ≠ .err e := by
  have h1 : ∀ e, localExtraLen f ≠ .err e := by
    intro e; unfold localExtraLen; dsimp only
    by_cases hc : (if f.largeFile then 20 else 0) + f.extraField.length % 65536 < 65536
    · rw [if_pos hc]; intro h; cases h
    · rw [if_neg hc]; intro h; cases h
  unfold localHeaderChunks datepartOut
  cases f.time.datepart with
  | none => intro h; cases h
  | some dp =>
    dsimp only
    cases hl : localExtraLen f with
    | ok el => intro h; cases h
    | err e' => exact absurd hl (h1 e')
    | panic s => intro h; cases h

/-- The state right after `start_entry` pushed a new record: every earlier entry is finished. -/
def NewEntry (name : Bytes) (o : FileOptions) (raw : Option (UInt32 × UInt64 × UInt64)) (log : List Entry)
    (s' : WState) : Prop :=
  s'.writingToExtraField = false ∧ s'.writingRaw = false ∧ s'.statsHasher = 0xFFFFFFFF ∧
  s'.statsBytes = 0 ∧
  ∃ cf f, s'.files = cf ++ [f] ∧ Forall2 Closed log cf ∧ (∀ g ∈ s'.files, g.extraField = []) ∧
    f.fileName = name ∧ f.crc32 = (raw.getD (0, 0, 0)).1 ∧ f.compressedSize = (raw.getD (0, 0, 0)).2.1 ∧
    f.uncompressedSize = (raw.getD (0, 0, 0)).2.2 ∧ f.method = o.method

theorem startEntry_track (ext : WExt) (name : Bytes) (o : FileOptions) (raw : Option (UInt32 × UInt64 × UInt64))
    (log : List Entry) (s : WState) (hT : Tr log s) (d : Dev) :
    WSat (startEntry ext name o raw s) none d (TPost log fun _ s' => NewEntry name o raw log s') := by
  unfold startEntry
  split
  · exact WSat.pure (Or.inr hT)
  refine WSat.step (finishFile_track ext log s hT d) (fun _ _ => rfl) fun _ s1 d1 hp => ?_
  dsimp only
  split
  · apply WSat.io_none (MSat.streamPosition none d1); intro hs d2 _
    split
    · exact WSat.panic
    · next e h => exact absurd h (localHeaderChunks_ne_err _ e)
    · apply WSat.io_none (MSat.writeChunks _ none d2); intro _ d3 _
      apply WSat.io_none (MSat.streamPosition none d3); intro he d4 _
      have hxn : ∀ g : FileData, g.extraField = [] → ∀ x ∈ s1.files ++ [g], x.extraField = [] := by
        intro g hgx x hxm
        rcases List.mem_append.mp hxm with h | h
        · exact hp.extraNil x h
        · rw [List.mem_singleton.mp h]; exact hgx
      split <;>
        exact WSat.pure ⟨hp.noExtra, hp.notRaw, rfl, rfl, _, _, rfl, hp.closed, hxn _ rfl, rfl, rfl, rfl, rfl, rfl⟩
  · exact WSat.panic

/-- A successful `write` adds its bytes to the content of the entry being written (not to a raw copy,
whose content is its source's). -/
def Entry.write (e : Entry) (buf : Bytes) : Entry :=
  match e.raw with
  | none => { e with data := e.data ++ buf }
  | some _ => e

def appendData (log : List Entry) (buf : Bytes) : List Entry :=
  match log.getLast? with
  | none => log
  | some e => log.dropLast ++ [e.write buf]

theorem appendData_snoc (cl : List Entry) (e : Entry) (buf : Bytes) :
    appendData (cl ++ [e]) buf = cl ++ [e.write buf] := by
  unfold appendData
  simp

theorem appendData_nil_log (buf : Bytes) : appendData [] buf = [] := rfl

theorem Entry.write_nil (e : Entry) : e.write [] = e := by
  obtain ⟨n, dd, r⟩ := e
  unfold Entry.write
  cases r <;> simp

theorem appendData_nil (log : List Entry) : appendData log [] = log := by
  rcases List.eq_nil_or_concat log with h | ⟨L, b, h⟩
  · subst h; rfl
  · subst h; rw [List.concat_eq_append, appendData_snoc, Entry.write_nil]

/-- The bookkeeping of a `write` the open entry took, as a fact about states. -/
theorem Tr.fin {log : List Entry} {s : WState} (hT : Tr log s) (buf : Bytes) :
    Tr (appendData log buf) (GW.fin s buf) := by
  refine ⟨hT.noExtra, hT.extraNil, ?_⟩
  rcases hT.shape with ⟨h1, h2, h3⟩ | ⟨cl, cf, e, f, hlog, hfiles, hcl, hname, hraw⟩
  · exact Or.inl ⟨by rw [h1]; rfl, h2, h3⟩
  · refine Or.inr ⟨cl, cf, e.write buf, f, by rw [hlog, appendData_snoc], hfiles, hcl, ?_⟩
    obtain ⟨n, dd, r⟩ := e
    cases r with
    | none =>
      refine ⟨hname, hraw.1, ?_, ?_⟩
      · show Spec.Crc32.updateBytes s.statsHasher buf = _
        rw [hraw.2.1, ← Spec.Crc32.updateBytes_append]; rfl
      · show s.statsBytes + buf.length = _
        rw [hraw.2.2]; exact List.length_append.symm
    | some src => exact ⟨hname, hraw⟩

/-- `write` outside extra-field mode: success appends to the log's last entry; a failure either changed
nothing (no file open, or the writer already closed) or closed the writer (the 4 GiB check). -/
theorem writeData_track (buf : Bytes) (log : List Entry) (s : WState) (hT : Tr log s) (d : Dev) :
    WSat (writeData buf s) none d (fun rs _ => match rs.1 with
      | .error _ => rs.2.inner = .closed ∨ (s.writingToFile = false ∧ rs.2 = s)
      | .ok _ => Tr (appendData log buf) rs.2) := by
  rw [writeData_eq, hT.noExtra]
  split
  · next hb => rw [List.isEmpty_iff.mp hb, appendData_nil]; exact WSat.pure hT
  split
  · next hwf => exact WSat.pure (Or.inr ⟨by simpa using hwf, rfl⟩)
  split
  · next h => exact WSat.pure (Or.inl (Inner.eq_closed h))
  refine WSat.io_none (MSat.writeAll _ none d) fun _ d1 _ => ?_
  split
  · exact WSat.panic
  split
  · exact WSat.pure (Or.inl rfl)
  · exact WSat.pure (hT.fin buf)

theorem writeData_open (buf : Bytes) {log log' : List Entry} {e : Entry} {s : WState} (hT : Tr (log ++ [e]) s)
    (hwf : s.writingToFile = true) (d : Dev) :
    WSat (writeData buf s) none d (TPost log' fun _ s' => Tr (log ++ [e.write buf]) s') := by
  refine WSat.mono (writeData_track buf _ s hT d) fun ⟨r, s'⟩ _ hp => ?_
  cases r with
  | error _ => exact Or.inl (hp.resolve_right fun h => by rw [hwf] at h; cases h.1)
  | ok _ => rw [appendData_snoc] at hp; exact hp

theorem NewEntry.tr {name : Bytes} {o : FileOptions} {log : List Entry} {s : WState}
    (h : NewEntry name o none log s) : Tr (log ++ [⟨name, [], none⟩]) s := by
  obtain ⟨h1, h2, h3, h4, cf, f, hfiles, hcl, hx, hn, _⟩ := h
  exact ⟨h1, hx, Or.inr ⟨log, cf, _, f, rfl, hfiles, hcl, hn, h2, h3, h4⟩⟩

theorem startFile_track (ext : WExt) (name : Bytes) (o : FileOptions) (log : List Entry) (s : WState)
    (hT : Tr log s) (d : Dev) :
    WSat (startFile ext name o s) none d (TPost log fun _ s' => Tr (log ++ [⟨name, [], none⟩]) s') := by
  unfold startFile
  refine WSat.step (startEntry_track ext name _ none log s hT d) (fun _ _ => rfl) fun _ s1 d1 hp => ?_
  dsimp only
  refine WSat.switchTo (fun _ _ => rfl) fun i d2 => ?_
  exact WSat.pure { hp.tr with }

/-- `add_directory` appends a `/` unless the name already ends in `/` or `\`. -/
def dirName (name : Bytes) : Bytes :=
  match name.getLast? with
  | some 0x2f => name
  | some 0x5c => name
  | _ => name ++ [0x2f]

theorem addDirectory_track (ext : WExt) (name : Bytes) (o : FileOptions) (log : List Entry) (s : WState)
    (hT : Tr log s) (d : Dev) :
    WSat (addDirectory ext name o s) none d
      (TPost log fun _ s' => Tr (log ++ [⟨dirName name, [], none⟩]) s') := by
  unfold addDirectory
  dsimp only
  refine WSat.step (startEntry_track ext (dirName name) _ none log s hT d) (fun _ _ => rfl) fun _ s1 d1 hp => ?_
  exact WSat.pure { hp.tr with }

theorem addSymlink_track (ext : WExt) (name target : Bytes) (o : FileOptions) (log : List Entry)
    (s : WState) (hT : Tr log s) (d : Dev) :
    WSat (addSymlink ext name target o s) none d
      (TPost log fun _ s' => Tr (log ++ [⟨name, target, none⟩]) s') := by
  unfold addSymlink
  dsimp only
  refine WSat.step (startEntry_track ext name _ none log s hT d) (fun _ _ => rfl) fun _ s1 d1 hp => ?_
  dsimp only
  have hT1 : Tr (log ++ [⟨name, [], none⟩]) { s1 with writingToFile := true } :=
    { hp.tr with }
  refine WSat.step (writeData_open target hT1 rfl d1) (fun _ _ => rfl) fun _ s2 d2 hp2 => ?_
  exact WSat.pure { hp2 with }

theorem rawCopy_track (ext : WExt) (src : FileData) (raw name : Bytes) (log : List Entry)
    (s : WState) (hT : Tr log s) (d : Dev) :
    WSat (rawCopy ext src raw name s) none d
      (TPost log fun _ s' => Tr (log ++ [⟨name, [], some src⟩]) s') := by
  unfold rawCopy
  dsimp only
  refine WSat.step (startEntry_track ext name _ _ log s hT d) (fun _ _ => rfl) fun _ s1 d1 hp => ?_
  obtain ⟨h1, h2, h3, h4, cf, f, hfiles, hcl, hx, hn, hc, hcs, hus, hm⟩ := hp
  have hT1 : Tr (log ++ [⟨name, [], some src⟩]) { s1 with writingToFile := true, writingRaw := true } :=
    ⟨h1, hx, Or.inr ⟨log, cf, _, f, rfl, hfiles, hcl, hn, rfl, hc, hcs, hus, hm⟩⟩
  exact writeData_open raw hT1 rfl d1

/-- A central header is only refused when ZIP64 record and extra field overrun the 16-bit length (65507 = 65535 − 28, the
largest ZIP64 record). -/
theorem centralHeaderChunks_fits {f : FileData} (hx : f.extraField.length ≤ 65507) (e : ZErr) :
    centralHeaderChunks f ≠ .err e := by
  unfold centralHeaderChunks
  have := centralZip64Bytes_length f
  have hn : ¬ ((centralZip64Bytes f).length + f.extraField.length > 65535) := by omega
  dsimp only [bind, Out.instMonad]
  rw [if_neg hn]
  unfold datepartOut
  cases f.time.datepart <;> intro h <;> cases h

theorem writeAllCentral_ok (s : WState) (fs : List FileData) (hfs : ∀ f ∈ fs, f.extraField.length ≤ 65507)
    (d : Dev) :
    WSat (finalize.writeAllCentral s fs) none d (fun rs _ => rs = (.ok (), s)) := by
  induction fs generalizing d with
  | nil => unfold finalize.writeAllCentral; exact WSat.pure rfl
  | cons f rest ih =>
    unfold finalize.writeAllCentral
    split
    · exact WSat.panic
    · next e h => exact absurd h (centralHeaderChunks_fits (hfs f (by simp)) e)
    · apply WSat.io_none (MSat.writeChunks _ none d); intro _ d1 _
      exact ih (fun g hg => hfs g (by simp [hg])) d1

/-- Fault-free, `finalize` after a successful `finish_file` succeeds without touching the writer state,
provided every record's extra field leaves room for the ZIP64 record: what holds of `finish_file`'s result
holds of `finalize`'s. -/
theorem finalize_tail {ext : WExt} {s : WState} {d : Dev} {R : Except ZErr Unit × WState → Prop}
    (hc : ¬ s.comment.length > 65535)
    (hff : WSat (finishFile ext s) none d (fun rs _ => R rs ∧
      (rs.1 = .ok () → ∀ f ∈ rs.2.files, f.extraField.length ≤ 65507))) :
    WSat (finalize ext s) none d (fun rs _ => R rs) := by
  unfold finalize
  rw [if_neg hc]
  apply WSat.bind
  apply WSat.mono hff
  intro ⟨r, s1⟩ d1 ⟨hR, hx⟩
  cases r with
  | error e => exact WSat.pure hR
  | ok u =>
  dsimp only
  split
  · apply WSat.io_none (MSat.streamPosition none d1); intro cs d2 _
    apply WSat.bind
    apply WSat.mono (writeAllCentral_ok s1 s1.files (hx rfl) d2)
    intro ⟨r3, s3⟩ d3 h3
    cases h3
    dsimp only
    apply WSat.io_none (MSat.streamPosition none d3); intro ce d4 _
    split
    · exact WSat.panic
    · apply WSat.bind
      refine WSat.mono (Q := fun rs _ => rs = (.ok (), s1)) ?_ ?_
      · split
        · apply WSat.io_none (MSat.writeChunks _ none d4); intro _ d5 _
          apply WSat.io_none (MSat.writeChunks _ none d5); intro _ d6 _
          exact WSat.pure rfl
        · exact WSat.pure rfl
      intro ⟨r5, s5⟩ d5 h5
      cases h5
      dsimp only
      apply WSat.io_none (MSat.writeChunks _ none d5); intro _ d7 _
      exact WSat.pure hR
  · exact WSat.panic

theorem finalize_track (ext : WExt) (log : List Entry) (s : WState) (hT : Tr log s) (d : Dev) :
    WSat (finalize ext s) none d (TPost log fun _ s' => Done log s') := by
  by_cases hc : s.comment.length > 65535
  · unfold finalize
    rw [if_pos hc]
    exact WSat.pure (Or.inr hT)
  · refine finalize_tail (R := fun rs => TPost log (fun _ s' => Done log s') rs d) hc
      (WSat.mono (finishFile_track ext log s hT d) fun rs _ h => ⟨h, fun hok f hf => ?_⟩)
    unfold TPost at h
    rw [hok] at h
    rw [h.extraNil f hf]
    exact Nat.zero_le _

theorem finish_track (ext : WExt) (log : List Entry) (s : WState) (hT : Tr log s) (d : Dev) :
    WSat (finish ext s) none d
      (TPost log fun _ s' => Forall2 Closed log s'.files ∧ s'.inner = .closed) := by
  unfold finish
  refine WSat.step (finalize_track ext log s hT d) (fun _ _ => rfl) fun _ s1 d1 hp => ?_
  dsimp only
  split
  · exact WSat.pure ⟨hp.closed, rfl⟩
  · exact WSat.panic

end ZipVerif.Model
