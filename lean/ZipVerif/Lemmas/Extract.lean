import ZipVerif.Model.Extract
import ZipVerif.Lemmas.FS
import ZipVerif.Lemmas.ModeOrder
/-
Confinement of the two extractor models: whatever the entries are and wherever a run stops, the final
state arises from the initial one by `Steps root` (bindings inside `root`, or creation of missing
ancestors of `root`); and an unsafe name makes the run fail.
-/

namespace ZipVerif.Model.Extract
open ZipVerif ZipVerif.Spec.Paths ZipVerif.Spec.FS ZipVerif.Spec.Tree ZipVerif.Model.Paths

theorem walk_filter_curDir (cs : List Comp) (d : Nat) :
    walk (cs.filter (· != Comp.curDir)) d = walk cs d := by
  fun_induction walk cs d <;> simp_all [walk]

/-- A name accepted by `enclosed_name`: the depth walk accepts its components inside `root/<name>`. -/
theorem safe_of_enclosed {n : Name} (h : (enclosedName n).isSome = true) :
    SafeR (relComps n).reverse := by
  rw [SafeR, List.reverse_reverse, relComps, walk_filter_curDir]
  exact (enclosedName_isSome.mp h).2

theorem joinedR_eq (root : Path) (n : Name) : joinedR root n = (relComps n).reverse ++ rootRev root := rfl

theorem liftFs_fst (r : FS × Option FsErr) : (liftFs r).1 = r.1 := by
  obtain ⟨fs, e⟩ := r
  cases e <;> rfl

theorem placeEntry_steps (c : Cfg) (chk : Bool) (root : Path) (e : EntryView) (fs : FS)
    (hs : SafeR (relComps e.name).reverse) :
    Steps root fs (placeEntry c chk root e fs).1 := by
  have hall : LexAll root (joinedR root e.name) := lexAll_joined root _ hs
  have hin : root <+: resolve (dotted (joinedR root e.name) (tailDot e.name)).reverse := by
    rw [resolve_dotted]; exact inside_joined root _ hs
  unfold placeEntry
  simp only
  split
  · rw [liftFs_fst]; exact createDirAll_steps _ _ _ hall
  · have h1 : Steps root fs (ensureParent c chk (joinedR root e.name) fs).1 := by
      unfold ensureParent
      split
      · exact Steps.refl fs
      · next x up hj =>
        split
        · exact Steps.refl fs
        · rw [hj] at hall; exact createDirAll_steps _ _ _ hall.2
    split
    · next fs1 er he => rw [he] at h1; exact h1
    · next fs1 he =>
      rw [he] at h1
      split
      · exact h1
      · next fs2 tgt hcf =>
        obtain ⟨h2, h3⟩ := createFile_steps hin hcf
        split <;> exact (h1.trans h2).trans (writeAt_steps _ _ h3)

theorem applyMode_steps (c : Cfg) (root : Path) (n : Name) (mode : Option Nat) (fs : FS)
    (hs : SafeR (relComps n).reverse) :
    Steps root fs (applyMode c root n mode fs).1 := by
  have hin : root <+: resolve (dotted (joinedR root n) (tailDot n)).reverse := by
    rw [resolve_dotted]; exact inside_joined root _ hs
  unfold applyMode
  split
  · exact Steps.refl fs
  · split
    · next fs' h => exact setPermissions_steps hin h
    · exact Steps.refl fs

theorem placeFile_steps (c : Cfg) (chk : Bool) (root : Path) (e : EntryView) (fs : FS) :
    Steps root fs (placeFile c chk root e fs).1 := by
  unfold placeFile
  split
  · exact Steps.refl fs
  · split
    · exact Steps.refl fs
    · next p hp => exact placeEntry_steps c chk root e fs (safe_of_enclosed (by rw [hp]; rfl))

theorem placeFiles_steps (c : Cfg) (chk : Bool) (root : Path) (es : List EntryView) (fs : FS) :
    Steps root fs (placeFiles c chk root es fs).1 := by
  induction es generalizing fs with
  | nil => exact Steps.refl fs
  | cons e es ih =>
    simp only [placeFiles]
    have h1 := placeFile_steps c chk root e fs
    split
    · next fs1 er he => rw [he] at h1; exact h1
    · next fs1 he => rw [he] at h1; exact h1.trans (ih fs1)

theorem placeFile_ok {c : Cfg} {chk : Bool} {root : Path} {e : EntryView} {fs fs1 : FS}
    (h : placeFile c chk root e fs = (fs1, none)) : (enclosedName e.name).isSome = true := by
  unfold placeFile at h
  split at h
  · cases h
  · split at h
    · cases h
    · next p hp => rw [hp]; rfl

/-- The entries the placing loop places completely (mode recorded) carry names accepted by
`enclosed_name`, whether or not the loop then fails. -/
theorem placed_enclosed (c : Cfg) (chk : Bool) (root : Path) (es : List EntryView) (fs : FS) :
    ∀ e ∈ es.take (placedCount c chk root es fs), (enclosedName e.name).isSome = true := by
  induction es generalizing fs with
  | nil => intro e he; simp at he
  | cons e0 es ih =>
    intro e hm
    simp only [placedCount] at hm
    split at hm
    · simp at hm
    · next fs2 he =>
      rw [List.take_succ_cons] at hm
      rcases List.mem_cons.mp hm with rfl | hm
      · exact placeFile_ok he
      · exact ih fs2 e hm

theorem placedCount_ok {c : Cfg} {chk : Bool} {root : Path} {es : List EntryView} {fs fs1 : FS}
    (h : placeFiles c chk root es fs = (fs1, none)) : placedCount c chk root es fs = es.length := by
  induction es generalizing fs with
  | nil => rfl
  | cons e0 es ih =>
    simp only [placeFiles] at h
    simp only [placedCount, List.length_cons]
    split at h
    · cases h
    · next fs2 he => rw [ih h]

theorem placeFiles_ok_enclosed {c : Cfg} {chk : Bool} {root : Path} {es : List EntryView} {fs fs1 : FS}
    (h : placeFiles c chk root es fs = (fs1, none)) : ∀ e ∈ es, (enclosedName e.name).isSome = true := by
  have := placed_enclosed c chk root es fs
  rwa [placedCount_ok h, List.take_length] at this

/-- The placing loop succeeds over `pre` and then fails at `e`: that failure is the outcome, and `pre` is
what was placed. -/
theorem placeFiles_stop (c : Cfg) (chk : Bool) (root : Path) (pre post : List EntryView) (e : EntryView)
    (fs fs1 fs2 : FS) (er : Err) (hpre : placeFiles c chk root pre fs = (fs1, none))
    (he : placeFile c chk root e fs1 = (fs2, some er)) :
    placeFiles c chk root (pre ++ e :: post) fs = (fs2, some er) ∧
      placedCount c chk root (pre ++ e :: post) fs = pre.length := by
  induction pre generalizing fs with
  | nil =>
    simp only [placeFiles, Prod.mk.injEq] at hpre
    obtain ⟨rfl, _⟩ := hpre
    simp [placeFiles, placedCount, he]
  | cons a pre ih =>
    simp only [placeFiles, placedCount, List.cons_append, List.length_cons] at hpre ⊢
    split at hpre
    · cases hpre
    · next fs3 h3 =>
      obtain ⟨h1, h2⟩ := ih fs3 hpre
      exact ⟨h1, by rw [h2]⟩

theorem applyModes_steps (c : Cfg) (root : Path) (ms : List (Name × Option Nat)) (fs : FS)
    (hs : ∀ m ∈ ms, (enclosedName m.1).isSome = true) : Steps root fs (applyModes c root ms fs).1 := by
  induction ms generalizing fs with
  | nil => exact Steps.refl fs
  | cons m ms ih =>
    simp only [applyModes]
    have h1 := applyMode_steps c root m.1 m.2 fs (safe_of_enclosed (hs m (by simp)))
    split
    · next fs1 er he => rw [he] at h1; exact h1
    · next fs1 he =>
      rw [he] at h1
      exact h1.trans (ih fs1 (fun m' hm' => hs m' (List.mem_cons_of_mem _ hm')))

theorem extractSeek_steps (c : Cfg) (root : Path) (es : List EntryView) (fs : FS) :
    Steps root fs (extractSeek c root es fs).1 := by
  unfold extractSeek
  have h1 := placeFiles_steps c true root es fs
  split
  · next fs1 er he =>
    rw [he] at h1
    refine h1.trans (applyModes_steps c root _ fs1 ?_)
    intro m hm
    obtain ⟨e, he', rfl⟩ := List.mem_map.mp (mem_modeOrder hm).1
    exact placed_enclosed c true root es fs e he'
  · next fs1 he =>
    rw [he] at h1
    refine h1.trans (applyModes_steps c root _ fs1 ?_)
    intro m hm
    obtain ⟨e, he', rfl⟩ := List.mem_map.mp (mem_modeOrder hm).1
    exact placeFiles_ok_enclosed he e he'

/-- The central records accepted before the first rejected one carry names accepted by
`enclosed_name`. -/
theorem checked_enclosed : ∀ (ms : List (Name × Option Nat)),
    ∀ m ∈ ms.take (checkedCount ms), (enclosedName m.1).isSome = true := by
  intro ms
  induction ms with
  | nil => intro m hm; simp at hm
  | cons m0 ms ih =>
    intro m hm
    simp only [checkedCount] at hm
    split at hm
    · simp at hm
    · next p hp =>
      rw [List.take_succ_cons] at hm
      rcases List.mem_cons.mp hm with rfl | hm
      · rw [hp]; rfl
      · exact ih m hm

theorem checkedCount_ok {ms : List (Name × Option Nat)} (h : checkMetas ms = none) :
    checkedCount ms = ms.length := by
  induction ms with
  | nil => rfl
  | cons m r ih =>
    simp only [checkMetas] at h
    simp only [checkedCount, List.length_cons]
    split at h
    · cases h
    · rw [ih h]

theorem checkMetas_ok {ms : List (Name × Option Nat)} (h : checkMetas ms = none) :
    ∀ m ∈ ms, (enclosedName m.1).isSome = true := by
  have := checked_enclosed ms
  rwa [checkedCount_ok h, List.take_length] at this

theorem extractStream_steps (c : Cfg) (root : Path) (files : List EntryView)
    (metas : List (Name × Option Nat)) (fs : FS) :
    Steps root fs (extractStream c root files metas fs).1 := by
  unfold extractStream
  have h1 := placeFiles_steps c false root files fs
  split
  · next fs1 er he => rw [he] at h1; exact h1
  · next fs1 he =>
    rw [he] at h1
    split
    · exact h1
    · split
      · exact h1.trans (applyModes_steps c root _ fs1
          (fun m hm => checked_enclosed metas m (mem_modeOrder hm).1))
      · next hck =>
        exact h1.trans (applyModes_steps c root _ fs1
          (fun m hm => checkMetas_ok hck m (mem_modeOrder hm).1))

/-! ### unsafe names -/

theorem placeFiles_unsafe (c : Cfg) (chk : Bool) (root : Path) (es : List EntryView) (fs : FS)
    (h : ∃ e ∈ es, enclosedName e.name = none) : (placeFiles c chk root es fs).2.isSome = true := by
  cases hr : placeFiles c chk root es fs with
  | mk fs1 er =>
    cases er with
    | some _ => rfl
    | none =>
      obtain ⟨e, he, hn⟩ := h
      have := placeFiles_ok_enclosed hr e he
      rw [hn] at this; cases this

theorem extractSeek_unsafe (c : Cfg) (root : Path) (es : List EntryView) (fs : FS)
    (h : ∃ e ∈ es, enclosedName e.name = none) : (extractSeek c root es fs).2.isSome = true := by
  unfold extractSeek
  have := placeFiles_unsafe c true root es fs h
  split
  · rfl
  · next fs1 he => rw [he] at this; cases this

/-- The first unsafe entry that is reached: the run stops there with `InvalidArchive("Invalid file
path")`, having done nothing for that entry or any later one; the modes recorded for the entries
BEFORE it are applied (deepest first, up to the first `set_permissions` that fails), nothing else. -/
theorem extractSeek_unsafe_at (c : Cfg) (root : Path) (pre post : List EntryView) (e : EntryView)
    (fs fs1 : FS) (hpre : placeFiles c true root pre fs = (fs1, none)) (ho : e.openErr = none)
    (hn : enclosedName e.name = none) :
    extractSeek c root (pre ++ e :: post) fs =
      ((applyModes c root (modeOrder (pre.map fun e => (e.name, e.mode))) fs1).1, some .invalidPath) := by
  obtain ⟨h1, h2⟩ := placeFiles_stop c true root pre post e fs fs1 fs1 .invalidPath hpre
    (by simp [placeFile, ho, hn])
  unfold extractSeek
  rw [h1, h2]
  simp

theorem checkMetas_unsafe {ms : List (Name × Option Nat)} (h : ∃ m ∈ ms, enclosedName m.1 = none) :
    (checkMetas ms).isSome = true := by
  cases hc : checkMetas ms with
  | some _ => rfl
  | none =>
    obtain ⟨m, hm, hn⟩ := h
    have := checkMetas_ok hc m hm
    rw [hn] at this; cases this

theorem extractStream_unsafe (c : Cfg) (root : Path) (files : List EntryView)
    (metas : List (Name × Option Nat)) (fs : FS)
    (h : (∃ e ∈ files, enclosedName e.name = none) ∨ (∃ m ∈ metas, enclosedName m.1 = none)) :
    (extractStream c root files metas fs).2.isSome = true := by
  unfold extractStream
  split
  · rfl
  · next fs1 he =>
    rcases h with h | h
    · have := placeFiles_unsafe c false root files fs h
      rw [he] at this; cases this
    · split
      · rfl
      · have := checkMetas_unsafe h
        split
        · rfl
        · next hck => rw [hck] at this; cases this

end ZipVerif.Model.Extract
