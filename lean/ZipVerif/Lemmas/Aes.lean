import ZipVerif.Model.Aes
/-
Lemmas for C16: the CTR key stream (`aes_ctr.rs`); the reader on top of it is in `Lemmas/AesReader.lean`.
-/

namespace ZipVerif.Model.Aes
open ZipVerif

theorem Out.bind_eta {α} (x : Out α) : (x >>= fun r => Out.ok r) = x := by
  cases x <;> rfl

theorem Out.bind_assoc' {α β γ} (x : Out α) (f : α → Out β) (g : β → Out γ) :
    ((x >>= f) >>= g) = (x >>= fun a => f a >>= g) := by
  cases x <;> rfl

/-! ### little-endian counter -/

theorem leN_length (n v : Nat) : (leN n v).length = n := by
  induction n generalizing v with
  | zero => rfl
  | succ n ih => simp [leN, ih]

theorem fromLE_leN (n v : Nat) : fromLE (leN n v) = v % 256 ^ n := by
  induction n generalizing v with
  | zero => simp [leN, fromLE, Nat.mod_one]
  | succ n ih =>
    have e1 : (UInt8.ofNat (v % 256)).toNat = v % 256 :=
      UInt8.toNat_ofNat'.trans (Nat.mod_eq_of_lt (Nat.mod_lt v (by decide)))
    have e2 : 256 ^ (n + 1) = 256 * 256 ^ n := by rw [Nat.pow_succ, Nat.mul_comm]
    simp only [leN, fromLE, ih]
    rw [e1, e2, Nat.mod_mul]

theorem le128_inj {a b : Nat} (ha : a < U128) (hb : b < U128) (h : le128 a = le128 b) : a = b := by
  have h1 := fromLE_leN 16 a
  have h2 := fromLE_leN 16 b
  unfold le128 at h
  rw [h] at h1
  rw [h1] at h2
  have e : (256 : Nat) ^ 16 = U128 := by decide
  rw [e, Nat.mod_eq_of_lt ha, Nat.mod_eq_of_lt hb] at h2
  exact h2

/-! ### xor -/

theorem xorBytes_length (a b : Bytes) : (xorBytes a b).length = min a.length b.length := by
  simp [xorBytes]

theorem xor_cancel (a k : UInt8) : (a ^^^ k) ^^^ k = a := by
  rw [UInt8.xor_assoc, UInt8.xor_self, UInt8.xor_zero]

theorem xorBytes_cancel : ∀ (t ks : Bytes), t.length ≤ ks.length →
    xorBytes (xorBytes t ks) ks = t
  | [], _, _ => by simp [xorBytes]
  | _ :: _, [], h => by simp at h
  | a :: t, k :: ks, h => by
    have ih := xorBytes_cancel t ks (by simpa using h)
    simp only [xorBytes, List.zipWith_cons_cons] at ih ⊢
    rw [xor_cancel, ih]

theorem xorBytes_append (a b ka kb : Bytes) (h : a.length = ka.length) :
    xorBytes (a ++ b) (ka ++ kb) = xorBytes a ka ++ xorBytes b kb := by
  simp [xorBytes, List.zipWith_append h]

/-! ### per-byte CTR -/

variable (P : AesPrims) (key : Bytes)

theorem cryptBytes_append (st : CtrState) (a b : Bytes) :
    cryptBytes P key st (a ++ b) =
      (cryptBytes P key st a >>= fun r1 =>
       cryptBytes P key r1.2 b >>= fun r2 => Out.ok (r1.1 ++ r2.1, r2.2)) := by
  induction a generalizing st with
  | nil =>
    simp only [List.nil_append, cryptBytes, Out.bind_ok]
    exact (Out.bind_eta _).symm
  | cons x a ih =>
    simp only [List.cons_append, cryptBytes]
    cases stepByte P key st with
    | ok ks =>
      simp only [Out.bind_ok]
      rw [ih]
      cases cryptBytes P key ks.2 a with
      | ok r1 =>
        simp only [Out.bind_ok]
        cases cryptBytes P key r1.2 b <;> rfl
      | err e => rfl
      | panic m => rfl
    | err e => rfl
    | panic m => rfl

theorem cryptBytes_eq_ks (st : CtrState) (t : Bytes) :
    cryptBytes P key st t =
      (ksGen P key st t.length >>= fun r => Out.ok (xorBytes t r.1, r.2)) := by
  induction t generalizing st with
  | nil => rfl
  | cons b t ih =>
    simp only [cryptBytes, ksGen, List.length_cons]
    cases stepByte P key st with
    | ok ks =>
      simp only [Out.bind_ok]
      rw [ih]
      cases ksGen P key ks.2 t.length <;> rfl
    | err e => rfl
    | panic m => rfl

theorem ksGen_length {st st' : CtrState} {n : Nat} {ks : Bytes}
    (h : ksGen P key st n = .ok (ks, st')) : ks.length = n := by
  induction n generalizing st ks st' with
  | zero => simp only [ksGen] at h; cases h; rfl
  | succ n ih =>
    simp only [ksGen] at h
    cases h1 : stepByte P key st with
    | ok k1 =>
      rw [h1] at h
      simp only [Out.bind_ok] at h
      cases h2 : ksGen P key k1.2 n with
      | ok r =>
        rw [h2] at h
        simp only [Out.bind_ok] at h
        cases h
        have := ih (st := k1.2) (ks := r.1) (st' := r.2) (by rw [h2])
        simp [this]
      | err e => rw [h2] at h; cases h
      | panic m => rw [h2] at h; cases h
    | err e => rw [h1] at h; cases h
    | panic m => rw [h1] at h; cases h

/-- The output is the input xor a key stream that depends only on the start state and the length. -/
theorem cryptBytes_ok_iff (st : CtrState) (t : Bytes) (c : Bytes) (st' : CtrState) :
    cryptBytes P key st t = .ok (c, st') ↔
      ∃ ks, ksGen P key st t.length = .ok (ks, st') ∧ c = xorBytes t ks := by
  rw [cryptBytes_eq_ks]
  cases h : ksGen P key st t.length with
  | ok r =>
    obtain ⟨ks, s2⟩ := r
    simp only [Out.bind_ok]
    constructor
    · intro e; cases e; exact ⟨ks, rfl, rfl⟩
    · rintro ⟨ks', e, rfl⟩; cases e; rfl
  | err e => simp
  | panic m => simp

/-! ### closed form of the key stream -/

theorem drop_cons_of_getElem? {l : Bytes} {i : Nat} {k : UInt8} (h : l[i]? = some k) :
    l.drop i = k :: l.drop (i + 1) := by
  obtain ⟨hi, hk⟩ := List.getElem?_eq_some_iff.mp h
  rw [List.drop_eq_getElem_cons hi, hk]

theorem stepByte_good {st : CtrState} (hg : st.Good) (hpos : st.pos < 16) :
    ∃ k, st.buffer[st.pos]? = some k ∧
      stepByte P key st = .ok (k, ⟨st.counter, st.buffer, st.pos + 1⟩) := by
  have hlt : st.pos < st.buffer.length := by rw [hg.2]; exact hpos
  refine ⟨st.buffer[st.pos], List.getElem?_eq_getElem hlt, ?_⟩
  unfold stepByte
  rw [if_neg (by omega), if_neg (by omega)]
  simp only [Out.bind_ok, List.getElem?_eq_getElem hlt]

theorem stepByte_refill (hW : P.WF) {st : CtrState} (h16 : st.pos = 16)
    (hc : st.counter + 1 < U128) :
    ∃ k, (P.block key (le128 st.counter))[0]? = some k ∧
      stepByte P key st = .ok (k, ⟨st.counter + 1, P.block key (le128 st.counter), 1⟩) := by
  have hl := hW.block_len key (le128 st.counter)
  have hlt : 0 < (P.block key (le128 st.counter)).length := by omega
  refine ⟨(P.block key (le128 st.counter))[0], List.getElem?_eq_getElem hlt, ?_⟩
  unfold stepByte refill
  rw [if_neg (by omega), if_pos h16, if_neg (by omega)]
  simp only [Out.bind_ok, List.getElem?_eq_getElem hlt]

theorem ksGen_closed (hW : P.WF) : ∀ (n : Nat) (st : CtrState) (k : Nat), st.Good →
    n + st.pos ≤ 16 + 16 * k → st.counter + k < U128 →
    ∃ st', ksGen P key st n =
        .ok ((st.buffer.drop st.pos ++ ksBlocks P key st.counter k).take n, st') ∧
      st'.Good ∧ 16 * st'.counter + st'.pos = 16 * st.counter + st.pos + n := by
  intro n
  induction n with
  | zero =>
    intro st k hg _ _
    exact ⟨st, by simp [ksGen], hg, rfl⟩
  | succ n ih =>
    intro st k hg hn hc
    by_cases hp : st.pos < 16
    · obtain ⟨k0, hk0, hs⟩ := stepByte_good P key hg hp
      obtain ⟨st', h1, h2, h3⟩ := ih ⟨st.counter, st.buffer, st.pos + 1⟩ k
        ⟨Nat.succ_le_of_lt hp, hg.2⟩ (by show n + (st.pos + 1) ≤ _; rw [← Nat.add_assoc, Nat.add_right_comm]; exact hn) hc
      refine ⟨st', ?_, h2, by simp only at h3; rw [h3]; ac_rfl⟩
      simp only [ksGen, hs, Out.bind_ok, h1]
      rw [drop_cons_of_getElem? hk0, List.cons_append, List.take_succ_cons]
    · have h16 : st.pos = 16 := Nat.le_antisymm hg.1 (Nat.le_of_not_lt hp)
      obtain ⟨k', rfl⟩ : ∃ k', k = k' + 1 := ⟨k - 1, by omega⟩
      obtain ⟨k0, hk0, hs⟩ := stepByte_refill P key hW h16
        (Nat.lt_of_le_of_lt (Nat.add_le_add_left (Nat.succ_le_succ (Nat.zero_le k')) _) hc)
      have hbl := hW.block_len key (le128 st.counter)
      obtain ⟨st', h1, h2, h3⟩ := ih ⟨st.counter + 1, P.block key (le128 st.counter), 1⟩ k'
        ⟨(by decide : 1 ≤ 16), hbl⟩ (by show n + 1 ≤ _; omega) (by show st.counter + 1 + k' < _; rw [Nat.add_assoc, Nat.add_comm 1]; exact hc)
      refine ⟨st', ?_, h2, by simp only at h3; omega⟩
      simp only [ksGen, hs, Out.bind_ok, h1]
      have hd : st.buffer.drop st.pos = [] := by
        apply List.drop_eq_nil_of_le; rw [hg.2, h16]; exact Nat.le_refl _
      have hb : P.block key (le128 st.counter) = k0 :: (P.block key (le128 st.counter)).drop 1 := by
        have := drop_cons_of_getElem? hk0
        simpa using this
      rw [hd, List.nil_append, ksBlocks]
      conv => rhs; rw [hb]
      rw [List.cons_append, List.take_succ_cons]

theorem ksBlocks_length (hW : P.WF) (c k : Nat) : (ksBlocks P key c k).length = 16 * k := by
  induction k generalizing c with
  | zero => rfl
  | succ k ih => simp only [ksBlocks, List.length_append, hW.block_len, ih]; omega

/-- Byte `i` of the key stream that starts at block `c` lies in block `c + i / 16`, at offset `i % 16`. -/
theorem ksBlocks_getElem? (hW : P.WF) (c k i : Nat) (hi : i < 16 * k) :
    (ksBlocks P key c k)[i]? = (P.block key (le128 (c + i / 16)))[i % 16]? := by
  induction k generalizing c i with
  | zero => omega
  | succ k ih =>
    have hbl := hW.block_len key (le128 c)
    rw [ksBlocks]
    by_cases h : i < 16
    · rw [List.getElem?_append_left (hbl ▸ h), Nat.div_eq_of_lt h, Nat.mod_eq_of_lt h, Nat.add_zero]
    · obtain ⟨j, rfl⟩ := Nat.exists_eq_add_of_le (Nat.le_of_not_lt h)
      rw [List.getElem?_append_right (hbl ▸ Nat.le_add_right 16 j), hbl, Nat.add_sub_cancel_left,
        ih (c + 1) j (by omega), Nat.add_div_left j (by decide), Nat.add_mod_left, Nat.add_assoc, Nat.add_comm 1]

/-! ### the chunked loop of `crypt_in_place` equals the per-byte loop -/

theorem xorBytes_take (t ks : Bytes) : xorBytes t (ks.take t.length) = xorBytes t ks := by
  induction t generalizing ks with
  | nil => simp [xorBytes]
  | cons a t ih =>
    cases ks with
    | nil => simp [xorBytes]
    | cons k ks =>
      have := ih ks
      simp only [xorBytes, List.length_cons, List.take_succ_cons, List.zipWith_cons_cons] at this ⊢
      rw [this]

theorem cryptBytes_within {st : CtrState} (hg : st.Good) (a : Bytes) (h : st.pos + a.length ≤ 16) :
    cryptBytes P key st a =
      .ok (xorBytes a ((st.buffer.drop st.pos).take a.length),
           ⟨st.counter, st.buffer, st.pos + a.length⟩) := by
  induction a generalizing st with
  | nil => cases st; simp [cryptBytes, xorBytes]
  | cons b a ih =>
    simp only [List.length_cons] at h
    obtain ⟨k0, hk0, hs⟩ := stepByte_good P key hg (by omega)
    have hg2 : CtrState.Good ⟨st.counter, st.buffer, st.pos + 1⟩ := ⟨by show st.pos + 1 ≤ 16; omega, hg.2⟩
    have := ih hg2 (by show st.pos + 1 + a.length ≤ 16; omega)
    simp only [cryptBytes, hs, Out.bind_ok, this, List.length_cons]
    rw [drop_cons_of_getElem? hk0, List.take_succ_cons]
    simp only [xorBytes, List.zipWith_cons_cons]
    have e : st.pos + 1 + a.length = st.pos + (a.length + 1) := by omega
    rw [e]

theorem cryptBytes_refill_first {st st1 : CtrState} (h16 : st.pos = 16)
    (hr : refill P key st = .ok st1) (h0 : st1.pos = 0) (b : UInt8) (t : Bytes) :
    cryptBytes P key st (b :: t) = cryptBytes P key st1 (b :: t) := by
  have e : stepByte P key st = stepByte P key st1 := by
    unfold stepByte
    rw [if_neg (by omega), if_pos h16, hr, if_neg (by omega), if_neg (by omega)]
  simp only [cryptBytes, e]

theorem refill_ok (hW : P.WF) {st st1 : CtrState} (hr : refill P key st = .ok st1) :
    st1.Good ∧ st1.pos = 0 := by
  unfold refill at hr
  split at hr
  · cases hr
  · cases hr
    exact ⟨⟨Nat.zero_le _, hW.block_len _ _⟩, rfl⟩

theorem cryptLoop_eq_bytes (hW : P.WF) : ∀ (fuel : Nat) (st : CtrState) (t : Bytes), st.Good →
    t.length ≤ fuel → cryptLoop P key fuel st t = cryptBytes P key st t := by
  intro fuel
  induction fuel with
  | zero =>
    intro st t _ hl
    have : t = [] := List.eq_nil_of_length_eq_zero (by omega)
    subst this
    rfl
  | succ f ih =>
    intro st t hg hl
    cases t with
    | nil => rfl
    | cons b t =>
      simp only [List.length_cons] at hl
      -- the common part, from a state with room in its buffer: one round xors `n = min rest (16 - pos)` bytes against
      -- the buffer; the per-byte loop does the same on that prefix (`cryptBytes_within`) and is split there
      -- (`cryptBytes_append`); a full buffer is refilled first, which the per-byte loop does too (`cryptBytes_refill_first`)
      have body : ∀ (st1 : CtrState) (n : Nat) (src : Bytes), st1.Good → st1.pos < 16 →
          n = min (t.length + 1) (16 - st1.pos) → src = (st1.buffer.drop st1.pos).take n →
          (if src.length ≠ n then
             (Out.panic "range end index out of range for slice (aes_ctr.rs buffer)" : Out (Bytes × CtrState))
           else
             cryptLoop P key f ⟨st1.counter, st1.buffer, st1.pos + n⟩ ((b :: t).drop n) >>= fun r =>
             .ok (xorBytes ((b :: t).take n) src ++ r.1, r.2)) = cryptBytes P key st1 (b :: t) := by
        intro st1 n src hg1 hp1 hn hs
        have hn1 : 1 ≤ n := hn ▸ Nat.le_min.mpr ⟨Nat.succ_pos _, Nat.sub_pos_of_lt hp1⟩
        have hn2 : n ≤ 16 - st1.pos := hn ▸ Nat.min_le_right _ _
        have hn3 : n ≤ t.length + 1 := hn ▸ Nat.min_le_left _ _
        have hpn : st1.pos + n ≤ 16 := Nat.add_comm n _ ▸ Nat.add_le_of_le_sub hg1.1 hn2
        have hsrc : src.length = n := by
          rw [hs, List.length_take, List.length_drop, hg1.2]; exact Nat.min_eq_left hn2
        rw [if_neg fun h => h hsrc]
        have hg2 : CtrState.Good ⟨st1.counter, st1.buffer, st1.pos + n⟩ := ⟨hpn, hg1.2⟩
        have hdl : ((b :: t).drop n).length ≤ f := by
          rw [List.length_drop, List.length_cons]
          exact Nat.sub_le_of_le_add (Nat.le_trans hl (Nat.add_le_add_left hn1 f))
        rw [ih _ _ hg2 hdl]
        have htl : ((b :: t).take n).length = n := by
          rw [List.length_take, List.length_cons]; exact Nat.min_eq_left hn3
        conv => rhs; rw [← List.take_append_drop n (b :: t), cryptBytes_append]
        rw [cryptBytes_within P key hg1 _ (htl.symm ▸ hpn)]
        simp only [Out.bind_ok, htl, hs]
      unfold cryptLoop
      rw [if_neg (by have := hg.1; omega)]
      by_cases h16 : st.pos = 16
      · rw [if_pos h16]
        cases hr : refill P key st with
        | ok st1 =>
          obtain ⟨hg1, h0⟩ := refill_ok P key hW hr
          simp only [Out.bind_ok]
          rw [cryptBytes_refill_first P key h16 hr h0]
          exact body st1 _ _ hg1 (by omega) rfl rfl
        | err e =>
          simp only [Out.bind_err, cryptBytes, stepByte]
          rw [if_neg (by omega), if_pos h16, hr]; rfl
        | panic m =>
          simp only [Out.bind_panic, cryptBytes, stepByte]
          rw [if_neg (by omega), if_pos h16, hr]; rfl
      · rw [if_neg h16]
        simp only [Out.bind_ok]
        exact body st _ _ hg (by have := hg.1; omega) rfl rfl

theorem cryptInPlace_eq_bytes (hW : P.WF) {st : CtrState} (hg : st.Good) (t : Bytes) :
    cryptInPlace P key st t = cryptBytes P key st t :=
  cryptLoop_eq_bytes P key hW _ st t hg (Nat.le_refl _)

/-- No panic and the state bookkeeping, for any amount of data that keeps the counter in `u128`. -/
theorem cryptBytes_closed (hW : P.WF) (st : CtrState) (t : Bytes) (k : Nat) (hg : st.Good)
    (hn : t.length + st.pos ≤ 16 + 16 * k) (hc : st.counter + k < U128) :
    ∃ st', cryptBytes P key st t =
        .ok (xorBytes t (st.buffer.drop st.pos ++ ksBlocks P key st.counter k), st') ∧
      st'.Good ∧ 16 * st'.counter + st'.pos = 16 * st.counter + st.pos + t.length := by
  obtain ⟨st', h1, h2, h3⟩ := ksGen_closed P key hW t.length st k hg hn hc
  refine ⟨st', ?_, h2, h3⟩
  rw [cryptBytes_eq_ks, h1]
  simp only [Out.bind_ok, xorBytes_take]

theorem stepByte_keeps_good (hW : P.WF) {st st' : CtrState} {k : UInt8} (hg : st.Good)
    (h : stepByte P key st = .ok (k, st')) : st'.Good := by
  by_cases hp : st.pos < 16
  · obtain ⟨k0, _, hs⟩ := stepByte_good P key hg hp
    rw [hs] at h; cases h
    exact ⟨by show st.pos + 1 ≤ 16; omega, hg.2⟩
  · have h16 : st.pos = 16 := by have := hg.1; omega
    unfold stepByte at h
    rw [if_neg (by omega), if_pos h16] at h
    cases hr : refill P key st with
    | ok st1 =>
      obtain ⟨hg1, h0⟩ := refill_ok P key hW hr
      rw [hr] at h
      simp only [Out.bind_ok] at h
      split at h
      · cases h
      · cases h
        exact ⟨by show st1.pos + 1 ≤ 16; omega, hg1.2⟩
    | err e => rw [hr] at h; cases h
    | panic m => rw [hr] at h; cases h

theorem cryptBytes_keeps_good (hW : P.WF) {st st' : CtrState} {t c : Bytes} (hg : st.Good)
    (h : cryptBytes P key st t = .ok (c, st')) : st'.Good := by
  induction t generalizing st c with
  | nil => simp only [cryptBytes] at h; cases h; exact hg
  | cons b t ih =>
    simp only [cryptBytes] at h
    cases h1 : stepByte P key st with
    | ok ks =>
      rw [h1] at h
      simp only [Out.bind_ok] at h
      cases h2 : cryptBytes P key ks.2 t with
      | ok r =>
        rw [h2] at h
        simp only [Out.bind_ok] at h
        cases h
        exact ih (stepByte_keeps_good P key hW hg (by rw [h1])) (by rw [h2])
      | err e => rw [h2] at h; cases h
      | panic m => rw [h2] at h; cases h
    | err e => rw [h1] at h; cases h
    | panic m => rw [h1] at h; cases h

end ZipVerif.Model.Aes
