import ZipVerif.Spec.Utf8
import ZipVerif.Spec.Cp437Ref
import ZipVerif.Model.Text
/-
For C19: UTF-8 encode/decode (the well-formed sequences of table 3-7, `Seq`), CP437 table facts over
the 256 byte values, and the writer's side: the UTF-8 flag it sets and the ASCII test of an encoded name.
-/

namespace ZipVerif.Spec

theorem and_two_pow_ne_zero (x k : Nat) : (x &&& 2 ^ k ≠ 0) ↔ x.testBit k = true := by
  cases hb : x.testBit k
  · have : x &&& 2 ^ k = 0 := by
      apply Nat.eq_of_testBit_eq
      intro i
      rw [Nat.testBit_and, Nat.testBit_two_pow, Nat.zero_testBit]
      by_cases hki : k = i
      · subst hki; rw [hb]; rfl
      · rw [decide_eq_false hki, Bool.and_false]
    rw [this]; exact ⟨fun h => absurd rfl h, fun h => by cases h⟩
  · have : (x &&& 2 ^ k).testBit k = true := by
      rw [Nat.testBit_and, Nat.testBit_two_pow, hb]; simp
    exact ⟨fun _ => rfl, fun _ h0 => by rw [h0, Nat.zero_testBit] at this; cases this⟩

/-! ### `Char` / `UInt8` plumbing -/

theorem toNat_ofNatAux (n : Nat) (h : n.isValidChar) : (Char.ofNatAux n h).toNat = n := rfl

theorem char_eq_of_toNat {c d : Char} (h : c.toNat = d.toNat) : c = d :=
  Char.ext (UInt32.toNat_inj.mp h)

theorem ofNatAux_eq {n : Nat} {h : n.isValidChar} {c : Char} (e : n = c.toNat) :
    Char.ofNatAux n h = c := char_eq_of_toNat (by rw [toNat_ofNatAux]; exact e)

theorem toNat_ofNat8 {n : Nat} (h : n < 256) : (UInt8.ofNat n).toNat = n :=
  UInt8.toNat_ofNat_of_lt' h

theorem toNat_ofNat8_le {n m : Nat} (h : n ≤ m) (hm : m ≤ 255) : (UInt8.ofNat n).toNat = n :=
  toNat_ofNat8 (Nat.lt_succ_of_le (Nat.le_trans h hm))

theorem ofNat8_eq {n : Nat} {b : UInt8} (e : n = b.toNat) : UInt8.ofNat n = b := by
  subst e; exact UInt8.ofNat_toNat

theorem char_valid_nat (c : Char) :
    c.toNat < 0xD800 ∨ (0xDFFF < c.toNat ∧ c.toNat < 0x110000) := c.valid

/-! ### `utf8EncodeChar`, one equation per sequence length -/

theorem encodeChar1 {c : Char} (h : c.toNat < 0x80) : utf8EncodeChar c = [UInt8.ofNat c.toNat] := by
  unfold utf8EncodeChar; exact if_pos h

theorem encodeChar2 {c : Char} (h1 : ¬c.toNat < 0x80) (h2 : c.toNat < 0x800) :
    utf8EncodeChar c = [UInt8.ofNat (0xC0 + c.toNat / 64), UInt8.ofNat (0x80 + c.toNat % 64)] := by
  unfold utf8EncodeChar; exact (if_neg h1).trans (if_pos h2)

theorem encodeChar3 {c : Char} (h2 : ¬c.toNat < 0x800) (h3 : c.toNat < 0x10000) :
    utf8EncodeChar c = [UInt8.ofNat (0xE0 + c.toNat / 4096), UInt8.ofNat (0x80 + c.toNat / 64 % 64),
      UInt8.ofNat (0x80 + c.toNat % 64)] := by
  unfold utf8EncodeChar
  exact (if_neg fun h => h2 (Nat.lt_trans h (by decide))).trans ((if_neg h2).trans (if_pos h3))

theorem encodeChar4 {c : Char} (h3 : ¬c.toNat < 0x10000) :
    utf8EncodeChar c = [UInt8.ofNat (0xF0 + c.toNat / 262144), UInt8.ofNat (0x80 + c.toNat / 4096 % 64),
      UInt8.ofNat (0x80 + c.toNat / 64 % 64), UInt8.ofNat (0x80 + c.toNat % 64)] := by
  unfold utf8EncodeChar
  exact (if_neg fun h => h3 (Nat.lt_trans h (by decide))).trans
    ((if_neg fun h => h3 (Nat.lt_trans h (by decide))).trans (if_neg h3))

/-! ### The arithmetic of table 3-7, on natural numbers

`seq2_iff`, `seq3_iff`, `seq4_iff`: the quotients and remainders from which `utf8EncodeChar` makes the bytes of a
scalar value `n` of the 2-, 3-, 4-byte range are the payloads `a`, `b`, … of the one sequence in the ranges of the
table that carries `n`.  `digits2`, `digits3`, `digits4` turn them into the sum that `scalar2`, `scalar3`, `scalar4`
compute; what is left is linear. -/

theorem digits2 {n a b : Nat} : (n / 64 = a ∧ n % 64 = b) ↔ (b + 64 * a = n ∧ b < 64) :=
  Nat.div_mod_unique (by decide)

theorem digits3 {n a b c : Nat} :
    (n / 4096 = a ∧ n / 64 % 64 = b ∧ n % 64 = c) ↔ (c + 64 * (b + 64 * a) = n ∧ b < 64 ∧ c < 64) := by
  -- the two upper digits are `digits2` of `n / 64`
  rw [← Nat.div_div_eq_div_mul n 64 64, ← and_assoc, digits2, and_right_comm, eq_comm, digits2,
    and_right_comm, and_assoc]

theorem digits4 {n a b c d : Nat} :
    (n / 262144 = a ∧ n / 4096 % 64 = b ∧ n / 64 % 64 = c ∧ n % 64 = d) ↔
      (d + 64 * (c + 64 * (b + 64 * a)) = n ∧ b < 64 ∧ c < 64 ∧ d < 64) := by
  -- the three upper digits are `digits3` of `n / 64`; the rest regroups the conjunctions
  rw [← Nat.div_div_eq_div_mul n 64 4096, ← Nat.div_div_eq_div_mul n 64 64, ← and_assoc, ← and_assoc,
    and_assoc (b := _ = b), digits3, and_right_comm, eq_comm, digits2, and_right_comm, and_assoc, and_assoc]

theorem seq2_iff {n a b : Nat} :
    (¬n < 0x80 ∧ n < 0x800) ∧ n / 64 = a ∧ n % 64 = b ↔
      (0xC2 ≤ 0xC0 + a ∧ 0xC0 + a ≤ 0xDF) ∧ (0x80 ≤ 0x80 + b ∧ 0x80 + b ≤ 0xBF) ∧
        scalar2 (0xC0 + a) (0x80 + b) = n := by
  rw [digits2]
  unfold scalar2
  simp only [Nat.add_sub_cancel_left]
  omega

theorem seq3_iff {n a b c : Nat} (hv : n < 0xD800 ∨ (0xDFFF < n ∧ n < 0x110000)) :
    (¬n < 0x800 ∧ n < 0x10000) ∧ n / 4096 = a ∧ n / 64 % 64 = b ∧ n % 64 = c ↔
      (0xE0 ≤ 0xE0 + a ∧ 0xE0 + a ≤ 0xEF) ∧
        (secondLo (0xE0 + a) ≤ 0x80 + b ∧ 0x80 + b ≤ secondHi (0xE0 + a)) ∧
        (0x80 ≤ 0x80 + c ∧ 0x80 + c ≤ 0xBF) ∧ scalar3 (0xE0 + a) (0x80 + b) (0x80 + c) = n := by
  rw [digits3, second_iff]
  unfold scalar3
  simp only [Nat.add_sub_cancel_left]
  constructor
  · omega
  · clear hv
    rintro ⟨h0, ⟨h1, hE0, -⟩, h2, rfl⟩
    omega

theorem seq4_iff {n a b c d : Nat} (hv : n < 0xD800 ∨ (0xDFFF < n ∧ n < 0x110000)) :
    ¬n < 0x10000 ∧ n / 262144 = a ∧ n / 4096 % 64 = b ∧ n / 64 % 64 = c ∧ n % 64 = d ↔
      (0xF0 ≤ 0xF0 + a ∧ 0xF0 + a ≤ 0xF4) ∧
        (secondLo (0xF0 + a) ≤ 0x80 + b ∧ 0x80 + b ≤ secondHi (0xF0 + a)) ∧
        (0x80 ≤ 0x80 + c ∧ 0x80 + c ≤ 0xBF) ∧ (0x80 ≤ 0x80 + d ∧ 0x80 + d ≤ 0xBF) ∧
        scalar4 (0xF0 + a) (0x80 + b) (0x80 + c) (0x80 + d) = n := by
  rw [digits4, second_iff]
  unfold scalar4
  simp only [Nat.add_sub_cancel_left]
  constructor
  · omega
  · clear hv
    rintro ⟨h0, ⟨h1, -, hF0, -⟩, h2, h3, rfl⟩
    omega

/-! ### Well-formed sequences -/

/-- `Seq bs n`: `bs` is the row of table 3-7 (Spec/Utf8) that carries the scalar value `n`.  Each byte is
read through its value `nᵢ`, so that bytes given as `UInt8.ofNat nᵢ` fit as well as bytes given as such. -/
inductive Seq : Bytes → Nat → Prop
  | one {b0 : UInt8} {n : Nat} : b0.toNat = n → n < 0x80 → Seq [b0] n
  | two {b0 b1 : UInt8} {n0 n1 n : Nat} : b0.toNat = n0 → b1.toNat = n1 → 0xC2 ≤ n0 ∧ n0 ≤ 0xDF →
      0x80 ≤ n1 ∧ n1 ≤ 0xBF → scalar2 n0 n1 = n → Seq [b0, b1] n
  | three {b0 b1 b2 : UInt8} {n0 n1 n2 n : Nat} : b0.toNat = n0 → b1.toNat = n1 → b2.toNat = n2 →
      0xE0 ≤ n0 ∧ n0 ≤ 0xEF → secondLo n0 ≤ n1 ∧ n1 ≤ secondHi n0 → 0x80 ≤ n2 ∧ n2 ≤ 0xBF →
      scalar3 n0 n1 n2 = n → Seq [b0, b1, b2] n
  | four {b0 b1 b2 b3 : UInt8} {n0 n1 n2 n3 n : Nat} : b0.toNat = n0 → b1.toNat = n1 → b2.toNat = n2 →
      b3.toNat = n3 → 0xF0 ≤ n0 ∧ n0 ≤ 0xF4 → secondLo n0 ≤ n1 ∧ n1 ≤ secondHi n0 →
      0x80 ≤ n2 ∧ n2 ≤ 0xBF → 0x80 ≤ n3 ∧ n3 ≤ 0xBF → scalar4 n0 n1 n2 n3 = n → Seq [b0, b1, b2, b3] n

theorem Seq.chunks {bs : Bytes} {n : Nat} (h : Seq bs n) {c : Char} (hc : n = c.toNat) (rest : Bytes) :
    utf8Chunks (bs ++ rest) = some c :: utf8Chunks rest := by
  cases h with
  | one e0 h0 =>
    subst e0
    show utf8Chunks (_ :: rest) = _
    rw [utf8Chunks, dif_pos h0, ofNatAux_eq hc]
  | two e0 e1 h0 h1 e =>
    subst e0 e1 e
    show utf8Chunks (_ :: _ :: rest) = _
    rw [utf8Chunks, dif_neg (by omega), dif_pos h0]
    simp only
    rw [dif_pos h1, ofNatAux_eq hc]
  | three e0 e1 e2 h0 h1 h2 e =>
    subst e0 e1 e2 e
    show utf8Chunks (_ :: _ :: _ :: rest) = _
    rw [utf8Chunks, dif_neg (by omega), dif_neg (by omega), dif_pos h0]
    simp only
    rw [dif_pos h1, dif_pos h2, ofNatAux_eq hc]
  | four e0 e1 e2 e3 h0 h1 h2 h3 e =>
    subst e0 e1 e2 e3 e
    show utf8Chunks (_ :: _ :: _ :: _ :: rest) = _
    rw [utf8Chunks, dif_neg (by omega), dif_neg (by omega), dif_neg (by omega), dif_pos h0]
    simp only
    rw [dif_pos h1, dif_pos h2, dif_pos h3, ofNatAux_eq hc]

theorem encodeChar_seq (c : Char) : Seq (utf8EncodeChar c) c.toNat := by
  by_cases h1 : c.toNat < 0x80
  · rw [encodeChar1 h1]
    exact .one (toNat_ofNat8_le (Nat.le_of_lt h1) (by decide)) h1
  by_cases h2 : c.toNat < 0x800
  · obtain ⟨r0, r1, hc⟩ := seq2_iff.mp ⟨⟨h1, h2⟩, rfl, rfl⟩
    rw [encodeChar2 h1 h2]
    exact .two (toNat_ofNat8_le r0.2 (by decide)) (toNat_ofNat8_le r1.2 (by decide)) r0 r1 hc
  by_cases h3 : c.toNat < 0x10000
  · obtain ⟨r0, r1, r2, hc⟩ := (seq3_iff (char_valid_nat c)).mp ⟨⟨h2, h3⟩, rfl, rfl, rfl⟩
    rw [encodeChar3 h2 h3]
    exact .three (toNat_ofNat8_le r0.2 (by decide))
      (toNat_ofNat8_le (Nat.le_trans r1.2 (secondHi_le _)) (by decide)) (toNat_ofNat8_le r2.2 (by decide)) r0 r1 r2 hc
  · obtain ⟨r0, r1, r2, r3, hc⟩ := (seq4_iff (char_valid_nat c)).mp ⟨h3, rfl, rfl, rfl, rfl⟩
    rw [encodeChar4 h3]
    exact .four (toNat_ofNat8_le r0.2 (by decide))
      (toNat_ofNat8_le (Nat.le_trans r1.2 (secondHi_le _)) (by decide)) (toNat_ofNat8_le r2.2 (by decide))
      (toNat_ofNat8_le r3.2 (by decide)) r0 r1 r2 r3 hc

theorem Seq.encode {bs : Bytes} {n : Nat} (h : Seq bs n) (hv : n.isValidChar) :
    utf8EncodeChar (Char.ofNatAux n hv) = bs := by
  cases h with
  | one e0 h0 =>
    subst e0
    exact (encodeChar1 (c := Char.ofNatAux _ hv) h0).trans (by rw [toNat_ofNatAux, UInt8.ofNat_toNat])
  | two e0 e1 h0 h1 e =>
    obtain ⟨a, rfl⟩ := Nat.exists_eq_add_of_le (Nat.le_trans (by decide : 0xC0 ≤ 0xC2) h0.1)
    obtain ⟨b, rfl⟩ := Nat.exists_eq_add_of_le h1.1
    obtain ⟨⟨l1, l2⟩, d0, d1⟩ := seq2_iff.mpr ⟨h0, h1, e⟩
    exact (encodeChar2 (c := Char.ofNatAux _ hv) l1 l2).trans
      (by rw [toNat_ofNatAux, d0, d1, ofNat8_eq e0.symm, ofNat8_eq e1.symm])
  | three e0 e1 e2 h0 h1 h2 e =>
    obtain ⟨a, rfl⟩ := Nat.exists_eq_add_of_le h0.1
    obtain ⟨b, rfl⟩ := Nat.exists_eq_add_of_le (Nat.le_trans (secondLo_ge _) h1.1)
    obtain ⟨c, rfl⟩ := Nat.exists_eq_add_of_le h2.1
    obtain ⟨⟨l2, l3⟩, d0, d1, d2⟩ := (seq3_iff hv).mpr ⟨h0, h1, h2, e⟩
    exact (encodeChar3 (c := Char.ofNatAux _ hv) l2 l3).trans
      (by rw [toNat_ofNatAux, d0, d1, d2, ofNat8_eq e0.symm, ofNat8_eq e1.symm, ofNat8_eq e2.symm])
  | four e0 e1 e2 e3 h0 h1 h2 h3 e =>
    obtain ⟨a, rfl⟩ := Nat.exists_eq_add_of_le h0.1
    obtain ⟨b, rfl⟩ := Nat.exists_eq_add_of_le (Nat.le_trans (secondLo_ge _) h1.1)
    obtain ⟨c, rfl⟩ := Nat.exists_eq_add_of_le h2.1
    obtain ⟨d, rfl⟩ := Nat.exists_eq_add_of_le h3.1
    obtain ⟨l3, d0, d1, d2, d3⟩ := (seq4_iff hv).mpr ⟨h0, h1, h2, h3, e⟩
    exact (encodeChar4 (c := Char.ofNatAux _ hv) l3).trans
      (by rw [toNat_ofNatAux, d0, d1, d2, d3, ofNat8_eq e0.symm, ofNat8_eq e1.symm, ofNat8_eq e2.symm,
        ofNat8_eq e3.symm])

theorem Seq.bytes_ge {bs : Bytes} {n : Nat} (h : Seq bs n) (hn : ¬n < 0x80) :
    bs ≠ [] ∧ ∀ b ∈ bs, 0x80 ≤ b.toNat := by
  refine ⟨by cases h <;> exact List.cons_ne_nil _ _, ?_⟩
  cases h with
  | one e0 h0 => exact absurd h0 hn
  | two e0 e1 h0 h1 =>
    subst e0 e1
    simp only [List.mem_cons, List.not_mem_nil, or_false, forall_eq_or_imp, forall_eq]
    exact ⟨Nat.le_trans (by decide) h0.1, h1.1⟩
  | three e0 e1 e2 h0 h1 h2 =>
    subst e0 e1 e2
    simp only [List.mem_cons, List.not_mem_nil, or_false, forall_eq_or_imp, forall_eq]
    exact ⟨Nat.le_trans (by decide) h0.1, Nat.le_trans (secondLo_ge _) h1.1, h2.1⟩
  | four e0 e1 e2 e3 h0 h1 h2 h3 =>
    subst e0 e1 e2 e3
    simp only [List.mem_cons, List.not_mem_nil, or_false, forall_eq_or_imp, forall_eq]
    exact ⟨Nat.le_trans (by decide) h0.1, Nat.le_trans (secondLo_ge _) h1.1, h2.1, h3.1⟩

theorem utf8Chunks_encodeChar (c : Char) (rest : Bytes) :
    utf8Chunks (utf8EncodeChar c ++ rest) = some c :: utf8Chunks rest :=
  (encodeChar_seq c).chunks rfl rest

theorem utf8EncodeChar_bytes (c : Char) :
    (c.toNat < 0x80 ∧ utf8EncodeChar c = [UInt8.ofNat c.toNat]) ∨
    (¬c.toNat < 0x80 ∧ utf8EncodeChar c ≠ [] ∧ ∀ b ∈ utf8EncodeChar c, 0x80 ≤ b.toNat) := by
  by_cases h1 : c.toNat < 0x80
  · exact .inl ⟨h1, encodeChar1 h1⟩
  · exact .inr ⟨h1, (encodeChar_seq c).bytes_ge h1⟩

theorem encodeChar_ne_nil (c : Char) : utf8EncodeChar c ≠ [] := by
  rcases utf8EncodeChar_bytes c with ⟨-, e⟩ | ⟨-, h, -⟩
  · rw [e]; exact List.cons_ne_nil _ _
  · exact h

theorem ascii_mem_encodeChar {c : Char} {b : UInt8} (hb : b.toNat < 0x80) :
    b ∈ utf8EncodeChar c ↔ c.toNat = b.toNat := by
  rcases utf8EncodeChar_bytes c with ⟨h, e⟩ | ⟨h, -, hge⟩
  · rw [e, List.mem_singleton]
    exact ⟨fun eb => by rw [eb, toNat_ofNat8_le (Nat.le_of_lt h) (by decide)], fun ec => (ofNat8_eq ec).symm⟩
  · exact ⟨fun hm => absurd (hge b hm) (Nat.not_le.mpr hb), fun ec => absurd (by rw [ec]; exact hb) h⟩

theorem utf8Chunks_encode_append (s : List Char) (rest : Bytes) :
    utf8Chunks (utf8Encode s ++ rest) = s.map some ++ utf8Chunks rest := by
  induction s with
  | nil => rfl
  | cons c s ih =>
    rw [utf8Encode, List.append_assoc, utf8Chunks_encodeChar, ih]; rfl

theorem utf8Chunks_encode (s : List Char) : utf8Chunks (utf8Encode s) = s.map some := by
  have h := utf8Chunks_encode_append s []
  rw [List.append_nil] at h
  rw [h]; exact List.append_nil _

theorem allSome_map_some {α} (l : List α) : allSome (l.map some) = some l := by
  induction l with
  | nil => rfl
  | cons a l ih => rw [List.map_cons, allSome, ih]; rfl

theorem allSome_eq_some {α} {l : List (Option α)} {s : List α} (h : allSome l = some s) :
    l = s.map some := by
  induction l generalizing s with
  | nil => cases h; rfl
  | cons a l ih =>
    cases a with
    | none => cases h
    | some a =>
      rw [allSome] at h
      cases hl : allSome l with
      | none => rw [hl] at h; cases h
      | some t =>
        rw [hl] at h
        cases h
        rw [ih hl]; rfl

theorem map_unwrap_some (s : List Char) :
    (s.map some).map (fun
      | some c => c
      | none => replacement) = s := by
  induction s with
  | nil => rfl
  | cons c s ih => rw [List.map_cons, List.map_cons, ih]

theorem lossy_of_chunks {bs : Bytes} {s : List Char} (h : utf8Chunks bs = s.map some) :
    utf8Lossy bs = s := by
  unfold utf8Lossy
  rw [h]; exact map_unwrap_some s

/-! ### Strict decoding is sound (inverse direction) -/

theorem allSome_cons_some {α} {a : α} {l : List (Option α)} {s : List α}
    (h : allSome (some a :: l) = some s) : ∃ t, s = a :: t ∧ allSome l = some t := by
  rw [allSome] at h
  cases hl : allSome l with
  | none => rw [hl] at h; cases h
  | some t => rw [hl] at h; cases h; exact ⟨t, rfl, rfl⟩

theorem encode_of_chunks (bs : Bytes) : ∀ s, allSome (utf8Chunks bs) = some s → utf8Encode s = bs := by
  fun_induction utf8Chunks bs with
  | case1 => intro s h; cases h; rfl
  | case2 b0 r h0 ih =>
    intro s h
    obtain ⟨t, rfl, ht⟩ := allSome_cons_some h
    rw [utf8Encode, (Seq.one rfl h0).encode, ih t ht]; rfl
  | case4 b0 _ h0 b1 r1 h1 ih =>
    intro s h
    obtain ⟨t, rfl, ht⟩ := allSome_cons_some h
    rw [utf8Encode, (Seq.two rfl rfl h0 h1 rfl).encode, ih t ht]; rfl
  | case8 b0 _ _ h0 b1 h1 b2 r2 h2 ih =>
    intro s h
    obtain ⟨t, rfl, ht⟩ := allSome_cons_some h
    rw [utf8Encode, (Seq.three rfl rfl rfl h0 h1 h2 rfl).encode, ih t ht]; rfl
  | case14 b0 _ _ _ h0 b1 h1 b2 h2 b3 r3 h3 ih =>
    intro s h
    obtain ⟨t, rfl, ht⟩ := allSome_cons_some h
    rw [utf8Encode, (Seq.four rfl rfl rfl rfl h0 h1 h2 h3 rfl).encode, ih t ht]; rfl
  | _ => intro s h; cases h
theorem chunks_length_le (bs : Bytes) : (utf8Chunks bs).length ≤ bs.length := by
  fun_induction utf8Chunks bs <;> simp only [List.length_cons, List.length_nil] at * <;> omega

end ZipVerif.Spec

namespace ZipVerif.Model
open ZipVerif ZipVerif.Spec

/-! ### CP437: model table = reference table; `from_cp437` on both paths -/

theorem table_lift {α β} {f : UInt8 → β} {g : α → β} {L : Array α} (hs : L.size = 256)
    (h : (List.range 256).map (fun n => f (UInt8.ofNat n)) = L.toList.map g) (b : UInt8) :
    f b = g (L[b.toNat]'(by rw [hs]; exact b.toNat_lt)) := by
  have hb := b.toNat_lt
  have h1 := congrArg (fun l => l[b.toNat]?) h
  simp only [List.getElem?_map, List.getElem?_range hb, Option.map_some, UInt8.ofNat_toNat] at h1
  have h2 : L.toList[b.toNat]? = some (L[b.toNat]'(by rw [hs]; exact hb)) := by
    rw [Array.getElem?_toList]; exact Array.getElem?_eq_getElem _
  rw [h2, Option.map_some] at h1
  exact Option.some.inj h1

theorem toCharU32_eq_ref (b : UInt8) : toCharU32 b = (cp437Ref b).val :=
  table_lift (f := toCharU32) (g := Char.val) cp437RefTable_size (by decide +kernel) b

theorem charFromU32_val (c : Char) : Rs.charFromU32 c.val = some c := by
  unfold Rs.charFromU32
  rw [dif_pos c.valid]

theorem toChar_eq_ref (b : UInt8) : toChar b = .ok (cp437Ref b) := by
  unfold toChar
  rw [toCharU32_eq_ref, charFromU32_val]

theorem mapToChar_eq_ref (bs : Bytes) : mapToChar bs = .ok (bs.map cp437Ref) := by
  induction bs with
  | nil => rfl
  | cons b r ih => rw [mapToChar, toChar_eq_ref, ih]; rfl

theorem ref_ascii (b : UInt8) (h : b.toNat < 0x80) : (cp437Ref b).toNat = b.toNat := by
  have e := toCharU32_eq_ref b
  unfold toCharU32 at e
  rw [if_pos (by rw [UInt8.le_iff_toNat_le]; have : (0x7f : UInt8).toNat = 127 := by decide
                 omega)] at e
  show (cp437Ref b).val.toNat = b.toNat
  rw [← e]; exact UInt8.toNat_toUInt32 b

theorem lt80_iff (b : UInt8) : (b < 0x80) ↔ b.toNat < 0x80 := UInt8.lt_iff_toNat_lt

theorem allAscii_cons (b : UInt8) (r : Bytes) :
    allAscii (b :: r) = true ↔ b.toNat < 0x80 ∧ allAscii r = true := by
  unfold allAscii
  rw [List.all_cons, Bool.and_eq_true, decide_eq_true_eq, lt80_iff]

theorem chunks_ascii (bs : Bytes) (h : allAscii bs = true) :
    utf8Chunks bs = (bs.map cp437Ref).map some := by
  induction bs with
  | nil => rfl
  | cons b r ih =>
    obtain ⟨hb, hr⟩ := (allAscii_cons b r).mp h
    rw [show utf8Chunks (b :: r) = _ from (Seq.one rfl hb).chunks (ref_ascii b hb).symm r, ih hr]; rfl

theorem strict_ascii (bs : Bytes) (h : allAscii bs = true) :
    utf8Strict bs = some (bs.map cp437Ref) := by
  unfold utf8Strict
  rw [chunks_ascii bs h, allSome_map_some]

theorem fromCp437_eq_ref (bs : Bytes) : fromCp437 bs = .ok (bs.map cp437Ref) := by
  unfold fromCp437
  split
  · rename_i h; rw [strict_ascii bs h]
  · exact mapToChar_eq_ref bs

/-! ### Writer: flag and ASCII-ness of the encoded name -/

theorem isAscii_encodeChar (c : Char) :
    Rs.isAscii (utf8EncodeChar c) = decide (c.toNat < 0x80) := by
  unfold Rs.isAscii
  rcases utf8EncodeChar_bytes c with ⟨h, e⟩ | ⟨h, hne, hb⟩
  · rw [e, decide_eq_true h, List.all_cons, List.all_nil, Bool.and_true, decide_eq_true_eq, lt80_iff,
      toNat_ofNat8_le (Nat.le_of_lt h) (by decide)]
    exact h
  · obtain ⟨b, r, e⟩ := List.exists_cons_of_ne_nil hne
    rw [decide_eq_false h, e, List.all_cons, Bool.and_eq_false_iff, decide_eq_false_iff_not, lt80_iff]
    exact .inl (Nat.not_lt.mpr (hb b (e ▸ List.mem_cons_self)))

theorem isAscii_encode (s : List Char) :
    Rs.isAscii (utf8Encode s) = s.all (fun c => decide (c.toNat < 0x80)) := by
  induction s with
  | nil => rfl
  | cons c s ih =>
    have : Rs.isAscii (utf8EncodeChar c ++ utf8Encode s)
        = (Rs.isAscii (utf8EncodeChar c) && Rs.isAscii (utf8Encode s)) := by
      unfold Rs.isAscii; exact List.all_append
    rw [utf8Encode, this, isAscii_encodeChar, ih, List.all_cons]

theorem isUtf8Flag_writerFlags (b : Bytes) (enc : Bool) :
    isUtf8Flag (writerFlags b enc) = !Rs.isAscii b := by
  unfold writerFlags isUtf8Flag
  cases Rs.isAscii b <;> cases enc <;> decide

theorem decodeName_nil (f : Bool) : decodeName f [] = .ok [] := by
  cases f <;> rfl

theorem strict_encode (s : List Char) : utf8Strict (utf8Encode s) = some s := by
  unfold utf8Strict; rw [utf8Chunks_encode, allSome_map_some]

end ZipVerif.Model
