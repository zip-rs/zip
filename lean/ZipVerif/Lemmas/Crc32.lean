import ZipVerif.Spec.Crc32
/-
CRC-32 is injective in each byte: the bit-serial step is a bijection of the register (the top bit of
the polynomial is set, so the bit shifted out can be read off the result), hence `update r ·` and
`update · b` are injective and any single-byte substitution changes the CRC.  Bitwise extensionality,
axiom-free (no `bv_decide`).
-/

namespace ZipVerif.Spec.Crc32

theorem and_one_eq_one_iff (c : UInt32) : (c &&& 1 = 1) ↔ c.toBitVec.getLsbD 0 = true := by
  rw [← UInt32.toBitVec_inj]
  simp only [UInt32.toBitVec_and]
  constructor
  · intro h
    have := congrArg (fun v => v.getLsbD 0) h
    simpa using this
  · intro h
    apply BitVec.eq_of_getLsbD_eq
    intro i hi
    simp only [BitVec.getLsbD_and]
    cases i with
    | zero => simp [h]
    | succ j => simp

theorem step_bit (c : UInt32) (i : Nat) :
    (step c).toBitVec.getLsbD i =
      ((c.toBitVec.getLsbD (i + 1)) ^^ (c.toBitVec.getLsbD 0 && poly.toBitVec.getLsbD i)) := by
  unfold step
  by_cases h : c &&& 1 = 1
  · rw [if_pos h]
    have h0 := (and_one_eq_one_iff c).mp h
    rw [h0]
    simp [BitVec.getLsbD_ushiftRight, Nat.add_comm]
  · rw [if_neg h]
    have h0 : c.toBitVec.getLsbD 0 = false := by
      cases hc : c.toBitVec.getLsbD 0
      · rfl
      · exact absurd ((and_one_eq_one_iff c).mpr hc) h
    rw [h0]
    simp [BitVec.getLsbD_ushiftRight, Nat.add_comm]

theorem step_injective {a b : UInt32} (h : step a = step b) : a = b := by
  have hb : ∀ i, (step a).toBitVec.getLsbD i = (step b).toBitVec.getLsbD i := by
    intro i; rw [h]
  have h31 := hb 31
  rw [step_bit, step_bit] at h31
  have hp : poly.toBitVec.getLsbD 31 = true := by decide
  have ha : a.toBitVec.getLsbD 32 = false := BitVec.getLsbD_of_ge _ _ (Nat.le_refl _)
  have hb32 : b.toBitVec.getLsbD 32 = false := BitVec.getLsbD_of_ge _ _ (Nat.le_refl _)
  rw [hp, ha, hb32] at h31
  simp only [Bool.and_true, Bool.false_xor] at h31
  apply UInt32.toBitVec_inj.mp
  apply BitVec.eq_of_getLsbD_eq
  intro i hi
  cases i with
  | zero => exact h31
  | succ j =>
    have hj := hb j
    rw [step_bit, step_bit, h31] at hj
    exact Bool.xor_left_inj.mp hj

theorem xor_left_cancel {a b c : UInt32} (h : a ^^^ b = a ^^^ c) : b = c := by
  have := congrArg (fun x => a ^^^ x) h
  simpa [← UInt32.xor_assoc] using this

theorem toUInt32_inj {a b : UInt8} (h : a.toUInt32 = b.toUInt32) : a = b := by
  have := congrArg UInt32.toUInt8 h
  simpa using this

/-- The byte update as eight bit-serial steps (bridge to whichever form `update` is defined in). -/
theorem update_eq_steps (r : UInt32) (b : UInt8) :
    update r b = step (step (step (step (step (step (step (step (r ^^^ b.toUInt32)))))))) :=
  updateByte_eq_bitwise r b

theorem update_injective_byte {r : UInt32} {a b : UInt8} (h : update r a = update r b) : a = b := by
  rw [update_eq_steps, update_eq_steps] at h
  exact toUInt32_inj (xor_left_cancel (step_injective (step_injective (step_injective (step_injective
    (step_injective (step_injective (step_injective (step_injective h)))))))))

theorem update_injective_reg {r r' : UInt32} {b : UInt8} (h : update r b = update r' b) : r = r' := by
  rw [update_eq_steps, update_eq_steps] at h
  have h2 := step_injective (step_injective (step_injective (step_injective
    (step_injective (step_injective (step_injective (step_injective h)))))))
  rw [UInt32.xor_comm r, UInt32.xor_comm r'] at h2
  exact xor_left_cancel h2

theorem updateBytes_injective_reg {r r' : UInt32} (bs : Bytes) (h : updateBytes r bs = updateBytes r' bs) :
    r = r' := by
  induction bs generalizing r r' with
  | nil => exact h
  | cons b bs ih => exact update_injective_reg (ih h)

theorem crc32_detects_single_byte (p q : Bytes) (a b : UInt8) (hab : a ≠ b) :
    crc32 (p ++ a :: q) ≠ crc32 (p ++ b :: q) := by
  intro h
  unfold crc32 at h
  have h1 : updateBytes 0xFFFFFFFF (p ++ a :: q) = updateBytes 0xFFFFFFFF (p ++ b :: q) := by
    have := congrArg (fun x => x ^^^ (0xFFFFFFFF : UInt32)) h
    simpa [UInt32.xor_assoc] using this
  rw [updateBytes_append, updateBytes_append, updateBytes_cons, updateBytes_cons] at h1
  exact hab (update_injective_byte (updateBytes_injective_reg q h1))

end ZipVerif.Spec.Crc32
