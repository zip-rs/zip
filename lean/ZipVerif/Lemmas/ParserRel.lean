import ZipVerif.Model.ShortRead
import ZipVerif.Lemmas.MLogic
/-
The metadata parsers are written once, over `ParserIO` (`Model/ShortRead.lean`, namespace `G`).  First: instantiated
at `M` they are the model's parsers (`G.x_M`).  Then: a relation between two `ParserIO` monads that is
closed under the operations of the class (`ParserRel₀`: all but `ioAttempt` and `ioPanic`; `ParserRel` adds
`ioAttempt`; a panic site is a hypothesis of the one walk that meets it) relates every parser to itself: `G.rel_x`.
The logics of the reader (short reads, interrupted reads, fault transparency, panic-freedom, read-only-ness) are such
relations; their per-parser facts are instances.  Last: a logic on `M` alone (`MLogic`) is a `ParserRel₀ M M`
(`MLogic.rel₀`), so it holds of every model parser (`MLogic.findAndParseEocd` …; closure under `attempt`, `panic`,
`getDev` is a hypothesis of the four walks that meet them), and the walker of this file serves the functions that are
written in `M` only as well (`Lemmas/MWalk`).
-/

namespace ZipVerif.Model
open ZipVerif ParserIO

/-! ### The generic parsers instantiated at `M` ARE the model's parsers -/

namespace G

theorem readU16_M : (readU16 : M UInt16) = M.readU16 := rfl
theorem readU32_M : (readU32 : M UInt32) = M.readU32 := rfl
theorem readU64_M : (readU64 : M UInt64) = M.readU64 := rfl
theorem streamPosition_M : (streamPosition : M Nat) = M.streamPosition := rfl
theorem parseEocd_M : (parseEocd : M Eocd) = Model.parseEocd := rfl
theorem parseLocator_M : (parseLocator : M Locator) = Model.parseLocator := rfl

theorem findEocdLoop_M (bound fuel pos : Nat) :
    (findEocdLoop bound fuel pos : M (Eocd × Nat)) = Model.findEocdLoop bound fuel pos := by
  induction fuel generalizing pos with
  | zero => rfl
  | succ fuel ih =>
    unfold findEocdLoop Model.findEocdLoop
    simp only [ih]
    rfl

theorem findAndParseEocd_M : (findAndParseEocd : M (Eocd × Nat)) = Model.findAndParseEocd := by
  unfold findAndParseEocd Model.findAndParseEocd
  simp only [findEocdLoop_M]
  rfl

theorem findEocd64Loop_M (nominal upper fuel pos : Nat) :
    (findEocd64Loop nominal upper fuel pos : M (Eocd64 × Nat)) =
      Model.findEocd64Loop nominal upper fuel pos := by
  induction fuel generalizing pos with
  | zero => rfl
  | succ fuel ih =>
    unfold findEocd64Loop Model.findEocd64Loop
    simp only [ih]
    rfl

theorem findEocd64_M (nominal upper : Nat) :
    (findEocd64 nominal upper : M (Eocd64 × Nat)) = Model.findEocd64 nominal upper :=
  findEocd64Loop_M _ _ _ _

theorem getDirectoryCounts_M (footer : Eocd) (cdeStart : Nat) :
    (getDirectoryCounts footer cdeStart : M (Nat × Nat × Nat)) =
      Model.getDirectoryCounts footer cdeStart := by
  unfold getDirectoryCounts Model.getDirectoryCounts
  simp only [findEocd64_M]
  rfl

theorem centralHeaderInner_M (off start : Nat) :
    (centralHeaderInner off start : M FileData) = Model.centralHeaderInner off start := rfl

theorem centralHeader_M (off : Nat) : (centralHeader off : M FileData) = Model.centralHeader off := rfl

theorem readCentralLoop_M (off n : Nat) :
    (readCentralLoop off n : M (List FileData)) = Model.readCentralLoop off n := by
  induction n with
  | zero => rfl
  | succ n ih =>
    unfold readCentralLoop Model.readCentralLoop
    simp only [ih]
    rfl

/-- The translated `ZipArchive::new` is tied to `Model.openArchiveAlloc` (`Tie/ReaderGlue`: `tie_zip_archive_new`), of
which `Model.openArchive` is the first component (`openArchive_eq_alloc`). -/
theorem openArchive_M : (openArchive : M Archive) = Model.openArchive := by
  unfold openArchive Model.openArchive
  simp only [findAndParseEocd_M, getDirectoryCounts_M, readCentralLoop_M]
  rfl

theorem findContent_M (f : FileData) : (findContent f : M Nat) = Model.findContent f := rfl

theorem streamHeader_M : (streamHeader : M (Option FileData)) = Model.streamHeader := rfl

theorem streamEntry_M (ext : Ext) : (streamEntry ext : M _) = Model.streamEntry ext := rfl

theorem streamEntries_M (ext : Ext) (fuel : Nat) : (streamEntries ext fuel : M _) = Model.streamEntries ext fuel := by
  induction fuel with
  | zero => rfl
  | succ fuel ih =>
    unfold streamEntries Model.streamEntries
    simp only [ih]
    rfl

theorem streamCentralLoop_M (fuel : Nat) : (streamCentralLoop fuel : M _) = Model.streamCentralLoop fuel := by
  induction fuel with
  | zero => rfl
  | succ fuel ih =>
    unfold streamCentralLoop Model.streamCentralLoop
    simp only [ih]
    rfl

theorem streamVisit_M (ext : Ext) :
    Model.streamVisit ext = (M.getDev >>= fun d =>
      (streamVisitF ext (d.buf.length / 30 + 1) (d.buf.length / 46 + 1) : M _)) := by
  unfold Model.streamVisit streamVisitF
  simp only [streamEntries_M, streamCentralLoop_M]
  rfl

end G
/-- A relation between computations of two parser monads, closed under everything but `ioAttempt` and
`ioPanic` (panic-freedom is such a relation, and is not closed under `ioPanic`). -/
structure ParserRel₀ (m₁ m₂ : Type → Type) [ParserIO m₁] [ParserIO m₂] where
  R : {α : Type} → m₁ α → m₂ α → Prop
  pure : ∀ {α : Type} (a : α), R (Pure.pure a) (Pure.pure a)
  bind : ∀ {α β : Type} {x : m₁ α} {y : m₂ α} {f : α → m₁ β} {g : α → m₂ β},
    R x y → (∀ a, R (f a) (g a)) → R (x >>= f) (y >>= g)
  throw : ∀ {α : Type} (e : ZErr), R (ioThrow e : m₁ α) (ioThrow e)
  seek : ∀ s : SeekFrom, R (ioSeek s) (ioSeek s)
  readExact : ∀ n : Nat, R (ioReadExact n) (ioReadExact n)
  takeAll : ∀ n : Nat, R (ioTakeAll n) (ioTakeAll n)

structure ParserRel (m₁ m₂ : Type → Type) [ParserIO m₁] [ParserIO m₂] extends ParserRel₀ m₁ m₂ where
  attempt : ∀ {α : Type} {x : m₁ α} {y : m₂ α}, R x y → R (ioAttempt x) (ioAttempt y)

theorem ParserRel₀.ite {m₁ m₂ : Type → Type} [ParserIO m₁] [ParserIO m₂] (L : ParserRel₀ m₁ m₂) {α : Type}
    {c : Prop} [Decidable c] {x x' : m₁ α} {y y' : m₂ α} (h : c → L.R x y) (h' : ¬ c → L.R x' y') :
    L.R (if c then x else x') (if c then y else y') := by
  by_cases hc : c
  · rw [if_pos hc, if_pos hc]
    exact h hc
  · rw [if_neg hc, if_neg hc]
    exact h' hc

theorem ParserRel₀.streamPosition {m₁ m₂ : Type → Type} [ParserIO m₁] [ParserIO m₂] (L : ParserRel₀ m₁ m₂) :
    L.R G.streamPosition G.streamPosition := L.seek _

/-- Walk a parser body: the closure rules of `L`, the given facts about sub-parsers, case splits.  The rules are
tried up to reducible unfolding only: a rule that does not fit fails at once instead of unfolding the parsers. -/
syntax "parser_rel " term:max (" [" term,* "]")? : tactic
macro_rules
  | `(tactic| parser_rel $L) => `(tactic| parser_rel $L [])
  | `(tactic| parser_rel $L [$ts,*]) => `(tactic|
      repeat' first
        | with_reducible first $[| exact $ts]*
        | with_reducible exact ParserRel₀.pure $L _ | with_reducible exact ParserRel₀.throw $L _
        | with_reducible exact ParserRel₀.seek $L _ | with_reducible exact ParserRel₀.readExact $L _
        | with_reducible exact ParserRel₀.takeAll $L _ | with_reducible exact ParserRel₀.streamPosition $L
        | with_reducible refine ParserRel₀.bind $L ?_ fun _ => ?_
        | with_reducible refine ParserRel₀.ite $L (fun _ => ?_) fun _ => ?_
        | dsimp only
        | split)

namespace G
variable {m₁ m₂ : Type → Type} [ParserIO m₁] [ParserIO m₂]

section
variable (L : ParserRel₀ m₁ m₂)

theorem rel_readU16 : L.R readU16 readU16 := by unfold readU16; parser_rel L
theorem rel_readU32 : L.R readU32 readU32 := by unfold readU32; parser_rel L
theorem rel_readU64 : L.R readU64 readU64 := by unfold readU64; parser_rel L

theorem rel_parseEocd : L.R parseEocd parseEocd := by
  unfold parseEocd; parser_rel L [rel_readU16 L, rel_readU32 L]

theorem rel_parseLocator : L.R parseLocator parseLocator := by
  unfold parseLocator; parser_rel L [rel_readU32 L, rel_readU64 L]

theorem rel_findEocdLoop (bound : Nat) :
    ∀ fuel pos, L.R (findEocdLoop bound fuel pos) (findEocdLoop bound fuel pos)
  | 0, _ => L.throw _
  | fuel + 1, pos => by
    unfold findEocdLoop; parser_rel L [rel_findEocdLoop bound fuel _, rel_parseEocd L, rel_readU32 L]

theorem rel_findAndParseEocd : L.R findAndParseEocd findAndParseEocd := by
  unfold findAndParseEocd; parser_rel L [rel_findEocdLoop L _ _ _]

theorem rel_findEocd64Loop (nominal upper : Nat) :
    ∀ fuel pos, L.R (findEocd64Loop nominal upper fuel pos) (findEocd64Loop nominal upper fuel pos)
  | 0, _ => L.throw _
  | fuel + 1, pos => by
    unfold findEocd64Loop
    parser_rel L [rel_findEocd64Loop nominal upper fuel _, rel_readU16 L, rel_readU32 L, rel_readU64 L]

theorem rel_findEocd64 (nominal upper : Nat) : L.R (findEocd64 nominal upper) (findEocd64 nominal upper) :=
  rel_findEocd64Loop L _ _ _ _

theorem rel_centralHeaderInner (off start : Nat) :
    L.R (centralHeaderInner off start) (centralHeaderInner off start) := by
  unfold centralHeaderInner; parser_rel L [rel_readU16 L, rel_readU32 L]

theorem rel_centralHeader (off : Nat) : L.R (centralHeader off) (centralHeader off) := by
  unfold centralHeader; parser_rel L [rel_centralHeaderInner L _ _, rel_readU32 L]

theorem rel_readCentralLoop (off : Nat) : ∀ n, L.R (readCentralLoop off n) (readCentralLoop off n)
  | 0 => L.pure _
  | n + 1 => by
    unfold readCentralLoop; parser_rel L [rel_readCentralLoop off n, rel_centralHeader L _]

/-- `find_content` holds the one `ioPanic` of the parsers. -/
theorem rel_findContent (hp : ∀ s, L.R (ioPanic s : m₁ Nat) (ioPanic s)) (f : FileData) :
    L.R (findContent f) (findContent f) := by
  unfold findContent; parser_rel L [hp _, rel_readU16 L, rel_readU32 L]

theorem rel_streamHeader : L.R streamHeader streamHeader := by
  unfold streamHeader; parser_rel L [rel_readU16 L, rel_readU32 L]

theorem rel_streamEntry (ext : Ext) : L.R (streamEntry ext) (streamEntry ext) := by
  unfold streamEntry; parser_rel L [rel_streamHeader L]

theorem rel_streamEntries (ext : Ext) : ∀ fuel, L.R (streamEntries ext fuel) (streamEntries ext fuel)
  | 0 => L.pure _
  | fuel + 1 => by
    unfold streamEntries; parser_rel L [rel_streamEntries ext fuel, rel_streamEntry L _]

theorem rel_streamCentralLoop : ∀ fuel, L.R (streamCentralLoop fuel) (streamCentralLoop fuel)
  | 0 => L.pure _
  | fuel + 1 => by
    unfold streamCentralLoop
    parser_rel L [rel_streamCentralLoop fuel, rel_centralHeaderInner L _ _, rel_readU32 L]

theorem rel_streamVisitF (ext : Ext) (fuel₁ fuel₂ : Nat) :
    L.R (streamVisitF ext fuel₁ fuel₂) (streamVisitF ext fuel₁ fuel₂) := by
  unfold streamVisitF
  parser_rel L [rel_streamEntries L _ _, rel_centralHeaderInner L _ _, rel_streamCentralLoop L _]

end

section
variable (L : ParserRel m₁ m₂)

theorem rel_getDirectoryCounts (footer : Eocd) (cdeStart : Nat) :
    L.R (getDirectoryCounts footer cdeStart) (getDirectoryCounts footer cdeStart) := by
  have h := L.attempt (rel_parseLocator L.toParserRel₀)
  unfold getDirectoryCounts
  parser_rel L.toParserRel₀ [h, rel_findEocd64 L.toParserRel₀ _ _]

theorem rel_openArchive : L.R openArchive openArchive := by
  have h := fun n => L.attempt (L.seek (.start n))
  unfold openArchive
  parser_rel L.toParserRel₀ [h _, rel_findAndParseEocd L.toParserRel₀, rel_getDirectoryCounts L _ _,
    rel_readCentralLoop L.toParserRel₀ _ _]

end
end G

/-! ### A logic on `M` is a relation on the parsers; the model's parsers satisfy every logic -/

namespace MLogic
variable (L : MLogic)

theorem takeAll (n : Nat) : L.P (Model.takeAll n) :=
  L.ite (L.pure _) <| L.bind (L.read _) fun _ =>
    L.ite (L.pure _) <| L.ite (L.pure _) <| L.bind (L.read _) fun _ => L.pure _

/-- `L` as a relation that does not look at its second argument.  Not reducible: the walker's `dsimp only` would
unfold it and leave a goal its binary rules do not fit. -/
def rel₀ : ParserRel₀ M M where
  R x _ := L.P x
  pure := L.pure
  bind := L.bind
  throw := L.throw
  seek := L.seek
  readExact := L.readExact
  takeAll := L.takeAll

def rel (hatt : ∀ {α : Type} {x : M α}, L.P x → L.P (M.attempt x)) : ParserRel M M where
  toParserRel₀ := L.rel₀
  attempt := hatt

/-- A walk of a function written in `M` starts here: the walker wants both sides of the relation in the goal. -/
theorem of_rel {α : Type} {x : M α} (h : L.rel₀.R x x) : L.P x := h

/-- The form in which a walk of a function written in `M` takes its facts (bound by `have` before the walk: the walker
elaborates a term of its list again at every node). -/
theorem to_rel {α : Type} {x : M α} (h : L.P x) : L.rel₀.R x x := h

/-! The leaves as the model's bodies spell them (`M.throw`, not `ioThrow`: under `with_reducible` the two do not unify). -/

theorem throwR {α : Type} (e : ZErr) : L.rel₀.R (M.throw e : M α) (M.throw e) := L.throw e

theorem seekR (s : SeekFrom) : L.rel₀.R (M.seek s) (M.seek s) := L.seek s

theorem takeAllR (n : Nat) : L.rel₀.R (Model.takeAll n) (Model.takeAll n) := L.takeAll n

theorem findAndParseEocd : L.P Model.findAndParseEocd := G.findAndParseEocd_M ▸ G.rel_findAndParseEocd L.rel₀

theorem parseLocator : L.P Model.parseLocator := G.parseLocator_M ▸ G.rel_parseLocator L.rel₀

theorem findEocd64 (nominal upper : Nat) : L.P (Model.findEocd64 nominal upper) :=
  G.findEocd64_M nominal upper ▸ G.rel_findEocd64 L.rel₀ nominal upper

theorem centralHeaderInner (off start : Nat) : L.P (Model.centralHeaderInner off start) :=
  G.centralHeaderInner_M off start ▸ G.rel_centralHeaderInner L.rel₀ off start

theorem centralHeader (off : Nat) : L.P (Model.centralHeader off) :=
  G.centralHeader_M off ▸ G.rel_centralHeader L.rel₀ off

theorem readCentralLoop (off n : Nat) : L.P (Model.readCentralLoop off n) :=
  G.readCentralLoop_M off n ▸ G.rel_readCentralLoop L.rel₀ off n

theorem findContent (hp : ∀ s, L.P (M.panic s : M Nat)) (f : FileData) : L.P (Model.findContent f) :=
  G.findContent_M f ▸ G.rel_findContent L.rel₀ hp f

theorem streamHeader : L.P Model.streamHeader := G.streamHeader_M ▸ G.rel_streamHeader L.rel₀

theorem streamEntries (ext : Ext) (fuel : Nat) : L.P (Model.streamEntries ext fuel) :=
  G.streamEntries_M ext fuel ▸ G.rel_streamEntries L.rel₀ ext fuel

theorem streamCentralLoop (fuel : Nat) : L.P (Model.streamCentralLoop fuel) :=
  G.streamCentralLoop_M fuel ▸ G.rel_streamCentralLoop L.rel₀ fuel

theorem streamVisit (hget : L.P M.getDev) (ext : Ext) : L.P (Model.streamVisit ext) :=
  G.streamVisit_M ext ▸ L.bind hget fun _ => G.rel_streamVisitF L.rel₀ ext _ _

section
variable (hatt : ∀ {α : Type} {x : M α}, L.P x → L.P (M.attempt x))
include hatt

theorem getDirectoryCounts (footer : Eocd) (cdeStart : Nat) : L.P (Model.getDirectoryCounts footer cdeStart) :=
  G.getDirectoryCounts_M footer cdeStart ▸ G.rel_getDirectoryCounts (L.rel hatt) footer cdeStart

theorem openArchive : L.P Model.openArchive := G.openArchive_M ▸ G.rel_openArchive (L.rel hatt)

end
end MLogic
end ZipVerif.Model
