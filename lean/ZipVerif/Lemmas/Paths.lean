import ZipVerif.Model.Paths
/- Lemmas about the path model: splitting on '/', `components`, the depth walk of `enclosed_name` against
lexical normalisation, and `mangled_name` (used by C06, the filesystem lemmas and the Tie obligations). -/

namespace ZipVerif.Model.Paths
open ZipVerif.Spec.Paths

/-! ### splitting on '/' -/

theorem segments_nil : segments [] = [[]] := rfl

theorem segments_cons (c : Char) (r : Name) : segments (c :: r) = splitStep c (segments r) := rfl

theorem segments_ne_nil (n : Name) : segments n ≠ [] := by
  induction n with
  | nil => simp [segments_nil]
  | cons c r ih =>
    rw [segments_cons]; unfold splitStep
    split
    · simp
    · split <;> simp

theorem segments_slash (r : Name) : segments ('/' :: r) = [] :: segments r := by
  rw [segments_cons]; simp [splitStep]

theorem segments_length_le (n : Name) : (segments n).length ≤ n.length + 1 := by
  induction n with
  | nil => simp [segments_nil]
  | cons c r ih =>
    rw [segments_cons]; unfold splitStep
    split
    · simp; omega
    · split
      · simp
      · next h => rw [h] at ih; simp at ih ⊢; omega

theorem segments_append_slash (c t : Name) (hc : '/' ∉ c) :
    segments (c ++ '/' :: t) = c :: segments t := by
  induction c with
  | nil => exact segments_slash t
  | cons a c ih =>
    have ha : a ≠ '/' := fun h => hc (by simp [h])
    have hc' : '/' ∉ c := fun h => hc (by simp [h])
    rw [List.cons_append, segments_cons, ih hc']
    simp [splitStep, ha]

theorem segments_noslash (c : Name) (hc : '/' ∉ c) : segments c = [c] := by
  induction c with
  | nil => rfl
  | cons a c ih =>
    have ha : a ≠ '/' := fun h => hc (by simp [h])
    have hc' : '/' ∉ c := fun h => hc (by simp [h])
    rw [segments_cons, ih hc']
    simp [splitStep, ha]

theorem mem_segments (n : Name) : ∀ s ∈ segments n, '/' ∉ s ∧ ∀ x ∈ s, x ∈ n := by
  induction n with
  | nil => simp [segments_nil]
  | cons c r ih =>
    have up : ∀ s ∈ segments r, '/' ∉ s ∧ ∀ x ∈ s, x ∈ c :: r :=
      fun s hs => ⟨(ih s hs).1, fun x hx => List.mem_cons_of_mem _ ((ih s hs).2 x hx)⟩
    rw [segments_cons]; unfold splitStep
    split
    · simpa using up
    · next hne =>
      split
      · simpa using Ne.symm hne
      · next s0 ss hseg =>
        rw [hseg] at up
        simp only [List.mem_cons, forall_eq_or_imp] at up ⊢
        refine ⟨⟨?_, ?_⟩, up.2⟩
        · simpa [Ne.symm hne] using up.1.1
        · exact ⟨by simp, up.1.2⟩
/-! ### classification of segments -/

theorem rootDir_not_mem_body (segs : List Name) : Comp.rootDir ∉ body segs := by
  unfold body
  intro h
  obtain ⟨s, _, hs⟩ := List.mem_filterMap.mp h
  unfold classify at hs
  split at hs; · cases hs
  split at hs; · cases hs
  split at hs <;> cases hs

theorem body_length_le (segs : List Name) : (body segs).length ≤ segs.length :=
  List.length_filterMap_le _ _

/-- `components` without the case distinction on the empty name: a leading '/' gives `RootDir`, a leading
"." segment gives `CurDir`, everything else goes through `body`. -/
theorem components_eq (n : Name) :
    components n =
      if n.head? = some '/' then .rootDir :: body (segments n.tail)
      else if (segments n).head? = some ['.'] then .curDir :: body (segments n).tail
      else body (segments n) := by
  unfold components
  split
  · rfl
  · next c r =>
    by_cases hc : c = '/'
    · simp [hc]
    · simp only [hc, if_false, List.head?_cons, Option.some.injEq, List.tail_cons]
      split
      · next h => exact absurd h (segments_ne_nil _)
      · next s rest hseg => simp [hseg]

theorem rootDir_mem_components_iff (n : Name) :
    Comp.rootDir ∈ components n ↔ n.head? = some '/' := by
  rw [components_eq]
  split
  · simpa
  · split <;> simp [rootDir_not_mem_body, *]

/-- At most `len + 1` components: the depth counter of `enclosed_name` cannot overflow `usize`. -/
theorem components_length_le (n : Name) : (components n).length ≤ n.length + 1 := by
  have h1 := segments_length_le n
  have h2 := segments_length_le n.tail
  have h3 := body_length_le (segments n)
  have h4 := body_length_le (segments n.tail)
  have h5 := body_length_le (segments n).tail
  have h6 : n.head? = some '/' → 1 ≤ n.length := by cases n <;> simp
  rw [components_eq]
  split
  · next h => have := h6 h; simp only [List.length_cons, List.length_tail] at *; omega
  · split <;> simp only [List.length_cons, List.length_tail] at * <;> omega

/-! ### the depth walk -/

theorem walk_le (cs : List Comp) (d d' : Nat) (h : walk cs d = some d') : d' ≤ d + cs.length := by
  fun_induction walk cs d <;> simp_all <;> omega

theorem walk_append (a b : List Comp) (d : Nat) : walk (a ++ b) d = (walk a d).bind (walk b) := by
  fun_induction walk a d <;> simp_all [walk]

theorem walk_map_normal (l : List Name) (d : Nat) : walk (l.map Comp.normal) d = some (d + l.length) := by
  induction l generalizing d with
  | nil => rfl
  | cons a l ih => simp [walk, ih]; omega

theorem forall_take_cons {α} (p : List α → Prop) (c : α) (r : List α) :
    (∀ k, p ((c :: r).take k)) ↔ p [] ∧ ∀ k, p (c :: r.take k) :=
  ⟨fun h => ⟨h 0, fun k => h (k + 1)⟩, fun h k => by cases k <;> simp [h.1, h.2]⟩

theorem walk_isSome_iff (cs : List Comp) (d : Nat) :
    (walk cs d).isSome ↔ Comp.rootDir ∉ cs ∧ ∀ k, 0 ≤ (d : Int) + depth (cs.take k) := by
  fun_induction walk cs d with
  | case1 d => simp [depth]
  | case2 => simp
  | case3 r =>
    suffices ∃ k, depth ((Comp.parentDir :: r).take k) < 0 by simpa using fun _ => this
    exact ⟨1, by simp [depth]⟩
  | case4 r d hd ih =>
    rw [ih, forall_take_cons (fun l => 0 ≤ (d : Int) + depth l)]
    have : ∀ x : Int, 0 ≤ ((d - 1 : Nat) : Int) + x ↔ 0 ≤ (d : Int) + (-1 + x) := fun x => by omega
    simp [depth, this]
  | case5 s r d ih =>
    rw [ih, forall_take_cons (fun l => 0 ≤ (d : Int) + depth l)]
    simp [depth, Int.add_assoc]
  | case6 r d ih =>
    rw [ih, forall_take_cons (fun l => 0 ≤ (d : Int) + depth l)]
    simp [depth]

theorem walk_take_isSome (cs : List Comp) (d k : Nat) (h : (walk cs d).isSome) :
    (walk (cs.take k) d).isSome := by
  rw [← List.take_append_drop k cs, walk_append] at h
  cases hw : walk (cs.take k) d with
  | none => simp [hw] at h
  | some _ => rfl

/-- The lexical-normalisation stack machine, started on `base ++ r`, run over a walk that the
checked depth counter (started at `r.length`) accepts, never touches `base`; the counter is the height
of the stack above `base`. -/
theorem resolveFrom_of_walk (base : List Name) (cs : List Comp) (r : List Name) (d d' : Nat)
    (hd : d = r.length) (h : walk cs d = some d') :
    resolveFrom (base ++ r) cs = base ++ resolveFrom r cs ∧ (resolveFrom r cs).length = d' := by
  fun_induction walk cs d generalizing r with
  | case1 d => simp_all [resolveFrom]
  | case2 => cases h
  | case3 => cases h
  | case4 cs d hd0 ih =>
    have hr : r ≠ [] := fun e => hd0 (by simp [hd, e])
    have := ih r.dropLast (by simp [hd]) h
    simpa [resolveFrom, resolveStep, List.dropLast_append_of_ne_nil hr] using this
  | case5 s cs d ih =>
    have := ih (r ++ [s]) (by simp [hd]) h
    simpa [resolveFrom, resolveStep] using this
  | case6 cs d ih => simpa [resolveFrom, resolveStep] using ih r hd h

theorem resolveFrom_append (st : List Name) (a b : List Comp) :
    resolveFrom st (a ++ b) = resolveFrom (resolveFrom st a) b := by
  simp [resolveFrom, List.foldl_append]

theorem resolveFrom_normals (st base : List Name) :
    resolveFrom st (base.map Comp.normal) = st ++ base := by
  induction base generalizing st with
  | nil => simp [resolveFrom]
  | cons b bs ih =>
    have := ih (st ++ [b])
    simp only [resolveFrom, List.map_cons, List.foldl_cons, resolveStep] at this ⊢
    rw [this]; simp

/-- Joining an accepted walk onto ANY base — relative or absolute, normalised or not, from any working
directory — never climbs above the directory the base resolves to. -/
theorem staysInsideAny_of_walk (cwd : List Name) (base cs : List Comp) (h : (walk cs 0).isSome) :
    StaysInsideAny cwd base cs := by
  intro k
  obtain ⟨d', hd'⟩ := Option.isSome_iff_exists.mp (walk_take_isSome cs 0 k h)
  have := (resolveFrom_of_walk (resolveFrom cwd base) (cs.take k) [] 0 d' rfl hd').1
  exact ⟨_, by rw [resolveFrom_append]; simpa using this⟩

theorem staysInside_iff_any (base : List Name) (cs : List Comp) :
    StaysInside base cs ↔ StaysInsideAny [] (base.map Comp.normal) cs := by
  unfold StaysInside StaysInsideAny joinResolve resolve
  simp only [resolveFrom_normals, List.nil_append]

theorem staysInside_of_walk (base : List Name) (cs : List Comp) (h : (walk cs 0).isSome) :
    StaysInside base cs :=
  (staysInside_iff_any base cs).mpr (staysInsideAny_of_walk [] _ cs h)

/-! ### `enclosed_name` -/

theorem enclosedName_eq_some {n p : Name} :
    enclosedName n = some p ↔ p = n ∧ '\x00' ∉ n ∧ (walk (components n) 0).isSome := by
  unfold enclosedName
  by_cases h0 : '\x00' ∈ n
  · simp [h0]
  · cases walk (components n) 0 <;> simp [h0, eq_comm]

theorem enclosedName_isSome {n : Name} :
    (enclosedName n).isSome ↔ '\x00' ∉ n ∧ (walk (components n) 0).isSome := by
  rw [Option.isSome_iff_exists]
  simp [enclosedName_eq_some]

/-! ### `mangled_name` -/

def Plain (s : Name) : Prop := s ≠ [] ∧ '/' ∉ s ∧ s ≠ ['.'] ∧ s ≠ ['.', '.']

theorem ordinary_iff (s : Name) : ordinary s = true ↔ s ≠ [] ∧ s ≠ ['.'] ∧ s ≠ ['.', '.'] := by
  simp [ordinary, and_assoc]

theorem classify_bind_normalOnly (s : Name) :
    (classify s).bind normalOnly = if ordinary s then some s else none := by
  unfold classify
  by_cases h1 : s = []
  · subst h1; simp [ordinary]
  · by_cases h2 : s = ['.']
    · subst h2; simp [ordinary]
    · by_cases h3 : s = ['.', '.']
      · subst h3; simp [ordinary, normalOnly]
      · have : ordinary s = true := (ordinary_iff s).mpr ⟨h1, h2, h3⟩
        simp [h1, h2, h3, this, normalOnly]

theorem body_filterMap_normalOnly (segs : List Name) :
    (body segs).filterMap normalOnly = segs.filter ordinary := by
  rw [body, List.filterMap_filterMap, ← List.filterMap_eq_filter]
  congr 1; funext s
  rw [classify_bind_normalOnly]; rfl

theorem components_filterMap_normalOnly (n : Name) :
    (components n).filterMap normalOnly = (segments n).filter ordinary := by
  rw [components_eq]
  split
  · next h =>
    obtain ⟨r, rfl⟩ : ∃ r, n = '/' :: r := by cases n <;> simp_all
    rw [segments_slash]
    exact body_filterMap_normalOnly _
  · split
    · next h =>
      obtain ⟨rest, hs⟩ : ∃ rest, segments n = ['.'] :: rest := by
        cases hsn : segments n <;> simp_all
      rw [hs]
      exact body_filterMap_normalOnly _
    · exact body_filterMap_normalOnly _

theorem plain_of_mem_segments_ordinary (n s : Name) (hs : s ∈ (segments n).filter ordinary) :
    Plain s ∧ ∀ x ∈ s, x ∈ n := by
  obtain ⟨h1, h2⟩ := List.mem_filter.mp hs
  obtain ⟨h3, h4⟩ := mem_segments n s h1
  obtain ⟨a, b, c⟩ := (ordinary_iff s).mp h2
  exact ⟨⟨a, h3, b, c⟩, h4⟩

/-- `'/'`-prefixed concatenation of the remaining components. -/
def slashed (l : List Name) : Name := l.flatMap fun s => '/' :: s

theorem getLast?_ne_slash {c : Name} (h1 : c ≠ []) (h2 : '/' ∉ c) :
    ∃ l, c.getLast? = some l ∧ l ≠ '/' := by
  refine ⟨c.getLast h1, List.getLast?_eq_some_getLast h1, ?_⟩
  intro e
  exact h2 (e ▸ List.getLast_mem h1)

theorem head?_ne_slash {c : Name} (h2 : '/' ∉ c) : c.head? ≠ some '/' := by
  intro e
  cases c with
  | nil => cases e
  | cons a c => simp at e; subst e; simp at h2

theorem foldl_push_nonempty (buf : Name) (l : List Name)
    (hb : ∃ x, buf.getLast? = some x ∧ x ≠ '/') (hl : ∀ s ∈ l, Plain s) :
    l.foldl push buf = buf ++ slashed l := by
  induction l generalizing buf with
  | nil => simp [slashed]
  | cons c r ih =>
    obtain ⟨x, hx, hx'⟩ := hb
    obtain ⟨c1, c2, _, _⟩ := hl c (by simp)
    have hp : push buf c = buf ++ '/' :: c := by
      unfold push
      rw [if_neg (head?_ne_slash c2), hx]
      simp [hx']
    rw [List.foldl_cons, hp, ih]
    · simp [slashed]
    · obtain ⟨y, hy, hy'⟩ := getLast?_ne_slash c1 c2
      refine ⟨y, ?_, hy'⟩
      rw [List.getLast?_append, List.getLast?_cons, hy]; simp
    · exact fun s hs => hl s (List.mem_cons_of_mem _ hs)

/-- `c1/c2/…/ck`. -/
def joinSlash : List Name → Name
  | [] => []
  | c :: r => c ++ slashed r

/-- Folding plain components into an empty `PathBuf` gives `c1/c2/…/ck`. -/
theorem foldl_push_nil (l : List Name) (hl : ∀ s ∈ l, Plain s) :
    l.foldl push [] = joinSlash l := by
  cases l with
  | nil => rfl
  | cons c r =>
    obtain ⟨c1, c2, _, _⟩ := hl c (by simp)
    have hp : push [] c = c := by
      unfold push
      rw [if_neg (head?_ne_slash c2)]
      simp
    rw [List.foldl_cons, hp]
    exact foldl_push_nonempty c r (getLast?_ne_slash c1 c2) (fun s hs => hl s (List.mem_cons_of_mem _ hs))

theorem segments_plain_slashed (c : Name) (r : List Name) (hc : '/' ∉ c) (hr : ∀ s ∈ r, Plain s) :
    segments (c ++ slashed r) = c :: r := by
  induction r generalizing c with
  | nil => simp [slashed, segments_noslash c hc]
  | cons d r ih =>
    have hd := (hr d (by simp)).2.1
    have : slashed (d :: r) = '/' :: (d ++ slashed r) := by simp [slashed]
    rw [this, segments_append_slash c _ hc, ih d hd (fun s hs => hr s (List.mem_cons_of_mem _ hs))]

theorem body_plain (l : List Name) (hl : ∀ s ∈ l, Plain s) : body l = l.map Comp.normal := by
  induction l with
  | nil => rfl
  | cons c r ih =>
    obtain ⟨c1, _, c3, c4⟩ := hl c (by simp)
    unfold body at ih ⊢
    rw [List.filterMap_cons]
    have : classify c = some (.normal c) := by simp [classify, c1, c3, c4]
    rw [this, ih (fun s hs => hl s (List.mem_cons_of_mem _ hs))]
    rfl

theorem components_foldl_push (l : List Name) (hl : ∀ s ∈ l, Plain s) :
    components (l.foldl push []) = l.map Comp.normal := by
  rw [foldl_push_nil l hl]
  cases l with
  | nil => rfl
  | cons c r =>
    obtain ⟨c1, c2, c3, c4⟩ := hl c (by simp)
    have hr : ∀ s ∈ r, Plain s := fun s hs => hl s (List.mem_cons_of_mem _ hs)
    have hseg := segments_plain_slashed c r c2 hr
    simp only [joinSlash]
    cases c with
    | nil => exact absurd rfl c1
    | cons a c =>
      have ha : a ≠ '/' := fun h => c2 (by simp [h])
      rw [List.cons_append] at hseg ⊢
      unfold components
      simp only [ha, if_false]
      rw [hseg]
      simp only [c3, if_false]
      exact body_plain _ hl

theorem of_mem_takeWhile {α} (p : α → Bool) (l : List α) (x : α) (h : x ∈ l.takeWhile p) :
    p x = true := by
  induction l with
  | nil => simp at h
  | cons a l ih =>
    rw [List.takeWhile_cons] at h
    split at h
    · next hp =>
      rcases List.mem_cons.mp h with e | e
      · exact e ▸ hp
      · exact ih e
    · simp at h

theorem nul_not_mem_truncNul (n : Name) : '\x00' ∉ truncNul n := fun h => by
  simpa using of_mem_takeWhile _ _ _ h

/-- `&name[0..first NUL]` is followed by nothing or by a NUL. -/
theorem truncNul_append (n : Name) :
    ∃ rest, n = truncNul n ++ rest ∧ (rest = [] ∨ rest.head? = some '\x00') := by
  refine ⟨n.dropWhile (· != '\x00'), (List.takeWhile_append_dropWhile).symm, ?_⟩
  induction n with
  | nil => simp
  | cons a r ih =>
    rw [List.dropWhile_cons]
    split
    · exact ih
    · next hh => right; simpa using hh

theorem truncNul_split (n : Name) (h : '\x00' ∈ n) : ∃ rest, n = truncNul n ++ '\x00' :: rest := by
  obtain ⟨rest, e, hr⟩ := truncNul_append n
  cases rest with
  | nil => rw [List.append_nil] at e; exact absurd (e ▸ h) (nul_not_mem_truncNul n)
  | cons a r => exact ⟨r, by simpa [show a = '\x00' by simpa using hr] using e⟩

theorem truncNul_of_not_mem (n : Name) (h : '\x00' ∉ n) : truncNul n = n := by
  obtain ⟨rest, e, hr⟩ := truncNul_append n
  cases rest with
  | nil => simpa using e.symm
  | cons a r => exact absurd (e ▸ by simp [show a = '\x00' by simpa using hr]) h

theorem mem_toMainSep_truncNul (n : Name) :
    ∀ x ∈ toMainSep (truncNul n), x ≠ '\x00' ∧ x ≠ '\\' := by
  intro x hx
  unfold toMainSep at hx
  obtain ⟨y, hy, rfl⟩ := List.mem_map.mp hx
  have hy0 : y ≠ '\x00' := fun e => nul_not_mem_truncNul n (e ▸ hy)
  split
  · exact ⟨by decide, by decide⟩
  · next h => exact ⟨hy0, h⟩

end ZipVerif.Model.Paths
