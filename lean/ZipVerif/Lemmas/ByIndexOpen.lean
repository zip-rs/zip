import ZipVerif.Model.ReaderOpen
/-
What `byIndexRead` is: the open half `byIndexOpen` (lookup, password gate, `find_content`, the decision `cryptoChoice`)
followed by the read half `readChoice` (one arm per decision).  Panic-freedom and the inner outcome
(`Lemmas/ReaderTotal`), the inversion of a run that returns (`Lemmas/EntryBridge`) and the forward runs
(`Lemmas/ReadEntryAt`, `Lemmas/ReadWf`) are proved per half and joined by the bind rule of the logic at hand; the
method gate is passed once, by `cryptoChoice_eq`.
-/

namespace ZipVerif.Model
open ZipVerif

/-- The decision looks at the method only to refuse it: a decodable one decides as `.stored` does. -/
theorem cryptoChoice_eq (m : Method) (crc : UInt32) (t : DateTime) (udd : Bool) (pw : Option Bytes)
    (aes : Option (AesMode × AesVendorVersion)) :
    cryptoChoice m crc t udd pw aes =
      if m.decodable then cryptoChoice .stored crc t udd pw aes else .unsupported := by
  cases m <;> rfl

/-- Associativity and left identity of `M` at the one shape `byIndexOpen` has (no `LawfulMonad M` this low). -/
private theorem M.bind_pure_bind {α β γ} (x : M α) (g : α → β) (k : β → M γ) :
    (x >>= fun a => pure (g a)) >>= k = x >>= fun a => k (g a) := by
  funext fa d
  dsimp only [bind, M.instMonad]
  rcases x fa d with ⟨_ | _ | _, _⟩ <;> rfl

theorem byIndexRead_eq_open (ext : Ext) (a : Archive) (i : Nat) (pw : Option Bytes) :
    byIndexRead ext a i pw = byIndexOpen a i pw >>= fun r => readChoice ext r.1 r.2.1 r.2.2 := by
  unfold byIndexRead byIndexOpen
  cases a.files[i]? with
  | none => rfl
  | some data =>
    dsimp only
    split
    · rfl
    · refine Eq.trans ?_ (M.bind_pure_bind _ _ _).symm
      refine congrArg _ (funext fun ds => ?_)
      unfold readChoice
      generalize (if data.encrypted = true then pw else none) = p
      rcases p with _ | p <;> rcases data.aesMode with _ | ⟨mode, vv⟩
      · cases data.method <;> rfl
      · cases data.method <;> rfl
      · -- ZipCrypto: the two texts choose the check byte before / after the validator is named
        cases data.usingDataDescriptor <;> cases data.method <;> rfl
      · cases data.method <;> rfl

end ZipVerif.Model
