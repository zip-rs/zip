import ZipVerif.Model.IO
/-
A logic of the reader: a predicate on computations in `M` that is closed under what the reader model is written with.
Such a predicate holds of every model function by one induction over the function's body, done once for an arbitrary
`MLogic` (`Lemmas/ParserRel` for the parsers that exist generically, `Lemmas/MWalk` for the functions written in `M`
only); panic-freedom, read-only-ness, fault transparency, independence of the call counter are instances.
-/

namespace ZipVerif.Model
open ZipVerif

/-- The core every logic of the reader has: `pure`, bind, `throw` and the two device primitives.  Closure under
`attempt`, `getDev`, `retried` or `panic` differs from logic to logic (`NoPanic` is not closed under `panic`, `Tight` not
under `attempt`, `Shiftable` not under `getDev`): a walk asks for it as a hypothesis where the body uses it. -/
structure MLogic where
  P : {α : Type} → M α → Prop
  pure : ∀ {α : Type} (a : α), P (Pure.pure a : M α)
  bind : ∀ {α β : Type} {x : M α} {f : α → M β}, P x → (∀ a, P (f a)) → P (x >>= f)
  throw : ∀ {α : Type} (e : ZErr), P (M.throw e : M α)
  read : ∀ n : Nat, P (M.read n)
  seek : ∀ s : SeekFrom, P (M.seek s)

namespace MLogic
variable (L : MLogic)

theorem ite {α : Type} {c : Prop} [Decidable c] {x y : M α} (hx : L.P x) (hy : L.P y) :
    L.P (if c then x else y) := by
  split
  · exact hx
  · exact hy

theorem readExact (n : Nat) : L.P (M.readExact n) :=
  L.ite (L.pure _) <| L.bind (L.read _) fun _ =>
    L.ite (L.pure _) <| L.ite (L.throw _) <| L.bind (L.read _) fun _ => L.throw _

theorem readU8 : L.P M.readU8 :=
  L.bind (L.readExact 1) fun r => by
    split
    · exact L.pure _
    · exact L.throw _

theorem readU16 : L.P M.readU16 :=
  L.bind (L.readExact 2) fun r => by
    split
    · exact L.pure _
    · exact L.throw _

theorem readU32 : L.P M.readU32 :=
  L.bind (L.readExact 4) fun r => by
    split
    · exact L.pure _
    · exact L.throw _

end MLogic
end ZipVerif.Model
