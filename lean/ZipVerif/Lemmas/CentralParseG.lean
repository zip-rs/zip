import ZipVerif.Lemmas.CentralParseZ
/-
The instance of `Lemmas/CentralParseZ` for `LayoutG`'s placed ZIP64 record: the central ZIP64 record at any position
among foreign records, with the optional 4-byte disk-start field (`Spec.Zip.Z64Place`, `centralRecordG`).

The reader walks all records of the extra field; a record it does not interpret is skipped by its declared
length (`parseExtra_front`, after `splitRecords` has cut the foreign records at the place); the 0x0001 record is
applied to the fields that currently hold the 0xFFFFFFFF marker, in the fixed order uncompressed size, compressed size,
offset, and what is left of it (the disk-start field) is skipped (`parseExtraField_z64` of `Lemmas/ParseExtra`,
`parseExtra_central` of `Lemmas/CentralParseZ`).  Results: `extra_on_centralG`, `parses_centralHeaderG`.
-/

namespace ZipVerif.Spec.Zip
open ZipVerif

theorem splitRecords_append : ∀ (n : Nat) (bs : Bytes), (splitRecords n bs).1 ++ (splitRecords n bs).2 = bs := by
  intro n
  induction n with
  | zero => intro bs; rfl
  | succ n ih =>
    intro bs
    unfold splitRecords
    cases h1 : rd16 bs with
    | none => rfl
    | some v1 =>
      obtain ⟨id, r1⟩ := v1
      dsimp only
      cases h2 : rd16 r1 with
      | none => rfl
      | some v2 =>
        obtain ⟨len, r2⟩ := v2
        dsimp only
        by_cases hl : len.toNat ≤ r2.length
        · rw [if_pos hl]
          dsimp only
          rw [rd16_eq h1, rd16_eq h2]
          simp only [List.append_assoc]
          rw [ih, List.take_append_drop]
        · rw [if_neg hl]; rfl

theorem splitRecords_record (n : Nat) (id len : UInt16) (pay rest : Bytes) (hl : pay.length = len.toNat) :
    splitRecords (n + 1) (le16 id ++ (le16 len ++ (pay ++ rest))) =
      (le16 id ++ (le16 len ++ (pay ++ (splitRecords n rest).1)), (splitRecords n rest).2) := by
  simp only [splitRecords, rd16_le16, ← hl, List.length_append, Nat.le_add_right, if_true, List.take_left,
    List.drop_left]

theorem splitRecords_ok (a : Bool) (n : Nat) : ∀ (fuel : Nat) (bs : Bytes), extraOkZAux a fuel bs = true →
    extraOkZAux a fuel (splitRecords n bs).1 = true ∧ extraOkZAux a fuel (splitRecords n bs).2 = true := by
  induction n with
  | zero => exact fun fuel _ h => ⟨extraOkZAux_nil a fuel, h⟩
  | succ n ih =>
    intro fuel bs h
    cases fuel with
    | zero => rw [(extraOkZAux_zero a bs).mp h]; exact ⟨rfl, rfl⟩
    | succ fuel =>
      obtain rfl | ⟨id, len, pay, rest, rfl, hl, hid, h99, hr⟩ := (extraOkZAux_succ a fuel bs).mp h
      · exact ⟨rfl, rfl⟩
      · rw [splitRecords_record n id len pay rest hl]
        obtain ⟨h1, h2⟩ := ih fuel rest hr
        exact ⟨(extraOkZAux_succ a fuel _).mpr (.inr ⟨id, len, pay, _, rfl, hl, hid, h99, h1⟩),
          extraOkZAux_fuel a _ _ _ (Nat.le_succ _) h2⟩

theorem diskBytes_length (d : Option UInt32) : (diskBytes d).length = if d.isSome then 4 else 0 := by
  cases d <;> rfl

/-- the default placement is where `centralRecord` puts the record -/
theorem centralExtraAllG_default (e : Entry) (off : UInt64) : e.centralExtraAllG off {} = e.centralExtraAll off := by
  unfold Entry.centralExtraAllG Entry.centralExtraAll
  simp [splitRecords, centralZ64G_none]

theorem centralRecordG_default (e : Entry) (off : UInt64) : centralRecordG e off {} = centralRecord e off := by
  rw [centralRecord_eq]
  unfold centralRecordG
  rw [centralExtraAllG_default]
  rfl

theorem viewEntryG_default (e : Entry) (off pre chs : Nat) : viewEntryG e off pre chs {} = viewEntry e off pre chs := by
  unfold viewEntryG
  rw [centralExtraAllG_default]
  rfl

/-- the extra field a reader reports consists of the foreign records and the ZIP64 record: nothing else -/
theorem centralExtraAllG_length (e : Entry) (off : UInt64) (pl : Z64Place) :
    (e.centralExtraAllG off pl).length = e.centralExtra.length + (e.centralZ64G off pl.disk).length := by
  have := congrArg List.length (splitRecords_append pl.pos e.centralExtra)
  simp only [List.length_append] at this
  simp only [Entry.centralExtraAllG, List.length_append]
  omega

end ZipVerif.Spec.Zip

namespace ZipVerif.Model
open ZipVerif ZipVerif.Spec.Zip

/-- **Foreign records in front are skipped**: with enough fuel for the whole field, a well-formed sequence of
records the reader does not interpret leaves the entry unchanged and the parser at the record that follows. -/
theorem parseExtra_front : ∀ (fuel : Nat) (front : Bytes), extraOkAux fuel front = true →
    ∀ (k : Nat) (f : FileData) (rest : Bytes), (front ++ rest).length < k →
      parseExtraField k f (front ++ rest) = parseExtraField k f rest := by
  intro fuel
  induction fuel with
  | zero => intro front h _ _ _ _; rw [List.isEmpty_iff.mp h]; rfl
  | succ n ih =>
    intro front h k f rest hk
    rw [← extraOkZAux_false] at h
    obtain rfl | ⟨id, len, pay, r, rfl, hl, hid, h99, hr⟩ := (extraOkZAux_succ false n front).mp h
    · rfl
    · obtain ⟨k, rfl⟩ : ∃ k', k = k' + 1 := ⟨k - 1, by omega⟩
      simp only [List.length_append, le16_length] at hk
      simp only [List.append_assoc]
      rw [parseExtraField_foreign k f _ (hid.resolve_right (by simp)) h99 hl,
        ih r (by rw [← extraOkZAux_false]; exact hr) k f rest (by rw [List.length_append]; omega)]
      exact (parseExtraField_fuel_mono k f rest 1 (by omega)).symm

/-- `parse_extra_field` on the ZIP64 extended information record with an optional disk-start field `dk` (no
bytes or four): every subset of the three 64-bit fields, the empty one included (a record that carries the
disk number only). -/
theorem parseExtra_z64G (f : FileData) (u c o : UInt64) (dk cx : Bytes) (k : Nat)
    (zu zc zo : Bool)
    (hu : (f.uncompressedSize == ZIP64_BYTES_THR) = zu) (hc : (f.compressedSize == ZIP64_BYTES_THR) = zc)
    (ho : (f.headerStart == ZIP64_BYTES_THR) = zo) (hd : dk.length = 0 ∨ dk.length = 4) :
    parseExtraField (k + 1) f
      (le16 1 ++ (le16 (UInt16.ofNat ((if zu then 8 else 0) + (if zc then 8 else 0) + (if zo then 8 else 0) +
          dk.length)) ++
        ((if zu then le64 u else []) ++ ((if zc then le64 c else []) ++ ((if zo then le64 o else []) ++
          (dk ++ cx))))))
    = parseExtraField k
        { f with largeFile := f.largeFile || zu || zc,
                 uncompressedSize := if zu then u else f.uncompressedSize,
                 compressedSize := if zc then c else f.compressedSize,
                 headerStart := if zo then o else f.headerStart } cx := by
  have h8 : ∀ b : Bool, (if b then 8 else 0) ≤ 8 := fun b => by cases b <;> simp
  exact parseExtraField_z64 f u c o dk cx k _ zu zc zo hu hc ho
    (by rw [UInt16.toNat_ofNat']; have := h8 zu; have := h8 zc; have := h8 zo; omega)

/-- the record the parser has built when it turns to the extra field of `centralRecordG` -/
def rawCentralG (e : Entry) (off64 : UInt64) (chs : Nat) (pl : Z64Place) : FileData :=
  { rawCentral e off64 chs with extraField := e.centralExtraAllG off64 pl }

/-- **The ZIP64 record at ANY position among foreign records, with or without the disk-start field**: the
parsed sizes and offset are the layout's. -/
theorem extra_on_centralG (e : Entry) (off64 : UInt64) (chs : Nat) (pl : Z64Place)
    (hx : ExtraOk e.centralExtra) (k : Nat) (hk : (e.centralExtraAllG off64 pl).length ≤ k) :
    parseExtraField (k + 1) (rawCentralG e off64 chs pl) (e.centralExtraAllG off64 pl) =
      ({ rawCentralG e off64 chs pl with
          largeFile := e.zU || e.zC, uncompressedSize := e.usize, compressedSize := e.csize,
          headerStart := off64 }, none) := by
  rw [ExtraOk, ← extraOkZAux_false] at hx
  obtain ⟨hfront, hback⟩ := splitRecords_ok false pl.pos _ _ hx
  unfold Entry.centralExtraAllG at hk ⊢
  rw [parseExtra_front _ _ (by rw [← extraOkZAux_false]; exact hfront) _ _ _ (by omega)]
  exact parseExtra_central e off64 pl.disk false _ _ (fun h => nomatch h) hback _ rfl rfl rfl rfl k

/-- **`central_header_to_zip_file` on a central record whose ZIP64 record sits at ANY position among the foreign
extra records and may carry the disk-start field** returns the view of that entry — sizes and offset from the
record, `large_file`, the whole extra field verbatim — consuming exactly the record. -/
theorem parses_centralHeaderG (e : Entry) (off ao p : Nat) (pl : Z64Place) (hf : e.Fits)
    (hx : ExtraOk e.centralExtra) (hm : e.method ≠ 99) (ho : off + ao < 2 ^ 64)
    (hxl : (e.centralExtraAllG (UInt64.ofNat off) pl).length ≤ 0xFFFF) :
    Parses (centralHeader ao) p (centralRecordG e (UInt64.ofNat off) pl) (viewEntryG e off ao p pl) := by
  unfold centralRecordG
  exact parses_centralHeader_of_inner fun q =>
    parses_centralInner_of_extra e off ao p q _ _ hf.1 hf.2.1 hxl hm ho
      (extra_on_centralG e _ p pl hx _ (Nat.le_refl _))

end ZipVerif.Model
