import ZipVerif.Lemmas.WLDefs
import ZipVerif.Lemmas.WLBytes
import ZipVerif.Lemmas.ZipLayout
/-
Record-level lemmas of the "writer emits a layout" development: what the model's serialisers write
is what the APPNOTE specification (`Spec/Zip.lean`) lays out.

The `Lemmas/WL…` files (WL = Writer, Layout; namespace `ZipVerif.WL`) are that development, at two
levels: `WLDefs`, `WLBytes`, `WLRecords`, `WLSteps` and, above the step lemmas, `WLLevel` serve both; Level 1 (`WLRun`,
`WLGoodP`, `WLGood`, `WLOrigin`) covers the calls listed in the header of `Lemmas/WLRun.lean`; Level 2 (`WL2Records`, `WL2Steps`, `WL2Run`,
`WL2Shape`, `WL2Good`, `WL2Origin`) covers the whole call alphabet (header of `Lemmas/WL2Records.lean`;
`WL2Steps` is used by Level 1 too).  The suffix `2` on `Op2`, `Open2`, `Ghost2`, `Lay2`, `Mode2`,
`ghostStep2` means Level 2.  On `localHdr2`, `hdrN2`, `hdrM2` below it means "with an extra-field length `xl` as a
parameter" (likewise `innerFor2`, `dataOf2`, `NormPost2`: with an encryption parameter); these are used
at both levels.
-/

namespace ZipVerif.WL
open ZipVerif ZipVerif.Model ZipVerif.Spec.Zip

/-! ### The local header, with an extra-field length `xl` -/

/-- first 14 bytes of a local header: signature, version, flags, method, time, date -/
def hdrA (f : FileData) (dp lv : UInt16) : Bytes :=
  le32 LOCAL_SIG ++ (le16 lv ++ (le16 (flagOf f) ++ (le16 f.method.toU16 ++ (le16 f.time.timepart ++ le16 dp))))

def hdrN2 (f : FileData) (xl : Nat) : Bytes :=
  le16 (UInt16.ofNat f.fileName.length) ++ (le16 (UInt16.ofNat xl) ++ f.fileName)

def hdrM2 (f : FileData) (xl : Nat) : Bytes :=
  le32 0xFFFFFFFF ++ (le32 0xFFFFFFFF ++ (le16 (UInt16.ofNat f.fileName.length) ++
    (le16 (UInt16.ofNat xl) ++ (f.fileName ++ (le16 0x0001 ++ le16 16)))))

/-- The local header of `f` whose extra-length field holds `xl` (the local ZIP64 record, when present,
is part of the header; foreign local extra data follow it in the sink). -/
def localHdr2 (f : FileData) (dp lv : UInt16) (xl : Nat) : Bytes :=
  if f.largeFile then
    hdrA f dp lv ++ (le32 f.crc32 ++ (hdrM2 f xl ++ (le64 f.uncompressedSize ++ le64 f.compressedSize)))
  else
    hdrA f dp lv ++ (le32 f.crc32 ++ (le32 (trunc32 f.compressedSize) ++
      (le32 (trunc32 f.uncompressedSize) ++ hdrN2 f xl)))

/-- the length of the local ZIP64 record -/
def z64len (f : FileData) : Nat := if f.largeFile then 20 else 0

theorem hdrA_length (f : FileData) (dp lv : UInt16) : (hdrA f dp lv).length = 14 := by
  simp [hdrA]

theorem hdrM2_length (f : FileData) (xl : Nat) : (hdrM2 f xl).length = 16 + f.fileName.length := by
  simp [hdrM2]; omega

theorem hdrN2_length (f : FileData) (xl : Nat) : (hdrN2 f xl).length = 4 + f.fileName.length := by
  simp [hdrN2]; omega

theorem localHdr2_length (f : FileData) (dp lv : UInt16) (xl : Nat) :
    (localHdr2 f dp lv xl).length = 30 + f.fileName.length + z64len f := by
  unfold localHdr2 z64len
  split <;> simp [hdrA_length, hdrM2_length, hdrN2_length] <;> omega

theorem localHdr2_extra (f : FileData) (x : Bytes) (ds : UInt64) (dp lv : UInt16) (xl : Nat) :
    localHdr2 { f with extraField := x, dataStart := ds } dp lv xl = localHdr2 f dp lv xl := rfl

/-- What `write_local_file_header` writes. -/
theorem ser_localHeaderChunks {f : FileData} {cs : List Bytes} (h : localHeaderChunks f = .ok cs)
    (hx : f.extraField = []) :
    ∃ dp, f.time.datepart = some dp ∧ ser cs = localHdr2 f dp f.versionNeeded (z64len f) := by
  unfold localHeaderChunks datepartOut localExtraLen at h
  rw [hx] at h
  cases hdp : f.time.datepart with
  | none => rw [hdp] at h; cases h
  | some dp =>
    rw [hdp] at h
    refine ⟨dp, rfl, ?_⟩
    cases hl : f.largeFile with
    | false =>
      rw [hl] at h
      simp only [Bool.false_eq_true, if_false, List.length_nil, Nat.zero_mod, Nat.add_zero] at h
      have h2 : cs = _ := (Out.ok.inj h).symm
      subst h2
      simp [ser, localHdr2, z64len, hl, hdrA, hdrN2]
    | true =>
      rw [hl] at h
      simp only [if_true, List.length_nil, Nat.zero_mod, Nat.add_zero] at h
      have h2 : cs = _ := (Out.ok.inj h).symm
      subst h2
      simp [ser, localHdr2, z64len, hl, hdrA, hdrM2, localZip64Chunks]

/-- The header does not depend on `dataStart` (set after the header was written). -/
theorem localHeaderChunks_dataStart (f : FileData) (ds : UInt64) :
    localHeaderChunks { f with dataStart := ds } = localHeaderChunks f := rfl

/-- Back-patch of the extra-field length at offset 28 (`end_extra_data`): 28 = 14 (`hdrA`) + 4 + 4 + 4 + 2, the
extra length is the sixth field in either form of the header. -/
theorem patch_xlen (A B : Bytes) (f : FileData) (dp lv : UInt16) (xl xl' : Nat) (p : Nat)
    (hp : p = A.length) :
    writeAt (A ++ (localHdr2 f dp lv xl ++ B)) (p + 28) (le16 (UInt16.ofNat xl')) =
      A ++ (localHdr2 f dp lv xl' ++ B) := by
  subst hp
  have hA := hdrA_length f dp lv
  unfold localHdr2
  cases f.largeFile <;>
  · simp only [Bool.false_eq_true, if_false, if_true, hdrN2, hdrM2, List.append_assoc]
    rw [writeAt_skip A 28 rfl, writeAt_skip (hdrA f dp lv) 14 (by rw [hA]),
      writeAt_skip (le32 _) 10 (by rw [le32_length]), writeAt_skip (le32 _) 6 (by rw [le32_length]),
      writeAt_skip (le32 _) 2 (by rw [le32_length]), writeAt_skip (le16 _) 0 (by rw [le16_length]),
      writeAt_head _ (by rw [le16_length, le16_length])]

/-- Back-patch of CRC and sizes of a non-ZIP64 header (any extra length): three 32-bit fields behind `hdrA`. -/
theorem patch_small (A B : Bytes) (f : FileData) (dp lv : UInt16) (xl : Nat) (hl : f.largeFile = false)
    (c : UInt32) (cs us : UInt64) (p : Nat) (hp : p = A.length) :
    writeAt (writeAt (writeAt (A ++ (localHdr2 f dp lv xl ++ B)) (p + 14) (le32 c)) (p + 14 + 4)
        (le32 (trunc32 cs))) (p + 14 + 4 + 4) (le32 (trunc32 us)) =
      A ++ (localHdr2 { f with crc32 := c, uncompressedSize := us, compressedSize := cs } dp lv xl ++ B) := by
  subst hp
  have hA := hdrA_length f dp lv
  simp only [localHdr2, hl, Bool.false_eq_true, if_false, List.append_assoc]
  rw [writeAt_skip A 14 rfl, writeAt_skip (hdrA f dp lv) 0 (by rw [hA]),
    writeAt_head _ (by rw [le32_length, le32_length]),
    writeAt_skip A 18 (by omega), writeAt_skip (hdrA f dp lv) 4 (by rw [hA]),
    writeAt_skip (le32 _) 0 (by rw [le32_length]), writeAt_head _ (by rw [le32_length, le32_length]),
    writeAt_skip A 22 (by omega), writeAt_skip (hdrA f dp lv) 8 (by rw [hA]),
    writeAt_skip (le32 _) 4 (by rw [le32_length]), writeAt_skip (le32 _) 0 (by rw [le32_length]),
    writeAt_head _ (by rw [le32_length, le32_length])]
  rfl

/-- Back-patch of CRC and the 64-bit sizes of a ZIP64 header (any extra length): the CRC behind `hdrA`, the sizes
behind `hdrM2`. -/
theorem patch_large (A B : Bytes) (f : FileData) (dp lv : UInt16) (xl : Nat) (hl : f.largeFile = true)
    (c : UInt32) (cs us : UInt64) (p : Nat) (hp : p = A.length) :
    writeAt (writeAt (writeAt (A ++ (localHdr2 f dp lv xl ++ B)) (p + 14) (le32 c))
        (p + 30 + f.fileName.length + 4) (le64 us)) (p + 30 + f.fileName.length + 4 + 8) (le64 cs) =
      A ++ (localHdr2 { f with crc32 := c, uncompressedSize := us, compressedSize := cs } dp lv xl ++ B) := by
  subst hp
  have hA := hdrA_length f dp lv
  have hM := hdrM2_length f xl
  simp only [localHdr2, hl, if_true, List.append_assoc]
  rw [writeAt_skip A 14 rfl, writeAt_skip (hdrA f dp lv) 0 (by rw [hA]),
    writeAt_head _ (by rw [le32_length, le32_length]),
    writeAt_skip A (34 + f.fileName.length) (by omega),
    writeAt_skip (hdrA f dp lv) (20 + f.fileName.length) (by rw [hA]; omega),
    writeAt_skip (le32 _) (16 + f.fileName.length) (by rw [le32_length]; omega),
    writeAt_skip (hdrM2 f xl) 0 (by rw [hM]; rfl), writeAt_head _ (by rw [le64_length, le64_length]),
    writeAt_skip A (42 + f.fileName.length) (by omega),
    writeAt_skip (hdrA f dp lv) (28 + f.fileName.length) (by rw [hA]; omega),
    writeAt_skip (le32 _) (24 + f.fileName.length) (by rw [le32_length]; omega),
    writeAt_skip (hdrM2 f xl) 8 (by rw [hM]; omega), writeAt_skip (le64 _) 0 (by rw [le64_length]),
    writeAt_head _ (by rw [le64_length, le64_length])]
  rfl

/-- Header (extra length = ZIP64 record + local extra data), local extra data and
stored bytes are the specification's local record of the entry. -/
theorem local_eq_spec (f : FileData) (dp lv : UInt16) (gap lx data : Bytes)
    (hc : f.compressedSize = UInt64.ofNat data.length) :
    gap ++ (localHdr2 f dp lv (z64len f + lx.length) ++ (lx ++ data)) =
      (specEntry f dp gap lx data lv).localBytes := by
  unfold Entry.localBytes localRecord descriptor
  simp only [specEntry, Entry.hasDesc, Entry.flagsOut, Entry.csize, ← hc]
  cases hl : f.largeFile with
  | false =>
    simp [localHdr2, z64len, hl, hdrA, hdrN2, lo32, trunc32, LOCAL_SIG, sigLocal]
  | true =>
    simp [localHdr2, z64len, hl, hdrA, hdrM2, LOCAL_SIG, sigLocal]
    congr 1
    rw [← UInt16.add_assoc, ← UInt16.add_assoc, ← UInt16.add_assoc]
    rfl

/-! ### The central header -/

theorem thr_toNat : ZIP64_BYTES_THR.toNat = 4294967295 := by decide

theorem ge_thr_iff (x : UInt64) : (x ≥ ZIP64_BYTES_THR) ↔ (x ≥ (0xFFFFFFFF : UInt64)) := Iff.rfl

theorem centralZip64_eq_spec (f : FileData) (dp : UInt16) (gap lx data : Bytes) (lv : UInt16)
    (hc : f.compressedSize = UInt64.ofNat data.length) :
    centralZip64Bytes f = (specEntry f dp gap lx data lv).centralZ64 f.headerStart := by
  unfold centralZip64Bytes Entry.centralZ64 Entry.zU Entry.zC Entry.zO Entry.csize
  simp only [specEntry, Bool.false_or, ← hc, ge_thr_iff]
  by_cases h1 : f.uncompressedSize ≥ (0xFFFFFFFF : UInt64) <;>
  by_cases h2 : f.compressedSize ≥ (0xFFFFFFFF : UInt64) <;>
  by_cases h3 : f.headerStart ≥ (0xFFFFFFFF : UInt64) <;>
  simp [h1, h2, h3]

/-- What `write_central_directory_header` writes for a finished record is the
specification's central record of the entry, at the record's own header offset. -/
theorem central_eq_spec {f : FileData} {cs : List Bytes} {dp : UInt16} (gap lx data : Bytes) (lv : UInt16)
    (h : centralHeaderChunks f = .ok cs) (hdp : f.time.datepart = some dp)
    (hc : f.compressedSize = UInt64.ofNat data.length) (hudd : f.usingDataDescriptor = false) :
    ser cs = centralRecord (specEntry f dp gap lx data lv) f.headerStart := by
  have hfl : centralFlagOf f = flagOf f := by
    unfold centralFlagOf; rw [hudd]; simp
  unfold centralHeaderChunks datepartOut at h
  rw [hdp] at h
  dsimp only [bind, Out.instMonad] at h
  split at h
  · cases h
  · have h2 : cs = _ := (Out.ok.inj h).symm
    subst h2
    rw [centralRecord_eq]
    have hz := centralZip64_eq_spec f dp gap lx data lv hc
    simp only [Entry.centralExtraAll, ← hz]
    simp only [ser, List.flatten_cons, List.flatten_nil, List.append_nil, List.append_assoc]
    simp only [specEntry, Entry.flagsOut, Entry.hasDesc, Entry.zU, Entry.zC, Entry.zO, Entry.csize, ← hc,
      Bool.false_or, min32_eq, List.length_append, List.length_nil, hfl]
    simp [CENTRAL_SIG, sigCentral]

/-! ### `ClosedAll` -/

theorem ClosedAll.length_eq : ∀ {es : List Spec.Zip.Entry} {st : Nat} {fs : List FileData},
    ClosedAll es st fs → es.length = fs.length
  | [], _, [], _ => rfl
  | [], _, _ :: _, h => h.elim
  | _ :: _, _, [], h => h.elim
  | e :: es, st, f :: fs, h => by
    have := ClosedAll.length_eq h.2
    simp only [List.length_cons, this]

theorem ClosedAll.snoc : ∀ {es : List Spec.Zip.Entry} {st : Nat} {fs : List FileData} {e : Spec.Zip.Entry} {f : FileData},
    ClosedAll es st fs → Closed e (st + (localsBytes es).length + e.gapBefore.length) f →
    ClosedAll (es ++ [e]) st (fs ++ [f])
  | [], st, [], e, f, _, h => by
    exact ⟨h, trivial⟩
  | [], _, _ :: _, _, _, h, _ => h.elim
  | _ :: _, _, [], _, _, h, _ => h.elim
  | x :: es, st, g :: fs, e, f, h, hc => by
    refine ⟨h.1, ?_⟩
    apply ClosedAll.snoc h.2
    rw [localsBytes_cons, List.length_append] at hc
    rw [← Nat.add_assoc] at hc
    exact hc

theorem centralBytes_cons (e : Spec.Zip.Entry) (es : List Spec.Zip.Entry) (st : Nat) :
    centralBytes (e :: es) (localOffsets (e :: es) st) =
      centralRecord e (UInt64.ofNat (st + e.gapBefore.length)) ++
        centralBytes es (localOffsets es (st + e.localBytes.length)) := rfl

/-! ### End records -/

theorem layoutOf_count (es : List Spec.Zip.Entry) (gap c t : Bytes) : (layoutOf es gap c t).count = es.length := rfl
theorem layoutOf_cdOffset (es : List Spec.Zip.Entry) (gap c t : Bytes) :
    (layoutOf es gap c t).cdOffset = (localsBytes es).length + gap.length := rfl
theorem layoutOf_cdSize (es : List Spec.Zip.Entry) (gap c t : Bytes) :
    (layoutOf es gap c t).cdSize = (centralBytes es (localOffsets es 0)).length := rfl
theorem layoutOf_cdBytes (es : List Spec.Zip.Entry) (gap c t : Bytes) :
    (layoutOf es gap c t).cdBytes = centralBytes es (localOffsets es 0) := rfl

theorem layoutOf_needs64 (es : List Spec.Zip.Entry) (gap c t : Bytes) :
    (layoutOf es gap c t).needs64 =
      (decide (es.length > ZIP64_ENTRY_THR) ||
       decide (max (centralBytes es (localOffsets es 0)).length ((localsBytes es).length + gap.length) > 0xFFFFFFFF)) := by
  unfold Layout.needs64
  rw [layoutOf_count, layoutOf_cdOffset, layoutOf_cdSize]
  simp only [layoutOf, Bool.false_or, ZIP64_ENTRY_THR]
  rw [Bool.or_assoc]
  congr 1
  rw [Bool.eq_iff_iff]
  simp only [Bool.or_eq_true, decide_eq_true_eq]
  omega

/-- The ZIP64 end record and locator `finalize` writes. -/
def end64Model (n cs co : Nat) : Bytes :=
  ser (eocd64Chunks {
    versionMadeBy := DEFAULT_VERSION.toUInt16, versionNeeded := DEFAULT_VERSION.toUInt16,
    diskNumber := 0, diskWithCd := 0, filesOnDisk := UInt64.ofNat n, files := UInt64.ofNat n,
    cdSize := UInt64.ofNat cs, cdOffset := UInt64.ofNat co }) ++
  ser (locatorChunks { diskWithCd := 0, eocd64Offset := UInt64.ofNat (co + cs), disks := 1 })

/-- The end-of-central-directory record `finalize` writes. -/
def eocdModel (n cs co : Nat) (comment : Bytes) : Bytes :=
  ser (eocdChunks {
    diskNumber := 0, diskWithCd := 0, filesOnDisk := UInt16.ofNat (min n ZIP64_ENTRY_THR),
    files := UInt16.ofNat (min n ZIP64_ENTRY_THR),
    cdSize := UInt32.ofNat (min cs 0xFFFFFFFF),
    cdOffset := UInt32.ofNat (min co 0xFFFFFFFF), comment := comment })

theorem end64_eq_spec (es : List Spec.Zip.Entry) (gap c t : Bytes)
    (h : (layoutOf es gap c t).needs64 = true) :
    end64Model es.length (centralBytes es (localOffsets es 0)).length ((localsBytes es).length + gap.length) =
      (layoutOf es gap c t).end64 := by
  unfold Layout.end64
  rw [if_pos h, layoutOf_count, layoutOf_cdOffset, layoutOf_cdSize]
  simp [end64Model, eocd64Chunks, locatorChunks, ser, layoutOf, EOCD64_SIG, sigEocd64, LOCATOR_SIG,
    sigLocator, DEFAULT_VERSION]

theorem eocd_eq_spec (es : List Spec.Zip.Entry) (gap c t : Bytes) :
    eocdModel es.length (centralBytes es (localOffsets es 0)).length ((localsBytes es).length + gap.length) c =
      (layoutOf es gap c t).eocd := by
  unfold Layout.eocd
  rw [layoutOf_count, layoutOf_cdOffset, layoutOf_cdSize]
  simp only [layoutOf, Bool.false_or, decide_eq_true_eq]
  simp only [eocdModel, eocdChunks, ser, List.flatten_cons, List.flatten_nil, List.append_nil,
    List.append_assoc, ZIP64_ENTRY_THR, EOCD_SIG, sigEocd]
  have e1 : ∀ n : Nat, UInt16.ofNat (min n 65535) = if n > 65535 then (0xFFFF : UInt16) else UInt16.ofNat n := by
    intro n
    by_cases h : n > 65535
    · rw [if_pos h, Nat.min_eq_right (by omega)]; rfl
    · rw [if_neg h, Nat.min_eq_left (by omega)]
  have e2 : ∀ n : Nat, UInt32.ofNat (min n 4294967295) = if n > 4294967295 then (0xFFFFFFFF : UInt32) else UInt32.ofNat n := by
    intro n
    by_cases h : n > 4294967295
    · rw [if_pos h, Nat.min_eq_right (by omega)]; rfl
    · rw [if_neg h, Nat.min_eq_left (by omega)]
  rw [e1, e2, e2]

end ZipVerif.WL
