import ZipVerif.Lemmas.ViewInv
import ZipVerif.Lemmas.WLBytes
/-
The writer never reads its sink and never seeks from the end, so what lies BEHIND the end of what it has written can
neither influence it nor be touched by it: the writer is parametric in the tail of its sink.  That is why the layout
invariant (`WL.Lay r`) need only carry the NUMBER `r` of stale bytes: what they are is recovered afterwards, for every
script at once (`C01.writer_emits_layout_exact`).

Stated as a relation between the run on the sink `d` and the run on the same sink cut off at the writer's start
position (`t`): `Tail B d t` is kept, with equal results, by every primitive the generic writer uses (`write`,
`seek (.start n)`, `seek (.current off)`, `flush`), so by every call (`tail_step`, through `GW.rel_step`).  `Tail` says
nothing about the part in front: it therefore survives a write behind the end of the cut-off sink, where one side
zero-fills and the other keeps old bytes.  It is not kept by `seek (.endOff _)` (the two sinks differ in length).
-/

namespace ZipVerif.Model
open ZipVerif

/-- `d` and the cut-off sink `t` are at the same position, and behind the end of `t`'s buffer `d` holds what `B`
holds there -/
structure Tail (B : Bytes) (d t : Dev) : Prop where
  pos : d.pos = t.pos
  len : t.buf.length ≤ d.buf.length
  tail : d.buf.drop t.buf.length = B.drop t.buf.length

/-- the cut-off sink at the start: everything in front of the position -/
def Dev.cut (d : Dev) : Dev := { d with buf := d.buf.take d.pos }

theorem Tail.init (d : Dev) (h : d.pos ≤ d.buf.length) : Tail d.buf d d.cut :=
  ⟨rfl, by simp only [Dev.cut, List.length_take]; omega,
   by simp only [Dev.cut, List.length_take, Nat.min_eq_left h]⟩

variable {B : Bytes} {d t : Dev}

theorem Tail.write (h : Tail B d t) (bs : Bytes) :
    Tail B { d with buf := writeAt d.buf d.pos bs, pos := d.pos + bs.length }
      { t with buf := writeAt t.buf t.pos bs, pos := t.pos + bs.length } := by
  refine ⟨by simp only [h.pos], ?_, ?_⟩
  · simp only [writeAt_length, h.pos]; have := h.len; omega
  · simp only [writeAt_length, h.pos]
    have hn : t.buf.length ≤ max t.buf.length (t.pos + bs.length) := Nat.le_max_left _ _
    rw [writeAt_drop_ge _ _ _ (Nat.le_max_right _ _)]
    have e : max t.buf.length (t.pos + bs.length) =
        t.buf.length + (max t.buf.length (t.pos + bs.length) - t.buf.length) := by omega
    rw [e, ← List.drop_drop, h.tail, List.drop_drop]

theorem Tail.setPos (h : Tail B d t) (n : Nat) : Tail B { d with pos := n } { t with pos := n } :=
  ⟨rfl, h.len, h.tail⟩

theorem Tail.calls (h : Tail B d t) (a b : Nat) : Tail B { d with calls := a } { t with calls := b } :=
  ⟨h.pos, h.len, h.tail⟩

abbrev TailRel {α} (B : Bytes) (x y : M α) : Prop := RelOn (Tail B) x y

theorem TailRel.write (bs : Bytes) : TailRel B (M.write bs) (M.write bs) := fun _ _ h =>
  ⟨_, _, _, rfl, rfl, (h.calls _ _).write bs⟩

theorem TailRel.seek_start (n : Nat) : TailRel B (M.seek (.start n)) (M.seek (.start n)) := fun d t h => by
  have : ¬ ((n : Int) < 0) := by omega
  refine ⟨.ok n, _, _, ?_, ?_, (h.calls (d.calls + 1) (t.calls + 1)).setPos n⟩ <;>
    simp [M.seek, M.prim, this]

theorem TailRel.seek_current (off : Int) : TailRel B (M.seek (.current off)) (M.seek (.current off)) :=
  fun d t h => by
    by_cases hneg : (d.pos : Int) + off < 0
    · exact ⟨.err (.io .invalidInput), { d with calls := d.calls + 1 }, { t with calls := t.calls + 1 },
        by simp [M.seek, M.prim, hneg], by simp [M.seek, M.prim, ← h.pos, hneg], h.calls _ _⟩
    · exact ⟨.ok ((d.pos : Int) + off).toNat, { d with calls := d.calls + 1, pos := ((d.pos : Int) + off).toNat },
        { t with calls := t.calls + 1, pos := ((d.pos : Int) + off).toNat },
        by simp [M.seek, M.prim, hneg], by simp [M.seek, M.prim, ← h.pos, hneg], ⟨rfl, h.len, h.tail⟩⟩

@[reducible] def tailRel (B : Bytes) : WriterRel M M :=
  RelOn.writerRel (V := Tail B) TailRel.write TailRel.seek_start TailRel.seek_current
    fun _ _ hv => ⟨.ok (), _, _, rfl, rfl, hv.calls _ _⟩

/-- **Every writer call, fault-free, run on the sink and on the sink cut off behind what has been written: the same
outcome and the same new writer state, and the bytes behind the cut-off sink's end are still those of `B`.** -/
theorem tail_step (B : Bytes) (ext : WExt) (c : Props.C12.Call) (s : WState) :
    TailRel B (Props.C12.step ext c s) (Props.C12.step ext c s) :=
  GW.step_M ext c s ▸ GW.rel_step (tailRel B) (fun x => x.length) ext c s

end ZipVerif.Model
