import ZipVerif.Lemmas.FaithfulModes
/-
Faithfulness: whole runs of both extractors on a consistent archive and a fresh target.
-/

namespace ZipVerif.Model.Extract
open ZipVerif ZipVerif.Spec.Paths ZipVerif.Spec.FS ZipVerif.Spec.Tree ZipVerif.Model.Paths

/-! ### unpacking `Consistent` and `Fresh` -/

theorem Consistent.entryOK {c : Cfg} {rootMode : Nat} {es : List EntryView} (h : Consistent c rootMode es)
    {e : EntryView} (he : e ∈ es) : EntryOK c es e := by
  obtain ⟨h1, h2, h3, _, h5⟩ := h
  exact ⟨he, (h1 e he).1, (h1 e he).2.1, (h1 e he).2.2, h2 e he, h3 e he⟩

theorem Consistent.unlocked {c : Cfg} {rootMode : Nat} {es : List EntryView} (h : Consistent c rootMode es) :
    c.priv = true ∨ Unlocked es := by
  rcases h.2.2.2.2 with h5 | h5
  · exact Or.inl h5
  · exact Or.inr h5.2.2.2

theorem Consistent.permCfg {c : Cfg} {rootMode : Nat} {es : List EntryView} (h : Consistent c rootMode es) :
    PermCfg c := by
  rcases h.2.2.2.2 with h5 | h5
  · exact Or.inl h5
  · exact Or.inr ⟨h5.1, h5.2.1⟩

theorem resolve_lastNormal_ne_nil {cs : List Comp} (h : lastNormal cs = true) : resolve cs ≠ [] := by
  obtain ⟨s, up, hr⟩ := lastNormal_reverse h
  have : cs = (Comp.normal s :: up).reverse := by rw [← hr, List.reverse_reverse]
  rw [this, resolve_reverse_cons]
  simp [resolveStep]

theorem Consistent.disjoint {c : Cfg} {rootMode : Nat} {es : List EntryView} (h : Consistent c rootMode es) :
    ∀ r, DirAt es r → FileAt es r → False := by
  intro r hd hf
  obtain ⟨e1, he1, hp1⟩ := hf
  have hfile : isDirName e1.name = false := by
    cases hdn : isDirName e1.name with
    | false => rfl
    | true => simp [filePath, hdn] at hp1
  rcases hd with rfl | ⟨e2, he2, hp2⟩
  · simp only [filePath, hfile, Bool.false_eq_true, if_false, Option.some.injEq] at hp1
    exact resolve_lastNormal_ne_nil (h.2.1 e1 he1 hfile).2 hp1
  · exact h.2.2.2.1 e1 he1 e2 he2 r (by simp [hp1]) hp2

theorem Fresh.inv {c : Cfg} {fs : FS} {root : Path} {rootMode : Nat} {es : List EntryView}
    (hf : Fresh c fs root rootMode) (hc : Consistent c rootMode es) : Inv c root fs := by
  obtain ⟨h1, h2, h3⟩ := hf
  refine ⟨h1, ⟨rootMode, h2⟩, ?_, ?_⟩
  · intro r hr hne; exact absurd (h3 r hr) hne
  · rcases hc.2.2.2.2 with h5 | h5
    · exact Or.inl h5
    · refine Or.inr fun r n hl => ?_
      by_cases hr : r = []
      · subst hr
        rw [List.append_nil, h2] at hl; cases hl
        exact h5.2.2.1
      · rw [h3 r hr] at hl; cases hl

theorem Fresh.kinds {c : Cfg} {fs : FS} {root : Path} {rootMode : Nat} (es : List EntryView)
    (hf : Fresh c fs root rootMode) : Kinds root es fs := by
  obtain ⟨_, h2, h3⟩ := hf
  intro r n hl
  by_cases hr : r = []
  · subst hr
    rw [List.append_nil, h2] at hl; cases hl
    exact Or.inl rfl
  · rw [h3 r hr] at hl; cases hl

/-! ### placing every entry -/

theorem placeFiles_eq {c : Cfg} {root : Path} {es : List EntryView} (hpc : PermCfg c)
    (hDF : ∀ r, DirAt es r → FileAt es r → False) (chk : Bool) (rest : List EntryView)
    (hrest : ∀ e ∈ rest, EntryOK c es e) (fs : FS) (hi : Inv c root fs) (hk : Kinds root es fs) :
    placeFiles c chk root rest fs = (putAll c root rest fs, none) ∧ Inv c root (putAll c root rest fs) ∧
      Kinds root es (putAll c root rest fs) ∧ Grows c fs (putAll c root rest fs) ∧
      ∀ e ∈ rest, Placed c root (putAll c root rest fs) e.name := by
  induction rest generalizing fs with
  | nil => exact ⟨rfl, hi, hk, Grows.refl c fs, by simp⟩
  | cons e rest ih =>
    have he := hrest e (by simp)
    obtain ⟨hpl, ok⟩ := placeEntry_eq hi hk hpc hDF he
    obtain ⟨h2, hi2, hk2, hg2, hp2⟩ :=
      ih (fun e' he' => hrest e' (List.mem_cons_of_mem _ he')) _ ok.inv ok.kinds
    obtain ⟨p, hp⟩ := Option.isSome_iff_exists.mp he.enclosed
    refine ⟨?_, hi2, hk2, ok.grows.trans hg2, ?_⟩
    · simp only [placeFiles, placeFile, he.openOk, hp, hpl chk, putAll, h2]
    · intro e' he'
      rcases List.mem_cons.mp he' with rfl | he'
      · exact ok.placed.grows hg2
      · exact hp2 e' he'

/-! ### applying the recorded modes, deepest first -/

theorem modeOrder_sorted (ms : List (Name × Option Nat)) :
    (modeOrder ms).Pairwise fun a b => pathDepth b.1 ≤ pathDepth a.1 := by
  unfold modeOrder
  rw [List.pairwise_map]
  have hs := sorted_sortModes (pendingOf ms)
  refine hs.imp_of_mem ?_
  intro a b ha hb hab
  rw [← (mem_pendingOf.mp (mem_sortModes.mp ha)).2, ← (mem_pendingOf.mp (mem_sortModes.mp hb)).2]
  exact hab

theorem modes_eq {c : Cfg} {root : Path} {es : List EntryView}
    (hDF : ∀ r, DirAt es r → FileAt es r → False) (hun : c.priv = true ∨ Unlocked es)
    (hall : ∀ e ∈ es, EntryOK c es e) (fs : FS) (hi : Inv c root fs) (hk : Kinds root es fs)
    (hpl : ∀ e ∈ es, Placed c root fs e.name) :
    applyModes c root (modeOrder (es.map fun e => (e.name, e.mode))) fs =
      (setModes root (modeOrder (es.map fun e => (e.name, e.mode))) fs, none) := by
  apply applyModes_eq hDF hun _ (modeOrder_sorted _) _ fs hk
  · intro m hm
    obtain ⟨e, he, rfl⟩ := List.mem_map.mp (mem_modeOrder hm).1
    exact reach_of_placed hi (hpl e he) (hall e he).safe (hall e he).fileName
  · intro m hm
    obtain ⟨hmem, hsome⟩ := mem_modeOrder hm
    obtain ⟨e, he, rfl⟩ := List.mem_map.mp hmem
    exact ⟨hsome, e, he, rfl, hall e he⟩

/-! ### the two extractors -/

theorem extractSeek_eq {c : Cfg} {root : Path} {es : List EntryView} (hpc : PermCfg c)
    (hDF : ∀ r, DirAt es r → FileAt es r → False) (hun : c.priv = true ∨ Unlocked es)
    (hall : ∀ e ∈ es, EntryOK c es e) (fs : FS) (hi : Inv c root fs) (hk : Kinds root es fs) :
    extractSeek c root es fs = (treeOf c root es fs, none) := by
  obtain ⟨h1, hi1, hk1, _, hp1⟩ := placeFiles_eq hpc hDF true es hall fs hi hk
  unfold extractSeek treeOf
  rw [h1]
  exact modes_eq hDF hun hall _ hi1 hk1 hp1

theorem checkMetas_none {c : Cfg} {es : List EntryView} (rest : List EntryView)
    (hrest : ∀ e ∈ rest, EntryOK c es e) : checkMetas (rest.map fun e => (e.name, e.mode)) = none := by
  induction rest with
  | nil => rfl
  | cons e rest ih =>
    obtain ⟨p, hp⟩ := Option.isSome_iff_exists.mp (hrest e (by simp)).enclosed
    simp only [List.map_cons, checkMetas, hp]
    exact ih (fun e' he' => hrest e' (List.mem_cons_of_mem _ he'))

theorem extractStream_eq {c : Cfg} {root : Path} {es : List EntryView} (hpc : PermCfg c)
    (hDF : ∀ r, DirAt es r → FileAt es r → False) (hun : c.priv = true ∨ Unlocked es)
    (hall : ∀ e ∈ es, EntryOK c es e) (hne : es ≠ [])
    (fs : FS) (hi : Inv c root fs) (hk : Kinds root es fs) :
    extractStream c root es (es.map fun e => (e.name, e.mode)) fs = (treeOf c root es fs, none) := by
  obtain ⟨h1, hi1, hk1, _, hp1⟩ := placeFiles_eq hpc hDF false es hall fs hi hk
  have h2 := modes_eq hDF hun hall _ hi1 hk1 hp1
  have h3 := checkMetas_none es hall
  unfold extractStream treeOf
  rw [h1]
  simp only
  cases es with
  | nil => exact absurd rfl hne
  | cons e es' =>
    simp only [List.map_cons] at h2 h3 ⊢
    rw [h3]
    exact h2

end ZipVerif.Model.Extract
