import ZipVerif.Lemmas.ParserRel
import ZipVerif.Model.Writer
/-
The reader functions that are written in `M` only (`by_index*`, `new_append`, the take loop and the drains, the
streaming reader under a consumer, `ZipStreamReader::visit`) satisfy every `MLogic`: one induction over each body, for an
arbitrary logic `L`.  What a body uses beyond the core of `MLogic` - `getDev`, `retried`, `panic`, `attempt`, another
function of this file - is a hypothesis of its walk, so a logic that is not closed under one of them, or has its own
argument for a callee, supplies just that (`ErrOnFireH` for `visitFile`, `Lemmas/FaultVisit`).
-/

namespace ZipVerif.Model
open ZipVerif

namespace MLogic
variable (L : MLogic)

theorem takeLoop (har : ∀ n, L.P (M.attempt (M.read n))) (chunk : Nat) :
    ∀ fuel want, L.P (Model.takeLoop chunk fuel want)
  | 0, _ => L.pure _
  | fuel + 1, want => by
    have ih := fun w => L.to_rel (takeLoop har chunk fuel w)
    have har := fun n => L.to_rel (har n)
    refine L.of_rel ?_
    unfold Model.takeLoop
    parser_rel L.rel₀ [ih _, har _]

section
variable (htl : ∀ chunk fuel want, L.P (Model.takeLoop chunk fuel want))
include htl

theorem drain (rem : Nat) : L.P (Model.drain rem) := L.bind (htl _ _ _) fun _ => L.pure _

theorem drainE (rem : Nat) : L.P (Model.drainE rem) := by
  have htl := fun c f w => L.to_rel (htl c f w)
  refine L.of_rel ?_
  unfold Model.drainE
  parser_rel L.rel₀ [htl _ _ _, L.throwR _]

variable (hget : L.P M.getDev) (hdr : ∀ rem, L.P (Model.drain rem))
include hget hdr

theorem streamEntryC (ext : Ext) (c : Consume) : L.P (Model.streamEntryC ext c) := by
  have hsh := L.to_rel L.streamHeader
  have htl := fun c f w => L.to_rel (htl c f w)
  have hdr := fun r => L.to_rel (hdr r)
  have hget := L.to_rel hget
  refine L.of_rel ?_
  unfold Model.streamEntryC
  parser_rel L.rel₀ [hsh, htl _ _ _, hdr _, hget]

variable (hret : ∀ {α : Type} {x : M α}, L.P x → L.P (M.retried x))
include hret

theorem streamEntryCI (ext : Ext) (c : Consume) : L.P (Model.streamEntryCI ext c) := by
  have hsh := L.to_rel (hret L.streamHeader)
  have htl := fun c f w => L.to_rel (htl c f w)
  have hdr := fun r => L.to_rel (hret (hdr r))
  have hget := L.to_rel hget
  refine L.of_rel ?_
  unfold Model.streamEntryCI
  parser_rel L.rel₀ [hsh, htl _ _ _, hdr _, hget]

theorem visitFile (hpanic : ∀ s, L.P (M.panic s : M (Option (FileData × Bytes × Nat)))) (ext : Ext) (c : Consume) :
    L.P (Model.visitFile ext c) := by
  have hsh := L.to_rel (hret L.streamHeader)
  have htl := fun c f w => L.to_rel (htl c f w)
  have hdr := fun r => L.to_rel (hret (hdr r))
  have hget := L.to_rel hget
  have hpanic := fun s => L.to_rel (hpanic s)
  refine L.of_rel ?_
  unfold Model.visitFile
  parser_rel L.rel₀ [hsh, htl _ _ _, hdr _, hget, hpanic _, L.throwR _]

end

theorem streamEntriesC (ext : Ext) (hse : ∀ c, L.P (Model.streamEntryC ext c)) (pattern : List Consume) :
    ∀ fuel i, L.P (Model.streamEntriesC ext pattern fuel i)
  | 0, _ => L.pure _
  | fuel + 1, i => by
    have ih := fun j => L.to_rel (streamEntriesC ext hse pattern fuel j)
    have hse := fun c => L.to_rel (hse c)
    refine L.of_rel ?_
    unfold Model.streamEntriesC
    parser_rel L.rel₀ [ih _, hse _]

theorem visitEntry (hret : ∀ {α : Type} {x : M α}, L.P x → L.P (M.retried x)) {ext : Ext} {c : Consume}
    (hvf : L.P (Model.visitFile ext c)) (hde : ∀ rem, L.P (Model.drainE rem)) : L.P (Model.visitEntry ext c) := by
  have hvf := L.to_rel hvf
  have hde := fun r => L.to_rel (hret (hde r))
  refine L.of_rel ?_
  unfold Model.visitEntry
  parser_rel L.rel₀ [hvf, hde _]

theorem visitEntries (ext : Ext) (hve : ∀ c, L.P (Model.visitEntry ext c)) (pattern : List Consume) :
    ∀ fuel i, L.P (Model.visitEntries ext pattern fuel i)
  | 0, _ => L.pure _
  | fuel + 1, i => by
    have ih := fun j => L.to_rel (visitEntries ext hve pattern fuel j)
    have hve := fun c => L.to_rel (hve c)
    refine L.of_rel ?_
    unfold Model.visitEntries
    parser_rel L.rel₀ [ih _, hve _]

theorem visitCentral (hret : ∀ {α : Type} {x : M α}, L.P x → L.P (M.retried x)) (len : Nat) :
    L.P (Model.visitCentral len) :=
  L.bind (hret (L.centralHeaderInner 0 0)) fun _ => L.bind (hret (L.streamCentralLoop _)) fun _ => L.pure _

theorem streamVisitC (hget : L.P M.getDev) {ext : Ext} {pattern : List Consume}
    (hves : ∀ fuel i, L.P (Model.visitEntries ext pattern fuel i)) (hvc : ∀ len, L.P (Model.visitCentral len)) :
    L.P (Model.streamVisitC ext pattern) :=
  L.bind hget fun _ => L.bind (hves _ _) fun _ => L.bind (hvc _) fun _ => L.pure _

/-! `new_append`, `by_index*` -/

theorem newAppend_loop (off : Nat) : ∀ n, L.P (newAppend.loop off n)
  | 0 => L.pure _
  | n + 1 => by
    have ih := L.to_rel (newAppend_loop off n)
    have hch := L.to_rel (L.centralHeader off)
    refine L.of_rel ?_
    unfold newAppend.loop
    parser_rel L.rel₀ [ih, hch, L.throwR _]

theorem newAppend (hatt : ∀ {α : Type} {x : M α}, L.P x → L.P (M.attempt x)) : L.P Model.newAppend := by
  have h1 := L.to_rel L.findAndParseEocd
  have h2 := fun f c => L.to_rel (L.getDirectoryCounts hatt f c)
  have h3 := fun n => L.to_rel (hatt (L.seek (.start n)))
  have h4 := fun o n => L.to_rel (L.newAppend_loop o n)
  refine L.of_rel ?_
  unfold Model.newAppend
  parser_rel L.rel₀ [h1, h2 _ _, h3 _, h4 _ _, L.throwR _, L.seekR _]

theorem byIndexRaw (hp : ∀ s, L.P (M.panic s : M Nat)) (a : Archive) (i : Nat) : L.P (Model.byIndexRaw a i) := by
  have hfc := fun f => L.to_rel (L.findContent hp f)
  refine L.of_rel ?_
  unfold Model.byIndexRaw
  parser_rel L.rel₀ [hfc _, L.takeAllR _, L.throwR _]

theorem byIndexRead (hp : ∀ {α : Type} (s : String), L.P (M.panic s : M α)) (ext : Ext) (a : Archive) (i : Nat)
    (pw : Option Bytes) : L.P (Model.byIndexRead ext a i pw) := by
  have hfc := fun f => L.to_rel (L.findContent hp f)
  have hp : ∀ s, L.rel₀.R (M.panic s : M (PwResult (Nat × Out Bytes))) (M.panic s) := fun s => L.to_rel (hp s)
  refine L.of_rel ?_
  unfold Model.byIndexRead
  parser_rel L.rel₀ [hfc _, hp _, L.takeAllR _, L.throwR _]

theorem byNameRead (hp : ∀ {α : Type} (s : String), L.P (M.panic s : M α)) (ext : Ext) (a : Archive) (name : Bytes)
    (pw : Option Bytes) : L.P (Model.byNameRead ext a name pw) := by
  unfold Model.byNameRead
  split
  · exact L.throw _
  · exact L.byIndexRead hp ext a _ pw

end MLogic
end ZipVerif.Model
