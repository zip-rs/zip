import ZipVerif.Lemmas.EntryBridgeCrypto
import ZipVerif.Lemmas.AesOneShot
/-
Bridge between the two models of "read an entry", WinZip-AES entries (C09 / C04 / C16 at archive level;
`Lemmas/EntryBridge.lean` has the unencrypted entries, `Lemmas/EntryBridgeCrypto.lean` the ZipCrypto ones).

* `Model/Reader.lean` with the environment `Model.cryptoExt` (`Model/CryptoExt.lean`): `byIndexRead` positions
  the device, `takeAll`s the compressed bytes in one go and applies the ONE-SHOT `aesLayer`: `AesReader::validate`
  over a never-short byte list, then two `read` calls with room for the whole payload (`aesReadAll`), then
  `Ext.decode`, then `crcCheck` (skipped for AE-2);
* call by call: `Aes.validate` over the same bytes under ANY short-read schedule, then
  `Crc32Reader(decoder(AesReaderValid(..)))` (`entryPipelineAes`, built from `Aes.Valid.read` - the function the
  translated `AesReaderValid::read` is tied to) driven with ANY caller buffers.

`entry_bridge_aes`: the verdicts agree - wrong password / accepted; and for an accepted entry: code right (the
call-by-call reader DENOTES the decryption, every finished loop returns the one-shot result), code wrong
(`InvalidData`; no schedule reaches a successful end-of-file), bytes missing (`UnexpectedEof`; likewise).
-/

namespace ZipVerif.Model
open ZipVerif ZipVerif.Spec ZipVerif.Model.Layers

/-! ### vocabulary: the parts of the stored bytes `raw` of an AES entry -/

def aesK (mode : AesMode) : Nat := (aesModeView mode).keyLength
def aesSl (mode : AesMode) : Nat := (aesModeView mode).saltLength
/-- PBKDF2 output for password `pw` and the salt at the head of `raw` -/
def aesDk (P : Aes.AesPrims) (pw : Bytes) (mode : AesMode) (raw : Bytes) : Bytes :=
  P.pbkdf2 pw (raw.take (aesSl mode)) (2 * aesK mode + 2)
/-- the decryption key -/
def aesKey (P : Aes.AesPrims) (pw : Bytes) (mode : AesMode) (raw : Bytes) : Bytes :=
  (aesDk P pw mode raw).take (aesK mode)
/-- the HMAC key -/
def aesHk (P : Aes.AesPrims) (pw : Bytes) (mode : AesMode) (raw : Bytes) : Bytes :=
  ((aesDk P pw mode raw).drop (aesK mode)).take (aesK mode)
/-- the two bytes behind the salt are the derived password verifier -/
def aesVerifierOk (P : Aes.AesPrims) (pw : Bytes) (mode : AesMode) (raw : Bytes) : Prop :=
  (raw.drop (aesSl mode)).take 2 = (aesDk P pw mode raw).drop (2 * aesK mode)
/-- what follows the verifier: payload, authentication code, possibly more -/
def aesBody (mode : AesMode) (raw : Bytes) : Bytes := raw.drop (aesSl mode + 2)
/-- the reader `validate` hands out over a byte list whose remaining short-read schedule is `sc` -/
def aesReader (P : Aes.AesPrims) (pw : Bytes) (mode : AesMode) (raw : Bytes) (L : Nat) (sc : List Nat) :
    Aes.Valid Aes.ListSrc :=
  Aes.initValid ⟨aesBody mode raw, sc⟩ L (aesKey P pw mode raw) (aesHk P pw mode raw)
/-- the stored authentication code is the HMAC of the `L` payload bytes -/
def aesCodeOk (P : Aes.AesPrims) (pw : Bytes) (mode : AesMode) (raw : Bytes) (L : Nat) : Prop :=
  (P.hmac (aesHk P pw mode raw) ((aesBody mode raw).take L)).take Aes.AUTH_CODE_LENGTH =
    ((aesBody mode raw).drop L).take Aes.AUTH_CODE_LENGTH

/-! ### what `byIndexRead` does on an AES entry -/

/-- `by_index_decrypt` on an entry with the encryption flag and an AES extra record, on an ARBITRARY device, any
fault index, any environment: if the call returns, `find_content` succeeded and left the device at `ds`, and the
result is what `Ext.aes` makes of the first `compressed_size` bytes behind `ds`. -/
theorem byIndexRead_aes_inv {ext : Ext} {a : Archive} {i : Nat} {data : FileData} {pw : Bytes}
    {mode : AesMode} {vv : AesVendorVersion}
    {fa : Option Nat} {d d' : Dev} {r : PwResult (Nat × Out Bytes)}
    (hfile : a.files[i]? = some data) (henc : data.encrypted = true) (haes : data.aesMode = some (mode, vv))
    (h : byIndexRead ext a i (some pw) fa d = (.ok r, d')) :
    ∃ ds d1, findContent data fa d = (.ok ds, d1) ∧ d1.buf = d.buf ∧ d1.pos = ds ∧
      ((∃ stream, ext.aes pw mode data.compressedSize ((d.buf.drop ds).take data.compressedSize.toNat)
            = .ok (some stream) ∧
          r = .ok (ds, stream >>= fun pt => ext.decode data.method pt >>= crcCheck (vv == .ae2) data.crc32)) ∨
        (ext.aes pw mode data.compressedSize ((d.buf.drop ds).take data.compressedSize.toNat) = .ok none ∧
          r = .invalidPassword)) := by
  obtain ⟨ds, d1, h1, hb1, hp1, hr⟩ := byIndexRead_ok_inv hfile h
  rw [henc, if_pos rfl, haes] at hr
  have hr := readChoice_ok_inv hr (by rw [hb1, hp1])
  exact ⟨ds, d1, h1, hb1, hp1, hr⟩

/-! ### the one-shot `aesLayer` on any bytes -/

/-- An AES entry shorter than salt + verifier + authentication code (D4) is an error before a byte is read. -/
theorem aesLayer_short (P : Aes.AesPrims) (pw : Bytes) (mode : AesMode) (csize : UInt64) (raw : Bytes)
    (h : csize.toNat < 12 + (aesModeView mode).saltLength) :
    aesLayer P pw mode csize raw = .err (.io .invalidData) := by
  unfold aesLayer
  simp only []
  rw [Aes.dataLength_eq_none.mpr (by omega)]
  rfl

/-- Everything the one-shot `aesLayer` of `cryptoExt` can answer, on ANY byte list. -/
theorem aesLayer_cases (P : Aes.AesPrims) (hW : P.WF) (pw : Bytes) (mode : AesMode) (csize : UInt64)
    (raw : Bytes) :
    (Aes.dataLength (aesModeView mode) csize.toNat = none ∧
      aesLayer P pw mode csize raw = .err (.io .invalidData)) ∨
    (∃ L, Aes.dataLength (aesModeView mode) csize.toNat = some L ∧ L < Aes.U64 ∧
      ((raw.length < aesSl mode + 2 ∧ aesLayer P pw mode csize raw = .err (.io .unexpectedEof)) ∨
       (aesSl mode + 2 ≤ raw.length ∧ ¬ aesVerifierOk P pw mode raw ∧ aesLayer P pw mode csize raw = .ok none) ∨
       (aesSl mode + 2 ≤ raw.length ∧ aesVerifierOk P pw mode raw ∧
          aesLayer P pw mode csize raw =
            .ok (some (Aes.drain P Aes.listSrc [L, L] (aesReader P pw mode raw L []) []).1)))) := by
  cases hdl : Aes.dataLength (aesModeView mode) csize.toNat with
  | none =>
    exact Or.inl ⟨rfl, aesLayer_short P pw mode csize raw (by have := Aes.dataLength_eq_none.mp hdl; omega)⟩
  | some L =>
    refine Or.inr ⟨L, rfl, ?_, ?_⟩
    · exact Nat.lt_of_le_of_lt ((Aes.dataLength_eq_some.mp hdl).2 ▸ Nat.sub_le _ _) csize.toNat_lt
    · obtain ⟨hshort, hlong⟩ := Aes.validate_list P hW (aesModeView mode) L raw [] pw
      by_cases hl : raw.length < aesSl mode + 2
      · refine Or.inl ⟨hl, ?_⟩
        unfold aesLayer
        simp only [hdl, hshort hl]
      · have hl' : aesSl mode + 2 ≤ raw.length := Nat.le_of_not_lt hl
        obtain ⟨hbad, hgood⟩ := hlong hl'
        by_cases hv : aesVerifierOk P pw mode raw
        · refine Or.inr (Or.inr ⟨hl', hv, ?_⟩)
          obtain ⟨sc, hsc, e⟩ := hgood hv
          have hsc := hsc rfl
          subst hsc
          unfold aesLayer
          simp only [hdl, e]
          rfl
        · refine Or.inr (Or.inl ⟨hl', hv, ?_⟩)
          unfold aesLayer
          simp only [hdl, hbad hv]

/-! ### the bridge -/

/-- The three things that can be behind the verifier of an accepted AES entry whose declared payload length is
`L`, and what follows for the one-shot result `res` and for the call-by-call reader `v0` (any schedule):

* payload and code are there, the code is the HMAC of the payload: `res` is decode + CRC check of the CTR
  decryption `pt`; `AesReaderValid` DENOTES `pt` then a clean end (every buffer schedule, zeros included); every
  finished read loop over `Crc32Reader(decoder(AesReaderValid))` returns `res` (for the decoder `c` that `ext`
  summarises on `pt`);
* payload and code are there, the code is wrong: `res` is the `InvalidData` error, and no run reaches a
  successful end-of-file;
* bytes are missing: `res` is `UnexpectedEof`, and no run reaches a successful end-of-file. -/
def AesVerdict (P : Aes.AesPrims) (ext : Ext) (method : Method) (crc : UInt32) (ae2 : Bool) (pw : Bytes)
    (mode : AesMode) (raw : Bytes) (L : Nat) (v0 : Aes.Valid Aes.ListSrc) (res : Out Bytes) : Prop :=
  (∃ pt cfin, L + Aes.AUTH_CODE_LENGTH ≤ (aesBody mode raw).length ∧ aesCodeOk P pw mode raw L ∧
      Aes.cryptBytes P (aesKey P pw mode raw) Aes.CtrState.new ((aesBody mode raw).take L) = .ok (pt, cfin) ∧
      res = (ext.decode method pt >>= crcCheck ae2 crc) ∧
      Denotes (aesSrc P Aes.listSrc) v0 pt .eof ∧
      ∀ (c : Codec), CodecFor ext method c pt →
        ∀ (reqs : List Nat) (b : Bytes) (t : Term) (e : c.St (Aes.Valid Aes.ListSrc) × UInt32),
          readToEnd (entryPipelineAes c P Aes.listSrc crc ae2) (c.init v0, Crc32.init) reqs = some (b, t, e) →
          res = outOfLoop (b, t)) ∨
  (L + Aes.AUTH_CODE_LENGTH ≤ (aesBody mode raw).length ∧ ¬ aesCodeOk P pw mode raw L ∧
      res = .err (.io .invalidData) ∧ Aes.NeverEof P v0) ∨
  ((aesBody mode raw).length < L + Aes.AUTH_CODE_LENGTH ∧ res = .err (.io .unexpectedEof) ∧ Aes.NeverEof P v0)

/-- **Bridge, seekable reader, WinZip-AES entries, every inner method.**  `by_index_decrypt` with password `pw`
on entry `i` (encryption flag, AES extra record `(mode, vv)`) of archive value `a` over device `d`, in the
environment `cryptoExt` (the crate's own AES layer, one shot over a never-short byte list), returns `r`.  Then the
declared payload length `L` exists (`AesReader::new`: `compressed_size - (salt + 2 + 10)`), salt and verifier are
there, and for EVERY short-read schedule `sched` of a reader holding the entry's stored bytes `raw`:

* `r = Err(InvalidPassword)`: the verifier is not the derived one, and `AesReader::validate` answers `Ok(None)`;
* `r = Ok(file)` with read-to-end result `res`: the verifier is the derived one, `validate` hands out the reader
  `aesReader .. sc` (keys derived from `pw` and the salt; `sc` = what is left of the schedule), and `AesVerdict`
  holds: code right / code wrong / bytes missing, each with what the one-shot result is and what every
  call-by-call run does. -/
theorem entry_bridge_aes {P : Aes.AesPrims} (hW : P.WF) {decode : Method → Bytes → Out Bytes}
    {a : Archive} {i : Nat} {data : FileData} {pw : Bytes} {mode : AesMode} {vv : AesVendorVersion}
    {fa : Option Nat} {d d' : Dev} {r : PwResult (Nat × Out Bytes)}
    (hfile : a.files[i]? = some data) (henc : data.encrypted = true) (haes : data.aesMode = some (mode, vv))
    (h : byIndexRead (cryptoExt P decode) a i (some pw) fa d = (.ok r, d')) :
    ∃ ds, (∃ d1, findContent data fa d = (.ok ds, d1) ∧ d1.buf = d.buf ∧ d1.pos = ds) ∧
    ∃ L, Aes.dataLength (aesModeView mode) data.compressedSize.toNat = some L ∧ L < Aes.U64 ∧
      aesSl mode + 2 ≤ ((d.buf.drop ds).take data.compressedSize.toNat).length ∧
    ∀ sched : List Nat,
      (r = .invalidPassword →
        ¬ aesVerifierOk P pw mode ((d.buf.drop ds).take data.compressedSize.toNat) ∧
        (Aes.validate P Aes.listSrc (aesModeView mode) (some L)
          ⟨(d.buf.drop ds).take data.compressedSize.toNat, sched⟩ pw).1 = .ok none) ∧
      (∀ res, r = .ok (ds, res) →
        aesVerifierOk P pw mode ((d.buf.drop ds).take data.compressedSize.toNat) ∧
        ∃ sc, Aes.validate P Aes.listSrc (aesModeView mode) (some L)
            ⟨(d.buf.drop ds).take data.compressedSize.toNat, sched⟩ pw =
            (.ok (some (aesReader P pw mode ((d.buf.drop ds).take data.compressedSize.toNat) L sc)),
              ⟨aesBody mode ((d.buf.drop ds).take data.compressedSize.toNat), sc⟩) ∧
          AesVerdict P (cryptoExt P decode) data.method data.crc32 (vv == .ae2) pw mode
            ((d.buf.drop ds).take data.compressedSize.toNat) L
            (aesReader P pw mode ((d.buf.drop ds).take data.compressedSize.toNat) L sc) res) := by
  obtain ⟨ds, d1, h1, hb1, hp1, hr⟩ := byIndexRead_aes_inv hfile henc haes h
  refine ⟨ds, ⟨d1, h1, hb1, hp1⟩, ?_⟩
  generalize hraw : (d.buf.drop ds).take data.compressedSize.toNat = raw at hr ⊢
  have hz : (cryptoExt P decode).aes = aesLayer P := rfl
  rw [hz] at hr
  rcases aesLayer_cases P hW pw mode data.compressedSize raw with ⟨_, hc⟩ | ⟨L, hdl, hLU, hcases⟩
  · rw [hc] at hr
    rcases hr with ⟨_, hh, _⟩ | ⟨hh, _⟩ <;> cases hh
  refine ⟨L, hdl, hLU, ?_⟩
  rcases hcases with ⟨_, hc⟩ | ⟨hl, hv, hc⟩ | ⟨hl, hv, hc⟩
  · rw [hc] at hr
    rcases hr with ⟨_, hh, _⟩ | ⟨hh, _⟩ <;> cases hh
  · -- wrong password
    refine ⟨hl, fun sched => ?_⟩
    rw [hc] at hr
    rcases hr with ⟨_, hh, _⟩ | ⟨_, hinv⟩
    · cases hh
    · obtain ⟨_, hlong⟩ := Aes.validate_list P hW (aesModeView mode) L raw sched pw
      exact ⟨fun _ => ⟨hv, (hlong hl).1 hv⟩, fun res hres => by rw [hinv] at hres; cases hres⟩
  · -- accepted
    refine ⟨hl, fun sched => ?_⟩
    rw [hc] at hr
    rcases hr with ⟨stream, hh, hres⟩ | ⟨hh, _⟩
    · refine ⟨fun hinv => (by rw [hinv] at hres; cases hres), fun res hres' => ⟨hv, ?_⟩⟩
      obtain ⟨_, hlong⟩ := Aes.validate_list P hW (aesModeView mode) L raw sched pw
      obtain ⟨sc, _, hval⟩ := (hlong hl).2 hv
      refine ⟨sc, hval, ?_⟩
      rw [hres'] at hres
      injection hres with hres
      injection hres with _ hres
      injection hh with hh
      injection hh with hh
      subst hh
      have hres : res = ((Aes.drain P Aes.listSrc [L, L] (Aes.initValid ⟨aesBody mode raw, []⟩ L
          (aesKey P pw mode raw) (aesHk P pw mode raw)) []).1 >>= fun pt =>
            (cryptoExt P decode).decode data.method pt >>= crcCheck (vv == .ae2) data.crc32) := hres
      -- the three verdicts
      by_cases hi : Aes.Intact P (aesBody mode raw) L (aesHk P pw mode raw)
      · obtain ⟨pt, cfin, hpt, hdr⟩ := Aes.drainLL_full P hW hLU (aesBody mode raw) (aesKey P pw mode raw)
          (aesHk P pw mode raw) hi.1
        have hden : Denotes (aesSrc P Aes.listSrc) (aesReader P pw mode raw L sc) pt .eof :=
          aes_denotes P hW Aes.listSrc hLU (listSrc_denotes ⟨aesBody mode raw, sc⟩) hi hpt
        have hres2 : res = ((cryptoExt P decode).decode data.method pt >>= crcCheck (vv == .ae2) data.crc32) := by
          rw [hres, hdr.trans (if_pos hi.2)]; rfl
        refine Or.inl ⟨pt, cfin, hi.1, hi.2, hpt, hres2, hden, ?_⟩
        intro c hcf reqs b t e hrun
        rw [hres2]
        exact layer_eq_decode_crc (cryptoExt P decode) data.method c pt data.crc32 (vv == .ae2) hcf _ _
          hden reqs hrun
      · have hnever : Aes.NeverEof P (aesReader P pw mode raw L sc) :=
          neverEof_of_damaged P hW hLU (aesBody mode raw) sc _ _ hi
        by_cases hlen : L + Aes.AUTH_CODE_LENGTH ≤ (aesBody mode raw).length
        · obtain ⟨pt, cfin, hpt, hdr⟩ := Aes.drainLL_full P hW hLU (aesBody mode raw) (aesKey P pw mode raw)
            (aesHk P pw mode raw) hlen
          have hcode : ¬ aesCodeOk P pw mode raw L := fun hc => hi ⟨hlen, hc⟩
          exact Or.inr (Or.inl ⟨hlen, hcode, by rw [hres, hdr.trans (if_neg hcode)]; rfl, hnever⟩)
        · have hdr := Aes.drainLL_short P hW hLU (aesBody mode raw) (aesKey P pw mode raw) (aesHk P pw mode raw)
            (Nat.lt_of_not_le hlen)
          exact Or.inr (Or.inr ⟨Nat.lt_of_not_le hlen, by rw [hres, hdr]; rfl, hnever⟩)
    · cases hh

/-- The first case of `AesVerdict`, selected by its hypotheses. -/
theorem AesVerdict.intact {P : Aes.AesPrims} {ext : Ext} {method : Method} {crc : UInt32} {ae2 : Bool} {pw : Bytes}
    {mode : AesMode} {raw : Bytes} {L : Nat} {v0 : Aes.Valid Aes.ListSrc} {res : Out Bytes}
    (hV : AesVerdict P ext method crc ae2 pw mode raw L v0 res)
    (hlen : L + Aes.AUTH_CODE_LENGTH ≤ (aesBody mode raw).length) (hcode : aesCodeOk P pw mode raw L) :
    ∃ pt cfin,
      Aes.cryptBytes P (aesKey P pw mode raw) Aes.CtrState.new ((aesBody mode raw).take L) = .ok (pt, cfin) ∧
      res = (ext.decode method pt >>= crcCheck ae2 crc) ∧ Denotes (aesSrc P Aes.listSrc) v0 pt .eof := by
  rcases hV with ⟨pt, cfin, _, _, hpt, hres, hden, _⟩ | ⟨_, hbad, _⟩ | ⟨hshort, _⟩
  · exact ⟨pt, cfin, hpt, hres, hden⟩
  · exact absurd hcode hbad
  · exact absurd hlen (Nat.not_le_of_lt hshort)

/-- The other two cases: the one-shot result is an I/O error and no run ends successfully. -/
theorem AesVerdict.damaged {P : Aes.AesPrims} {ext : Ext} {method : Method} {crc : UInt32} {ae2 : Bool} {pw : Bytes}
    {mode : AesMode} {raw : Bytes} {L : Nat} {v0 : Aes.Valid Aes.ListSrc} {res : Out Bytes}
    (hV : AesVerdict P ext method crc ae2 pw mode raw L v0 res)
    (hbad : ¬ (L + Aes.AUTH_CODE_LENGTH ≤ (aesBody mode raw).length ∧ aesCodeOk P pw mode raw L)) :
    (∃ k, res = .err (.io k)) ∧ Aes.NeverEof P v0 := by
  rcases hV with ⟨_, _, hlen, hcode, _⟩ | ⟨_, _, hres, hn⟩ | ⟨_, hres, hn⟩
  · exact absurd ⟨hlen, hcode⟩ hbad
  · exact ⟨⟨_, hres⟩, hn⟩
  · exact ⟨⟨_, hres⟩, hn⟩

/-- What an AE-x encryptor writes for the ciphertext `ct` under `pw` and `salt`, `salt ‖ verifier ‖ ct ‖ HMAC(ct)[0..10]`,
passes the verifier check, and its verdict is the intact one, with the decryption of `ct`. -/
theorem aes_written {P : Aes.AesPrims} (hW : P.WF) {pw : Bytes} {mode : AesMode} {salt ct raw plain : Bytes}
    {cfin : Aes.CtrState} (hs : salt.length = aesSl mode)
    (hraw : raw = salt ++ (P.pbkdf2 pw salt (2 * aesK mode + 2)).drop (2 * aesK mode) ++
      (ct ++ (P.hmac (((P.pbkdf2 pw salt (2 * aesK mode + 2)).drop (aesK mode)).take (aesK mode)) ct).take
        Aes.AUTH_CODE_LENGTH))
    (hdec : Aes.cryptBytes P ((P.pbkdf2 pw salt (2 * aesK mode + 2)).take (aesK mode)) Aes.CtrState.new ct =
      .ok (plain, cfin)) :
    aesVerifierOk P pw mode raw ∧
    ∀ {ext : Ext} {method : Method} {crc : UInt32} {ae2 : Bool} {v0 : Aes.Valid Aes.ListSrc} {res : Out Bytes},
      AesVerdict P ext method crc ae2 pw mode raw ct.length v0 res →
      res = (ext.decode method plain >>= crcCheck ae2 crc) ∧ Denotes (aesSrc P Aes.listSrc) v0 plain .eof := by
  have hvl : ((P.pbkdf2 pw salt (2 * aesK mode + 2)).drop (2 * aesK mode)).length = 2 := by
    rw [List.length_drop, hW.pbkdf2_len]; omega
  have hdk : aesDk P pw mode raw = P.pbkdf2 pw salt (2 * aesK mode + 2) := by
    unfold aesDk; rw [hraw, List.append_assoc, ← hs, List.take_left]
  have hbody : aesBody mode raw = ct ++ (P.hmac (aesHk P pw mode raw) ct).take Aes.AUTH_CODE_LENGTH := by
    unfold aesBody aesHk
    rw [hdk, hraw]
    have : aesSl mode + 2 = (salt ++ (P.pbkdf2 pw salt (2 * aesK mode + 2)).drop (2 * aesK mode)).length := by
      rw [List.length_append, hvl, hs]
    rw [this, List.drop_left]
  have hml : ((P.hmac (aesHk P pw mode raw) ct).take Aes.AUTH_CODE_LENGTH).length = Aes.AUTH_CODE_LENGTH := by
    rw [List.length_take, hW.hmac_len]; decide
  refine ⟨?_, fun hV => ?_⟩
  · unfold aesVerifierOk
    rw [hdk, hraw, List.append_assoc, ← hs, List.drop_left]
    exact List.take_left' hvl
  · have hcode : aesCodeOk P pw mode raw ct.length := by
      unfold aesCodeOk
      rw [hbody, List.take_left, List.drop_left]
      exact (List.take_of_length_le (Nat.le_of_eq hml)).symm
    obtain ⟨pt, c', hpt, hres, hden⟩ := hV.intact (by rw [hbody, List.length_append, hml]; omega) hcode
    rw [hbody, List.take_left, show aesKey P pw mode raw = _ from congrArg (List.take (aesK mode)) hdk, hdec] at hpt
    cases hpt
    exact ⟨hres, hden⟩

/-! ### A concrete AES archive for the non-vacuity examples of C04 / C09 / C16 -/

/-- Stand-ins for PBKDF2 / AES / HMAC-SHA1 with the right output lengths (NOT cryptography). -/
def exPrims : Aes.AesPrims where
  pbkdf2 pw salt n := (List.range n).map fun i => UInt8.ofNat (7 * i + pw.length) + 3 * salt.foldl (· + ·) 0
  block key inp := (List.range 16).map fun i => UInt8.ofNat (i * 11 + key.length) ^^^ inp.headD 0
  hmac key msg := (List.range 20).map fun i => UInt8.ofNat (i + key.length) ^^^ msg.foldl (· + ·) 0

theorem exPrims_wf : exPrims.WF :=
  ⟨fun _ _ _ => (List.length_map _).trans List.length_range, fun _ _ => (List.length_map _).trans List.length_range,
    fun _ _ => (List.length_map _).trans List.length_range⟩

/-- An independent encryptor over `exPrims`: salt ‖ verifier ‖ CTR(plain) ‖ HMAC[0..10], AES-128, password "pw". -/
def aesExPayload (plain : Bytes) : Bytes :=
  let salt : Bytes := [1, 2, 3, 4, 5, 6, 7, 8]
  let dk := exPrims.pbkdf2 [0x70, 0x77] salt 34
  match Aes.cryptInPlace exPrims (dk.take 16) Aes.CtrState.new plain with
  | .ok (ct, _) => salt ++ dk.drop 32 ++ (ct ++ (exPrims.hmac ((dk.drop 16).take 16) ct).take 10)
  | _ => []

/-- One entry `a` = `[1,2,3,4,5]`: method 99, extra record 0x9901 (AE-2, AES-128, inner method Stored), stored
bytes `payload`, declared compressed size `csize`. -/
def aesExArchiveOf (payload : Bytes) (csize : Nat) : Bytes :=
  let extra : Bytes := [0x01, 0x99, 7, 0, 2, 0, 0x41, 0x45, 1, 0, 0]
  let lfh : Bytes := [80, 75, 3, 4, 51, 0, 1, 0, 99, 0, 0, 0, 33, 0, 0, 0, 0, 0] ++ le32 (UInt32.ofNat csize) ++
    [5, 0, 0, 0, 1, 0, 11, 0, 97] ++ extra
  let cdh : Bytes := [80, 75, 1, 2, 51, 3, 51, 0, 1, 0, 99, 0, 0, 0, 33, 0, 0, 0, 0, 0] ++
    le32 (UInt32.ofNat csize) ++ [5, 0, 0, 0, 1, 0, 11, 0, 0, 0, 0, 0, 0, 0, 0, 0, 164, 129, 0, 0, 0, 0, 97] ++ extra
  lfh ++ payload ++ cdh ++
    ([80, 75, 5, 6, 0, 0, 0, 0, 1, 0, 1, 0] ++ le32 (UInt32.ofNat cdh.length) ++
      le32 (UInt32.ofNat (lfh.length + payload.length)) ++ [0, 0])

def aesExArchive : Bytes := aesExArchiveOf (aesExPayload [1, 2, 3, 4, 5]) (aesExPayload [1, 2, 3, 4, 5]).length

/-- `cryptoExt` for evaluation: Stored-only decoding, `exPrims`. -/
def evalAesExt : Ext := cryptoExt exPrims (fun _ raw => .ok raw)

/-- Open `bytes`, look at entry 0 (`none` unless it has the encryption flag and an AES-128 / AE-2 record), hand it
out with password `pw` (reader model, one-shot AES layer; `(0, none, none)` when no file is handed out); then
`validate` over a byte list with short-read schedule `sched` and read the handed-out `AesReaderValid` call by call
with the buffers `bufs`.  Reported: data start, one-shot result (`none` = error), and the call-by-call bytes
(`none` = `validate` refused or a `read` failed). -/
def aesOpenRead (bytes : Bytes) (pw : Bytes) (sched bufs : List Nat) : Option (Nat × Option Bytes × Option Bytes) :=
  match openArchive.runPure (Dev.ofBytes bytes) with
  | (.ok a, d) =>
    match a.files[0]? with
    | some data =>
      if data.encrypted = true ∧ data.aesMode = some (.aes128, .ae2) then
        match (byIndexRead evalAesExt a 0 (some pw)).runPure d with
        | (.ok (.ok (ds, res)), _) =>
          some (ds, (match res with | .ok c => some c | _ => none),
            match (Aes.validate exPrims Aes.listSrc .aes128 (Aes.dataLength .aes128 data.compressedSize.toNat)
                ⟨(bytes.drop ds).take data.compressedSize.toNat, sched⟩ pw).1 with
            | .ok (some v) =>
              (match (Aes.drain exPrims Aes.listSrc bufs v []).1 with | .ok c => some c | _ => none)
            | _ => none)
        | _ => some (0, none, none)
      else none
    | none => none
  | _ => none

@[reducible] def aesOpenReadDecEq : DecidableEq (Option (Nat × Option Bytes × Option Bytes)) := inferInstance

attribute [local instance] aesOpenReadDecEq in
/-- The runs the examples of C04, C09 and C16 share, in one evaluation (the kernel opens the archive once): the
intact archive (password "pw") under two schedules of the source and of the caller's buffers, and the archive with
one ciphertext byte changed. -/
theorem aesOpenRead_runs :
    aesOpenRead aesExArchive [0x70, 0x77] [0, 2] [2, 0, 1, 9, 9] =
      some (42, some [1, 2, 3, 4, 5], some [1, 2, 3, 4, 5]) ∧
    aesOpenRead aesExArchive [0x70, 0x77] [] [1, 1, 0, 1, 1, 1, 4] =
      some (42, some [1, 2, 3, 4, 5], some [1, 2, 3, 4, 5]) ∧
    aesOpenRead (aesExArchive.set 53 0) [0x70, 0x77] [0, 2] [2, 0, 1, 9, 9] = some (42, none, none) := by
  decide +kernel

theorem aesOpenRead_intact :
    aesOpenRead aesExArchive [0x70, 0x77] [0, 2] [2, 0, 1, 9, 9] =
      some (42, some [1, 2, 3, 4, 5], some [1, 2, 3, 4, 5]) :=
  aesOpenRead_runs.1

theorem aesOpenRead_damaged :
    aesOpenRead (aesExArchive.set 53 0) [0x70, 0x77] [0, 2] [2, 0, 1, 9, 9] = some (42, none, none) :=
  aesOpenRead_runs.2.2

end ZipVerif.Model
