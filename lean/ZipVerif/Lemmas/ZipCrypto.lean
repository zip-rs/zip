import ZipVerif.Model.ZipCrypto
import ZipVerif.Spec.Pkware
import ZipVerif.Lemmas.ZipCryptoMap
/-
For C15: the crate's cipher (model) coincides with the APPNOTE cipher (Spec.Pkware),
including the `| 2` (APPNOTE) versus `| 3` (crate) stream-byte formula; structural facts about
`decryptAll` / `encryptAll`.
-/

namespace ZipVerif.Model.ZipCrypto
open ZipVerif ZipVerif.Spec

/- Decidable equality of outcomes, so that concrete instances can be checked with `decide +kernel`.
   Declared inside this namespace so that its generated name cannot clash with another module's. -/
deriving instance DecidableEq for ZipVerif.Out

/-! ### `| 2` versus `| 3` -/

theorem testBit_small (c i : Nat) (h : c < 4) : Nat.testBit c (i + 2) = false := by
  apply Nat.testBit_lt_two_pow
  have : 4 ≤ 2 ^ (i + 2) := by
    rw [Nat.pow_succ, Nat.pow_succ]; have := Nat.one_le_two_pow (n := i); omega
  omega

theorem or3_xor1 (n : Nat) (h : n % 2 = 0) : (n ||| 3) ^^^ 1 = n ||| 2 := by
  apply Nat.eq_of_testBit_eq; intro i
  rw [Nat.testBit_xor, Nat.testBit_or, Nat.testBit_or]
  match i with
  | 0 => simp [Nat.testBit_zero, h]
  | 1 => simp [Nat.testBit_succ]
  | i+2 => rw [testBit_small 3 i (by omega), testBit_small 2 i (by omega), testBit_small 1 i (by omega)]; simp

theorem or2_xor1 (n : Nat) (h : n % 2 = 0) : (n ||| 2) ^^^ 1 = n ||| 3 := by
  apply Nat.eq_of_testBit_eq; intro i
  rw [Nat.testBit_xor, Nat.testBit_or, Nat.testBit_or]
  match i with
  | 0 => simp [Nat.testBit_zero, h]
  | 1 => simp [Nat.testBit_succ]
  | i+2 => rw [testBit_small 3 i (by omega), testBit_small 2 i (by omega), testBit_small 1 i (by omega)]; simp

theorem or2_eq_or3 (n : Nat) (h : n % 2 = 1) : n ||| 2 = n ||| 3 := by
  apply Nat.eq_of_testBit_eq; intro i
  rw [Nat.testBit_or, Nat.testBit_or]
  match i with
  | 0 => simp [Nat.testBit_zero, h]
  | 1 => simp [Nat.testBit_succ]
  | i+2 => rw [testBit_small 3 i (by omega), testBit_small 2 i (by omega)]

/-- With an even `n` the two factors are swapped, with an odd `n` they are the same numbers. -/
theorem or2_or3_product (n : Nat) :
    (n ||| 2) * ((n ||| 2) ^^^ 1) = (n ||| 3) * ((n ||| 3) ^^^ 1) := by
  rcases Nat.mod_two_eq_zero_or_one n with h | h
  · rw [or2_xor1 n h, or3_xor1 n h, Nat.mul_comm]
  · rw [or2_eq_or3 n h]

/-! ### model = spec -/

def toSpec (k : Keys) : Pkware.Keys := ⟨k.key0, k.key1, k.key2⟩

theorem and_ff_toUInt8 (c : UInt32) : (c &&& 0xff).toUInt8 = c.toUInt8 := by
  apply UInt8.toNat_inj.mp
  rw [UInt32.toNat_toUInt8, UInt32.toNat_toUInt8, UInt32.toNat_and]
  have e : (0xff : UInt32).toNat = 2 ^ 8 - 1 := by decide
  rw [e, Nat.and_two_pow_sub_one_eq_mod, Nat.mod_mod]

theorem crc32_eq_spec (crc : UInt32) (b : UInt8) : crc32 crc b = Pkware.crc32 crc b := by
  unfold crc32 Pkware.crc32 Crc32.updateByte
  rw [and_ff_toUInt8]

theorem shr24_toUInt8 (x : UInt32) : (x >>> 24).toUInt8 = UInt8.ofNat (x.toNat / 16777216) := by
  apply UInt8.toNat_inj.mp
  rw [UInt32.toNat_toUInt8, UInt32.toNat_shiftRight, UInt8.toNat_ofNat']
  show x.toNat >>> 24 % 2 ^ 8 = _
  rw [Nat.shiftRight_eq_div_pow]

theorem shr8_toUInt8 (x : UInt16) : (x >>> 8).toUInt8 = UInt8.ofNat (x.toNat / 256) := by
  apply UInt8.toNat_inj.mp
  rw [UInt16.toNat_toUInt8, UInt16.toNat_shiftRight, UInt8.toNat_ofNat']
  show x.toNat >>> 8 % 2 ^ 8 = _
  rw [Nat.shiftRight_eq_div_pow]

theorem new_eq_spec : toSpec Keys.new = Pkware.initKeys := by decide

theorem update_eq_spec (k : Keys) (b : UInt8) : toSpec (k.update b) = Pkware.updateKeys (toSpec k) b := by
  unfold Keys.update Pkware.updateKeys toSpec
  simp only [crc32_eq_spec, shr24_toUInt8]

theorem streamByte_eq_spec (k : Keys) : k.streamByte = Pkware.decryptByte (toSpec k) := by
  unfold Keys.streamByte Pkware.decryptByte toSpec
  apply UInt8.toNat_inj.mp
  simp only []
  rw [or2_or3_product, UInt8.toNat_ofNat', UInt16.toNat_toUInt8, UInt16.toNat_shiftRight,
    UInt16.toNat_mul, UInt16.toNat_xor, UInt16.toNat_or, UInt32.toNat_toUInt16]
  show (_ * _ % 2 ^ 16) >>> 8 % 2 ^ 8 = _
  rw [Nat.shiftRight_eq_div_pow]
  have e3 : (3 : UInt16).toNat = 3 := rfl
  have e1 : (1 : UInt16).toNat = 1 := rfl
  rw [e3, e1]
  show (_ * _ % (256 * 256)) / 256 % 256 = _ / 256 % 256
  rw [Nat.mod_mul_right_div_self, Nat.mod_mod]

theorem derive_eq_spec_from (pw : Bytes) (k : Keys) :
    toSpec (pw.foldl Keys.update k) = pw.foldl Pkware.updateKeys (toSpec k) := by
  induction pw generalizing k with
  | nil => rfl
  | cons b bs ih => rw [List.foldl_cons, List.foldl_cons, ih, update_eq_spec]

theorem derive_eq_spec (pw : Bytes) : toSpec (derive pw) = Pkware.keysFor pw := by
  unfold derive Pkware.keysFor
  rw [derive_eq_spec_from, new_eq_spec]

/-- The plaintext encryption header the crate's writer uses: eleven zero bytes and the high byte of
the CRC.  (APPNOTE asks for random bytes; zeros are *valid* PKWARE data, only weaker.) -/
def writerHeader (crc : UInt32) : Bytes := List.replicate 11 0 ++ [Pkware.checkByte false crc 0]

/-! ### structure of the bulk loops -/

theorem decryptAll_nil (k : Keys) : decryptAll k [] = ([], k) := rfl
theorem encryptAll_nil (k : Keys) : encryptAll k [] = ([], k) := rfl

theorem decryptAll_cons (k : Keys) (c : UInt8) (cs : Bytes) :
    decryptAll k (c :: cs) =
      ((k.streamByte ^^^ c) :: (decryptAll (k.update (k.streamByte ^^^ c)) cs).1,
        (decryptAll (k.update (k.streamByte ^^^ c)) cs).2) := rfl

theorem encryptAll_cons (k : Keys) (p : UInt8) (ps : Bytes) :
    encryptAll k (p :: ps) =
      ((k.streamByte ^^^ p) :: (encryptAll (k.update p) ps).1, (encryptAll (k.update p) ps).2) := rfl

theorem decryptAll_length (k : Keys) (cs : Bytes) : (decryptAll k cs).1.length = cs.length := by
  rw [decryptAll_eq_map]; exact Layers.mapBytes_length ..

theorem encryptAll_length (k : Keys) (ps : Bytes) : (encryptAll k ps).1.length = ps.length := by
  rw [encryptAll_eq_map]; exact Layers.mapBytes_length ..

theorem xor_cancel (s x : UInt8) : s ^^^ (s ^^^ x) = x := by
  rw [← UInt8.xor_assoc, UInt8.xor_self, UInt8.zero_xor]

/-- Decrypting what was encrypted from the same key state returns the plaintext *and* leaves both
sides in the same key state (both directions update the keys with the plaintext byte). -/
theorem decryptAll_encryptAll (k : Keys) (ps : Bytes) :
    decryptAll k (encryptAll k ps).1 = (ps, (encryptAll k ps).2) := by
  obtain ⟨h1, h2⟩ := Layers.mapBytes_inverse (f := encryptByte) (g := decryptByte)
    (fun k b => by simp only [decryptByte, encryptByte, xor_cancel]) k ps
  rw [encryptAll_eq_map, decryptAll_eq_map, h1, h2]

theorem encryptAll_decryptAll (k : Keys) (cs : Bytes) :
    encryptAll k (decryptAll k cs).1 = (cs, (decryptAll k cs).2) := by
  obtain ⟨h1, h2⟩ := Layers.mapBytes_inverse (f := decryptByte) (g := encryptByte)
    (fun k b => by simp only [decryptByte, encryptByte, xor_cancel]) k cs
  rw [decryptAll_eq_map, encryptAll_eq_map, h1, h2]

theorem decryptAll_append (k : Keys) (xs ys : Bytes) :
    decryptAll k (xs ++ ys) =
      ((decryptAll k xs).1 ++ (decryptAll (decryptAll k xs).2 ys).1,
        (decryptAll (decryptAll k xs).2 ys).2) := by
  simp only [decryptAll_eq_map, Layers.mapBytes_append, Layers.mapKey_append]

theorem encryptAll_append (k : Keys) (xs ys : Bytes) :
    encryptAll k (xs ++ ys) =
      ((encryptAll k xs).1 ++ (encryptAll (encryptAll k xs).2 ys).1,
        (encryptAll (encryptAll k xs).2 ys).2) := by
  simp only [encryptAll_eq_map, Layers.mapBytes_append, Layers.mapKey_append]

theorem decryptAll_eq_spec (k : Keys) (cs : Bytes) :
    (decryptAll k cs).1 = Pkware.decrypt (toSpec k) cs := by
  induction cs generalizing k with
  | nil => rfl
  | cons c cs ih =>
    rw [decryptAll_cons]
    unfold Pkware.decrypt
    simp only []
    rw [← streamByte_eq_spec, UInt8.xor_comm c, ← update_eq_spec, ih]

theorem encryptAll_eq_spec (k : Keys) (ps : Bytes) :
    (encryptAll k ps).1 = Pkware.encrypt (toSpec k) ps := by
  induction ps generalizing k with
  | nil => rfl
  | cons p ps ih =>
    rw [encryptAll_cons]
    unfold Pkware.encrypt
    rw [← streamByte_eq_spec, UInt8.xor_comm p, ← update_eq_spec, ih]

theorem decrypt_ok_some {pw raw p : Bytes} {v : Validator} (h : decrypt pw v raw = .ok (some p)) :
    ∃ r, (Reader.new raw pw).validate v = .ok (some r) ∧ r.readAll = p := by
  unfold decrypt at h
  rcases hv : (Reader.new raw pw).validate v with (_ | r) | e | s <;> rw [hv] at h <;> cases h
  exact ⟨r, rfl, rfl⟩

theorem crcCheckedRead_ok {crc : UInt32} {x : Bytes} (h : Crc32.crc32 x = crc) : crcCheckedRead crc x = .ok x :=
  if_pos h

/-- A complete read behind the CRC gate, whatever produced the bytes (`o`: the decoder's outcome): the CRC-32 of
what was returned is the declared one. -/
theorem crcCheckedRead_complete {crc : UInt32} {o : Out Bytes} {d : Bytes}
    (h : (some <$> (o >>= crcCheckedRead crc) : Out (Option Bytes)) = .ok (some d)) : Crc32.crc32 d = crc := by
  rcases o with y | e | s
  · change (some <$> crcCheckedRead crc y : Out (Option Bytes)) = _ at h
    unfold crcCheckedRead at h
    by_cases hc : Crc32.crc32 y = crc
    · rw [if_pos hc] at h
      cases h; exact hc
    · rw [if_neg hc] at h; cases h
  · cases h
  · cases h

end ZipVerif.Model.ZipCrypto
