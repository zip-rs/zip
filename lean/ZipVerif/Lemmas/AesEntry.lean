import ZipVerif.Lemmas.AesList
/-
`ZipFile::read` = CRC layer ∘ arbitrary decoder ∘ AES reader, with `finish_crypto` at the decoder's end-of-file.
-/

namespace ZipVerif.Model.Aes
open ZipVerif

/-- An `Ok(0)` for a non-empty buffer leaves the AES reader at its end, the authentication code read and
compared - also when the entry has no ciphertext at all (then by this very call). -/
theorem read_eof (P : AesPrims) (hW : P.WF) {σ} (S : Src σ) {L : Nat} (hL : L < U64)
    {v v' : Valid σ} (hI : Inv P L v) {n : Nat} (hn : 0 < n)
    (h : Valid.read P S v n = (.ok [], v')) : v'.dataRemaining = 0 ∧ v'.finalized = true := by
  obtain ⟨_, hrem, hpos, hfin⟩ := read_ok P hW S hL hI h
  have h0 : v'.dataRemaining = 0 := by
    cases Nat.eq_zero_or_pos v.dataRemaining with
    | inl h0 => rw [h0] at hrem; exact (Nat.add_eq_zero_iff.mp hrem).1
    | inr hp => exact absurd (hpos hn hp) (Nat.lt_irrefl 0)
  exact ⟨h0, hfin h0⟩

/-- A property of the AES reader that successful `read` calls preserve and that implies `Inv`. -/
structure OkStable (P : AesPrims) {σ} (S : Src σ) (L : Nat) (Q : Valid σ → Prop) : Prop where
  step : ∀ v n out v', Q v → Valid.read P S v n = (.ok out, v') → Q v'
  inv : ∀ v, Q v → Inv P L v

/-- The "decoder" of a `Stored` entry: one call on the reader below with the caller's buffer, result
passed through. -/
def Decoder.StoredLike {δ} (D : Decoder δ) : Prop :=
  ∀ d n, ∃ d', D.read d n = .pull n fun r => .done (match r with | .ok bs => .ok bs | .err e => .err e) d'

theorem storedDec_storedLike : storedDec.StoredLike := fun _ _ => ⟨(), rfl⟩

section
variable (P : AesPrims) (hW : P.WF) {σ : Type} (S : Src σ) {L : Nat} (hL : L < U64)
  {Q : Valid σ → Prop} (hQ : OkStable P S L Q)
include hW hL hQ

omit hW hL in
theorem runDec_ok {δ} (d0 : δ) (t : DecStep δ) (ht : t.Faithful) :
    ∀ (v v' : Valid σ) (bs : Bytes) (d : δ), Q v → runDec P S d0 t v = (.ok bs, d, v') → Q v' := by
  induction ht with
  | done r d => intro v v' bs d' hq h; simp only [runDec] at h; cases h; exact hq
  | pull k cont herr hok ih =>
    intro v v' bs d' hq h
    simp only [runDec] at h
    cases hr : Valid.read P S v k with
    | mk r v1 =>
    rw [hr] at h
    cases r with
    | ok b1 => exact ih b1 v1 v' bs d' (hQ.step _ _ _ _ hq hr) h
    | err e =>
      simp only at h
      obtain ⟨e', d2, hc⟩ := herr e
      rw [hc] at h
      simp [runDec] at h
    | panic m => simp at h

theorem copyToSink_ok : ∀ (f : Nat) (v v' : Valid σ), Q v → copyToSink P S f v = (.ok (), v') →
    Q v' ∧ v'.dataRemaining = 0 ∧ v'.finalized = true := by
  intro f
  induction f with
  | zero => intro v v' _ h; simp [copyToSink] at h
  | succ f ih =>
    intro v v' hq h
    simp only [copyToSink] at h
    cases hr : Valid.read P S v 8192 with
    | mk r v1 =>
    rw [hr] at h
    cases r with
    | ok bs =>
      simp only at h
      by_cases hb : bs.isEmpty
      · rw [if_pos hb] at h
        simp only [Prod.mk.injEq, true_and] at h
        subst h
        have hbs : bs = [] := by simpa using hb
        subst hbs
        exact ⟨hQ.step _ _ _ _ hq hr, read_eof P hW S hL (hQ.inv _ hq) (by decide) hr⟩
      · rw [if_neg hb] at h
        exact ih v1 v' (hQ.step _ _ _ _ hq hr) h
    | err e => simp at h
    | panic m => simp at h

omit hW hL in
theorem layersRead_ok {δ H} (D : Decoder δ) (hD : D.Faithful) (upd : H → Bytes → H) (fin : H → UInt32)
    (st st' : EntrySt σ δ H) (n : Nat) (out : Bytes) (hq : Q st.aes)
    (h : layersRead P S D upd fin st n = (.ok out, st')) : Q st'.aes := by
  unfold layersRead crcRead at h
  by_cases hn : n = 0
  · rw [if_pos hn] at h
    simp only [Prod.mk.injEq] at h
    rw [← h.2]; exact hq
  · rw [if_neg hn] at h
    simp only at h
    cases hr : runDec P S st.dec (D.read st.dec n) st.aes with
    | mk r rest =>
    obtain ⟨d, v⟩ := rest
    rw [hr] at h
    cases r with
    | ok bs =>
      have hv := runDec_ok P S hQ st.dec _ (hD st.dec n) _ _ _ _ hq hr
      simp only at h
      split at h
      · simp at h
      · simp only [Prod.mk.injEq] at h
        rw [← h.2]; exact hv
    | err e => simp at h
    | panic m => simp at h

theorem entryRead_ok {δ H} (D : Decoder δ) (hD : D.Faithful) (compressing : Bool) (upd : H → Bytes → H)
    (fin : H → UInt32) (st st' : EntrySt σ δ H) (n : Nat) (out : Bytes) (hq : Q st.aes)
    (h : entryRead P S D compressing upd fin st n = (.ok out, st')) :
    Q st'.aes ∧ (compressing = true → out = [] → 0 < n →
      st'.aes.dataRemaining = 0 ∧ st'.aes.finalized = true) := by
  unfold entryRead at h
  cases hl : layersRead P S D upd fin st n with
  | mk r st1 =>
  rw [hl] at h
  cases r with
  | ok bs =>
    have hq1 := layersRead_ok P S hQ D hD upd fin st st1 n bs hq hl
    simp only at h
    by_cases hz : bs.length = 0 ∧ n ≠ 0
    · rw [if_pos hz] at h
      cases hf : finishCrypto P S compressing st1.aes with
      | mk r2 v2 =>
      rw [hf] at h
      cases r2 with
      | ok u =>
        simp only [Prod.mk.injEq, Out.ok.injEq] at h
        obtain ⟨rfl, rfl⟩ := h
        unfold finishCrypto at hf
        cases compressing with
        | false =>
          simp only [Bool.false_eq_true, if_false, Prod.mk.injEq] at hf
          rw [← hf.2]
          exact ⟨hq1, fun h => by cases h⟩
        | true =>
          simp only [if_true] at hf
          obtain ⟨a, b⟩ := copyToSink_ok P hW S hL hQ _ _ _ hq1 hf
          exact ⟨a, fun _ _ _ => b⟩
      | err e => simp at h
      | panic m => simp at h
    · rw [if_neg hz] at h
      simp only [Prod.mk.injEq, Out.ok.injEq] at h
      obtain ⟨rfl, rfl⟩ := h
      refine ⟨hq1, fun _ ho hn => ?_⟩
      subst ho
      exact absurd ⟨rfl, Nat.ne_of_gt hn⟩ hz
  | err e => simp at h
  | panic m => simp at h

theorem entryDrain_ok {δ H} (D : Decoder δ) (hD : D.Faithful) (compressing : Bool) (upd : H → Bytes → H)
    (fin : H → UInt32) : ∀ (bufs : List Nat) (st st' : EntrySt σ δ H) (acc out : Bytes), Q st.aes →
    entryDrain P S D compressing upd fin bufs st acc = (.ok out, st') → Q st'.aes := by
  intro bufs
  induction bufs with
  | nil =>
    intro st st' acc out hq h
    simp only [entryDrain, Prod.mk.injEq] at h
    rw [← h.2]; exact hq
  | cons n ns ih =>
    intro st st' acc out hq h
    unfold entryDrain at h
    cases hr : entryRead P S D compressing upd fin st n with
    | mk r st1 =>
    rw [hr] at h
    cases r with
    | ok o => exact ih _ _ _ _ (entryRead_ok P hW S hL hQ D hD compressing upd fin st st1 n o hq hr).1 h
    | err e => simp at h
    | panic m => simp at h

/-- `Stored`: the entry's `Ok(0)` for a non-empty buffer is the AES reader's. -/
theorem entryRead_stored_eof {δ H} (D : Decoder δ) (hS : D.StoredLike) (upd : H → Bytes → H) (fin : H → UInt32)
    (st st' : EntrySt σ δ H) (n : Nat) (hn : 0 < n) (hq : Q st.aes)
    (h : entryRead P S D false upd fin st n = (.ok [], st')) :
    st'.aes.dataRemaining = 0 ∧ st'.aes.finalized = true := by
  unfold entryRead at h
  cases hl : layersRead P S D upd fin st n with
  | mk r st1 =>
  rw [hl] at h
  cases r with
  | ok bs =>
    simp only [finishCrypto, Bool.false_eq_true, if_false] at h
    have hbs : bs = [] ∧ st' = st1 := by
      by_cases hz : bs.length = 0 ∧ n ≠ 0
      · rw [if_pos hz] at h
        simp only [Prod.mk.injEq, Out.ok.injEq] at h
        exact ⟨h.1, h.2.symm⟩
      · rw [if_neg hz] at h
        simp only [Prod.mk.injEq, Out.ok.injEq] at h
        exact ⟨h.1, h.2.symm⟩
    obtain ⟨rfl, rfl⟩ := hbs
    unfold layersRead crcRead at hl
    rw [if_neg (Nat.ne_of_gt hn)] at hl
    obtain ⟨d', hd⟩ := hS st.dec n
    simp only [hd, runDec] at hl
    cases hr : Valid.read P S st.aes n with
    | mk r2 v2 =>
    rw [hr] at hl
    cases r2 with
    | ok b2 =>
      simp only at hl
      split at hl
      · simp at hl
      · simp only [Prod.mk.injEq, Out.ok.injEq] at hl
        obtain ⟨hb, hs⟩ := hl
        subst hb
        rw [← hs]
        exact read_eof P hW S hL (hQ.inv _ hq) hn hr
    | err e => simp at hl
    | panic m => simp at hl
  | err e => simp at h
  | panic m => simp at h

/-- The entry's `Ok(0)` for a non-empty buffer leaves the AES reader at its end: through `finish_crypto` under a
decoder, directly for `Stored`. -/
theorem entryRead_eof {δ H} (D : Decoder δ) (hD : D.Faithful) (compressing : Bool)
    (hS : compressing = false → D.StoredLike) (upd : H → Bytes → H) (fin : H → UInt32)
    (st st' : EntrySt σ δ H) (n : Nat) (hn : 0 < n) (hq : Q st.aes)
    (h : entryRead P S D compressing upd fin st n = (.ok [], st')) :
    st'.aes.dataRemaining = 0 ∧ st'.aes.finalized = true := by
  cases compressing with
  | true => exact (entryRead_ok P hW S hL hQ D hD true upd fin st st' n [] hq h).2 rfl rfl hn
  | false => exact entryRead_stored_eof P hW S hL hQ D (hS rfl) upd fin st st' n hn hq h

end

theorem storedDec_faithful : storedDec.Faithful := by
  intro d n
  exact .pull n _ (fun e => ⟨e, (), rfl⟩) (fun bs => .done _ _)

/-- The run invariant with the output forgotten. -/
def MacOk (P : AesPrims) (L : Nat) (key hk : Bytes) {σ} (v : Valid σ) : Prop :=
  ∃ acc, RunInv P L key hk v acc

theorem macOk_stable (P : AesPrims) (hW : P.WF) {σ} (S : Src σ) {L : Nat} (hL : L < U64) (key hk : Bytes) :
    OkStable P S L (MacOk P L key hk (σ := σ)) :=
  ⟨fun _ n _ _ ⟨_, hR⟩ h => ⟨_, hR.step P hW S hL n h⟩, fun _ ⟨_, hR⟩ => hR.inv⟩

/-- **End-of-file of the entry implies the authentication code was checked**, for any decoder: `Faithful`, and
`StoredLike` when `finish_crypto` does nothing. -/
theorem entry_eof_mac {σ δ H} (P : AesPrims) (hW : P.WF) (S : Src σ) (D : Decoder δ) (hD : D.Faithful)
    (compressing : Bool) (hS : compressing = false → D.StoredLike) (upd : H → Bytes → H) (fin : H → UInt32)
    (mode : AesMode) (L : Nat) (s s' : σ) (pw : Bytes) (v0 : Valid σ)
    (hv : validate P S mode (some L) s pw = (.ok (some v0), s')) (hL : L < U64) (d0 : δ) (c0 : CrcSt H)
    (bufs : List Nat) (out : Bytes) (st1 st2 : EntrySt σ δ H)
    (hrun : entryDrain P S D compressing upd fin bufs ⟨d0, v0, c0⟩ [] = (.ok out, st1))
    (n : Nat) (hn : 0 < n) (heof : entryRead P S D compressing upd fin st1 n = (.ok [], st2)) :
    st2.aes.dataRemaining = 0 ∧ st2.aes.ghostCt.length = L ∧
    st2.aes.ghostMac = some ((P.hmac v0.hmacKey st2.aes.ghostCt).take AUTH_CODE_LENGTH,
                             (P.hmac v0.hmacKey st2.aes.ghostCt).take AUTH_CODE_LENGTH) := by
  obtain ⟨L', salt, pvv, s1, hdl, _, _, _, rfl⟩ := validate_ok P S mode _ s s' pw v0 hv
  cases hdl
  have hQ := macOk_stable P hW S hL
    ((P.pbkdf2 pw salt (2 * mode.keyLength + 2)).take mode.keyLength)
    (((P.pbkdf2 pw salt (2 * mode.keyLength + 2)).drop mode.keyLength).take mode.keyLength)
  have h1 := entryDrain_ok P hW S hL hQ D hD compressing upd fin bufs _ st1 [] out ⟨[], RunInv.init P s' _ _ _⟩ hrun
  obtain ⟨acc, hR⟩ := (entryRead_ok P hW S hL hQ D hD compressing upd fin st1 st2 n [] h1 heof).1
  exact hR.mac_of_fin (entryRead_eof P hW S hL hQ D hD compressing hS upd fin st1 st2 n hn h1 heof).2

end ZipVerif.Model.Aes
