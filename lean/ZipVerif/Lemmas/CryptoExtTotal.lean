import ZipVerif.Model.CryptoExt
import ZipVerif.Lemmas.ReaderTotal
import ZipVerif.Lemmas.EntryBridgeAes
/-
C05: `ExtNoPanic` PROVED for the crate's own decryption layers (`Model.cryptoExt`), for every password, every
mode / declared size and every byte string - so the part of `reader_total`'s hypothesis that stands for
src/zipcrypto.rs and src/aes.rs is discharged (`Props/C05.reader_total_crypto`); what is left is the
decompressors and the output LENGTHS of PBKDF2 / AES / HMAC (`AesPrims.WF`: facts of the Rust types).
-/

namespace ZipVerif.Model
open ZipVerif

/-! ### ZipCrypto: the model has no panic site at all on the read side -/

theorem zipCryptoLayer_noPanic (pw : Bytes) (check : UInt8) (raw : Bytes) :
    ¬ (zipCryptoLayer pw check raw).isPanic = true := by
  unfold zipCryptoLayer
  cases rdN 12 raw with
  | none => intro h; cases h
  | some p =>
    obtain ⟨hdr, rest⟩ := p
    simp only []
    split <;> (intro h; cases h)

/-- An encrypted entry shorter than its 12-byte header is `UnexpectedEof`, whatever the password. -/
theorem zipCryptoLayer_short (pw : Bytes) (check : UInt8) (raw : Bytes) (h : raw.length < 12) :
    zipCryptoLayer pw check raw = .err (.io .unexpectedEof) := by
  unfold zipCryptoLayer
  have : rdN 12 raw = none := by
    unfold rdN
    rw [if_neg (by omega)]
  rw [this]

/-! ### AES -/

namespace Aes

/-- `validate` cannot panic: `read_exact` over a reader that keeps the `Read` contract, and the derived key has
the length `GenericArray::from_slice` asserts because PBKDF2 fills the buffer it is given. -/
theorem validate_no_panic {σ} (P : AesPrims) (hW : P.WF) (S : Src σ) (hC : S.Contract) (mode : AesMode)
    (dl : Option Nat) (s : σ) (pw : Bytes) (m : String) :
    (validate P S mode dl s pw).1 ≠ .panic m := by
  unfold validate
  cases dl with
  | none => intro h; cases h
  | some L =>
    simp only []
    cases h1 : readExact S s mode.saltLength with
    | mk r1 s1 =>
    cases r1 with
    | err e => intro h; cases h
    | panic m1 => exact absurd (by rw [h1]) (readExact_no_panic S hC s _ m1)
    | ok salt =>
      simp only []
      cases h2 : readExact S s1 PWD_VERIFY_LENGTH with
      | mk r2 s2 =>
      cases r2 with
      | err e => intro h; cases h
      | panic m2 => exact absurd (by rw [h2]) (readExact_no_panic S hC s1 _ m2)
      | ok pvv =>
        simp only []
        split
        · intro h; cases h
        · split
          · rename_i hk
            exfalso
            apply hk
            rw [List.length_take, hW.pbkdf2_len]
            omega
          · intro h; cases h

theorem drain_no_panic (P : AesPrims) (hW : P.WF) {σ} (S : Src σ) (hC : S.Contract) {L : Nat} (hL : L < U64) :
    ∀ (bufs : List Nat) (v : Valid σ) (acc : Bytes), Inv P L v → ∀ m, (drain P S bufs v acc).1 ≠ .panic m := by
  intro bufs
  induction bufs with
  | nil => intro v acc _ m h; cases h
  | cons n ns ih =>
    intro v acc hI m
    unfold drain
    have hI' := (read_cases P hW S hL v hI n).inv hI
    cases hr : Valid.read P S v n with
    | mk r v' =>
    rw [hr] at hI'
    cases r with
    | ok o => exact ih v' _ hI' m
    | err e => intro h; cases h
    | panic m' => exact absurd (by rw [hr]) (read_no_panic P hW S hC hL v hI n m')

end Aes

theorem aesLayer_noPanic (P : Aes.AesPrims) (hW : P.WF) (pw : Bytes) (mode : AesMode) (csize : UInt64)
    (raw : Bytes) : ¬ (aesLayer P pw mode csize raw).isPanic = true := by
  rcases aesLayer_cases P hW pw mode csize raw with ⟨_, h⟩ | ⟨L, _, _, ⟨_, h⟩ | ⟨_, _, h⟩ | ⟨_, _, h⟩⟩ <;>
    (rw [h]; intro hp; cases hp)

theorem aesLayer_stream_noPanic (P : Aes.AesPrims) (hW : P.WF) (pw : Bytes) (mode : AesMode) (csize : UInt64)
    (raw : Bytes) (s : Out Bytes) (h : aesLayer P pw mode csize raw = .ok (some s)) :
    ¬ s.isPanic = true := by
  rcases aesLayer_cases P hW pw mode csize raw with ⟨_, hc⟩ | ⟨L, _, hL, ⟨_, hc⟩ | ⟨_, _, hc⟩ | ⟨_, _, hc⟩⟩ <;>
    rw [hc] at h <;> cases h
  intro hp
  -- `[L, L]`: the two reads of `aesReadAll`, each with room for the whole payload
  cases hd : (Aes.drain P Aes.listSrc [L, L] (aesReader P pw mode raw L []) []).1 with
  | ok b => rw [hd] at hp; cases hp
  | err e => rw [hd] at hp; cases hp
  | panic m =>
    exact Aes.drain_no_panic P hW Aes.listSrc Aes.listSrc_contract hL _ _ [] (Aes.initValid_inv P _ _ _ _) m hd

/-- **The crate's decryption layers never panic** (model of zipcrypto.rs / aes.rs / aes_ctr.rs), for every
password on every byte string; the only assumptions left are about code outside the crate: the decompressors do
not panic, and PBKDF2 / the AES block function / HMAC-SHA1 return outputs of their fixed lengths. -/
theorem cryptoExt_noPanic (P : Aes.AesPrims) (hW : P.WF) (decode : Method → Bytes → Out Bytes)
    (hdec : ∀ m bs, ¬ (decode m bs).isPanic = true) : ExtNoPanic (cryptoExt P decode) where
  decode := hdec
  zipCrypto := zipCryptoLayer_noPanic
  aes := aesLayer_noPanic P hW
  aesStream := aesLayer_stream_noPanic P hW

end ZipVerif.Model
