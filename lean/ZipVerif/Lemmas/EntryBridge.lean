import ZipVerif.Lemmas.Layers
import ZipVerif.Lemmas.ReaderBounds
/-
Bridge between the two models of "read an entry":

* `Model/Reader.lean`: `byIndexRead` / `streamEntry` = position the device at the data start, `takeAll`
  the compressed bytes in one go, apply the pure `Ext.decode`, then `crcCheck`;
* `Model/Layers.lean`: `entryPipeline` = `Crc32Reader(decoder(Take(reader)))` driven call by call with
  arbitrary buffer sizes over a reader with arbitrary short reads.

`entry_bridge`: for every entry that `byIndexRead` hands out, reading the pipeline to the end over ANY
reader holding the device's bytes from the data start, under ANY request schedule, gives the inner
result of `byIndexRead` (one inversion, `byIndexRead_ok_inv`, and one core, `layer_eq_decode_crc`, which the
ZipCrypto and AES bridges reuse); the loop does finish (`entry_bridge_terminates`).  `stream_entry_bridge`: the same for
`streamEntry`, with the parameters of the local record (`streamEntry_inv`).  Last: a concrete archive `oneEntry` with
both runs (`openReadBoth`), for the examples of C04 / C09.
-/

namespace ZipVerif.Model
open ZipVerif ZipVerif.Spec ZipVerif.Model.Layers

/-! ### The model's device as a `Src` -/

/-- `M.read` without the fault index: the never-short `Cursor` as a reader of the layer model. -/
def devSrc : Src Dev where
  rd d n := (.ok ((d.buf.drop d.pos).take n),
    { d with pos := d.pos + ((d.buf.drop d.pos).take n).length, calls := d.calls + 1 })

theorem devSrc_eq_read (n : Nat) (d : Dev) :
    M.read n none d = (.ok ((d.buf.drop d.pos).take n), (devSrc.rd d n).2) := rfl

theorem devSrc_denotes (d : Dev) : Denotes devSrc d (d.buf.drop d.pos) .eof := by
  refine prefixSrc_denotes devSrc (fun d => d.buf.drop d.pos)
    (fun s n => ⟨n, _, rfl, Nat.le_refl _, fun hn _ => hn, ?_⟩) d
  show s.buf.drop (s.pos + ((s.buf.drop s.pos).take n).length) = (s.buf.drop s.pos).drop n
  rw [List.drop_drop, List.length_take, List.length_drop]
  by_cases h : n ≤ s.buf.length - s.pos
  · rw [Nat.min_eq_left h]
  · rw [Nat.min_eq_right (Nat.le_of_not_le h), List.drop_eq_nil_of_le (Nat.sub_le_iff_le_add'.mp (Nat.le_refl _)),
      List.drop_eq_nil_of_le (Nat.sub_le_iff_le_add'.mp (Nat.le_of_not_le h))]

/-! ### What `byIndexRead` does on an arbitrary device -/

theorem ReadOnly.buf_eq {α : Type} {x : M α} (hx : ReadOnly x) {fa : Option Nat} {d d' : Dev} {r : Out α}
    (h : x fa d = (r, d')) : d'.buf = d.buf := by
  have := hx.elim fa d
  rwa [h] at this

theorem openArchive_buf {fa : Option Nat} {bs : Bytes} {a : Archive} {d : Dev}
    (h : openArchive fa (Dev.ofBytes bs) = (.ok a, d)) : d.buf = bs :=
  openArchive_readOnly.buf_eq h

theorem findContent_ok_inv {f : FileData} {fa : Option Nat} {d d' : Dev} {ds : Nat}
    (h : findContent f fa d = (.ok ds, d')) : d'.buf = d.buf ∧ d'.pos = ds := by
  refine ⟨(findContent_readOnly f).buf_eq h, ?_⟩
  unfold findContent at h
  obtain ⟨_, d1, _, h⟩ := M.bind_ok_inv h
  obtain ⟨sig, d2, _, h⟩ := M.bind_ok_inv h
  by_cases hs : (sig != LOCAL_SIG) = true
  · rw [if_pos hs] at h; exact (M.throw_ok_inv h).elim
  rw [if_neg hs] at h
  obtain ⟨_, d3, _, h⟩ := M.bind_ok_inv h
  obtain ⟨nl, d4, _, h⟩ := M.bind_ok_inv h
  obtain ⟨xl, d5, _, h⟩ := M.bind_ok_inv h
  dsimp only at h
  by_cases hd : f.headerStart.toNat + 30 + nl.toNat + xl.toNat ≥ 18446744073709551616
  · rw [if_pos hd] at h; cases h
  rw [if_neg hd] at h
  obtain ⟨_, d6, h6, h⟩ := M.bind_ok_inv h
  obtain ⟨_, _, hp6⟩ := M.seek_start_ok_inv h6
  obtain ⟨rfl, rfl⟩ := M.pure_ok_inv h
  exact hp6

theorem takeAll_ok_inv {limit : Nat} {fa : Option Nat} {d d' : Dev} {r : Bytes}
    (h : takeAll limit fa d = (.ok r, d')) : r = (d.buf.drop d.pos).take limit := by
  unfold takeAll at h
  by_cases h0 : limit = 0
  · rw [if_pos h0] at h
    obtain ⟨rfl, _⟩ := M.pure_ok_inv h
    rw [h0]; rfl
  rw [if_neg h0] at h
  obtain ⟨r1, d1, h1, h⟩ := M.bind_ok_inv h
  obtain ⟨hr, _, _⟩ := M.read_ok_inv h1
  by_cases hl : r1.length = limit
  · rw [if_pos hl] at h
    obtain ⟨rfl, _⟩ := M.pure_ok_inv h; exact hr
  rw [if_neg hl] at h
  by_cases hz : r1.length = 0
  · rw [if_pos hz] at h
    obtain ⟨rfl, _⟩ := M.pure_ok_inv h; exact hr
  rw [if_neg hz] at h
  obtain ⟨_, _, _, h⟩ := M.bind_ok_inv h
  obtain ⟨rfl, _⟩ := M.pure_ok_inv h; exact hr

/-- The validator byte `make_crypto_reader` hands to `ZipCryptoReader::validate`: the high byte of the DOS time
for entries with a data descriptor, of the CRC-32 otherwise. -/
def zcCheck (data : FileData) : UInt8 :=
  if data.usingDataDescriptor then (data.time.timepart >>> 8).toUInt8 else (data.crc32 >>> 24).toUInt8

theorem zcCheck_eq (data : FileData) :
    (if data.usingDataDescriptor then Validator.infoZipMsdosTime data.time.timepart
      else .pkzipCrc32 data.crc32).checkByte = zcCheck data := by
  unfold zcCheck
  cases data.usingDataDescriptor <;> rfl

theorem byIndexOpen_ok_inv {a : Archive} {i : Nat} {data : FileData} {pw : Option Bytes} {fa : Option Nat}
    {d d' : Dev} {r : FileData × Nat × CryptoChoice}
    (hfile : a.files[i]? = some data) (h : byIndexOpen a i pw fa d = (.ok r, d')) :
    ∃ ds, findContent data fa d = (.ok ds, d') ∧
      r = (data, ds, cryptoChoice data.method data.crc32 data.time data.usingDataDescriptor
        (if data.encrypted then pw else none) data.aesMode) := by
  unfold byIndexOpen at h
  rw [hfile] at h
  dsimp only at h
  split at h
  · exact (M.throw_ok_inv h).elim
  · obtain ⟨ds, d1, h1, h⟩ := M.bind_ok_inv h
    obtain ⟨rfl, rfl⟩ := M.pure_ok_inv h
    exact ⟨ds, h1, rfl⟩

/-- Inversion of the read half when it returns (`Ok(Ok(file))` or `Ok(Err(InvalidPassword))`), on an ARBITRARY device,
under any fault index and any environment, by the decision: the layer is applied to `raw`, the first `compressed_size`
bytes at the device's position; the CRC comparison is with the CENTRAL record's `crc32` (skipped for AE-2). -/
theorem readChoice_ok_inv {ext : Ext} {data : FileData} {ds : Nat} {c : CryptoChoice} {fa : Option Nat} {d d' : Dev}
    {r : PwResult (Nat × Out Bytes)} {raw : Bytes} (h : readChoice ext data ds c fa d = (.ok r, d'))
    (hraw : raw = (d.buf.drop d.pos).take data.compressedSize.toNat) :
    match (generalizing := false) c with
    | .unsupported => False
    | .invalidPassword => r = .invalidPassword
    | .plaintext => r = .ok (ds, ext.decode data.method raw >>= crcCheck false data.crc32)
    | .zipCrypto p v =>
      (∃ pt, ext.zipCrypto p v.checkByte raw = .ok (some pt) ∧
          r = .ok (ds, ext.decode data.method pt >>= crcCheck false data.crc32)) ∨
        (ext.zipCrypto p v.checkByte raw = .ok none ∧ r = .invalidPassword)
    | .aes p mode vv =>
      (∃ stream, ext.aes p mode data.compressedSize raw = .ok (some stream) ∧
          r = .ok (ds, stream >>= fun pt => ext.decode data.method pt >>= crcCheck (vv == .ae2) data.crc32)) ∨
        (ext.aes p mode data.compressedSize raw = .ok none ∧ r = .invalidPassword) := by
  cases c with
  | unsupported => cases h
  | invalidPassword => exact (M.pure_ok_inv h).1
  | plaintext =>
    obtain ⟨_, d2, h2, h⟩ := M.bind_ok_inv h
    cases hraw.trans (takeAll_ok_inv h2).symm
    exact (M.pure_ok_inv h).1
  | zipCrypto p v =>
    obtain ⟨_, d2, h2, h⟩ := M.bind_ok_inv h
    cases hraw.trans (takeAll_ok_inv h2).symm
    dsimp only at h ⊢
    generalize ext.zipCrypto p _ _ = x at h ⊢
    rcases x with (_ | pt) | e | s
    · exact Or.inr ⟨rfl, (M.pure_ok_inv h).1⟩
    · exact Or.inl ⟨pt, rfl, (M.pure_ok_inv h).1⟩
    · exact (M.throw_ok_inv h).elim
    · cases h
  | aes p mode vv =>
    obtain ⟨_, d2, h2, h⟩ := M.bind_ok_inv h
    cases hraw.trans (takeAll_ok_inv h2).symm
    dsimp only at h ⊢
    generalize ext.aes p mode _ _ = x at h ⊢
    rcases x with (_ | stream) | e | s
    · exact Or.inr ⟨rfl, (M.pure_ok_inv h).1⟩
    · exact Or.inl ⟨stream, rfl, (M.pure_ok_inv h).1⟩
    · exact (M.throw_ok_inv h).elim
    · cases h

/-- A `by_index*` call that returns: `find_content` succeeded, leaving the device at the data start `ds`, and the read
half returned; the method was not a refused one, so the decision is the one `.stored` gets. -/
theorem byIndexRead_ok_inv {ext : Ext} {a : Archive} {i : Nat} {data : FileData} {pw : Option Bytes}
    {fa : Option Nat} {d d' : Dev} {r : PwResult (Nat × Out Bytes)}
    (hfile : a.files[i]? = some data) (h : byIndexRead ext a i pw fa d = (.ok r, d')) :
    ∃ ds d1, findContent data fa d = (.ok ds, d1) ∧ d1.buf = d.buf ∧ d1.pos = ds ∧
      readChoice ext data ds (cryptoChoice .stored data.crc32 data.time data.usingDataDescriptor
        (if data.encrypted then pw else none) data.aesMode) fa d1 = (.ok r, d') := by
  rw [byIndexRead_eq_open] at h
  obtain ⟨_, d1, h0, h⟩ := M.bind_ok_inv h
  obtain ⟨ds, h1, rfl⟩ := byIndexOpen_ok_inv hfile h0
  obtain ⟨hb1, hp1⟩ := findContent_ok_inv h1
  refine ⟨ds, d1, h1, hb1, hp1, ?_⟩
  dsimp only at h
  rw [cryptoChoice_eq] at h
  split at h
  · exact h
  · cases h

theorem byIndexRead_plain_inv {ext : Ext} {a : Archive} {i : Nat} {data : FileData}
    {pw : Option Bytes} {fa : Option Nat} {d d' : Dev} {ds : Nat} {res : Out Bytes}
    (hfile : a.files[i]? = some data) (henc : data.encrypted = false)
    (h : byIndexRead ext a i pw fa d = (.ok (.ok (ds, res)), d')) :
    res = (ext.decode data.method ((d.buf.drop ds).take data.compressedSize.toNat) >>=
      crcCheck false data.crc32) := by
  obtain ⟨_, d1, _, hb1, hp1, hres⟩ := byIndexRead_ok_inv hfile h
  rw [henc] at hres
  have hres := readChoice_ok_inv hres (by rw [hb1, hp1])
  cases haes : data.aesMode <;> rw [haes] at hres <;> cases hres
  rfl

/-! ### The bridge -/

/-- What `read_to_end` reports for a finished read loop: the bytes on a clean end, the error otherwise
(bytes delivered before an error are not part of `Reader`'s `Out Bytes`). -/
def outOfLoop : Bytes × Term → Out Bytes
  | (b, .eof) => .ok b
  | (_, .err e) => .err (.io e)

/-- The decoder layer `c` is what the pure `Ext.decode m` summarises, on the compressed stream `C`
followed by the clean end the `Take` produces: `c` is chunk independent on `C` (for Stored a theorem,
for flate2 / bzip2 / zstd on an encoder's output the hypothesis `Codec.IntactOK`) and its result is
`Ext.decode m C`. -/
structure CodecFor (ext : Ext) (m : Method) (c : Codec) (C : Bytes) : Prop where
  chunk : c.ChunkIndependentOn C .eof
  agrees : ext.decode m C = outOfLoop (c.decode C .eof)

theorem takeTerm_eof (n : Nat) (B : Bytes) : takeTerm n B .eof = .eof := by
  simp [takeTerm]

theorem bind_crcCheck_ok {x : Out Bytes} {declared : UInt32} {content : Bytes}
    (h : (x >>= crcCheck false declared) = .ok content) : Crc32.crc32 content = declared := by
  rcases x with y | e | s
  · change crcCheck false declared y = .ok content at h
    unfold crcCheck at h
    split at h
    · cases h
    · rename_i hne
      cases h
      simpa using hne
  · cases h
  · cases h

theorem outOfLoop_crc (ae2 : Bool) (declared : UInt32) (B : Bytes) (T : Term) :
    (outOfLoop (B, T) >>= crcCheck ae2 declared) = outOfLoop (B, crcTerm declared ae2 B T) := by
  cases T with
  | eof =>
    show crcCheck ae2 declared B = _
    cases ae2 <;> by_cases h : Crc32.crc32 B = declared <;> simp [crcCheck, crcTerm, outOfLoop, h]
  | err e => rfl

theorem CodecFor.denotes {τ : Type} {ext : Ext} {m : Method} {c : Codec} {C : Bytes} (hc : CodecFor ext m c C)
    {src : Src τ} {st : τ} (hsrc : Denotes src st C .eof) (declared : UInt32) (ae2 : Bool) :
    Denotes (crcLayer (c.layer src) declared ae2) (c.init st, Crc32.init) (c.decode C .eof).1
      (crcTerm declared ae2 (c.decode C .eof).1 (c.decode C .eof).2) :=
  crc_denotes_nz _ declared ae2 (hc.chunk _ _ hsrc)

/-- Core of the bridge, independent of how the entry was found and of what is below the decoder (for an
encrypted entry: the validated decryption layer): read to the end under any schedule, it gives `Ext.decode` of
`C`, then the CRC comparison (none for AE-2). -/
theorem layer_eq_decode_crc {τ : Type} (ext : Ext) (m : Method) (c : Codec) (C : Bytes) (declared : UInt32)
    (ae2 : Bool) (hc : CodecFor ext m c C) (src : Src τ) (st : τ) (hsrc : Denotes src st C .eof)
    (reqs : List Nat) {b : Bytes} {t : Term} {e : c.St τ × UInt32}
    (hr : readToEnd (crcLayer (c.layer src) declared ae2) (c.init st, Crc32.init) reqs = some (b, t, e)) :
    (ext.decode m C >>= crcCheck ae2 declared) = outOfLoop (b, t) := by
  obtain ⟨hb, ht, _⟩ := denotes_readToEnd (hc.denotes hsrc declared ae2) hr
  rw [hc.agrees, hb, ht]
  exact outOfLoop_crc ae2 declared _ _

theorem pipeline_eq_decode_crc {σ : Type} (ext : Ext) (m : Method) (c : Codec) (A : Bytes)
    (csize : Nat) (declared : UInt32) (hc : CodecFor ext m c (A.take csize))
    (inner : Src σ) (s : σ) (hin : Denotes inner s A .eof) (reqs : List Nat) {b : Bytes} {t : Term}
    {e : c.St (σ × Nat) × UInt32}
    (hr : readToEnd (entryPipeline c inner declared false) (c.init (s, csize), Crc32.init) reqs
      = some (b, t, e)) :
    (ext.decode m (A.take csize) >>= crcCheck false declared) = outOfLoop (b, t) :=
  layer_eq_decode_crc ext m c _ declared false hc (take inner) (s, csize) (take_denotes_eof inner csize hin) reqs hr

/-- **Bridge, seekable reader, unencrypted entries, every method.**  `by_index` (any password argument)
on entry `i` of archive value `a` over device `d` hands out the read-to-end result `res`.  Then for
EVERY reader `inner` holding the device's bytes from the data start `ds` (every short-read behaviour)
and EVERY schedule of caller buffers `reqs` (zeros included), the read loop over
`Crc32Reader(decoder(Take(compressed_size)))` built with the CENTRAL record's `crc32` and
`compressed_size`, if it finishes, returns `res`: the same bytes on success, an error iff an error,
the same `io::ErrorKind`. -/
theorem entry_bridge {σ : Type} {ext : Ext} {a : Archive} {i : Nat} {data : FileData}
    {pw : Option Bytes} {fa : Option Nat} {d d' : Dev} {ds : Nat} {res : Out Bytes}
    (hfile : a.files[i]? = some data) (henc : data.encrypted = false)
    (h : byIndexRead ext a i pw fa d = (.ok (.ok (ds, res)), d'))
    (c : Codec)
    (hc : CodecFor ext data.method c ((d.buf.drop ds).take data.compressedSize.toNat))
    (inner : Src σ) (s : σ) (hin : Denotes inner s (d.buf.drop ds) .eof) (reqs : List Nat)
    {b : Bytes} {t : Term} {e : c.St (σ × Nat) × UInt32}
    (hr : readToEnd (entryPipeline c inner data.crc32 false)
      (c.init (s, data.compressedSize.toNat), Crc32.init) reqs = some (b, t, e)) :
    res = outOfLoop (b, t) := by
  rw [byIndexRead_plain_inv hfile henc h]
  exact pipeline_eq_decode_crc ext data.method c _ _ _ hc inner s hin reqs hr

/-- The loop does finish: more than the decoded length many non-empty buffers suffice. -/
theorem entry_bridge_terminates {σ : Type} (ext : Ext) (m : Method) (c : Codec) (A : Bytes)
    (csize : Nat) (declared : UInt32) (hc : CodecFor ext m c (A.take csize))
    (inner : Src σ) (s : σ) (hin : Denotes inner s A .eof) (reqs : List Nat)
    (hn : (c.decode (A.take csize) .eof).1.length < nonzero reqs) :
    (readToEnd (entryPipeline c inner declared false) (c.init (s, csize), Crc32.init) reqs).isSome
      = true :=
  denotes_readToEnd_terminates (hc.denotes (take_denotes_eof inner csize hin) declared false) hn

/-- The model's own device, as `find_content` leaves it, is one of the readers the bridge speaks about. -/
theorem dev_after_findContent_denotes {data : FileData} {fa : Option Nat} {d d1 : Dev} {ds : Nat}
    (h : findContent data fa d = (.ok ds, d1)) : Denotes devSrc d1 (d.buf.drop ds) .eof := by
  obtain ⟨hb, hp⟩ := findContent_ok_inv h
  have := devSrc_denotes d1
  rw [hb, hp] at this
  exact this

/-- Stored: `CodecFor` is a theorem as soon as `Ext.decode .stored` is the identity (what
`make_reader` does: no decoder at all). -/
theorem codecFor_stored (ext : Ext) (hst : ∀ x, ext.decode .stored x = .ok x) (C : Bytes) :
    CodecFor ext .stored storedCodec C :=
  ⟨storedCodec_on C .eof, by rw [hst]; rfl⟩

theorem codecFor_intact (ext : Ext) (m : Method) (c : Codec) (encode : Bytes → Bytes)
    (hc : c.IntactOK encode) (p : Bytes) (hdec : ext.decode m (encode p) = .ok p) :
    CodecFor ext m c (encode p) :=
  ⟨hc.chunk p, by rw [hdec, hc.roundtrip p]; rfl⟩

/-! ### Streaming reader -/

theorem streamEntry_inv {ext : Ext} {fa : Option Nat} {d d' : Dev} {f : FileData} {res : Out Bytes}
    (h : streamEntry ext fa d = (.ok (some (f, res)), d')) :
    ∃ d1, streamHeader fa d = (.ok (some f), d1) ∧ d1.buf = d.buf ∧
      res = (ext.decode f.method ((d1.buf.drop d1.pos).take f.compressedSize.toNat) >>=
        crcCheck false f.crc32) := by
  unfold streamEntry at h
  obtain ⟨hd, d1, h1, h⟩ := M.bind_ok_inv h
  have hb : d1.buf = d.buf := streamHeader_readOnly.buf_eq h1
  cases hd with
  | none => obtain ⟨hh, _⟩ := M.pure_ok_inv h; cases hh
  | some f1 =>
    obtain ⟨raw, d2, h2, h⟩ := M.bind_ok_inv h
    obtain ⟨hh, _⟩ := M.pure_ok_inv h
    have hraw := takeAll_ok_inv h2
    injection hh with hh
    injection hh with hf hres
    subst hf
    exact ⟨d1, h1, hb, by rw [hres, hraw]⟩

/-- **Bridge, streaming reader** (`read_zipfile_from_stream`): the entry's parameters come from the
LOCAL record, the bytes are those behind the header on the stream. -/
theorem stream_entry_bridge {σ : Type} {ext : Ext} {fa : Option Nat} {d d' : Dev} {f : FileData}
    {res : Out Bytes} (h : streamEntry ext fa d = (.ok (some (f, res)), d')) :
    ∃ d1, streamHeader fa d = (.ok (some f), d1) ∧ d1.buf = d.buf ∧
      ∀ (c : Codec),
        CodecFor ext f.method c ((d.buf.drop d1.pos).take f.compressedSize.toNat) →
      ∀ (inner : Src σ) (s : σ), Denotes inner s (d.buf.drop d1.pos) .eof →
      ∀ (reqs : List Nat) (b : Bytes) (t : Term) (e : c.St (σ × Nat) × UInt32),
        readToEnd (entryPipeline c inner f.crc32 false)
          (c.init (s, f.compressedSize.toNat), Crc32.init) reqs = some (b, t, e) →
        res = outOfLoop (b, t) := by
  obtain ⟨d1, h1, hb, hres⟩ := streamEntry_inv h
  refine ⟨d1, h1, hb, ?_⟩
  intro c hc inner s hin reqs b t e hr
  rw [hres, hb]
  exact pipeline_eq_decode_crc ext f.method c _ _ _ hc inner s hin reqs hr

/-! ### A concrete archive for the non-vacuity examples of C04 / C09 -/

/-- A well-formed one-entry archive (`a` = "Z", Stored), 101 bytes (the one of C05). -/
def oneEntry : Bytes :=
  [0x50, 0x4b, 0x3, 0x4, 0x14, 0x0, 0x0, 0x0, 0x0, 0x0, 0x0, 0x0, 0x21, 0x0, 0x67, 0x57, 0xbc, 0x59,
   0x1, 0x0, 0x0, 0x0, 0x1, 0x0, 0x0, 0x0, 0x1, 0x0, 0x0, 0x0, 0x61, 0x5a,
   0x50, 0x4b, 0x1, 0x2, 0x14, 0x0, 0x14, 0x0, 0x0, 0x0, 0x0, 0x0, 0x0, 0x0, 0x21, 0x0, 0x67, 0x57,
   0xbc, 0x59, 0x1, 0x0, 0x0, 0x0, 0x1, 0x0, 0x0, 0x0, 0x1, 0x0, 0x0, 0x0, 0x0, 0x0, 0x0, 0x0, 0x0,
   0x0, 0x0, 0x0, 0x0, 0x0, 0x0, 0x0, 0x0, 0x0, 0x61,
   0x50, 0x4b, 0x5, 0x6, 0x0, 0x0, 0x0, 0x0, 0x1, 0x0, 0x1, 0x0, 0x2f, 0x0, 0x0, 0x0, 0x20, 0x0, 0x0,
   0x0, 0x0, 0x0]

/-- Open `bytes`, hand out entry `i` (reader model), then read it call by call through the layer
model - `Crc32Reader(Take(scripted reader over the archive bytes from the data start))`, the
parameters taken from the parsed central record - and report both results. -/
def openReadBoth (bytes : Bytes) (i : Nat) (script reqs : List Nat) :
    Option (Nat × Bytes × Option (Bytes × Term)) :=
  match openArchive.runPure (Dev.ofBytes bytes) with
  | (.ok a, d) =>
    match a.files[i]?, (byIndexRead storedExt a i none).runPure d with
    | some data, (.ok (.ok (ds, .ok content)), _) =>
      some (ds, content,
        (readToEnd (entryPipeline storedCodec scripted data.crc32 false)
          (((⟨bytes.drop ds, script, script, none⟩ : Scripted), data.compressedSize.toNat),
            Crc32.init) reqs).map fun r => (r.1, r.2.1))
    | _, _ => none
  | _ => none

/-- Decidable equality of what `openReadBoth` (and `zcReadBoth`) report, found in two steps: searched for in one,
the instance exceeds `synthInstance.maxSize` as soon as two such equations stand in one proposition. -/
@[reducible] def readViewDecEq : DecidableEq (Option (Bytes × Term)) := inferInstance
attribute [local instance] readViewDecEq in
@[reducible] def readBothDecEq : DecidableEq (Option (Nat × Bytes × Option (Bytes × Term))) := inferInstance

attribute [local instance] readBothDecEq in
/-- The runs the examples of C04 and C09 share: entry 0 of `oneEntry` handed out with data start 31 and content
"Z"; the call-by-call read agrees, over a reader delivering one byte at a time with zero-length buffers interleaved
and over one delivering five.  One evaluation: the kernel opens the archive once for both. -/
theorem openReadBoth_oneEntry_runs :
    openReadBoth oneEntry 0 [1] [0, 3, 0, 3] = some (31, [0x5a], some ([0x5a], .eof)) ∧
    openReadBoth oneEntry 0 [5] [1, 1, 1] = some (31, [0x5a], some ([0x5a], .eof)) := by
  decide +kernel

theorem openReadBoth_oneEntry :
    openReadBoth oneEntry 0 [1] [0, 3, 0, 3] = some (31, [0x5a], some ([0x5a], .eof)) :=
  openReadBoth_oneEntry_runs.1

end ZipVerif.Model
