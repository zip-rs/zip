import ZipVerif.Lemmas.WriterSat
import ZipVerif.Lemmas.MLogic
/-
Fault transparency for the I/O monad `M` (C11): the generic part.

`M α = Option Nat → Dev → Out α × Dev`; the `Option Nat` is the index of the I/O call that fails.
A model function could in principle look at that index in any way it likes, so "a fault that is not
reached changes nothing" is not a free theorem: it is proved here compositionally, by a predicate
that is closed under every combinator the model is written with.

* `Fired k d d'` — the call with index `k` was issued between device states `d` and `d'`.
* `Uniform x` — (mono) the call counter never decreases; (kind) the kind of error the device fails with never
  changes; (dich) for every fault index `k`: either the
  faulted run of `x` is *equal* to the fault-free run (value and device) and `k` lies outside the
  window of calls the run makes, or `k` lies inside the window of BOTH runs (the fault fired).
  Closed under `pure`, `bind`, `throw`, `panic`, `attempt`, the primitives, `if`/`match`.
* `OnFire Φ x` — `Uniform x`, and when the fault fires inside `x` the outcome satisfies `Φ`; one bind rule
  (`OnFire.bind`) and one for `attempt` carry every predicate below through a `do` block.
* `Clean x` — when the fault fires inside `x`, `x` returns exactly the injected error (functions that
  contain no `attempt`).  `Tight x = Uniform x ∧ Clean x`, which is `OnFire` at "the injected error" (`tight_iff`).
* `ErrOnFire x` — when the fault fires inside `x`, `x` returns *some* error (with `Uniform`: `ErrOnFire.mlogic`).
* for writer steps (`M (Except ZErr β × WState)`): `EP x` — if `x` returns `Ok` then the fault did
  not fire inside it; `StepOK x = Uniform x ∧ EP x`, which is `OnFire` at "not `Ok`" (`stepOK_iff`); `StepErr x`: `Uniform`
  and never returns `Ok`.

`Uniform`, `Tight` and `OnFire Φ` for a `Φ` that failures keep are logics of the reader (`Lemmas/MLogic`): their
per-function facts are instances of the walks in `Lemmas/ParserRel` and `Lemmas/MWalk`.
-/

namespace ZipVerif.Model
open ZipVerif

def Dev.shift (d : Dev) (c : Nat) : Dev := { d with calls := d.calls + c }

def Fired (k : Nat) (d d' : Dev) : Prop := d.calls ≤ k ∧ k < d'.calls

instance (k : Nat) (d d' : Dev) : Decidable (Fired k d d') := by unfold Fired; infer_instance

theorem Fired.self {k : Nat} {d : Dev} : ¬ Fired k d d := by unfold Fired; omega

theorem Fired.split {k : Nat} {d d' d'' : Dev} (h : Fired k d d'') : Fired k d d' ∨ Fired k d' d'' := by
  unfold Fired at *; omega

structure Uniform {α} (x : M α) : Prop where
  mono : ∀ fa d, d.calls ≤ (x fa d).2.calls
  /-- the kind of error the device fails with is a property of the device: no computation changes it -/
  kind : ∀ fa d, (x fa d).2.fkind = d.fkind
  dich : ∀ k d, (x (some k) d = x none d ∧ (k < d.calls ∨ (x none d).2.calls ≤ k)) ∨
                (Fired k d (x (some k) d).2 ∧ Fired k d (x none d).2)

/-- The consequence used most: a fault that is not reached **in the faulted run** changes nothing. -/
theorem Uniform.same_of_not_fired {α} {x : M α} (h : Uniform x) {k : Nat} {d : Dev}
    (hn : ¬ Fired k d (x (some k) d).2) : x (some k) d = x none d := by
  rcases h.dich k d with ⟨e, _⟩ | ⟨f, _⟩
  · exact e
  · exact absurd f hn

/-- A fault outside the window of calls of **the fault-free run** changes nothing. -/
theorem Uniform.same_of_outside {α} {x : M α} (h : Uniform x) {k : Nat} {d : Dev}
    (hn : k < d.calls ∨ (x none d).2.calls ≤ k) : x (some k) d = x none d := by
  rcases h.dich k d with ⟨e, _⟩ | ⟨_, f⟩
  · exact e
  · unfold Fired at f; omega

theorem Uniform.fired_none {α} {x : M α} (h : Uniform x) {k : Nat} {d : Dev}
    (hf : Fired k d (x (some k) d).2) : Fired k d (x none d).2 := by
  rcases h.dich k d with ⟨e, w⟩ | ⟨_, f⟩
  · rw [e] at hf; unfold Fired at hf; omega
  · exact f

/-- Every fault index inside the window of calls of the FAILURE-FREE run fires (`dich`), so what holds of every fired
fault holds at each of them: a sweep over all fault indices of a concrete run needs the failure-free call count only. -/
theorem Uniform.all_reached {α} {x : M α} (hu : Uniform x) (p : Out α → Bool) {d : Dev} (h0 : d.calls = 0) {n : Nat}
    (hn : n ≤ (x none d).2.calls) (hp : ∀ k, Fired k d (x (some k) d).2 → p (x (some k) d).1 = true) :
    (List.range n).all (fun k => p (x (some k) d).1) = true :=
  List.all_eq_true.mpr fun k hk => hp k (by
    have hk := List.mem_range.mp hk
    rcases hu.dich k d with ⟨_, h | h⟩ | ⟨hf, _⟩
    · omega
    · omega
    · exact hf)

/-! ### `Uniform`: closure -/

/-- a computation that makes no I/O call and leaves the device alone -/
theorem Uniform.noIO {α} (g : Dev → Out α) : Uniform (fun _ d => (g d, d) : M α) :=
  ⟨fun _ _ => Nat.le_refl _, fun _ _ => rfl, fun k d => by
      by_cases hk : k < d.calls
      · exact Or.inl ⟨rfl, Or.inl hk⟩
      · exact Or.inl ⟨rfl, Or.inr (by show d.calls ≤ k; omega)⟩⟩

theorem Uniform.const {α} (o : Out α) : Uniform (fun _ d => (o, d) : M α) := Uniform.noIO fun _ => o

theorem Uniform.pure {α} (a : α) : Uniform (Pure.pure a : M α) := Uniform.const _
theorem Uniform.throw {α} (e : ZErr) : Uniform (M.throw e : M α) := Uniform.const _
theorem Uniform.panic {α} (s : String) : Uniform (M.panic s : M α) := Uniform.const _
theorem Uniform.liftOut {α} (o : Out α) : Uniform (M.liftOut o : M α) := Uniform.const _

theorem Uniform.bind {α β} {x : M α} {f : α → M β} (hx : Uniform x) (hf : ∀ a, Uniform (f a)) :
    Uniform (x >>= f) := by
  have hge : ∀ fa d, (x fa d).2.calls ≤ ((x >>= f) fa d).2.calls := by
    intro fa d
    rw [M.bind_apply]
    cases h : x fa d with
    | mk o d' =>
      cases o with
      | ok a => exact (hf a).mono fa d'
      | err e => exact Nat.le_refl _
      | panic s => exact Nat.le_refl _
  have hkd : ∀ fa d, ((x >>= f) fa d).2.fkind = d.fkind := by
    intro fa d
    rw [M.bind_apply]
    have hk := hx.kind fa d
    cases h : x fa d with
    | mk o d' =>
      rw [h] at hk
      cases o with
      | ok a => exact ((hf a).kind fa d').trans hk
      | err e => exact hk
      | panic s => exact hk
  refine ⟨fun fa d => Nat.le_trans (hx.mono fa d) (hge fa d), hkd, ?_⟩
  · intro k d
    -- `dich` of `x`: outside its window both runs of `x` agree, and `dich` of the continuation from their common state
    -- decides (the two windows are adjacent, `mono`); inside it in both runs is inside the bind in both runs (`hge`)
    rcases hx.dich k d with ⟨heq, hw⟩ | ⟨h1, h2⟩
    · have hm := hx.mono none d
      rw [M.bind_apply, M.bind_apply, heq]
      cases h0 : x none d with
      | mk o d' =>
        rw [h0] at hw hm
        cases o with
        | ok a =>
          dsimp only at hw hm ⊢
          have hm2 := (hf a).mono none d'
          rcases (hf a).dich k d' with ⟨heq2, hw2⟩ | ⟨g1, g2⟩
          · exact Or.inl ⟨heq2, by omega⟩
          · refine Or.inr ⟨?_, ?_⟩
            · unfold Fired at *; omega
            · unfold Fired at *; omega
        | err e => exact Or.inl ⟨rfl, hw⟩
        | panic s => exact Or.inl ⟨rfl, hw⟩
    · have g1 := hge (some k) d
      have g2 := hge none d
      refine Or.inr ⟨?_, ?_⟩
      · unfold Fired at *; omega
      · unfold Fired at *; omega

theorem Uniform.attempt {α} {x : M α} (hx : Uniform x) : Uniform (M.attempt x) := by
  have hd : ∀ fa d, (M.attempt x fa d).2 = (x fa d).2 := by
    intro fa d
    rw [M.attempt_apply]
    cases h : x fa d with
    | mk o d' => cases o <;> rfl
  refine ⟨fun fa d => by rw [hd]; exact hx.mono fa d, fun fa d => by rw [hd]; exact hx.kind fa d, ?_⟩
  · intro k d
    rw [hd, hd]
    rcases hx.dich k d with ⟨heq, hw⟩ | h
    · exact Or.inl ⟨by rw [M.attempt_apply, M.attempt_apply, heq], hw⟩
    · exact Or.inr h

/-- One primitive: `f` must leave the call counter and the device's error kind alone. -/
theorem Uniform.prim {α} {f : Dev → Out α × Dev} (hc : ∀ d, (f d).2.calls = d.calls)
    (hk : ∀ d, (f d).2.fkind = d.fkind) :
    Uniform (M.prim f) := by
  refine ⟨?_, ?_, ?_⟩
  · intro fa d
    unfold M.prim
    dsimp only
    split
    · exact Nat.le_succ _
    · rw [hc]; exact Nat.le_succ _
  · intro fa d
    unfold M.prim
    dsimp only
    split
    · rfl
    · rw [hk]
  · intro k d
    unfold M.prim
    dsimp only
    by_cases hk : k = d.calls
    · subst hk
      refine Or.inr ⟨?_, ?_⟩
      · rw [if_pos rfl]; unfold Fired; dsimp only; omega
      · rw [if_neg (by simp)]; unfold Fired; rw [hc]; dsimp only; omega
    · have : ¬ (some k = some d.calls) := by simpa using hk
      rw [if_neg this, if_neg (by simp)]
      refine Or.inl ⟨rfl, ?_⟩
      rw [hc]; dsimp only; omega

/-- Where a fault that fired inside `x >>= f` fired: inside `x`; or `x` succeeded without reaching it, and it fired
inside the continuation. -/
theorem Uniform.fired_bind {α β} {x : M α} {f : α → M β} (hx : Uniform x) {k : Nat} {d : Dev}
    (hf : Fired k d ((x >>= f) (some k) d).2) :
    Fired k d (x (some k) d).2 ∨
    ∃ a d', x (some k) d = (.ok a, d') ∧ (x >>= f) (some k) d = f a (some k) d' ∧ d'.fkind = d.fkind ∧
      Fired k d' (f a (some k) d').2 := by
  have hm := hx.mono (some k) d
  have hk := hx.kind (some k) d
  rw [M.bind_apply] at hf ⊢
  cases h : x (some k) d with
  | mk o d' =>
    rw [h] at hf hm hk
    by_cases hfx : Fired k d d'
    · exact Or.inl hfx
    · cases o with
      | ok a => exact Or.inr ⟨a, d', rfl, rfl, hk, by dsimp only at hf hm; unfold Fired at *; omega⟩
      | err e => exact absurd hf hfx
      | panic s => exact absurd hf hfx

/-! ### `OnFire`: what a computation returns when the fault fires inside it -/

/-- `x` is fault transparent, and when the fault fires inside `x` the outcome satisfies `Φ` (which may look at the
kind of error the device fails with).  `Tight` is `Φ κ o := o = .err (.io κ)` (`tight_iff`), `ErrOnFire.mlogic.P` is
"some error", a writer step's `StepOK` is "not `Ok`" (`stepOK_iff`; `ErrOnFire` and `EP` alone are the `fire` halves),
and "a VALUE satisfying `P`" is what the take loop does with a failed read. -/
structure OnFire {α} (Φ : IoKind → Out α → Prop) (x : M α) : Prop where
  uni : Uniform x
  fire : ∀ k d, Fired k d (x (some k) d).2 → Φ d.fkind (x (some k) d).1

namespace OnFire
variable {α β : Type}

/-- the fault never fires inside a computation without I/O -/
theorem noIO (Φ : IoKind → Out α → Prop) (g : Dev → Out α) : OnFire Φ (fun _ d => (g d, d) : M α) :=
  ⟨Uniform.noIO g, fun _ _ h => absurd h Fired.self⟩

theorem const (Φ : IoKind → Out α → Prop) (o : Out α) : OnFire Φ (fun _ d => (o, d) : M α) := noIO Φ fun _ => o

theorem getDev (Φ : IoKind → Out Dev → Prop) : OnFire Φ M.getDev := noIO Φ .ok

theorem mono {Φ Ψ : IoKind → Out α → Prop} {x : M α} (h : OnFire Φ x) (hi : ∀ κ o, Φ κ o → Ψ κ o) : OnFire Ψ x :=
  ⟨h.uni, fun k d hf => hi _ _ (h.fire k d hf)⟩

/-- The half of `OnFire.bind` about the firing fault, which asks nothing else of the continuation. -/
theorem fire_bind {Φx : IoKind → Out α → Prop} {Φ : IoKind → Out β → Prop} {x : M α} {f : α → M β} (hx : Uniform x)
    (fx : ∀ k d, Fired k d (x (some k) d).2 → Φx d.fkind (x (some k) d).1)
    (ff : ∀ a k d, Fired k d (f a (some k) d).2 → Φ d.fkind (f a (some k) d).1)
    (h : ∀ κ o, Φx κ o → match o with
      | .ok a => ∀ fa d, Φ κ (f a fa d).1
      | .err e => Φ κ (.err e)
      | .panic s => Φ κ (.panic s)) :
    ∀ k d, Fired k d ((x >>= f) (some k) d).2 → Φ d.fkind ((x >>= f) (some k) d).1 := by
  intro k d hfired
  rcases hx.fired_bind hfired with h1 | ⟨a, d', _, e, hkd, h2⟩
  · have hΦ := h _ _ (fx k d h1)
    rw [M.bind_apply]
    generalize x (some k) d = r at hΦ
    obtain ⟨(a | e | s), d'⟩ := r
    · exact hΦ _ _
    · exact hΦ
    · exact hΦ
  · rw [e, ← hkd]
    exact ff a k d' h2

/-- The one bind rule.  The fault fired either in the continuation, after a first stage that did not reach it, or in
the first stage, and then `Φx` says what that stage returned: a failure is the failure of the whole; a VALUE goes to a
continuation that runs with the fault spent, so `Φ` has to hold of whatever that continuation returns. -/
theorem bind {Φx : IoKind → Out α → Prop} {Φ : IoKind → Out β → Prop} {x : M α} {f : α → M β}
    (hx : OnFire Φx x) (hf : ∀ a, OnFire Φ (f a))
    (h : ∀ κ o, Φx κ o → match o with
      | .ok a => ∀ fa d, Φ κ (f a fa d).1
      | .err e => Φ κ (.err e)
      | .panic s => Φ κ (.panic s)) : OnFire Φ (x >>= f) :=
  ⟨Uniform.bind hx.uni fun a => (hf a).uni, fire_bind hx.uni hx.fire (fun a => (hf a).fire) h⟩

/-- `attempt` turns the failure a fired fault caused into a value. -/
theorem attempt {Φ : IoKind → Out α → Prop} {x : M α} (hx : OnFire Φ x) :
    OnFire (fun κ o => ∃ o', Φ κ o' ∧ o = match o' with
      | .ok a => .ok (.ok a)
      | .err e => .ok (.error e)
      | .panic s => .panic s) (M.attempt x) := by
  have hr : ∀ fa d, M.attempt x fa d = (match (x fa d).1 with
      | .ok a => .ok (.ok a)
      | .err e => .ok (.error e)
      | .panic s => .panic s, (x fa d).2) := by
    intro fa d
    rw [M.attempt_apply]
    generalize x fa d = r
    obtain ⟨(a | e | s), d'⟩ := r <;> rfl
  refine ⟨Uniform.attempt hx.uni, fun k d hf => ?_⟩
  rw [hr] at hf ⊢
  exact ⟨_, hx.fire k d hf, rfl⟩

end OnFire

/-! ### `Clean` / `Tight` -/

/-- When the fault fires inside `x`, `x` returns the injected error itself: an I/O error of the kind the
device fails with (`Dev.fkind`, which no primitive changes) — whatever that kind is. -/
def Clean {α} (x : M α) : Prop :=
  ∀ k d, Fired k d (x (some k) d).2 → (x (some k) d).1 = .err (.io (x (some k) d).2.fkind)

structure Tight {α} (x : M α) : Prop where
  uni : Uniform x
  clean : Clean x

/-- The injected error a `Tight` computation returns has the kind of the device the call STARTED on: the kind is a
device property (`Uniform.kind`). -/
theorem Tight.reports {α} {x : M α} (h : Tight x) {k : Nat} {d : Dev}
    (hf : Fired k d (x (some k) d).2) : (x (some k) d).1 = .err (.io d.fkind) := by
  rw [h.clean k d hf, h.uni.kind]

theorem tight_iff {α} {x : M α} : Tight x ↔ OnFire (fun κ o => o = .err (.io κ)) x :=
  ⟨fun h => ⟨h.uni, fun _ _ hf => h.reports hf⟩,
   fun h => ⟨h.uni, fun k d hf => by rw [h.fire k d hf, h.uni.kind]⟩⟩

/-- `attempt m >>= h` for a `Tight` device action `m`: the fired fault reaches the handler `h` as the value
`.error (.io κ)`, and what `h` does with THAT decides.  (A handler that tells I/O error kinds apart -
`Err(e) if e.kind() == InvalidInput => None` - may swallow it: the device may fail with exactly that kind.) -/
theorem OnFire.attempt_bind {α β} {Φ : IoKind → Out β → Prop} {m : M α} {h : Except ZErr α → M β} (hm : Tight m)
    (hh : ∀ r, OnFire Φ (h r)) (hinj : ∀ κ fa d, Φ κ (h (.error (.io κ)) fa d).1) :
    OnFire Φ (M.attempt m >>= h) :=
  (tight_iff.1 hm).attempt.bind hh fun κ o ⟨o', ho', ho⟩ => by
    subst ho' ho
    exact hinj κ

theorem Tight.const {α} (o : Out α) : Tight (fun _ d => (o, d) : M α) :=
  ⟨Uniform.const o, fun _ _ h => absurd h Fired.self⟩

theorem Tight.pure {α} (a : α) : Tight (Pure.pure a : M α) := Tight.const _
theorem Tight.throw {α} (e : ZErr) : Tight (M.throw e : M α) := Tight.const _
theorem Tight.panic {α} (s : String) : Tight (M.panic s : M α) := Tight.const _

theorem Tight.bind {α β} {x : M α} {f : α → M β} (hx : Tight x) (hf : ∀ a, Tight (f a)) :
    Tight (x >>= f) :=
  tight_iff.2 <| (tight_iff.1 hx).bind (fun a => tight_iff.1 (hf a)) fun κ o ho => by subst ho; rfl

theorem Tight.prim {α} {f : Dev → Out α × Dev} (hc : ∀ d, (f d).2.calls = d.calls)
    (hk : ∀ d, (f d).2.fkind = d.fkind) :
    Tight (M.prim f) := by
  refine ⟨Uniform.prim hc hk, ?_⟩
  intro k d hf
  unfold M.prim at hf ⊢
  dsimp only at hf ⊢
  by_cases hk : k = d.calls
  · subst hk; rw [if_pos rfl]
  · have : ¬ (some k = some d.calls) := by simpa using hk
    rw [if_neg this] at hf
    unfold Fired at hf
    rw [hc] at hf
    dsimp only at hf
    omega

theorem Tight.read (n : Nat) : Tight (M.read n) := Tight.prim (fun _ => rfl) (fun _ => rfl)
theorem Tight.write (bs : Bytes) : Tight (M.write bs) := Tight.prim (fun _ => rfl) (fun _ => rfl)
theorem Tight.flush : Tight M.flush := Tight.prim (fun _ => rfl) (fun _ => rfl)
theorem Tight.seek (s : SeekFrom) : Tight (M.seek s) := by
  apply Tight.prim
  · intro d; cases s <;> dsimp only <;> split <;> rfl
  · intro d; cases s <;> dsimp only <;> split <;> rfl
theorem Tight.getDev : Tight M.getDev := ⟨Uniform.noIO .ok, fun _ _ h => absurd h Fired.self⟩
theorem Tight.streamPosition : Tight M.streamPosition := Tight.seek _
theorem Uniform.seek (s : SeekFrom) : Uniform (M.seek s) := (Tight.seek s).uni

/-- `attempt m >>= h` when the handler rethrows every I/O error unchanged, whatever its kind (it may swallow errors
that are not I/O errors, e.g. `if let Err(InvalidArchive) = … { None }`): an injected fault is never swallowed. -/
theorem Tight.attempt_bind {α β} {m : M α} {h : Except ZErr α → M β} (hm : Tight m)
    (hinj : ∀ κ, h (.error (.io κ)) = M.throw (.io κ)) (hh : ∀ r, Tight (h r)) :
    Tight (M.attempt m >>= h) :=
  tight_iff.2 <| OnFire.attempt_bind hm (fun r => tight_iff.1 (hh r)) fun κ fa d => by rw [hinj]; rfl

/-! ### The logics -/

def Uniform.mlogic : MLogic where
  P := Uniform
  pure := Uniform.pure
  bind := Uniform.bind
  throw := Uniform.throw
  read n := (Tight.read n).uni
  seek := Uniform.seek

def Tight.mlogic : MLogic where
  P := Tight
  pure := Tight.pure
  bind := Tight.bind
  throw := Tight.throw
  read := Tight.read
  seek := Tight.seek

/-- `OnFire Φ` is a logic when `Φ` holds of the injected error and of a failure that a bind passes on. -/
def OnFire.mlogic (Φ : {α : Type} → IoKind → Out α → Prop)
    (inj : ∀ {α : Type} (κ : IoKind), Φ κ (.err (.io κ) : Out α))
    (pass : ∀ {α β : Type} (κ : IoKind) (o : Out α) (g : α → Out β), Φ κ o → Φ κ (o >>= g)) : MLogic where
  P x := OnFire Φ x
  pure a := OnFire.const _ (.ok a)
  bind := @fun _ _ _ f hx hf => hx.bind hf fun κ o ho => by
    cases o with
    | ok a => exact fun fa d => pass κ (.ok a) (fun _ => (f a fa d).1) ho
    | err e => exact pass κ (.err e) (fun _ => .err e) ho
    | panic s => exact pass κ (.panic s) (fun _ => .panic s) ho
  throw e := OnFire.const _ (.err e)
  read n := (tight_iff.1 (Tight.read n)).mono fun κ _ h => h ▸ inj κ
  seek s := (tight_iff.1 (Tight.seek s)).mono fun κ _ h => h ▸ inj κ

/-! ### `ErrOnFire` -/

def ErrOnFire {α} (x : M α) : Prop :=
  ∀ k d, Fired k d (x (some k) d).2 → ∃ e, (x (some k) d).1 = .err e

theorem Tight.errOnFire {α} {x : M α} (h : Tight x) : ErrOnFire x :=
  fun k d hf => ⟨_, h.clean k d hf⟩

/-- `Uniform` and `ErrOnFire` together, as a logic: `ErrOnFire.mlogic.P x` is `OnFire (some error) x`. -/
def ErrOnFire.mlogic : MLogic :=
  OnFire.mlogic (fun _ o => ∃ e, o = .err e) (fun _ => ⟨_, rfl⟩) fun _ _ _ ⟨e, he⟩ => ⟨e, by rw [he]; rfl⟩

theorem Tight.onFire_err {α} {x : M α} (h : Tight x) : ErrOnFire.mlogic.P x :=
  (tight_iff.1 h).mono fun _ _ ho => ⟨_, ho⟩

/-! ### Writer steps -/

section Steps
variable {β : Type}

def EP (x : M (Except ZErr β × WState)) : Prop :=
  ∀ k d v s' d', x (some k) d = (.ok (.ok v, s'), d') → ¬ Fired k d d'

def NeverOk (x : M (Except ZErr β × WState)) : Prop :=
  ∀ fa d v s' d', x fa d ≠ (.ok (.ok v, s'), d')

structure StepOK (x : M (Except ZErr β × WState)) : Prop where
  uni : Uniform x
  ep : EP x

structure StepErr (x : M (Except ZErr β × WState)) : Prop where
  uni : Uniform x
  never : NeverOk x

theorem StepErr.toOK {x : M (Except ZErr β × WState)} (h : StepErr x) : StepOK x :=
  ⟨h.uni, fun _ _ _ _ _ e => absurd e (h.never _ _ _ _ _)⟩

theorem StepOK.pure (r : Except ZErr β × WState) : StepOK (Pure.pure r : M _) :=
  ⟨Uniform.pure r, fun _ _ _ _ _ e => by cases e; exact Fired.self⟩

theorem StepOK.panic (site : String) : StepOK (M.panic site : M (Except ZErr β × WState)) :=
  ⟨Uniform.panic site, fun _ _ _ _ _ e => by cases e⟩

theorem StepErr.pure_error (e : ZErr) (s : WState) :
    StepErr (Pure.pure (.error e, s) : M (Except ZErr β × WState)) :=
  ⟨Uniform.pure _, fun _ _ _ _ _ h => by cases h⟩

theorem StepErr.panic (site : String) : StepErr (M.panic site : M (Except ZErr β × WState)) :=
  ⟨Uniform.panic site, fun _ _ _ _ _ e => by cases e⟩

theorem stepOK_iff {x : M (Except ZErr β × WState)} : StepOK x ↔ OnFire (fun _ o => ∀ v s, o ≠ .ok (.ok v, s)) x := by
  refine ⟨fun h => ⟨h.uni, fun k d hf v s ho => ?_⟩, fun h => ⟨h.uni, fun k d v s d' he hf => ?_⟩⟩
  · exact h.ep k d v s (x (some k) d).2 (Prod.ext ho rfl) hf
  · have := h.fire k d (by rw [he]; exact hf) v s
    rw [he] at this
    exact this rfl

/-- The `?` of the writer: an `Err` of the first step - which a fired fault may have caused - goes to an arm that never
answers `Ok`. -/
theorem StepOK.bind {α} {x : M (Except ZErr α × WState)}
    {f : Except ZErr α × WState → M (Except ZErr β × WState)} (hx : StepOK x)
    (hok : ∀ v s, StepOK (f (.ok v, s))) (herr : ∀ e s, StepErr (f (.error e, s))) :
    StepOK (x >>= f) := by
  refine stepOK_iff.2 <| (stepOK_iff.1 hx).bind (fun r => ?_) fun κ o ho => ?_
  · obtain ⟨(e | v), s⟩ := r
    · exact stepOK_iff.1 (herr e s).toOK
    · exact stepOK_iff.1 (hok v s)
  · match o, ho with
    | .ok (.ok v, s), ho => exact absurd rfl (ho v s)
    | .ok (.error e, s), _ => exact fun fa d v' s' h => (herr e s).never fa d v' s' _ (Prod.ext h rfl)
    | .err e, _ => exact fun _ _ h => by cases h
    | .panic p, _ => exact fun _ _ h => by cases h

/-- A step followed by a continuation that is only `Uniform` (`Drop`, which discards the step's result): the
composite is `Uniform` and nothing more; the `EP` half of `hx` is not used. -/
theorem Uniform.stepBind {α} {x : M (Except ZErr α × WState)}
    {f : Except ZErr α × WState → M (Except ZErr β × WState)} (hx : StepOK x)
    (hf : ∀ r, Uniform (f r)) : Uniform (x >>= f) := Uniform.bind hx.uni hf

theorem StepErr.bind {α} {x : M (Except ZErr α × WState)}
    {f : Except ZErr α × WState → M (Except ZErr β × WState)} (hx : Uniform x)
    (hf : ∀ r, StepErr (f r)) : StepErr (x >>= f) := by
  refine ⟨Uniform.bind hx fun r => (hf r).uni, ?_⟩
  intro fa d v s' d'' he
  rw [M.bind_apply] at he
  cases h : x fa d with
  | mk o d' =>
    rw [h] at he
    cases o with
    | ok rs => exact (hf rs).never _ _ _ _ _ he
    | err e => cases he
    | panic p => cases he

/-- `io s m k`: the device action's failure is the call's `Err`. -/
theorem StepOK.io {α} {s : WState} {m : M α} {k : α → M (Except ZErr β × WState)}
    (hm : Tight m) (hk : ∀ a, StepOK (k a)) : StepOK (Model.io s m k) := by
  unfold Model.io
  refine stepOK_iff.2 <| OnFire.attempt_bind hm (fun r => ?_) fun κ fa d v s' h => by cases h
  cases r with
  | ok a => exact stepOK_iff.1 (hk a)
  | error e => exact stepOK_iff.1 (StepOK.pure _)

theorem StepErr.io {α} {s : WState} {m : M α} {k : α → M (Except ZErr β × WState)}
    (hm : Tight m) (hk : ∀ a, StepErr (k a)) : StepErr (Model.io s m k) := by
  refine ⟨(StepOK.io (s := s) hm fun a => (hk a).toOK).uni, ?_⟩
  unfold Model.io
  intro fa d v s' d'' he
  rw [M.bind_apply, M.attempt_apply] at he
  cases h : m fa d with
  | mk o d' =>
    rw [h] at he
    cases o with
    | ok a => exact (hk a).never _ _ _ _ _ he
    | err e => cases he
    | panic p => cases he

end Steps

/-! ### Derived device actions -/

theorem Tight.writeAll (bs : Bytes) : Tight (M.writeAll bs) := by
  unfold M.writeAll
  split
  · exact Tight.pure _
  · exact Tight.bind (Tight.write _) fun _ => Tight.pure _

theorem Tight.readExact (n : Nat) : Tight (M.readExact n) := Tight.mlogic.readExact n

theorem Tight.readU8 : Tight M.readU8 := Tight.mlogic.readU8

theorem Tight.writeChunks (cs : List Bytes) : Tight (M.writeChunks cs) := by
  induction cs with
  | nil => exact Tight.pure _
  | cons c cs ih => exact Tight.bind (Tight.writeAll c) fun _ => ih

end ZipVerif.Model
