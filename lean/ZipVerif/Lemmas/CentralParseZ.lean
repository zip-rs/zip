import ZipVerif.Lemmas.IORun
import ZipVerif.Spec.ZipOrder
import ZipVerif.Lemmas.ParseExtra
import ZipVerif.Lemmas.Zip64
/-
`parse_extra_field` on record sequences and the central-header parser on the spec's central records, in the
generality all layouts share.

`parse_extra_field` treats a 0x0001 record statefully: it takes 8 bytes for each of uncompressed size,
compressed size, header offset whose CURRENT value equals 0xFFFFFFFF, and skips what is left of the record.
After the first record has been applied the three fields hold the real values (and without a first record the
32-bit slots hold real values < 0xFFFFFFFF), so a later 0x0001 record takes nothing, changes nothing
(`large_file` included) and is skipped by its length — unless a real value is exactly 0xFFFFFFFF.  Hence the
condition `ExtraOkZ` on the foreign central extra data: FURTHER 0x0001 records behind the one the spec emits
itself are allowed when no real value is the marker.  Foreign producers may emit such records; before the
D20 repair (`strip_zip64_extra_field`, `Lemmas/StripZip64.lean`) this crate's own `new_append` + `finish` did,
for an entry that needed ZIP64: the old record was kept inside `extra_field` and a new one put in front.
`ExtraOk` (no 0x0001 record at all) is the case `allowZ = false`; its instances of the results are the last section.
`Layout.ReadableZ` (`ReadableZFrom`), the per-layout form of `ExtraOkZ`, which `Layout.Readable` implies, is defined
here too.
-/

namespace ZipVerif.Spec.Zip
open ZipVerif

/-- `extraOkAux` with identifier 0x0001 allowed when `allowZ`. -/
def extraOkZAux (allowZ : Bool) : Nat → Bytes → Bool
  | 0, bs => bs.isEmpty
  | fuel + 1, bs =>
    if bs.isEmpty then true else
    match rd16 bs with
    | none => false
    | some (id, r1) =>
      match rd16 r1 with
      | none => false
      | some (len, r2) =>
        (id != 0x0001 || allowZ) && id != 0x9901 && decide (len.toNat ≤ r2.length) &&
          extraOkZAux allowZ fuel (r2.drop len.toNat)

/-- none of the three real values a ZIP64 record can carry is exactly the 32-bit marker -/
def noThr (e : Entry) (off : UInt64) : Bool :=
  e.usize != 0xFFFFFFFF && e.csize != 0xFFFFFFFF && off != 0xFFFFFFFF

/-- **The weaker condition on the foreign central extra data**: a well-formed record sequence without
identifier 0x9901, in which 0x0001 records are allowed provided none of the entry's real uncompressed
size, compressed size and local-header offset is exactly 0xFFFFFFFF. -/
def ExtraOkZ (e : Entry) (off : UInt64) : Prop :=
  extraOkZAux (noThr e off) e.centralExtra.length e.centralExtra = true

instance (e : Entry) (off : UInt64) : Decidable (ExtraOkZ e off) := by unfold ExtraOkZ; infer_instance

/-! ### record sequences -/

theorem le16_mk16 (a b : UInt8) : le16 (mk16 a b) = [a, b] := by
  have ha := a.toNat_lt; have hb := b.toNat_lt
  have hs : (mk16 a b).toNat = a.toNat + 256 * b.toNat := by rw [mk16, UInt16.toNat_ofNat']; omega
  rw [le16, hs, Nat.add_mul_mod_self_left, Nat.mod_eq_of_lt ha, Nat.add_mul_div_left _ _ (by decide),
    Nat.div_eq_of_lt ha, Nat.zero_add, UInt8.ofNat_toNat, UInt8.ofNat_toNat]

theorem rd16_eq {bs r : Bytes} {v : UInt16} (h : rd16 bs = some (v, r)) : bs = le16 v ++ r := by
  match bs, h with
  | a :: b :: t, h =>
    simp only [rd16, Option.some.injEq, Prod.mk.injEq] at h
    rw [← h.1, ← h.2, le16_mk16]; rfl

theorem le16_append_isEmpty (v : UInt16) (r : Bytes) : (le16 v ++ r).isEmpty = false := rfl

theorem extraOkZAux_zero (a : Bool) (bs : Bytes) : extraOkZAux a 0 bs = true ↔ bs = [] :=
  List.isEmpty_iff

/-- **One step of `extraOkZAux`**: the sequence is empty, or begins with a complete record — identifier not
0x9901, and not 0x0001 unless allowed — followed by such a sequence. -/
theorem extraOkZAux_succ (a : Bool) (n : Nat) (bs : Bytes) :
    extraOkZAux a (n + 1) bs = true ↔ bs = [] ∨ ∃ (id len : UInt16) (pay rest : Bytes),
      bs = le16 id ++ (le16 len ++ (pay ++ rest)) ∧ pay.length = len.toNat ∧ (id ≠ 1 ∨ a = true) ∧
      id ≠ 0x9901 ∧ extraOkZAux a n rest = true := by
  constructor
  · intro h
    unfold extraOkZAux at h
    by_cases he : bs.isEmpty = true
    · exact .inl (List.isEmpty_iff.mp he)
    · rw [if_neg he] at h
      cases h1 : rd16 bs with
      | none => simp [h1] at h
      | some v1 =>
        obtain ⟨id, r1⟩ := v1
        cases h2 : rd16 r1 with
        | none => simp [h1, h2] at h
        | some v2 =>
          obtain ⟨len, r2⟩ := v2
          simp only [h1, h2, Bool.and_eq_true, Bool.or_eq_true, bne_iff_ne, ne_eq, decide_eq_true_eq] at h
          obtain ⟨⟨⟨hid1, hid2⟩, hl⟩, hrest⟩ := h
          refine .inr ⟨id, len, r2.take len.toNat, r2.drop len.toNat, ?_, ?_, hid1, hid2, hrest⟩
          · rw [List.take_append_drop, ← rd16_eq h2, ← rd16_eq h1]
          · rw [List.length_take]; omega
  · rintro (rfl | ⟨id, len, pay, rest, rfl, hl, hid, h99, hr⟩)
    · rfl
    · unfold extraOkZAux
      simp only [le16_append_isEmpty, Bool.false_eq_true, if_false, rd16_le16, ← hl, List.drop_left, hr,
        Bool.and_eq_true, Bool.or_eq_true, bne_iff_ne, ne_eq, decide_eq_true_eq, List.length_append]
      exact ⟨⟨⟨hid, h99⟩, Nat.le_add_right _ _⟩, trivial⟩

theorem extraOkZAux_nil (a : Bool) : ∀ n, extraOkZAux a n [] = true
  | 0 => rfl
  | _ + 1 => rfl

theorem extraOkZAux_false (fuel : Nat) : ∀ bs : Bytes, extraOkZAux false fuel bs = extraOkAux fuel bs := by
  induction fuel with
  | zero => intro _; rfl
  | succ n ih => intro bs; simp only [extraOkZAux, extraOkAux, Bool.or_false, ih]; rfl

theorem extraOkZAux_allow (fuel : Nat) : ∀ (bs : Bytes) (a : Bool), extraOkZAux a fuel bs = true →
    extraOkZAux true fuel bs = true := by
  induction fuel with
  | zero => exact fun _ _ h => h
  | succ n ih =>
    intro bs a h
    rw [extraOkZAux_succ] at h ⊢
    obtain h | ⟨id, len, pay, rest, h1, h2, _, h4, h5⟩ := h
    · exact .inl h
    · exact .inr ⟨id, len, pay, rest, h1, h2, .inr rfl, h4, ih rest a h5⟩

theorem extraOkZAux_fuel (a : Bool) (n : Nat) : ∀ (m : Nat) (bs : Bytes), n ≤ m → extraOkZAux a n bs = true →
    extraOkZAux a m bs = true := by
  induction n with
  | zero => intro m bs _ h; rw [(extraOkZAux_zero a bs).mp h]; exact extraOkZAux_nil a m
  | succ n ih =>
    intro m bs hm h
    obtain ⟨m, rfl⟩ : ∃ m', m = m' + 1 := ⟨m - 1, by omega⟩
    rw [extraOkZAux_succ] at h ⊢
    obtain h | ⟨id, len, pay, rest, h1, h2, h3, h4, h5⟩ := h
    · exact .inl h
    · exact .inr ⟨id, len, pay, rest, h1, h2, h3, h4, ih m rest (by omega) h5⟩

/-- `ExtraOk` (C03's condition) implies `ExtraOkZ`, at any offset. -/
theorem extraOkZ_of_extraOk (e : Entry) (off : UInt64) (h : ExtraOk e.centralExtra) : ExtraOkZ e off := by
  unfold ExtraOkZ
  unfold ExtraOk at h
  rw [← extraOkZAux_false] at h
  cases hn : noThr e off
  · exact h
  · exact extraOkZAux_allow _ _ _ h

theorem extraOkZAux_record (a : Bool) (id len : UInt16) (payload rest : Bytes)
    (hl : payload.length = len.toNat) (hid : (id != 0x0001 || a) = true) (h99 : id ≠ 0x9901)
    (hr : extraOkZAux a rest.length rest = true) :
    extraOkZAux a (le16 id ++ (le16 len ++ (payload ++ rest))).length
      (le16 id ++ (le16 len ++ (payload ++ rest))) = true := by
  have hlen : (le16 id ++ (le16 len ++ (payload ++ rest))).length = (payload.length + rest.length + 3) + 1 := by
    simp; omega
  rw [hlen, extraOkZAux_succ]
  exact .inr ⟨id, len, payload, rest, rfl, hl, by simpa using hid, h99,
    extraOkZAux_fuel a _ _ _ (by omega) hr⟩

theorem centralZ64G_none (e : Entry) (off : UInt64) : e.centralZ64G off none = e.centralZ64 off := by
  unfold Entry.centralZ64G Entry.centralZ64
  simp [diskBytes]

end ZipVerif.Spec.Zip

namespace ZipVerif.Model
open ZipVerif ZipVerif.Spec.Zip

/-! ### `parse_extra_field`, record by record -/

/-- **A sequence that is `extraOkZAux` is skipped without any change** — provided that, when it may hold 0x0001
records, none of the record's three ZIP64-able fields currently holds the marker. -/
theorem parseExtraZ_ok_aux (a : Bool) (fuel : Nat) : ∀ (bs : Bytes), extraOkZAux a fuel bs = true →
    ∀ (k : Nat) (f : FileData),
      (a = true → (f.uncompressedSize == ZIP64_BYTES_THR) = false ∧
        (f.compressedSize == ZIP64_BYTES_THR) = false ∧ (f.headerStart == ZIP64_BYTES_THR) = false) →
      parseExtraField k f bs = (f, none) := by
  induction fuel with
  | zero => intro bs h k f _; rw [(extraOkZAux_zero a bs).mp h, parseExtraField_nil]
  | succ n ih =>
    intro bs h k f hf
    obtain rfl | ⟨id, len, pay, rest, rfl, hl, hid, h99, hr⟩ := (extraOkZAux_succ a n bs).mp h
    · exact parseExtraField_nil k f
    cases k with
    | zero => rfl
    | succ k =>
      by_cases h1 : id = 1
      · obtain ⟨hu, hc, ho⟩ := hf (hid.resolve_left (not_not_intro h1))
        rw [h1]
        refine (parseExtraField_z64 f 0 0 0 pay rest k len false false false hu hc ho (by simp [hl])).trans ?_
        simp only [Bool.or_false, Bool.false_eq_true, if_false]
        exact ih rest hr k f hf
      · rw [parseExtraField_foreign k f rest h1 h99 hl]
        exact ih rest hr k f hf

theorem parseExtra_ok_aux (fuel : Nat) (bs : Bytes) (h : extraOkAux fuel bs = true) (k : Nat) (f : FileData) :
    parseExtraField k f bs = (f, none) :=
  parseExtraZ_ok_aux false fuel bs (by rw [extraOkZAux_false]; exact h) k f (fun h => nomatch h)

theorem parseExtra_ok {bs : Bytes} (h : ExtraOk bs) (k : Nat) (f : FileData) :
    parseExtraField k f bs = (f, none) := parseExtra_ok_aux _ _ h k f

theorem thr_eq : (0xFFFFFFFF : UInt32).toUInt64 = ZIP64_BYTES_THR := by decide

/-! ### The central header parser on the spec's central records -/

/-- the record the parser has built when it turns to the extra field -/
def rawCentral (e : Entry) (off64 : UInt64) (chs : Nat) : FileData :=
  let utf8 : Bool := e.flagsOut &&& 0x0800 != 0
  { system := System.fromU8 (e.madeBy >>> 8).toUInt8
    versionMadeBy := e.madeBy.toUInt8
    encrypted := e.flagsOut &&& 1 == 1
    usingDataDescriptor := e.flagsOut &&& 0x0008 != 0
    method := Method.fromU16 e.method
    level := none
    time := DateTime.fromMsdos e.date e.time
    crc32 := e.crc
    compressedSize := (if e.zC then (0xFFFFFFFF : UInt32) else lo32 e.csize).toUInt64
    uncompressedSize := (if e.zU then (0xFFFFFFFF : UInt32) else lo32 e.usize).toUInt64
    fileName := Text.decodeToUtf8 utf8 e.name
    fileNameRaw := e.name
    extraField := e.centralExtraAll off64
    fileComment := Text.decodeToUtf8 utf8 e.comment
    headerStart := (if e.zO off64 then (0xFFFFFFFF : UInt32) else lo32 off64).toUInt64
    centralHeaderStart := UInt64.ofNat chs
    dataStart := 0
    externalAttributes := e.externalAttrs
    largeFile := false
    aesMode := none }

theorem noThr_beq {e : Entry} {off64 : UInt64} (h : noThr e off64 = true) :
    (e.usize == ZIP64_BYTES_THR) = false ∧ (e.csize == ZIP64_BYTES_THR) = false ∧
    (off64 == ZIP64_BYTES_THR) = false := by
  unfold noThr at h
  simp only [Bool.and_eq_true, bne_iff_ne, ne_eq] at h
  exact ⟨beq_false_of_ne h.1.1, beq_false_of_ne h.1.2, beq_false_of_ne h.2⟩

/-- **The ZIP64 record the spec emits (with or without the disk-start field), then a sequence `back` of foreign
records — further 0x0001 records allowed (`a`) when no real value is the marker — parsed into a record `f` whose
three 32-bit slots are the central header's**: the sizes and the offset are the entry's real ones. -/
theorem parseExtra_central (e : Entry) (off64 : UInt64) (disk : Option UInt32) (a : Bool) (n : Nat)
    (back : Bytes) (ha : a = true → noThr e off64 = true) (hb : extraOkZAux a n back = true) (f : FileData)
    (hU : f.uncompressedSize = (if e.zU then (0xFFFFFFFF : UInt32) else lo32 e.usize).toUInt64)
    (hC : f.compressedSize = (if e.zC then (0xFFFFFFFF : UInt32) else lo32 e.csize).toUInt64)
    (hO : f.headerStart = (if e.zO off64 then (0xFFFFFFFF : UInt32) else lo32 off64).toUInt64)
    (hL : f.largeFile = false) (k : Nat) :
    parseExtraField (k + 1) f (e.centralZ64G off64 disk ++ back) =
      ({ f with largeFile := e.zU || e.zC, uncompressedSize := e.usize, compressedSize := e.csize,
                headerStart := off64 }, none) := by
  obtain ⟨hu1, hu2⟩ := slot_spec (z := e.zU) e.z64.1 rfl hU
  obtain ⟨hc1, hc2⟩ := slot_spec (z := e.zC) e.z64.2.1 rfl hC
  obtain ⟨ho1, ho2⟩ := slot_spec (z := e.zO off64) e.z64.2.2 rfl hO
  -- the result, as the 0x0001 record produces it
  have hres : ({ f with largeFile := e.zU || e.zC, uncompressedSize := e.usize, compressedSize := e.csize,
                        headerStart := off64 } : FileData) =
      { f with largeFile := f.largeFile || e.zU || e.zC,
               uncompressedSize := if e.zU then e.usize else f.uncompressedSize,
               compressedSize := if e.zC then e.csize else f.compressedSize,
               headerStart := if e.zO off64 then off64 else f.headerStart } := by
    rw [hL, Bool.false_or, hu2, hc2, ho2]
  have hskip : ∀ k, parseExtraField k { f with largeFile := e.zU || e.zC, uncompressedSize := e.usize,
                                                 compressedSize := e.csize, headerStart := off64 } back =
      (_, none) :=
    fun k => parseExtraZ_ok_aux a n back hb k _ (fun h => noThr_beq (ha h))
  have h8 : ∀ b : Bool, (if b then 8 else 0) ≤ 8 := fun b => by cases b <;> simp
  have h4 : (diskBytes disk).length ≤ 4 := by cases disk <;> simp [diskBytes]
  by_cases hn : (if e.zU then 8 else 0) + (if e.zC then 8 else 0) + (if e.zO off64 then 8 else 0) +
      (diskBytes disk).length = 0
  · have h3 : e.zU = false ∧ e.zC = false ∧ e.zO off64 = false := by
      refine ⟨?_, ?_, ?_⟩ <;> (apply Bool.eq_false_iff.mpr; intro hz; simp [hz] at hn)
    simp only [Entry.centralZ64G, if_pos hn, List.nil_append]
    rw [← hskip (k + 1), hres, h3.1, h3.2.1, h3.2.2]
    simp only [Bool.or_false, Bool.false_eq_true, if_false]
  · simp only [Entry.centralZ64G, if_neg hn, List.append_assoc]
    rw [parseExtraField_z64 f _ _ _ _ back k _ _ _ _ hu1 hc1 ho1
      (by rw [UInt16.toNat_ofNat']; have := h8 e.zU; have := h8 e.zC; have := h8 (e.zO off64); omega),
      ← hres, hskip]

theorem fromU16_ne_aes {v : UInt16} (h : v ≠ 99) : (Method.fromU16 v == Method.aes) = false := by
  have step : ∀ {c : UInt16} {x y : Method}, (x == Method.aes) = false → (y == Method.aes) = false →
      ((if v == c then x else y) == Method.aes) = false := by
    intro c x y hx hy; split <;> assumption
  unfold Method.fromU16
  exact step rfl (step rfl (step rfl (step rfl (by rw [if_neg (by simpa using h)]; rfl))))

/-- **`central_header_to_zip_file_inner` on a central record of entry `e` with any extra field `X` and any value
in the 16-bit disk field**: once `parse_extra_field` is known to recover the entry's sizes and offset from `X`,
the parser returns the view of the entry, with `X` as the extra data, consuming exactly the record. -/
theorem parses_centralInner_of_extra (e : Entry) (off ao chs p : Nat) (X : Bytes) (dk16 : UInt16)
    (hn : e.name.length ≤ 0xFFFF) (hc : e.comment.length ≤ 0xFFFF) (hX : X.length ≤ 0xFFFF)
    (hm : e.method ≠ 99) (ho : off + ao < 2 ^ 64)
    (hpe : parseExtraField (X.length + 1) { rawCentral e (UInt64.ofNat off) chs with extraField := X } X =
      ({ rawCentral e (UInt64.ofNat off) chs with
          extraField := X, largeFile := e.zU || e.zC, uncompressedSize := e.usize, compressedSize := e.csize,
          headerStart := UInt64.ofNat off }, none)) :
    Parses (centralHeaderInner ao chs) p
      (le16 e.madeBy ++ (le16 e.versionNeeded ++ (le16 e.flagsOut ++ (le16 e.method ++
      (le16 e.time ++ (le16 e.date ++ (le32 e.crc ++
      (le32 (if e.zC then 0xFFFFFFFF else lo32 e.csize) ++
      (le32 (if e.zU then 0xFFFFFFFF else lo32 e.usize) ++
      (le16 (UInt16.ofNat e.name.length) ++ (le16 (UInt16.ofNat X.length) ++
      (le16 (UInt16.ofNat e.comment.length) ++ (le16 dk16 ++ (le16 e.internalAttrs ++ (le32 e.externalAttrs ++
      (le32 (if e.zO (UInt64.ofNat off) then 0xFFFFFFFF else lo32 (UInt64.ofNat off)) ++
      (e.name ++ (X ++ e.comment))))))))))))))))))
      { viewEntry e off ao chs with extraField := X } := by
  unfold centralHeaderInner
  refine Parses.bind (Parses.readU16 _) ?_
  refine Parses.bind (Parses.readU16 _) ?_
  refine Parses.bind (Parses.readU16 _) ?_
  refine Parses.bind (Parses.readU16 _) ?_
  refine Parses.bind (Parses.readU16 _) ?_
  refine Parses.bind (Parses.readU16 _) ?_
  refine Parses.bind (Parses.readU32 _) ?_
  refine Parses.bind (Parses.readU32 _) ?_
  refine Parses.bind (Parses.readU32 _) ?_
  refine Parses.bind (Parses.readU16 _) ?_
  refine Parses.bind (Parses.readU16 _) ?_
  refine Parses.bind (Parses.readU16 _) ?_
  refine Parses.bind (Parses.readU16 _) ?_
  refine Parses.bind (Parses.readU16 _) ?_
  refine Parses.bind (Parses.readU32 _) ?_
  refine Parses.bind (Parses.readU32 _) ?_
  refine Parses.bind (Parses.readExact (ofNat_toNat_of_le hn).symm) ?_
  refine Parses.bind (Parses.readExact (ofNat_toNat_of_le hX).symm) ?_
  refine Parses.bind_last (Parses.readExact (ofNat_toNat_of_le hc).symm) ?_
  simp only [rawCentral] at hpe
  simp only [hpe]
  have ho' : (UInt64.ofNat off).toNat = off := by
    rw [UInt64.toNat_ofNat']; omega
  rw [fromU16_ne_aes hm, ho', if_neg (by simp), if_neg (by omega)]
  exact Parses.pure _

/-- `central_header_to_zip_file` = position, signature, `…_inner` -/
theorem parses_centralHeader_of_inner {ao p : Nat} {x : Bytes} {v : FileData}
    (h : ∀ q, Parses (centralHeaderInner ao p) q x v) :
    Parses (centralHeader ao) p (le32 sigCentral ++ x) v := by
  unfold centralHeader
  refine Parses.bind_nil Parses.streamPosition ?_
  refine Parses.bind (Parses.readU32 _) ?_
  rw [if_neg (by decide)]
  exact h _

theorem extra_on_centralZ (e : Entry) (off64 : UInt64) (chs : Nat) (hx : ExtraOkZ e off64) (k : Nat) :
    parseExtraField (k + 1) (rawCentral e off64 chs) (e.centralExtraAll off64) =
      ({ rawCentral e off64 chs with
          largeFile := e.zU || e.zC, uncompressedSize := e.usize, compressedSize := e.csize,
          headerStart := off64 }, none) := by
  rw [Entry.centralExtraAll, ← centralZ64G_none]
  exact parseExtra_central e off64 none _ _ _ id hx _ rfl rfl rfl rfl k

theorem centralExtraAll_length_le (e : Entry) (off : UInt64) (hf : e.Fits) :
    (e.centralExtraAll off).length ≤ 65535 := by
  have := centralZ64_length_le e off
  have := hf.2.2.2.1
  simp only [Entry.centralExtraAll, List.length_append]; omega

theorem parses_centralInnerZ (e : Entry) (off ao chs p : Nat) (hf : e.Fits)
    (hx : ExtraOkZ e (UInt64.ofNat off)) (hm : e.method ≠ 99) (ho : off + ao < 2 ^ 64) :
    Parses (centralHeaderInner ao chs) p
      (le16 e.madeBy ++ (le16 e.versionNeeded ++ (le16 e.flagsOut ++ (le16 e.method ++
      (le16 e.time ++ (le16 e.date ++ (le32 e.crc ++
      (le32 (if e.zC then 0xFFFFFFFF else lo32 e.csize) ++
      (le32 (if e.zU then 0xFFFFFFFF else lo32 e.usize) ++
      (le16 (UInt16.ofNat e.name.length) ++ (le16 (UInt16.ofNat (e.centralExtraAll (UInt64.ofNat off)).length) ++
      (le16 (UInt16.ofNat e.comment.length) ++ (le16 0 ++ (le16 e.internalAttrs ++ (le32 e.externalAttrs ++
      (le32 (if e.zO (UInt64.ofNat off) then 0xFFFFFFFF else lo32 (UInt64.ofNat off)) ++
      (e.name ++ (e.centralExtraAll (UInt64.ofNat off) ++ e.comment))))))))))))))))))
      (viewEntry e off ao chs) :=
  parses_centralInner_of_extra e off ao chs p (e.centralExtraAll (UInt64.ofNat off)) 0 hf.1 hf.2.1
    (centralExtraAll_length_le e _ hf) hm ho (extra_on_centralZ e (UInt64.ofNat off) chs hx _)

/-- **`central_header_to_zip_file` on the spec's serialisation of an entry whose central extra data may
contain further ZIP64 records** still returns the view of that entry (`large_file` included: a skipped
record does not set it), consuming exactly the record. -/
theorem parses_centralHeaderZ (e : Entry) (off ao p : Nat) (hf : e.Fits)
    (hx : ExtraOkZ e (UInt64.ofNat off)) (hm : e.method ≠ 99) (ho : off + ao < 2 ^ 64) :
    Parses (centralHeader ao) p (centralRecord e (UInt64.ofNat off)) (viewEntry e off ao p) := by
  rw [centralRecord_eq]
  exact parses_centralHeader_of_inner fun q => parses_centralInnerZ e off ao p q hf hx hm ho

end ZipVerif.Model

namespace ZipVerif.Spec.Zip
open ZipVerif

/-- `ReadableZ` along a list of entries whose first local record (with its gap) begins at `loc`. -/
def ReadableZFrom : List Entry → Nat → Prop
  | [], _ => True
  | e :: es, loc =>
    (e.method ≠ 99 ∧ ExtraOkZ e (UInt64.ofNat (loc + e.gapBefore.length))) ∧
      ReadableZFrom es (loc + e.localBytes.length)

instance : (es : List Entry) → (loc : Nat) → Decidable (ReadableZFrom es loc)
  | [], _ => isTrue trivial
  | e :: es, loc =>
    have := instDecidableReadableZFrom es (loc + e.localBytes.length)
    by unfold ReadableZFrom; infer_instance

/-- **What the seekable reader needs of a layout, weakened**: every entry is not WinZip-AES and its central
extra data are `ExtraOkZ` at the offset the layout gives it. -/
def Layout.ReadableZ (l : Layout) : Prop := ReadableZFrom l.entries 0

instance (l : Layout) : Decidable l.ReadableZ := by unfold Layout.ReadableZ; infer_instance

theorem readableZFrom_of_readable : ∀ (es : List Entry) (loc : Nat), (∀ e ∈ es, e.Readable) →
    ReadableZFrom es loc := by
  intro es
  induction es with
  | nil => intro _ _; trivial
  | cons e es ih =>
    intro loc h
    have he := h e List.mem_cons_self
    exact ⟨⟨he.2, extraOkZ_of_extraOk e _ he.1⟩, ih _ (fun x hx => h x (List.mem_cons_of_mem _ hx))⟩

theorem readable_imp_readableZ (l : Layout) (h : l.Readable) : l.ReadableZ :=
  readableZFrom_of_readable l.entries 0 h

theorem readableZFrom_append : ∀ (es1 es2 : List Entry) (loc : Nat),
    ReadableZFrom (es1 ++ es2) loc ↔
      ReadableZFrom es1 loc ∧ ReadableZFrom es2 (loc + (localsBytes es1).length) := by
  intro es1
  induction es1 with
  | nil => intro es2 loc; simp [ReadableZFrom, localsBytes]
  | cons e es ih =>
    intro es2 loc
    show (_ ∧ ReadableZFrom (es ++ es2) _) ↔ (_ ∧ ReadableZFrom es _) ∧ _
    have e1 : (localsBytes (e :: es)).length = e.localBytes.length + (localsBytes es).length := by
      simp [localsBytes]
    rw [ih, e1, Nat.add_assoc]
    simp only [and_assoc]

end ZipVerif.Spec.Zip

/-! ## The instances for `ExtraOk` (no ZIP64 record among the foreign central extra data) -/

namespace ZipVerif.Model
open ZipVerif ZipVerif.Spec.Zip

theorem parses_centralInner (e : Entry) (off ao chs p : Nat) (hf : e.Fits) (hx : ExtraOk e.centralExtra)
    (hm : e.method ≠ 99) (ho : off + ao < 2 ^ 64) :
    Parses (centralHeaderInner ao chs) p
      (le16 e.madeBy ++ (le16 e.versionNeeded ++ (le16 e.flagsOut ++ (le16 e.method ++
      (le16 e.time ++ (le16 e.date ++ (le32 e.crc ++
      (le32 (if e.zC then 0xFFFFFFFF else lo32 e.csize) ++
      (le32 (if e.zU then 0xFFFFFFFF else lo32 e.usize) ++
      (le16 (UInt16.ofNat e.name.length) ++ (le16 (UInt16.ofNat (e.centralExtraAll (UInt64.ofNat off)).length) ++
      (le16 (UInt16.ofNat e.comment.length) ++ (le16 0 ++ (le16 e.internalAttrs ++ (le32 e.externalAttrs ++
      (le32 (if e.zO (UInt64.ofNat off) then 0xFFFFFFFF else lo32 (UInt64.ofNat off)) ++
      (e.name ++ (e.centralExtraAll (UInt64.ofNat off) ++ e.comment))))))))))))))))))
      (viewEntry e off ao chs) :=
  parses_centralInnerZ e off ao chs p hf (extraOkZ_of_extraOk e _ hx) hm ho

/-- **`central_header_to_zip_file` on the spec's serialisation of an arbitrary foreign entry** returns
the view of that entry, consuming exactly the record. -/
theorem parses_centralHeader (e : Entry) (off ao p : Nat) (hf : e.Fits) (hx : ExtraOk e.centralExtra)
    (hm : e.method ≠ 99) (ho : off + ao < 2 ^ 64) :
    Parses (centralHeader ao) p (centralRecord e (UInt64.ofNat off)) (viewEntry e off ao p) :=
  parses_centralHeaderZ e off ao p hf (extraOkZ_of_extraOk e _ hx) hm ho

end ZipVerif.Model
