import ZipVerif.Props.C12
/-
The recursion over a list of writer calls that `Props.C12.runCalls`, `runCallsI` (`Lemmas/FaultInterruptedW`) and
`GW.runCallsS` (`Lemmas/ShortWrite`) share, over any step function (`runWith`, from `callOut` / `consOut`;
`runCalls_eq_runWith` here, the twins' beside their folds), with a relational induction over it for facts that relate
two runs step by step (`runWith_rel`, and `runWith_congr` for runs that agree call by call).  `runCalls_snoc`: a run
from its last call.
-/

namespace ZipVerif.Model
open ZipVerif ZipVerif.Props.C12

/-- What one call contributes to a run: its outcome, and the writer state and device the run goes on from. -/
def callOut (s : WState) : Out (Except ZErr (Option Nat) × WState) × Dev → Out (Option Nat) × WState × Dev
  | (.ok (.ok v, s'), d') => (.ok v, s', d')
  | (.ok (.error e, s'), d') => (.err e, s', d')
  | (.err e, d') => (.err e, s, d')
  | (.panic site, d') => (.panic site, s, d')

theorem callOut_dev (s : WState) (x : Out (Except ZErr (Option Nat) × WState) × Dev) : (callOut s x).2.2 = x.2 := by
  rcases x with ⟨(⟨(e | v), s'⟩ | e | p), d'⟩ <;> rfl

/-- A run from its first call on: that call's outcome, then - unless it was a panic - the run `rest` of the others. -/
def consOut (x : Out (Option Nat) × WState × Dev) (rest : WState → Dev → List (Out (Option Nat)) × WState × Dev) :
    List (Out (Option Nat)) × WState × Dev :=
  match x with
  | (.panic site, p) => ([.panic site], p)
  | (o, s', d') => (o :: (rest s' d').1, (rest s' d').2)

theorem consOut_cases (x : Out (Option Nat) × WState × Dev) :
    (∃ site, x.1 = .panic site ∧ ∀ rest, consOut x rest = ([.panic site], x.2)) ∨
    ∀ rest, consOut x rest = (x.1 :: (rest x.2.1 x.2.2).1, (rest x.2.1 x.2.2).2) := by
  obtain ⟨o, s', d'⟩ := x
  cases o
  · exact Or.inr fun _ => rfl
  · exact Or.inr fun _ => rfl
  · exact Or.inl ⟨_, rfl, fun _ => rfl⟩

theorem consOut_head (x : Out (Option Nat) × WState × Dev) (rest) : ∃ os, (consOut x rest).1 = x.1 :: os := by
  rcases consOut_cases x with ⟨site, h1, h⟩ | h
  · exact ⟨[], by rw [h, h1]⟩
  · exact ⟨_, by rw [h]⟩

theorem callOut_isOk {s : WState} {y : Out (Except ZErr (Option Nat) × WState) × Dev} (h : (callOut s y).1.isOk = true) :
    ∃ v s', y = (.ok (.ok v, s'), y.2) := by
  rcases y with ⟨(⟨(e | v), s'⟩ | e | p), d'⟩
  · cases h
  · exact ⟨v, s', rfl⟩
  · cases h
  · cases h

def runWith (f : Call → WState → Dev → Out (Except ZErr (Option Nat) × WState) × Dev) :
    List Call → WState → Dev → List (Out (Option Nat)) × WState × Dev
  | [], s, d => ([], s, d)
  | c :: cs, s, d => consOut (callOut s (f c s d)) (runWith f cs)

theorem runCalls_cons (ext : WExt) (c : Call) (cs : List Call) (s : WState) (fa : Option Nat) (d : Dev) :
    runCalls ext (c :: cs) s fa d = consOut (callOut s (step ext c s fa d)) fun s' d' => runCalls ext cs s' fa d' := by
  rw [runCalls]
  rcases step ext c s fa d with ⟨(⟨(e | v), s'⟩ | e | p), d'⟩ <;> rfl

/-- A run that ends in `c`, from the run of the calls before it, unless a panic stopped that run. -/
theorem runCalls_snoc (ext : WExt) (c : Call) (fa : Option Nat) : ∀ (cs : List Call) (s : WState) (d : Dev),
    (∀ o ∈ (runCalls ext cs s fa d).1, o.isPanic = false) →
    runCalls ext (cs ++ [c]) s fa d =
      ((runCalls ext cs s fa d).1 ++
          [(callOut (runCalls ext cs s fa d).2.1 (step ext c (runCalls ext cs s fa d).2.1 fa (runCalls ext cs s fa d).2.2)).1],
        (callOut (runCalls ext cs s fa d).2.1 (step ext c (runCalls ext cs s fa d).2.1 fa (runCalls ext cs s fa d).2.2)).2)
  | [], s, d, _ => by
    show runCalls ext [c] s fa d = ([] ++ [(callOut s (step ext c s fa d)).1], (callOut s (step ext c s fa d)).2)
    rw [runCalls_cons]
    rcases consOut_cases (callOut s (step ext c s fa d)) with ⟨site, h1, h⟩ | h
    · rw [h, ← h1]; rfl
    · rw [h]; rfl
  | c' :: cs, s, d, hp => by
    rw [List.cons_append, runCalls_cons, runCalls_cons]
    rw [runCalls_cons] at hp
    rcases consOut_cases (callOut s (step ext c' s fa d)) with ⟨site, h1, h⟩ | h
    · rw [h] at hp
      cases hp _ (List.mem_singleton.mpr rfl)
    · rw [h] at hp
      rw [h, h, runCalls_snoc ext c fa cs _ _ fun o ho => hp o (List.mem_cons_of_mem _ ho)]
      rfl

theorem runCalls_eq_runWith (ext : WExt) (fa : Option Nat) : ∀ (cs : List Call) (s : WState) (d : Dev),
    runCalls ext cs s fa d = runWith (fun c s d => step ext c s fa d) cs s d
  | [], _, _ => rfl
  | c :: cs, s, d => by
    rw [runCalls_cons, runWith]
    exact congrArg _ (funext fun s' => funext fun d' => runCalls_eq_runWith ext fa cs s' d')

theorem runWith_rel {f g : Call → WState → Dev → Out (Except ZErr (Option Nat) × WState) × Dev}
    (R : WState × Dev → WState × Dev → Prop)
    (h : ∀ c s d t e, R (s, d) (t, e) → (callOut s (f c s d)).1 = (callOut t (g c t e)).1 ∧
      R (callOut s (f c s d)).2 (callOut t (g c t e)).2) :
    ∀ (cs : List Call) (s : WState) (d : Dev) (t : WState) (e : Dev), R (s, d) (t, e) →
      (runWith f cs s d).1 = (runWith g cs t e).1 ∧ R (runWith f cs s d).2 (runWith g cs t e).2
  | [], _, _, _, _, hR => ⟨rfl, hR⟩
  | c :: cs, s, d, t, e, hR => by
    obtain ⟨h1, h2⟩ := h c s d t e hR
    rw [runWith, runWith]
    unfold consOut
    generalize callOut s (f c s d) = a at h1 h2 ⊢
    generalize callOut t (g c t e) = b at h1 h2 ⊢
    obtain ⟨o, s', d'⟩ := a
    obtain ⟨o', t', e'⟩ := b
    cases h1
    obtain ⟨i1, i2⟩ := runWith_rel R h cs s' d' t' e' h2
    cases o
    · exact ⟨by dsimp only; rw [i1], i2⟩
    · exact ⟨by dsimp only; rw [i1], i2⟩
    · exact ⟨rfl, h2⟩

theorem runWith_congr {f g : Call → WState → Dev → Out (Except ZErr (Option Nat) × WState) × Dev} (P : Dev → Prop)
    (h : ∀ c s d, P d → f c s d = g c s d ∧ P (g c s d).2) (cs : List Call) (s : WState) (d : Dev) (hP : P d) :
    runWith f cs s d = runWith g cs s d ∧ P (runWith g cs s d).2.2 := by
  obtain ⟨h1, h2, h3⟩ := runWith_rel (f := f) (g := g) (fun p q => p = q ∧ P q.2)
    (fun c s d t e hR => by
      obtain ⟨⟨rfl, rfl⟩, hP⟩ := hR
      rw [(h c s d hP).1, callOut_dev]
      exact ⟨rfl, rfl, (h c s d hP).2⟩) cs s d s d ⟨rfl, hP⟩
  exact ⟨Prod.ext h1 h2, h3⟩

end ZipVerif.Model
