import ZipVerif.Lemmas.ReadEntryAt
import ZipVerif.Lemmas.CentralParseG
/-
`ZipArchive::new` on generalised layouts (`Spec.Zip.LayoutG`), and what the entry readers use of them: a central
directory that lists the entries in another order than their local records lie in the file, end-record
fields that keep the real values next to forced ZIP64 records, an extensible data sector in the ZIP64 end
record, bytes between the directory and the ZIP64 end record.  The head is `open_headG`; the directory loop runs over
any list of records that parse to their views (`RecParses`, `parses_centralLoop_of`); `Locals` / `Locals.entry` say
where the local records lie, which is what the `_at` lemmas ask for (the entry readers themselves are run on `buildG`
in `Props/C03Order`).  The search lemmas on arbitrary bytes
(`runs_findAndParseEocd`, `runs_getDirectoryCounts_*`, `Runs.openArchive_of_parts`) and the entry readers
(`runs_byIndexRaw_at`, `runs_byIndexRead_at`) are those of `Lemmas/ReadHead.lean` and `Lemmas/ReadEntryAt.lean`; the plain
layouts are the instance `LayoutG.ofLayout` of what is proved here (`Lemmas/OfLayout.lean`, `Lemmas/ReadWf.lean`).
-/

namespace ZipVerif.Spec.Zip
open ZipVerif

/-! ### where the records of `buildG g` lie -/

theorem eocdG_length (g : LayoutG) : g.eocd.length = 22 + g.base.comment.length := by
  simp only [LayoutG.eocd, List.length_append, le16_length, le32_length]

theorem buildG_length (g : LayoutG) :
    (buildG g).length = g.eocdPos + 22 + g.base.comment.length + g.base.trailing.length := by
  simp only [buildG, List.length_append, eocdG_length, LayoutG.eocdPos, LayoutG.cdStart, Layout.cdStart,
    Layout.cdOffset, LayoutG.cdSize]
  omega

theorem drop_cdStartG (g : LayoutG) :
    (buildG g).drop g.cdStart = g.cdBytes ++ (g.gap ++ (g.end64 ++ (g.eocd ++ g.base.trailing))) := by
  have : buildG g = (g.base.pre ++ localsBytes g.base.entries ++ g.base.gapBeforeCd) ++
      (g.cdBytes ++ (g.gap ++ (g.end64 ++ (g.eocd ++ g.base.trailing)))) := by simp [buildG]
  rw [this]
  exact drop_append_len (by simp [LayoutG.cdStart, Layout.cdStart, Layout.cdOffset])

theorem drop_end64PosG (g : LayoutG) :
    (buildG g).drop g.end64Pos = g.end64 ++ (g.eocd ++ g.base.trailing) := by
  have : buildG g = (g.base.pre ++ localsBytes g.base.entries ++ g.base.gapBeforeCd ++ g.cdBytes ++ g.gap) ++
      (g.end64 ++ (g.eocd ++ g.base.trailing)) := by simp [buildG]
  rw [this]
  exact drop_append_len (by
    simp [LayoutG.end64Pos, LayoutG.cdStart, Layout.cdStart, Layout.cdOffset, LayoutG.cdSize]; omega)

theorem drop_eocdPosG (g : LayoutG) : (buildG g).drop g.eocdPos = g.eocd ++ g.base.trailing := by
  have : buildG g = (g.base.pre ++ localsBytes g.base.entries ++ g.base.gapBeforeCd ++ g.cdBytes ++ g.gap ++
      g.end64) ++ (g.eocd ++ g.base.trailing) := by simp [buildG]
  rw [this]
  exact drop_append_len (by
    simp [LayoutG.eocdPos, LayoutG.cdStart, Layout.cdStart, Layout.cdOffset, LayoutG.cdSize]; omega)

/-- the bytes at the local header of the entry that follows `es1` (the local part of `buildG` is `build`'s) -/
theorem drop_localG (g : LayoutG) (es1 es2 : List Entry) (e : Entry) (h : g.base.entries = es1 ++ e :: es2) :
    ∃ rest, (buildG g).drop (g.base.pre.length + (localsBytes es1).length + e.gapBefore.length) =
      localRecord e ++ (e.data ++ rest) := by
  refine ⟨descriptor e ++ (localsBytes es2 ++ (g.base.gapBeforeCd ++ (g.cdBytes ++ (g.gap ++ (g.end64 ++
    (g.eocd ++ g.base.trailing)))))), ?_⟩
  have : buildG g = (g.base.pre ++ localsBytes es1 ++ e.gapBefore) ++ (localRecord e ++ (e.data ++
      (descriptor e ++ (localsBytes es2 ++ (g.base.gapBeforeCd ++ (g.cdBytes ++ (g.gap ++ (g.end64 ++
        (g.eocd ++ g.base.trailing))))))))) := by
    simp [buildG, h, localsBytes_append, localsBytes_cons, Entry.localBytes]
  rw [this]
  exact drop_append_len (by simp; omega)

theorem placed_getElem : ∀ (es : List Entry) (loc i : Nat) (p : Entry × Nat), (placed es loc)[i]? = some p →
    ∃ es1 es2, es = es1 ++ p.1 :: es2 ∧ es1.length = i ∧
      p.2 = loc + (localsBytes es1).length + p.1.gapBefore.length := by
  intro es
  induction es with
  | nil => intro loc i p h; simp [placed] at h
  | cons e es ih =>
    intro loc i p h
    cases i with
    | zero =>
      simp only [placed, List.getElem?_cons_zero, Option.some.injEq] at h
      subst h
      exact ⟨[], es, rfl, rfl, by simp [localsBytes]⟩
    | succ i =>
      simp only [placed, List.getElem?_cons_succ] at h
      obtain ⟨es1, es2, h1, h2, h3⟩ := ih _ i p h
      refine ⟨e :: es1, es2, by rw [h1]; rfl, by simp [h2], ?_⟩
      rw [h3, localsBytes_cons, List.length_append]; omega

theorem placed_length : ∀ (es : List Entry) (loc : Nat), (placed es loc).length = es.length := by
  intro es
  induction es with
  | nil => intro _; rfl
  | cons e es ih => intro loc; simp [placed, ih]

theorem mem_cdList (g : LayoutG) (p : Listed) (h : p ∈ g.cdList) :
    ∃ es1 es2, g.base.entries = es1 ++ p.1.1 :: es2 ∧
      p.1.2 = (localsBytes es1).length + p.1.1.gapBefore.length := by
  simp only [LayoutG.cdList, List.mem_filterMap, Option.map_eq_some_iff] at h
  obtain ⟨i, _, q, hi, hq⟩ := h
  subst hq
  obtain ⟨es1, es2, h1, _, h3⟩ := placed_getElem g.base.entries 0 i q hi
  refine ⟨es1, es2, h1, ?_⟩
  show q.2 = (localsBytes es1).length + q.1.gapBefore.length
  omega

theorem viewListP_length (pre : Nat) : ∀ (ps : List Listed) (chs : Nat),
    (viewListP pre ps chs).length = ps.length := by
  intro ps
  induction ps with
  | nil => intro _; rfl
  | cons p ps ih => intro chs; simp [viewListP, ih]

theorem viewListP_getElem (pre : Nat) : ∀ (ps : List Listed) (chs i : Nat) (p : Listed),
    ps[i]? = some p → ∃ c, (viewListP pre ps chs)[i]? = some (viewEntryG p.1.1 p.1.2 pre c p.2) := by
  intro ps
  induction ps with
  | nil => intro chs i p h; simp at h
  | cons q ps ih =>
    intro chs i p h
    cases i with
    | zero =>
      simp only [List.getElem?_cons_zero, Option.some.injEq] at h
      subst h
      exact ⟨chs, by simp [viewListP]⟩
    | succ i =>
      simp only [List.getElem?_cons_succ] at h
      obtain ⟨c, hc⟩ := ih (chs + (centralRecordG q.1.1 (UInt64.ofNat q.1.2) q.2).length) i p h
      exact ⟨c, by simpa [viewListP] using hc⟩

theorem centralRecordG_length_pos (e : Entry) (off : UInt64) (pl : Z64Place) :
    1 ≤ (centralRecordG e off pl).length := by
  simp only [centralRecordG, List.length_append, le32_length]; omega

theorem length_le_centralBytesP : ∀ ps : List Listed, ps.length ≤ (centralBytesP ps).length := by
  intro ps
  induction ps with
  | nil => simp [centralBytesP]
  | cons p ps ih =>
    have := centralRecordG_length_pos p.1.1 (UInt64.ofNat p.1.2) p.2
    simp only [centralBytesP, List.length_append, List.length_cons]; omega

end ZipVerif.Spec.Zip

namespace ZipVerif.Model
open ZipVerif ZipVerif.Spec.Zip

/-! ### the central-directory loops over an arbitrary list of listed records -/

/-- **The central record of `p` parses to its view**, in an archive with `pre` bytes in front — stated for
`central_header_to_zip_file_inner` (behind the signature, the position `chs` a parameter), the function that
`ZipArchive::new`, `new_append`'s loop and the streaming reader (`pre = chs = 0`) all call; used through
`RecParses.header`, for `ZipArchive::new`. -/
def RecParses (pre : Nat) (p : Listed) : Prop :=
  ∃ inner, centralRecordG p.1.1 (UInt64.ofNat p.1.2) p.2 = le32 sigCentral ++ inner ∧
    ∀ chs q, Parses (centralHeaderInner pre chs) q inner (viewEntryG p.1.1 p.1.2 pre chs p.2)

theorem RecParses.header {pre : Nat} {p : Listed} (h : RecParses pre p) (chs : Nat) :
    Parses (centralHeader pre) chs (centralRecordG p.1.1 (UInt64.ofNat p.1.2) p.2)
      (viewEntryG p.1.1 p.1.2 pre chs p.2) := by
  obtain ⟨inner, h1, h2⟩ := h
  rw [h1]
  exact parses_centralHeader_of_inner (h2 chs)

theorem parses_centralLoop_of (ao : Nat) : ∀ (ps : List Listed) (chs : Nat), (∀ p ∈ ps, RecParses ao p) →
    Parses (readCentralLoop ao ps.length) chs (centralBytesP ps) (viewListP ao ps chs) := by
  intro ps
  induction ps with
  | nil => intro chs _; exact Parses.pure _
  | cons p ps ih =>
    intro chs hall
    show Parses (readCentralLoop ao (ps.length + 1)) chs
      (centralRecordG p.1.1 (UInt64.ofNat p.1.2) p.2 ++ centralBytesP ps) _
    unfold readCentralLoop
    refine Parses.bind ((hall p List.mem_cons_self).header chs) ?_
    refine Parses.bind_last (ih _ (fun x hx => hall x (List.mem_cons_of_mem _ hx))) ?_
    exact Parses.pure _

/-! ### `ZipArchive::new` -/

/-- the end record a parser must recover from `g.eocd` -/
def eocdOfG (g : LayoutG) : Eocd :=
  let f := g.base.zip64End && g.eocdSaturate
  let n16 : UInt16 := if f || g.count > 0xFFFF then 0xFFFF else UInt16.ofNat g.count
  { diskNumber := 0, diskWithCd := 0, filesOnDisk := n16, files := n16
    cdSize := if f || g.cdSize > 0xFFFFFFFF then 0xFFFFFFFF else UInt32.ofNat g.cdSize
    cdOffset := if f || g.cdOffset > 0xFFFFFFFF then 0xFFFFFFFF else UInt32.ofNat g.cdOffset
    comment := g.base.comment }

theorem runs_parseEocd_buildG (g : LayoutG) (hc : g.base.comment.length ≤ 0xFFFF) :
    Runs parseEocd (buildG g) g.eocdPos (.ok (eocdOfG g)) (g.eocdPos + 22 + g.base.comment.length) := by
  have hd := drop_eocdPosG g
  have hp := parses_eocd (p := g.eocdPos) (eocdOfG g).diskNumber (eocdOfG g).diskWithCd
    (eocdOfG g).filesOnDisk (eocdOfG g).files (eocdOfG g).cdSize (eocdOfG g).cdOffset g.base.comment hc
  refine (hp.toRuns (rest := g.base.trailing) ?_).cast rfl ?_
  · rw [hd]
    simp only [LayoutG.eocd, eocdOfG, List.append_assoc]
    rfl
  · simp only [List.length_append, le16_length, le32_length]; omega

theorem u32At_eocdPosG (g : LayoutG) : u32At (buildG g) g.eocdPos = some EOCD_SIG := by
  have hd := drop_eocdPosG g
  refine u32At_of_drop (rest := ?_) ?_
  · exact (le16 0 ++ le16 0 ++ le16 (eocdOfG g).files ++ le16 (eocdOfG g).files ++ le32 (eocdOfG g).cdSize ++
      le32 (eocdOfG g).cdOffset ++ le16 (UInt16.ofNat g.base.comment.length) ++ g.base.comment) ++ g.base.trailing
  · rw [hd]
    simp only [LayoutG.eocd, eocdOfG, List.append_assoc]
    rfl

theorem plain_factsG (g : LayoutG) (h64 : g.needs64 = false) :
    g.end64 = [] ∧ g.gap = [] ∧ (eocdOfG g).cdSize.toNat = g.cdSize ∧ (eocdOfG g).cdOffset.toNat = g.cdOffset ∧
    (eocdOfG g).filesOnDisk.toNat = g.count ∧ g.eocdPos = g.base.pre.length + g.cdOffset + g.cdSize := by
  have h := h64
  simp only [LayoutG.needs64, Bool.or_eq_false_iff, decide_eq_false_iff_not, Nat.not_lt] at h
  obtain ⟨⟨⟨h1, h2⟩, h3⟩, h4⟩ := h
  have he : g.end64 = [] := by simp [LayoutG.end64, h64]
  have hg : g.gap = [] := by simp [LayoutG.gap, h64]
  refine ⟨he, hg, ?_, ?_, ?_, ?_⟩
  · simp only [eocdOfG, h1, Bool.false_and, Bool.false_or]
    rw [if_neg (by simpa using h3), UInt32.toNat_ofNat']; omega
  · simp only [eocdOfG, h1, Bool.false_and, Bool.false_or]
    rw [if_neg (by simpa using h4), UInt32.toNat_ofNat']; omega
  · simp only [eocdOfG, h1, Bool.false_and, Bool.false_or]
    rw [if_neg (by simpa using h2), UInt16.toNat_ofNat']; omega
  · simp [LayoutG.eocdPos, he, hg, LayoutG.cdStart, Layout.cdStart, LayoutG.cdOffset]

theorem fits_boundsG (g : LayoutG) (hF : g.Fits) :
    g.base.pre.length + (localsBytes g.base.entries).length + g.base.gapBeforeCd.length + g.cdSize +
      g.gap.length + g.end64.length + 22 + g.base.comment.length + g.base.trailing.length < 2 ^ 63 := by
  have := hF.2.2.1
  rw [buildG_length] at this
  simp only [LayoutG.eocdPos, LayoutG.cdStart, Layout.cdStart, Layout.cdOffset] at this
  omega

/-- what `cdList_recParses` needs of each listed record of a fitting, readable layout -/
theorem cdList_ok (g : LayoutG) (hF : g.Fits) (hR : g.base.Readable) :
    ∀ p ∈ g.cdList, p.1.1.Fits ∧ p.1.1.Readable ∧ p.1.2 + g.base.pre.length < 2 ^ 64 ∧
      (p.1.1.centralExtraAllG (UInt64.ofNat p.1.2) p.2).length ≤ 0xFFFF := by
  intro p hp
  obtain ⟨es1, es2, h1, h2⟩ := mem_cdList g p hp
  have hm : p.1.1 ∈ g.base.entries := by rw [h1]; simp
  refine ⟨hF.1 _ hm, hR _ hm, ?_, hF.2.2.2 p hp⟩
  have hb := fits_boundsG g hF
  rw [h1, localsBytes_append, localsBytes_cons] at hb
  simp only [List.length_append, Entry.localBytes] at hb
  omega

/-- the archive value `ZipArchive::new` returns for `buildG g` -/
def archiveOfG (g : LayoutG) : Archive :=
  { files := viewOfG g, offset := g.base.pre.length, comment := g.base.comment }

theorem end64PosG_eq (g : LayoutG) : g.end64Pos = g.base.pre.length + g.end64Off := by
  simp [LayoutG.end64Pos, LayoutG.end64Off, LayoutG.cdStart, Layout.cdStart, LayoutG.cdOffset]; omega

theorem runs_find_buildG (g : LayoutG) (hc : g.base.comment.length ≤ 0xFFFF)
    (hwin : g.base.comment.length + g.base.trailing.length ≤ 65535)
    (hnfE : ∀ k, g.eocdPos < k → k + 22 ≤ (buildG g).length → u32At (buildG g) k ≠ some sigEocd) (p0 : Nat) :
    Runs findAndParseEocd (buildG g) p0 (.ok (eocdOfG g, g.eocdPos))
      (g.eocdPos + 22 + g.base.comment.length) := by
  have hlen := buildG_length g
  exact runs_findAndParseEocd (u32At_eocdPosG g) (runs_parseEocd_buildG g hc) (by omega) (by omega) hnfE

theorem runs_counts_plainG (g : LayoutG) (h64 : g.needs64 = false)
    (hnfL : 42 + g.base.comment.length ≤ (buildG g).length →
      u32At (buildG g) ((buildG g).length - 42 - g.base.comment.length) ≠ some sigLocator) (p0 : Nat) :
    ∃ q, Runs (getDirectoryCounts (eocdOfG g) g.eocdPos) (buildG g) p0
      (.ok (g.base.pre.length, g.cdStart, g.cdList.length)) q := by
  obtain ⟨he, hg, hsz, hoff, hcnt, hpos⟩ := plain_factsG g h64
  have hlen := buildG_length g
  obtain ⟨q, hq⟩ := runs_getDirectoryCounts_plain (B := buildG g) (footer := eocdOfG g)
    (cdeStart := g.eocdPos) (p0 := p0) hnfL (fun _ => show 42 + g.base.comment.length ≤ _ by omega) (by omega)
  refine ⟨q, hq.cast ?_ rfl⟩
  rw [hsz, hoff, hcnt, hpos]
  have e1 : g.base.pre.length + g.cdOffset + g.cdSize - g.cdSize - g.cdOffset = g.base.pre.length := by omega
  rw [e1, Nat.add_comm g.cdOffset]
  rfl

theorem end64G_eq (g : LayoutG) (h64 : g.needs64 = true) :
    g.end64 =
      (le32 EOCD64_SIG ++ (le64 (UInt64.ofNat (44 + g.end64Ext.length)) ++ (le16 g.base.end64Versions.1 ++
        (le16 g.base.end64Versions.2 ++ (le32 0 ++ (le32 0 ++
        (le64 (UInt64.ofNat g.count) ++ (le64 (UInt64.ofNat g.count) ++ (le64 (UInt64.ofNat g.cdSize) ++
        (le64 (UInt64.ofNat g.cdOffset) ++ g.end64Ext)))))))))) ++
      (le32 LOCATOR_SIG ++ (le32 0 ++ (le64 (UInt64.ofNat g.end64Off) ++ le32 1))) := by
  simp only [LayoutG.end64, h64, if_true, List.append_assoc]
  rfl

/-- `get_directory_counts` on a generalised layout with ZIP64 end record + locator (nothing after the comment):
the locator names the position of the record, behind the gap; the extensible data sector lies between the fixed
part of the record and the locator. -/
theorem runs_counts_z64G (g : LayoutG) (hF : g.Fits) (h64 : g.needs64 = true) (ht : g.base.trailing = [])
    (hnf64 : ∀ k, g.end64Off ≤ k → k < g.end64Pos → u32At (buildG g) k ≠ some sigEocd64) (p0 : Nat) :
    Runs (getDirectoryCounts (eocdOfG g) g.eocdPos) (buildG g) p0
      (.ok (g.base.pre.length, g.cdStart, g.cdList.length)) (g.end64Pos + 56) := by
  have hb := fits_boundsG g hF
  have he := end64G_eq g h64
  have hel : g.end64.length = 76 + g.end64Ext.length := by
    rw [he]; simp only [List.length_append, le16_length, le32_length, le64_length]; omega
  have hcnt : g.count ≤ g.cdSize := length_le_centralBytesP g.cdList
  rw [ht] at hb
  have hpos : g.eocdPos = g.end64Pos + 76 + g.end64Ext.length := by
    simp [LayoutG.eocdPos, LayoutG.end64Pos, hel]; omega
  have hcdo : g.cdOffset = (localsBytes g.base.entries).length + g.base.gapBeforeCd.length := rfl
  have hoff : g.end64Off = g.cdOffset + g.cdSize + g.gap.length := rfl
  have hd := drop_end64PosG g
  rw [he, List.append_assoc, ht, List.append_nil] at hd
  rw [hpos]
  refine (runs_counts_z64_at (footer := eocdOfG g) hd (eocdG_length g) (by simp [eocdOfG]) (end64PosG_eq g)
    (by rw [end64PosG_eq]; show _ + g.base.comment.length + 98 < _; simp only [List.length_nil] at hb; omega)
    (by show g.count < _; omega) (by omega) hnf64).cast ?_ rfl
  rw [Nat.add_comm]; rfl

/-- **The head of `ZipArchive::new` on `buildG g`**: the end record, then the prefix length, the start of the
directory and the number of LISTED entries. -/
theorem open_headG (g : LayoutG) (hF : g.Fits) (hS : NoFalseSigG g)
    (ht : g.base.trailing = [] ∨ g.needs64 = false) (p0 : Nat) :
    ∃ q0 q1, Runs findAndParseEocd (buildG g) p0 (.ok (eocdOfG g, g.eocdPos)) q0 ∧
      Runs (getDirectoryCounts (eocdOfG g) g.eocdPos) (buildG g) q0
        (.ok (g.base.pre.length, g.cdStart, g.cdList.length)) q1 := by
  obtain ⟨hwin, hi, hii, hiii⟩ := hS
  have hlen := buildG_length g
  have hfind := runs_find_buildG g hF.2.1 hwin (fun k h1 h2 => by
    have := hi (k - (g.eocdPos + 1)) (by omega)
    rwa [show g.eocdPos + 1 + (k - (g.eocdPos + 1)) = k by omega] at this) p0
  cases h64 : g.needs64 with
  | false =>
    obtain ⟨q1, hq1⟩ := runs_counts_plainG g h64 (hii h64) _
    exact ⟨_, q1, hfind, hq1⟩
  | true =>
    refine ⟨_, _, hfind, runs_counts_z64G g hF h64 (ht.resolve_right (by simp [h64])) (fun k h1 h2 => ?_) _⟩
    have h64p := end64PosG_eq g
    have := hiii h64 (k - g.end64Off) (by omega)
    rwa [show g.end64Off + (k - g.end64Off) = k by omega] at this

/-- every listed record of a fitting, readable layout parses to its view -/
theorem cdList_recParses (g : LayoutG) (hF : g.Fits) (hR : g.base.Readable) :
    ∀ p ∈ g.cdList, RecParses g.base.pre.length p := by
  intro p hp
  obtain ⟨hf, hr, ho, hx⟩ := cdList_ok g hF hR p hp
  exact ⟨_, rfl, fun c q => parses_centralInner_of_extra p.1.1 p.1.2 _ c q _ _ hf.1 hf.2.1 hx hr.2 ho
    (extra_on_centralG p.1.1 _ c p.2 hr.1 _ (Nat.le_refl _))⟩

/-- **`ZipArchive::new` on `buildG g`**, given that every listed record parses (`cdList_recParses`; for a plain
layout under `ReadableZ`: `recParses_placed`). -/
theorem open_layoutG_of (g : LayoutG) (hF : g.Fits) (hrec : ∀ p ∈ g.cdList, RecParses g.base.pre.length p)
    (hS : NoFalseSigG g) (ht : g.base.trailing = [] ∨ g.needs64 = false) (p0 : Nat) :
    ∃ q, Runs openArchive (buildG g) p0 (.ok (archiveOfG g)) q := by
  obtain ⟨q0, q1, hfind, hcnt⟩ := open_headG g hF hS ht p0
  exact ⟨_, Runs.openArchive_of_parts (by simp [eocdOfG]) hfind hcnt
    ((parses_centralLoop_of g.base.pre.length g.cdList g.cdStart hrec).toRuns (drop_cdStartG g))⟩

theorem open_layoutG (g : LayoutG) (hF : g.Fits) (hR : g.base.Readable) (hS : NoFalseSigG g)
    (ht : g.base.trailing = [] ∨ g.needs64 = false) (p0 : Nat) :
    ∃ q, Runs openArchive (buildG g) p0 (.ok (archiveOfG g)) q :=
  open_layoutG_of g hF (cdList_recParses g hF hR) hS ht p0

/-! ### entries -/

/-- **The local records of `ps` lie in `B`** where the directory says (shifted by `pre`), each followed by its data:
all the entry readers need of the bytes. -/
structure Locals (B : Bytes) (pre : Nat) (ps : List Listed) : Prop where
  small : B.length < 2 ^ 63
  at_ : ∀ p ∈ ps, p.1.1.Fits ∧ ∃ rest, B.drop (p.1.2 + pre) = localRecord p.1.1 ++ (p.1.1.data ++ rest)

namespace Locals
variable {B : Bytes} {pre chs0 : Nat} {ps : List Listed} {a : Archive}

/-- what the entry readers use of entry `i` of an archive value that lists the views of `ps` -/
theorem entry (h : Locals B pre ps) (ha : a.files = viewListP pre ps chs0) {i : Nat} {p : Listed}
    (hi : ps[i]? = some p) :
    ∃ chs rest, a.files[i]? = some (viewEntryG p.1.1 p.1.2 pre chs p.2) ∧
      B.drop (p.1.2 + pre) = localRecord p.1.1 ++ (p.1.1.data ++ rest) ∧
      p.1.2 + pre + (localRecord p.1.1).length + p.1.1.data.length < 2 ^ 63 ∧ p.1.1.Fits := by
  obtain ⟨chs, hv⟩ := viewListP_getElem pre ps chs0 i p hi
  obtain ⟨hf, rest, hr⟩ := h.at_ p (List.mem_of_getElem? hi)
  refine ⟨chs, rest, ha ▸ hv, hr, ?_, hf⟩
  have := congrArg List.length hr
  have := h.small
  have := localRecord_length p.1.1
  simp only [List.length_drop, List.length_append] at *
  omega

end Locals

theorem locals_buildG (g : LayoutG) (hF : g.Fits) : Locals (buildG g) g.base.pre.length g.cdList where
  small := hF.2.2.1
  at_ p hp := by
    obtain ⟨es1, es2, h1, h2⟩ := mem_cdList g p hp
    obtain ⟨rest, hrest⟩ := drop_localG g es1 es2 p.1.1 h1
    exact ⟨hF.1 _ (by rw [h1]; simp), rest, by rw [← hrest]; congr 1; omega⟩

end ZipVerif.Model
