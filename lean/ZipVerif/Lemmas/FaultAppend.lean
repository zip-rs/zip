import ZipVerif.Lemmas.ReaderTotal
import ZipVerif.Lemmas.WriterSat
import ZipVerif.Lemmas.ParseExtra
/-
`ZipWriter::new_append` establishes the writer invariant `Inv` (so that C12's panic-freedom — for every
fault index — also covers writers opened on an existing archive): the only non-trivial clause is that
every entry parsed from the central directory carries a timestamp `datepart` accepts, which holds
because `DateTime::from_msdos` can only produce years 1980…2107.  No fault-transparency statement is proved
here: those for `new_append` are in `Lemmas/FaultReader.lean` (`newAppend_uniform`, `newAppend_errOnFire`).
-/

namespace ZipVerif.Model
open ZipVerif

theorem centralHeaderInner_timeOk (off start : Nat) :
    PostV (fun f => TimeOk f.time) (centralHeaderInner off start) := by
  unfold centralHeaderInner
  postv
  all_goals
    show TimeOk (parseExtraField _ _ _).1.time
    rw [parseExtraField_keeps FileData.time fun _ => rfl]
    exact timeOk_fromMsdos _ _

theorem centralHeader_timeOk (off : Nat) : PostV (fun f => TimeOk f.time) (centralHeader off) := by
  unfold centralHeader
  postv [centralHeaderInner_timeOk _ _]

theorem newAppend_loop_timeOk (off n : Nat) :
    PostV (fun l => ∀ f ∈ l, TimeOk f.time) (newAppend.loop off n) := by
  induction n with
  | zero =>
    unfold newAppend.loop
    postv
    intro f hf; cases hf
  | succ n ih =>
    unfold newAppend.loop
    refine PostV.bind (centralHeader_timeOk off) fun f hf => ?_
    split
    · postv
    refine PostV.bind ih fun rest hrest => ?_
    postv
    intro g hg
    cases hg with
    | head => exact hf
    | tail _ hg => exact hrest g hg

theorem inv_appended (files : List FileData) (comment : Bytes) (h : ∀ f ∈ files, TimeOk f.time) :
    Inv { WState.init with files, comment, writingRaw := true } :=
  ⟨by simp [WState.init], by simp [WState.init], by simp [WState.init], by simp [WState.init],
   by simp [WState.init, InnerOk, EncOk], h⟩

/-- **`new_append` establishes the writer invariant**, for every input and every fault index. -/
theorem newAppend_inv : PostV Inv newAppend :=
  PostV.intro fun _ _ _ _ h => by
    obtain ⟨_, _, _, _, _, _, _, _, _, _, _, hl, _, rfl⟩ := newAppend_ok_inv h
    exact inv_appended _ _ ((newAppend_loop_timeOk _ _).elim hl)

end ZipVerif.Model
