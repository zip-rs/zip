import ZipVerif.Model.Writer
import ZipVerif.Spec.Zip
import ZipVerif.Spec.ZipView
/-
Shared vocabulary of the "writer emits a layout" development (C01, C02, C13, C14; the archive-level statements of
C08 – C12 build on it too).

The theorem family says: on a fault-free sink, what the writer model leaves in the sink after
`finish()` IS `Spec.Zip.build l` for a layout `l` written down from the calls alone.  The bridge
between the writer's bookkeeping (`WState.files : List FileData`) and the format specification
(`Spec.Zip.Entry`) is the relation `Closed`: "the central record the writer will emit for `f` is the
spec's central record of `e` at offset `off`".  It is deliberately stated on the SERIALISATION, so
that it covers records the writer created itself and records re-hydrated by `new_append` alike.
-/

namespace ZipVerif.WL
open ZipVerif ZipVerif.Model ZipVerif.Spec.Zip

/-- The writer record `f` is the central-directory image of the spec entry `e` whose local header
lies at `off` (relative to the archive proper = absolute, the writer never has a prefix). -/
def Closed (e : Entry) (off : Nat) (f : FileData) : Prop :=
  ∃ cs, centralHeaderChunks f = .ok cs ∧ ser cs = centralRecord e (UInt64.ofNat off)

/-- `Closed` along a list, offsets advancing exactly as `Spec.Zip.localOffsets` does. -/
def ClosedAll : List Entry → Nat → List FileData → Prop
  | [], _, [] => True
  | e :: es, start, f :: fs =>
    Closed e (start + e.gapBefore.length) f ∧ ClosedAll es (start + e.localBytes.length) fs
  | _, _, _ => False

/-- The spec entry of a record the writer created itself.
* `f`   — the finished record (CRC and sizes final);
* `dp`  — its DOS date (`f.time.datepart`, which exists for every constructible `DateTime`);
* `gap` — dead bytes between the previous record's end and this local header;
* `lx`  — extra bytes of the local header after the ZIP64 record (Level 1: `[]`);
* `data`— the stored bytes;
* `lv`  — the version-needed written into the LOCAL header when the entry was started (the local
          header is written before the sizes are known and the version is not back-patched). -/
def specEntry (f : FileData) (dp : UInt16) (gap lx data : Bytes) (lv : UInt16) : Entry :=
  { madeBy := (f.system.discr <<< 8) ||| f.versionMadeBy.toUInt16
    versionNeeded := f.versionNeeded
    flags := flagOf f
    method := f.method.toU16
    time := f.time.timepart
    date := dp
    crc := f.crc32
    usize := f.uncompressedSize
    name := f.fileName
    centralExtra := f.extraField
    comment := []
    internalAttrs := 0
    externalAttrs := f.externalAttributes
    z64 := (false, false, false)
    localExtra := lx
    localZip64 := f.largeFile
    desc := .none
    gapBefore := gap
    data := data
    localVersion := some lv }

/-- The layout a writer run produces: no prefix, entries, dead bytes before the directory, the
comment; ZIP64 end records exactly when needed, written with version 46/46 (`DEFAULT_VERSION`);
`trailing` = stale bytes of the old archive that an in-place rewrite (`new_append`) could not
truncate (always `[]` for a fresh writer). -/
def layoutOf (es : List Entry) (gap comment trailing : Bytes) : Layout :=
  { pre := [], entries := es, gapBeforeCd := gap, comment := comment, zip64End := false,
    trailing := trailing, end64Versions := (46, 46) }

end ZipVerif.WL
