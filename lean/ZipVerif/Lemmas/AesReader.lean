import ZipVerif.Lemmas.Aes
import ZipVerif.Lemmas.Layers
/-
`read_exact`, the invariant of `AesReaderValid::read`, the call as one expression with its two copies of the code
comparison folded into `Valid.finish` (`Valid.read_eq`, `finish_cases`), and the case analysis of one `read` call from a
state satisfying the invariant (`read_cases` / `ReadCase`), on which everything later about runs of `read` calls rests.
`read_facts`: the bounds and the key stream, for every state, by a walk of their own through `Valid.read_eq`.
-/

namespace ZipVerif.Model
open ZipVerif

/-- A reader of the AES model (it cannot panic) as a reader of the layer model. -/
def ofAes {σ} (S : Aes.Src σ) : Layers.Src σ where
  rd s n := match S.rd s n with
    | (.ok bs, s') => (.ok bs, s')
    | (.err k, s') => (.err k, s')

theorem ofAes_ok {σ} {S : Aes.Src σ} {s s' : σ} {n : Nat} {bs : Bytes} (h : S.rd s n = (.ok bs, s')) :
    (ofAes S).rd s n = (.ok bs, s') := by simp only [ofAes, h]

theorem ofAes_err {σ} {S : Aes.Src σ} {s s' : σ} {n : Nat} {k : IoKind} (h : S.rd s n = (.err k, s')) :
    (ofAes S).rd s n = (.err k, s') := by simp only [ofAes, h]

end ZipVerif.Model

namespace ZipVerif.Model.Aes
open ZipVerif

/-! ### the key stream loop -/

theorem refill_no_err (P : AesPrims) (key : Bytes) (st : CtrState) (e : ZErr) : refill P key st ≠ .err e := by
  unfold refill; split <;> simp

theorem refill_no_err_aux (P : AesPrims) (key : Bytes) (st : CtrState) (e : ZErr)
    (h : (if st.pos = 16 then refill P key st else Out.ok st) = Out.err e) : False := by
  split at h
  · exact refill_no_err P key st e h
  · cases h

theorem cryptLoop_cases (P : AesPrims) (key : Bytes) : ∀ (fuel : Nat) (st : CtrState) (t : Bytes),
    (∃ out st', cryptLoop P key fuel st t = .ok (out, st') ∧ out.length = t.length) ∨
      ∃ m, cryptLoop P key fuel st t = .panic m := by
  intro fuel
  induction fuel with
  | zero =>
    intro st t
    cases t with
    | nil => exact .inl ⟨[], st, rfl, rfl⟩
    | cons b t => exact .inr ⟨_, rfl⟩
  | succ f ih =>
    intro st t
    cases t with
    | nil => exact .inl ⟨[], st, rfl, rfl⟩
    | cons b t =>
      rw [cryptLoop]
      by_cases hp : st.pos > 16
      · rw [if_pos hp]; exact .inr ⟨_, rfl⟩
      rw [if_neg hp]
      rcases hq : (if st.pos = 16 then refill P key st else Out.ok st) with st1 | e1 | m
      · rw [Out.bind_ok]
        dsimp only
        generalize hn : min (t.length + 1) (16 - st1.pos) = n
        have hnl : n ≤ (b :: t).length := hn ▸ Nat.min_le_left _ _
        by_cases hsrc : ((st1.buffer.drop st1.pos).take n).length ≠ n
        · rw [if_pos hsrc]; exact .inr ⟨_, rfl⟩
        rw [if_neg hsrc]
        rcases ih ⟨st1.counter, st1.buffer, st1.pos + n⟩ ((b :: t).drop n) with ⟨out, st', hc, hl⟩ | ⟨m, hc⟩
        · rw [hc]
          refine .inl ⟨_, _, rfl, ?_⟩
          rw [List.length_append, hl, xorBytes_length, List.length_take_of_le hnl, Decidable.not_not.mp hsrc,
            Nat.min_self, List.length_drop]
          exact Nat.add_sub_cancel' hnl
        · rw [hc]; exact .inr ⟨m, rfl⟩
      · exact (refill_no_err_aux P key st e1 hq).elim
      · exact .inr ⟨m, rfl⟩

theorem cryptLoop_no_err (P : AesPrims) (key : Bytes) (fuel : Nat) (st : CtrState) (t : Bytes) (e : ZErr) :
    cryptLoop P key fuel st t ≠ .err e := by
  rcases cryptLoop_cases P key fuel st t with ⟨_, _, h, _⟩ | ⟨_, h⟩ <;> rw [h] <;> nofun

theorem cryptLoop_length (P : AesPrims) (key : Bytes) (fuel : Nat) (st st' : CtrState) (t out : Bytes)
    (h : cryptLoop P key fuel st t = .ok (out, st')) : out.length = t.length := by
  rcases cryptLoop_cases P key fuel st t with ⟨o, s, h', hl⟩ | ⟨_, h'⟩
  · cases h.symm.trans h'; exact hl
  · cases h.symm.trans h'

/-! ### `read_exact` -/

/-- The two models of `Read::read_exact` are one loop: this one (which threads what it has read so far, and names its
panics) over `S` does what the layer model's does over `ofAes S`.  What is known about that loop is proved there. -/
theorem readExactAux_ofAes {σ} (S : Src σ) (f : Nat) (s : σ) (n : Nat) (acc : Bytes) :
    match Layers.readExactAux (ofAes S) f s n with
    | (.ok bs, s') => readExactAux S f s n acc = (.ok (acc ++ bs), s')
    | (.err e, s') => readExactAux S f s n acc = (.err (.io e), s')
    | (.panic, s') => ∃ m, readExactAux S f s n acc = (.panic m, s') := by
  induction f generalizing s n acc with
  | zero =>
    cases n with
    | zero => simp only [readExactAux, Layers.readExactAux, List.append_nil]
    | succ n => exact ⟨_, rfl⟩
  | succ f ih =>
    cases n with
    | zero => simp only [readExactAux, Layers.readExactAux, List.append_nil]
    | succ n =>
      simp only [readExactAux, Layers.readExactAux]
      rcases hr : S.rd s (n + 1) with ⟨r, s1⟩
      cases r with
      | err k => rw [ofAes_err hr]
      | ok bs =>
        rw [ofAes_ok hr]
        dsimp only
        by_cases hb : bs = []
        · subst hb; rfl
        · rw [if_neg (mt List.eq_nil_of_length_eq_zero hb), if_neg hb]
          by_cases hl : bs.length ≤ n + 1
          · rw [if_neg (Nat.not_lt.mpr hl), if_pos hl]
            have h := ih s1 (n + 1 - bs.length) (acc ++ bs)
            generalize Layers.readExactAux (ofAes S) f s1 (n + 1 - bs.length) = q at h ⊢
            obtain ⟨r2, s2⟩ := q
            cases r2 with
            | ok r => exact h.trans (by rw [List.append_assoc])
            | err e => exact h
            | panic => exact h
          · rw [if_pos (Nat.lt_of_not_le hl), if_neg hl]
            exact ⟨_, rfl⟩

theorem readExactAux_no_panic {σ} (S : Src σ) (hC : S.Contract) :
    ∀ (f : Nat) (s : σ) (need : Nat) (acc : Bytes), need ≤ f →
      ∀ m, (readExactAux S f s need acc).1 ≠ .panic m := by
  intro f
  induction f with
  | zero =>
    intro s need acc h m
    have : need = 0 := by omega
    subst this
    simp [readExactAux]
  | succ f ih =>
    intro s need acc h m
    cases need with
    | zero => simp [readExactAux]
    | succ need =>
      unfold readExactAux
      cases hrd : S.rd s (need + 1) with
      | mk res s' =>
        cases res with
        | err k => simp
        | ok bs =>
          have hc := hC _ _ _ _ hrd
          simp only
          split
          · simp
          · split
            · omega
            · exact ih _ _ _ (by omega) m

theorem readExact_no_panic {σ} (S : Src σ) (hC : S.Contract) (s : σ) (n : Nat) (m : String) :
    (readExact S s n).1 ≠ .panic m :=
  readExactAux_no_panic S hC n s n [] (Nat.le_refl _) m

theorem readExactAux_length {σ} (S : Src σ) :
    ∀ (f : Nat) (s : σ) (need : Nat) (acc out : Bytes) (s' : σ),
      readExactAux S f s need acc = (.ok out, s') → out.length = acc.length + need := by
  intro f s need acc out s' h
  have hb := readExactAux_ofAes S f s need acc
  rcases hq : Layers.readExactAux (ofAes S) f s need with ⟨r, s2⟩
  rw [hq, h] at hb
  cases r with
  | ok bs => cases hb; rw [List.length_append, Layers.readExactAux_len _ f s need bs _ hq]
  | err e => cases hb
  | panic => obtain ⟨m, hm⟩ := hb; cases hm

theorem readExact_length {σ} (S : Src σ) {s s' : σ} {n : Nat} {out : Bytes}
    (h : readExact S s n = (.ok out, s')) : out.length = n := by
  have := readExactAux_length S n s n [] out s' h
  simpa using this

theorem readExact_err_io {σ} (S : Src σ) (s s' : σ) (n : Nat) (e : ZErr) (h : readExact S s n = (.err e, s')) :
    ∃ k, e = .io k := by
  have hb := readExactAux_ofAes S n s n []
  generalize Layers.readExactAux (ofAes S) n s n = q at hb
  obtain ⟨r, s2⟩ := q
  unfold readExact at h
  rw [h] at hb
  cases r with
  | ok bs => cases hb
  | err k => cases hb; exact ⟨k, rfl⟩
  | panic => obtain ⟨m, hm⟩ := hb; cases hm

/-! ### the invariant -/

/-- Invariant of `AesReaderValid` for an entry with `L` ciphertext bytes (stated on the fields, the
inner reader is not mentioned). -/
structure Inv (P : AesPrims) (L : Nat) {σ} (v : Valid σ) : Prop where
  len : v.ghostCt.length + v.dataRemaining = L
  good : v.ctr.Good
  -- 32: `CtrState.new` is counter 1 with an exhausted buffer (`pos = 16`), and every byte moves `16 * counter + pos` by one
  ctrpos : 16 * v.ctr.counter + v.ctr.pos = 32 + v.ghostCt.length
  notfin : v.finalized = false → v.hmacMsg = v.ghostCt ∧ v.ghostMac = none
  fin : v.finalized = true → v.dataRemaining = 0
  finAt : v.dataRemaining = 0 → 0 < L → v.finalized = true
  mac : ∀ c s, v.ghostMac = some (c, s) →
    c = (P.hmac v.hmacKey v.ghostCt).take AUTH_CODE_LENGTH ∧ s.length = AUTH_CODE_LENGTH ∧
      v.finalized = true

theorem Inv.setInner {P : AesPrims} {L : Nat} {σ} {v : Valid σ} (h : Inv P L v) (s : σ) :
    Inv P L { v with inner := s } :=
  ⟨h.len, h.good, h.ctrpos, h.notfin, h.fin, h.finAt, h.mac⟩

theorem Inv.notfin_of_pos {P : AesPrims} {L : Nat} {σ} {v : Valid σ} (h : Inv P L v)
    (hp : 0 < v.dataRemaining) : v.finalized = false := by
  cases hf : v.finalized with
  | false => rfl
  | true => have := h.fin hf; omega

/-- Decrypting the chunk `bs` in state `v` gives `pt` and leaves the key stream at `c`. -/
structure Chunk (P : AesPrims) {σ} (v : Valid σ) (bs pt : Bytes) (c : CtrState) : Prop where
  inPlace : cryptInPlace P v.key v.ctr bs = .ok (pt, c)
  bytes : cryptBytes P v.key v.ctr bs = .ok (pt, c)
  len : pt.length = bs.length
  good : c.Good
  pos : 16 * c.counter + c.pos = 32 + (v.ghostCt ++ bs).length

/-- From a state satisfying the invariant the cipher cannot overflow its `u128` counter. -/
theorem crypt_ok (P : AesPrims) (hW : P.WF) {L : Nat} (hL : L < U64) {σ} {v : Valid σ}
    (hI : Inv P L v) (bs : Bytes) (hb : bs.length ≤ v.dataRemaining) : ∃ pt c, Chunk P v bs pt c := by
  have h1 := hI.len
  have h2 := hI.ctrpos
  -- `bs.length / 16 + 1` blocks suffice, and the counter stays far below 2^128
  have hlt : bs.length < 16 * (bs.length / 16 + 1) := Nat.lt_mul_div_succ _ (by decide)
  obtain ⟨st', e, g, c⟩ := cryptBytes_closed P v.key hW v.ctr bs (bs.length / 16 + 1) hI.good
    (by rw [Nat.add_comm]; exact Nat.add_le_add hI.good.1 (Nat.le_of_lt hlt))
    (by have hd : bs.length / 16 ≤ bs.length := Nat.div_le_self _ _
        generalize bs.length / 16 = q at hd
        unfold U64 at hL; unfold U128; omega)
  refine ⟨_, st', ?_, e, ?_, g, ?_⟩
  · rw [cryptInPlace_eq_bytes P v.key hW hI.good, e]
  · rw [xorBytes_length, List.length_append, List.length_drop, ksBlocks_length P v.key hW, hI.good.2]
    exact Nat.min_eq_left (Nat.le_trans (Nat.le_of_lt hlt) (Nat.le_add_left _ _))
  · rw [c, h2, List.length_append, Nat.add_assoc]

/-! ### one `read` call -/

/-- state after a data chunk -/
def Valid.adv {σ} (v : Valid σ) (s : σ) (bs : Bytes) (c : CtrState) : Valid σ :=
  { v with inner := s, dataRemaining := v.dataRemaining - bs.length, hmacMsg := v.hmacMsg ++ bs, ghostCt := v.ghostCt ++ bs, ctr := c }

/-- state after the ciphertext is used up and reading the stored code failed -/
def Valid.closed {σ} (v : Valid σ) (s : σ) : Valid σ :=
  { v with finalized := true, inner := s }

/-- state after the ciphertext is used up and the stored code has been read and compared -/
def Valid.compared {σ} (P : AesPrims) (v : Valid σ) (s : σ) (code : Bytes) : Valid σ :=
  { v with finalized := true, inner := s, hmacMsg := [], ghostMac := some ((P.hmac v.hmacKey v.hmacMsg).take AUTH_CODE_LENGTH, code) }

/-- What `read` does at both places where the ciphertext is used up (an entry without ciphertext; after the last
chunk): read the stored code and compare; `out` is what the call returns if they agree. -/
def Valid.finish (P : AesPrims) {σ} (S : Src σ) (v : Valid σ) (out : Bytes) : Out Bytes × Valid σ :=
  match readExact S v.inner AUTH_CODE_LENGTH with
  | (.err e, s) => (.err e, v.closed s)
  | (.panic m, s) => (.panic m, v.closed s)
  | (.ok code, s) =>
    if (P.hmac v.hmacKey v.hmacMsg).take AUTH_CODE_LENGTH ≠ code then (.err (.io .invalidData), v.compared P s code)
    else (.ok out, v.compared P s code)

/-- `Valid.read` with its two copies of the comparison folded into `Valid.finish`. -/
theorem Valid.read_eq (P : AesPrims) {σ} (S : Src σ) (v : Valid σ) (n : Nat) :
    Valid.read P S v n =
      if v.dataRemaining = 0 then (if v.finalized then (.ok [], v) else v.finish P S []) else
      match S.rd v.inner (min v.dataRemaining n) with
      | (.err k, s') => (.err (.io k), { v with inner := s' })
      | (.ok bs, s') =>
        if bs.length = 0 ∧ min v.dataRemaining n ≠ 0 then (.err (.io .unexpectedEof), { v with inner := s' }) else
        if bs.length > v.dataRemaining then
          (.panic "attempt to subtract with overflow (data_remaining)", { v with inner := s' }) else
        if bs.length > n then
          (.panic "range end index out of range for slice (buf[0..read])", { v with inner := s' }) else
        match cryptInPlace P v.key v.ctr bs with
        | .panic m => (.panic m, v.adv s' bs v.ctr)
        | .err e => (.err e, v.adv s' bs v.ctr)
        | .ok (pt, c) =>
          if v.dataRemaining - bs.length = 0 then
            if v.finalized then (.panic "Tried to use an already finalized HMAC. This is a bug!", v.adv s' bs c)
            else (v.adv s' bs c).finish P S pt
          else (.ok pt, v.adv s' bs c) := rfl

section
variable (P : AesPrims) {σ : Type} (S : Src σ) (v : Valid σ) (n : Nat)

theorem read_done (h0 : v.dataRemaining = 0) (hf : v.finalized = true) : Valid.read P S v n = (.ok [], v) := by
  rw [Valid.read_eq, if_pos h0, if_pos hf]

theorem read_empty (h0 : v.dataRemaining = 0) (hnf : v.finalized = false) :
    Valid.read P S v n = v.finish P S [] := by
  rw [Valid.read_eq, if_pos h0, hnf]; rfl

theorem read_at_eof (s' : σ) (h0 : v.dataRemaining ≠ 0) (hn : n ≠ 0)
    (hrd : S.rd v.inner (min v.dataRemaining n) = (.ok [], s')) :
    Valid.read P S v n = (.err (.io .unexpectedEof), { v with inner := s' }) := by
  rw [Valid.read_eq, if_neg h0, hrd]
  exact if_pos ⟨rfl, fun h => (Nat.min_eq_zero_iff.mp h).elim h0 hn⟩

theorem read_rd_err {k : IoKind} {s' : σ} (h0 : v.dataRemaining ≠ 0)
    (hrd : S.rd v.inner (min v.dataRemaining n) = (.err k, s')) :
    Valid.read P S v n = (.err (.io k), { v with inner := s' }) := by
  rw [Valid.read_eq, if_neg h0, hrd]

theorem read_over {bs : Bytes} {s' : σ} (h0 : v.dataRemaining ≠ 0)
    (hrd : S.rd v.inner (min v.dataRemaining n) = (.ok bs, s')) (h : min v.dataRemaining n < bs.length) :
    ∃ m, Valid.read P S v n = (.panic m, { v with inner := s' }) := by
  rw [Valid.read_eq, if_neg h0, hrd]
  dsimp only
  rw [if_neg fun hz => absurd (hz.1 ▸ h) (Nat.not_lt_zero _)]
  by_cases h1 : bs.length > v.dataRemaining
  · rw [if_pos h1]; exact ⟨_, rfl⟩
  · -- not more than `data_remaining`, yet more than the minimum: more than the buffer
    rw [if_neg h1, if_pos (Nat.lt_of_not_le fun hn => absurd (Nat.le_min.mpr ⟨Nat.le_of_not_lt h1, hn⟩) (Nat.not_le.mpr h))]
    exact ⟨_, rfl⟩

theorem read_chunk {bs pt : Bytes} {s' : σ} {c : CtrState} (h0 : v.dataRemaining ≠ 0)
    (hrd : S.rd v.inner (min v.dataRemaining n) = (.ok bs, s')) (hpos : 0 < n → 0 < bs.length)
    (hle : bs.length ≤ v.dataRemaining) (hn : bs.length ≤ n) (hnf : v.finalized = false)
    (hc : cryptInPlace P v.key v.ctr bs = .ok (pt, c)) :
    Valid.read P S v n =
      if v.dataRemaining - bs.length = 0 then (v.adv s' bs c).finish P S pt else (.ok pt, v.adv s' bs c) := by
  rw [Valid.read_eq, if_neg h0, hrd]
  dsimp only
  -- by `hpos` an empty delivery answers an empty buffer, and then the request was for 0 bytes
  rw [if_neg fun hz => hz.2 (Nat.min_eq_zero_iff.mpr (.inr (Nat.eq_zero_of_not_pos fun hn0 => Nat.ne_of_gt (hpos hn0) hz.1))),
    if_neg (Nat.not_lt.mpr hle), if_neg (Nat.not_lt.mpr hn), hc, hnf]
  rfl

variable (out : Bytes)

theorem finish_err {e : ZErr} {s : σ} (hre : readExact S v.inner AUTH_CODE_LENGTH = (.err e, s)) :
    v.finish P S out = (.err e, v.closed s) := by
  unfold Valid.finish; rw [hre]

theorem finish_ok {code : Bytes} {s : σ} (hre : readExact S v.inner AUTH_CODE_LENGTH = (.ok code, s)) :
    v.finish P S out =
      if (P.hmac v.hmacKey v.hmacMsg).take AUTH_CODE_LENGTH ≠ code then
        (.err (.io .invalidData), v.compared P s code)
      else (.ok out, v.compared P s code) := by
  unfold Valid.finish; rw [hre]

end

inductive FinishCase (P : AesPrims) {σ} (S : Src σ) (v : Valid σ) (out : Bytes) : Out Bytes × Valid σ → Prop
  | err (e s) : readExact S v.inner AUTH_CODE_LENGTH = (.err e, s) → FinishCase P S v out (.err e, v.closed s)
  | panic (m s) : readExact S v.inner AUTH_CODE_LENGTH = (.panic m, s) →
      FinishCase P S v out (.panic m, v.closed s)
  | bad (code s) : readExact S v.inner AUTH_CODE_LENGTH = (.ok code, s) →
      (P.hmac v.hmacKey v.hmacMsg).take AUTH_CODE_LENGTH ≠ code →
      FinishCase P S v out (.err (.io .invalidData), v.compared P s code)
  | ok (code s) : readExact S v.inner AUTH_CODE_LENGTH = (.ok code, s) →
      (P.hmac v.hmacKey v.hmacMsg).take AUTH_CODE_LENGTH = code →
      FinishCase P S v out (.ok out, v.compared P s code)

theorem finish_cases (P : AesPrims) {σ} (S : Src σ) (v : Valid σ) (out : Bytes) :
    FinishCase P S v out (v.finish P S out) := by
  unfold Valid.finish
  split
  · next e s h => exact .err e s h
  · next m s h => exact .panic m s h
  · next code s h =>
    split
    · next hne => exact .bad code s h hne
    · next heq => exact .ok code s h (Classical.not_not.mp heq)

/-- what the end of a call leaves alone, and what it hands back -/
theorem finish_facts (P : AesPrims) {σ} (S : Src σ) (v : Valid σ) (pt : Bytes) :
    (v.finish P S pt).2.dataRemaining = v.dataRemaining ∧ (v.finish P S pt).2.ctr = v.ctr ∧
      ∀ out, (v.finish P S pt).1 = .ok out → out = pt := by
  have h := finish_cases P S v pt
  generalize v.finish P S pt = r at h
  cases h with
  | ok code s _ _ => exact ⟨rfl, rfl, fun _ h => (Out.ok.inj h).symm⟩
  | _ => exact ⟨rfl, rfl, fun _ h => nomatch h⟩

/-- For every state (no invariant asked): the ciphertext left does not grow, at most `n` bytes come back, and the key
stream either stands or has been advanced by one `cryptInPlace`. -/
theorem read_facts (P : AesPrims) {σ} (S : Src σ) (v : Valid σ) (n : Nat) :
    (Valid.read P S v n).2.dataRemaining ≤ v.dataRemaining ∧
      (∀ out, (Valid.read P S v n).1 = .ok out → out.length ≤ n) ∧
      ((Valid.read P S v n).2.ctr = v.ctr ∨
        ∃ bs pt, cryptInPlace P v.key v.ctr bs = .ok (pt, (Valid.read P S v n).2.ctr)) := by
  have stay : ∀ (e : Out Bytes) (w : Valid σ), w.dataRemaining ≤ v.dataRemaining → w.ctr = v.ctr → (∀ out, e ≠ .ok out) →
      w.dataRemaining ≤ v.dataRemaining ∧ (∀ out, e = .ok out → out.length ≤ n) ∧
        (w.ctr = v.ctr ∨ ∃ bs pt, cryptInPlace P v.key v.ctr bs = .ok (pt, w.ctr)) :=
    fun e w h1 h2 h3 => ⟨h1, fun out h => absurd h (h3 out), .inl h2⟩
  rw [Valid.read_eq]
  by_cases h0 : v.dataRemaining = 0
  · rw [if_pos h0]
    by_cases hf : v.finalized = true
    · rw [if_pos hf]; exact ⟨Nat.le_refl _, fun _ h => by cases h; exact Nat.zero_le n, .inl rfl⟩
    · rw [if_neg hf]
      obtain ⟨f1, f2, f3⟩ := finish_facts P S v []
      exact ⟨Nat.le_of_eq f1, fun out h => by rw [f3 out h]; exact Nat.zero_le n, .inl f2⟩
  · rw [if_neg h0]
    rcases S.rd v.inner (min v.dataRemaining n) with ⟨r, s'⟩
    cases r with
    | err k => exact stay _ _ (Nat.le_refl _) rfl nofun
    | ok bs =>
      dsimp only
      by_cases h1 : bs.length = 0 ∧ min v.dataRemaining n ≠ 0
      · rw [if_pos h1]; exact stay _ _ (Nat.le_refl _) rfl nofun
      rw [if_neg h1]
      by_cases h2 : bs.length > v.dataRemaining
      · rw [if_pos h2]; exact stay _ _ (Nat.le_refl _) rfl nofun
      rw [if_neg h2]
      by_cases h3 : bs.length > n
      · rw [if_pos h3]; exact stay _ _ (Nat.le_refl _) rfl nofun
      rw [if_neg h3]
      rcases hc : cryptInPlace P v.key v.ctr bs with ⟨pt, ctr'⟩ | e | m
      · have hpt : pt.length ≤ n :=
          Nat.le_trans (Nat.le_of_eq (cryptLoop_length P v.key bs.length v.ctr ctr' bs pt hc)) (Nat.le_of_not_gt h3)
        dsimp only
        split
        · by_cases hf : v.finalized = true
          · rw [if_pos hf]; exact ⟨Nat.sub_le _ _, (fun _ h => nomatch h), .inr ⟨bs, pt, hc⟩⟩
          · rw [if_neg hf]
            obtain ⟨f1, f2, f3⟩ := finish_facts P S (v.adv s' bs ctr') pt
            exact ⟨Nat.le_trans (Nat.le_of_eq f1) (Nat.sub_le _ _), fun out h => by rw [f3 out h]; exact hpt,
              .inr ⟨bs, pt, by rw [f2]; exact hc⟩⟩
        · exact ⟨Nat.sub_le _ _, fun _ h => by cases h; exact hpt, .inr ⟨bs, pt, hc⟩⟩
      · exact stay _ _ (Nat.sub_le _ _) rfl nofun
      · exact stay _ _ (Nat.sub_le _ _) rfl nofun

theorem read_ctr (P : AesPrims) {σ} (S : Src σ) (v : Valid σ) (n : Nat) :
    (Valid.read P S v n).2.ctr = v.ctr ∨
      ∃ bs pt, cryptInPlace P v.key v.ctr bs = .ok (pt, (Valid.read P S v n).2.ctr) :=
  (read_facts P S v n).2.2

/-- The outcomes of one `read` call from a state satisfying the invariant.  The `finalized` assertion and a
failure of the cipher do not occur; `over` is a violation of the `Read` contract by the inner reader. -/
inductive ReadCase (P : AesPrims) {σ} (S : Src σ) (v : Valid σ) (n : Nat) : Out Bytes × Valid σ → Prop
  | done : v.dataRemaining = 0 → v.finalized = true → ReadCase P S v n (.ok [], v)
  | empty {r} : v.dataRemaining = 0 → v.finalized = false → FinishCase P S v [] r → ReadCase P S v n r
  | rdErr (k s') : 0 < v.dataRemaining → S.rd v.inner (min v.dataRemaining n) = (.err k, s') →
      ReadCase P S v n (.err (.io k), { v with inner := s' })
  | eof (s') : 0 < v.dataRemaining → 0 < n → S.rd v.inner (min v.dataRemaining n) = (.ok [], s') →
      ReadCase P S v n (.err (.io .unexpectedEof), { v with inner := s' })
  | over (bs s' m) : 0 < v.dataRemaining → S.rd v.inner (min v.dataRemaining n) = (.ok bs, s') →
      min v.dataRemaining n < bs.length →
      ReadCase P S v n (.panic m, { v with inner := s' })
  | mid (bs s' pt c) : S.rd v.inner (min v.dataRemaining n) = (.ok bs, s') → bs.length < v.dataRemaining →
      bs.length ≤ n → (0 < n → 0 < bs.length) → Chunk P v bs pt c → ReadCase P S v n (.ok pt, v.adv s' bs c)
  | last (bs s' pt c) {r} : S.rd v.inner (min v.dataRemaining n) = (.ok bs, s') → 0 < bs.length →
      bs.length = v.dataRemaining → bs.length ≤ n → Chunk P v bs pt c →
      FinishCase P S (v.adv s' bs c) pt r → ReadCase P S v n r

theorem read_cases (P : AesPrims) (hW : P.WF) {σ} (S : Src σ) {L : Nat} (hL : L < U64)
    (v : Valid σ) (hI : Inv P L v) (n : Nat) : ReadCase P S v n (Valid.read P S v n) := by
  by_cases h0 : v.dataRemaining = 0
  · by_cases hf : v.finalized = true
    · rw [read_done P S v n h0 hf]; exact .done h0 hf
    · have hnf := Bool.eq_false_iff.mpr hf
      rw [read_empty P S v n h0 hnf]; exact .empty h0 hnf (finish_cases P S v [])
  · have hp : 0 < v.dataRemaining := Nat.pos_of_ne_zero h0
    have hnf := hI.notfin_of_pos hp
    rcases hrd : S.rd v.inner (min v.dataRemaining n) with ⟨r, s'⟩
    cases r with
    | err k => rw [read_rd_err P S v n h0 hrd]; exact .rdErr k s' hp hrd
    | ok bs =>
      by_cases hov : min v.dataRemaining n < bs.length
      · obtain ⟨m, e⟩ := read_over P S v n h0 hrd hov
        rw [e]; exact .over bs s' m hp hrd hov
      · by_cases hb : bs.length = 0 ∧ 0 < n
        · obtain rfl := List.eq_nil_of_length_eq_zero hb.1
          rw [read_at_eof P S v n s' h0 (Nat.ne_of_gt hb.2) hrd]; exact .eof s' hp hb.2 hrd
        · have hle : bs.length ≤ v.dataRemaining := Nat.le_trans (Nat.not_lt.mp hov) (Nat.min_le_left _ _)
          have hln : bs.length ≤ n := Nat.le_trans (Nat.not_lt.mp hov) (Nat.min_le_right _ _)
          have hpos : 0 < n → 0 < bs.length := fun hn => Nat.pos_of_ne_zero fun h => hb ⟨h, hn⟩
          obtain ⟨pt, c, hc⟩ := crypt_ok P hW hL hI bs hle
          rw [read_chunk P S v n h0 hrd hpos hle hln hnf hc.inPlace]
          by_cases hr : v.dataRemaining - bs.length = 0
          · have heq : bs.length = v.dataRemaining := Nat.le_antisymm hle (Nat.le_of_sub_eq_zero hr)
            rw [if_pos hr]
            exact .last bs s' pt c hrd (heq ▸ hp) heq hln hc (finish_cases P S _ pt)
          · rw [if_neg hr]
            exact .mid bs s' pt c hrd (Nat.lt_of_sub_pos (Nat.pos_of_ne_zero hr)) hln hpos hc

theorem FinishCase.inv {P : AesPrims} {L : Nat} {σ} {S : Src σ} {v : Valid σ} {out : Bytes}
    {r : Out Bytes × Valid σ} (h : FinishCase P S v out r) (hlen : v.ghostCt.length = L)
    (h0 : v.dataRemaining = 0) (hg : v.ctr.Good) (hp : 16 * v.ctr.counter + v.ctr.pos = 32 + v.ghostCt.length)
    (hm : v.hmacMsg = v.ghostCt) (hn : v.ghostMac = none) : Inv P L r.2 := by
  have closed : ∀ s, Inv P L (v.closed s) := fun s =>
    ⟨by show v.ghostCt.length + v.dataRemaining = L; omega, hg, hp, (fun h => by cases h), fun _ => h0,
      fun _ _ => rfl, fun c s h => by rw [show v.ghostMac = some (c, s) from h] at hn; cases hn⟩
  have compared : ∀ s code, readExact S v.inner AUTH_CODE_LENGTH = (.ok code, s) → Inv P L (v.compared P s code) :=
    fun s code hre =>
    ⟨by show v.ghostCt.length + v.dataRemaining = L; omega, hg, hp, (fun h => by cases h), fun _ => h0,
      fun _ _ => rfl, fun c s h => by
        have h' : some ((P.hmac v.hmacKey v.hmacMsg).take AUTH_CODE_LENGTH, code) = some (c, s) := h
        simp only [Option.some.injEq, Prod.mk.injEq] at h'
        obtain ⟨rfl, rfl⟩ := h'
        exact ⟨by rw [hm]; rfl, readExact_length S hre, rfl⟩⟩
  cases h with
  | err e s _ => exact closed s
  | panic m s _ => exact closed s
  | bad code s hre _ => exact compared s code hre
  | ok code s hre _ => exact compared s code hre

theorem ReadCase.inv {P : AesPrims} {L : Nat} {σ} {S : Src σ} {v : Valid σ} {n : Nat}
    {r : Out Bytes × Valid σ} (h : ReadCase P S v n r) (hI : Inv P L v) : Inv P L r.2 := by
  have hlen := hI.len
  have hpos := hI.ctrpos
  cases h with
  | done => exact hI
  | empty h0 hf hfc =>
    exact hfc.inv (h0 ▸ hlen : v.ghostCt.length + 0 = L) h0 hI.good hpos (hI.notfin hf).1 (hI.notfin hf).2
  | rdErr => exact hI.setInner _
  | eof => exact hI.setInner _
  | over => exact hI.setInner _
  | mid bs s' pt c hrd hlt hn _ hc =>
    have hp : 0 < v.dataRemaining := Nat.lt_of_le_of_lt (Nat.zero_le _) hlt
    obtain ⟨hmsg, hmac⟩ := hI.notfin (hI.notfin_of_pos hp)
    refine ⟨?_, hc.good, hc.pos, fun _ => ⟨by show v.hmacMsg ++ bs = v.ghostCt ++ bs; rw [hmsg], hmac⟩, fun h => ?_,
      fun h => ?_, fun c s h => ?_⟩
    · show (v.ghostCt ++ bs).length + (v.dataRemaining - bs.length) = L
      rw [List.length_append, Nat.add_assoc, Nat.add_sub_cancel' (Nat.le_of_lt hlt)]; exact hlen
    · exact absurd (hI.fin h) (Nat.ne_of_gt hp)
    · exact absurd (Nat.le_of_sub_eq_zero h) (Nat.not_le.mpr hlt)
    · rw [show v.ghostMac = some (c, s) from h] at hmac; cases hmac
  | last bs s' pt c hrd hp hlen' hn hc hfc =>
    obtain ⟨hmsg, hmac⟩ := hI.notfin (hI.notfin_of_pos (hlen' ▸ hp))
    exact hfc.inv (by show (v.ghostCt ++ bs).length = L; rw [List.length_append, hlen']; exact hlen)
      (Nat.sub_eq_zero_of_le (Nat.le_of_eq hlen'.symm)) hc.good hc.pos
      (by show v.hmacMsg ++ bs = v.ghostCt ++ bs; rw [hmsg]) hmac

theorem read_ok (P : AesPrims) (hW : P.WF) {σ} (S : Src σ) {L : Nat} (hL : L < U64) {v v' : Valid σ}
    (hI : Inv P L v) {n : Nat} {out : Bytes} (h : Valid.read P S v n = (.ok out, v')) :
    out.length ≤ n ∧ v'.dataRemaining + out.length = v.dataRemaining ∧
      (0 < n → 0 < v.dataRemaining → 0 < out.length) ∧ (v'.dataRemaining = 0 → v'.finalized = true) := by
  have hc := read_cases P hW S hL v hI n
  rw [h] at hc
  cases hc with
  | done h0 hf => exact ⟨Nat.zero_le _, rfl, fun _ hp => by omega, fun _ => hf⟩
  | empty h0 _ hfc => cases hfc; exact ⟨Nat.zero_le _, rfl, fun _ hp => by omega, fun _ => rfl⟩
  | mid bs s' _ c _ hlt hn hpos hc =>
    rw [hc.len]
    exact ⟨hn, Nat.sub_add_cancel (Nat.le_of_lt hlt), fun h _ => hpos h,
      fun h => by have : v.dataRemaining - bs.length = 0 := h; omega⟩
  | last bs s' pt c _ hp hlen hn hc hfc =>
    cases hfc
    rw [hc.len]
    exact ⟨hn, by show v.dataRemaining - bs.length + bs.length = _; omega, fun _ _ => hp, fun _ => rfl⟩

end ZipVerif.Model.Aes
