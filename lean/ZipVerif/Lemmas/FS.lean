import ZipVerif.Spec.FS
import ZipVerif.Lemmas.Paths
/-
Lemmas about the abstract filesystem (Spec/FS.lean):
  * `lookup`/`set`;
  * kernel path resolution is *lexical* on resolved paths (`walkR_lex`, `locateR_lex`): whatever the
    directory structure, a successful walk ends at the lexical normalisation of its components;
  * `Lex root` / `SafeR`: a name the depth walk of `enclosed_name` accepts, joined onto `root`, normalises
    (with all its ancestors) to a path inside `root` or an ancestor of it (`lexAll_joined`);
  * the confinement relation `Steps root` and the fact that every primitive operation, called on a
    path whose lexical normalisation stays inside `root` (or is an ancestor of it), makes only
    `Steps root`.
-/

namespace ZipVerif.Spec.FS
open ZipVerif ZipVerif.Spec.Paths ZipVerif.Model.Paths

/-! ### lookup / set -/

theorem lookup_set (fs : FS) (p : Path) (n : Node) (q : Path) :
    (fs.set p n).lookup q = if q = p then some n else fs.lookup q := by
  unfold FS.lookup FS.set
  rw [List.lookup_cons]
  by_cases h : q = p
  · subst h; simp
  · have : (q == p) = false := by simpa using h
    simp [this, h]

theorem lookup_set_self (fs : FS) (p : Path) (n : Node) : (fs.set p n).lookup p = some n := by
  rw [lookup_set]; simp

theorem lookup_set_ne (fs : FS) {p q : Path} (n : Node) (h : q ≠ p) :
    (fs.set p n).lookup q = fs.lookup q := by
  rw [lookup_set]; simp [h]

theorem lookup_set_append (fs : FS) (root r r2 : Path) (n : Node) :
    (fs.set (root ++ r) n).lookup (root ++ r2) = if r2 = r then some n else fs.lookup (root ++ r2) := by
  rw [lookup_set]; simp only [List.append_cancel_left_eq]

/-! ### resolution is lexical -/

theorem step_normal_inv {c : Cfg} {fs : FS} {cur p : Path} {s : Name}
    (h : step c fs cur (.normal s) = .ok p) :
    canSearch c fs cur = true ∧ p = cur ++ [s] ∧ ∃ m, fs.lookup (cur ++ [s]) = some (.dir m) := by
  simp only [step] at h
  split at h
  · next hs =>
    split at h
    · cases h
    · cases h
    · next m hm => simp only [Except.ok.injEq] at h; exact ⟨hs, h.symm, m, hm⟩
  · cases h

theorem step_parent_inv {c : Cfg} {fs : FS} {cur p : Path} (h : step c fs cur .parentDir = .ok p) :
    canSearch c fs cur = true ∧ p = cur.dropLast := by
  simp only [step] at h
  split at h
  · next hs => simp only [Except.ok.injEq] at h; exact ⟨hs, h.symm⟩
  · cases h

theorem step_cur_inv {c : Cfg} {fs : FS} {cur p : Path} (h : step c fs cur .curDir = .ok p) :
    canSearch c fs cur = true ∧ p = cur := by
  simp only [step] at h
  split at h
  · next hs => simp only [Except.ok.injEq] at h; exact ⟨hs, h.symm⟩
  · cases h

theorem step_lex {c : Cfg} {fs : FS} {cur p : Path} {x : Comp} (h : step c fs cur x = .ok p) :
    p = resolveStep cur x := by
  cases x with
  | rootDir => simp only [step, Except.ok.injEq] at h; exact h.symm
  | curDir => exact (step_cur_inv h).2
  | parentDir => exact (step_parent_inv h).2
  | normal s => exact (step_normal_inv h).2.1

theorem resolveFrom_reverse_cons (st : Path) (x : Comp) (up : List Comp) :
    resolveFrom st (x :: up).reverse = resolveStep (resolveFrom st up.reverse) x := by
  simp [resolveFrom, List.foldl_append]

theorem resolve_reverse_cons (x : Comp) (up : List Comp) :
    resolve (x :: up).reverse = resolveStep (resolve up.reverse) x :=
  resolveFrom_reverse_cons [] x up

theorem walkR_lex {c : Cfg} {fs : FS} {rp : List Comp} {p : Path} (h : walkR c fs rp = .ok p) :
    p = resolve rp.reverse := by
  induction rp generalizing p with
  | nil => simp only [walkR, Except.ok.injEq] at h; simp [resolve, resolveFrom, ← h]
  | cons x up ih =>
    simp only [walkR] at h
    split at h
    · cases h
    · next cur hc =>
      rw [resolve_reverse_cons, ← ih hc]
      exact step_lex h

theorem locateR_lex {c : Cfg} {fs : FS} {rp : List Comp} {t : Target} (h : locateR c fs rp = .ok t) :
    t.path = resolve rp.reverse := by
  unfold locateR at h
  split at h
  · cases h; rfl
  · split at h
    · cases h
    · next d hd =>
      split at h <;> cases h
      rw [resolve_reverse_cons, ← walkR_lex hd]; rfl
  · split at h
    · cases h
    · next d hd => cases h; exact walkR_lex hd

/-! ### where a path may lead -/

/-- The lexical normalisation of the (reversed) path is inside `root` or an ancestor of it. -/
def Lex (root : Path) (rp : List Comp) : Prop :=
  root <+: resolve rp.reverse ∨ resolve rp.reverse <+: root

/-- `Lex` of the path and of every ancestor path (`Path::parent` = tail of the reversed list). -/
def LexAll (root : Path) : List Comp → Prop
  | [] => True
  | x :: up => Lex root (x :: up) ∧ LexAll root up

theorem resolve_dotted (rp : List Comp) (dot : Bool) :
    resolve (dotted rp dot).reverse = resolve rp.reverse := by
  cases dot
  · simp [dotted]
  · simp only [dotted, if_true]; rw [resolve_reverse_cons]; simp [resolveStep]

theorem Lex_dotted {root : Path} {rp : List Comp} (dot : Bool) (h : Lex root rp) :
    Lex root (dotted rp dot) := by
  unfold Lex at *; rw [resolve_dotted]; exact h

def rootRev (root : Path) : List Comp := root.reverse.map Comp.normal

theorem resolve_rootRev (root : Path) : resolve (rootRev root).reverse = root := by
  rw [rootRev, ← List.map_reverse, List.reverse_reverse]
  simpa [resolve] using resolveFrom_normals [] root

theorem lexAll_rootRev_aux (root : Path) (l : List Name) (h : l.reverse <+: root) :
    LexAll root (l.map Comp.normal) := by
  induction l with
  | nil => trivial
  | cons a l ih =>
    refine ⟨Or.inr ?_, ih ?_⟩
    · have := resolve_rootRev (a :: l).reverse
      rw [rootRev, List.reverse_reverse] at this
      rw [show Comp.normal a :: List.map Comp.normal l = List.map Comp.normal (a :: l) from rfl, this]
      exact h
    · rw [List.reverse_cons] at h
      exact List.IsPrefix.trans (List.prefix_append _ _) h

theorem lexAll_rootRev (root : Path) : LexAll root (rootRev root) :=
  lexAll_rootRev_aux root root.reverse (by simp)

/-- The depth walk of `enclosed_name` accepts the component list (given in reverse, last component first). -/
def SafeR (rr : List Comp) : Prop := (walk rr.reverse 0).isSome

theorem SafeR.tail {x : Comp} {up : List Comp} (h : SafeR (x :: up)) : SafeR up := by
  have := walk_take_isSome _ 0 up.reverse.length h
  rwa [List.reverse_cons, List.take_left' rfl] at this

theorem SafeR.suffix {t rr : List Comp} (h : t <:+ rr) (hs : SafeR rr) : SafeR t := by
  induction rr with
  | nil => exact List.suffix_nil.mp h ▸ hs
  | cons x up ih =>
    rcases List.suffix_cons_iff.mp h with rfl | h
    · exact hs
    · exact ih h hs.tail

theorem resolve_joined (root : Path) (rr : List Comp) :
    resolve (rr ++ rootRev root).reverse = resolveFrom root rr.reverse := by
  rw [List.reverse_append, resolve, resolveFrom_append, ← resolve, resolve_rootRev]

/-- Lexical normalisation commutes with the base as long as the checked walk succeeds. -/
theorem resolveFrom_root_safe (root : Path) {rr : List Comp} (h : SafeR rr) :
    resolveFrom root rr.reverse = root ++ resolve rr.reverse := by
  obtain ⟨d', hd'⟩ := Option.isSome_iff_exists.mp h
  simpa [resolve] using (resolveFrom_of_walk root rr.reverse [] 0 d' rfl hd').1

theorem resolve_joined_safe (root : Path) (rr : List Comp) (h : SafeR rr) :
    resolve (rr ++ rootRev root).reverse = root ++ resolve rr.reverse := by
  rw [resolve_joined, resolveFrom_root_safe root h]

theorem inside_joined (root : Path) (rr : List Comp) (h : SafeR rr) :
    root <+: resolve (rr ++ rootRev root).reverse := by
  rw [resolve_joined_safe root rr h]; exact List.prefix_append _ _

/-- A name accepted by the depth walk, joined onto `root`: the path and all its ancestors normalise
to something inside `root` or to an ancestor of `root`. -/
theorem lexAll_joined (root : Path) (rr : List Comp) (h : SafeR rr) :
    LexAll root (rr ++ rootRev root) := by
  induction rr with
  | nil => exact lexAll_rootRev root
  | cons x up ih => exact ⟨Or.inl (inside_joined root (x :: up) h), ih h.tail⟩

/-! ### confinement -/

/-- A single binding that confinement allows: anything inside `root`; outside only the creation of a
missing directory that is an ancestor of `root` (what `create_dir_all` does when the target directory
itself does not exist yet). -/
inductive Touch (root : Path) (fs : FS) : Path → Node → Prop
  | inside {p : Path} {n : Node} : root <+: p → Touch root fs p n
  | ancestor {p : Path} {m : Nat} : p <+: root → fs.lookup p = none → Touch root fs p (.dir m)

/-- `fs'` arises from `fs` by a sequence of allowed bindings. -/
inductive Steps (root : Path) : FS → FS → Prop
  | refl (fs : FS) : Steps root fs fs
  | set {fs fs1 : FS} {p : Path} {n : Node} : Steps root fs fs1 → Touch root fs1 p n → Steps root fs (fs1.set p n)

theorem Steps.trans {root : Path} {a b d : FS} (h1 : Steps root a b) (h2 : Steps root b d) : Steps root a d := by
  induction h2 with
  | refl => exact h1
  | set _ ht ih => exact Steps.set ih ht

theorem Steps.one {root : Path} {fs : FS} {p : Path} {n : Node} (h : Touch root fs p n) :
    Steps root fs (fs.set p n) := Steps.set (Steps.refl fs) h

/-- The new part of the write log: the sequence of operation targets, all allowed. -/
theorem Steps.log {root : Path} {fs fs' : FS} (h : Steps root fs fs') :
    ∃ new : List (Path × Node), fs'.nodes = new ++ fs.nodes ∧
      ∀ e ∈ new, root <+: e.1 ∨ (e.1 <+: root ∧ ∃ m, e.2 = .dir m) := by
  induction h with
  | refl => exact ⟨[], rfl, by simp⟩
  | @set fs1 p n _ ht ih =>
    obtain ⟨new, h1, h2⟩ := ih
    refine ⟨(p, n) :: new, by simp [FS.set, h1], ?_⟩
    intro e he
    rcases List.mem_cons.mp he with rfl | he
    · cases ht with
      | inside hp => exact Or.inl hp
      | ancestor hp _ => exact Or.inr ⟨hp, _, rfl⟩
    · exact h2 e he

/-- What `Steps` means for an observer: outside `root` nothing changes, except that missing ancestors
of `root` may have been created as directories. -/
theorem Steps.frame {root : Path} {fs fs' : FS} (h : Steps root fs fs') (p : Path) (hp : ¬ root <+: p) :
    fs'.lookup p = fs.lookup p ∨
      (p <+: root ∧ fs.lookup p = none ∧ ∃ m, fs'.lookup p = some (.dir m)) := by
  induction h with
  | refl => exact Or.inl rfl
  | @set fs1 q n _ ht ih =>
    by_cases hq : p = q
    · subst hq
      cases ht with
      | inside hin => exact absurd hin hp
      | @ancestor m hpre hnone =>
        rcases ih with ih | ⟨_, _, m', hm'⟩
        · exact Or.inr ⟨hpre, by rw [← ih]; exact hnone, m, lookup_set_self _ _ _⟩
        · rw [hnone] at hm'; cases hm'
    · rw [lookup_set_ne _ _ hq]; exact ih

theorem mkdir_steps {c : Cfg} {fs fs' : FS} {rp : List Comp} {root : Path} (hl : Lex root rp)
    (h : mkdir c fs rp = .ok fs') : Steps root fs fs' := by
  unfold mkdir at h
  split at h
  · cases h
  · cases h
  · next d s hloc =>
    have hpath := locateR_lex hloc
    simp only [Target.path] at hpath
    split at h
    · cases h
    · next hnone =>
      split at h
      · simp only [Except.ok.injEq] at h; subst h
        apply Steps.one
        rw [hpath] at hnone ⊢
        rcases hl with hl | hl
        · exact Touch.inside hl
        · exact Touch.ancestor hl hnone
      · cases h

theorem createDirAll_steps {c : Cfg} {root : Path} (rp : List Comp) (dot : Bool) (fs : FS)
    (hl : LexAll root rp) : Steps root fs (createDirAll c rp dot fs).1 := by
  induction rp generalizing dot fs with
  | nil => simp only [createDirAll]; exact Steps.refl fs
  | cons x up ih =>
    have hlx : Lex root (dotted (x :: up) dot) := Lex_dotted dot hl.1
    simp only [createDirAll]
    split
    · next fs' hm => exact mkdir_steps hlx hm
    · next hm =>
      have h1 := ih false fs hl.2
      split
      · next fs1 e he => rw [he] at h1; exact h1
      · next fs1 he =>
        rw [he] at h1
        split
        · next fs2 hm2 => exact h1.trans (mkdir_steps hlx hm2)
        · split <;> exact h1
    · split <;> exact Steps.refl fs

theorem createFile_steps {c : Cfg} {fs fs' : FS} {rp : List Comp} {slash : Bool} {root p : Path}
    (hl : root <+: resolve rp.reverse) (h : createFile c fs rp slash = .ok (fs', p)) :
    Steps root fs fs' ∧ root <+: p := by
  unfold createFile at h
  split at h
  · cases h
  · cases h
  · next d s hloc =>
    rw [← locateR_lex hloc] at hl
    have ok : ∀ n, Steps root fs (fs.set (d ++ [s]) n) ∧ root <+: d ++ [s] :=
      fun n => ⟨.one (.inside hl), hl⟩
    split at h
    · cases h
    · split at h
      · cases h
      · split at h <;> cases h
        exact ok _
    · split at h
      · cases h
      · split at h <;> cases h
        exact ok _

theorem writeAt_steps {root p : Path} (fs : FS) (data : Bytes) (hp : root <+: p) :
    Steps root fs (writeAt fs p data) := by
  unfold writeAt
  split
  · exact Steps.one (Touch.inside hp)
  · exact Steps.refl fs

/-- `chmod` depends on the filesystem only through the target `t` that `locateR` found and the node at `t.path`. -/
theorem setPermissions_of_locateR {c : Cfg} {fs : FS} {rp : List Comp} {t : Target}
    (h : locateR c fs rp = .ok t) (slash : Bool) (mode : Nat) :
    setPermissions c fs rp slash mode = match (generalizing := false) fs.lookup t.path, t with
      | some (.dir _), _ => .ok (fs.set t.path (.dir (mode &&& 0o7777)))
      | some (.file b _), .entry _ _ =>
        if slash then .error .notADirectory else .ok (fs.set t.path (.file b (mode &&& 0o7777)))
      | _, _ => .error .notFound := by
  cases t <;> simp only [setPermissions, h, Target.path] <;> generalize fs.lookup _ = o <;>
    rcases o with _ | _ | _ <;> rfl

theorem setPermissions_steps {c : Cfg} {fs fs' : FS} {rp : List Comp} {slash : Bool} {mode : Nat}
    {root : Path} (hl : root <+: resolve rp.reverse) (h : setPermissions c fs rp slash mode = .ok fs') :
    Steps root fs fs' := by
  cases hloc : locateR c fs rp with
  | error e => simp [setPermissions, hloc] at h
  | ok t =>
    have hin : ∀ n, Steps root fs (fs.set t.path n) := fun n => .one (.inside (locateR_lex hloc ▸ hl))
    rw [setPermissions_of_locateR hloc] at h
    split at h
    · cases h; exact hin _
    · split at h <;> cases h
      exact hin _
    · cases h

end ZipVerif.Spec.FS
