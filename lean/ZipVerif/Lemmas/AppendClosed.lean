import ZipVerif.Lemmas.AppendOpen
import ZipVerif.Lemmas.Zip64
import ZipVerif.Lemmas.Dos
import ZipVerif.Lemmas.Text
/-
The bridge between `new_append`'s re-hydrated records and the writer invariant (C13, C14):
the record `appendRecord (viewEntry e off pre chs)` that `new_append` holds for the entry `e` of an existing archive
is `WL.Closed` for the NORMALISED spec entry `appendNorm e off pre`, which records exactly what
`write_central_directory_header` will emit for it when the appending writer finishes.  The normalised entries are
`Readable` again (`mem_appendNormAll`, `appendNormAll_readable`), even for a base that is only `ReadableZ`: since the
D20 repair inherited ZIP64 records are dropped.
-/

namespace ZipVerif.WL
open ZipVerif ZipVerif.Model ZipVerif.Spec.Zip ZipVerif.Model.DateTime

/-! ### The central record the writer emits for an arbitrary `FileData` -/

theorem min32_slot (x : UInt64) :
    min32 x = if decide (x ≥ 0xFFFFFFFF) then (0xFFFFFFFF : UInt32) else lo32 x := by
  rw [min32_eq]; simp only [decide_eq_true_eq]

theorem centralZip64_eq (f : FileData) (dp : UInt16) (gap lx data : Bytes) (lv : UInt16) (lz : Bool)
    (ds : Desc) (fl : UInt16) (off : Nat)
    (hcs : f.compressedSize = UInt64.ofNat data.length)
    (hoff : f.headerStart = UInt64.ofNat off) :
    ({ specEntry f dp gap lx data lv with localZip64 := lz, desc := ds, flags := fl } : Entry).centralZ64
        (UInt64.ofNat off) = centralZip64Bytes f := by
  unfold Entry.centralZ64 centralZip64Bytes Entry.zU Entry.zC Entry.zO Entry.csize specEntry
  simp only [Bool.false_or, ← hcs, ← hoff, decide_eq_true_eq]
  rfl

/-- the chunks `write_central_directory_header` hands to the sink -/
def centralChunksOf (f : FileData) (dp : UInt16) : List Bytes :=
  [le32 CENTRAL_SIG, le16 ((f.system.discr <<< 8) ||| f.versionMadeBy.toUInt16), le16 f.versionNeeded,
   le16 (centralFlagOf f), le16 f.method.toU16,
   le16 f.time.timepart, le16 dp, le32 f.crc32, le32 (min32 f.compressedSize),
   le32 (min32 f.uncompressedSize), le16 (UInt16.ofNat f.fileName.length),
   le16 (UInt16.ofNat ((centralZip64Bytes f).length + f.extraField.length)), le16 0, le16 0, le16 0,
   le32 f.externalAttributes, le32 (min32 f.headerStart), f.fileName, centralZip64Bytes f, f.extraField]

theorem centralHeaderChunks_ok (f : FileData) (dp : UInt16) (hdp : f.time.datepart = some dp)
    (hlen : (centralZip64Bytes f).length + f.extraField.length ≤ 65535) :
    centralHeaderChunks f = .ok (centralChunksOf f dp) := by
  unfold centralHeaderChunks
  simp only [datepartOut, hdp]
  rw [if_neg (by omega)]
  rfl

/-- The central record the writer emits for ANY record `f` is the spec's central record of the entry
`specEntry f …` with the local-only fields (`localZip64`, `desc`) free and the flag word chosen such that
the spec's `flagsOut` (= `flags`, plus bit 3 when there is a descriptor) is the writer's central flag
word `centralFlagOf f` (= `flagOf f`, plus bit 3 for a re-hydrated descriptor entry). -/
theorem closed_specEntry_gen (f : FileData) (dp : UInt16) (gap lx data : Bytes) (lv : UInt16) (lz : Bool)
    (ds : Desc) (fl : UInt16) (off : Nat) (hdp : f.time.datepart = some dp)
    (hlen : (centralZip64Bytes f).length + f.extraField.length ≤ 65535)
    (hcs : f.compressedSize = UInt64.ofNat data.length)
    (hoff : f.headerStart = UInt64.ofNat off)
    (hfl : (if ds != .none then fl ||| 8 else fl) = centralFlagOf f) :
    Closed { specEntry f dp gap lx data lv with localZip64 := lz, desc := ds, flags := fl } off f := by
  have hz := centralZip64_eq f dp gap lx data lv lz ds fl off hcs hoff
  have hfo : ({ specEntry f dp gap lx data lv with localZip64 := lz, desc := ds, flags := fl } : Entry).flagsOut
      = centralFlagOf f := hfl
  refine ⟨_, centralHeaderChunks_ok f dp hdp hlen, ?_⟩
  rw [centralRecord_eq]
  unfold Entry.centralExtraAll
  rw [hz, hfo]
  simp only [specEntry, Entry.zU, Entry.zC, Entry.zO, Entry.csize,
    Bool.false_or, ← hcs, ← hoff]
  simp [ser, centralChunksOf, CENTRAL_SIG, sigCentral, min32_slot]

theorem centralFlagOf_plain (f : FileData) (h : f.usingDataDescriptor = false) :
    centralFlagOf f = flagOf f := by
  unfold centralFlagOf; rw [h]
  show flagOf f ||| 0 = flagOf f
  exact UInt16.or_zero

/-- `closed_specEntry_gen` for a record the writer created itself (`using_data_descriptor = false`). -/
theorem closed_specEntry (f : FileData) (dp : UInt16) (gap lx data : Bytes) (lv : UInt16) (lz : Bool)
    (off : Nat) (hdp : f.time.datepart = some dp)
    (hlen : (centralZip64Bytes f).length + f.extraField.length ≤ 65535)
    (hcs : f.compressedSize = UInt64.ofNat data.length)
    (hoff : f.headerStart = UInt64.ofNat off) (hdd : f.usingDataDescriptor = false) :
    Closed { specEntry f dp gap lx data lv with localZip64 := lz } off f :=
  closed_specEntry_gen f dp gap lx data lv lz .none (flagOf f) off hdp hlen hcs hoff
    (by rw [centralFlagOf_plain f hdd]; rfl)

/-! ### Field round trips through the reader's decoders -/

/-- `CompressionMethod::from_u16` then `to_u16` is the identity on all 65536 values. -/
theorem method_roundtrip (m : UInt16) : (Method.fromU16 m).toU16 = m := by
  have step : ∀ {c : UInt16} {x y : Method}, x.toU16 = c → y.toU16 = m → (if m == c then x else y).toU16 = m := by
    intro c x y hx hy
    by_cases h : (m == c) = true
    · rw [if_pos h, hx]; exact (eq_of_beq h).symm
    · rw [if_neg h]; exact hy
  exact step rfl (step rfl (step rfl (step rfl (step rfl rfl))))

/-! ### The normalised entry -/

/-- What `new_append` + `finish` make of the central record of entry `e` (local header `off` bytes after
the end of a prefix of `pre` bytes).  `v` is the record the re-hydration holds. -/
def appendNorm (e : Entry) (off pre : Nat) : Entry :=
  let v := viewEntry e off pre 0
  { -- host byte re-derived from the three-valued `System` (hosts other than 0/3 become 4), low byte kept
    madeBy := (v.system.discr <<< 8) ||| v.versionMadeBy.toUInt16
    -- recomputed from sizes / offset / method, the old value is not kept
    versionNeeded := v.versionNeeded
    -- bit 11 recomputed from the DECODED name, bits 0 and 3 kept, every other bit dropped
    flags := centralFlagOf v
    method := e.method
    time := e.time
    date := e.date
    crc := e.crc
    usize := e.usize
    -- the decoded name (CP437 names are transcoded to UTF-8, ill-formed UTF-8 is replaced)
    name := Text.decodeToUtf8 (e.flagsOut &&& 0x0800 != 0) e.name
    -- the old extra field WITHOUT its ZIP64 records (`strip_zip64_extra_field`, D20): for a `Readable`
    -- entry exactly the foreign records `e.centralExtra`; the new ZIP64 record is put in front of it
    centralExtra := e.keptExtra (UInt64.ofNat off)
    comment := []
    internalAttrs := 0
    externalAttrs := e.externalAttrs
    z64 := (false, false, false)
    -- the local record (descriptor included) is not touched by the rewrite
    localExtra := e.localExtra
    localZip64 := e.localZip64
    desc := e.desc
    gapBefore := e.gapBefore
    data := e.data
    localVersion := some (e.localVersion.getD e.versionNeeded) }

theorem or_and_right (x y : UInt16) : (x ||| y) &&& y = y := by
  apply UInt16.eq_of_toBitVec_eq
  ext i hi
  rw [UInt16.toBitVec_and, UInt16.toBitVec_or, BitVec.getElem_and, BitVec.getElem_or]
  cases x.toBitVec[i] <;> cases y.toBitVec[i] <;> rfl

theorem or8_and8 (x : UInt16) : ((x ||| 8) &&& 8 != 0) = true := by
  rw [or_and_right]; decide

theorem or8_idem (x : UInt16) : (x ||| 8) ||| 8 = x ||| 8 := by rw [UInt16.or_assoc, UInt16.or_self]

/-- a descriptor entry's central flags carry bit 3, so its re-hydrated record has `using_data_descriptor` -/
theorem view_usingDD_of_desc (e : Entry) (off pre chs : Nat) (h : e.hasDesc = true) :
    (viewEntry e off pre chs).usingDataDescriptor = true := by
  show (e.flagsOut &&& 0x0008 != 0) = true
  unfold Entry.flagsOut; rw [if_pos h]; exact or8_and8 _

theorem appendNorm_flagsOut (e : Entry) (off pre chs : Nat) :
    (appendNorm e off pre).flagsOut = centralFlagOf (viewEntry e off pre chs) := by
  show (if e.hasDesc then centralFlagOf (viewEntry e off pre 0) ||| 8 else centralFlagOf (viewEntry e off pre 0))
    = centralFlagOf (viewEntry e off pre chs)
  cases h : e.hasDesc
  · rfl
  · rw [if_pos rfl]
    unfold centralFlagOf
    rw [view_usingDD_of_desc e off pre 0 h, view_usingDD_of_desc e off pre chs h]
    exact or8_idem _

theorem appendNorm_eq_specEntry (e : Entry) (off pre chs : Nat) :
    appendNorm e off pre =
      { specEntry (appendRecord (viewEntry e off pre chs)) e.date e.gapBefore e.localExtra e.data
          (e.localVersion.getD e.versionNeeded) with
        localZip64 := e.localZip64, desc := e.desc, flags := centralFlagOf (viewEntry e off pre chs) } := by
  unfold appendNorm specEntry appendRecord
  simp only [viewEntry, method_roundtrip, (fromMsdos_parts e.date e.time).2]
  rfl

/-- The only way the rewritten record can fail to serialise: the new ZIP64 record plus the kept part of
the old extra field exceed the 16-bit length field.  (Since D20 the old ZIP64 records are dropped first:
for an entry that `Fits` and is `Readable` this always holds, `appendFits_of_fits_readable`.) -/
def AppendFits (e : Entry) (off pre : Nat) : Prop :=
  (centralZip64Bytes (viewEntry e off pre 0)).length + (e.keptExtra (UInt64.ofNat off)).length ≤ 65535

instance (e : Entry) (off pre : Nat) : Decidable (AppendFits e off pre) := by
  unfold AppendFits; infer_instance

theorem appendFits_of_small (e : Entry) (off pre : Nat) (h : e.centralExtra.length + 56 ≤ 0xFFFF) :
    AppendFits e off pre := by
  unfold AppendFits
  have h1 := centralZip64Bytes_length (viewEntry e off pre 0)
  have h2 := centralZ64_length_le e (UInt64.ofNat off)
  have h3 := keptExtra_length_le e (UInt64.ofNat off)
  simp only [Entry.centralExtraAll, List.length_append] at h3
  -- 56 = 28 + 28: the regenerated ZIP64 record (`h1`), and the old one inside the bound on what is kept (`h2`, `h3`)
  omega

/-- **Since D20 a `Readable` entry that `Fits` always re-serialises**: what is kept is `e.centralExtra`,
and `Fits` leaves room for one ZIP64 record. -/
theorem appendFits_of_fits_readable (e : Entry) (off pre : Nat) (hf : e.Fits) (hr : e.Readable) :
    AppendFits e off pre := by
  unfold AppendFits
  rw [keptExtra_of_extraOk e _ hr.1]
  have h1 := centralZip64Bytes_length (viewEntry e off pre 0)
  have := hf.2.2.2.1
  omega

/-- `appendRecord` only touches the extra field -/
theorem centralZip64Bytes_appendRecord (f : FileData) :
    centralZip64Bytes (appendRecord f) = centralZip64Bytes f := rfl

theorem centralZip64Bytes_congr {f g : FileData} (hu : f.uncompressedSize = g.uncompressedSize)
    (hc : f.compressedSize = g.compressedSize) (ho : f.headerStart = g.headerStart) :
    centralZip64Bytes f = centralZip64Bytes g := by
  unfold centralZip64Bytes; rw [hu, hc, ho]

theorem view_closed (e : Entry) (off pre chs : Nat) (hfit : AppendFits e off pre) :
    Closed (appendNorm e off pre) (off + pre) (appendRecord (viewEntry e off pre chs)) := by
  have hfo := appendNorm_flagsOut e off pre chs
  rw [appendNorm_eq_specEntry e off pre chs] at hfo ⊢
  -- `hfit` in the terms of the record, stated so that the unifier need not unfold `centralZip64Bytes` / `stripZip64`
  have hz : centralZip64Bytes (appendRecord (viewEntry e off pre chs)) = centralZip64Bytes (viewEntry e off pre 0) :=
    centralZip64Bytes_congr rfl rfl rfl
  have hA : (viewEntry e off pre chs).extraField = e.centralExtraAll (UInt64.ofNat off) := rfl
  have hx : (appendRecord (viewEntry e off pre chs)).extraField = e.keptExtra (UInt64.ofNat off) := by
    unfold appendRecord Entry.keptExtra
    rw [← hA]
  have hfit' : (centralZip64Bytes (appendRecord (viewEntry e off pre chs))).length +
      (appendRecord (viewEntry e off pre chs)).extraField.length ≤ 65535 := by rw [hz, hx]; exact hfit
  have hcs : (appendRecord (viewEntry e off pre chs)).compressedSize = UInt64.ofNat e.data.length := rfl
  have hoff : (appendRecord (viewEntry e off pre chs)).headerStart = UInt64.ofNat (off + pre) := rfl
  exact closed_specEntry_gen (appendRecord (viewEntry e off pre chs)) e.date e.gapBefore e.localExtra e.data
    (e.localVersion.getD e.versionNeeded) e.localZip64 e.desc (centralFlagOf (viewEntry e off pre chs)) (off + pre)
    (fromMsdos_parts e.date e.time).1 hfit' hcs hoff hfo

/-! ### When the local record survives: `AppendClean` -/

/-- The rewritten central record still describes the UNCHANGED local record (in the sense of
`Spec.Zip.Entry`, which shares name, flags, method, time and CRC between the two records) iff
* the name is a fixed point of the reader's decoding (ASCII, or flagged UTF-8 and well formed);
* the flag word is exactly what the writer recomputes: bit 11 iff the name is not ASCII, bit 0
  (encrypted) and bit 3 (data descriptor) kept, nothing else.
A data-descriptor entry can be `AppendClean`: its central record keeps bit 3. -/
def AppendClean (e : Entry) : Prop :=
  Text.decodeToUtf8 (e.flagsOut &&& 0x0800 != 0) e.name = e.name ∧
  e.flagsOut = (((if !isAscii e.name then (0x0800 : UInt16) else 0) |||
    (if e.flagsOut &&& 1 == 1 then 1 else 0)) ||| (if e.flagsOut &&& 0x0008 != 0 then 8 else 0))

instance (e : Entry) : Decidable (AppendClean e) := by unfold AppendClean; infer_instance

theorem appendNorm_localBytes (e : Entry) (off pre : Nat) (h : AppendClean e) :
    (appendNorm e off pre).localBytes = e.localBytes := by
  obtain ⟨hn, hf⟩ := h
  have hname : (appendNorm e off pre).name = e.name := hn
  have hflags : (appendNorm e off pre).flagsOut = e.flagsOut := by
    rw [appendNorm_flagsOut e off pre 0]
    show ((if !isAscii (Text.decodeToUtf8 (e.flagsOut &&& 0x0800 != 0) e.name) then (0x0800 : UInt16) else 0) |||
      (if (e.flagsOut &&& 1 == 1) then 1 else 0)) ||| (if (e.flagsOut &&& 0x0008 != 0) then 8 else 0) = e.flagsOut
    rw [hn]
    exact hf.symm
  have hhd : (appendNorm e off pre).hasDesc = e.hasDesc := rfl
  unfold Entry.localBytes localRecord descriptor Entry.csize
  rw [hname, hflags, hhd]
  rfl

/-- In particular the offsets of the following entries line up. -/
theorem appendNorm_localBytes_length (e : Entry) (off pre : Nat) (h : AppendClean e) :
    (appendNorm e off pre).localBytes.length = e.localBytes.length := by
  rw [appendNorm_localBytes e off pre h]

/-- Sufficient condition for the name clause. -/
theorem decode_stable (utf8 : Bool) (name : Bytes)
    (h : isAscii name = true ∨ (utf8 = true ∧ (Spec.utf8Strict name).isSome = true)) :
    Text.decodeToUtf8 utf8 name = name := by
  have key : ∀ s, Spec.utf8Strict name = some s → Text.decodeToUtf8 utf8 name = name := by
    intro s hs
    unfold Text.decodeToUtf8 decodeName
    cases utf8 with
    | true =>
      show Spec.utf8Encode (Spec.utf8Lossy name) = name
      rw [Spec.lossy_of_chunks (Spec.allSome_eq_some hs)]
      exact Spec.encode_of_chunks name s hs
    | false =>
      have ha : allAscii name = true := by
        rcases h with h | h
        · exact h
        · cases h.1
      have hc : fromCp437 name = .ok s := by
        unfold fromCp437; rw [if_pos ha, hs]
      show (match fromCp437 name with | .ok cs => Spec.utf8Encode cs | _ => name) = name
      rw [hc]
      exact Spec.encode_of_chunks name s hs
  rcases h with h | h
  · exact key _ (strict_ascii name h)
  · obtain ⟨s, hs⟩ := Option.isSome_iff_exists.mp h.2
    exact key s hs

/-! ### Entries the crate's own writer produced -/

theorem flagOf_bits (name : Bytes) (enc : Bool) :
    let fl : UInt16 := (if !isAscii name then (0x0800 : UInt16) else 0) ||| (if enc then 1 else 0)
    (fl &&& 0x0800 != 0) = !isAscii name ∧ (fl &&& 1 == 1) = enc ∧ (fl &&& 0x0008 != 0) = false := by
  cases isAscii name <;> cases enc <;> decide

/-- The name of a record the writer created is a Rust `String`: well-formed UTF-8.  Then the flag the
writer chose (bit 11 iff not ASCII) makes the reader decode the name to itself. -/
theorem writer_name_stable (name : Bytes) (enc : Bool) (hs : (Spec.utf8Strict name).isSome = true) :
    Text.decodeToUtf8 (((if !isAscii name then (0x0800 : UInt16) else 0) ||| (if enc then 1 else 0))
      &&& 0x0800 != 0) name = name := by
  rw [(flagOf_bits name enc).1]
  apply decode_stable
  cases h : isAscii name
  · right; exact ⟨rfl, hs⟩
  · left; rfl

/-- **Every entry the crate's writer produces is `AppendClean`** (its name being a `String`). -/
theorem specEntry_appendClean (f : FileData) (dp : UInt16) (gap lx data : Bytes) (lv : UInt16)
    (hs : (Spec.utf8Strict f.fileName).isSome = true) :
    AppendClean (specEntry f dp gap lx data lv) := by
  have hb := flagOf_bits f.fileName f.encrypted
  refine ⟨writer_name_stable f.fileName f.encrypted hs, ?_⟩
  show flagOf f = (((if !isAscii f.fileName then (0x0800 : UInt16) else 0) |||
    (if (flagOf f &&& 1 == 1) then 1 else 0)) ||| (if (flagOf f &&& 0x0008 != 0) then 8 else 0))
  unfold flagOf
  rw [hb.2.1, hb.2.2]
  exact UInt16.or_zero.symm

theorem hi_lo (s : UInt16) (hs : s.toNat < 256) (v : UInt8) :
    (((s <<< 8) ||| v.toUInt16) >>> 8).toUInt8 = s.toUInt8 ∧ ((s <<< 8) ||| v.toUInt16).toUInt8 = v := by
  have hv := v.toNat_lt
  have key : ((s <<< 8) ||| v.toUInt16).toNat = v.toNat + s.toNat * 2 ^ 8 := by
    rw [UInt16.toNat_or, UInt16.toNat_shiftLeft, UInt8.toNat_toUInt16, Nat.or_comm,
      Nat.mod_eq_of_lt (a := s.toNat <<< _) (by rw [Nat.shiftLeft_eq]; show s.toNat * 256 < 65536; omega)]
    exact nat_or_shl v.toNat s.toNat 8 hv
  constructor <;> apply UInt8.toNat_inj.mp
  · rw [UInt16.toNat_toUInt8, UInt16.toNat_shiftRight, key, UInt16.toNat_toUInt8, Nat.shiftRight_eq_div_pow]
    show (v.toNat + s.toNat * 256) / 256 % 256 = s.toNat % 256
    omega
  · rw [UInt16.toNat_toUInt8, key]
    omega

theorem madeBy_stable (sys : System) (v : UInt8) :
    System.fromU8 (((sys.discr <<< 8) ||| v.toUInt16) >>> 8).toUInt8 = sys ∧
    ((sys.discr <<< 8) ||| v.toUInt16).toUInt8 = v := by
  have h := hi_lo sys.discr (by cases sys <;> decide) v
  rw [h.1]
  exact ⟨by cases sys <;> rfl, h.2⟩
/-- **The writer's entries are EXACT fixed points of `appendNorm`** (since D20): re-opening an archive the
crate wrote (no prefix) and finishing again re-emits the same central record — the inherited ZIP64 record
is dropped and regenerated, so the extra field no longer grows.  (`hx`: the record's own extra data carry
no ZIP64 / AES record; the writer's `end_extra_data` refuses those.) -/
theorem appendNorm_specEntry (f : FileData) (dp : UInt16) (gap lx data : Bytes) (lv : UInt16) (off : Nat)
    (hs : (Spec.utf8Strict f.fileName).isSome = true)
    (hm : Method.fromU16 f.method.toU16 = f.method)
    (hcs : f.compressedSize = UInt64.ofNat data.length)
    (hoff : f.headerStart = UInt64.ofNat off) (hx : ExtraOk f.extraField) :
    appendNorm (specEntry f dp gap lx data lv) off 0 = specEntry f dp gap lx data lv := by
  have hk : (specEntry f dp gap lx data lv).keptExtra (UInt64.ofNat off) = f.extraField :=
    keptExtra_of_extraOk _ _ hx
  have hmb := madeBy_stable f.system f.versionMadeBy
  have hn := writer_name_stable f.fileName f.encrypted hs
  have hb := flagOf_bits f.fileName f.encrypted
  unfold appendNorm
  rw [hk]
  simp only [viewEntry, specEntry, Entry.flagsOut, Entry.hasDesc, Entry.csize, Nat.add_zero]
  have hd : (Desc.none != Desc.none) = false := by decide
  simp only [hd, Bool.false_eq_true, if_false]
  have hn' : Text.decodeToUtf8 (!isAscii f.fileName) f.fileName = f.fileName := by
    have := hn; rw [hb.1] at this; exact this
  simp only [FileData.versionNeeded, FileData.zip64Extension, centralFlagOf, flagOf, hm, ← hcs, ← hoff,
    hmb.1, hmb.2, hb.1, hb.2.1, hb.2.2, hn', Option.getD_some, Bool.false_eq_true, if_false,
    UInt16.or_zero]

/-! ### Lists: the whole re-hydrated directory -/

/-- the normalised entries, offsets advancing as `viewList` / `localOffsets` do -/
def appendNormList (pre : Nat) : List Entry → (loc : Nat) → List Entry
  | [], _ => []
  | e :: es, loc =>
    appendNorm e (loc + e.gapBefore.length) pre :: appendNormList pre es (loc + e.localBytes.length)

/-- put `g` in front of the first entry's gap -/
def extendGap (g : Bytes) : List Entry → List Entry
  | [] => []
  | e :: es => { e with gapBefore := g ++ e.gapBefore } :: es

/-- The entries of the archive the appending writer continues: the normalised entries; the new archive
has no prefix, the old prefix becomes dead bytes in front of the first local header. -/
def appendNormAll (l : Layout) : List Entry :=
  extendGap l.pre (appendNormList l.pre.length l.entries 0)

/-- The dead bytes of that archive in front of the (old) central directory; an archive without entries keeps its
prefix there. -/
def appendGap (l : Layout) : Bytes :=
  match l.entries with
  | [] => l.pre ++ l.gapBeforeCd
  | _ :: _ => l.gapBeforeCd

/-- Every entry of `appendNormList` is the normalised form of an old entry at some offset. -/
theorem mem_appendNormList {pre : Nat} {e' : Entry} : ∀ {es : List Entry} {loc : Nat},
    e' ∈ appendNormList pre es loc → ∃ x ∈ es, ∃ off, e' = appendNorm x off pre
  | [], _, h => by cases h
  | x :: xs, loc, h => by
    rcases List.mem_cons.mp h with h | h
    · exact ⟨x, List.mem_cons_self, _, h⟩
    · obtain ⟨y, hy, off, e⟩ := mem_appendNormList h
      exact ⟨y, List.mem_cons_of_mem _ hy, off, e⟩

/-- Every entry of `appendNormAll l` is the normalised form of an old entry at some offset, up to the dead bytes in
front of it (`extendGap`): a property of `appendNorm x off pre` that does not look at `gapBefore` holds of every entry
the appending writer starts from. -/
theorem mem_appendNormAll {l : Layout} {e' : Entry} (h : e' ∈ appendNormAll l) :
    ∃ x ∈ l.entries, ∃ off g, e' = { appendNorm x off l.pre.length with gapBefore := g } := by
  unfold appendNormAll at h
  cases hl : appendNormList l.pre.length l.entries 0 with
  | nil => rw [hl] at h; cases h
  | cons y ys =>
    rw [hl] at h
    rcases List.mem_cons.mp h with h | h
    · obtain ⟨x, hx, off, e⟩ := mem_appendNormList (hl ▸ List.mem_cons_self : y ∈ _)
      exact ⟨x, hx, off, _, by rw [h, e]⟩
    · obtain ⟨x, hx, off, e⟩ := mem_appendNormList (hl ▸ List.mem_cons_of_mem _ h : e' ∈ _)
      exact ⟨x, hx, off, _, by rw [e]⟩

theorem closed_gap_irrel (e : Entry) (g : Bytes) (off : Nat) (f : FileData) :
    Closed { e with gapBefore := g } off f ↔ Closed e off f := Iff.rfl

theorem closedAll_list (pre : Nat) : ∀ (es : List Entry) (loc chs : Nat),
    (∀ e ∈ es, AppendClean e ∧ e.centralExtra.length + 56 ≤ 0xFFFF) →
    ClosedAll (appendNormList pre es loc) (loc + pre) ((viewList pre es loc chs).map appendRecord) := by
  intro es
  induction es with
  | nil => intro _ _ _; exact True.intro
  | cons e es ih =>
    intro loc chs hall
    obtain ⟨hc, hx⟩ := hall e List.mem_cons_self
    show Closed (appendNorm e (loc + e.gapBefore.length) pre)
        (loc + pre + (appendNorm e (loc + e.gapBefore.length) pre).gapBefore.length) _ ∧
      ClosedAll _ (loc + pre + (appendNorm e (loc + e.gapBefore.length) pre).localBytes.length) _
    rw [appendNorm_localBytes_length _ _ _ hc]
    have e1 : loc + pre + (appendNorm e (loc + e.gapBefore.length) pre).gapBefore.length =
        loc + e.gapBefore.length + pre := by
      show loc + pre + e.gapBefore.length = _; omega
    have e2 : loc + pre + e.localBytes.length = loc + e.localBytes.length + pre := by omega
    rw [e1, e2]
    exact ⟨view_closed e _ pre chs (appendFits_of_small e _ pre hx),
      ih _ _ (fun x hx => hall x (List.mem_cons_of_mem _ hx))⟩

theorem closedAll_extendGap (g : Bytes) : ∀ (es : List Entry) (fs : List FileData),
    ClosedAll es g.length fs → ClosedAll (extendGap g es) 0 fs := by
  intro es fs h
  cases es with
  | nil => cases fs <;> exact h
  | cons e es =>
    cases fs with
    | nil => exact h
    | cons f fs =>
      obtain ⟨h1, h2⟩ := h
      refine ⟨?_, ?_⟩
      · show Closed e (0 + (g ++ e.gapBefore).length) f
        rw [List.length_append, Nat.zero_add]; exact h1
      · show ClosedAll es (0 + (g ++ e.gapBefore ++ localRecord e ++ e.data ++ descriptor e).length) fs
        have : 0 + (g ++ e.gapBefore ++ localRecord e ++ e.data ++ descriptor e).length =
            g.length + e.localBytes.length := by
          simp only [Entry.localBytes, List.length_append]; omega
        rw [this]; exact h2

theorem viewOf_closedAll (l : Layout)
    (hall : ∀ e ∈ l.entries, AppendClean e ∧ e.centralExtra.length + 56 ≤ 0xFFFF) :
    ClosedAll (appendNormAll l) 0 ((viewOf l).map appendRecord) := by
  apply closedAll_extendGap
  have := closedAll_list l.pre.length l.entries 0 l.cdStart hall
  rwa [Nat.zero_add] at this

theorem localsBytes_appendNormList (pre : Nat) : ∀ (es : List Entry) (loc : Nat),
    (∀ e ∈ es, AppendClean e) → localsBytes (appendNormList pre es loc) = localsBytes es := by
  intro es
  induction es with
  | nil => intro _ _; rfl
  | cons e es ih =>
    intro loc hall
    show localsBytes (appendNorm e _ pre :: appendNormList pre es _) = _
    rw [localsBytes_cons, localsBytes_cons, appendNorm_localBytes _ _ _ (hall e List.mem_cons_self),
      ih _ (fun x hx => hall x (List.mem_cons_of_mem _ hx))]

theorem localsBytes_extendGap (g : Bytes) (e : Entry) (es : List Entry) :
    localsBytes (extendGap g (e :: es)) = g ++ localsBytes (e :: es) := by
  show localsBytes ({ e with gapBefore := g ++ e.gapBefore } :: es) = _
  rw [localsBytes_cons, localsBytes_cons]
  simp [Entry.localBytes, localRecord, descriptor, Entry.flagsOut, Entry.hasDesc, Entry.csize]

/-- **The live part of the sink is the local part of the normalised layout.** -/
theorem appendNormAll_bytes (l : Layout) (hall : ∀ e ∈ l.entries, AppendClean e) :
    localsBytes (appendNormAll l) ++ appendGap l = l.pre ++ localsBytes l.entries ++ l.gapBeforeCd := by
  unfold appendNormAll appendGap
  cases hes : l.entries with
  | nil => simp [appendNormList, extendGap, localsBytes]
  | cons e es =>
    rw [hes] at hall
    have h1 : appendNormList l.pre.length (e :: es) 0 =
        appendNorm e (0 + e.gapBefore.length) l.pre.length ::
          appendNormList l.pre.length es (0 + e.localBytes.length) := rfl
    rw [h1, localsBytes_extendGap, ← h1, localsBytes_appendNormList _ _ _ hall]

/-! ### Is the normalised entry again an entry `reader_on_wf` (C03) covers? -/

theorem appendNorm_centralExtra (e : Entry) (off pre : Nat) :
    (appendNorm e off pre).centralExtra = e.keptExtra (UInt64.ofNat off) := by
  unfold appendNorm; rfl

theorem appendNorm_readable_iff (e : Entry) (off pre : Nat) :
    (appendNorm e off pre).Readable ↔ ExtraOk (e.keptExtra (UInt64.ofNat off)) ∧ e.method ≠ 99 := by
  unfold Entry.Readable
  rw [appendNorm_centralExtra]
  exact Iff.rfl

/-- **Since D20 the normalised entry of a `Readable` entry is `Readable` again**, ZIP64 or not. -/
theorem appendNorm_readable (e : Entry) (off pre : Nat) (hr : e.Readable) :
    (appendNorm e off pre).Readable :=
  (appendNorm_readable_iff e off pre).2 ⟨by rw [keptExtra_of_extraOk e _ hr.1]; exact hr.1, hr.2⟩

/-- The normalised entry is `Readable` also when the foreign extra data contain further ZIP64 records
(`ExtraOkZ`-style): they are dropped. -/
theorem appendNorm_readable_of_okZ (e : Entry) (off pre : Nat) (hm : e.method ≠ 99) (a : Bool)
    (hx : extraOkZAux a e.centralExtra.length e.centralExtra = true) :
    (appendNorm e off pre).Readable :=
  (appendNorm_readable_iff e off pre).2 ⟨keptExtra_extraOk e (UInt64.ofNat off) a hx, hm⟩

theorem readableZFrom_mem {es : List Entry} {loc : Nat} (h : ReadableZFrom es loc) :
    ∀ x ∈ es, x.method ≠ 99 ∧ ∃ off, ExtraOkZ x off := by
  induction es generalizing loc with
  | nil => intro x hx; cases hx
  | cons y ys ih =>
    intro x hx
    rcases List.mem_cons.mp hx with e | hx
    · rw [e]; exact ⟨h.1.1, _, h.1.2⟩
    · exact ih h.2 x hx

/-- `new_append` on a `ReadableZ` base (foreign archives whose central extra data contain redundant ZIP64 records,
Lemmas/CentralParseZ.lean): every inherited ZIP64 record is dropped (D20 repair, `strip_zip64_extra_field`), so the
entries the appending writer starts from, hence the appended archive, are plainly `Readable` again, with no condition
on the sizes. -/
theorem appendNormAll_readable (l : Layout) (hR : l.ReadableZ) : ∀ e ∈ appendNormAll l, e.Readable := by
  intro e he
  obtain ⟨x, hx, off, g, rfl⟩ := mem_appendNormAll he
  obtain ⟨hm, o, ho⟩ := readableZFrom_mem hR x hx
  exact appendNorm_readable_of_okZ x off l.pre.length hm _ ho

/-- The normalised entry of a `Readable` entry that `Fits` still `Fits` when it is `AppendClean` (the name keeps its
length). -/
theorem appendNorm_fits (e : Entry) (off pre : Nat) (hf : e.Fits) (hc : AppendClean e)
    (hr : e.Readable) : (appendNorm e off pre).Fits := by
  obtain ⟨h1, _, h3, h4, h5, h6⟩ := hf
  have hname : (appendNorm e off pre).name = e.name := hc.1
  refine ⟨by rw [hname]; exact h1, Nat.zero_le _, h3, ?_, h5, h6⟩
  rw [appendNorm_centralExtra, keptExtra_of_extraOk e _ hr.1]; exact h4

theorem extraOk_single (id : UInt16) (payload : Bytes) (h1 : id ≠ 1) (h2 : id ≠ 0x9901)
    (hl : payload.length ≤ 65535) :
    ExtraOk (le16 id ++ le16 (UInt16.ofNat payload.length) ++ payload) := by
  unfold ExtraOk
  have hlen : (le16 id ++ le16 (UInt16.ofNat payload.length) ++ payload).length = (payload.length + 2) + 1 + 1 := by
    simp; omega
  rw [hlen, List.append_assoc]
  unfold extraOkAux
  have hne : (le16 id ++ (le16 (UInt16.ofNat payload.length) ++ payload)).isEmpty = false := by simp [le16]
  rw [hne]
  simp only [Bool.false_eq_true, if_false, rd16_le16]
  have ht : (UInt16.ofNat payload.length).toNat = payload.length := by
    rw [UInt16.toNat_ofNat']; omega
  rw [ht, List.drop_length]
  unfold extraOkAux
  simp [h1, h2]


/-! ### `new_append` lands in the writer invariant's base shape -/

/-- A name that decodes to itself is written back with its own length: an `AppendClean` entry that `Fits`
is never refused by the A6 check of `new_append`. -/
theorem appendNameFits_of_clean (e : Entry) (hf : e.Fits) (hc : AppendClean e) : AppendNameFits e := by
  unfold AppendNameFits
  rw [hc.1]
  exact hf.1

theorem appendNamesFit_of_clean (l : Layout) (hF : l.Fits) (hall : ∀ e ∈ l.entries, AppendClean e) :
    ∀ e ∈ l.entries, AppendNameFits e :=
  fun e he => appendNameFits_of_clean e (hF.1 e he) (hall e he)

/-- Shape (A) of the writer invariant after `new_append` on a `ReadableZ`
layout all of whose entries are `AppendClean`: the live part of the sink (everything in front of the position) is
the local part of the prefix-less layout `appendNormAll l` followed by the dead bytes `appendGap l`, the
re-hydrated records are `ClosedAll` for it, no entry is open, the sink is a plain storer. -/
theorem append_open_is_base_stateZ (l : Layout) (hF : l.Fits) (hR : l.ReadableZ) (hS : NoFalseSig l)
    (ht : l.trailing = [] ∨ l.needs64 = false)
    (hall : ∀ e ∈ l.entries, AppendClean e ∧ e.centralExtra.length + 56 ≤ 0xFFFF) :
    ∃ s d, newAppend.runPure (Dev.ofBytes (build l)) = (.ok s, d) ∧
      d.buf = build l ∧ d.pos = l.cdStart ∧
      d.buf.take d.pos = localsBytes (appendNormAll l) ++ appendGap l ∧
      ClosedAll (appendNormAll l) 0 s.files ∧
      s.files = (viewOf l).map appendRecord ∧ s.comment = l.comment ∧
      s.inner = .storer none ∧ s.writingToFile = false ∧ s.writingToExtraField = false ∧
      s.centralOnly = false ∧ (s.files = [] ∨ s.writingRaw = true) := by
  obtain ⟨d, h1, h2, h3⟩ := newAppend_on_layoutZ l hF
    (appendNamesFit_of_clean l hF (fun e he => (hall e he).1)) hR hS ht
  refine ⟨appendStateOf l, d, h1, h2, h3, ?_, viewOf_closedAll l hall, rfl, rfl, rfl, rfl, rfl, rfl,
    Or.inr rfl⟩
  rw [h2, h3, take_cdStart, appendNormAll_bytes l (fun e he => (hall e he).1)]

theorem append_open_is_base_state (l : Layout) (hF : l.Fits) (hR : l.Readable) (hS : NoFalseSig l)
    (ht : l.trailing = [] ∨ l.needs64 = false)
    (hall : ∀ e ∈ l.entries, AppendClean e ∧ e.centralExtra.length + 56 ≤ 0xFFFF) :
    ∃ s d, newAppend.runPure (Dev.ofBytes (build l)) = (.ok s, d) ∧
      d.buf = build l ∧ d.pos = l.cdStart ∧
      d.buf.take d.pos = localsBytes (appendNormAll l) ++ appendGap l ∧
      ClosedAll (appendNormAll l) 0 s.files ∧
      s.files = (viewOf l).map appendRecord ∧ s.comment = l.comment ∧
      s.inner = .storer none ∧ s.writingToFile = false ∧ s.writingToExtraField = false ∧
      s.centralOnly = false ∧ (s.files = [] ∨ s.writingRaw = true) :=
  append_open_is_base_stateZ l hF (readable_imp_readableZ l hR) hS ht hall

end ZipVerif.WL
