import ZipVerif.Model.RawCopyChunks
import ZipVerif.Lemmas.ShortWrite
import ZipVerif.Lemmas.WriterSat
/-
`Model.rawCopyChunks` (one `writeData` per chunk `io::copy` reads - what the translated
`raw_copy_file_rename` is tied to, `Tie/RawCopy.lean`) against `Model.rawCopy` (one `writeData` of the whole
raw stream - what the properties C02 / C12 / C14 are proved about).  For a source that fits one 8 KiB read the two are
equal, on every device and under every fault index (`rawCopy_eq_chunks`).  For any chunking they agree on a fault-free
sink in everything but the number of I/O calls - same outcome, same writer state, same sink contents and position
(`GW.writeDataList_split`, `rawCopyChunks_split`) - provided the raw stream is not longer than the source entry's
`compressed_size` (the raw reader is an `io::Take` of exactly that limit): with that bound the `large_file` decision
keeps the copy clear of the 4 GiB refusal (`rawCopy_fits`).
NOT covered: an injected sink fault in the middle of a multi-chunk copy (the chunked copy leaves a prefix of the
stream in the sink and in the statistics, the one-write model nothing) - the fault theorems of C11 speak about
`rawCopy`, i.e. about copies of at most one chunk.
-/
namespace ZipVerif.Model
open ZipVerif

theorem writeDataList_single (raw : Bytes) (s : WState) : writeDataList [raw] s = writeData raw s := by
  unfold writeDataList
  conv => rhs; rw [← bind_pure (writeData raw s)]
  refine bind_congr fun r => ?_
  obtain ⟨r1, s1⟩ := r
  cases r1 <;> rfl

theorem rawCopy_eq_chunks (ext : WExt) (src : FileData) (raw name : Bytes) (s : WState) :
    rawCopy ext src raw name s = rawCopyChunks ext src [raw] name s := by
  unfold rawCopy rawCopyChunks
  simp only [writeDataList_single]
  rfl

namespace GW

/-- Fault-free, in data mode, without a 4 GiB refusal: the chunked copy ends `Ok` in the state and with the sink
effect of ONE `writeData` of the concatenation. -/
theorem writeDataList_run (f : FileData) : ∀ (chunks : List Bytes) (s : WState) (d : Dev),
    (∀ c ∈ chunks, c ≠ []) →
    s.writingToFile = true → s.writingToExtraField = false → s.inner ≠ .closed →
    s.files.getLast? = some f → Fits s f chunks.flatten →
    ∃ d', (d'.buf, d'.pos) = devEff s.inner d chunks.flatten ∧
      writeDataList chunks s none d = (.ok (.ok (), fin s chunks.flatten), d') := by
  intro chunks
  induction chunks with
  | nil =>
    intro s d _ _ _ _ _ _
    refine ⟨d, ?_, ?_⟩
    · simp only [List.flatten_nil, devEff_nil]
    · simp only [List.flatten_nil, fin_nil]; rfl
  | cons c cs ih =>
    intro s d hne hwf hx hcl hf hfit
    have hc : c ≠ [] := hne c (List.mem_cons_self ..)
    obtain ⟨b, bs, rfl⟩ : ∃ b bs, c = b :: bs := by
      cases c with
      | nil => exact absurd rfl hc
      | cons b bs => exact ⟨b, bs, rfl⟩
    simp only [List.flatten_cons] at hfit ⊢
    obtain ⟨d1, he1, hrun1⟩ := writeData_M_data s f hwf hx hcl hf b bs d
    rw [if_pos (fits_prefix hfit)] at hrun1
    have hfit2 : Fits (fin s (b :: bs)) f cs.flatten := (fits_fin s f _ _).mpr hfit
    obtain ⟨d2, he2, hrun2⟩ := ih (fin s (b :: bs)) d1 (fun c hc => hne c (List.mem_cons_of_mem _ hc))
      (by rw [fin_wf]; exact hwf) (by rw [fin_wx]; exact hx) (by rw [fin_inner]; exact absorb_ne_closed hcl _)
      (by rw [fin_files]; exact hf) hfit2
    refine ⟨d2, ?_, ?_⟩
    · rw [he2, fin_inner, devEff_append s.inner d d1 (b :: bs) cs.flatten (by simp) he1]
    · unfold writeDataList
      rw [M.bind_of_ok hrun1]
      dsimp only
      rw [hrun2, fin_fin]

theorem writeDataList_split (f : FileData) (chunks : List Bytes) (s : WState) (d : Dev)
    (hne : ∀ c ∈ chunks, c ≠ [])
    (hwf : s.writingToFile = true) (hx : s.writingToExtraField = false) (hcl : s.inner ≠ .closed)
    (hf : s.files.getLast? = some f) (hfit : Fits s f chunks.flatten) :
    ∃ o d1 d2, writeDataList chunks s none d = (o, d1) ∧ Model.writeData chunks.flatten s none d = (o, d2) ∧
      d1.buf = d2.buf ∧ d1.pos = d2.pos := by
  obtain ⟨d1, he1, hrun1⟩ := writeDataList_run f chunks s d hne hwf hx hcl hf hfit
  cases hfl : chunks.flatten with
  | nil =>
    rw [hfl] at hrun1 he1
    rw [fin_nil] at hrun1
    rw [devEff_nil] at he1
    simp only [Prod.mk.injEq] at he1
    refine ⟨_, d1, d, hrun1, ?_, he1.1, he1.2⟩
    unfold Model.writeData
    rfl
  | cons b bs =>
    rw [hfl] at hrun1 he1 hfit
    obtain ⟨d2, he2, hrun2⟩ := writeData_M_data s f hwf hx hcl hf b bs d
    rw [if_pos hfit] at hrun2
    rw [← he1] at he2
    simp only [Prod.mk.injEq] at he2
    exact ⟨_, d1, d2, hrun1, hrun2, he2.1.symm, he2.2.symm⟩

end GW

/-! ### what `start_entry` leaves for the copy -/

theorem PostV.io {α β} {Q : Except ZErr β × WState → Prop} {s : WState} {m : M α}
    {k : α → M (Except ZErr β × WState)} (hs : ∀ e, Q (.error e, s))
    (hk : ∀ a, PostV Q (k a)) : PostV Q (Model.io s m k) := by
  unfold Model.io
  apply PostV.bind_any
  intro r
  cases r with
  | ok a => exact hk a
  | error e => exact PostV.pure (hs e)

def StartedFor (o : FileOptions) (r : Except ZErr Unit × WState) : Prop :=
  r.1 = .ok () → r.2.statsBytes = 0 ∧ ∃ f, r.2.files.getLast? = some f ∧ f.largeFile = o.largeFile

theorem startEntry_started (ext : WExt) (name : Bytes) (o : FileOptions)
    (raw : Option (UInt32 × UInt64 × UInt64)) (s : WState) :
    PostV (StartedFor o) (startEntry ext name o raw s) := by
  have herr : ∀ e s', StartedFor o (.error e, s') := fun e s' h => by cases h
  unfold startEntry
  split
  · exact PostV.pure (herr _ _)
  apply PostV.bind_any
  intro ⟨r, s1⟩
  (try dsimp only)
  cases r with
  | error e => exact PostV.pure (herr _ _)
  | ok u =>
    (try dsimp only)
    split
    · apply PostV.io (herr · _)
      intro headerStart
      (try dsimp only)
      split
      · exact PostV.panic _
      · exact PostV.pure (herr _ _)
      · apply PostV.io (herr · _)
        intro _
        apply PostV.io (herr · _)
        intro headerEnd
        (try dsimp only)
        split
        · exact PostV.pure (fun _ => ⟨rfl, _, List.getLast?_concat .., rfl⟩)
        · exact PostV.pure (fun _ => ⟨rfl, _, List.getLast?_concat .., rfl⟩)
    · exact PostV.panic _

/-- the `large_file` decision against the length of the raw stream: a stream not longer than `compressed_size`
never meets the 4 GiB refusal -/
theorem rawCopy_fits (src : FileData) (n : Nat) (hlen : n ≤ src.compressedSize.toNat) :
    n ≤ 0xFFFFFFFF ∨ (rawCopyOptions src).largeFile = true := by
  have et : ZIP64_BYTES_THR.toNat = 4294967295 := by decide
  by_cases hbig : (if src.compressedSize ≥ src.uncompressedSize then src.compressedSize
      else src.uncompressedSize) ≥ ZIP64_BYTES_THR
  · right
    simp only [rawCopyOptions, hbig, decide_true]
  · left
    by_cases hge : src.compressedSize ≥ src.uncompressedSize
    · rw [if_pos hge] at hbig
      simp only [ge_iff_le, UInt64.le_iff_toNat_le, et, Nat.not_le] at hbig
      omega
    · rw [if_neg hge] at hbig
      simp only [ge_iff_le, UInt64.le_iff_toNat_le, et, Nat.not_le] at hbig hge
      omega

/-- **The chunking of `io::copy` is invisible on a fault-free sink.**  From every state that satisfies the writer
invariant, for a source entry with a DOS-representable time, for every chunking (non-empty chunks) of a raw
stream that is not longer than the entry's `compressed_size`: `rawCopyChunks chunks` and `rawCopy` of the
concatenation have the same outcome (value, error, panic) and final writer state, and leave the same bytes in
the sink at the same position.  They differ in the number of I/O calls. -/
theorem rawCopyChunks_split (ext : WExt) (src : FileData) (chunks : List Bytes) (name : Bytes) (s : WState)
    (hI : Inv s) (ho : TimeOk src.time) (hne : ∀ c ∈ chunks, c ≠ [])
    (hlen : chunks.flatten.length ≤ src.compressedSize.toNat) (d : Dev) :
    ∃ o d1 d2, rawCopyChunks ext src chunks name s none d = (o, d1) ∧
      rawCopy ext src chunks.flatten name s none d = (o, d2) ∧ d1.buf = d2.buf ∧ d1.pos = d2.pos := by
  have hR : rawCopy ext src chunks.flatten name s = (do
      let (r, s) ← startEntry ext name (rawCopyOptions src)
        (some (src.crc32, src.compressedSize, src.uncompressedSize)) s
      match r with
      | .error e => pure (.error e, s)
      | .ok () => writeData chunks.flatten { s with writingToFile := true, writingRaw := true }) := rfl
  rw [hR]
  unfold rawCopyChunks
  have hsat := startEntry_sat ext name (rawCopyOptions src)
    (some (src.crc32, src.compressedSize, src.uncompressedSize)) (by exact ho) s hI none d
  have hst := startEntry_started ext name (rawCopyOptions src)
    (some (src.crc32, src.compressedSize, src.uncompressedSize)) s
  rcases hse : startEntry ext name (rawCopyOptions src)
    (some (src.crc32, src.compressedSize, src.uncompressedSize)) s none d with ⟨o, d0⟩
  cases o with
  | err e => exact ⟨.err e, d0, d0, by rw [M.bind_apply, hse], by rw [M.bind_apply, hse], rfl, rfl⟩
  | panic z => exact ⟨.panic z, d0, d0, by rw [M.bind_apply, hse], by rw [M.bind_apply, hse], rfl, rfl⟩
  | ok p =>
    obtain ⟨r, s1⟩ := p
    rw [M.bind_of_ok hse, M.bind_of_ok hse]
    cases r with
    | error e => exact ⟨_, d0, d0, rfl, rfl, rfl, rfl⟩
    | ok u =>
      unfold Sat at hsat
      rw [hse] at hsat
      obtain ⟨hI1, hp⟩ := hsat
      obtain ⟨hwe, hco, hwf, hwr, hin, f, hf, _, _⟩ := hp () rfl
      obtain ⟨hb0, f', hf', hlf⟩ := hst.elim hse rfl
      dsimp only at hwe hin hf hb0 hf'
      have hff : f' = f := by rw [hf] at hf'; exact (Option.some.inj hf').symm
      subst hff
      have hin' : s1.inner = .storer none := by rw [hin]; rfl
      dsimp only
      refine GW.writeDataList_split f' chunks _ d0 hne rfl hwe (by show s1.inner ≠ .closed; rw [hin']; simp) hf ?_
      show s1.statsBytes + chunks.flatten.length ≤ 0xFFFFFFFF ∨ f'.largeFile = true
      rw [hb0, hlf, Nat.zero_add]
      exact rawCopy_fits src _ hlen

end ZipVerif.Model
