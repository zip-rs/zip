import ZipVerif.Lemmas.FaultInterrupted
import ZipVerif.Lemmas.ShortWrite
import ZipVerif.Lemmas.FaultWriter
import ZipVerif.Lemmas.FaultRun
import ZipVerif.Model.InterruptedW
/-
C11, `ErrorKind::Interrupted` on the WRITER: the generic writer `GW` at `MI` (`Model/InterruptedW.lean`) against the writer
model (= `GW` at `M`, `GW.step_M`), by the relation `RI` of `Lemmas/FaultInterrupted`, which is closed under the writer's
I/O vocabulary (`Lemmas/WriterRel`).
-/

namespace ZipVerif.Model
open ZipVerif ZipVerif.Props.C12

/-- `RI` is closed under everything the generic writer is written with, so every `GW` function at `M` is related to
itself at `MI` (`GW.srel_*`, `Lemmas/WriterRel`; `GW.rel_step`). -/
@[reducible] def RI.writerRel : WriterRel M MI where
  R := RI
  pure := RI.pure
  bind := RI.bind
  panic := RI.panic
  attempt := RI.attempt
  seekStart := fun _ => RI.seek _
  seekCurrent := fun _ => RI.seek _
  flush := RI.same Tight.flush.uni Shiftable.flush
  writeAll := fun bs => RI.retried (Tight.writeAll bs).uni (Shiftable.writeAll bs)
  write := fun bs => RI.retried (Tight.write bs).uni (Shiftable.write bs)

theorem GW.ri_step (acc : Bytes → Nat) (ext : WExt) (c : Call) (s : WState) :
    RI (GW.step acc ext c s : M _) (GW.step acc ext c s : MI _) := GW.rel_step RI.writerRel acc ext c s

private theorem pure_apply' {α} (a : α) (fa : Option Nat) (d : Dev) : (pure a : M α) fa d = (.ok a, d) := rfl
private theorem wpanic_apply {α} (st : String) (fa : Option Nat) (d : Dev) : (WriterIO.wPanic st : M α) fa d = (.panic st, d) := rfl

/-- **`impl Write for ZipWriter :: write` returns a failure of its sink call having changed NOTHING**: whenever it answers
`Err(e)` with `e` anything but the 4 GiB refusal (`ErrorKind::Other`, which closes the writer), the writer state it hands
back is the one it was called with - under every fault index, on every device.  So a caller's retry loop (`write_all`,
`io::copy`) that sees `Interrupted` and calls it again re-issues exactly the one sink call: the reason why `wWrite` is a
retried call in the `MI` instance of `WriterIO` (`Model/InterruptedW.lean`). -/
theorem GW.write_error_leaves_state (acc : Bytes → Nat) (buf : Bytes) (s s' : WState) (fa : Option Nat) (d d' : Dev)
    (e : ZErr) (h : (GW.write acc buf s : M _) fa d = (.ok (.error e, s'), d')) (he : e ≠ .io .other) : s' = s := by
  rw [GW.write_eq] at h
  split at h
  · -- the one sink call: its failure is answered with `s`, its count goes to `account`
    unfold GW.io at h
    rw [M.bind_apply] at h
    split at h
    · next r d1 _ =>
      cases r with
      | ok n => rcases GW.accountP_ok (GW.liftP_ok_inv h) with h' | ⟨h', -⟩ <;> cases h'; exact absurd rfl he
      | error e0 => cases h; rfl
    · cases h
    · cases h
  · exact GW.writeP_err (GW.liftP_ok_inv h) he

/-- One call of the writer alphabet with std's `Interrupted` convention: the generic writer at `MI`. -/
def stepI (ext : WExt) (c : Call) (s : WState) : M (Except ZErr (Option Nat) × WState) :=
  (GW.step (fun x => x.length) ext c s : MI _)

/-- **Every writer call: the writer model and the writer with std's `Interrupted` convention are related.** -/
theorem stepI_ri (ext : WExt) (c : Call) (s : WState) : RI (Props.C12.step ext c s) (stepI ext c s) := by
  have h := GW.ri_step (fun x => x.length) ext c s
  rw [GW.step_M] at h
  exact h

/-- a writer step that returns `Ok` under a fault of ANY kind: the failure-free step, with one more call counted when a
retry loop absorbed an `Interrupted` -/
theorem RI.step_ok_is_faultfree {β} {x : M (Except ZErr β × WState)} {y : MI (Except ZErr β × WState)} (h : RI x y)
    (hs : EP x) {k : Nat} {d d' : Dev} {v : β} {s' : WState} (hr : y (some k) d = (.ok (.ok v, s'), d')) :
    ∃ d0, x none d = (.ok (.ok v, s'), d0) ∧
      (d' = d0 ∨ (d.fkind = .interrupted ∧ Fired k d d0 ∧ d' = d0.shift 1)) := by
  rcases h.rel (some k) d with e | ⟨k', hk', hi, hf, e⟩
  · rw [e] at hr
    have hn : ¬ Fired k d (x (some k) d).2 := by rw [hr]; exact hs k d v s' d' hr
    exact ⟨d', by rw [← h.uni.same_of_not_fired hn, hr], Or.inl rfl⟩
  · cases hk'
    rw [e] at hr
    cases h0 : x none d with
    | mk o d0 =>
      rw [h0] at hr hf
      cases hr
      exact ⟨d0, rfl, Or.inr ⟨hi, hf, rfl⟩⟩

/-! ### `new_append` -/

theorem newAppendI_loop_ri (off : Nat) : ∀ n : Nat, RI (newAppend.loop off n) (newAppendI.loop off n)
  | 0 => by unfold newAppend.loop newAppendI.loop; exact RI.pure _
  | n + 1 => by
    have ih := newAppendI_loop_ri off n
    have hc := G.ri_centralHeader off
    rw [G.centralHeader_M] at hc
    unfold newAppend.loop newAppendI.loop
    repeat' (first | exact ih | exact hc | ri_step)

/-- **`ZipWriter::new_append`: the model and the model with std's `Interrupted` convention are related.** -/
theorem newAppendI_ri : RI newAppend newAppendI := by
  have h1 := G.ri_findAndParseEocd
  rw [G.findAndParseEocd_M] at h1
  have h2 := fun footer cde => G.ri_getDirectoryCounts footer cde
  simp only [G.getDirectoryCounts_M] at h2
  unfold newAppend newAppendI
  repeat' (first | exact h1 | exact h2 _ _ | exact newAppendI_loop_ri _ _ | ri_step)

/-! ### Call sequences -/

/-- `Props.C12.runCalls` over the writer with std's `Interrupted` convention. -/
def runCallsI (ext : WExt) : List Call → WState → Option Nat → Dev → List (Out (Option Nat)) × WState × Dev
  | [], s, _, d => ([], s, d)
  | c :: cs, s, fa, d =>
    match stepI ext c s fa d with
    | (.ok (.ok v, s'), d') =>
      let r := runCallsI ext cs s' fa d'
      (.ok v :: r.1, r.2)
    | (.ok (.error e, s'), d') =>
      let r := runCallsI ext cs s' fa d'
      (.err e :: r.1, r.2)
    | (.err e, d') =>
      let r := runCallsI ext cs s fa d'
      (.err e :: r.1, r.2)
    | (.panic site, d') => ([.panic site], s, d')

theorem runCallsI_cons (ext : WExt) (c : Call) (cs : List Call) (s : WState) (fa : Option Nat) (d : Dev) :
    runCallsI ext (c :: cs) s fa d = consOut (callOut s (stepI ext c s fa d)) fun s' d' => runCallsI ext cs s' fa d' := by
  rw [runCallsI]
  rcases stepI ext c s fa d with ⟨(⟨(e | v), s'⟩ | e | p), d'⟩ <;> rfl

theorem runCallsI_eq_runWith (ext : WExt) (fa : Option Nat) : ∀ (cs : List Call) (s : WState) (d : Dev),
    runCallsI ext cs s fa d = runWith (fun c s d => stepI ext c s fa d) cs s d
  | [], _, _ => rfl
  | c :: cs, s, d => by
    rw [runCallsI_cons, runWith]
    exact congrArg _ (funext fun s' => funext fun d' => runCallsI_eq_runWith ext fa cs s' d')

theorem runCallsI_hard (ext : WExt) (fa : Option Nat) (cs : List Call) (s : WState) (d : Dev)
    (hk : d.fkind ≠ .interrupted ∨ fa = none) : runCallsI ext cs s fa d = runCalls ext cs s fa d := by
  rw [runCallsI_eq_runWith, runCalls_eq_runWith]
  refine (runWith_congr (fun d => d.fkind ≠ .interrupted ∨ fa = none) (fun c s d hk => ⟨?_, ?_⟩) cs s d hk).1
  · rcases hk with hk | rfl
    · exact (stepI_ri ext c s).hard fa d hk
    · exact (stepI_ri ext c s).no_fault d
  · rw [(step_uniform ext c s).kind fa d]
    exact hk

theorem runCallsI_past (ext : WExt) (k : Nat) (cs : List Call) (s : WState) (d : Dev) (hk : k < d.calls) :
    runCallsI ext cs s (some k) d = runCalls ext cs s none d := by
  rw [runCallsI_eq_runWith, runCalls_eq_runWith]
  refine (runWith_congr (fun d => k < d.calls) (fun c s d hk => ⟨?_, ?_⟩) cs s d hk).1
  · rcases (stepI_ri ext c s).rel (some k) d with e | ⟨k', hk', _, hf, _⟩
    · rw [e, (step_uniform ext c s).same_of_outside (Or.inl hk)]
    · cases hk'; unfold Fired at hf; omega
  · exact Nat.lt_of_lt_of_le hk ((step_uniform ext c s).mono none d)

/-- the failure-free run does not look at the call counter -/
theorem runCalls_shift (ext : WExt) (c0 : Nat) (cs : List Call) (s : WState) (d : Dev) :
    runCalls ext cs s none (d.shift c0) =
      ((runCalls ext cs s none d).1, (runCalls ext cs s none d).2.1, (runCalls ext cs s none d).2.2.shift c0) := by
  rw [runCalls_eq_runWith, runCalls_eq_runWith]
  obtain ⟨h1, h2, h3⟩ := runWith_rel (f := fun c s d => step ext c s none d) (g := fun c s d => step ext c s none d)
    (fun p q => p.1 = q.1 ∧ p.2 = q.2.shift c0)
    (fun c s d' t e hR => by
      obtain ⟨(rfl : s = t), (rfl : d' = e.shift c0)⟩ := hR
      rw [(stepI_ri ext c s).shift.eq e c0]
      rcases step ext c s none e with ⟨(⟨(e | v), s'⟩ | e | p), d'⟩ <;> exact ⟨rfl, rfl, rfl⟩) cs s (d.shift c0) s d ⟨rfl, rfl⟩
  exact Prod.ext h1 (Prod.ext h2 h3)

/-- **Every call `Ok` under one fault of ANY kind ⇒ the failure-free run**: the same return values, the same final
writer state, the same sink - bytes and position; the call counter is the failure-free one, or one more when a retry
loop absorbed an `Interrupted`. -/
theorem runCallsI_all_ok (ext : WExt) (k : Nat) : ∀ (cs : List Call) (s : WState) (d : Dev),
    (∀ c ∈ cs, isDrop c = false) → (∀ o ∈ (runCallsI ext cs s (some k) d).1, o.isOk = true) →
    (runCallsI ext cs s (some k) d).1 = (runCalls ext cs s none d).1 ∧
    (runCallsI ext cs s (some k) d).2.1 = (runCalls ext cs s none d).2.1 ∧
    ((runCallsI ext cs s (some k) d).2.2 = (runCalls ext cs s none d).2.2 ∨
      (d.fkind = .interrupted ∧ (runCallsI ext cs s (some k) d).2.2 = (runCalls ext cs s none d).2.2.shift 1))
  | [], _, _, _, _ => ⟨rfl, rfl, Or.inl rfl⟩
  | c :: cs, s, d, hnd, hok => by
    have hc : isDrop c = false := hnd c (List.mem_cons_self ..)
    have hnd' : ∀ c ∈ cs, isDrop c = false := fun c' h' => hnd c' (List.mem_cons_of_mem _ h')
    rw [runCallsI_cons] at hok ⊢
    rw [runCalls_cons]
    obtain ⟨os, ho⟩ := consOut_head (callOut s (stepI ext c s (some k) d)) fun s' d' => runCallsI ext cs s' (some k) d'
    obtain ⟨v, s', h⟩ := callOut_isOk (hok _ (by rw [ho]; exact List.mem_cons_self))
    generalize (stepI ext c s (some k) d).2 = d' at h
    obtain ⟨d0, h0, hd⟩ := (stepI_ri ext c s).step_ok_is_faultfree (step_stepOK ext c hc s).ep h
    have hkd := (step_uniform ext c s).kind none d
    rw [h] at hok ⊢
    rw [h0] at hkd ⊢
    dsimp only [callOut, consOut] at hkd hok ⊢
    rcases hd with rfl | ⟨hi, hf, rfl⟩
    · obtain ⟨i1, i2, i3⟩ := runCallsI_all_ok ext k cs s' d' hnd'
        (fun o ho => hok o (List.mem_cons_of_mem _ ho))
      refine ⟨by rw [i1], i2, ?_⟩
      rcases i3 with i3 | ⟨hi, i3⟩
      · exact Or.inl i3
      · exact Or.inr ⟨by rw [← hkd]; exact hi, i3⟩
    · have hp := runCallsI_past ext k cs s' (d0.shift 1) (by unfold Fired at hf; unfold Dev.shift; dsimp only; omega)
      rw [hp, runCalls_shift]
      exact ⟨rfl, rfl, Or.inr ⟨hi, rfl⟩⟩

end ZipVerif.Model
