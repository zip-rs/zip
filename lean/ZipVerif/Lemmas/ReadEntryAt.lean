import ZipVerif.Lemmas.ReadHead
import ZipVerif.Lemmas.ByIndexOpen
/-
The entry readers on arbitrary bytes and any archive value whose i-th record has the given fields: `find_content`,
`by_index_raw`, `by_index` (+ read to end); lookup by name; attributes → Unix mode.  The bytes hold the local record of
a specification entry `e` at the place the record names (`runs_findContent`: the record is `viewEntry e …`); no layout
is involved, but `archiveOf l`, the value `ZipArchive::new` returns for `build l`, is defined here for the files that
are about one.
-/

namespace ZipVerif.Model
open ZipVerif ZipVerif.Spec.Zip

theorem runs_findContent_of {B rest : Bytes} (e : Entry) (off pre p0 : Nat) (f : FileData)
    (hs : f.headerStart = UInt64.ofNat (off + pre)) (hf : e.Fits)
    (hb : off + pre + (localRecord e).length < 2 ^ 63)
    (hd : B.drop (off + pre) = localRecord e ++ rest) :
    Runs (findContent f) B p0 (.ok (e.dataStart off pre)) (e.dataStart off pre) := by
  obtain ⟨fixed, hfl, hrec⟩ := localRecord_eq e
  have hlen := localRecord_length e
  obtain ⟨hn, _, hxl, _, _, _⟩ := hf
  have hxl' : e.localExtraAll.length ≤ 65535 := by
    unfold Entry.localExtraAll
    revert hxl; cases e.localZip64 <;> simp <;> omega
  have hs : f.headerStart.toNat = off + pre := by rw [hs]; exact U64.toNat_ofNat (by omega)
  rw [hrec] at hd
  simp only [List.append_assoc] at hd
  have hd2 := drop_past (drop_past hd)
  unfold findContent
  rw [hs]
  refine Runs.bind (Runs.seek_start _) ?_
  refine Runs.bind (Runs.readU32 hd) ?_
  rw [if_neg (by decide)]
  refine Runs.bind (Runs.seek_cur 22) ?_
  have e1 : off + pre + 4 + 22 = off + pre + (le32 sigLocal).length + fixed.length := by simp [hfl]
  rw [e1]
  refine Runs.bind (Runs.readU16 hd2) ?_
  refine Runs.bind (Runs.readU16 (drop_past hd2)) ?_
  rw [ofNat_toNat_of_le hn, ofNat_toNat_of_le hxl']
  have e2 : off + pre + 30 + e.name.length + e.localExtraAll.length = e.dataStart off pre := by
    simp [Entry.dataStart]; omega
  rw [e2, if_neg (by simp only [Entry.dataStart] at e2 ⊢; omega)]
  refine Runs.bind (Runs.seek_start _) ?_
  exact Runs.pure _

theorem runs_findContent {B rest : Bytes} (e : Entry) (off pre chs p0 : Nat) (hf : e.Fits)
    (hb : off + pre + (localRecord e).length < 2 ^ 63)
    (hd : B.drop (off + pre) = localRecord e ++ rest) :
    Runs (findContent (viewEntry e off pre chs)) B p0 (.ok (e.dataStart off pre)) (e.dataStart off pre) :=
  runs_findContent_of e off pre p0 _ rfl hf hb hd

theorem runs_takeAll {B x rest : Bytes} {p : Nat} (h : B.drop p = x ++ rest) :
    Runs (takeAll x.length) B p (.ok x) (p + x.length) := by
  unfold takeAll
  by_cases h0 : x.length = 0
  · rw [if_pos h0, List.eq_nil_of_length_eq_zero h0]
    exact Runs.pure _
  · rw [if_neg h0]
    refine Runs.bind (Runs.read_prefix h) ?_
    rw [if_pos rfl]
    exact Runs.pure _

/-- the archive value `ZipArchive::new` returns for `build l` -/
def archiveOf (l : Layout) : Archive := { files := viewOf l, offset := l.pre.length, comment := l.comment }

/-! ### an entry of any archive value whose local record and data lie where its view says

`a.files[i]` is the view of `e` at offset `off` (whatever extra field it reports) and the bytes at `off + pre`
are the local record of `e` followed by its data: all the entry readers use of a layout. -/

theorem drop_dataStart {B rest : Bytes} {e : Entry} {off pre : Nat}
    (hd : B.drop (off + pre) = localRecord e ++ (e.data ++ rest)) :
    B.drop (e.dataStart off pre) = e.data ++ rest := by
  have := drop_past hd
  rw [localRecord_length] at this
  rw [← this]; congr 1; simp [Entry.dataStart]; omega

theorem runs_byIndexRaw_at {B rest : Bytes} {a : Archive} {i : Nat} {v : FileData} (e : Entry) (off pre : Nat)
    (hi : a.files[i]? = some v) (hs : v.headerStart = UInt64.ofNat (off + pre))
    (hcs : v.compressedSize = e.csize) (hf : e.Fits)
    (hd : B.drop (off + pre) = localRecord e ++ (e.data ++ rest))
    (hb : off + pre + (localRecord e).length + e.data.length < 2 ^ 63) (p0 : Nat) :
    Runs (byIndexRaw a i) B p0 (.ok (e.dataStart off pre, e.data)) (e.dataStart off pre + e.data.length) := by
  unfold byIndexRaw
  rw [hi]
  refine Runs.bind (runs_findContent_of e off pre p0 v hs hf (by omega) hd) ?_
  rw [hcs, show e.csize.toNat = e.data.length from U64.toNat_ofNat (by omega)]
  refine Runs.bind (runs_takeAll (drop_dataStart hd)) ?_
  exact Runs.pure _

/-- The open half of `by_index*` on an entry whose password gate passes: the entry, its data start, the decision. -/
theorem runs_byIndexOpen_at {B rest : Bytes} {a : Archive} {i : Nat} {v : FileData} (e : Entry) (off pre : Nat)
    (hi : a.files[i]? = some v) (hs : v.headerStart = UInt64.ofNat (off + pre)) (hf : e.Fits)
    (hd : B.drop (off + pre) = localRecord e ++ rest) (hb : off + pre + (localRecord e).length < 2 ^ 63)
    (pw : Option Bytes) (hpw : (pw.isNone && v.encrypted) = false) (p0 : Nat) :
    Runs (byIndexOpen a i pw) B p0
      (.ok (v, e.dataStart off pre, cryptoChoice v.method v.crc32 v.time v.usingDataDescriptor
        (if v.encrypted then pw else none) v.aesMode))
      (e.dataStart off pre) := by
  unfold byIndexOpen
  rw [hi]
  dsimp only
  rw [hpw, if_neg Bool.false_ne_true]
  exact Runs.bind (runs_findContent_of e off pre p0 v hs hf hb hd) (Runs.pure _)

theorem runs_readChoice_plaintext (ext : Ext) (data : FileData) (ds : Nat) {B x rest : Bytes} {p : Nat}
    (hcs : data.compressedSize.toNat = x.length) (h : B.drop p = x ++ rest) :
    Runs (readChoice ext data ds .plaintext) B p
      (.ok (.ok (ds, ext.decode data.method x >>= fun dec => crcCheck false data.crc32 dec))) (p + x.length) := by
  unfold readChoice
  rw [hcs]
  exact Runs.bind (runs_takeAll h) (Runs.pure _)

/-- `by_index(i)` + read to end on an unencrypted entry with a decodable method. -/
theorem runs_byIndexRead_at (ext : Ext) {B rest : Bytes} {a : Archive} {i : Nat} {v : FileData} (e : Entry)
    (off pre : Nat) (hi : a.files[i]? = some v) (hs : v.headerStart = UInt64.ofNat (off + pre))
    (hcs : v.compressedSize = e.csize) (hm : v.method = Method.fromU16 e.method) (henc : v.encrypted = false)
    (ha : v.aesMode = none) (hc : v.crc32 = e.crc) (hf : e.Fits)
    (hd : B.drop (off + pre) = localRecord e ++ (e.data ++ rest))
    (hb : off + pre + (localRecord e).length + e.data.length < 2 ^ 63) (pw : Option Bytes)
    (hdec : (Method.fromU16 e.method).decodable = true) (p0 : Nat) :
    Runs (byIndexRead ext a i pw) B p0
      (.ok (.ok (e.dataStart off pre,
        ext.decode (Method.fromU16 e.method) e.data >>= fun dec => crcCheck false e.crc dec)))
      (e.dataStart off pre + e.data.length) := by
  rw [byIndexRead_eq_open]
  refine Runs.bind (runs_byIndexOpen_at e off pre hi hs hf hd (by omega) pw (by rw [henc, Bool.and_false]) p0) ?_
  rw [cryptoChoice_eq, hm, hdec, if_pos rfl, henc, ha, ← hm, ← hc]
  exact runs_readChoice_plaintext ext v _ (by rw [hcs]; exact U64.toNat_ofNat (by omega)) (drop_dataStart hd)

/-! ### lookup by name -/

theorem getLast_filter_range (p : Nat → Bool) : ∀ n i,
    ((List.range n).filter p).getLast? = some i ↔
      (i < n ∧ p i = true ∧ ∀ j, i < j → j < n → p j = false) := by
  intro n
  induction n with
  | zero => intro i; simp
  | succ n ih =>
    intro i
    rw [List.range_succ, List.filter_append]
    by_cases hp : p n = true
    · have : List.filter p [n] = [n] := by simp [hp]
      rw [this, List.getLast?_concat]
      constructor
      · intro h; cases h
        exact ⟨by omega, hp, fun j h1 h2 => by omega⟩
      · rintro ⟨h1, h2, h3⟩
        by_cases hi : i = n
        · rw [hi]
        · have := h3 n (by omega) (by omega)
          rw [hp] at this; cases this
    · have : List.filter p [n] = [] := by simp [hp]
      rw [this, List.append_nil, ih]
      have hp' : p n = false := by simpa using hp
      constructor
      · rintro ⟨h1, h2, h3⟩
        refine ⟨by omega, h2, fun j hj1 hj2 => ?_⟩
        by_cases hj : j = n
        · rw [hj]; exact hp'
        · exact h3 j hj1 (by omega)
      · rintro ⟨h1, h2, h3⟩
        have hi : i ≠ n := by intro h; rw [h, hp'] at h2; cases h2
        exact ⟨by omega, h2, fun j hj1 hj2 => h3 j hj1 (by omega)⟩

theorem getLast_filter_range_none (p : Nat → Bool) (n : Nat) :
    ((List.range n).filter p).getLast? = none ↔ ∀ j, j < n → p j = false := by
  rw [List.getLast?_eq_none_iff, List.filter_eq_nil_iff]
  simp

/-- **lookup by name returns the LAST entry with that name** -/
theorem indexOfName_eq_some (a : Archive) (name : Bytes) (i : Nat) :
    a.indexOfName name = some i ↔
      ((∃ f, a.files[i]? = some f ∧ f.fileName = name) ∧
        ∀ j g, i < j → a.files[j]? = some g → g.fileName ≠ name) := by
  unfold Archive.indexOfName
  rw [getLast_filter_range]
  constructor
  · rintro ⟨h1, h2, h3⟩
    have hi : a.files[i]? = some a.files[i] := List.getElem?_eq_getElem h1
    rw [hi] at h2
    refine ⟨⟨a.files[i], hi, by simpa using h2⟩, ?_⟩
    intro j g hj hg
    have hjn : j < a.files.length := by
      rcases Nat.lt_or_ge j a.files.length with h | h
      · exact h
      · rw [List.getElem?_eq_none h] at hg; cases hg
    have := h3 j hj hjn
    rw [hg] at this
    simpa using this
  · rintro ⟨⟨f, hf, hn⟩, h3⟩
    have hi : i < a.files.length := by
      rcases Nat.lt_or_ge i a.files.length with h | h
      · exact h
      · rw [List.getElem?_eq_none h] at hf; cases hf
    refine ⟨hi, by rw [hf]; simpa using hn, ?_⟩
    intro j hj hjn
    have hg : a.files[j]? = some a.files[j] := List.getElem?_eq_getElem hjn
    rw [hg]
    have := h3 j _ hj hg
    simpa using this

theorem indexOfName_eq_none (a : Archive) (name : Bytes) :
    a.indexOfName name = none ↔ ∀ f ∈ a.files, f.fileName ≠ name := by
  unfold Archive.indexOfName
  rw [getLast_filter_range_none]
  constructor
  · intro h f hf
    obtain ⟨j, hj, rfl⟩ := List.getElem_of_mem hf
    have := h j hj
    rw [List.getElem?_eq_getElem hj] at this
    simpa using this
  · intro h j hj
    rw [List.getElem?_eq_getElem hj]
    have := h a.files[j] (List.getElem_mem hj)
    simpa using this

/-! ### attributes → Unix mode -/

theorem nat_and16 (x : Nat) : x &&& 16 = 16 * (x / 16 % 2) := by
  have h1 : (x &&& 16) % 2 ^ 4 = 0 := by rw [Nat.and_mod_two_pow]; simp
  have h2 : (x &&& 16) / 2 ^ 4 = x / 16 % 2 := by
    rw [Nat.and_div_two_pow]
    exact Nat.and_two_pow_sub_one_eq_mod (x / 2 ^ 4) 1
  have := Nat.div_add_mod (x &&& 16) (2 ^ 4)
  rw [h1, h2] at this
  omega

theorem u8_beq (a k : UInt8) : (a == k) = decide (a.toNat = k.toNat) := by
  by_cases h : a = k
  · subst h; simp
  · have : a.toNat ≠ k.toNat := fun h' => h (UInt8.toNat_inj.mp h')
    rw [beq_false_of_ne h]; exact (decide_eq_false this).symm

theorem system_of_madeBy (mb : UInt16) :
    System.fromU8 (mb >>> 8).toUInt8 =
      if mb.toNat / 256 = 0 then .dos else if mb.toNat / 256 = 3 then .unix else .unknown := by
  have hn : (mb >>> 8).toUInt8.toNat = mb.toNat / 256 := by
    rw [UInt16.toNat_toUInt8, UInt16.toNat_shiftRight]
    have : (8 : UInt16).toNat % 16 = 8 := by decide
    rw [this, Nat.shiftRight_eq_div_pow]
    have := mb.toNat_lt
    omega
  unfold System.fromU8
  have e0 : ((mb >>> 8).toUInt8 == 0) = decide (mb.toNat / 256 = 0) := by
    have := u8_beq (mb >>> 8).toUInt8 0; rw [hn] at this; exact this
  have e3 : ((mb >>> 8).toUInt8 == 3) = decide (mb.toNat / 256 = 3) := by
    have := u8_beq (mb >>> 8).toUInt8 3; rw [hn] at this; exact this
  rw [e0, e3]
  by_cases h0 : mb.toNat / 256 = 0 <;> by_cases h3 : mb.toNat / 256 = 3 <;> simp [h0, h3]


theorem u32_beq (a k : UInt32) : (a == k) = decide (a.toNat = k.toNat) := by
  by_cases h : a = k
  · subst h; simp
  · have : a.toNat ≠ k.toNat := fun h' => h (UInt32.toNat_inj.mp h')
    rw [beq_false_of_ne h]; exact (decide_eq_false this).symm

/-- `ZipFileData::unix_mode` is the documented host-system mapping. -/
theorem unixMode_eq_spec (f : FileData) (mb : UInt16)
    (hs : f.system = System.fromU8 (mb >>> 8).toUInt8) :
    f.unixMode.map UInt32.toNat = unixModeSpec mb f.externalAttributes := by
  unfold FileData.unixMode unixModeSpec
  rw [hs, system_of_madeBy, u32_beq]
  have z : (0 : UInt32).toNat = 0 := rfl
  rw [z]
  by_cases h0 : f.externalAttributes.toNat = 0
  · simp [h0]
  · simp only [h0, decide_false, Bool.false_eq_true, if_false]
    by_cases hu : mb.toNat / 256 = 3
    · have hd : ¬ mb.toNat / 256 = 0 := by omega
      rw [if_neg hd, if_pos hu, if_pos hu]
      simp only [Option.map_some]
      rw [UInt32.toNat_shiftRight]
      have e : (16 : UInt32).toNat % 32 = 16 := by decide
      rw [e, Nat.shiftRight_eq_div_pow]
    · by_cases hd : mb.toNat / 256 = 0
      · rw [if_pos hd, if_neg hu, if_pos hd]
        simp only [Option.map_some]
        have hdir : (0x10 == (f.externalAttributes &&& 0x10)) =
            decide (f.externalAttributes.toNat / 16 % 2 = 1) := by
          rw [u32_beq, UInt32.toNat_and]
          have e : (0x10 : UInt32).toNat = 16 := by decide
          rw [e, nat_and16]
          by_cases h : f.externalAttributes.toNat / 16 % 2 = 1
          · simp [h]
          · have : f.externalAttributes.toNat / 16 % 2 = 0 := by omega
            simp [this]
        have hro : (0x01 == (f.externalAttributes &&& 0x01)) =
            decide (f.externalAttributes.toNat % 2 = 1) := by
          rw [u32_beq, UInt32.toNat_and]
          have e : (0x01 : UInt32).toNat = 1 := by decide
          rw [e, Nat.and_one_is_mod]
          by_cases h : f.externalAttributes.toNat % 2 = 1
          · simp [h]
          · have : f.externalAttributes.toNat % 2 = 0 := by omega
            simp [this]
        rw [hdir, hro]
        by_cases h1 : f.externalAttributes.toNat / 16 % 2 = 1 <;>
          by_cases h2 : f.externalAttributes.toNat % 2 = 1 <;>
          simp only [h1, h2, decide_true, decide_false, if_true, Bool.false_eq_true, if_false] <;> decide
      · rw [if_neg hd, if_neg hu, if_neg hu, if_neg hd]
        rfl

end ZipVerif.Model
