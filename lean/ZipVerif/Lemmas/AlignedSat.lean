import ZipVerif.Lemmas.WriterSat
/-
Local extra-field mode, the state `start_file_with_extra_data` leaves and the padding writes of `start_file_aligned`
keep: one predicate `AlM` - the invariant, the mode flags, a plain storer, an untouched byte counter (`statsBytes = 0`
after `startEntry`) and the open entry's data start, extra field so far and header start; that the header start is
not behind the sink position (`p ≤ d'.pos`) is said by the postconditions `StartEntryPostH` / `StartExtraPostH`, `AlM`
takes no device.  `startFileWithExtraData` (without encryption), `writeData` and
`endLocalStartCentral` in terms of it, as the unconditional tie of `start_file_aligned` (`Tie/AlignedDev.lean`) uses
them, and `start_file_aligned` itself under the invariant.
-/

namespace ZipVerif.Model
open ZipVerif

/-- `StartEntryPost`, the byte counter, and where the new entry's header starts -/
def StartEntryPostH (o : FileOptions) (u : Unit) (s' : WState) (d' : Dev) : Prop :=
  StartEntryPost o u s' d' ∧ s'.statsBytes = 0 ∧
  ∃ f p, s'.files.getLast? = some f ∧ f.headerStart = UInt64.ofNat p ∧ p ≤ d'.pos

theorem startEntry_satH (ext : WExt) (name : Bytes) (o : FileOptions) (raw : Option (UInt32 × UInt64 × UInt64))
    (ho : TimeOk o.time) (s : WState) (hI : Inv s) (fa : Option Nat) (d : Dev) :
    Sat (startEntry ext name o raw s) fa d (Post (StartEntryPostH o)) :=
  Sat.mono (startEntry_spec ext name o raw ho s hI fa d) fun _ _ h => ⟨h.1, fun v hv =>
    have ⟨h1, h2, f, p, h3, h4, h5, _⟩ := h.2 v hv
    ⟨h1, h2, f, p, h3, h4, h5⟩⟩

/-- Local extra-field mode right after `start_file_with_extra_data`, with `x` written so far. -/
def AlM (s : WState) (ds hs : UInt64) (x : Bytes) : Prop :=
  Inv s ∧ s.writingToFile = true ∧ s.writingToExtraField = true ∧ s.centralOnly = false ∧
  s.inner = .storer none ∧ s.statsBytes = 0 ∧
  ∃ f, s.files.getLast? = some f ∧ f.dataStart = ds ∧ f.extraField = x ∧ f.headerStart = hs

/-- what `start_file_with_extra_data` returns: the data start IS the sink position, the header start lies
not behind it -/
def StartExtraPostH (v : Nat) (s' : WState) (d' : Dev) : Prop :=
  ∃ p, p ≤ d'.pos ∧ AlM s' (UInt64.ofNat d'.pos) (UInt64.ofNat p) [] ∧ v = (UInt64.ofNat d'.pos).toNat

theorem startFileWithExtraData_satH (ext : WExt) (name : Bytes) (o : FileOptions) (ho : TimeOk o.time)
    (henc : o.encryptWith = none) (s : WState) (hI : Inv s) (fa : Option Nat) (d : Dev) :
    Sat (startFileWithExtraData ext name o s) fa d (Post StartExtraPostH) := by
  unfold startFileWithExtraData
  refine Sat.step (startEntry_spec ext name (withFilePerm o 0o644 0o100000) none ho s hI fa d) (fun _ _ => rfl)
    fun _ s1 d1 hI1 ⟨⟨_, hco, _, _, hin, f, hf, hds, hx⟩, hsb, f', p, hf', hhs, hple, _⟩ => ?_
  cases hf.symm.trans hf'
  have hin' : s1.inner = .storer none := by rw [hin]; simp only [withFilePerm, henc]
  have hne := ne_nil_of_getLast? hf
  dsimp only
  rw [hf]
  have hI2 : Inv { s1 with writingToFile := true, writingToExtraField := true } :=
    { hI1 with extraFiles := fun _ => hne, fileFiles := fun _ => hne, centralExtra := fun _ => rfl,
               extraPlain := fun _ _ => Or.inl hin' }
  exact Sat.ok hI2 ⟨p, hple, ⟨hI2, rfl, rfl, hco, hin', hsb, f, hf, hds, hx, hhs⟩, by rw [hds]⟩

/-- In extra-field mode `write` only appends to the last entry's extra field (no I/O, no statistics). -/
theorem writeData_alM {s : WState} {ds hs : UInt64} {x : Bytes} (h : AlM s ds hs x) (buf : Bytes) :
    ∃ s', writeData buf s = pure (.ok (), s') ∧ AlM s' ds hs (x ++ buf) := by
  obtain ⟨hI, hwf, hwe, hco, hin, hsb, f, hf, hds, hx, hhs⟩ := h
  exact ⟨_, writeData_extra hwf hwe (by rw [hin]; nofun) hf buf, hI.setLast_same_time hf rfl, hwf, hwe, hco, hin,
    hsb, _, getLast?_setLast (ne_nil_of_getLast? hf), hds, by rw [hx], hhs⟩

theorem writeData_alM_sat {s : WState} {ds hs : UInt64} {x : Bytes} (h : AlM s ds hs x) (buf : Bytes)
    (fa : Option Nat) (d : Dev) : Sat (writeData buf s) fa d (Post fun _ s' _ => AlM s' ds hs (x ++ buf)) := by
  obtain ⟨s', e, h'⟩ := writeData_alM h buf
  rw [e]
  exact Sat.ok h'.1 h'

/-- `end_local_start_central_extra_data` from local extra-field mode: the offset is the old data start plus the
extra field, the open entry keeps its header start and has an empty extra field again -/
def EndLocalPostH (ds hs : UInt64) (x : Bytes) (v : Nat) (s' : WState) (_ : Dev) : Prop :=
  v = ds.toNat + x.length ∧ ∃ f', s'.files.getLast? = some f' ∧ f'.extraField = [] ∧ f'.headerStart = hs

theorem endLocalStartCentral_satH (ext : WExt) {s : WState} {ds hs : UInt64} {x : Bytes} (h : AlM s ds hs x)
    (fa : Option Nat) (d : Dev) :
    Sat (endLocalStartCentral ext s) fa d (Post (EndLocalPostH ds hs x)) := by
  obtain ⟨hI, _, _, hco, _, _, f, hf, hds, hx, hhs⟩ := h
  refine Sat.mono (endLocalStartCentral_sat ext s hI fa d) fun _ _ h => ⟨h.1, fun v hv => ?_⟩
  obtain ⟨_, _, _, h4⟩ := h.2 v hv
  obtain ⟨f0, hf0, hv', _, f', hf', _, hx', hhs'⟩ := h4 hco
  rw [hf] at hf0; cases hf0
  exact ⟨by rw [hv', hds, hx], f', hf', hx', by rw [hhs', hhs]⟩

theorem startFileAligned_sat (ext : WExt) (name : Bytes) (o : FileOptions) (align : UInt16)
    (ho : TimeOk o.time) (henc : o.encryptWith = none) (s : WState) (hI : Inv s)
    (fa : Option Nat) (d : Dev) :
    Sat (startFileAligned ext name o align s) fa d (Post fun _ _ _ => True) := by
  unfold startFileAligned
  refine Sat.step (startFileWithExtraData_satH ext name o ho henc s hI fa d) (fun _ _ => rfl)
    fun dataStart s1 d1 hI1 ⟨p, _, hA, hds⟩ => ?_
  dsimp only
  -- after the padding: the open entry's data start is not before `dataStart`, unless the sink position it was
  -- taken from (central mode: `end_extra_data` does not move the sink) has left the `u64` range
  refine Sat.step (P := fun _ s2 d2 => ∃ f2, s2.files.getLast? = some f2 ∧
      (dataStart ≤ f2.dataStart.toNat ∨ (s2.centralOnly = true ∧ Huge d2))) ?_ (fun _ _ => rfl) ?_
  · split
    · next hc =>
      refine Sat.step (writeData_alM_sat hA _ fa d1) (fun _ _ => rfl) fun _ s2 d2 _ hA2 => ?_
      refine Sat.step (writeData_alM_sat hA2 _ fa d2) (fun _ _ => rfl) fun _ s3 d3 _ hA3 => ?_
      refine Sat.step (writeData_alM_sat hA3 _ fa d3) (fun _ _ => rfl) fun _ s4 d4 _ hA4 => ?_
      obtain ⟨hI4, _, _, hco4, _, _, f4, hf4, hd4, hx4, _⟩ := hA4
      refine Sat.step (endLocalStartCentral_sat ext s4 hI4 fa d4) (fun _ _ => rfl)
        fun ds s5 d5 hI5 ⟨_, hco5, _, h5⟩ => ?_
      obtain ⟨f4', hf4', hds4, hpos5, f5, hf5, hds5, _⟩ := h5 hco4
      cases hf4.symm.trans hf4'
      have hlen : f4.extraField.length = 4 + (align.toNat - (dataStart + 4) % align.toNat) % align.toNat := by
        rw [hx4, List.length_append, List.length_append, List.length_append, List.length_replicate]; rfl
      have ha : 0 < align.toNat := by
        simp only [Bool.and_eq_true, decide_eq_true_eq] at hc; omega
      have hal : ds % align.toNat = 0 := by
        rw [hds4, hd4, hlen, ← hds, ← Nat.add_assoc]
        exact pad_aligned dataStart align.toNat ha
      dsimp only
      simp only [hal, bne_self_eq_false, Bool.false_eq_true, if_false]
      refine Sat.ok hI5 ⟨f5, hf5, ?_⟩
      rw [hds5, UInt64.toNat_ofNat', ← hpos5]
      by_cases hh : Huge d5
      · exact Or.inr ⟨hco5, hh⟩
      · unfold Huge at hh
        rw [Nat.mod_eq_of_lt (by omega), hpos5, hds4, hd4, ← hds]
        exact Or.inl (Nat.le_add_right ..)
    · obtain ⟨_, _, _, _, _, _, f, hf, hd, _⟩ := hA
      exact Sat.ok hI1 ⟨f, hf, Or.inl (by rw [hd, hds]; exact Nat.le_refl _)⟩
  · intro _ s6 d6 hI6 ⟨f6, hf6, h6⟩
    dsimp only
    refine Sat.step (endExtraData_sat ext s6 hI6 fa d6) (fun _ _ => rfl)
      fun ede s7 d7 hI7 ⟨_, _, _, f6', hf6', hcen, hloc⟩ => ?_
    cases hf6.symm.trans hf6'
    dsimp only
    split
    · next hlt =>
      apply Sat.panic
      cases hc : s6.centralOnly
      · rw [(hloc hc).1] at hlt
        rcases h6 with h | h
        · omega
        · rw [hc] at h; cases h.1
      · rw [(hcen hc).1] at hlt
        rcases h6 with h | h
        · omega
        · unfold Huge at *; rw [(hcen hc).2.2.2]; exact h.2
    · exact Sat.ok hI7 trivial

end ZipVerif.Model
