import ZipVerif.Lemmas.OfLayout
/-
The reader on `Spec.Zip.build l`.  `ZipArchive::new`: the head `open_head` is `open_headG` at the instance
`LayoutG.ofLayout l` of the generalised layout (`Lemmas/ReadWfOrder.lean`); the central-directory loop and the entry
readers are the `RecParses` / `Locals` lemmas of that file at `Layout.listed l`, with `recParses_placed` giving
`RecParses` under `ReadableZ` and `locals_build` giving `Locals`.  Then reading entries
through the archive value `ZipArchive::new` returns (`by_index_raw`, `by_index`), and the ZipCrypto branch of
`by_index_decrypt` (`by_index_with_optional_password` with a password; first on arbitrary bytes,
`runs_byIndexRead_zc_at`): the stored bytes are handed to the cipher together with the check byte (the
CRC's high byte, the entry having no data descriptor), and its output goes through the decoder and the CRC check.
-/

namespace ZipVerif.Model
open ZipVerif ZipVerif.Spec.Zip

/-! ### the central-directory loop -/

/-- **The directory of a list of entries laid out from `loc` on: every record parses to its view**, by a walk over
`ReadableZFrom`, `Fits` and the 2^64 bound on the offsets. -/
theorem recParses_placed (ao : Nat) : ∀ (es : List Entry) (loc : Nat), (∀ e ∈ es, e.Fits) → ReadableZFrom es loc →
    loc + (localsBytes es).length + ao < 2 ^ 64 →
    ∀ p ∈ (placed es loc).map (fun q => (q, ({} : Z64Place))), RecParses ao p := by
  intro es
  induction es with
  | nil => intro _ _ _ _ p hp; cases hp
  | cons e es ih =>
    intro loc hall hz hb p hp
    obtain ⟨⟨hm, hx⟩, hzr⟩ := hz
    rw [localsBytes_cons, List.length_append] at hb
    have hlb : e.gapBefore.length ≤ e.localBytes.length := by
      simp only [Entry.localBytes, List.length_append]; omega
    simp only [placed, List.map_cons, List.mem_cons] at hp
    rcases hp with rfl | hp
    · refine ⟨_, by rw [centralRecordG_default, centralRecord_eq], fun c q => ?_⟩
      rw [viewEntryG_default]
      exact parses_centralInnerZ e _ _ c q (hall e List.mem_cons_self) hx hm
        (by show loc + e.gapBefore.length + ao < _; omega)
    · exact ih _ (fun x hx => hall x (List.mem_cons_of_mem _ hx)) hzr (by omega) p hp

theorem fits_bounds (l : Layout) (hF : l.Fits) :
    l.pre.length + (localsBytes l.entries).length + l.gapBeforeCd.length + l.cdSize + l.end64.length
      + 22 + l.comment.length + l.trailing.length < 2 ^ 63 := by
  have := hF.2.2
  rw [build_length] at this
  simp only [Layout.eocdPos, Layout.cdStart, Layout.cdOffset] at this
  omega

theorem runs_centralLoopZ (l : Layout) (hF : l.Fits) (hR : l.ReadableZ) :
    Runs (readCentralLoop l.pre.length l.entries.length) (build l) l.cdStart (.ok (viewOf l))
      (l.cdStart + (centralBytes l.entries (localOffsets l.entries 0)).length) := by
  have hb := fits_bounds l hF
  have h := (parses_centralLoop_of l.pre.length l.listed l.cdStart
    (recParses_placed _ _ 0 hF.1 hR (by omega))).toRuns
    (by rw [Layout.listed, centralBytesP_placed]; exact drop_cdStart l)
  rwa [Layout.listed, viewListP_placed, centralBytesP_placed, List.length_map, placed_length] at h

theorem end64_eq (l : Layout) (h64 : l.needs64 = true) :
    l.end64 =
      (le32 EOCD64_SIG ++ (le64 44 ++ (le16 l.end64Versions.1 ++ (le16 l.end64Versions.2 ++ (le32 0 ++ (le32 0 ++
        (le64 (UInt64.ofNat l.count) ++ (le64 (UInt64.ofNat l.count) ++ (le64 (UInt64.ofNat l.cdSize) ++
        le64 (UInt64.ofNat l.cdOffset)))))))))) ++
      (le32 LOCATOR_SIG ++ (le32 0 ++ (le64 (UInt64.ofNat (l.cdOffset + l.cdSize)) ++ le32 1))) := by
  simp only [Layout.end64, h64, if_true, List.append_assoc]
  rfl

/-- **The head of `ZipArchive::new` / `new_append` on `build l`**: the backward search finds the end record, and
`get_directory_counts` — through the locator and the ZIP64 end record when the layout has them — the prefix
length, the start of the directory and the number of entries.  The instance `ofLayout` of `open_headG`. -/
theorem open_head (l : Layout) (hF : l.Fits) (hS : NoFalseSig l) (ht : l.trailing = [] ∨ l.needs64 = false)
    (p0 : Nat) :
    ∃ q0 q1, Runs findAndParseEocd (build l) p0 (.ok (eocdOf l, l.eocdPos)) q0 ∧
      Runs (getDirectoryCounts (eocdOf l) l.eocdPos) (build l) q0
        (.ok (l.pre.length, l.cdStart, l.entries.length)) q1 := by
  have h := open_headG (.ofLayout l) (LayoutG.ofLayout_fits l hF) (LayoutG.ofLayout_noFalseSig l hS)
    (by rw [LayoutG.ofLayout_needs64]; exact ht) p0
  rwa [LayoutG.build_ofLayout, LayoutG.ofLayout_eocdOf, LayoutG.ofLayout_eocdPos, LayoutG.ofLayout_count] at h

theorem eocdOf_disk (l : Layout) :
    (!(eocdOf l).recordTooSmall && (eocdOf l).diskNumber != (eocdOf l).diskWithCd) = false := by
  simp [eocdOf]

theorem open_of_loop (l : Layout) (hF : l.Fits) (hS : NoFalseSig l) (ht : l.trailing = [] ∨ l.needs64 = false)
    {files : List FileData} {q : Nat}
    (hloop : Runs (readCentralLoop l.pre.length l.entries.length) (build l) l.cdStart (.ok files) q) (p0 : Nat) :
    Runs openArchive (build l) p0 (.ok { files := files, offset := l.pre.length, comment := l.comment }) q := by
  obtain ⟨q0, q1, hfind, hcnt⟩ := open_head l hF hS ht p0
  exact Runs.openArchive_of_parts (eocdOf_disk l) hfind hcnt hloop

end ZipVerif.Model

/-! ## `by_index_raw`, `by_index` on `build l` -/

namespace ZipVerif.Model
open ZipVerif ZipVerif.Spec.Zip

theorem locals_build (l : Layout) (hF : l.Fits) : Locals (build l) l.pre.length l.listed where
  small := hF.2.2
  at_ p hp := by
    obtain ⟨es1, es2, h1, h3⟩ := l.mem_listed hp
    obtain ⟨rest, hrest⟩ := drop_local l es1 es2 p.1.1 h1
    exact ⟨hF.1 _ (by rw [h1]; simp), rest, by rw [← hrest]; congr 1; omega⟩

/-- Everything the entry readers need to know about entry `i` of `build l`. -/
theorem entry_at (l : Layout) (hF : l.Fits) (i : Nat) (e : Entry) (he : l.entries[i]? = some e) :
    ∃ off chs rest, (localOffsets l.entries 0)[i]? = some off ∧
      (archiveOf l).files[i]? = some (viewEntry e off l.pre.length chs) ∧
      (build l).drop (off + l.pre.length) = localRecord e ++ (e.data ++ rest) ∧
      off + l.pre.length + (localRecord e).length + e.data.length < 2 ^ 63 := by
  obtain ⟨off, h1, h2⟩ := l.listed_getElem he
  obtain ⟨chs, rest, h3, h4, h5, _⟩ := (locals_build l hF).entry (a := archiveOf l) (chs0 := l.cdStart)
    (viewListP_placed _ _ _ _).symm h2
  exact ⟨off, chs, rest, h1, by rw [← viewEntryG_default]; exact h3, h4, h5⟩

theorem runs_byIndexRaw (l : Layout) (hF : l.Fits) (i : Nat) (e : Entry) (he : l.entries[i]? = some e)
    (p0 : Nat) :
    ∃ off, (localOffsets l.entries 0)[i]? = some off ∧
      Runs (byIndexRaw (archiveOf l) i) (build l) p0 (.ok (e.dataStart off l.pre.length, e.data))
        (e.dataStart off l.pre.length + e.data.length) := by
  obtain ⟨off, chs, rest, h1, h2, h3, h4⟩ := entry_at l hF i e he
  exact ⟨off, h1, runs_byIndexRaw_at e off _ h2 rfl rfl (hF.1 e (List.mem_of_getElem? he)) h3 h4 p0⟩

theorem runs_byIndexRead (ext : Ext) (l : Layout) (hF : l.Fits) (i : Nat) (e : Entry)
    (he : l.entries[i]? = some e) (pw : Option Bytes)
    (henc : (e.flagsOut &&& 1 == 1) = false) (hdec : (Method.fromU16 e.method).decodable = true)
    (p0 : Nat) :
    ∃ off, (localOffsets l.entries 0)[i]? = some off ∧
      Runs (byIndexRead ext (archiveOf l) i pw) (build l) p0
        (.ok (.ok (e.dataStart off l.pre.length,
          ext.decode (Method.fromU16 e.method) e.data >>= fun dec => crcCheck false e.crc dec)))
        (e.dataStart off l.pre.length + e.data.length) := by
  obtain ⟨off, chs, rest, h1, h2, h3, h4⟩ := entry_at l hF i e he
  exact ⟨off, h1, runs_byIndexRead_at ext e off _ h2 rfl rfl rfl henc rfl rfl (hF.1 e (List.mem_of_getElem? he)) h3 h4 pw
    hdec p0⟩

theorem runs_byIndexRead_unsupported (ext : Ext) (l : Layout) (hF : l.Fits) (i : Nat) (e : Entry)
    (he : l.entries[i]? = some e) (pw : Option Bytes)
    (hpw : (pw.isNone && (e.flagsOut &&& 1 == 1)) = false) (v : UInt16)
    (hm : Method.fromU16 e.method = .unsupported v) (p0 : Nat) :
    ∃ q, Runs (byIndexRead ext (archiveOf l) i pw) (build l) p0 (.err .unsupportedArchive) q := by
  obtain ⟨off, chs, rest, h1, h2, h3, h4⟩ := entry_at l hF i e he
  refine ⟨e.dataStart off l.pre.length, ?_⟩
  rw [byIndexRead_eq_open]
  refine Runs.bind (runs_byIndexOpen_at e off _ h2 rfl (hF.1 e (List.mem_of_getElem? he)) h3 (by omega) pw hpw p0) ?_
  rw [cryptoChoice_eq, show (viewEntry e off l.pre.length chs).method = .unsupported v from hm]
  exact Runs.throw _

end ZipVerif.Model

/-! ## `by_index_decrypt` on a ZipCrypto entry of `build l` -/

namespace ZipVerif.Model
open ZipVerif ZipVerif.Spec.Zip

theorem runs_readChoice_zipCrypto (ext : Ext) (data : FileData) (ds : Nat) {B x rest : Bytes} {p : Nat}
    (pw : Bytes) (v : Validator) (pt : Bytes) (hcs : data.compressedSize.toNat = x.length)
    (h : B.drop p = x ++ rest) (hzc : ext.zipCrypto pw v.checkByte x = .ok (some pt)) :
    Runs (readChoice ext data ds (.zipCrypto pw v)) B p
      (.ok (.ok (ds, ext.decode data.method pt >>= fun dec => crcCheck false data.crc32 dec))) (p + x.length) := by
  unfold readChoice
  rw [hcs]
  refine Runs.bind (runs_takeAll h) ?_
  rw [hzc]
  exact Runs.pure _

theorem runs_byIndexRead_zc_at (ext : Ext) {B rest : Bytes} {a : Archive} {i : Nat} {v : FileData} (e : Entry)
    (off pre : Nat) (hi : a.files[i]? = some v) (hs : v.headerStart = UInt64.ofNat (off + pre))
    (hcs : v.compressedSize = e.csize) (hm : v.method = Method.fromU16 e.method) (henc : v.encrypted = true)
    (hdd : v.usingDataDescriptor = false) (ha : v.aesMode = none) (hc : v.crc32 = e.crc) (hf : e.Fits)
    (hd : B.drop (off + pre) = localRecord e ++ (e.data ++ rest))
    (hb : off + pre + (localRecord e).length + e.data.length < 2 ^ 63) (pw pt : Bytes)
    (hzc : ext.zipCrypto pw (e.crc >>> 24).toUInt8 e.data = .ok (some pt))
    (hdec : (Method.fromU16 e.method).decodable = true) (p0 : Nat) :
    Runs (byIndexRead ext a i (some pw)) B p0
      (.ok (.ok (e.dataStart off pre,
        ext.decode (Method.fromU16 e.method) pt >>= fun dec => crcCheck false e.crc dec)))
      (e.dataStart off pre + e.data.length) := by
  rw [byIndexRead_eq_open]
  refine Runs.bind (runs_byIndexOpen_at e off pre hi hs hf hd (by omega) _ (by rw [henc]; rfl) p0) ?_
  rw [cryptoChoice_eq, hm, hdec, if_pos rfl, henc, if_pos rfl, ha, hdd, ← hm, ← hc]
  exact runs_readChoice_zipCrypto ext v _ pw (.pkzipCrc32 v.crc32) pt
    (by rw [hcs]; exact U64.toNat_ofNat (by omega)) (drop_dataStart hd) (hc ▸ hzc)

theorem runs_byIndexRead_zc (ext : Ext) (l : Layout) (hF : l.Fits) (i : Nat) (e : Entry)
    (he : l.entries[i]? = some e) (pw : Bytes)
    (henc : (e.flagsOut &&& 1 == 1) = true) (hdd : (e.flagsOut &&& 0x0008 != 0) = false)
    (hdec : (Method.fromU16 e.method).decodable = true) (pt : Bytes)
    (hzc : ext.zipCrypto pw (e.crc >>> 24).toUInt8 e.data = .ok (some pt)) (p0 : Nat) :
    ∃ off, (localOffsets l.entries 0)[i]? = some off ∧
      Runs (byIndexRead ext (archiveOf l) i (some pw)) (build l) p0
        (.ok (.ok (e.dataStart off l.pre.length,
          ext.decode (Method.fromU16 e.method) pt >>= fun dec => crcCheck false e.crc dec)))
        (e.dataStart off l.pre.length + e.data.length) := by
  obtain ⟨off, chs, rest, h1, h2, h3, h4⟩ := entry_at l hF i e he
  exact ⟨off, h1, runs_byIndexRead_zc_at ext e off _ h2 rfl rfl rfl henc hdd rfl rfl
    (hF.1 e (List.mem_of_getElem? he)) h3 h4 pw pt hzc hdec p0⟩

end ZipVerif.Model
