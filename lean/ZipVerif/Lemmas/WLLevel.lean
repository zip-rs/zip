import ZipVerif.Lemmas.WL2Steps
import ZipVerif.Props.C12
/-
What Level 1 (`Lemmas/WLRun.lean`) and Level 2 (`Lemmas/WL2Run.lean`) of the "writer emits a layout"
development share above the step lemmas.  Both track the writer by a ghost with the same five kinds of
state (idle / one entry open / poisoned / stuck / lost); the last three mean the same at both levels,
and the levels differ only in what they record of the open entry.  A `Level` is such a ghost with its
invariant `L`, the laws by which the three shared states satisfy `L` (`L_dead`, `L_stuck`, `L_lost`), the `comment` law
(a ghost that closes knows the writer's comment) and ONE law about the model: what `finish_file` makes of a writer in
step with the ghost, as a `FinRes`.  From that law and the three about the shared states follows everything a call
that runs `start_entry` does before its own continuation (`Level.start_call`), from it and `comment` `finish` / `Drop`
on a ghost that closes (`Level.finish`, `Level.drop`).
Also here: the fold of a ghost step over a script (`IsFold`) with its two inductions.
-/

namespace ZipVerif.WL
open ZipVerif ZipVerif.Model ZipVerif.Spec.Zip
open ZipVerif.Props.C12 (Call step runCalls outcomeOf)

/-- What `finish_file` makes of a ghost: the open entry closed (`ok`: the closed entries, the dead bytes behind them); an
error that changes nothing (`unchanged`: Level 2 only, the implicit `end_extra_data` refusing the extra data); the
writer poisoned, stuck, or nothing claimed any further (`lost`). -/
inductive FinRes
  | ok (es : List Spec.Zip.Entry) (gap : Bytes)
  | unchanged
  | dead
  | stuck (ss n : Nat) (wf : Bool)
  | lost

/-- What `finish_file` leaves, by its result on the ghost; `X` is what else a level knows of the state
after a success (Level 2: `centralOnly = false`). -/
def FinPostG (X : WState → Prop) (r : Nat) (c : Bytes) (s : WState) (d : Dev) :
    FinRes → Except ZErr Unit × WState → Dev → Prop
  | .ok es gap, rs, d' => FinPost es gap r c rs d' ∧ X rs.2
  | .unchanged, rs, d' => (∃ e, rs.1 = .error e) ∧ rs.2 = s ∧ d' = d
  | .dead, rs, _ => (∃ e, rs.1 = .error e) ∧ rs.2.inner = .closed
  | .stuck ss n wf, rs, d' => (∃ e, rs.1 = .error e) ∧ Stuck ss n wf rs.2 d'
  | .lost, _, _ => True

/-- A level of the development: ghost states `γ` with the invariant `L`.  `dead`, `stuck`, `lost` are the
states that mean the same at every level (writer poisoned / stuck on an entry it cannot close / nothing
claimed); `fin` is what `finish_file` makes of a ghost, and `finishFile` the one law that ties it to the
writer's model (`comment`: a ghost that closes expects the comment the writer holds). -/
structure Level (ext : WExt) (r : Nat) (γ : Type) where
  /-- ghost, writer and sink are in step (`r` bounds the stale bytes behind the live part of the sink) -/
  L : γ → WState → Dev → Prop
  fin : γ → FinRes
  /-- the archive comment the ghost expects -/
  cmt : γ → Bytes
  dead : γ
  lost : γ
  stuck : Nat → Nat → Bool → γ
  /-- what else the level knows of the writer after a successful `finish_file` -/
  X : WState → Prop
  L_dead : ∀ {s d}, s.inner = .closed → L dead s d
  L_stuck : ∀ {ss n wf s d}, Stuck ss n wf s d → L (stuck ss n wf) s d
  L_lost : ∀ {s d}, L lost s d
  comment : ∀ {g s d es gap}, L g s d → fin g = .ok es gap → s.comment = cmt g
  finishFile : ∀ {g s d}, L g s d → WSat (finishFile ext s) none d (FinPostG X r (cmt g) s d (fin g))

variable {ext : WExt} {r : Nat} {γ : Type}

/-- The ghost of a call that runs `start_entry`: a too-long name is refused without effect; otherwise
the open entry is finished (which may be refused, poison the writer, or get it stuck) and `after` says
what the rest of the call makes of the closed archive. -/
def Level.startG (ℓ : Level ext r γ) (g : γ) (name : Bytes) (after : List Spec.Zip.Entry → Bytes → γ) : γ :=
  if name.length > 65535 then g else
  match ℓ.fin g with
  | .unchanged => g
  | .dead => ℓ.dead
  | .stuck ss n wf => ℓ.stuck ss n wf
  | .lost => ℓ.lost
  | .ok es gap => after es gap

theorem _root_.ZipVerif.Model.WSat.of_forall {β} {x : M (Except ZErr β × WState)} {fa : Option Nat} {d : Dev}
    {Q : Except ZErr β × WState → Dev → Prop} (h : ∀ rs d', Q rs d') : WSat x fa d Q :=
  (WSat.trivial x fa d).mono fun _ _ _ => h _ _

/-- **Every call that runs `start_entry`**, at any level: `k` is the rest of the call (it passes an error
through), `after` its ghost; `k` starts from what `start_entry` leaves behind the closed archive. -/
theorem Level.start_call {β} (ℓ : Level ext r γ) (name : Bytes) (o : FileOptions)
    (raw : Option (UInt32 × UInt64 × UInt64)) {g : γ} {s : WState} {d : Dev} (h : ℓ.L g s d)
    (k : Except ZErr Unit × WState → M (Except ZErr β × WState))
    (herr : ∀ e s', k (.error e, s') = pure (.error e, s'))
    (after : Except ZErr β → List Spec.Zip.Entry → Bytes → γ)
    (hk : ∀ es gap rs1 d1, ℓ.fin g = .ok es gap → StartCore name o raw es gap r (ℓ.cmt g) ℓ.X rs1 d1 →
      WSat (k rs1) none d1 (fun rs d' => ℓ.L (after rs.1 es gap) rs.2 d')) :
    WSat (startEntry ext name o raw s >>= k) none d (fun rs d' =>
      ℓ.L (ℓ.startG g name (after rs.1)) rs.2 d') := by
  by_cases hn : name.length > 65535
  · have e1 : startEntry ext name o raw s = pure (.error .invalidArchive, s) := by
      unfold startEntry; rw [if_pos hn]
    rw [e1]
    show WSat (k (.error .invalidArchive, s)) none d _
    rw [herr]
    apply WSat.pure
    simp only [Level.startG, if_pos hn]
    exact h
  · have hfin := ℓ.finishFile h
    simp only [Level.startG, if_neg hn]
    -- `finish_file` fails: the call fails with it
    have hfail : ∀ (G : γ), (∀ rs d', FinPostG ℓ.X r (ℓ.cmt g) s d (ℓ.fin g) rs d' →
        (∃ e, rs.1 = .error e) ∧ ℓ.L G rs.2 d') →
        WSat (startEntry ext name o raw s >>= k) none d (fun rs d' => ℓ.L G rs.2 d') := by
      intro G hG
      apply WSat.bind
      unfold startEntry
      rw [if_neg hn]
      apply WSat.bind
      apply WSat.mono hfin
      intro ⟨r1, s1⟩ d1 hq
      obtain ⟨⟨e, he⟩, hl⟩ := hG _ _ hq
      dsimp only at he hl ⊢
      subst he
      apply WSat.pure
      rw [herr]
      exact WSat.pure hl
    cases hf : ℓ.fin g with
    | unchanged =>
      apply hfail
      intro rs d' hq
      rw [hf] at hq
      obtain ⟨he, h2, h3⟩ := hq
      rw [h2, h3]
      exact ⟨he, h⟩
    | dead => exact hfail _ fun rs d' hq => by rw [hf] at hq; exact ⟨hq.1, ℓ.L_dead hq.2⟩
    | stuck ss n wf => exact hfail _ fun rs d' hq => by rw [hf] at hq; exact ⟨hq.1, ℓ.L_stuck hq.2⟩
    | lost => exact WSat.of_forall fun _ _ => ℓ.L_lost
    | ok es gap =>
      apply WSat.bind
      apply WSat.mono (startEntry_core ext name o raw hn (hfin.mono fun rs d' hq => by rw [hf] at hq; exact hq))
      intro rs1 d1 hp
      exact hk es gap rs1 d1 hf hp

/-! ### `finish`, `Drop` -/

theorem finish_long_comment (ext : WExt) (s : WState) (h : s.comment.length > 65535) :
    finish ext s = pure (.error .invalidArchive, s) := by
  unfold finish finalize
  rw [if_pos h]
  rfl

/-- What `finalize` (the body of `finish` and of `Drop`) leaves in the sink. -/
def FinalPost (es : List Spec.Zip.Entry) (gap c : Bytes) (r : Nat) (s : WState) (d : Dev) :
    Except ZErr Unit × WState → Dev → Prop :=
  fun rs d' =>
    if c.length > 65535 then rs.1 = .error .invalidArchive ∧ rs.2 = s ∧ d' = d
    else rs.1 = .ok () ∧ LiveAt d' d'.pos (build (layoutOf es gap c [])) r

/-- `finish`, from what `finish_file` does: it fails without writing anything when the comment is too
long, and otherwise SUCCEEDS, leaving exactly the layout in the live part of the sink and the writer
closed. -/
theorem finish_of_finishFile (ext : WExt) {es : List Spec.Zip.Entry} {gap : Bytes} {r : Nat} {s : WState}
    {d : Dev} (hfin : WSat (finishFile ext s) none d (FinPost es gap r s.comment)) :
    WSat (finish ext s) none d (fun rs d' =>
      FinalPost es gap s.comment r s d rs d' ∧ (rs.1 = .ok () → rs.2.inner = .closed)) := by
  unfold FinalPost
  by_cases hc : s.comment.length > 65535
  · rw [finish_long_comment ext s hc]
    apply WSat.pure
    rw [if_pos hc]
    exact ⟨⟨rfl, rfl, rfl⟩, fun h' => by cases h'⟩
  · simp only [if_neg hc]
    unfold finish
    apply WSat.bind
    apply WSat.mono (finalize_lay ext hc hfin)
    intro ⟨r1, s1⟩ d1 ⟨hok, hin, hl⟩
    dsimp only at hok hin hl ⊢
    subst hok
    dsimp only
    simp only [hin]
    exact WSat.pure ⟨⟨rfl, hl⟩, fun _ => rfl⟩

/-- The same for `Drop` (which discards the result of `finalize`; after a SUCCESSFUL finalisation the
writer is a plain storer, so dropping its fields writes nothing). -/
theorem drop_of_finishFile (ext : WExt) {es : List Spec.Zip.Entry} {gap : Bytes} {r : Nat} {s : WState}
    {d : Dev} (hncl : s.inner.isClosed = false) (hclen : ¬ s.comment.length > 65535)
    (hfin : WSat (finishFile ext s) none d (FinPost es gap r s.comment)) :
    WSat (dropWriter ext s) none d (fun rs d' =>
      rs.1 = .ok () ∧ LiveAt d' d'.pos (build (layoutOf es gap s.comment [])) r) := by
  unfold dropWriter
  rw [hncl]
  simp only [Bool.false_eq_true, if_false]
  apply WSat.bind
  apply WSat.mono (finalize_lay ext hclen hfin)
  intro ⟨r1, s1⟩ d1 ⟨hok, hin, hl⟩
  dsimp only at hin ⊢
  unfold dropInner
  simp only [hin]
  exact WSat.pure ⟨rfl, hl⟩

/-- A writer whose ghost closes is not poisoned: on a poisoned writer `finish_file` fails. -/
theorem Level.not_closed (ℓ : Level ext r γ) {g : γ} {s : WState} {d : Dev} (h : ℓ.L g s d)
    {es : List Spec.Zip.Entry} {gap : Bytes} (hf : ℓ.fin g = .ok es gap) : s.inner.isClosed = false := by
  cases hi : s.inner with
  | closed =>
    obtain ⟨e, he⟩ := finishFile_closed ext hi
    have := ℓ.finishFile h
    rw [he, hf] at this
    have h1 : FinPostG ℓ.X r (ℓ.cmt g) s d (.ok es gap) (.error e, s) d := this.elim rfl
    exact nomatch h1.1.1
  | _ => rfl

theorem Level.finish (ℓ : Level ext r γ) {g : γ} {s : WState} {d : Dev} (h : ℓ.L g s d)
    {es : List Spec.Zip.Entry} {gap : Bytes} (hf : ℓ.fin g = .ok es gap) :
    WSat (finish ext s) none d (fun rs d' =>
      FinalPost es gap (ℓ.cmt g) r s d rs d' ∧ (rs.1 = .ok () → rs.2.inner = .closed)) := by
  have hc := ℓ.comment h hf
  rw [← hc]
  exact finish_of_finishFile ext ((ℓ.finishFile h).mono fun rs d' hq => by rw [hf, ← hc] at hq; exact hq.1)

/-- **`Drop`** on a writer whose ghost closes and whose comment fits: `finalize` succeeds, leaves the
plain storer behind (dropping the fields then writes nothing), and the live part of the sink is the layout. -/
theorem Level.drop (ℓ : Level ext r γ) {g : γ} {s : WState} {d : Dev} (h : ℓ.L g s d)
    {es : List Spec.Zip.Entry} {gap : Bytes} (hf : ℓ.fin g = .ok es gap)
    (hclen : ¬ (ℓ.cmt g).length > 65535) :
    WSat (dropWriter ext s) none d (fun rs d' =>
      rs.1 = .ok () ∧ LiveAt d' d'.pos (build (layoutOf es gap (ℓ.cmt g) [])) r) := by
  have hc := ℓ.comment h hf
  rw [← hc] at hclen ⊢
  exact drop_of_finishFile ext (ℓ.not_closed h hf) hclen
    ((ℓ.finishFile h).mono fun rs d' hq => by rw [hf, ← hc] at hq; exact hq.1)

/-! ### Scripts -/

/-- `F` folds the ghost step `gs` over a script and the outcomes of its calls, as far as both go. -/
structure IsFold {γ : Type} (gs : γ → Call → Out (Option Nat) → γ)
    (F : γ → List Call → List (Out (Option Nat)) → γ) : Prop where
  cons : ∀ g c cs o os, F g (c :: cs) (o :: os) = F (gs g c o) cs os
  nilCalls : ∀ g os, F g [] os = g
  nilOuts : ∀ g cs, F g cs [] = g

theorem IsFold.induct {gs : γ → Call → Out (Option Nat) → γ} {F : γ → List Call → List (Out (Option Nat)) → γ}
    (hF : IsFold gs F) {A : Call → Prop} {P : γ → Prop} (hstep : ∀ g c out, A c → P g → P (gs g c out)) :
    ∀ (calls : List Call) (outs : List (Out (Option Nat))) (g : γ),
      (∀ c ∈ calls, A c) → P g → P (F g calls outs)
  | [], outs, g, _, h => by rw [hF.nilCalls]; exact h
  | _ :: _, [], g, _, h => by rw [hF.nilOuts]; exact h
  | c :: cs, o :: os, g, hc, h => by
    rw [hF.cons]
    exact hF.induct hstep cs os _ (fun c' h' => hc c' (List.mem_cons_of_mem _ h'))
      (hstep g c o (hc c List.mem_cons_self) h)

/-- Induction over the call list (fault-free sink), for any ghost: `L` relates ghost, writer and sink;
what every call keeps, the run keeps.
`Inv` (C12) and admissibility of the calls (timestamps of the public API) are only used to exclude a
device-level error escaping from a call; nothing is claimed after a panic. -/
theorem run_keeps {γ : Type} (ext : WExt) {A : Call → Prop} {gs : γ → Call → Out (Option Nat) → γ}
    {F : γ → List Call → List (Out (Option Nat)) → γ} {L : γ → WState → Dev → Prop}
    (hF : IsFold gs F) (hadm : ∀ c, A c → c.Admissible)
    (hstep : ∀ c, A c → ∀ g s d, L g s d →
      WSat (step ext c s) none d (fun rs d' => L (gs g c (outcomeOf rs.1)) rs.2 d'))
    (hpanic : ∀ g c site s d, L (gs g c (.panic site)) s d) (calls : List Call) (hc : ∀ c ∈ calls, A c) :
    ∀ (g : γ) (s : WState) (d : Dev), Inv s → L g s d →
      L (F g calls (runCalls ext calls s none d).1) (runCalls ext calls s none d).2.1
        (runCalls ext calls s none d).2.2 := by
  induction calls with
  | nil => intro g s d _ h; show L (F g [] []) s d; rw [hF.nilOuts]; exact h
  | cons c cs ih =>
    intro g s d hI h
    have hstep := hstep c (hc c (by simp)) g s d h
    have hinv := Props.C12.inv_step ext c (hadm c (hc c (by simp))) s hI none d
    have ih' := ih (fun c' h' => hc c' (by simp [h']))
    unfold Sat at hinv
    unfold runCalls
    split
    · next v s' d' heq =>
      rw [heq] at hinv
      rw [hF.cons]
      exact ih' _ s' d' hinv (hstep.elim heq)
    · next e s' d' heq =>
      rw [heq] at hinv
      rw [hF.cons]
      exact ih' _ s' d' hinv (hstep.elim heq)
    · next e d' heq =>
      rw [heq] at hinv
      exact hinv.elim
    · next site d' heq =>
      rw [hF.cons, hF.nilOuts]
      exact hpanic g c site s d'

end ZipVerif.WL
