import ZipVerif.Lemmas.WLSteps
import ZipVerif.Lemmas.ExtraGrammar
/-
Level 2 of the "writer emits a layout" development (the whole call alphabet: extra-data mode, aligned
files, the ZipCrypto option) — record level: the extra-field length of the local header.  (What
`validate_extra_data` establishes is in `Lemmas/ExtraGrammar.lean`; the local header with an extra-field length
and its back-patches are in `Lemmas/WLRecords.lean`, for both levels.)
-/

namespace ZipVerif.WL
open ZipVerif ZipVerif.Model ZipVerif.Spec.Zip

theorem localExtraLen_val {f : FileData} (h : f.extraField.length + z64len f ≤ 65535) :
    localExtraLen f = .ok (UInt16.ofNat (z64len f + f.extraField.length)) := by
  unfold localExtraLen
  unfold z64len at h ⊢
  have e1 : f.extraField.length % 65536 = f.extraField.length := Nat.mod_eq_of_lt (by omega)
  dsimp only
  rw [e1]
  cases hl : f.largeFile
  · rw [hl] at h
    simp only [Bool.false_eq_true, if_false] at h ⊢
    rw [if_pos (by omega)]
  · rw [hl] at h
    simp only [if_true] at h ⊢
    rw [if_pos (by omega)]

end ZipVerif.WL
