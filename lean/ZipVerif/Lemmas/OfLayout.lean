import ZipVerif.Lemmas.ReadWfOrder
/-
The plain layouts are the instance "identity order, defaults" of the generalised ones: `buildG (ofLayout l) = build l`,
`viewOfG (ofLayout l) = viewOf l`, and what the hypotheses and the positions of the one become for the other.
`Layout.listed l` is the directory list of that instance (`cdList_ofLayout`): the entries in file order at their
offsets, each with the default place of the ZIP64 record; `Lemmas/ReadWf` takes `RecParses` / `Locals` at it.
-/

namespace ZipVerif.Spec.Zip
open ZipVerif ZipVerif.Model

theorem placeOf_ofLayout (l : Layout) (i : Nat) : (LayoutG.ofLayout l).placeOf i = {} := by
  simp [LayoutG.placeOf, LayoutG.ofLayout]

theorem filterMap_getElem_of_isSome {α β} (f : α → Option β) : ∀ (l : List α) (i : Nat),
    (∀ x ∈ l, (f x).isSome) → (l.filterMap f)[i]? = l[i]?.bind f := by
  intro l
  induction l with
  | nil => intro i _; simp
  | cons a l ih =>
    intro i h
    have ha := h a (List.mem_cons_self)
    obtain ⟨b, hb⟩ := Option.isSome_iff_exists.mp ha
    rw [List.filterMap_cons_some hb]
    cases i with
    | zero => simp [hb]
    | succ i => simpa using ih i (fun x hx => h x (List.mem_cons_of_mem _ hx))

theorem filterMap_range_getElem {α} (l : List α) :
    (List.range l.length).filterMap (fun i => l[i]?) = l := by
  apply List.ext_getElem?
  intro i
  rw [filterMap_getElem_of_isSome _ _ _ (fun x hx => by
    have : x < l.length := by simpa using hx
    simp [List.getElem?_eq_getElem this])]
  by_cases h : i < l.length
  · simp [List.getElem?_range h]
  · have h' : l.length ≤ i := Nat.le_of_not_lt h
    simp [List.getElem?_eq_none h', List.getElem?_eq_none (by simpa using h' : (List.range l.length).length ≤ i)]

theorem cdList_ofLayout (l : Layout) :
    (LayoutG.ofLayout l).cdList = (placed l.entries 0).map fun p => (p, ({} : Z64Place)) := by
  unfold LayoutG.cdList
  simp only [placeOf_ofLayout]
  have := filterMap_range_getElem (placed l.entries 0)
  rw [placed_length] at this
  have hm : (List.range l.entries.length).filterMap
        (fun i => ((placed l.entries 0)[i]?).map fun p => (p, ({} : Z64Place))) =
      ((List.range l.entries.length).filterMap fun i => (placed l.entries 0)[i]?).map
        fun p => (p, ({} : Z64Place)) := by
    rw [List.map_filterMap]
  exact hm.trans (by rw [this])

theorem centralBytesP_placed : ∀ (es : List Entry) (loc : Nat),
    centralBytesP ((placed es loc).map fun p => (p, ({} : Z64Place))) = centralBytes es (localOffsets es loc) := by
  intro es
  induction es with
  | nil => intro _; rfl
  | cons e es ih =>
    intro loc
    simp [placed, localOffsets, centralBytesP, centralBytes, ih, centralRecordG_default]

theorem viewListP_placed (pre : Nat) : ∀ (es : List Entry) (loc chs : Nat),
    viewListP pre ((placed es loc).map fun p => (p, ({} : Z64Place))) chs = viewList pre es loc chs := by
  intro es
  induction es with
  | nil => intro _ _; rfl
  | cons e es ih =>
    intro loc chs
    simp [placed, viewListP, viewList, ih, centralRecordG_default, viewEntryG_default]

theorem placed_getElem_of : ∀ (es : List Entry) (loc j : Nat) (e : Entry), es[j]? = some e →
    ∃ off, (localOffsets es loc)[j]? = some off ∧ (placed es loc)[j]? = some (e, off) := by
  intro es
  induction es with
  | nil => intro loc j e h; simp at h
  | cons x es ih =>
    intro loc j e h
    cases j with
    | zero =>
      simp only [List.getElem?_cons_zero, Option.some.injEq] at h
      subst h
      exact ⟨loc + x.gapBefore.length, by simp [localOffsets], by simp [placed]⟩
    | succ j =>
      simp only [List.getElem?_cons_succ] at h
      obtain ⟨off, h1, h2⟩ := ih (loc + x.localBytes.length) j e h
      exact ⟨off, by simpa [localOffsets] using h1, by simpa [placed] using h2⟩

/-- the directory of a plain layout: every entry, in the order of the local records, the ZIP64 record in front -/
def Layout.listed (l : Layout) : List Listed := (placed l.entries 0).map fun p => (p, ({} : Z64Place))

theorem Layout.mem_listed (l : Layout) {p : Listed} (hp : p ∈ l.listed) :
    ∃ es1 es2, l.entries = es1 ++ p.1.1 :: es2 ∧ p.1.2 = 0 + (localsBytes es1).length + p.1.1.gapBefore.length := by
  obtain ⟨q, hq, rfl⟩ := List.mem_map.mp hp
  obtain ⟨i, hi⟩ := List.getElem?_of_mem hq
  obtain ⟨es1, es2, h1, _, h3⟩ := placed_getElem l.entries 0 i q hi
  exact ⟨es1, es2, h1, h3⟩

theorem Layout.listed_getElem (l : Layout) {i : Nat} {e : Entry} (he : l.entries[i]? = some e) :
    ∃ off, (localOffsets l.entries 0)[i]? = some off ∧ l.listed[i]? = some ((e, off), {}) := by
  obtain ⟨off, h1, h2⟩ := placed_getElem_of l.entries 0 i e he
  exact ⟨off, h1, by simp [Layout.listed, h2]⟩

/-- for a plain layout the fourth clause of `LayoutG.Fits` follows from `Entry.Fits` -/
theorem LayoutG.fits4_ofLayout (l : Layout) (h : ∀ e ∈ l.entries, e.Fits) :
    ∀ q ∈ (LayoutG.ofLayout l).cdList, (q.1.1.centralExtraAllG (UInt64.ofNat q.1.2) q.2).length ≤ 0xFFFF := by
  intro q hq
  obtain ⟨es1, es2, h1, _⟩ := mem_cdList _ q hq
  have hm : q.1.1 ∈ l.entries := by
    have : (LayoutG.ofLayout l).base.entries = l.entries := rfl
    rw [← this, h1]; simp
  have hf := (h _ hm).2.2.2.1
  have hl := centralExtraAllG_length q.1.1 (UInt64.ofNat q.1.2) q.2
  have hq2 : q.2 = {} := by
    simp only [LayoutG.cdList, List.mem_filterMap, Option.map_eq_some_iff] at hq
    obtain ⟨i, _, p, _, hp⟩ := hq
    rw [← hp]
    exact placeOf_ofLayout l i
  rw [hq2] at hl ⊢
  have hz : (q.1.1.centralZ64G (UInt64.ofNat q.1.2) none).length ≤ 28 := by
    rw [centralZ64G_none]; exact centralZ64_length_le _ _
  have hd : ({} : Z64Place).disk = none := rfl
  rw [hd] at hl
  omega

namespace LayoutG
variable (l : Layout)

theorem ofLayout_cdBytes : (ofLayout l).cdBytes = l.cdBytes := by
  unfold LayoutG.cdBytes Layout.cdBytes
  rw [cdList_ofLayout, centralBytesP_placed]

theorem ofLayout_cdSize : (ofLayout l).cdSize = l.cdSize := by
  unfold LayoutG.cdSize Layout.cdSize; rw [ofLayout_cdBytes]

theorem ofLayout_count : (ofLayout l).cdList.length = l.entries.length := by
  rw [cdList_ofLayout, List.length_map, placed_length]

theorem ofLayout_needs64 : (ofLayout l).needs64 = l.needs64 := by
  unfold LayoutG.needs64 Layout.needs64 LayoutG.count Layout.count
  rw [ofLayout_cdSize, ofLayout_count]; rfl

theorem ofLayout_gap : (ofLayout l).gap = [] := by
  unfold LayoutG.gap; cases (ofLayout l).needs64 <;> rfl

theorem ofLayout_end64Off : (ofLayout l).end64Off = l.cdOffset + l.cdSize := by
  unfold LayoutG.end64Off; rw [ofLayout_gap, ofLayout_cdSize]; rfl

theorem ofLayout_end64 : (ofLayout l).end64 = l.end64 := by
  unfold LayoutG.end64 Layout.end64 LayoutG.count Layout.count
  rw [ofLayout_needs64, ofLayout_end64Off, ofLayout_cdSize, ofLayout_count]
  cases l.needs64 <;> simp [LayoutG.ofLayout, LayoutG.cdOffset]

theorem ofLayout_eocdPos : (ofLayout l).eocdPos = l.eocdPos := by
  unfold LayoutG.eocdPos Layout.eocdPos
  rw [ofLayout_gap, ofLayout_end64, ofLayout_cdSize]; rfl

theorem ofLayout_eocdOf : eocdOfG (ofLayout l) = eocdOf l := by
  unfold eocdOfG eocdOf LayoutG.count Layout.count
  rw [ofLayout_cdSize, ofLayout_count]
  simp [LayoutG.ofLayout, LayoutG.cdOffset]

theorem ofLayout_eocd : (ofLayout l).eocd = l.eocd := by
  unfold LayoutG.eocd Layout.eocd LayoutG.count Layout.count
  rw [ofLayout_cdSize, ofLayout_count]
  simp [LayoutG.ofLayout, LayoutG.cdOffset]

theorem build_ofLayout : buildG (ofLayout l) = build l := by
  unfold buildG build
  rw [ofLayout_cdBytes, ofLayout_gap, ofLayout_end64, ofLayout_eocd]
  simp [LayoutG.ofLayout]

theorem view_ofLayout : viewOfG (ofLayout l) = viewOf l := by
  unfold viewOfG viewOf
  rw [cdList_ofLayout, viewListP_placed]
  rfl

theorem ofLayout_fits (hF : l.Fits) : (ofLayout l).Fits :=
  ⟨hF.1, hF.2.1, by rw [build_ofLayout]; exact hF.2.2, fits4_ofLayout l hF.1⟩

theorem ofLayout_noFalseSig (hS : NoFalseSig l) : NoFalseSigG (ofLayout l) := by
  obtain ⟨h1, h2, h3, h4⟩ := hS
  refine ⟨h1, ?_, ?_, ?_⟩
  · rw [build_ofLayout, ofLayout_eocdPos]; exact h2
  · rw [build_ofLayout, ofLayout_needs64]; exact h3
  · rw [build_ofLayout, ofLayout_needs64, ofLayout_end64Off]; exact h4


end LayoutG

end ZipVerif.Spec.Zip
