import ZipVerif.Basic.U64
import ZipVerif.Lemmas.WLRecords
import ZipVerif.Lemmas.WriterValid
/-
Step lemmas of the "writer emits a layout" development: what each internal writer function does to
the sink, on a fault-free device, stated with the low-level predicates `Cl` (all entries closed),
`Op` (one entry open, Level 1) and `OpC` (what `finish_file` needs of an open entry at either level:
`Op.toC` here, `Op2.toC` in `Lemmas/WL2Steps.lean`).  `update_local_file_header`, `finish_file`'s tail and `write`
are stated once, for any local / central extra data and any layering of the sink; `switch_to` flushing a compressor
here on the plain sink (`switchTo_flush`), behind an encrypting layer in `Lemmas/WL2Steps.lean`
(`switchTo_flush_enc`).  Then: the writer that cannot close its entry (`Stuck`), `start_entry` (`startEntry_core` for
any options, `StartCore.post1` without encryption), and `finalize` (`finalize_lay`: central directory and end
records of the layout).  The ghost state and the call-level lemmas are in `Lemmas/WLRun.lean`.
-/

namespace ZipVerif.WL
open ZipVerif ZipVerif.Model ZipVerif.Spec.Zip

/-! ### Low-level predicates -/

/-- All entries are closed: the live part of the sink is the local records of `es` followed by the
dead bytes `gap`; the writer's records are the central images of `es`; the sink is handed back. -/
structure Cl (es : List Spec.Zip.Entry) (gap : Bytes) (r : Nat) (s : WState) (d : Dev) : Prop where
  live : LiveAt d d.pos (localsBytes es ++ gap) r
  closed : ClosedAll es 0 s.files
  inner : s.inner = .storer none
  we : s.writingToExtraField = false

/-- One entry is open: its record `f` is the last one, its header `chunks` and the bytes `sunk`
written after it are in the sink. -/
structure Op (done : List Spec.Zip.Entry) (gap : Bytes) (r : Nat) (f : FileData) (chunks : List Bytes)
    (sunk : Bytes) (s : WState) (d : Dev) : Prop where
  live : LiveAt d d.pos (localsBytes done ++ gap ++ ser chunks ++ sunk) r
  files : ∃ cf, s.files = cf ++ [f] ∧ ClosedAll done 0 cf
  hdr : localHeaderChunks f = .ok chunks
  hs : f.headerStart = UInt64.ofNat ((localsBytes done).length + gap.length)
  hsLt : (localsBytes done).length + gap.length < 18446744073709551616
  xf : f.extraField = []
  udd : f.usingDataDescriptor = false
  we : s.writingToExtraField = false
  ss : s.statsStart = (localsBytes done).length + gap.length + (ser chunks).length

/-- These six fields are unchanged (nothing is said of `inner`, the running checksum, the byte count
and `centralOnly`). -/
structure SameBut (s s' : WState) : Prop where
  files : s'.files = s.files
  ss : s'.statsStart = s.statsStart
  wf : s'.writingToFile = s.writingToFile
  we : s'.writingToExtraField = s.writingToExtraField
  wr : s'.writingRaw = s.writingRaw
  comment : s'.comment = s.comment

theorem Op.frame {done gap r f chunks sunk s d s'} (h : Op done gap r f chunks sunk s d)
    (hf : s'.files = s.files) (hss : s'.statsStart = s.statsStart)
    (hwe : s'.writingToExtraField = s.writingToExtraField) {d' : Dev} {sunk' : Bytes}
    (hl : LiveAt d' d'.pos (localsBytes done ++ gap ++ ser chunks ++ sunk') r) :
    Op done gap r f chunks sunk' s' d' :=
  ⟨hl, by rw [hf]; exact h.files, h.hdr, h.hs, h.hsLt, h.xf, h.udd, by rw [hwe]; exact h.we,
    by rw [hss]; exact h.ss⟩

theorem Op.sameBut {done gap r f chunks sunk s d s'} (h : Op done gap r f chunks sunk s d)
    (hb : SameBut s s') {d' : Dev} {sunk' : Bytes}
    (hl : LiveAt d' d'.pos (localsBytes done ++ gap ++ ser chunks ++ sunk') r) :
    Op done gap r f chunks sunk' s' d' := h.frame hb.files hb.ss hb.we hl

/-- the record at the end of `files` for an open entry that `start_entry` pushed as `f0` -/
def curRec (f0 : FileData) (cx : Bytes) (ds : UInt64) : FileData :=
  { f0 with extraField := cx, dataStart := ds }

def hdrLen (f : FileData) : Nat := 30 + f.fileName.length + z64len f

/-- What closing an open entry needs of it, at either level: header (extra length = ZIP64 record +
`lx`), local extra data `lx` and `sunk` are in the sink; the last record is `f0` with extra field `cx`. -/
structure OpC (done : List Spec.Zip.Entry) (gap : Bytes) (r : Nat) (f0 : FileData) (dp : UInt16)
    (lx cx sunk : Bytes) (s : WState) (d : Dev) : Prop where
  live : LiveAt d d.pos (localsBytes done ++ gap ++
    localHdr2 f0 dp f0.versionNeeded (z64len f0 + lx.length) ++ lx ++ sunk) r
  files : ∃ cf ds, s.files = cf ++ [curRec f0 cx ds] ∧ ClosedAll done 0 cf
  dp : f0.time.datepart = some dp
  hs : f0.headerStart = UInt64.ofNat ((localsBytes done).length + gap.length)
  hsLt : (localsBytes done).length + gap.length < 18446744073709551616
  udd : f0.usingDataDescriptor = false
  ss : s.statsStart = (localsBytes done).length + gap.length + hdrLen f0 + lx.length

theorem OpC.frame {done gap r f0 dp lx cx sunk s d s'} (h : OpC done gap r f0 dp lx cx sunk s d)
    (hf : s'.files = s.files) (hss : s'.statsStart = s.statsStart) {d' : Dev} {sunk' : Bytes}
    (hl : LiveAt d' d'.pos (localsBytes done ++ gap ++
      localHdr2 f0 dp f0.versionNeeded (z64len f0 + lx.length) ++ lx ++ sunk') r) :
    OpC done gap r f0 dp lx cx sunk' s' d' :=
  ⟨hl, by rw [hf]; exact h.files, h.dp, h.hs, h.hsLt, h.udd, by rw [hss]; exact h.ss⟩

theorem Op.toC {done gap r f chunks sunk s d} (h : Op done gap r f chunks sunk s d) :
    ∃ dp, OpC done gap r f dp [] [] sunk s d := by
  obtain ⟨dp, hdp, hser⟩ := ser_localHeaderChunks h.hdr h.xf
  obtain ⟨cf, hfiles, hcl⟩ := h.files
  have hf : curRec f [] f.dataStart = f := by unfold curRec; rw [← h.xf]
  refine ⟨dp, h.live.cast ?_, ⟨cf, f.dataStart, by rw [hf]; exact hfiles, hcl⟩, hdp, h.hs, h.hsLt, h.udd, ?_⟩
  · rw [hser]; simp only [List.length_nil, Nat.add_zero, List.append_nil]
  · rw [h.ss, hser, localHdr2_length]; rfl

/-- the level a compressor for method `m` is created with -/
def effLevel (m : Method) (l : Option Int) : Int :=
  match levelRange m with
  | some (_, _, dflt) => l.getD dflt
  | none => 0

/-- the stored bytes of a finished entry written through the writer -/
def dataOf (ext : WExt) (f : FileData) (plain : Bytes) : Bytes :=
  if f.method = .stored then plain else ext.compress f.method (effLevel f.method f.level) plain

/-! ### `switch_to` -/

theorem switchTo_flush (ext : WExt) (s : WState) (m : Method) (l : Int) (p : Bytes)
    (h : s.inner = .compressor m l none p) (hm : m ≠ .stored) {d : Dev} {L : Bytes} {r : Nat}
    (hl : LiveAt d d.pos L r) :
    WSat (switchTo ext .stored none s) none d (fun rs d' =>
      rs = (.ok (), { s with inner := .storer none }) ∧
      LiveAt d' d'.pos (L ++ ext.compress m l p) r) := by
  rw [switchTo_eq, h]
  dsimp only
  rw [if_neg (by simpa using hm)]
  apply WSat.of_run_eq (Model.emitFinish_none _ _ _ _ _ _)
  unfold Model.emit
  dsimp only
  apply WSat.io_none (MSat.writeAll_append _ none hl); intro _ d' ⟨h1, h2⟩
  exact WSat.pure ⟨rfl, h2.castPos h1.symm⟩

/-- the writer `switch_to` installs for a method, from a plain storer -/
def innerFor (c : Method) (l : Option Int) : Inner :=
  if c = .stored then .storer none else .compressor c (effLevel c l) none []

/-- the methods `switch_to` can install a writer for -/
def writable : Method → Bool
  | .stored | .deflated | .bzip2 | .zstd => true
  | _ => false

/-- the writer `switch_to` installs for a method, from a storer over `enc` -/
def innerFor2 (c : Method) (l : Option Int) (enc : Option EncState) : Inner :=
  if c = .stored then .storer enc else .compressor c (effLevel c l) enc []

theorem innerFor2_none (c : Method) (l : Option Int) : innerFor2 c l none = innerFor c l := rfl

theorem switchPick_accepted {c : Method} {l : Option Int} (hc : c ≠ .stored) (hr : ¬ Refused c l)
    (enc : Option EncState) : switchPick c l enc = (.ok (), innerFor2 c l enc) := by
  cases c with
  | stored => exact absurd rfl hc
  | aes => exact absurd trivial hr
  | unsupported v => exact absurd trivial hr
  | deflated => exact if_pos (Decidable.not_not.mp hr)
  | bzip2 => exact if_pos (Decidable.not_not.mp hr)
  | zstd => exact if_pos (Decidable.not_not.mp hr)

theorem switchTo_from_storer (ext : WExt) (c : Method) (l : Option Int) (s : WState)
    (enc : Option EncState) (h : s.inner = .storer enc) :
    (switchTo ext c l s = pure (.ok (), { s with inner := innerFor2 c l enc }) ∧ writable c = true ∧
      ¬ Refused c l) ∨
    ((∃ e, switchTo ext c l s = pure (.error e, { s with inner := .closed })) ∧ Refused c l) := by
  by_cases hr : Refused c l
  · exact .inr ⟨⟨_, switchTo_refuses ext c l s enc h hr⟩, hr⟩
  · refine .inl ⟨?_, ?_, hr⟩
    · by_cases hc : c = .stored
      · subst hc
        rw [switchTo_stored ext l s enc h, show innerFor2 .stored l enc = s.inner from h.symm]
      · rw [switchTo_storer ext l h hc, switchPick_accepted hc hr]
    · cases c with
      | aes => exact absurd trivial hr
      | unsupported v => exact absurd trivial hr
      | _ => rfl

/-! ### `update_local_file_header` -/

/-- `Model.updateLocalHeader` is given its continuation `k`, hence the shape: `k` runs on a sink in which the header of
`f0` carries the new CRC and sizes (`hk`) - unless the compressed size does not fit a non-ZIP64 header, which is refused
before the sink is touched (`hbig`). -/
theorem updateLocalHeader_patch {β} {s : WState} {f0 : FileData} (c : UInt32) (us cs : UInt64)
    {k : Unit → M (Except ZErr β × WState)} {d : Dev} {Q : Except ZErr β × WState → Dev → Prop}
    (A B : Bytes) (dp lv : UInt16) (xl q r : Nat)
    (hlive : LiveAt d q (A ++ (localHdr2 f0 dp lv xl ++ B)) r)
    (hA : f0.headerStart.toNat = A.length)
    (hk : ¬ (f0.largeFile = false ∧ cs > ZIP64_BYTES_THR) → ∀ d',
      LiveAt d' q (A ++ (localHdr2 { f0 with crc32 := c, uncompressedSize := us, compressedSize := cs } dp lv xl ++ B)) r →
      WSat (k ()) none d' Q)
    (hbig : f0.largeFile = false → cs > ZIP64_BYTES_THR → Q (.error (.io .other), s) d) :
    WSat (Model.updateLocalHeader s { f0 with crc32 := c, uncompressedSize := us, compressedSize := cs } k) none d Q := by
  have hq : q = A.length + (30 + f0.fileName.length + z64len f0) + B.length := by
    rw [← hlive.length]; simp only [List.length_append, localHdr2_length]; omega
  unfold z64len at hq
  unfold Model.updateLocalHeader
  dsimp only
  split
  · next hg =>
    simp only [Bool.and_eq_true, Bool.not_eq_true', decide_eq_true_eq] at hg
    exact WSat.pure (hbig hg.1 hg.2)
  next hng =>
  simp only [Bool.and_eq_true, Bool.not_eq_true', decide_eq_true_eq] at hng
  replace hk := hk hng
  rw [hA]
  apply WSat.io_none (MSat.seekStart_live _ none hlive); intro _ d1 ⟨_, hp1, hl1⟩
  apply WSat.io_none (MSat.writeAll_patch _ none hl1 (by rw [hp1, le32_length]; omega)); intro _ d2 ⟨hp2, hl2⟩
  rw [hp1] at hp2 hl2
  cases hlf : f0.largeFile with
  | true =>
    rw [if_pos rfl]
    apply WSat.io_none (MSat.seekStart_live _ none hl2); intro _ d3 ⟨_, hp3, hl3⟩
    apply WSat.io_none (MSat.writeAll_patch _ none hl3 (by rw [hp3, le64_length, hq, hlf]; simp; omega)); intro _ d4 ⟨hp4, hl4⟩
    rw [hp3] at hp4 hl4
    apply WSat.io_none (MSat.writeAll_patch _ none hl4 (by rw [hp4, le64_length, le64_length, hq, hlf]; simp; omega)); intro _ d5 ⟨hp5, hl5⟩
    rw [hp4, le64_length] at hl5
    apply hk d5
    rw [← patch_large A B f0 dp lv xl hlf c cs us A.length rfl]
    exact hl5
  | false =>
    rw [if_neg (by simp)]
    apply WSat.io_none (MSat.writeAll_patch _ none hl2 (by rw [hp2, le32_length, le32_length, hq]; omega)); intro _ d3 ⟨hp3, hl3⟩
    rw [hp2, le32_length] at hp3 hl3
    apply WSat.io_none (MSat.writeAll_patch _ none hl3 (by rw [hp3, le32_length, le32_length, hq]; omega)); intro _ d4 ⟨hp4, hl4⟩
    rw [hp3, le32_length] at hl4
    apply hk d4
    rw [← patch_small A B f0 dp lv xl hlf c cs us A.length rfl]
    exact hl4

/-! ### `finish_file` -/

theorem centralHeaderChunks_ok_of {f : FileData} {dp : UInt16}
    (hx : (centralZip64Bytes f).length + f.extraField.length ≤ 65535)
    (hdp : f.time.datepart = some dp) : ∃ cs, centralHeaderChunks f = .ok cs := by
  unfold centralHeaderChunks datepartOut
  rw [hdp]
  dsimp only [bind, Out.instMonad]
  rw [if_neg (by omega)]
  exact ⟨_, rfl⟩

/-- The writer is stuck on an entry that cannot be closed: a non-ZIP64 entry with more than 0xFFFFFFFF
stored bytes (`n`, starting at `ss`) in the sink.  `update_local_file_header` refuses it before
touching the sink, so every later `finish_file` fails the same way. -/
structure Stuck (ss n : Nat) (wf : Bool) (s : WState) (d : Dev) : Prop where
  inner : s.inner = .storer none
  wr : s.writingRaw = false
  we : s.writingToExtraField = false
  files : ∃ cf f, s.files = cf ++ [f] ∧ f.largeFile = false
  start : s.statsStart = ss
  pos : d.pos = ss + n
  le : d.pos ≤ d.buf.length
  big : n > 0xFFFFFFFF
  lt : ss + n < 18446744073709551616
  wf : s.writingToFile = wf

theorem ofNat_gt_thr {n : Nat} (h1 : n > 0xFFFFFFFF) (h2 : n < 18446744073709551616) :
    UInt64.ofNat n > ZIP64_BYTES_THR := by
  apply UInt64.lt_iff_toNat_lt.mpr
  rw [UInt64.toNat_ofNat', Nat.mod_eq_of_lt h2]
  have : ZIP64_BYTES_THR.toNat = 0xFFFFFFFF := by decide
  omega

theorem gt_thr_ofNat {n : Nat} (h : UInt64.ofNat n > ZIP64_BYTES_THR) : n > 0xFFFFFFFF := by
  have h2 : ZIP64_BYTES_THR.toNat < (UInt64.ofNat n).toNat := UInt64.lt_iff_toNat_lt.mp h
  rw [UInt64.toNat_ofNat'] at h2
  have : ZIP64_BYTES_THR.toNat = 0xFFFFFFFF := by decide
  have := Nat.mod_le n 18446744073709551616
  omega

/-- What `finish_file` leaves (on success): every entry closed, no file open. -/
def FinPost (es : List Spec.Zip.Entry) (gap : Bytes) (r : Nat) (c : Bytes) :
    Except ZErr Unit × WState → Dev → Prop :=
  fun rs d' => rs.1 = .ok () ∧ Cl es gap r rs.2 d' ∧ rs.2.writingRaw = false ∧
    rs.2.writingToFile = false ∧ rs.2.comment = c

/-- the finished record of an entry written through the writer -/
def finalRec (f : FileData) (plain data : Bytes) : FileData :=
  { f with crc32 := Spec.Crc32.crc32 plain, uncompressedSize := UInt64.ofNat plain.length,
           compressedSize := UInt64.ofNat data.length }

/-- the finished record of an entry: central extra data `cx`, final CRC and sizes -/
def closedRec (f0 : FileData) (cx plain data : Bytes) : FileData :=
  finalRec { f0 with extraField := cx } plain data

theorem closedRec_nil {f : FileData} (hx : f.extraField = []) (plain data : Bytes) :
    closedRec f [] plain data = finalRec f plain data := by
  unfold closedRec; rw [← hx]

theorem closedRec_of_cur (f0 : FileData) (cx : Bytes) (ds : UInt64) (plain data : Bytes) (dp : UInt16)
    (gap lx : Bytes) (lv : UInt16) :
    specEntry (finalRec (curRec f0 cx ds) plain data) dp gap lx data lv =
      specEntry (closedRec f0 cx plain data) dp gap lx data lv := rfl

/-- `finish_file`'s tail on an entry written through the writer (`norm`; a raw copy: `afterEnc_raw`) whose stored
bytes `data` are in the sink: the header is back-patched and the entry is closed — unless the compressed size does not fit a
non-ZIP64 header (`update_local_file_header` refuses: an error, the comment kept, and the writer is
`Stuck` as long as the sink position is below 2^64). -/
theorem afterEnc_norm {done : List Spec.Zip.Entry} {gap : Bytes} {r : Nat} {f0 : FileData} {dp : UInt16}
    {lx cx data : Bytes} {s : WState} {d : Dev} (plain : Bytes)
    (h : OpC done gap r f0 dp lx cx data s d) (hin : s.inner = .storer none) (hwr : s.writingRaw = false)
    (hwe : s.writingToExtraField = false)
    (hb : s.statsBytes = plain.length) (hh : s.statsHasher = Spec.Crc32.updateBytes 0xFFFFFFFF plain)
    (hcf : (centralZip64Bytes (closedRec f0 cx plain data)).length + cx.length ≤ 65535) :
    WSat (afterEnc s) none d (fun rs d' =>
      (f0.largeFile = false ∧ UInt64.ofNat data.length > ZIP64_BYTES_THR ∧ (∃ e, rs.1 = .error e) ∧
        rs.2.comment = s.comment ∧
        (s.statsStart + data.length < 18446744073709551616 →
          Stuck s.statsStart data.length s.writingToFile rs.2 d')) ∨
      (¬ (f0.largeFile = false ∧ UInt64.ofNat data.length > ZIP64_BYTES_THR) ∧
       FinPost (done ++ [specEntry (closedRec f0 cx plain data) dp gap lx data f0.versionNeeded]) [] r
         s.comment rs d' ∧ rs.2.centralOnly = s.centralOnly)) := by
  obtain ⟨cf, ds, hfiles, hcl⟩ := h.files
  have hlen := h.live.length
  have e1 : hasherFinalize s.statsHasher = Spec.Crc32.crc32 plain := by rw [hh]; rfl
  have e3 : d.pos - s.statsStart = data.length := by
    rw [h.ss, ← hlen]; simp only [List.length_append, localHdr2_length, hdrLen]; omega
  have e4 : ¬ d.pos < s.statsStart := by
    rw [h.ss, ← hlen]; simp only [List.length_append, localHdr2_length, hdrLen]; omega
  unfold afterEnc
  simp only [hin, hwr, Bool.not_false, if_true, hfiles, List.getLast?_concat, setLast_snoc]
  apply WSat.io_none (MSat.streamPosition_live none h.live); intro fe d1 ⟨hfe, hp1, hl1⟩
  subst hfe
  rw [if_neg e4]
  simp only [e1, hb, e3]
  refine updateLocalHeader_patch (f0 := curRec f0 cx ds) (Spec.Crc32.crc32 plain) (UInt64.ofNat plain.length)
    (UInt64.ofNat data.length) (localsBytes done ++ gap) (lx ++ data) dp f0.versionNeeded
    (z64len f0 + lx.length) d.pos r ?_ ?_ ?_ ?_
  · exact hl1.cast (by simp only [List.append_assoc]; rfl)
  · show f0.headerStart.toNat = _
    rw [h.hs, U64.toNat_ofNat h.hsLt]; simp only [List.length_append]
  · -- patched: the live part ends in the spec's local record of the entry (`local_eq_spec`), and the finished record is
    -- its central image (`central_eq_spec`)
    intro hng d2 hl2
    apply WSat.io_none (MSat.seekStart_live _ none hl2); intro _ d3 ⟨_, hp3, hl3⟩
    apply WSat.pure
    right
    refine ⟨hng, ⟨rfl, ⟨?_, ?_, rfl, hwe⟩, rfl, rfl, rfl⟩, rfl⟩
    · rw [hp3]
      refine hl3.cast ?_
      rw [localsBytes_append, localsBytes_cons]
      have := local_eq_spec (finalRec (curRec f0 cx ds) plain data) dp f0.versionNeeded gap lx data rfl
      simp only [localsBytes, List.map_nil, List.flatten_nil, List.append_nil, List.append_assoc]
      rw [← closedRec_of_cur f0 cx ds, ← this]
      rfl
    · show ClosedAll _ 0 (cf ++ [finalRec (curRec f0 cx ds) plain data])
      apply ClosedAll.snoc hcl
      obtain ⟨cs, hcs⟩ := centralHeaderChunks_ok_of (f := finalRec (curRec f0 cx ds) plain data) hcf h.dp
      refine ⟨cs, hcs, ?_⟩
      rw [central_eq_spec gap lx data f0.versionNeeded hcs h.dp rfl h.udd]
      show centralRecord _ f0.headerStart = _
      rw [h.hs]
      simp only [Nat.zero_add]
      rfl
  · -- refused before the sink was touched: the writer is `Stuck`
    intro hlf hcs
    refine Or.inl ⟨hlf, hcs, ⟨_, rfl⟩, rfl, fun hlt => ?_⟩
    have hpos : d.pos = s.statsStart + data.length := by omega
    exact ⟨rfl, rfl, hwe, ⟨cf, _, rfl, hlf⟩, rfl, by rw [hp1]; exact hpos, by rw [hp1]; exact hl1.le,
      gt_thr_ofNat hcs, hlt, rfl⟩

/-- `finish_file`'s tail on a raw copy: nothing is patched; bytes written after the raw data become
dead bytes before the next record. -/
theorem afterEnc_raw {done : List Spec.Zip.Entry} {gap : Bytes} {r : Nat} {f0 : FileData} {dp : UInt16}
    {sunk : Bytes} {s : WState} {d : Dev} (data junk : Bytes)
    (h : OpC done gap r f0 dp [] [] sunk s d) (hin : s.inner = .storer none) (hwr : s.writingRaw = true)
    (hwe : s.writingToExtraField = false) (hx0 : f0.extraField = [])
    (hsunk : sunk = data ++ junk) (hcs : f0.compressedSize = UInt64.ofNat data.length) :
    WSat (afterEnc s) none d (fun rs d' =>
      FinPost (done ++ [specEntry f0 dp gap [] data f0.versionNeeded]) junk r s.comment rs d' ∧
      rs.2.centralOnly = s.centralOnly) := by
  obtain ⟨cf, ds, hfiles, hcl⟩ := h.files
  have hspec : specEntry (curRec f0 [] ds) dp gap [] data f0.versionNeeded =
      specEntry f0 dp gap [] data f0.versionNeeded := by
    unfold specEntry curRec
    simp only [hx0]
    rfl
  unfold afterEnc
  simp only [hin, hwr, Bool.not_true, Bool.false_eq_true, if_false]
  apply WSat.pure
  refine ⟨⟨rfl, ⟨?_, ?_, rfl, hwe⟩, rfl, rfl, rfl⟩, rfl⟩
  · refine h.live.cast ?_
    rw [localsBytes_append, localsBytes_cons, hsunk]
    have := local_eq_spec f0 dp f0.versionNeeded gap [] data hcs
    simp only [localsBytes, List.map_nil, List.flatten_nil, List.append_nil, List.append_assoc,
      List.nil_append] at this ⊢
    rw [← this]
    simp only [List.append_assoc]
  · show ClosedAll _ 0 s.files
    rw [hfiles]
    apply ClosedAll.snoc hcl
    obtain ⟨cs, hcs'⟩ := centralHeaderChunks_ok_of (f := curRec f0 [] ds)
      (by have := centralZip64Bytes_length (curRec f0 [] ds)
          show _ + ([] : Bytes).length ≤ 65535
          simp only [List.length_nil]; omega) h.dp
    refine ⟨cs, hcs', ?_⟩
    rw [central_eq_spec gap [] data f0.versionNeeded hcs' h.dp hcs h.udd, hspec]
    show centralRecord _ f0.headerStart = _
    rw [h.hs]
    simp only [Nat.zero_add]
    rfl

/-- `finish_file`'s tail when no entry is open (a fresh writer, or one returned by `new_append`). -/
theorem afterEnc_idle {es : List Spec.Zip.Entry} {gap : Bytes} {r : Nat} {s : WState} {d : Dev}
    (h : Cl es gap r s d) (hwf : s.writingToFile = false) (hidle : s.files = [] ∨ s.writingRaw = true) :
    WSat (afterEnc s) none d (FinPost es gap r s.comment) := by
  rw [afterEnc_of_idle h.inner hidle.symm]
  cases hr : s.writingRaw
  · exact WSat.pure ⟨rfl, h, hr, hwf, rfl⟩
  · exact WSat.pure ⟨rfl, ⟨h.live, h.closed, h.inner, h.we⟩, rfl, rfl, rfl⟩

theorem finishFile_of_storer (ext : WExt) (s : WState) (hwe : s.writingToExtraField = false)
    (hin : s.inner = .storer none) {d : Dev} {Q : Except ZErr Unit × WState → Dev → Prop}
    (h : WSat (afterEnc s) none d Q) : WSat (finishFile ext s) none d Q := by
  unfold finishFile
  simp only [hwe, Bool.false_eq_true, if_false]
  apply WSat.bind
  apply WSat.pure
  dsimp only
  rw [switchTo_stored ext none s none hin]
  apply WSat.bind
  apply WSat.pure
  dsimp only
  split
  · next e he => rw [hin] at he; cases he
  · exact h
  · next h1 h2 => exact absurd hin h2

theorem finishFile_of_compressor (ext : WExt) (s : WState) (hwe : s.writingToExtraField = false)
    (m : Method) (l : Int) (p : Bytes) (hin : s.inner = .compressor m l none p) (hm : m ≠ .stored)
    {d : Dev} {L : Bytes} {r : Nat} (hl : LiveAt d d.pos L r)
    {Q : Except ZErr Unit × WState → Dev → Prop}
    (h : ∀ d', LiveAt d' d'.pos (L ++ ext.compress m l p) r →
      WSat (afterEnc { s with inner := .storer none }) none d' Q) :
    WSat (finishFile ext s) none d Q := by
  unfold finishFile
  simp only [hwe, Bool.false_eq_true, if_false]
  apply WSat.bind
  apply WSat.pure
  dsimp only
  apply WSat.bind
  apply WSat.mono (switchTo_flush ext s m l p hin hm hl)
  intro rs d2 ⟨hrs, hl2⟩
  subst hrs
  dsimp only
  exact h d2 hl2

/-! ### A stuck writer -/

theorem afterEnc_stuck {ss n : Nat} {wf : Bool} {s : WState} {d : Dev} (h : Stuck ss n wf s d) :
    WSat (afterEnc s) none d (fun rs d' =>
      (∃ e, rs.1 = .error e) ∧ Stuck ss n wf rs.2 d' ∧ rs.2.comment = s.comment) := by
  obtain ⟨cf, f, hfiles, hfl⟩ := h.files
  unfold afterEnc
  simp only [h.inner, h.wr, Bool.not_false, if_true, hfiles, List.getLast?_concat, setLast_snoc]
  apply WSat.io_none (MSat.streamPosition_buf none d); intro fe d1 ⟨hfe, hp1, hb1⟩
  subst hfe
  have e4 : ¬ d.pos < s.statsStart := by rw [h.start, h.pos]; omega
  rw [if_neg e4]
  have e3 : d.pos - s.statsStart = n := by rw [h.start, h.pos]; omega
  unfold Model.updateLocalHeader
  rw [if_pos (by
    simp only [Bool.and_eq_true, Bool.not_eq_true', decide_eq_true_eq]
    refine ⟨hfl, ?_⟩
    show UInt64.ofNat (d.pos - s.statsStart) > ZIP64_BYTES_THR
    rw [e3]
    exact ofNat_gt_thr h.big (by have := h.lt; omega))]
  apply WSat.pure
  exact ⟨⟨_, rfl⟩, ⟨rfl, rfl, h.we, ⟨cf, _, rfl, hfl⟩, h.start, by rw [hp1]; exact h.pos,
    by rw [hp1, hb1]; exact h.le, h.big, h.lt, h.wf⟩, rfl⟩

theorem finishFile_stuck (ext : WExt) {ss n : Nat} {wf : Bool} {s : WState} {d : Dev}
    (h : Stuck ss n wf s d) :
    WSat (finishFile ext s) none d (fun rs d' =>
      (∃ e, rs.1 = .error e) ∧ Stuck ss n wf rs.2 d' ∧ rs.2.comment = s.comment) :=
  finishFile_of_storer ext s h.we h.inner (afterEnc_stuck h)

/-! ### `start_entry` -/

/-- The record `start_entry` pushes for `name`/`o` (`raw` = CRC and sizes of a raw copy's source) when
the sink is at `hs`; `ds` is the position after the header. -/
def mkRec (name : Bytes) (o : FileOptions) (raw : Option (UInt32 × UInt64 × UInt64)) (hs : Nat)
    (ds : UInt64) : FileData :=
  { system := .unix, versionMadeBy := DEFAULT_VERSION, encrypted := o.encryptWith.isSome,
    usingDataDescriptor := false, method := o.method, level := o.level, time := o.time,
    crc32 := (raw.getD (0, 0, 0)).1, compressedSize := (raw.getD (0, 0, 0)).2.1,
    uncompressedSize := (raw.getD (0, 0, 0)).2.2, fileName := name,
    fileNameRaw := [], extraField := [], fileComment := [],
    headerStart := UInt64.ofNat hs, centralHeaderStart := 0, dataStart := ds,
    externalAttributes := (o.permissions.getD 0o100644) <<< 16, largeFile := o.largeFile,
    aesMode := none }

/-- What `start_entry` leaves on success: the new entry is open, nothing written to it yet. -/
def StartPost (es : List Spec.Zip.Entry) (gap : Bytes) (r : Nat) (c : Bytes) (f : FileData)
    (chunks : List Bytes) : Except ZErr Unit × WState → Dev → Prop :=
  fun rs d' => rs.1 = .ok () ∧ Op es gap r f chunks [] rs.2 d' ∧ rs.2.inner = .storer none ∧
    rs.2.writingRaw = false ∧ rs.2.writingToFile = false ∧ rs.2.statsBytes = 0 ∧
    rs.2.statsHasher = 0xFFFFFFFF ∧ rs.2.comment = c

/-- the writer `start_entry` leaves: a plain storer, or a storer over a fresh ZipCrypto buffer -/
def startInner (o : FileOptions) : Inner :=
  match o.encryptWith with
  | some pw => .storer (some { pw, buffer := List.replicate 12 0 })
  | none => .storer none

/-- What `start_entry` leaves behind the closed entries `es` (any options): the header `chunks` of the
new record is in the sink behind them and the record pushed; nothing else of the state `s1` that
`finish_file` left has changed (`X` is whatever else the caller knows of `s1`). -/
def StartCore (name : Bytes) (o : FileOptions) (raw : Option (UInt32 × UInt64 × UInt64))
    (es : List Spec.Zip.Entry) (gap : Bytes) (r : Nat) (c : Bytes) (X : WState → Prop) :
    Except ZErr Unit × WState → Dev → Prop :=
  fun rs d' => ∃ chunks s1 i,
    localHeaderChunks (mkRec name o raw ((localsBytes es).length + gap.length) 0) = .ok chunks ∧
    i = startInner o ∧
    rs = (.ok (), { s1 with
      inner := i, statsStart := (localsBytes es).length + gap.length + (ser chunks).length,
      statsBytes := 0, statsHasher := 0xFFFFFFFF,
      files := s1.files ++ [mkRec name o raw ((localsBytes es).length + gap.length)
        (UInt64.ofNat ((localsBytes es).length + gap.length + (ser chunks).length))] }) ∧
    LiveAt d' d'.pos (localsBytes es ++ gap ++ ser chunks) r ∧ ClosedAll es 0 s1.files ∧
    s1.writingToExtraField = false ∧ s1.writingRaw = false ∧ s1.writingToFile = false ∧
    s1.comment = c ∧ X s1

theorem startEntry_core (ext : WExt) (name : Bytes) (o : FileOptions)
    (raw : Option (UInt32 × UInt64 × UInt64)) (hn : ¬ name.length > 65535)
    {es : List Spec.Zip.Entry} {gap : Bytes} {r : Nat} {c : Bytes} {X : WState → Prop} {s : WState} {d : Dev}
    (hfin : WSat (finishFile ext s) none d (fun rs d' => FinPost es gap r c rs d' ∧ X rs.2)) :
    WSat (startEntry ext name o raw s) none d (StartCore name o raw es gap r c X) := by
  unfold startEntry
  rw [if_neg hn]
  apply WSat.bind
  apply WSat.mono hfin
  intro ⟨r1, s1⟩ d1 ⟨⟨hok, hcl, hwr, hwf, hc⟩, hX1⟩
  dsimp only at hok hcl hwr hwf hc hX1 ⊢
  subst hok
  dsimp only
  have hpos : d1.pos = (localsBytes es).length + gap.length := by
    rw [← hcl.live.length]; simp only [List.length_append]
  simp only [hcl.inner]
  apply WSat.io_none (MSat.streamPosition_live none hcl.live); intro v d2 ⟨hv, hp2, hl2⟩
  subst hv
  split
  · exact WSat.panic
  · next e h => exact absurd h (localHeaderChunks_ne_err _ e)
  next chunks0 hch0 =>
  have hX : localHeaderChunks (mkRec name o raw d1.pos 0) = .ok chunks0 := hch0
  apply WSat.io_none (MSat.writeChunks_append chunks0 none (hl2.castPos hp2.symm)); intro _ d3 ⟨hp3, hl3⟩
  apply WSat.io_none (MSat.streamPosition_live none hl3); intro v d4 ⟨hv, hp4, hl4⟩
  subst hv
  have hp3' : d3.pos = d1.pos + (ser chunks0).length := by rw [hp3, hp2]
  have hfinal : ∀ (i : Inner), i = startInner o → StartCore name o raw es gap r c X
      (.ok (), { s1 with
        inner := i, statsStart := d3.pos, statsBytes := 0, statsHasher := 0xFFFFFFFF,
        files := s1.files ++ [mkRec name o raw d1.pos (UInt64.ofNat d3.pos)] }) d4 := by
    intro i hi
    rw [hp3', hpos]
    rw [hpos] at hX
    exact ⟨chunks0, s1, i, hX, hi, rfl, hl4.castPos (hp4.trans hp3).symm, hcl.closed, hcl.we, hwr, hwf, hc, hX1⟩
  split
  · next pw hpw => exact WSat.pure (hfinal _ (by simp [startInner, hpw]))
  · next hpw => exact WSat.pure (hfinal (.storer none) (by simp [startInner, hpw]))

/-- What Level 1 reads off `StartCore` (no encryption; the sink position within the `u64` range). -/
theorem StartCore.post1 {name : Bytes} {o : FileOptions} {raw : Option (UInt32 × UInt64 × UInt64)}
    {es : List Spec.Zip.Entry} {gap : Bytes} {r : Nat} {c : Bytes} {X : WState → Prop}
    {rs : Except ZErr Unit × WState} {d' : Dev} (h : StartCore name o raw es gap r c X rs d')
    (henc : o.encryptWith = none) (hlt : (localsBytes es).length + gap.length < 18446744073709551616)
    {chunks : List Bytes}
    (hch : localHeaderChunks (mkRec name o raw ((localsBytes es).length + gap.length) 0) = .ok chunks) :
    StartPost es gap r c (mkRec name o raw ((localsBytes es).length + gap.length)
      (UInt64.ofNat ((localsBytes es).length + gap.length + (ser chunks).length))) chunks rs d' := by
  obtain ⟨chunks0, s1, i, hX, hi, hrs, hl, hcl, hwe, hwr, hwf, hc, _⟩ := h
  rw [hX] at hch
  obtain rfl : chunks0 = chunks := Out.ok.inj hch
  have hi' : i = .storer none := by rw [hi, startInner, henc]
  subst hrs hi'
  exact ⟨rfl, ⟨hl.cast (by simp only [List.append_nil]), ⟨s1.files, rfl, hcl⟩, hX, rfl, hlt, rfl, rfl, hwe,
    rfl⟩, rfl, hwr, hwf, rfl, rfl, hc⟩

/-! ### `write` -/

/-- What a `write` into the data of an open entry does (any layering of the sink): the entry took `buf`
(`GW.fin`), the sink got what the inner writer lets through (`Inner.sunk`). -/
def WritePost (buf : Bytes) (s : WState) (L : Bytes) (r : Nat) : Except ZErr Unit × WState → Dev → Prop :=
  fun rs d' => match rs.1 with
    | .error _ => rs.2.inner = .closed
    | .ok _ => rs.2 = GW.fin s buf ∧
        (∀ f, s.files.getLast? = some f →
          f.largeFile = true ∨ buf = [] ∨ s.statsBytes + buf.length ≤ 0xFFFFFFFF) ∧
        LiveAt d' d'.pos (L ++ s.inner.sunk buf) r

theorem SameBut.fin (s : WState) (buf : Bytes) : SameBut s (GW.fin s buf) := ⟨rfl, rfl, rfl, rfl, rfl, rfl⟩

/-- through a plain storer -/
theorem WritePost.storer {buf : Bytes} {s : WState} {L : Bytes} {r : Nat} {u : Unit} {s2 : WState} {d2 : Dev}
    (hq : WritePost buf s L r (.ok u, s2) d2) (hin : s.inner = .storer none) :
    s2.inner = .storer none ∧ LiveAt d2 d2.pos (L ++ buf) r := by
  obtain ⟨rfl, -, hl⟩ := hq
  rw [hin] at hl
  exact ⟨by show GW.absorb s.inner buf = _; rw [hin]; rfl, hl⟩

theorem writeData_lay (buf : Bytes) (s : WState) (hwf : s.writingToFile = true)
    (hwe : s.writingToExtraField = false) {d : Dev} {L : Bytes} {r : Nat} (hl : LiveAt d d.pos L r) :
    WSat (writeData buf s) none d (WritePost buf s L r) := by
  rw [writeData_eq, hwf, hwe]
  split
  · next hb =>
    have := List.isEmpty_iff.mp hb
    subst this
    exact WSat.pure ⟨(GW.fin_nil s).symm, fun _ _ => .inr (.inl rfl),
      hl.cast (by rw [Inner.sunk_nil, List.append_nil])⟩
  rw [if_neg (by simp)]
  split
  · next h => exact WSat.pure (Inner.eq_closed h)
  rw [if_neg (by simp)]
  refine WSat.io_none (MSat.writeAll_append _ none hl) fun _ d1 ⟨hp1, hl1⟩ => ?_
  split
  · exact WSat.panic
  next f hf =>
  split
  · exact WSat.pure rfl
  next hc =>
  refine WSat.pure ⟨rfl, fun g hg => ?_, hl1.castPos hp1.symm⟩
  rw [hf] at hg; cases hg
  cases hlf : f.largeFile
  · rw [hlf] at hc
    simp only [Bool.not_false, Bool.and_true, decide_eq_true_eq] at hc
    exact .inr (.inr (by omega))
  · exact .inl rfl

/-- `write` on a stuck writer that still accepts data: the bytes go to the sink after the refused
entry's data (or the 4 GiB limit poisons the writer). -/
theorem writeData_stuck (buf : Bytes) {ss n : Nat} {s : WState} {d : Dev} (h : Stuck ss n true s d) :
    WSat (writeData buf s) none d (fun rs d' => match rs.1 with
      | .error _ => rs.2.inner = .closed
      | .ok _ => rs.2.comment = s.comment ∧
          (ss + (n + buf.length) < 18446744073709551616 → Stuck ss (n + buf.length) true rs.2 d')) := by
  have hl : LiveAt d d.pos (d.buf.take d.pos) (d.buf.length - d.pos) := ⟨h.le, rfl, by have := h.le; omega⟩
  apply WSat.mono (writeData_lay buf s h.wf h.we hl)
  intro ⟨r2, s2⟩ d2 hq
  cases r2 with
  | error e => exact hq
  | ok u =>
    obtain ⟨hin2, hl2⟩ := hq.storer h.inner
    obtain ⟨rfl, -⟩ := hq
    have hsb := SameBut.fin s buf
    refine ⟨hsb.comment, fun hlt => ?_⟩
    have hlen := hl2.length
    rw [List.length_append, List.length_take, Nat.min_eq_left h.le] at hlen
    obtain ⟨cf, f, hfiles, hfl⟩ := h.files
    exact ⟨hin2, by rw [hsb.wr]; exact h.wr, by rw [hsb.we]; exact h.we,
      ⟨cf, f, by rw [hsb.files]; exact hfiles, hfl⟩, by rw [hsb.ss]; exact h.start,
      by show d2.pos = _; rw [← hlen, h.pos]; omega, hl2.le, by have := h.big; omega, hlt,
      by rw [hsb.wf]; exact h.wf⟩

/-- `write` with no file open (after `add_directory`, `add_symlink`, before any entry): an error for a
non-empty buffer, nothing for an empty one; the writer and the sink are unchanged. -/
theorem writeData_nofile (buf : Bytes) (s : WState) (hwf : s.writingToFile = false) :
    ∃ r, writeData buf s = pure (r, s) := by
  rw [writeData_eq, hwf]
  split
  · exact ⟨_, rfl⟩
  · exact ⟨_, rfl⟩

/-! ### `finalize` -/

theorem writeAllCentral_lay (s : WState) : ∀ (es : List Spec.Zip.Entry) (st : Nat) (fs : List FileData),
    ClosedAll es st fs → ∀ {d : Dev} {L : Bytes} {r : Nat}, LiveAt d d.pos L r →
    WSat (finalize.writeAllCentral s fs) none d (fun rs d' =>
      rs = (.ok (), s) ∧ LiveAt d' d'.pos (L ++ centralBytes es (localOffsets es st)) r)
  | [], _, [], _, d, L, r, hl => by
    unfold finalize.writeAllCentral
    exact WSat.pure ⟨rfl, hl.cast (by simp [centralBytes])⟩
  | [], _, _ :: _, h, _, _, _, _ => h.elim
  | _ :: _, _, [], h, _, _, _, _ => h.elim
  | e :: es, st, f :: fs, h, d, L, r, hl => by
    obtain ⟨⟨cs, hcs, hser⟩, hrest⟩ := h
    unfold finalize.writeAllCentral
    rw [hcs]
    dsimp only
    apply WSat.io_none (MSat.writeChunks_append cs none hl); intro _ d1 ⟨hp1, hl1⟩
    apply WSat.mono (writeAllCentral_lay s es _ fs hrest (hl1.castPos hp1.symm))
    intro rs d2 ⟨h1, h2⟩
    refine ⟨h1, h2.cast ?_⟩
    rw [centralBytes_cons, hser, List.append_assoc]

/-- What `finalize` writes after closing the last entry: the central directory and the end records of
the layout. -/
theorem finalize_lay (ext : WExt) {es : List Spec.Zip.Entry} {gap : Bytes} {r : Nat} {s : WState}
    {d : Dev} (hc : ¬ s.comment.length > 65535)
    (hfin : WSat (finishFile ext s) none d (FinPost es gap r s.comment)) :
    WSat (finalize ext s) none d (fun rs d' =>
      rs.1 = .ok () ∧ rs.2.inner = .storer none ∧
      LiveAt d' d'.pos (build (layoutOf es gap s.comment [])) r) := by
  -- along `finalize`, each step extending the live part: `finish_file` (`hfin`), the central directory
  -- (`writeAllCentral_lay`), the ZIP64 end record and locator when the layout needs them (`hz`, by `end64_eq_spec`), the
  -- end record (`eocd_eq_spec`)
  unfold finalize
  rw [if_neg hc]
  apply WSat.bind
  apply WSat.mono hfin
  intro ⟨r1, s1⟩ d1 ⟨hok, hcl, hwr, hwf, hcm⟩
  dsimp only at hok hcl hwr hwf hcm ⊢
  subst hok
  dsimp only
  have hpos : d1.pos = (localsBytes es).length + gap.length := by
    rw [← hcl.live.length]; simp only [List.length_append]
  have hn : s1.files.length = es.length := (ClosedAll.length_eq hcl.closed).symm
  simp only [hcl.inner]
  apply WSat.io_none (MSat.streamPosition_live none hcl.live); intro v d2 ⟨hv, hp2, hl2⟩
  subst hv
  apply WSat.bind
  apply WSat.mono (writeAllCentral_lay s1 es 0 s1.files hcl.closed (hl2.castPos hp2.symm))
  intro ⟨r3, s3⟩ d3 ⟨h3, hl3⟩
  cases h3
  dsimp only
  apply WSat.io_none (MSat.streamPosition_live none hl3); intro v d4 ⟨hv, hp4, hl4⟩
  subst hv
  have hsz : d3.pos - d1.pos = (centralBytes es (localOffsets es 0)).length := by
    rw [← hl3.length, hpos]; simp only [List.length_append]; omega
  split
  · exact WSat.panic
  rw [hsz, hn, hpos]
  apply WSat.bind
  have hz : WSat (if (decide (es.length > ZIP64_ENTRY_THR) || decide (max (centralBytes es (localOffsets es 0)).length ((localsBytes es).length + gap.length) > 0xFFFFFFFF)) = true then
      io s1 (M.writeChunks (eocd64Chunks {
        versionMadeBy := DEFAULT_VERSION.toUInt16, versionNeeded := DEFAULT_VERSION.toUInt16,
        diskNumber := 0, diskWithCd := 0, filesOnDisk := UInt64.ofNat es.length, files := UInt64.ofNat es.length,
        cdSize := UInt64.ofNat (centralBytes es (localOffsets es 0)).length, cdOffset := UInt64.ofNat ((localsBytes es).length + gap.length) })) fun _ =>
      io s1 (M.writeChunks (locatorChunks {
        diskWithCd := 0, eocd64Offset := UInt64.ofNat ((localsBytes es).length + gap.length + (centralBytes es (localOffsets es 0)).length), disks := 1 })) fun _ =>
      pure (.ok (), s1)
    else pure (.ok (), s1)) none d4 (fun rs d' => rs = (.ok (), s1) ∧
      LiveAt d' d'.pos (localsBytes es ++ gap ++ centralBytes es (localOffsets es 0) ++
        (layoutOf es gap s.comment []).end64) r) := by
    have hl4' := hl4.castPos hp4.symm
    rw [← layoutOf_needs64 es gap s.comment []]
    split
    · next h64 =>
      apply WSat.io_none (MSat.writeChunks_append _ none hl4'); intro _ d5 ⟨hp5, hl5⟩
      apply WSat.io_none (MSat.writeChunks_append _ none (hl5.castPos hp5.symm)); intro _ d6 ⟨hp6, hl6⟩
      apply WSat.pure
      refine ⟨rfl, (hl6.castPos hp6.symm).cast ?_⟩
      rw [← end64_eq_spec es gap s.comment [] h64, end64Model, List.append_assoc _ (ser _) (ser _)]
    · next h64 =>
      apply WSat.pure
      refine ⟨rfl, hl4'.cast ?_⟩
      unfold Layout.end64
      rw [if_neg h64, List.append_nil]
  apply WSat.mono hz
  intro ⟨r5, s5⟩ d5 ⟨h5, hl5⟩
  cases h5
  dsimp only
  apply WSat.io_none (MSat.writeChunks_append _ none hl5); intro _ d7 ⟨hp7, hl7⟩
  apply WSat.pure
  refine ⟨rfl, hcl.inner, (hl7.castPos hp7.symm).cast ?_⟩
  have := eocd_eq_spec es gap s.comment []
  rw [eocdModel] at this
  rw [hcm, this]
  simp only [build, layoutOf_cdBytes]
  simp only [layoutOf, List.nil_append, List.append_nil]

end ZipVerif.WL
