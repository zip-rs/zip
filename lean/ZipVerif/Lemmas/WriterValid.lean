import ZipVerif.Lemmas.WriterTrack
/-
For C12, on top of `Lemmas/WriterTrack.lean`: which method / level combinations `switch_to` refuses,
and the enabling conditions under which the calls succeed on a fault-free sink (`Ready`), with the
per-function partial-correctness lemmas behind the `*_succeeds` theorems of Props/C12.
-/

namespace ZipVerif.Model
open ZipVerif

/-- A method / level combination `switch_to` refuses: the AES pseudo-method, an unknown method, or
a level outside the range of a compressing method (Deflated 0..9, Bzip2 1..9, Zstd -131072..22).
(`Stored` is never refused from a storer — see `stored_level_is_accepted`.) -/
def Refused (c : Method) (l : Option Int) : Prop :=
  match c with
  | .stored => False
  | .aes => True
  | .unsupported _ => True
  | m =>
    match levelRange m with
    | none => True
    | some (lo, hi, dflt) => ¬ (lo ≤ l.getD dflt ∧ l.getD dflt ≤ hi)

instance (c : Method) (l : Option Int) : Decidable (Refused c l) := by
  unfold Refused
  cases c <;> simp only [levelRange] <;> infer_instance

theorem switchPick_of_refused {c : Method} {l : Option Int} (hr : Refused c l) (enc : Option EncState) :
    switchPick c l enc = (.error .unsupportedArchive, .closed) := by
  cases c with
  | stored => exact hr.elim
  | aes => rfl
  | unsupported v => rfl
  | deflated => exact if_neg hr
  | bzip2 => exact if_neg hr
  | zstd => exact if_neg hr

theorem switchPick_of_accepted {c : Method} {l : Option Int} (hc : c ≠ .stored) (hr : ¬ Refused c l)
    (enc : Option EncState) : ∃ i, switchPick c l enc = (.ok (), i) := by
  cases c with
  | stored => exact absurd rfl hc
  | aes => exact absurd trivial hr
  | unsupported v => exact absurd trivial hr
  | deflated => exact ⟨_, if_pos (Decidable.not_not.mp hr)⟩
  | bzip2 => exact ⟨_, if_pos (Decidable.not_not.mp hr)⟩
  | zstd => exact ⟨_, if_pos (Decidable.not_not.mp hr)⟩

/-- From a storer, any other method is decided by `switchPick` alone. -/
theorem switchTo_storer (ext : WExt) {c : Method} (l : Option Int) {s : WState} {enc : Option EncState}
    (hin : s.inner = .storer enc) (hc : c ≠ .stored) :
    switchTo ext c l s = pure ((switchPick c l enc).1, { s with inner := (switchPick c l enc).2 }) := by
  rw [switchTo_eq, hin]
  exact if_neg fun h => hc (eq_of_beq h).symm

/-- `switch_to` from a storer refuses exactly these with `UnsupportedArchive` — and leaves the
writer closed (the bare sink has already been taken out). -/
theorem switchTo_refuses (ext : WExt) (c : Method) (l : Option Int) (s : WState) (enc : Option EncState)
    (hin : s.inner = .storer enc) (hr : Refused c l) :
    switchTo ext c l s = pure (.error .unsupportedArchive, { s with inner := .closed }) := by
  rw [switchTo_storer ext l hin (fun e => by subst e; exact hr), switchPick_of_refused hr]

theorem switchTo_accepts (ext : WExt) (c : Method) (l : Option Int) (s : WState) (enc : Option EncState)
    (hin : s.inner = .storer enc) (hr : ¬ Refused c l) :
    ∃ i, switchTo ext c l s = pure (.ok (), { s with inner := i }) := by
  by_cases hc : c = .stored
  · subst hc
    exact ⟨s.inner, switchTo_stored ext l s enc hin⟩
  · obtain ⟨i, hi⟩ := switchPick_of_accepted hc hr enc
    exact ⟨i, by rw [switchTo_storer ext l hin hc, hi]⟩

/-- The writer is between entries of the plain kind: not in extra-data mode, the sink handed back
(`Storer(Unencrypted)`), and — unless the last entry is a raw copy — the sink position is at or
after the start of the last entry's data, which fits 32 bits or was declared `large_file`. -/
def Ready (s : WState) (d : Dev) : Prop :=
  s.writingToExtraField = false ∧ s.inner = .storer none ∧
  (s.writingRaw = true ∨ ∀ f, s.files.getLast? = some f →
    s.statsStart ≤ d.pos ∧ (f.largeFile = true ∨ d.pos - s.statsStart ≤ 0xFFFFFFFF))

theorem WSat.step_ok {β} {x : M (Except ZErr Unit × WState)}
    {f : Except ZErr Unit × WState → M (Except ZErr β × WState)} {fa d}
    {P : Unit → WState → Dev → Prop} {Q : Except ZErr β × WState → Dev → Prop}
    (hx : WSat x fa d (fun rs d' => rs.1 = .ok () ∧ Post P rs d'))
    (hk : ∀ s d', Inv s → P () s d' → WSat (f (.ok (), s)) fa d' Q) : WSat (x >>= f) fa d Q := by
  apply WSat.bind
  apply WSat.mono hx
  intro ⟨r, s1⟩ d1 ⟨hok, hI1, hp⟩
  dsimp only at hok
  subst hok
  exact hk s1 d1 hI1 (hp () rfl)

theorem ofNat_le_thr {n : Nat} (h : n ≤ 0xFFFFFFFF) : ¬ (UInt64.ofNat n > ZIP64_BYTES_THR) := by
  intro hgt
  have h1 : (UInt64.ofNat n).toNat = n := by
    rw [UInt64.toNat_ofNat']; exact Nat.mod_eq_of_lt (by omega)
  have h2 : ZIP64_BYTES_THR.toNat < (UInt64.ofNat n).toNat := UInt64.lt_iff_toNat_lt.mp hgt
  rw [h1] at h2
  have : ZIP64_BYTES_THR.toNat = 0xFFFFFFFF := by decide
  omega

/-- `finish_file` succeeds between entries; it only touches the checksum and size fields of the last
record. -/
theorem finishFile_ready (ext : WExt) (s : WState) (d : Dev) (hr : Ready s d) :
    WSat (finishFile ext s) none d (fun rs _ => rs.1 = .ok () ∧
      ∀ g ∈ rs.2.files, ∃ f ∈ s.files, g.extraField = f.extraField) := by
  obtain ⟨hwe, hin, hpos⟩ := hr
  have hself : ∀ g ∈ s.files, ∃ f ∈ s.files, g.extraField = f.extraField := fun g hg => ⟨g, hg, rfl⟩
  rw [finishFile_plain ext hwe hin]
  unfold afterEnc
  split
  · split
    · next hwr =>
      split
      · exact WSat.pure ⟨rfl, hself⟩
      · next file hfile =>
        have hfm := List.mem_of_getLast? hfile
        -- replacing the last record twice by records with its extra field
        have h2 : ∀ (g0 g1 : FileData), g0.extraField = file.extraField → g1.extraField = file.extraField →
            ∀ g ∈ setLast (setLast s.files g0) g1, ∃ f ∈ s.files, g.extraField = f.extraField := by
          intro g0 g1 hg0 hg1 g hg
          rcases mem_setLast hg with h | h
          · exact ⟨file, hfm, by rw [h, hg1]⟩
          · rcases mem_setLast h with h | h
            · exact ⟨file, hfm, by rw [h, hg0]⟩
            · exact ⟨g, h, rfl⟩
        rcases hpos with h | h
        · rw [h] at hwr; cases hwr
        · obtain ⟨hle, hsz⟩ := h file hfile
          dsimp only
          apply WSat.io_none (MSat.streamPosition none d); intro fe d1 ⟨hfe, _⟩
          subst hfe
          rw [if_neg (by omega)]
          apply WSat.updateLocalHeader_none'
          · intro d2
            apply WSat.io_none (MSat.seekStart _ none d2); intro _ d3 _
            exact WSat.pure ⟨rfl, h2 _ _ rfl rfl⟩
          · intro hlf hbig
            dsimp only at hlf hbig
            rcases hsz with h | h
            · rw [h] at hlf; cases hlf
            · exact absurd hbig (ofNat_le_thr h)
    · exact WSat.pure ⟨rfl, hself⟩
  · next h => exact absurd hin h

theorem startEntry_ready (ext : WExt) (name : Bytes) (o : FileOptions) (raw : Option (UInt32 × UInt64 × UInt64))
    (s : WState) (hI : Inv s) (d : Dev) (hr : Ready s d) (hn : name.length ≤ 65535) (ho : TimeOk o.time) :
    WSat (startEntry ext name o raw s) none d (fun rs d' => rs.1 = .ok () ∧
      Post (fun u s' d' => StartEntryPost o u s' d' ∧ s'.statsBytes = 0 ∧
        ∃ f p, s'.files.getLast? = some f ∧ f.headerStart = UInt64.ofNat p ∧ p ≤ d'.pos ∧
          f.largeFile = o.largeFile) rs d') := by
  refine WSat.mono ((startEntry_spec ext name o raw ho s hI none d).toWSat.and ?_) fun _ _ h => ⟨h.2, h.1⟩
  unfold startEntry
  rw [if_neg (by omega)]
  refine WSat.step_ok (WSat.mono ((finishFile_sat ext s hI none d).toWSat.and (finishFile_ready ext s d hr))
    fun _ _ h => ⟨h.2.1, h.1⟩) fun s1 d1 _ hp => ?_
  dsimp only
  rw [hp.1]
  dsimp only
  apply WSat.io_none (MSat.streamPosition none d1); intro hs d2 _
  split
  · exact WSat.panic
  · next e h => obtain ⟨c, hc⟩ := localHeaderChunks_new h ho rfl; cases hc
  · apply WSat.io_none (MSat.writeChunks _ none d2); intro _ d3 _
    apply WSat.io_none (MSat.streamPosition none d3); intro he d4 _
    split <;> exact WSat.pure rfl

end ZipVerif.Model
