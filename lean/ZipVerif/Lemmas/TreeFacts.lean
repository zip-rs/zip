import ZipVerif.Lemmas.FaithfulRun
/-
What the expected tree `treeOf` (all entries placed in archive order, then the recorded modes applied,
deepest first) contains, read declaratively (for consistent archives on a fresh target):
  * nothing but what the archive wants, and every directory on the way to any entry
    (`treeOf_kinds_dirs`);
  * at the path of an entry that no later entry targets again: a directory / a file with exactly the
    entry's bytes, with the entry's recorded mode when it has one (`treeOf_last`).
What placing one entry does to the tree is `PutOK` (Lemmas/FaithfulEntry.lean).
-/

namespace ZipVerif.Model.Extract
open ZipVerif ZipVerif.Spec.Paths ZipVerif.Spec.FS ZipVerif.Spec.Tree ZipVerif.Model.Paths

/-! ### `setMode`, read at a path -/

theorem setMode_other (root : Path) (n : Name) (mode : Option Nat) (fs : FS) (q : Path)
    (h : q ≠ resolveFrom root (relComps n)) : (setMode root n mode fs).lookup q = fs.lookup q := by
  unfold setMode
  cases mode with
  | none => rfl
  | some m =>
    simp only [chmodAt]
    split
    · exact lookup_set_ne _ _ h
    · exact lookup_set_ne _ _ h
    · rfl

theorem setMode_at (root : Path) (n : Name) (mode : Option Nat) (fs : FS) (nd : Node)
    (h : fs.lookup (resolveFrom root (relComps n)) = some nd) :
    (setMode root n mode fs).lookup (resolveFrom root (relComps n)) = some (withMode mode nd) := by
  cases mode with
  | none => rw [withMode_none]; exact h
  | some m => rw [setMode, chmodAt_of_bound m h, lookup_set_self]

theorem ContentIs.withMode {e : EntryView} {n : Node} (h : ContentIs e n) (mode : Option Nat) :
    ContentIs e (withMode mode n) := by
  obtain ⟨m, rfl⟩ := contentIs_iff.mp h
  refine contentIs_iff.mpr ?_
  cases isDirName e.name <;> exact ⟨_, rfl⟩

theorem nodeIs_withMode {e : EntryView} {n : Node} (h : ContentIs e n) : NodeIs e (withMode e.mode n) := by
  obtain ⟨m, rfl⟩ := contentIs_iff.mp h
  unfold NodeIs
  cases isDirName e.name <;> cases e.mode <;> simp [Extract.withMode]

/-! ### `setModes`, read at a path -/

theorem setModes_append (root : Path) (a b : List (Name × Option Nat)) (fs : FS) :
    setModes root (a ++ b) fs = setModes root b (setModes root a fs) := by
  induction a generalizing fs with
  | nil => rfl
  | cons m a ih => simp only [List.cons_append, setModes]; exact ih _

theorem setModes_other (root : Path) (ms : List (Name × Option Nat)) (fs : FS) (q : Path)
    (h : ∀ m ∈ ms, q ≠ resolveFrom root (relComps m.1)) : (setModes root ms fs).lookup q = fs.lookup q := by
  induction ms generalizing fs with
  | nil => rfl
  | cons m ms ih =>
    simp only [setModes]
    rw [ih _ (fun m' hm' => h m' (List.mem_cons_of_mem _ hm')), setMode_other _ _ _ _ _ (h m (by simp))]

theorem setMode_content (root : Path) (nm : Name) (mode : Option Nat) (fs : FS) (e : EntryView) (q : Path)
    (h : ∃ n, fs.lookup q = some n ∧ ContentIs e n) :
    ∃ n, (setMode root nm mode fs).lookup q = some n ∧ ContentIs e n := by
  obtain ⟨n, hn, hc⟩ := h
  by_cases hq : q = resolveFrom root (relComps nm)
  · subst hq
    exact ⟨_, setMode_at root nm mode fs n hn, hc.withMode mode⟩
  · exact ⟨n, by rw [setMode_other _ _ _ _ _ hq]; exact hn, hc⟩

theorem setModes_content (root : Path) (ms : List (Name × Option Nat)) (fs : FS) (e : EntryView) (q : Path)
    (h : ∃ n, fs.lookup q = some n ∧ ContentIs e n) :
    ∃ n, (setModes root ms fs).lookup q = some n ∧ ContentIs e n := by
  induction ms generalizing fs with
  | nil => exact h
  | cons m ms ih => simp only [setModes]; exact ih _ (setMode_content root m.1 m.2 fs e q h)

/-! ### all entries placed -/

theorem putAll_append (c : Cfg) (root : Path) (a b : List EntryView) (fs : FS) :
    putAll c root (a ++ b) fs = putAll c root b (putAll c root a fs) := by
  induction a generalizing fs with
  | nil => rfl
  | cons e a ih => simp only [List.cons_append, putAll]; exact ih _

theorem putAll_untouched {c : Cfg} {root : Path} {es : List EntryView} (hpc : PermCfg c)
    (hDF : ∀ r, DirAt es r → FileAt es r → False) (rest : List EntryView)
    (hrest : ∀ e ∈ rest, EntryOK c es e) (fs : FS) (hi : Inv c root fs) (hk : Kinds root es fs)
    {r : Path} {n : Node} (hq : fs.lookup (root ++ r) = some n) (hne : ∀ e ∈ rest, target e ≠ r) :
    (putAll c root rest fs).lookup (root ++ r) = some n := by
  induction rest generalizing fs with
  | nil => exact hq
  | cons e rest ih =>
    obtain ⟨_, ok⟩ := placeEntry_eq hi hk hpc hDF (hrest e (by simp))
    have hne' : root ++ r ≠ root ++ target e :=
      fun h => hne e (by simp) (List.append_cancel_left h).symm
    exact ih (fun e' he' => hrest e' (List.mem_cons_of_mem _ he')) _ ok.inv ok.kinds
      (ok.frame _ _ hq (fun _ => hne')) (fun e' he' => hne e' (List.mem_cons_of_mem _ he'))

theorem putAll_content {c : Cfg} {root : Path} {es : List EntryView} (hpc : PermCfg c)
    (hDF : ∀ r, DirAt es r → FileAt es r → False) (pre post : List EntryView) (e : EntryView)
    (hall : ∀ e' ∈ pre ++ e :: post, EntryOK c es e') (fs : FS) (hi : Inv c root fs)
    (hk : Kinds root es fs) (hlast : ∀ e' ∈ post, target e' ≠ target e) :
    ∃ n, (putAll c root (pre ++ e :: post) fs).lookup (root ++ target e) = some n ∧ ContentIs e n := by
  rw [putAll_append]
  obtain ⟨_, hi1, hk1, _, _⟩ :=
    placeFiles_eq hpc hDF false pre (fun e' he' => hall e' (by simp [he'])) fs hi hk
  obtain ⟨_, ok⟩ := placeEntry_eq hi1 hk1 hpc hDF (hall e (by simp))
  obtain ⟨n, hn1, hn2⟩ := ok.content
  exact ⟨n, putAll_untouched hpc hDF post (fun e' he' => hall e' (by simp [he'])) _ ok.inv ok.kinds hn1 hlast,
    hn2⟩

theorem putAll_dirs {c : Cfg} {root : Path} {es : List EntryView} (hpc : PermCfg c)
    (hDF : ∀ r, DirAt es r → FileAt es r → False) (rest : List EntryView)
    (hrest : ∀ e ∈ rest, EntryOK c es e) (fs : FS) (hi : Inv c root fs) (hk : Kinds root es fs) :
    ∀ e ∈ rest, ∀ r ∈ dirPaths e, ∃ m, (putAll c root rest fs).lookup (root ++ r) = some (.dir m) := by
  induction rest generalizing fs with
  | nil => intro e he; cases he
  | cons e0 rest ih =>
    obtain ⟨_, ok⟩ := placeEntry_eq hi hk hpc hDF (hrest e0 (by simp))
    have hrest' : ∀ e' ∈ rest, EntryOK c es e' := fun e' he' => hrest e' (List.mem_cons_of_mem _ he')
    intro e he r hr
    rcases List.mem_cons.mp he with rfl | he
    · obtain ⟨m, hm⟩ := ok.dirs r hr
      obtain ⟨_, _, _, hg, _⟩ := placeFiles_eq hpc hDF false rest hrest' _ ok.inv ok.kinds
      exact (hg.1 _ m hm).imp fun _ h => h.1
    · exact ih hrest' _ ok.inv ok.kinds e he r hr

/-! ### all modes applied -/

theorem setModes_kinds {root : Path} {es : List EntryView} (ms : List (Name × Option Nat)) (fs : FS)
    (hk : Kinds root es fs) : Kinds root es (setModes root ms fs) := by
  induction ms generalizing fs with
  | nil => exact hk
  | cons m ms ih => simp only [setModes]; exact ih _ (setMode_kinds hk m.1 m.2)

theorem setModes_dir (root : Path) (ms : List (Name × Option Nat)) (fs : FS) (q : Path) (m : Nat)
    (h : fs.lookup q = some (.dir m)) : ∃ m', (setModes root ms fs).lookup q = some (.dir m') := by
  induction ms generalizing fs m with
  | nil => exact ⟨m, h⟩
  | cons x ms ih =>
    simp only [setModes]
    by_cases hq : q = resolveFrom root (relComps x.1)
    · subst hq
      have := setMode_at root x.1 x.2 fs _ h
      simp only [withMode] at this
      exact ih _ _ this
    · exact ih _ m (by rw [setMode_other _ _ _ _ _ hq]; exact h)

theorem pendingOf_append (a b : List (Name × Option Nat)) :
    pendingOf (a ++ b) = pendingOf a ++ pendingOf b := by
  induction a with
  | nil => rfl
  | cons m a ih =>
    obtain ⟨n, md⟩ := m
    cases md with
    | none => simpa [pendingOf] using ih
    | some m0 => simp [pendingOf, ih]

/-- When no later entry goes to the path of `e`, every mode applied after that of `e` belongs to an entry
with another path: the entries after `e` by hypothesis, all others because they are strictly shallower. -/
theorem modeOrder_last {c : Cfg} {es : List EntryView} (pre post : List EntryView) (e : EntryView) {md : Nat}
    (hall : ∀ e' ∈ pre ++ e :: post, EntryOK c es e') (hmode : e.mode = some md)
    (hlast : ∀ e' ∈ post, target e' ≠ target e) :
    ∃ A B, modeOrder ((pre ++ e :: post).map fun e => (e.name, e.mode)) = A ++ (e.name, some md) :: B ∧
      ∀ m ∈ B, ∃ e' ∈ pre ++ e :: post, m.1 = e'.name ∧ target e' ≠ target e := by
  have hsplit : pendingOf ((pre ++ e :: post).map fun e => (e.name, e.mode)) =
      pendingOf (pre.map fun e => (e.name, e.mode)) ++ (pathDepth e.name, e.name, md) ::
        pendingOf (post.map fun e => (e.name, e.mode)) := by
    rw [List.map_append, pendingOf_append, List.map_cons, hmode]; rfl
  obtain ⟨A, B, hAB, hB⟩ := sortModes_split (pendingOf (pre.map fun e => (e.name, e.mode)))
    (pendingOf (post.map fun e => (e.name, e.mode))) (pathDepth e.name, e.name, md)
  refine ⟨A.map fun p => (p.2.1, some p.2.2), B.map fun p => (p.2.1, some p.2.2), ?_, fun m hm => ?_⟩
  · rw [modeOrder, hsplit, hAB, List.map_append, List.map_cons]
  · obtain ⟨y, hy, rfl⟩ := List.mem_map.mp hm
    -- `y` is the pending mode of some entry `e'`
    have hy' : y ∈ sortModes (pendingOf ((pre ++ e :: post).map fun e => (e.name, e.mode))) := by
      rw [hsplit, hAB]; simp [hy]
    obtain ⟨hy1, hy2⟩ := mem_pendingOf.mp (mem_sortModes.mp hy')
    obtain ⟨e', he', hye⟩ := List.mem_map.mp hy1
    simp only [Prod.mk.injEq] at hye
    refine ⟨e', he', hye.1.symm, fun hteq => ?_⟩
    rcases hB y hy with hpost | hlt
    · obtain ⟨hp1, _⟩ := mem_pendingOf.mp hpost
      obtain ⟨e'', he'', hye''⟩ := List.mem_map.mp hp1
      simp only [Prod.mk.injEq] at hye''
      have : target e'' = target e' := by unfold target; rw [hye''.1, hye.1]
      exact hlast e'' he'' (by rw [this, hteq])
    · simp only at hlt
      rw [hy2, ← hye.1, pathDepth_eq (hall e (by simp)).enclosed, pathDepth_eq (hall e' he').enclosed] at hlt
      unfold target at hteq
      rw [hteq] at hlt
      omega

theorem treeOf_last {c : Cfg} {root : Path} {es : List EntryView} (hpc : PermCfg c)
    (hDF : ∀ r, DirAt es r → FileAt es r → False) (pre post : List EntryView) (e : EntryView)
    (hall : ∀ e' ∈ pre ++ e :: post, EntryOK c es e') (fs : FS) (hi : Inv c root fs)
    (hk : Kinds root es fs) (hlast : ∀ e' ∈ post, target e' ≠ target e) :
    ∃ n, (treeOf c root (pre ++ e :: post) fs).lookup (root ++ target e) = some n ∧ NodeIs e n := by
  have htar : ∀ e' ∈ pre ++ e :: post, resolveFrom root (relComps e'.name) = root ++ target e' :=
    fun e' he' => (hall e' he').target root
  obtain ⟨n0, hn0, hc0⟩ := putAll_content hpc hDF pre post e hall fs hi hk hlast
  unfold treeOf
  cases hmode : e.mode with
  | none =>
    obtain ⟨n1, hn1, hc1⟩ := setModes_content root
      (modeOrder ((pre ++ e :: post).map fun e => (e.name, e.mode))) _ e _ ⟨n0, hn0, hc0⟩
    have := nodeIs_withMode hc1
    rw [hmode, withMode_none] at this
    exact ⟨n1, hn1, this⟩
  | some md =>
    obtain ⟨A, B, hAB, hB⟩ := modeOrder_last pre post e hall hmode hlast
    rw [hAB, setModes_append]
    simp only [setModes]
    obtain ⟨n1, hn1, hc1⟩ := setModes_content root A _ e _ ⟨n0, hn0, hc0⟩
    have he := htar e (by simp)
    rw [← he] at hn1
    refine ⟨withMode e.mode n1, ?_, nodeIs_withMode hc1⟩
    rw [setModes_other, ← he, hmode]
    · exact setMode_at root e.name (some md) _ n1 hn1
    · intro m hm
      obtain ⟨e', he', hn, hne⟩ := hB m hm
      rw [hn, htar e' he']
      exact fun h => hne (List.append_cancel_left h).symm

theorem treeOf_kinds_dirs {c : Cfg} {root : Path} {es : List EntryView} (hpc : PermCfg c)
    (hDF : ∀ r, DirAt es r → FileAt es r → False) (hall : ∀ e ∈ es, EntryOK c es e) (fs : FS)
    (hi : Inv c root fs) (hk : Kinds root es fs) :
    Kinds root es (treeOf c root es fs) ∧
      ∀ e ∈ es, ∀ r ∈ dirPaths e, ∃ m, (treeOf c root es fs).lookup (root ++ r) = some (.dir m) := by
  obtain ⟨_, _, hk1, _, _⟩ := placeFiles_eq hpc hDF false es hall fs hi hk
  refine ⟨setModes_kinds _ _ hk1, ?_⟩
  intro e he r hr
  obtain ⟨m, hm⟩ := putAll_dirs hpc hDF es hall fs hi hk e he r hr
  exact setModes_dir root _ _ _ m hm

/-! ### names of ordinary components: any permission bits -/

theorem resolveFrom_normal_length (st : Path) (cs : List Comp) (h : cs.all isNormal = true) :
    (resolveFrom st cs).length = st.length + cs.length := by
  induction cs generalizing st with
  | nil => simp [resolveFrom]
  | cons x cs ih =>
    simp only [List.all_cons, Bool.and_eq_true] at h
    cases x with
    | normal s =>
      have := ih (st ++ [s]) h.2
      simp only [resolveFrom, List.foldl_cons, resolveStep, List.length_append, List.length_cons,
        List.length_nil] at this ⊢
      omega
    | rootDir => simp [isNormal] at h
    | curDir => simp [isNormal] at h
    | parentDir => simp [isNormal] at h

/-- For names made of ordinary components the directories a path is walked through are proper
ancestors of its end: no recorded mode can lock the extractor out, whatever its bits. -/
theorem unlocked_of_plain {es : List EntryView} (h : PlainNames es) : Unlocked es := by
  intro e1 _ e2 he2 _ _ _ _ _ hmem
  obtain ⟨hdot, hall⟩ := h e2 he2
  unfold searched at hmem
  rw [hdot] at hmem
  simp only [Bool.false_eq_true, if_false, List.append_nil] at hmem
  have hallr : (relComps e2.name).reverse.all isNormal = true := by
    rw [List.all_reverse]; exact hall
  have hlen2 : (target e2).length = (relComps e2.name).reverse.length := by
    unfold target resolve
    rw [resolveFrom_normal_length [] _ hall]; simp
  cases hrr : (relComps e2.name).reverse with
  | nil => rw [hrr] at hmem; simp [searchedR] at hmem
  | cons x up =>
    rw [hrr] at hmem hallr hlen2
    simp only [searchedR] at hmem
    obtain ⟨t, ht, hr⟩ := mem_positionsR.mp hmem
    have htall : t.reverse.all isNormal = true := by
      rw [List.all_reverse]
      simp only [List.all_cons, Bool.and_eq_true] at hallr
      rw [List.all_eq_true] at hallr ⊢
      intro y hy
      exact hallr.2 y (ht.subset hy)
    have hlen1 : (target e1).length = t.length := by
      rw [hr]; unfold resolve
      rw [resolveFrom_normal_length [] _ htall]; simp
    have := ht.length_le
    rw [hlen1, hlen2]
    simp only [List.length_cons]
    omega

end ZipVerif.Model.Extract
