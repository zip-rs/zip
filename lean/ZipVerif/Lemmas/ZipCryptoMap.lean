import ZipVerif.Model.ZipCrypto
import ZipVerif.Lemmas.Layers
/-
The bulk loops of the ZipCrypto model (`for byte in buf { .. }`) are the per-byte stateful transform of the
layer model, so what is known about `mapBytes` / `mapKey` (length, concatenation) holds for them.
-/

namespace ZipVerif.Model
open ZipVerif ZipVerif.Model.Layers

theorem decryptAll_eq_map (k : ZipCrypto.Keys) (cs : Bytes) :
    ZipCrypto.decryptAll k cs =
      (mapBytes ZipCrypto.decryptByte k cs, mapKey ZipCrypto.decryptByte k cs) := by
  induction cs generalizing k with
  | nil => rfl
  | cons c cs ih => rw [ZipCrypto.decryptAll, ih]; rfl

theorem encryptAll_eq_map (k : ZipCrypto.Keys) (ps : Bytes) :
    ZipCrypto.encryptAll k ps =
      (mapBytes ZipCrypto.encryptByte k ps, mapKey ZipCrypto.encryptByte k ps) := by
  induction ps generalizing k with
  | nil => rfl
  | cons p ps ih => rw [ZipCrypto.encryptAll, ih]; rfl

end ZipVerif.Model
