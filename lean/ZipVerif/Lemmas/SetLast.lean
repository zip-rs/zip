import ZipVerif.Model.Writer
/- `setLast` (Model/Writer.lean) on lists: the last element is replaced, `[]` is left alone. -/

namespace ZipVerif.Model
open ZipVerif

theorem setLast_eq (files : List FileData) (f : FileData) (h : files ≠ []) :
    setLast files f = files.dropLast ++ [f] := by
  unfold setLast
  have hr : files.reverse ≠ [] := by simpa using h
  cases hrev : files.reverse with
  | nil => exact absurd hrev hr
  | cons x rest =>
    have : files = rest.reverse ++ [x] := by
      have := congrArg List.reverse hrev
      simpa using this
    subst this
    simp

theorem setLast_nil (f : FileData) : setLast [] f = [] := rfl

theorem setLast_ne_nil {files : List FileData} {f : FileData} (h : files ≠ []) : setLast files f ≠ [] := by
  rw [setLast_eq files f h]; simp

theorem getLast?_setLast {files : List FileData} {f : FileData} (h : files ≠ []) :
    (setLast files f).getLast? = some f := by
  rw [setLast_eq files f h]; simp

theorem mem_setLast {files : List FileData} {f g : FileData} (h : g ∈ setLast files f) : g = f ∨ g ∈ files := by
  by_cases hn : files = []
  · subst hn; simp [setLast_nil] at h
  · rw [setLast_eq files f hn] at h
    rcases List.mem_append.mp h with h | h
    · exact Or.inr (List.dropLast_subset _ h)
    · left; simpa using h

theorem setLast_snoc (cf : List FileData) (f g : FileData) : setLast (cf ++ [f]) g = cf ++ [g] := by
  rw [setLast_eq _ _ (by simp)]
  simp

end ZipVerif.Model
