import ZipVerif.Lemmas.FaultWriter
import ZipVerif.Props.C12
import ZipVerif.Lemmas.RunFold
/-
Fault transparency and error propagation lifted to the call alphabet of C12 (`step`, `runCalls`):
every call is `Uniform` (`Uniform.writerRel`: `Uniform` is closed under the whole writer vocabulary); every call except
`drop` is `StepOK`; and the inductions over call sequences behind C11's headline theorems (`run_fault_dichotomy`,
`run_unreached`; `runCalls_mono` through `runWith_congr` of `Lemmas/RunFold`).
-/

namespace ZipVerif.Model
open ZipVerif ZipVerif.Props.C12

def isDrop : Call → Bool
  | .drop => true
  | _ => false

/-- **Every call except `drop`**: transparent to a fault that does not fire inside it, and not `Ok`
when one does. -/
theorem step_stepOK (ext : WExt) (c : Call) (hc : isDrop c = false) (s : WState) :
    StepOK (step ext c s) :=
  GW.step_M ext c s ▸ GW.srel_step StepOK.stepRel
    (fun _ _ => GW.srel_writeAllLoop StepOK.stepRel Tight.write _ _ _ _) ext c (fun h => by subst h; cases hc) s

/-- `Uniform` is closed under the whole writer vocabulary, so every generic writer function at `M` is `Uniform`
(`GW.srel_*`, `Lemmas/WriterRel`; `GW.rel_step`), whatever it does with the errors it sees. -/
def Uniform.writerRel : WriterRel M M where
  R x _ := Uniform x
  pure := Uniform.pure
  bind := Uniform.bind
  panic := Uniform.panic
  attempt := Uniform.attempt
  seekStart _ := Uniform.seek _
  seekCurrent _ := Uniform.seek _
  flush := Tight.flush.uni
  writeAll bs := (Tight.writeAll bs).uni
  write bs := (Tight.write bs).uni

/-- **Every call, `drop` included**, is transparent to a fault that does not fire inside it. -/
theorem step_uniform (ext : WExt) (c : Call) (s : WState) : Uniform (step ext c s) :=
  GW.step_M ext c s ▸ GW.rel_step Uniform.writerRel (fun x => x.length) ext c s

/-- The faulted outcome list agrees with the fault-free one call by call up to a call whose outcome is
not `Ok` (an error — or a panic, excluded separately by `writer_no_panic`). -/
def AgreeUntilErr : List (Out (Option Nat)) → List (Out (Option Nat)) → Prop
  | o :: os, o0 :: os0 => (o = o0 ∧ AgreeUntilErr os os0) ∨ o.isOk = false
  | _, _ => False

/-- Induction behind the headline: for a call sequence without `drop`, the faulted run is either
*equal* to the fault-free run (outcomes, final writer state, final sink including its call counter),
or its outcomes agree with the fault-free ones up to a call that reports an error. -/
theorem run_fault_dichotomy (ext : WExt) (calls : List Call) (hnd : ∀ c ∈ calls, isDrop c = false)
    (k : Nat) : ∀ (s : WState) (d : Dev),
      runCalls ext calls s (some k) d = runCalls ext calls s none d ∨
      AgreeUntilErr (runCalls ext calls s (some k) d).1 (runCalls ext calls s none d).1 := by
  induction calls with
  | nil => intro s d; exact Or.inl rfl
  | cons c cs ih =>
    intro s d
    have ih' := ih (fun c' h' => hnd c' (List.mem_cons_of_mem _ h'))
    have hok := step_stepOK ext c (hnd c List.mem_cons_self) s
    rw [runCalls_cons, runCalls_cons]
    rcases hok.uni.dich k d with ⟨heq, _⟩ | ⟨hf, _⟩
    · -- the fault does not fire inside this call: same step, continue
      rw [heq]
      rcases consOut_cases (callOut s (step ext c s none d)) with ⟨site, _, h⟩ | h
      · exact Or.inl (by rw [h, h])
      · rw [h, h]
        rcases ih' _ _ with e | e
        · exact Or.inl (by rw [e])
        · exact Or.inr (Or.inl ⟨rfl, e⟩)
    · -- the fault fires inside this call: its outcome is not `Ok`
      obtain ⟨os, h⟩ := consOut_head (callOut s (step ext c s (some k) d)) fun s' d' => runCalls ext cs s' (some k) d'
      obtain ⟨os0, h0⟩ := consOut_head (callOut s (step ext c s none d)) fun s' d' => runCalls ext cs s' none d'
      rw [h, h0]
      refine Or.inr (Or.inr (Bool.eq_false_iff.mpr fun hv => ?_))
      obtain ⟨v, s', hk⟩ := callOut_isOk hv
      exact hok.ep k d v s' _ hk hf

theorem AgreeUntilErr.not_allOk {os os0 : List (Out (Option Nat))} (h : AgreeUntilErr os os0) :
    ∃ o ∈ os, o.isOk = false := by
  induction os generalizing os0 with
  | nil => cases os0 <;> exact h.elim
  | cons o os ih =>
    cases os0 with
    | nil => exact h.elim
    | cons o0 os0 =>
      rcases h with ⟨_, h⟩ | h
      · obtain ⟨o', ho', h'⟩ := ih h
        exact ⟨o', by simp [ho'], h'⟩
      · exact ⟨o, by simp, h⟩

/-- In an `AgreeUntilErr` pair the first non-`Ok` outcome is reached after a common prefix: there is an
index `i` with equal outcomes before `i` and a non-`Ok` faulted outcome at `i`. -/
theorem AgreeUntilErr.index {os os0 : List (Out (Option Nat))} (h : AgreeUntilErr os os0) :
    ∃ i o, os.take i = os0.take i ∧ os[i]? = some o ∧ o.isOk = false := by
  induction os generalizing os0 with
  | nil => cases os0 <;> exact h.elim
  | cons o os ih =>
    cases os0 with
    | nil => exact h.elim
    | cons o0 os0 =>
      rcases h with ⟨he, h⟩ | h
      · obtain ⟨i, o', h1, h2, h3⟩ := ih h
        exact ⟨i + 1, o', by simp [he, h1], by simpa using h2, h3⟩
      · exact ⟨0, o, rfl, rfl, h⟩

theorem runCalls_mono (ext : WExt) (calls : List Call) (fa : Option Nat) (s : WState) (d : Dev) :
    d.calls ≤ (runCalls ext calls s fa d).2.2.calls := by
  rw [runCalls_eq_runWith]
  exact (runWith_congr (fun d' => d.calls ≤ d'.calls)
    (fun c s d' h => ⟨rfl, Nat.le_trans h ((step_uniform ext c s).mono fa d')⟩) calls s d (Nat.le_refl _)).2

/-- A fault index outside the window of I/O calls of the fault-free run changes nothing (any call
sequence, `drop` included). -/
theorem run_unreached (ext : WExt) (calls : List Call) (k : Nat) :
    ∀ (s : WState) (d : Dev), (k < d.calls ∨ (runCalls ext calls s none d).2.2.calls ≤ k) →
      runCalls ext calls s (some k) d = runCalls ext calls s none d := by
  induction calls with
  | nil => intro s d _; rfl
  | cons c cs ih =>
    intro s d hk
    have hm := (step_uniform ext c s).mono none d
    have hs := (step_uniform ext c s).same_of_outside (k := k) (d := d)
    rw [← callOut_dev s (step ext c s none d)] at hm hs
    rw [runCalls_cons] at hk
    rw [runCalls_cons, runCalls_cons]
    rcases consOut_cases (callOut s (step ext c s none d)) with ⟨site, _, h⟩ | h
    · rw [h] at hk
      rw [hs hk, h, h]
    · have hr := runCalls_mono ext cs none (callOut s (step ext c s none d)).2.1 (callOut s (step ext c s none d)).2.2
      rw [h] at hk
      dsimp only at hk
      rw [hs (by omega), h, h, ih _ _ (by omega)]

end ZipVerif.Model
