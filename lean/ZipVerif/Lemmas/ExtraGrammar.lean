import ZipVerif.Lemmas.Align
import ZipVerif.Lemmas.ExtraBridge
import ZipVerif.Lemmas.CentralParseZ
/-
The two specifications of a well-formed extra field: the APPNOTE grammar of user-writable records
(`Spec.Extra.WFExtra`, what `validate_extra_data` accepts: `Align.validateExtraData_ok_iff`) implies the condition
the layout specification puts on foreign extra data (`Spec.Zip.ExtraOk`: complete records, none with identifier
0x0001 or 0x9901).  Hence what either model of `validate_extra_data` accepts is `ExtraOk`.
-/

namespace ZipVerif.WL
open ZipVerif ZipVerif.Model ZipVerif.Spec.Extra ZipVerif.Spec.Zip

theorem u16le_eq_le16 {n : Nat} (h : n < 65536) : u16le n = le16 (UInt16.ofNat n) := by
  rw [u16le, le16, UInt16.toNat_ofNat_of_lt' h]

theorem extraOk_encodeAll : ∀ rs : List Record, (∀ r ∈ rs, r.Fits ∧ r.Allowed) → ExtraOk (encodeAll rs)
  | [], _ => by decide
  | r :: rs, h => by
    obtain ⟨⟨hid, hlen⟩, h1, -, hres⟩ := h r List.mem_cons_self
    have ih : ExtraOk (encodeAll rs) := extraOk_encodeAll rs fun x hx => h x (List.mem_cons_of_mem _ hx)
    have e : encodeAll (r :: rs) = le16 (UInt16.ofNat r.id) ++ (le16 (UInt16.ofNat r.payload.length) ++
        (r.payload ++ encodeAll rs)) := by
      simp only [encodeAll, Record.encode, u16le_eq_le16 hid, u16le_eq_le16 hlen, List.append_assoc]
    have ne : ∀ k : Nat, k < 65536 → r.id ≠ k → UInt16.ofNat r.id ≠ UInt16.ofNat k := fun k hk hne heq =>
      hne (by simpa [UInt16.toNat_ofNat_of_lt' hid, UInt16.toNat_ofNat_of_lt' hk] using congrArg UInt16.toNat heq)
    unfold ExtraOk at ih ⊢
    rw [← extraOkZAux_false] at ih ⊢
    rw [e]
    -- 0x9901 is a registered identifier (`reservedIds`), so validation refuses it with the rest
    exact extraOkZAux_record false _ _ _ _ (UInt16.toNat_ofNat_of_lt' hlen).symm
      (by simpa using ne 1 (by decide) h1)
      (ne 0x9901 (by decide) fun e => hres (e ▸ by decide)) ih

theorem extraOk_of_wf {ed : Bytes} (h : WFExtra ed) : ExtraOk ed := by
  obtain ⟨-, rs, hrs, rfl⟩ := h
  exact extraOk_encodeAll rs hrs

theorem align_validate_extraOk {lf : Bool} {ed : Bytes} (h : Align.validateExtraData lf ed = .ok ()) :
    ExtraOk ed := extraOk_of_wf ((Align.validateExtraData_ok_iff _ _).mp h).1

theorem validate_extraOk {f : FileData} (h : validateExtraData f = .ok ()) : ExtraOk f.extraField :=
  align_validate_extraOk ((Lemmas.ExtraBridge.validate_bridge_ok f).mpr h)

end ZipVerif.WL
