import ZipVerif.Spec.ZipView
/-
Where the records of `Spec.Zip.build l` lie: positions and the bytes found there; `NoFalseSig` from the absence of embedded
end-record, locator and ZIP64 end-record signatures (`noFalseSig_of_no_embedded`).
-/

namespace ZipVerif.Spec.Zip
open ZipVerif

theorem drop_append_len {a b : Bytes} {n : Nat} (h : a.length = n) : (a ++ b).drop n = b := by
  subst h; simp

theorem eocd_length (l : Layout) : l.eocd.length = 22 + l.comment.length := by
  simp [Layout.eocd]; omega

theorem build_length (l : Layout) :
    (build l).length = l.eocdPos + 22 + l.comment.length + l.trailing.length := by
  simp only [build, List.length_append, eocd_length, Layout.eocdPos, Layout.cdStart, Layout.cdOffset,
    Layout.cdSize]
  omega

theorem drop_cdStart (l : Layout) :
    (build l).drop l.cdStart = l.cdBytes ++ (l.end64 ++ (l.eocd ++ l.trailing)) := by
  have : build l = (l.pre ++ localsBytes l.entries ++ l.gapBeforeCd) ++
      (l.cdBytes ++ (l.end64 ++ (l.eocd ++ l.trailing))) := by simp [build]
  rw [this]
  exact drop_append_len (by simp [Layout.cdStart, Layout.cdOffset])

theorem drop_end64Pos (l : Layout) :
    (build l).drop l.end64Pos = l.end64 ++ (l.eocd ++ l.trailing) := by
  have : build l = (l.pre ++ localsBytes l.entries ++ l.gapBeforeCd ++ l.cdBytes) ++
      (l.end64 ++ (l.eocd ++ l.trailing)) := by simp [build]
  rw [this]
  exact drop_append_len (by simp [Layout.end64Pos, Layout.cdStart, Layout.cdOffset, Layout.cdSize]; omega)

theorem drop_eocdPos (l : Layout) : (build l).drop l.eocdPos = l.eocd ++ l.trailing := by
  have : build l = (l.pre ++ localsBytes l.entries ++ l.gapBeforeCd ++ l.cdBytes ++ l.end64) ++
      (l.eocd ++ l.trailing) := by simp [build]
  rw [this]
  exact drop_append_len (by simp [Layout.eocdPos, Layout.cdStart, Layout.cdOffset, Layout.cdSize]; omega)

theorem localsBytes_cons (e : Entry) (es : List Entry) :
    localsBytes (e :: es) = e.localBytes ++ localsBytes es := by simp [localsBytes]

theorem localsBytes_append (es1 es2 : List Entry) :
    localsBytes (es1 ++ es2) = localsBytes es1 ++ localsBytes es2 := by simp [localsBytes]

theorem drop_local (l : Layout) (es1 es2 : List Entry) (e : Entry) (h : l.entries = es1 ++ e :: es2) :
    ∃ rest, (build l).drop (l.pre.length + (localsBytes es1).length + e.gapBefore.length) =
      localRecord e ++ (e.data ++ rest) := by
  refine ⟨descriptor e ++ (localsBytes es2 ++ (l.gapBeforeCd ++ (l.cdBytes ++ (l.end64 ++ (l.eocd ++ l.trailing))))), ?_⟩
  have : build l = (l.pre ++ localsBytes es1 ++ e.gapBefore) ++ (localRecord e ++ (e.data ++
      (descriptor e ++ (localsBytes es2 ++ (l.gapBeforeCd ++ (l.cdBytes ++ (l.end64 ++ (l.eocd ++ l.trailing)))))))) := by
    simp [build, h, localsBytes_append, localsBytes_cons, Entry.localBytes]
  rw [this]
  exact drop_append_len (by simp; omega)

theorem localRecord_eq (e : Entry) :
    ∃ fixed : Bytes, fixed.length = 22 ∧
      localRecord e = le32 sigLocal ++ (fixed ++ (le16 (UInt16.ofNat e.name.length) ++
        (le16 (UInt16.ofNat e.localExtraAll.length) ++ (e.name ++ e.localExtraAll)))) := by
  refine ⟨le16 (e.localVersion.getD e.versionNeeded) ++ le16 e.flagsOut ++ le16 e.method ++ le16 e.time ++
    le16 e.date ++ le32 (if e.hasDesc then 0 else e.crc) ++
    (if e.localZip64 then le32 0xFFFFFFFF ++ le32 0xFFFFFFFF
     else le32 (if e.hasDesc then 0 else lo32 e.csize) ++ le32 (if e.hasDesc then 0 else lo32 e.usize)), ?_, ?_⟩
  · cases e.localZip64 <;> simp
  · unfold localRecord Entry.localExtraAll
    simp only [List.append_assoc]

theorem localRecord_length (e : Entry) :
    (localRecord e).length = 30 + e.name.length + e.localExtraAll.length := by
  obtain ⟨fixed, hf, h⟩ := localRecord_eq e
  rw [h]; simp [hf]; omega

theorem viewList_length (pre : Nat) : ∀ (es : List Entry) (loc chs : Nat),
    (viewList pre es loc chs).length = es.length := by
  intro es
  induction es with
  | nil => intro _ _; rfl
  | cons e es ih => intro loc chs; simp [viewList, ih]

/-! ### `NoFalseSig` from the absence of embedded signatures -/

theorem le32_mk32 (a b c d : UInt8) : le32 (mk32 a b c d) = [a, b, c, d] := by
  have ha := a.toNat_lt; have hb := b.toNat_lt; have hc := c.toNat_lt; have hd := d.toNat_lt
  have hs : (mk32 a b c d).toNat = a.toNat + 256 * (b.toNat + 256 * (c.toNat + 256 * d.toNat)) := by
    rw [mk32, UInt32.toNat_ofNat']; omega
  have e2 : ∀ n, n / 65536 = n / 256 / 256 := fun n => (Nat.div_div_eq_div_mul n 256 256).symm
  have e3 : ∀ n, n / 16777216 = n / 256 / 256 / 256 := fun n => by
    rw [Nat.div_div_eq_div_mul, Nat.div_div_eq_div_mul]
  -- the digits of a number in Horner form, one division at a time
  have dv : ∀ {x : Nat} (y : Nat), x < 256 → (x + 256 * y) / 256 = y := fun y h => by
    rw [Nat.add_mul_div_left _ _ (by decide), Nat.div_eq_of_lt h, Nat.zero_add]
  have md : ∀ {x : Nat} (y : Nat), x < 256 → (x + 256 * y) % 256 = x := fun y h => by
    rw [Nat.add_mul_mod_self_left, Nat.mod_eq_of_lt h]
  rw [le32, hs, e2, e3, dv _ ha, dv _ hb, dv _ hc, md _ ha, md _ hb, md _ hc]
  simp only [UInt8.ofNat_toNat]

theorem infix_of_u32At {b : Bytes} {q : Nat} {v : UInt32} (h : u32At b q = some v) :
    le32 v <:+: b.drop q := by
  unfold u32At at h
  match hd : b.drop q with
  | a :: b' :: c :: d :: r =>
    rw [hd] at h
    simp [rd32] at h
    subst h
    rw [le32_mk32]
    exact ⟨[], r, by simp⟩
  | [] => rw [hd] at h; simp [rd32] at h
  | [_] => rw [hd] at h; simp [rd32] at h
  | [_, _] => rw [hd] at h; simp [rd32] at h
  | [_, _, _] => rw [hd] at h; simp [rd32] at h

theorem infix_drop {α} {x l : List α} {n : Nat} (h : x <:+: l.drop n) : x <:+: l :=
  List.IsInfix.trans h (List.drop_suffix n l).isInfix


theorem infix_take_of_u32At {b : Bytes} {q n : Nat} {v : UInt32} (h : u32At b q = some v)
    (hn : q + 4 ≤ n) : le32 v <:+: b.take n := by
  unfold u32At at h
  match hd : b.drop q with
  | a :: b' :: c :: d :: r =>
    rw [hd] at h
    simp [rd32] at h
    subst h
    rw [le32_mk32]
    have e : (b.take n).drop q = [a, b', c, d] ++ r.take (n - q - 4) := by
      rw [List.drop_take, hd]
      have : n - q = 4 + (n - q - 4) := by omega
      rw [this]
      simp [List.take_add]
    exact infix_drop (n := q) ⟨[], r.take (n - q - 4), by rw [e]; simp⟩
  | [] => rw [hd] at h; simp [rd32] at h
  | [_] => rw [hd] at h; simp [rd32] at h
  | [_, _] => rw [hd] at h; simp [rd32] at h
  | [_, _, _] => rw [hd] at h; simp [rd32] at h

/-- **`NoFalseSig` from "no embedded signatures"**: nothing after the first byte of the end record
(its 18 remaining fixed bytes, the comment, the trailing bytes) contains the end-record signature; an
archive without ZIP64 records contains no locator signature at all; a ZIP64 archive with a prefix
contains no ZIP64 end-record signature before the real one. -/
theorem noFalseSig_of_no_embedded (l : Layout)
    (hwin : l.comment.length + l.trailing.length ≤ 65535)
    (h1 : ¬ le32 sigEocd <:+: (l.eocd ++ l.trailing).tail)
    (h2 : l.needs64 = false → ¬ le32 sigLocator <:+: build l)
    (h3 : l.needs64 = true → l.pre = [] ∨ ¬ le32 sigEocd64 <:+: (build l).take (l.end64Pos + 3)) :
    NoFalseSig l := by
  refine ⟨hwin, fun k _ h => h1 ?_, fun h64 _ h => h2 h64 (infix_drop (infix_of_u32At h)), ?_⟩
  · have := infix_of_u32At h
    have e : (build l).drop (l.eocdPos + 1 + k) = ((l.eocd ++ l.trailing).tail).drop k := by
      rw [Nat.add_assoc, ← List.drop_drop, drop_eocdPos, ← List.drop_one, List.drop_drop]
    rw [e] at this
    exact infix_drop this
  · intro h64 k hk h
    rcases h3 h64 with hp | hn
    · rw [hp] at hk; exact absurd hk (by simp)
    · refine hn (infix_take_of_u32At h ?_)
      have h64p : l.end64Pos = l.pre.length + l.cdOffset + l.cdSize := by
        simp [Layout.end64Pos, Layout.cdStart]
      omega

end ZipVerif.Spec.Zip
