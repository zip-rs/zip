import ZipVerif.Lemmas.ReaderBounds
/-
The loop bounds of `Model.streamVisitC` are adequate: every round of `visitEntries` that shows an entry
has consumed at least 30 bytes, every round of `streamCentralLoop` that yields a record at least 46 bytes, of a buffer
no model computation changes (`ReadOnly`) - so a successful run that starts on a device `d` yields at most
`(d.buf.length - d.pos) / 30` entries resp. `(d.buf.length - d.pos) / 46` records (`visitEntries_len`,
`streamCentralLoop_len`); that the structural bounds `len / 30 + 1`, `len / 46 + 1` of `streamVisitC` are never what
ends its loops is drawn from these in `Tie/VisitC` (`entries_bound`, `central_bound`).  First section: `AdvBy` and
`ReadOnly` pass through `M.retried`, and the `AdvBy` rule for a read whose error is caught (`AdvBy.attemptRead`).
-/

namespace ZipVerif.Model
open ZipVerif

/-! ## `M.retried`, `M.attempt (M.read n)` under `AdvBy` / `ReadOnly` -/

unseal Adv in
theorem Adv.retried {α} {p : α → Prop} {k : Nat} {m : M α} (h : Adv p k m) : Adv p k (M.retried m) := by
  intro fa d a d' hr hp
  rcases M.retried_cases m fa d with e | ⟨_, _, _, _, _, e⟩
  · exact h _ _ _ _ (e ▸ hr) hp
  · rw [e] at hr
    cases h0 : m none d with
    | mk o d0 =>
      rw [h0] at hr
      cases hr
      have := h _ _ _ _ h0 hp
      exact this

unseal AdvBy in
theorem AdvBy.retried {α} {k : α → Nat} {m : M α} (h : AdvBy k m) : AdvBy k (M.retried m) := by
  intro fa d a d' hr
  rcases M.retried_cases m fa d with e | ⟨_, _, _, _, _, e⟩
  · exact h _ _ _ _ (e ▸ hr)
  · rw [e] at hr
    cases h0 : m none d with
    | mk o d0 =>
      rw [h0] at hr
      cases hr
      have := h _ _ _ _ h0
      exact this

unseal AdvBy in
theorem AdvBy.attemptRead (n : Nat) : AdvBy (fun _ => 0) (M.attempt (M.read n)) := by
  intro fa d a d' hr
  unfold M.attempt M.read M.prim at hr
  dsimp only at hr
  split at hr
  · next heq =>
    split at heq
    · cases heq
    · cases heq; cases hr
      refine ⟨rfl, Nat.le_add_right _ _, fun hh => ?_⟩
      dsimp only at hh
      show d.pos + ((d.buf.drop d.pos).take n).length ≤ d.buf.length
      rw [List.length_take, List.length_drop]
      omega
  · next heq =>
    split at heq
    · cases heq; cases hr
      exact ⟨rfl, Nat.le_refl _, fun hh => by dsimp only at hh ⊢; omega⟩
    · cases heq
  · cases hr

unseal ReadOnly in
theorem ReadOnly.retried {α} {m : M α} (h : ReadOnly m) : ReadOnly (M.retried m) := by
  intro fa d
  rcases M.retried_cases m fa d with e | ⟨_, _, _, _, _, e⟩ <;> rw [e]
  · exact h _ _
  · exact h none d

/-! ## The consumer's reads and the drains -/

theorem takeLoop_adv (chunk : Nat) : ∀ fuel want : Nat, AdvBy (fun _ => 0) (takeLoop chunk fuel want)
  | 0, _ => by unfold takeLoop; exact AdvBy.pure _ rfl
  | n + 1, want => by
    unfold takeLoop
    adv [AdvBy.attemptRead _, takeLoop_adv chunk n _]

theorem takeLoop_readOnly (chunk fuel want : Nat) : ReadOnly (takeLoop chunk fuel want) :=
  ReadOnly.mlogic.takeLoop (fun _ => (ReadOnly.read _).attempt) chunk fuel want

theorem drain_adv (rem : Nat) : AdvBy (fun _ => 0) (drain rem) := by
  unfold drain
  adv [takeLoop_adv _ _ _]

theorem drainE_adv (rem : Nat) : AdvBy (fun _ => 0) (drainE rem) := by
  unfold drainE
  adv [takeLoop_adv _ _ _]

theorem drain_readOnly (rem : Nat) : ReadOnly (drain rem) := ReadOnly.mlogic.drain takeLoop_readOnly rem

theorem drainE_readOnly (rem : Nat) : ReadOnly (drainE rem) := ReadOnly.mlogic.drainE takeLoop_readOnly rem

/-! ## One round of `visit` -/

theorem visitFile_adv (ext : Ext) (c : Consume) : AdvBy entryCost (visitFile ext c) := by
  unfold visitFile
  adv [streamHeader_adv.retried, takeLoop_adv _ _ _, (drain_adv _).retried]

theorem visitFile_readOnly (ext : Ext) (c : Consume) : ReadOnly (visitFile ext c) :=
  ReadOnly.mlogic.visitFile takeLoop_readOnly ReadOnly.getDev drain_readOnly ReadOnly.retried ReadOnly.panic ext c

theorem visitEntry_adv (ext : Ext) (c : Consume) : AdvBy entryCost (visitEntry ext c) := by
  unfold visitEntry
  adv [visitFile_adv ext c, (drainE_adv _).retried]

theorem visitEntry_readOnly (ext : Ext) (c : Consume) : ReadOnly (visitEntry ext c) :=
  ReadOnly.mlogic.visitEntry ReadOnly.retried (visitFile_readOnly ext c) drainE_readOnly

/-! ## The two loops -/

theorem visitEntries_readOnly (ext : Ext) (pat : List Consume) (fuel i : Nat) :
    ReadOnly (visitEntries ext pat fuel i) :=
  ReadOnly.mlogic.visitEntries ext (visitEntry_readOnly ext) pat fuel i

theorem visitEntries_adv (ext : Ext) (pat : List Consume) :
    ∀ fuel i, AdvBy (fun l => 30 * l.length) (visitEntries ext pat fuel i)
  | 0, _ => AdvBy.pure _ rfl
  | fuel + 1, i => by
    unfold visitEntries
    refine AdvBy.bind (visitEntry_adv ext _) fun e => ?_
    cases e with
    | none => exact AdvBy.pure _ rfl
    | some x =>
      refine AdvBy.bind (visitEntries_adv ext pat fuel (i + 1)) fun rest => AdvBy.pure _ ?_
      show 30 * (rest.length + 1) - 30 - 30 * rest.length = 0
      omega

theorem visitEntries_len (ext : Ext) (pat : List Consume) : ∀ (fuel i : Nat) {fa : Option Nat} {d d' : Dev}
    {l : List (FileData × Bytes)}, visitEntries ext pat fuel i fa d = (.ok l, d') →
    30 * l.length ≤ d.buf.length - d.pos :=
  fun fuel i _ _ _ _ h => (visitEntries_adv ext pat fuel i).room h

theorem streamCentralLoop_adv : ∀ fuel, AdvBy (fun l => 46 * l.length) (streamCentralLoop fuel)
  | 0 => AdvBy.pure _ rfl
  | fuel + 1 => by
    unfold streamCentralLoop
    refine AdvBy.bind AdvBy.readU32 fun sig => ?_
    split
    · exact AdvBy.pure _ rfl
    · refine AdvBy.bind (centralHeaderInner_adv 0 0) fun f => ?_
      refine AdvBy.bind (streamCentralLoop_adv fuel) fun rest => AdvBy.pure _ ?_
      -- what is left of the budget: 4 went to the signature, 42 to the record behind it, 46 to each later record
      show 46 * (rest.length + 1) - 4 - 42 - 46 * rest.length = 0
      omega

theorem streamCentralLoop_len : ∀ (fuel : Nat) {fa : Option Nat} {d d' : Dev} {l : List FileData},
    streamCentralLoop fuel fa d = (.ok l, d') → 46 * l.length ≤ d.buf.length - d.pos :=
  fun fuel _ _ _ _ h => (streamCentralLoop_adv fuel).room h

end ZipVerif.Model
