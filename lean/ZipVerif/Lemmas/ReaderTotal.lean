import ZipVerif.Model.Reader
import ZipVerif.Model.Writer
import ZipVerif.Lemmas.MWalk
import ZipVerif.Lemmas.MRun
import ZipVerif.Lemmas.ByIndexOpen
/-
For C05: panic-freedom (`NoPanic`) and read-only-ness (`ReadOnly`) of every reader-model function, and value
postconditions of successful runs (`PostV`).  `NoPanic` and `ReadOnly` are closed under the constructs the
model is written with (`pure`, bind, `throw`, `attempt`, primitives, `if`/`match`): they are logics
(`NoPanic.mlogic`, `ReadOnly.mlogic`), so their per-function facts are instances of the walks in `Lemmas/ParserRel` and
`Lemmas/MWalk`; `PostV` carries a postcondition per function (here: the `read_to_end` outcome that `by_index*`,
`by_name*` and the streaming reader hand out is no panic) and has a walker of its own (`postv`: `throw`, `panic`, a
bind behind `readExact` or behind anything, `split`, and `pure` leaves left as goals; `PostV.ite`, `PostV.seekStart`
are applied by hand; there is no rule for `attempt`).
Also here: the two assumptions of C05 (`DevSane`: inputs shorter than 2^63 bytes, under which `find_content` does not
panic, `NoPanicOn`; `ExtNoPanic`: the external decoders and decryption layers do not panic), and the inversion lemmas
for successful runs of the monad operations and read primitives (`M.*_ok_inv`) and of `new_append`
(`newAppend_ok_inv`).
-/

namespace ZipVerif.Model
open ZipVerif

/-! ## `NoPanic` -/

def NoPanic {α} (x : M α) : Prop := ∀ fa d, ¬ (x fa d).1.isPanic = true

/-- Every real in-memory or file input is shorter than 2^63 bytes. -/
def DevSane (d : Dev) : Prop := d.buf.length < 2 ^ 63

def NoPanicOn {α} (P : Dev → Prop) (x : M α) : Prop := ∀ fa d, P d → ¬ (x fa d).1.isPanic = true

theorem NoPanic.on {α} {P : Dev → Prop} {x : M α} (h : NoPanic x) : NoPanicOn P x :=
  fun fa d _ => h fa d

namespace NoPanic
variable {α β : Type}

theorem pure (a : α) : NoPanic (Pure.pure a : M α) := fun _ _ h => by cases h

theorem throw (e : ZErr) : NoPanic (M.throw e : M α) := fun _ _ h => by cases h

theorem getDev : NoPanic M.getDev := fun _ _ h => by cases h

theorem bind {x : M α} {f : α → M β} (hx : NoPanic x) (hf : ∀ a, NoPanic (f a)) :
    NoPanic (x >>= f) := by
  intro fa d
  show ¬ (match x fa d with
    | (.ok a, d') => f a fa d'
    | (.err e, d') => (.err e, d')
    | (.panic s, d') => (.panic s, d')).1.isPanic = true
  have h := hx fa d
  split
  · exact hf _ fa _
  · intro h; cases h
  · rename_i s d' heq
    rw [heq] at h; exact fun _ => h rfl

theorem attempt {x : M α} (hx : NoPanic x) : NoPanic (M.attempt x) := by
  intro fa d
  have h := hx fa d
  unfold M.attempt
  split
  · intro h; cases h
  · intro h; cases h
  · rename_i s d' heq
    rw [heq] at h; exact fun _ => h rfl

theorem liftOut {o : Out α} (h : ¬ o.isPanic = true) : NoPanic (M.liftOut o) := fun _ _ => h

theorem prim {f : Dev → Out α × Dev} (h : ∀ d, ¬ (f d).1.isPanic = true) : NoPanic (M.prim f) := by
  intro fa d
  unfold M.prim
  dsimp only
  split
  · intro h; cases h
  · exact h _

theorem read (n : Nat) : NoPanic (M.read n) := prim fun _ h => by cases h

theorem write (bs : Bytes) : NoPanic (M.write bs) := prim fun _ h => by cases h

theorem flush : NoPanic M.flush := prim fun _ h => by cases h

theorem seek (s : SeekFrom) : NoPanic (M.seek s) := prim fun d => by
  cases s <;> dsimp only <;> split <;> (intro h; cases h)

theorem streamPosition : NoPanic M.streamPosition := seek _

-- `NoPanic` is made irreducible below (so are `PostV` and `ReadOnly` after their rules): later proofs in this file open
-- it through `elim` / `intro`.
theorem elim {x : M α} (h : NoPanic x) (fa : Option Nat) (d : Dev) : ¬ (x fa d).1.isPanic = true :=
  h fa d

theorem intro {x : M α} (h : ∀ fa d, ¬ (x fa d).1.isPanic = true) : NoPanic x := h

end NoPanic

attribute [irreducible] NoPanic

/-- Panic-freedom is a logic.  It is not closed under `panic`: `find_content`, the one parser with a panic site, is dealt
with pointwise below. -/
def NoPanic.mlogic : MLogic where
  P := NoPanic
  pure := NoPanic.pure
  bind := NoPanic.bind
  throw := NoPanic.throw
  read := NoPanic.read
  seek := NoPanic.seek

namespace NoPanic

theorem readExact (n : Nat) : NoPanic (M.readExact n) := NoPanic.mlogic.readExact n

theorem readU8 : NoPanic M.readU8 := NoPanic.mlogic.readU8

theorem readU16 : NoPanic M.readU16 := NoPanic.mlogic.readU16

theorem readU32 : NoPanic M.readU32 := NoPanic.mlogic.readU32

end NoPanic

theorem takeAll_noPanic (limit : Nat) : NoPanic (takeAll limit) := NoPanic.mlogic.takeAll limit

theorem readCentralLoop_noPanic (off n : Nat) : NoPanic (readCentralLoop off n) :=
  NoPanic.mlogic.readCentralLoop off n

theorem openArchive_noPanic : NoPanic openArchive := NoPanic.mlogic.openArchive NoPanic.attempt

/-- External code (decoders, decryption layers) is assumed not to panic: hypothesis of C05. -/
structure ExtNoPanic (ext : Ext) : Prop where
  decode : ∀ m bs, ¬ (ext.decode m bs).isPanic = true
  zipCrypto : ∀ pw c raw, ¬ (ext.zipCrypto pw c raw).isPanic = true
  aes : ∀ pw mode cs raw, ¬ (ext.aes pw mode cs raw).isPanic = true
  aesStream : ∀ pw mode cs raw s, ext.aes pw mode cs raw = .ok (some s) → ¬ s.isPanic = true

/-- The `Ext` with only the Stored "decoder" and no decryption support. -/
def storedExt : Ext where
  decode _ raw := .ok raw
  zipCrypto _ _ _ := .err .unsupportedArchive
  aes _ _ _ _ := .err .unsupportedArchive

theorem storedExt_noPanic : ExtNoPanic storedExt where
  decode _ _ h := by cases h
  zipCrypto _ _ _ h := by cases h
  aes _ _ _ _ h := by cases h
  aesStream _ _ _ _ _ h := by cases h

theorem streamVisit_noPanic (ext : Ext) : NoPanic (streamVisit ext) :=
  NoPanic.mlogic.streamVisit NoPanic.getDev ext

theorem newAppend_noPanic : NoPanic newAppend := NoPanic.mlogic.newAppend NoPanic.attempt

/-! ## Inversion of the monad operations on a successful run -/

namespace M
variable {α β : Type}

theorem bind_ok_inv {x : M α} {f : α → M β} {fa : Option Nat} {d d'' : Dev} {b : β}
    (h : (x >>= f) fa d = (.ok b, d'')) :
    ∃ a d', x fa d = (.ok a, d') ∧ f a fa d' = (.ok b, d'') := by
  rw [M.bind_apply] at h
  generalize x fa d = r at h
  obtain ⟨(a | e | s), d'⟩ := r
  · exact ⟨a, d', rfl, h⟩
  · cases h
  · cases h

theorem pure_ok_inv {a b : α} {fa : Option Nat} {d d' : Dev}
    (h : (Pure.pure a : M α) fa d = (.ok b, d')) : b = a ∧ d' = d := by
  cases h; exact ⟨rfl, rfl⟩

theorem throw_ok_inv {e : ZErr} {b : α} {fa : Option Nat} {d d' : Dev}
    (h : (M.throw e : M α) fa d = (.ok b, d')) : False := by
  cases h

theorem prim_ok_inv {f : Dev → Out α × Dev} {fa : Option Nat} {d d' : Dev} {a : α}
    (h : M.prim f fa d = (.ok a, d')) : f { d with calls := d.calls + 1 } = (.ok a, d') := by
  unfold M.prim at h
  dsimp only at h
  split at h
  · cases h
  · exact h

theorem read_ok_inv {n : Nat} {fa : Option Nat} {d d' : Dev} {r : Bytes}
    (h : M.read n fa d = (.ok r, d')) :
    r = (d.buf.drop d.pos).take n ∧ d'.buf = d.buf ∧ d'.pos = d.pos + r.length := by
  have h := prim_ok_inv h
  cases h
  exact ⟨rfl, rfl, rfl⟩

theorem seek_start_ok_inv {n : Nat} {fa : Option Nat} {d d' : Dev} {a : Nat}
    (h : M.seek (.start n) fa d = (.ok a, d')) : a = n ∧ d'.buf = d.buf ∧ d'.pos = n := by
  have h := prim_ok_inv h
  dsimp only at h
  split at h
  · cases h
  · cases h; exact ⟨by simp, rfl, by simp⟩

theorem seek_end0_ok_inv {fa : Option Nat} {d d' : Dev} {a : Nat}
    (h : M.seek (.endOff 0) fa d = (.ok a, d')) : a = d.buf.length ∧ d'.buf = d.buf := by
  have h := prim_ok_inv h
  dsimp only at h
  split at h
  · cases h
  · cases h; exact ⟨by simp, rfl⟩

theorem streamPosition_ok_inv {fa : Option Nat} {d d' : Dev} {a : Nat}
    (h : M.streamPosition fa d = (.ok a, d')) : a = d.pos ∧ d'.buf = d.buf ∧ d'.pos = d.pos := by
  have h := prim_ok_inv h
  dsimp only at h
  cases h
  exact ⟨by simp, rfl, rfl⟩

theorem readExact_ok_inv {n : Nat} {fa : Option Nat} {d d' : Dev} {r : Bytes}
    (h : M.readExact n fa d = (.ok r, d')) :
    r.length = n ∧ d'.buf = d.buf ∧ d'.pos = d.pos + n ∧ (0 < n → d'.pos ≤ d.buf.length) := by
  unfold M.readExact at h
  split at h
  · obtain ⟨rfl, rfl⟩ := pure_ok_inv h
    subst n
    exact ⟨rfl, rfl, rfl, fun h => absurd h (Nat.lt_irrefl 0)⟩
  · obtain ⟨r1, d1, h1, h2⟩ := bind_ok_inv h
    obtain ⟨hr, hb, hp⟩ := read_ok_inv h1
    split at h2
    · obtain ⟨rfl, rfl⟩ := pure_ok_inv h2
      rename_i hlen
      have hl : r.length ≤ d.buf.length - d.pos := by
        rw [hr, List.length_take, List.length_drop]; omega
      refine ⟨hlen, hb, by omega, fun _ => by omega⟩
    · split at h2
      · exact (throw_ok_inv h2).elim
      · obtain ⟨_, _, _, h3⟩ := bind_ok_inv h2
        exact (throw_ok_inv h3).elim

end M

namespace M

theorem readU16_ok_inv {fa : Option Nat} {d d' : Dev} {v : UInt16}
    (h : M.readU16 fa d = (.ok v, d')) :
    d'.buf = d.buf ∧ d'.pos = d.pos + 2 ∧ d'.pos ≤ d.buf.length := by
  unfold M.readU16 at h
  obtain ⟨r, d1, h1, h2⟩ := bind_ok_inv h
  obtain ⟨_, hb, hp, hl⟩ := readExact_ok_inv h1
  split at h2
  · obtain ⟨_, rfl⟩ := pure_ok_inv h2
    exact ⟨hb, hp, hl (by omega)⟩
  · exact (throw_ok_inv h2).elim

theorem readU32_ok_inv {fa : Option Nat} {d d' : Dev} {v : UInt32}
    (h : M.readU32 fa d = (.ok v, d')) :
    d'.buf = d.buf ∧ d'.pos = d.pos + 4 ∧ d'.pos ≤ d.buf.length := by
  unfold M.readU32 at h
  obtain ⟨r, d1, h1, h2⟩ := bind_ok_inv h
  obtain ⟨_, hb, hp, hl⟩ := readExact_ok_inv h1
  split at h2
  · obtain ⟨_, rfl⟩ := pure_ok_inv h2
    exact ⟨hb, hp, hl (by omega)⟩
  · exact (throw_ok_inv h2).elim

theorem readU64_ok_inv {fa : Option Nat} {d d' : Dev} {v : UInt64}
    (h : M.readU64 fa d = (.ok v, d')) :
    d'.buf = d.buf ∧ d'.pos = d.pos + 8 ∧ d'.pos ≤ d.buf.length := by
  unfold M.readU64 at h
  obtain ⟨r, d1, h1, h2⟩ := bind_ok_inv h
  obtain ⟨_, hb, hp, hl⟩ := readExact_ok_inv h1
  split at h2
  · obtain ⟨_, rfl⟩ := pure_ok_inv h2
    exact ⟨hb, hp, hl (by omega)⟩
  · exact (throw_ok_inv h2).elim

end M

/-! ## Pointwise panic-freedom, for the one place where the device matters -/

def NoPanicAt {α} (x : M α) (fa : Option Nat) (d : Dev) : Prop := ¬ (x fa d).1.isPanic = true

theorem NoPanicAt.bind {α β} {x : M α} {f : α → M β} {fa : Option Nat} {d : Dev}
    (hx : NoPanicAt x fa d) (hf : ∀ a d', x fa d = (.ok a, d') → NoPanicAt (f a) fa d') :
    NoPanicAt (x >>= f) fa d := by
  unfold NoPanicAt at *
  show ¬ (match x fa d with
    | (.ok a, d') => f a fa d'
    | (.err e, d') => (.err e, d')
    | (.panic s, d') => (.panic s, d')).1.isPanic = true
  generalize hr : x fa d = r at hx hf
  obtain ⟨(a | e | s), d'⟩ := r
  · exact hf a d' rfl
  · intro h; cases h
  · exact fun _ => hx rfl

/-- read.rs:255 — `header_start + 30 + n + m` cannot overflow: the 4-byte signature read at
`header_start` fails with `UnexpectedEof` unless `header_start + 4 ≤ len`, and `len < 2^63`. -/
theorem findContent_noPanicOn (f : FileData) : NoPanicOn DevSane (findContent f) := by
  intro fa d hsane
  unfold DevSane at hsane
  show NoPanicAt (findContent f) fa d
  unfold findContent
  refine NoPanicAt.bind ((NoPanic.seek _).elim _ _) fun _ d1 h1 => ?_
  obtain ⟨_, hb1, hp1⟩ := M.seek_start_ok_inv h1
  refine NoPanicAt.bind (NoPanic.readU32.elim _ _) fun sig d2 h2 => ?_
  obtain ⟨hb2, hp2, hl2⟩ := M.readU32_ok_inv h2
  split
  · exact (NoPanic.throw _).elim _ _
  · refine NoPanicAt.bind ((NoPanic.seek _).elim _ _) fun _ d3 _ => ?_
    refine NoPanicAt.bind (NoPanic.readU16.elim _ _) fun nameLen d4 _ => ?_
    refine NoPanicAt.bind (NoPanic.readU16.elim _ _) fun extraLen d5 _ => ?_
    dsimp only
    have hn := nameLen.toNat_lt
    have hm := extraLen.toNat_lt
    split
    · rename_i hge
      exfalso
      rw [hb1] at hl2
      omega
    · exact (NoPanic.bind (NoPanic.seek _) fun _ => NoPanic.pure _).elim _ _

theorem byIndexRaw_noPanicOn (a : Archive) (i : Nat) : NoPanicOn DevSane (byIndexRaw a i) := by
  intro fa d hsane
  show NoPanicAt (byIndexRaw a i) fa d
  unfold byIndexRaw
  split
  · exact (NoPanic.throw _).elim _ _
  · refine NoPanicAt.bind (findContent_noPanicOn _ fa d hsane) fun ds d1 _ => ?_
    exact (NoPanic.bind (takeAll_noPanic _) fun _ => NoPanic.pure _).elim _ _

theorem M.panic_noPanic_false {α} {s : String} (h : NoPanic (M.panic s : M α)) : False :=
  h.elim none (Dev.ofBytes []) rfl

/-- `by_index*`, open half: `find_content` is the one step that needs the device to be sane. -/
theorem byIndexOpen_noPanicOn (a : Archive) (i : Nat) (pw : Option Bytes) :
    NoPanicOn DevSane (byIndexOpen a i pw) := by
  intro fa d hsane
  show NoPanicAt (byIndexOpen a i pw) fa d
  unfold byIndexOpen
  split
  · exact (NoPanic.throw _).elim _ _
  · split
    · exact (NoPanic.throw _).elim _ _
    · exact NoPanicAt.bind (findContent_noPanicOn _ fa d hsane) fun _ _ _ => (NoPanic.pure _).elim _ _

/-- `by_index*`, read half: the decryption layers are the places a panic could come from. -/
theorem readChoice_noPanic {ext : Ext} (hext : ExtNoPanic ext) (data : FileData) (ds : Nat) :
    ∀ c, NoPanic (readChoice ext data ds c)
  | .unsupported => NoPanic.throw _
  | .invalidPassword => NoPanic.pure _
  | .plaintext => NoPanic.bind (takeAll_noPanic _) fun _ => NoPanic.pure _
  | .zipCrypto pw v => by
    refine NoPanic.bind (takeAll_noPanic _) fun raw => ?_
    split
    · exact NoPanic.throw _
    · rename_i s heq
      exact absurd (by rw [heq]; rfl) (hext.zipCrypto _ _ _)
    · exact NoPanic.pure _
    · exact NoPanic.pure _
  | .aes pw mode vv => by
    refine NoPanic.bind (takeAll_noPanic _) fun raw => ?_
    split
    · exact NoPanic.throw _
    · rename_i s heq
      exact absurd (by rw [heq]; rfl) (hext.aes _ _ _ _)
    · exact NoPanic.pure _
    · exact NoPanic.pure _

theorem byIndexRead_noPanicOn (ext : Ext) (hext : ExtNoPanic ext) (a : Archive) (i : Nat)
    (pw : Option Bytes) : NoPanicOn DevSane (byIndexRead ext a i pw) := by
  intro fa d hsane
  rw [byIndexRead_eq_open]
  exact NoPanicAt.bind (byIndexOpen_noPanicOn a i pw fa d hsane) fun _ _ _ => (readChoice_noPanic hext _ _ _).elim _ _

/-! ### The inner outcome: `read_to_end` on the returned `ZipFile` -/

theorem Out.bind_noPanic {α β} {x : Out α} {f : α → Out β} (hx : ¬ x.isPanic = true)
    (hf : ∀ a, ¬ (f a).isPanic = true) : ¬ (x >>= f).isPanic = true := by
  cases x with
  | ok a => exact hf a
  | err e => intro h; cases h
  | panic s => exact fun _ => hx rfl

theorem crcCheck_noPanic (ae2 : Bool) (c : UInt32) (bs : Bytes) :
    ¬ (crcCheck ae2 c bs).isPanic = true := by
  unfold crcCheck
  split <;> (intro h; cases h)

theorem decodeCrc_noPanic {ext : Ext} (hext : ExtNoPanic ext) (m : Method) (raw : Bytes) (ae2 : Bool)
    (c : UInt32) : ¬ (ext.decode m raw >>= fun dec => crcCheck ae2 c dec).isPanic = true :=
  Out.bind_noPanic (hext.decode _ _) fun _ => crcCheck_noPanic _ _ _

/-! ## Value postconditions of successful runs -/

def PostV {α} (Q : α → Prop) (x : M α) : Prop := ∀ fa d a d', x fa d = (.ok a, d') → Q a

namespace PostV
variable {α β : Type} {Q : α → Prop}

theorem pure {a : α} (h : Q a) : PostV Q (Pure.pure a : M α) := by
  intro fa d b d' hb
  obtain ⟨rfl, _⟩ := M.pure_ok_inv hb
  exact h

theorem throw (e : ZErr) : PostV Q (M.throw e : M α) := fun _ _ _ _ h => (M.throw_ok_inv h).elim

theorem panic (s : String) : PostV Q (M.panic s : M α) := fun _ _ _ _ h => by cases h

theorem bind {P : β → Prop} {x : M β} {f : β → M α} (hx : PostV P x)
    (hf : ∀ b, P b → PostV Q (f b)) : PostV Q (x >>= f) := by
  intro fa d a d' h
  obtain ⟨b, d1, h1, h2⟩ := M.bind_ok_inv h
  exact hf b (hx _ _ _ _ h1) _ _ _ _ h2

theorem bind_any {x : M β} {f : β → M α} (hf : ∀ b, PostV Q (f b)) : PostV Q (x >>= f) :=
  bind (P := fun _ => True) (fun _ _ _ _ _ => trivial) fun b _ => hf b

theorem ite {c : Prop} [Decidable c] {x y : M α} (hx : PostV Q x) (hy : PostV Q y) :
    PostV Q (if c then x else y) := by
  split
  · exact hx
  · exact hy

-- for `postv`: `apply PostV.id` succeeds on a `PostV` goal only, which keeps the `dsimp only` / `split` that follow it
-- off the leaf goals `Q a`
theorem id {x : M α} (h : PostV Q x) : PostV Q x := h

theorem intro {x : M α} (h : ∀ fa d a d', x fa d = (.ok a, d') → Q a) : PostV Q x := h

theorem seekStart (n : Nat) : PostV (fun c => c = n) (M.seek (.start n)) :=
  fun _ _ _ _ h => (M.seek_start_ok_inv h).1

theorem elim {x : M α} (h : PostV Q x) {fa : Option Nat} {d d' : Dev} {a : α}
    (hr : x fa d = (.ok a, d')) : Q a := h _ _ _ _ hr

theorem readExact (n : Nat) : PostV (fun r => r.length = n) (M.readExact n) :=
  fun _ _ _ _ h => (M.readExact_ok_inv h).1

end PostV

attribute [irreducible] PostV

/-- Walk a `do` block down to its `pure` leaves, which are left as goals `Q a`. -/
syntax "postv" (" [" term,* "]")? : tactic
macro_rules
  | `(tactic| postv) => `(tactic| postv [])
  | `(tactic| postv [$ts,*]) => `(tactic|
      repeat' (first
        | first $[| with_reducible exact $ts]*
        | with_reducible exact PostV.throw _
        | with_reducible exact PostV.panic _
        | (with_reducible apply PostV.bind (PostV.readExact _); intro _ _)
        | (with_reducible apply PostV.bind_any; intro _)
        | (apply PostV.id; dsimp only; done)
        | (apply PostV.id; dsimp only)
        | (apply PostV.id; split)
        | apply PostV.pure))

/-- What a `PwResult` carries when the entry was opened: its `read_to_end` outcome. -/
def PwResult.InnerNoPanic : PwResult (Nat × Out Bytes) → Prop
  | .ok (_, res) => ¬ res.isPanic = true
  | .invalidPassword => True

/-- The `read_to_end` outcome carried by a successful `by_index*` is not a panic either. -/
theorem readChoice_inner {ext : Ext} (hext : ExtNoPanic ext) (data : FileData) (ds : Nat) (c : CryptoChoice) :
    PostV PwResult.InnerNoPanic (readChoice ext data ds c) := by
  unfold readChoice
  postv
  · trivial
  · trivial
  · rename_i stream hs
    exact Out.bind_noPanic (hext.aesStream _ _ _ _ _ hs) fun _ => decodeCrc_noPanic hext _ _ _ _
  · trivial
  · exact decodeCrc_noPanic hext _ _ _ _
  · exact decodeCrc_noPanic hext _ _ _ _

theorem byIndexRead_inner (ext : Ext) (hext : ExtNoPanic ext) (a : Archive) (i : Nat)
    (pw : Option Bytes) : PostV PwResult.InnerNoPanic (byIndexRead ext a i pw) :=
  byIndexRead_eq_open ext a i pw ▸ PostV.bind_any fun _ => readChoice_inner hext _ _ _

theorem streamEntry_inner (ext : Ext) (hext : ExtNoPanic ext) :
    PostV (fun o => ∀ x, o = some x → ¬ x.2.isPanic = true) (streamEntry ext) := by
  unfold streamEntry
  postv
  · intro x hx; cases hx
  · intro x hx; cases hx
    exact decodeCrc_noPanic hext _ _ _ _

theorem streamEntries_inner (ext : Ext) (hext : ExtNoPanic ext) (fuel : Nat) :
    PostV (fun l => ∀ x ∈ l, ¬ x.2.isPanic = true) (streamEntries ext fuel) := by
  induction fuel with
  | zero =>
    unfold streamEntries
    postv
    intro x hx; cases hx
  | succ n ih =>
    unfold streamEntries
    refine PostV.bind (streamEntry_inner ext hext) fun e he => ?_
    split
    · postv
      intro x hx; cases hx
    · rename_i x
      refine PostV.bind ih fun rest hrest => ?_
      postv
      intro y hy
      cases hy with
      | head => exact he x rfl
      | tail _ hy => exact hrest y hy

theorem streamVisit_inner (ext : Ext) (hext : ExtNoPanic ext) :
    PostV (fun r => ∀ x ∈ r.1, ¬ x.2.isPanic = true) (streamVisit ext) := by
  unfold streamVisit
  apply PostV.bind_any; intro d0
  dsimp only
  refine PostV.bind (streamEntries_inner ext hext _) fun files hfiles => ?_
  postv
  exact hfiles

/-! ## `ReadOnly`: the readers never modify the device contents (whatever the outcome) -/

def ReadOnly {α} (x : M α) : Prop := ∀ fa d, (x fa d).2.buf = d.buf

namespace ReadOnly
variable {α β : Type}

theorem pure (a : α) : ReadOnly (Pure.pure a : M α) := fun _ _ => rfl
theorem throw (e : ZErr) : ReadOnly (M.throw e : M α) := fun _ _ => rfl
theorem panic (s : String) : ReadOnly (M.panic s : M α) := fun _ _ => rfl
theorem getDev : ReadOnly M.getDev := fun _ _ => rfl

theorem bind {x : M α} {f : α → M β} (hx : ReadOnly x) (hf : ∀ a, ReadOnly (f a)) :
    ReadOnly (x >>= f) := by
  intro fa d
  show ((x >>= f) fa d).2.buf = d.buf
  rw [M.bind_apply]
  have h := hx fa d
  generalize x fa d = r at h
  obtain ⟨(a | e | s), d'⟩ := r
  · exact (hf a fa d').trans h
  · exact h
  · exact h

theorem attempt {x : M α} (hx : ReadOnly x) : ReadOnly (M.attempt x) := by
  intro fa d
  have h := hx fa d
  unfold M.attempt
  generalize x fa d = r at h
  obtain ⟨(a | e | s), d'⟩ := r <;> exact h

theorem prim {f : Dev → Out α × Dev} (h : ∀ d, (f d).2.buf = d.buf) : ReadOnly (M.prim f) := by
  intro fa d
  unfold M.prim
  dsimp only
  split
  · rfl
  · exact h _

theorem read (n : Nat) : ReadOnly (M.read n) := prim fun _ => rfl

theorem seek (s : SeekFrom) : ReadOnly (M.seek s) := prim fun d => by
  cases s <;> dsimp only <;> split <;> rfl

theorem streamPosition : ReadOnly M.streamPosition := seek _

theorem elim {x : M α} (h : ReadOnly x) (fa : Option Nat) (d : Dev) : (x fa d).2.buf = d.buf := h fa d

theorem ok {x : M α} (h : ReadOnly x) {fa : Option Nat} {d d' : Dev} {a : α}
    (hr : x fa d = (.ok a, d')) : d'.buf = d.buf := by
  have := h fa d
  rw [hr] at this
  exact this

end ReadOnly

attribute [irreducible] ReadOnly

def ReadOnly.mlogic : MLogic where
  P := ReadOnly
  pure := ReadOnly.pure
  bind := ReadOnly.bind
  throw := ReadOnly.throw
  read := ReadOnly.read
  seek := ReadOnly.seek

namespace ReadOnly

theorem readExact (n : Nat) : ReadOnly (M.readExact n) := ReadOnly.mlogic.readExact n

theorem readU8 : ReadOnly M.readU8 := ReadOnly.mlogic.readU8

end ReadOnly

theorem findAndParseEocd_readOnly : ReadOnly findAndParseEocd := ReadOnly.mlogic.findAndParseEocd

theorem getDirectoryCounts_readOnly (footer : Eocd) (cdeStart : Nat) :
    ReadOnly (getDirectoryCounts footer cdeStart) :=
  ReadOnly.mlogic.getDirectoryCounts ReadOnly.attempt footer cdeStart

theorem centralHeaderInner_readOnly (off start : Nat) : ReadOnly (centralHeaderInner off start) :=
  ReadOnly.mlogic.centralHeaderInner off start

theorem openArchive_readOnly : ReadOnly openArchive := ReadOnly.mlogic.openArchive ReadOnly.attempt

theorem findContent_readOnly (f : FileData) : ReadOnly (findContent f) :=
  ReadOnly.mlogic.findContent ReadOnly.panic f

theorem byIndexRaw_readOnly (a : Archive) (i : Nat) : ReadOnly (byIndexRaw a i) :=
  ReadOnly.mlogic.byIndexRaw ReadOnly.panic a i

theorem byIndexRead_readOnly (ext : Ext) (a : Archive) (i : Nat) (pw : Option Bytes) :
    ReadOnly (byIndexRead ext a i pw) :=
  ReadOnly.mlogic.byIndexRead ReadOnly.panic ext a i pw

theorem streamHeader_readOnly : ReadOnly streamHeader := ReadOnly.mlogic.streamHeader

theorem streamEntries_readOnly (ext : Ext) (fuel : Nat) : ReadOnly (streamEntries ext fuel) :=
  ReadOnly.mlogic.streamEntries ext fuel

theorem streamVisit_readOnly (ext : Ext) : ReadOnly (streamVisit ext) :=
  ReadOnly.mlogic.streamVisit ReadOnly.getDev ext

/-- Opening for append only reads (the device is written by later `ZipWriter` calls). -/
theorem newAppend_readOnly : ReadOnly newAppend := ReadOnly.mlogic.newAppend ReadOnly.attempt

/-- A successful `new_append`: the end record was found at `cde`, the directory is declared in front of it, the loop
read `files` from there, the device stands on the directory start and the state is the initial one with `files`. -/
theorem newAppend_ok_inv {fa : Option Nat} {d d' : Dev} {s : WState} (h : newAppend fa d = (.ok s, d')) :
    ∃ footer cde d1 ao ds n d3 files d4,
      findAndParseEocd fa d = (.ok (footer, cde), d1) ∧ ds ≤ cde ∧
      newAppend.loop ao n fa d3 = (.ok files, d4) ∧ d'.pos = ds ∧
      s = { WState.init with files, comment := footer.comment, writingRaw := true } := by
  unfold newAppend at h
  obtain ⟨⟨footer, cde⟩, d1, h1, h2⟩ := M.bind_ok_inv h
  dsimp only at h2
  split at h2
  · exact (M.throw_ok_inv h2).elim
  obtain ⟨⟨ao, ds, n⟩, d2, _, h4⟩ := M.bind_ok_inv h2
  dsimp only at h4
  split at h4
  · exact (M.throw_ok_inv h4).elim
  rename_i hds
  obtain ⟨r, d3, _, h6⟩ := M.bind_ok_inv h4
  cases r with
  | error e => exact (M.throw_ok_inv h6).elim
  | ok v =>
    dsimp only at h6
    obtain ⟨files, d4, h7, h8⟩ := M.bind_ok_inv h6
    obtain ⟨_, d5, h9, h10⟩ := M.bind_ok_inv h8
    obtain ⟨rfl, rfl⟩ := M.pure_ok_inv h10
    exact ⟨footer, cde, d1, ao, ds, n, d3, files, d4, h1, Nat.le_of_not_gt hds, h7, (M.seek_start_ok_inv h9).2.2, rfl⟩


/-! ### `by_name*` = lookup in `names_map`, then `by_index*` -/

theorem byNameRead_noPanicOn (ext : Ext) (hext : ExtNoPanic ext) (a : Archive) (name : Bytes)
    (pw : Option Bytes) : NoPanicOn DevSane (byNameRead ext a name pw) := by
  unfold byNameRead
  split
  · exact (NoPanic.throw _).on
  · exact byIndexRead_noPanicOn ext hext a _ pw

theorem byNameRead_readOnly (ext : Ext) (a : Archive) (name : Bytes) (pw : Option Bytes) :
    ReadOnly (byNameRead ext a name pw) :=
  ReadOnly.mlogic.byNameRead ReadOnly.panic ext a name pw

theorem byNameRead_inner (ext : Ext) (hext : ExtNoPanic ext) (a : Archive) (name : Bytes)
    (pw : Option Bytes) : PostV PwResult.InnerNoPanic (byNameRead ext a name pw) := by
  unfold byNameRead
  split
  · exact PostV.throw _
  · exact byIndexRead_inner ext hext a _ pw

end ZipVerif.Model
