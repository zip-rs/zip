import ZipVerif.Lemmas.AesOver
/-
The byte-list source WITHOUT assumptions about what it holds.

`Lemmas/AesList.lean` speaks about a source that holds a whole entry `ct ‖ code ‖ rest`.  The reader model
(`Model/CryptoExt.lean`) applies `validate` + a read-to-end to whatever bytes the `Take` over an accepted
archive delivers: possibly too few, possibly with a wrong code.  Here: the verdict of `validate` on ANY byte list, for
any short-read schedule; and the fixed schedule of the one-shot reader (`aesReadAll`: a never-short source, two reads
`[L, L]` with room for the whole payload, hence `drainLL_*`) on any byte list: the decryption of the payload iff payload
and code are there and the code is right; `InvalidData` for a wrong code; `UnexpectedEof` for missing bytes.
Last, not about that run: `finish_crypto` succeeds from any state that satisfies `ListInv` of an intact entry
(`finish_crypto_intact`, through `ListInv.over`).
-/

namespace ZipVerif.Model.Aes
open ZipVerif

/-! ### the list source: never short, too short -/

theorem listRd_nil (d : Bytes) (n : Nat) :
    listSrc.rd ⟨d, []⟩ n = (.ok (d.take n), ⟨d.drop n, []⟩) := rfl

theorem listRd_empty (sc : List Nat) (n : Nat) : listSrc.rd ⟨[], sc⟩ n = (.ok [], ⟨[], sc.tail⟩) := by
  simp [listSrc, listRd]

theorem readExactAux_zero {σ} (S : Src σ) (f : Nat) (s : σ) (acc : Bytes) :
    readExactAux S f s 0 acc = (.ok acc, s) := by
  cases f <;> simp [readExactAux]

theorem readExact_list_nil (d : Bytes) (n : Nat) (h : n ≤ d.length) :
    readExact listSrc ⟨d, []⟩ n = (.ok (d.take n), ⟨d.drop n, []⟩) := by
  unfold readExact
  cases n with
  | zero => rw [readExactAux_zero]; simp
  | succ n =>
    unfold readExactAux
    rw [listRd_nil]
    have hl : (d.take (n + 1)).length = n + 1 := by rw [List.length_take]; exact Nat.min_eq_left h
    simp only [hl]
    rw [if_neg (Nat.succ_ne_zero n), if_neg (Nat.lt_irrefl _), Nat.sub_self, readExactAux_zero]
    simp

theorem readExact_list' (d : Bytes) (sc : List Nat) (n : Nat) (h : n ≤ d.length) :
    ∃ sc', (sc = [] → sc' = []) ∧ readExact listSrc ⟨d, sc⟩ n = (.ok (d.take n), ⟨d.drop n, sc'⟩) := by
  cases sc with
  | nil => exact ⟨[], fun _ => rfl, readExact_list_nil d n h⟩
  | cons k t =>
    obtain ⟨sc', e⟩ := readExact_list d (k :: t) n h
    exact ⟨sc', fun hh => (by cases hh), e⟩

theorem readExact_list_short (d : Bytes) (sc : List Nat) (n : Nat) (h : d.length < n) :
    ∃ s', readExact listSrc ⟨d, sc⟩ n = (.err (.io .unexpectedEof), s') :=
  (readExact_denotes (listSrc_denotes ⟨d, sc⟩) n).2 h

theorem saltLength_pos (mode : AesMode) : 0 < mode.saltLength := by
  cases mode <;> decide

/-! ### `validate` on any byte list -/

/-- **`AesReader::validate` on an arbitrary byte list, any short-read schedule**: fewer than salt + 2 bytes:
`UnexpectedEof`; otherwise the verdict is the comparison of bytes `salt_len .. salt_len + 2` with the derived
verifier, and an accepted reader stands behind the verifier with the derived keys.  The schedule enters only
the inner reader's remaining schedule. -/
theorem validate_list (P : AesPrims) (hW : P.WF) (mode : AesMode) (L : Nat) (raw : Bytes) (sched : List Nat)
    (pw : Bytes) :
    (raw.length < mode.saltLength + 2 →
      (validate P listSrc mode (some L) ⟨raw, sched⟩ pw).1 = .err (.io .unexpectedEof)) ∧
    (mode.saltLength + 2 ≤ raw.length →
      ((raw.drop mode.saltLength).take 2 ≠
          (P.pbkdf2 pw (raw.take mode.saltLength) (2 * mode.keyLength + 2)).drop (2 * mode.keyLength) →
        (validate P listSrc mode (some L) ⟨raw, sched⟩ pw).1 = .ok none) ∧
      ((raw.drop mode.saltLength).take 2 =
          (P.pbkdf2 pw (raw.take mode.saltLength) (2 * mode.keyLength + 2)).drop (2 * mode.keyLength) →
        ∃ sc, (sched = [] → sc = []) ∧
          validate P listSrc mode (some L) ⟨raw, sched⟩ pw =
            (.ok (some (initValid ⟨raw.drop (mode.saltLength + 2), sc⟩ L
              ((P.pbkdf2 pw (raw.take mode.saltLength) (2 * mode.keyLength + 2)).take mode.keyLength)
              (((P.pbkdf2 pw (raw.take mode.saltLength) (2 * mode.keyLength + 2)).drop mode.keyLength).take
                mode.keyLength))), ⟨raw.drop (mode.saltLength + 2), sc⟩))) := by
  have hsl := saltLength_pos mode
  refine ⟨fun hshort => ?_, fun hlong => ?_⟩
  · by_cases h1 : raw.length < mode.saltLength
    · obtain ⟨s', e⟩ := readExact_list_short raw sched mode.saltLength h1
      unfold validate
      simp only [e]
    · obtain ⟨sc1, e1⟩ := readExact_list raw sched mode.saltLength (Nat.le_of_not_lt h1)
      obtain ⟨s', e2⟩ := readExact_list_short (raw.drop mode.saltLength) sc1 PWD_VERIFY_LENGTH
        (by rw [List.length_drop]; exact Nat.sub_lt_left_of_lt_add (Nat.le_of_not_lt h1) hshort)
      unfold validate
      simp only [e1, e2]
  · obtain ⟨sc1, hn1, e1⟩ := readExact_list' raw sched mode.saltLength (Nat.le_trans (Nat.le_add_right _ _) hlong)
    obtain ⟨sc2, hn2, e2⟩ := readExact_list' (raw.drop mode.saltLength) sc1 PWD_VERIFY_LENGTH
      (by rw [List.length_drop]; exact Nat.le_sub_of_add_le' hlong)
    have e2' : readExact listSrc ⟨raw.drop mode.saltLength, sc1⟩ PWD_VERIFY_LENGTH =
        (.ok ((raw.drop mode.saltLength).take 2), ⟨raw.drop (mode.saltLength + 2), sc2⟩) := by
      rw [e2, List.drop_drop]; rfl
    exact ⟨fun hne => by rw [validate_rejects P listSrc mode L pw e1 e2' hne],
      fun heq => ⟨sc2, fun h => hn2 (hn1 h), validate_accepts P listSrc mode L pw e1 e2' hW heq⟩⟩

/-! ### the one-shot schedule: never-short source, two reads with room for everything -/

section
variable (P : AesPrims) (hW : P.WF) {L : Nat} (hL : L < U64) (B key hk : Bytes)
include hW hL

/-- The first call when the payload is there reads all of it, and compares the code from a state `v1` that stands
behind it. -/
theorem drainLL_first (hle : L ≤ B.length) :
    ∃ pt c, ∃ v1 : Valid ListSrc, cryptBytes P key CtrState.new (B.take L) = .ok (pt, c) ∧
      Valid.read P listSrc (initValid ⟨B, []⟩ L key hk) L = v1.finish P listSrc pt ∧
      v1.inner = ⟨B.drop L, []⟩ ∧ v1.hmacKey = hk ∧ v1.hmacMsg = B.take L ∧ v1.dataRemaining = 0 := by
  by_cases h0 : L = 0
  · subst h0
    exact ⟨[], CtrState.new, _, rfl, read_empty P listSrc _ 0 rfl rfl, rfl, rfl, rfl, rfl⟩
  · have hl : (B.take L).length = L := by rw [List.length_take]; omega
    obtain ⟨pt, c, hch⟩ := crypt_ok P hW hL (initValid_inv P (⟨B, []⟩ : ListSrc) L key hk) (B.take L)
      (Nat.le_of_eq hl)
    refine ⟨pt, c, (initValid ⟨B, []⟩ L key hk).adv ⟨B.drop L, []⟩ (B.take L) c, hch.bytes, ?_, rfl, rfl, rfl,
      Nat.sub_eq_zero_of_le (Nat.le_of_eq hl.symm)⟩
    rw [read_chunk P listSrc _ L h0 (by show listSrc.rd ⟨B, []⟩ (min L L) = _; rw [Nat.min_self]; rfl) (fun h => hl.symm ▸ h)
      (Nat.le_of_eq hl) (Nat.le_of_eq hl) rfl hch.inPlace]
    exact if_pos (Nat.sub_eq_zero_of_le (Nat.le_of_eq hl.symm))

/-- Payload and code are there: the decryption of the payload if the code is its HMAC, `InvalidData` if not. -/
theorem drainLL_full (h : L + AUTH_CODE_LENGTH ≤ B.length) :
    ∃ pt c, cryptBytes P key CtrState.new (B.take L) = .ok (pt, c) ∧
      (drain P listSrc [L, L] (initValid ⟨B, []⟩ L key hk) []).1 =
        if (P.hmac hk (B.take L)).take AUTH_CODE_LENGTH = (B.drop L).take AUTH_CODE_LENGTH then .ok pt
        else .err (.io .invalidData) := by
  obtain ⟨pt, c, v1, hpt, hrd, hin, hk1, hm1, hr1⟩ :=
    drainLL_first P hW hL B key hk (Nat.le_trans (Nat.le_add_right _ _) h)
  have e := readExact_list_nil (B.drop L) AUTH_CODE_LENGTH (by rw [List.length_drop]; exact Nat.le_sub_of_add_le' h)
  rw [← hin] at e
  refine ⟨pt, c, hpt, ?_⟩
  rw [drain, hrd, finish_ok P listSrc v1 pt e, hk1, hm1]
  by_cases heq : (P.hmac hk (B.take L)).take AUTH_CODE_LENGTH = (B.drop L).take AUTH_CODE_LENGTH
  · rw [if_neg (fun hne => hne heq), if_pos heq]
    dsimp only
    rw [drain, read_done P listSrc (v1.compared P _ _) L hr1 rfl]
    simp only [drain, List.append_nil, List.nil_append]
  · rw [if_pos heq, if_neg heq]

/-- Fewer than `L + 10` bytes behind the verifier: `UnexpectedEof`. -/
theorem drainLL_short (h : B.length < L + AUTH_CODE_LENGTH) :
    (drain P listSrc [L, L] (initValid ⟨B, []⟩ L key hk) []).1 = .err (.io .unexpectedEof) := by
  by_cases hle : L ≤ B.length
  · -- the payload is there, the code is cut
    obtain ⟨pt, c, v1, _, hrd, hin, _⟩ := drainLL_first P hW hL B key hk hle
    obtain ⟨s', e⟩ := readExact_list_short (B.drop L) [] AUTH_CODE_LENGTH
      (by rw [List.length_drop]; exact Nat.sub_lt_left_of_lt_add hle h)
    rw [← hin] at e
    rw [drain, hrd, finish_err P listSrc v1 pt e]
  · have hlt : B.length < L := Nat.lt_of_not_le hle
    have h0 : L ≠ 0 := Nat.ne_of_gt (Nat.lt_of_le_of_lt (Nat.zero_le _) hlt)
    by_cases hB : B = []
    · subst hB
      rw [drain, read_at_eof P listSrc _ L ⟨[], []⟩ h0 h0 (listRd_empty [] _)]
    · -- the payload is cut: a partial chunk, then nothing
      have hl : (B.take L).length = B.length := by rw [List.length_take]; exact Nat.min_eq_right (Nat.le_of_lt hlt)
      have hleft : L - (B.take L).length ≠ 0 := hl ▸ Nat.sub_ne_zero_of_lt hlt
      have hBl : 0 < B.length := List.length_pos_iff.mpr hB
      obtain ⟨pt, c, hch⟩ := crypt_ok P hW hL (initValid_inv P (⟨B, []⟩ : ListSrc) L key hk) (B.take L)
        (by rw [hl]; exact Nat.le_of_lt hlt)
      rw [drain, read_chunk P listSrc _ L h0 (s' := ⟨B.drop L, []⟩)
        (by show listSrc.rd ⟨B, []⟩ (min L L) = _; rw [Nat.min_self]; rfl) (fun _ => hl ▸ hBl)
        (by rw [hl]; exact Nat.le_of_lt hlt) (by rw [hl]; exact Nat.le_of_lt hlt) rfl hch.inPlace, if_neg (by exact hleft)]
      dsimp only
      rw [drain, read_at_eof P listSrc _ L ⟨[], []⟩ hleft h0
        (by show listSrc.rd ⟨B.drop L, []⟩ _ = _; rw [List.drop_eq_nil_of_le (Nat.le_of_lt hlt)]; exact listRd_empty [] _)]

end

end ZipVerif.Model.Aes

/-! ## `finish_crypto` on an intact entry -/

namespace ZipVerif.Model
open ZipVerif ZipVerif.Model.Layers

namespace Aes

theorem cryptBytes_length (P : AesPrims) (key : Bytes) {st st' : CtrState} {t c : Bytes}
    (h : cryptBytes P key st t = .ok (c, st')) : c.length = t.length := by
  obtain ⟨ks, hk, rfl⟩ := (cryptBytes_ok_iff P key st t c st').mp h
  rw [xorBytes_length, ksGen_length P key hk, Nat.min_self]

end Aes

open Aes in
/-- **`finish_crypto` on an intact entry succeeds from every reader state that satisfies `ListInv`** (which holds of
the reader `validate` hands out, `ListInv.init`; that `read` calls keep it is not proved): it cannot turn a
decoder's end-of-file into an error. -/
theorem finish_crypto_intact (P : AesPrims) (hW : P.WF) {ct code tail key hk : Bytes} (hL : ct.length < U64)
    (hmac : (P.hmac hk ct).take AUTH_CODE_LENGTH = code) (compressing : Bool) {v : Valid ListSrc} {acc : Bytes}
    (hI : ListInv P ct code tail key hk v acc) :
    ∃ v', finishCrypto P listSrc compressing v = (.ok (), v') :=
  have hcl : code.length = AUTH_CODE_LENGTH := by rw [← hmac, List.length_take, hW.hmac_len]; rfl
  finish_crypto_over P hW listSrc hL ((intact_entry hcl).mpr hmac) compressing (hI.over hcl)

end ZipVerif.Model
