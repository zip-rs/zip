import ZipVerif.Model.DateTime
import ZipVerif.Spec.Dos
/- C18: the bit-level model of `DateTime` agrees with the arithmetic DOS layout. -/

namespace ZipVerif.Model.DateTime
open ZipVerif ZipVerif.Spec

def fields (x : DateTime) : Dos.Fields :=
  ⟨x.year.toNat, x.month.toNat, x.day.toNat, x.hour.toNat, x.minute.toNat, x.second.toNat⟩

theorem fields_inj {x y : DateTime} (h : fields x = fields y) : x = y := by
  cases x; cases y
  simp only [fields, Dos.Fields.mk.injEq] at h
  obtain ⟨h1, h2, h3, h4, h5, h6⟩ := h
  simp only [mk.injEq]
  exact ⟨UInt16.toNat_inj.mp h1, UInt8.toNat_inj.mp h2, UInt8.toNat_inj.mp h3,
    UInt8.toNat_inj.mp h4, UInt8.toNat_inj.mp h5, UInt8.toNat_inj.mp h6⟩

private theorem and_lo (t : UInt16) : (t &&& 31).toNat = t.toNat % 32 := by
  simp only [UInt16.toNat_and]; exact nat_and_mask t.toNat 5

private theorem fld (t : UInt16) (m : UInt16) (s k : Nat) (hs : s < 16)
    (hm : m.toNat = (2 ^ k - 1) <<< s) :
    ((t &&& m) >>> (UInt16.ofNat s)).toNat = t.toNat / 2 ^ s % 2 ^ k := by
  simp only [UInt16.toNat_shiftRight, UInt16.toNat_and, hm, UInt16.toNat_ofNat']
  have : s % 2 ^ 16 % 16 = s := by omega
  rw [this]; exact nat_field t.toNat s k

theorem fromMsdos_year_no_overflow (d : UInt16) :
    ((d &&& 0b1111111000000000) >>> 9).toNat + 1980 < 65536 := by
  have := fld d 0b1111111000000000 9 7 (by decide) (by decide)
  have h2 : ((d &&& 0b1111111000000000) >>> 9).toNat = d.toNat / 512 % 128 := this
  omega

theorem fromMsdos_fields (d t : UInt16) :
    fields (fromMsdos d t) = Dos.unpack d.toNat t.toNat := by
  have hd := d.toNat_lt
  have ht := t.toNat_lt
  have y : ((d &&& 0b1111111000000000) >>> 9).toNat = d.toNat / 512 % 128 :=
    fld d 0b1111111000000000 9 7 (by decide) (by decide)
  have mo : ((d &&& 0b0000000111100000) >>> 5).toNat = d.toNat / 32 % 16 :=
    fld d 0b0000000111100000 5 4 (by decide) (by decide)
  have da : (d &&& 0b0000000000011111).toNat = d.toNat % 32 := and_lo d
  have h : ((t &&& 0b1111100000000000) >>> 11).toNat = t.toNat / 2048 % 32 :=
    fld t 0b1111100000000000 11 5 (by decide) (by decide)
  have mi : ((t &&& 0b0000011111100000) >>> 5).toNat = t.toNat / 32 % 64 :=
    fld t 0b0000011111100000 5 6 (by decide) (by decide)
  have se : (t &&& 0b0000000000011111).toNat = t.toNat % 32 := and_lo t
  simp only [fields, fromMsdos, Dos.unpack, Dos.Fields.mk.injEq, UInt16.toNat_add,
    UInt16.toNat_toUInt8, UInt16.toNat_shiftLeft, y, mo, da, h, mi, se]
  -- used up; left in the context they would be six more atoms for every `omega` below
  clear y mo da h mi se
  refine ⟨?_, ?_, ?_, ?_, ?_, ?_⟩
  · show (d.toNat / 512 % 128 + 1980) % 65536 = _; omega
  · omega
  · omega
  · omega
  · omega
  · show (t.toNat % 32) <<< 1 % 65536 % 256 = _
    rw [Nat.shiftLeft_eq]; omega

theorem fromMsdos_toNat (d t : UInt16) :
    (fromMsdos d t).year.toNat = 1980 + d.toNat / 512 ∧
    (fromMsdos d t).month.toNat = d.toNat / 32 % 16 ∧
    (fromMsdos d t).day.toNat = d.toNat % 32 ∧
    (fromMsdos d t).hour.toNat = t.toNat / 2048 ∧
    (fromMsdos d t).minute.toNat = t.toNat / 32 % 64 ∧
    (fromMsdos d t).second.toNat = 2 * (t.toNat % 32) := by
  have h := fromMsdos_fields d t
  unfold fields Dos.unpack at h
  rw [Dos.Fields.mk.injEq] at h
  exact h

/-- A field or-ed into a 16-bit word above what is there is not truncated, and the "or" is addition. -/
private theorem or_field (lo hi s : Nat) (h : lo < 2 ^ s) (hh : hi * 2 ^ s < 65536) :
    lo ||| hi <<< s % 65536 = lo + hi * 2 ^ s := by
  rw [Nat.shiftLeft_eq, Nat.mod_eq_of_lt hh, ← nat_or_shl lo hi s h, Nat.shiftLeft_eq]

theorem timepart_toNat (x : DateTime) (hs : x.second.toNat < 64) (hm : x.minute.toNat < 64)
    (hh : x.hour.toNat < 32) :
    (timepart x).toNat = Dos.packTime (fields x) := by
  simp only [timepart, Dos.packTime, fields, UInt16.toNat_or, UInt16.toNat_shiftLeft,
    UInt16.toNat_shiftRight, UInt8.toNat_toUInt16]
  show x.second.toNat >>> 1 ||| x.minute.toNat <<< 5 % 65536 ||| x.hour.toNat <<< 11 % 65536 = _
  rw [Nat.shiftRight_eq_div_pow, or_field _ _ 5 (by omega) (by omega), or_field _ _ 11 (by omega) (by omega)]
  omega

theorem datepart_toNat (x : DateTime) (hy : 1980 ≤ x.year.toNat) (hy2 : x.year.toNat ≤ 2107)
    (hm : x.month.toNat < 16) (hd : x.day.toNat < 32) :
    ∃ v, datepart x = some v ∧ v.toNat = Dos.packDate (fields x) := by
  have h1980 : (1980 : UInt16).toNat = 1980 := by decide
  have hlt : ¬ x.year < 1980 := by
    rw [UInt16.lt_iff_toNat_lt]; omega
  refine ⟨x.day.toUInt16 ||| (x.month.toUInt16 <<< 5) ||| ((x.year - 1980) <<< 9),
    by unfold datepart; rw [if_neg hlt], ?_⟩
  have hsub : (x.year - 1980).toNat = x.year.toNat - 1980 := by
    rw [UInt16.toNat_sub_of_le]
    · omega
    · rw [UInt16.le_iff_toNat_le]; omega
  show (x.day.toUInt16 ||| x.month.toUInt16 <<< 5 ||| (x.year - 1980) <<< 9).toNat =
    x.day.toNat + 32 * x.month.toNat + 512 * (x.year.toNat - 1980)
  rw [UInt16.toNat_or, UInt16.toNat_or, UInt16.toNat_shiftLeft, UInt16.toNat_shiftLeft, hsub,
    UInt8.toNat_toUInt16, UInt8.toNat_toUInt16]
  show x.day.toNat ||| x.month.toNat <<< 5 % 65536 ||| (x.year.toNat - 1980) <<< 9 % 65536 = _
  rw [or_field _ _ 5 (by omega) (by omega), or_field _ _ 9 (by omega) (by omega)]
  omega

theorem fromMsdos_representable (d t : UInt16) : Dos.Representable (fields (fromMsdos d t)) := by
  have hd := d.toNat_lt
  have ht := t.toNat_lt
  rw [fromMsdos_fields]
  show 1980 ≤ 1980 + d.toNat / 512 ∧ 1980 + d.toNat / 512 ≤ 2107 ∧ d.toNat / 32 % 16 < 16 ∧
    d.toNat % 32 < 32 ∧ t.toNat / 2048 < 32 ∧ t.toNat / 32 % 64 < 64 ∧ 2 * (t.toNat % 32) < 64
  omega

theorem parts_toNat (x : DateTime) (h : Dos.Representable (fields x)) :
    ∃ v, datepart x = some v ∧ v.toNat = Dos.packDate (fields x) ∧
      (timepart x).toNat = Dos.packTime (fields x) := by
  obtain ⟨h1, h2, h3, h4, h5, h6, h7⟩ := h
  obtain ⟨v, hv, hvn⟩ := datepart_toNat x h1 h2 h3 h4
  exact ⟨v, hv, hvn, timepart_toNat x h7 h6 h5⟩

/-- `from_msdos` then `datepart` / `timepart` is the identity on all 2^32 stamps, and the checked subtraction in
`datepart` does not panic on them. -/
theorem fromMsdos_parts (d t : UInt16) :
    (fromMsdos d t).datepart = some d ∧ (fromMsdos d t).timepart = t := by
  obtain ⟨v, hv, hvn, htn⟩ := parts_toNat _ (fromMsdos_representable d t)
  have hup := Dos.unpack_pack d.toNat t.toNat d.toNat_lt t.toNat_lt
  rw [fromMsdos_fields, hup.1] at hvn
  rw [fromMsdos_fields, hup.2] at htn
  exact ⟨by rw [hv, UInt16.toNat_inj.mp hvn], UInt16.toNat_inj.mp htn⟩

end ZipVerif.Model.DateTime
