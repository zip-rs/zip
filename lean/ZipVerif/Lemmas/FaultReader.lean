import ZipVerif.Lemmas.FaultCore
import ZipVerif.Model.Reader
import ZipVerif.Lemmas.ReaderTotal
import ZipVerif.Lemmas.MLawful
/-
Fault transparency for the seekable reader (`Model/Records.lean`, `Model/Reader.lean`) and for
`new_append` (`Model/Writer.lean`).

Every parser that contains no `attempt` is `Tight`: transparent to a fault that is not reached, and
returning exactly the injected error when it is.  So is `getDirectoryCounts` (since the D18 repair its
probe seek is `?`-propagated and the one `attempt` only swallows `InvalidArchive`, never an I/O error of any kind).
`openArchive` turns a failed seek into `InvalidArchive`: it is `Uniform` and `ErrOnFire`.  `newAppend`
does the same with its first seek and (since the D22 repair) `?`-propagates its last one, which used to be
ignored: it is `Uniform` and `ErrOnFire` too (`newAppend_errOnFire`).  The streaming reader's `visit` (every entry
read to its end) is `Tight` as well; with partial consumption the drain of `ZipFile::drop` swallows read errors, and
`streamEntryC` / `streamEntriesC` are only `Uniform` (K-J).
-/

namespace ZipVerif.Model
open ZipVerif

theorem takeAll_tight (limit : Nat) : Tight (takeAll limit) := Tight.mlogic.takeAll limit

theorem centralHeaderInner_tight (off start : Nat) : Tight (centralHeaderInner off start) :=
  Tight.mlogic.centralHeaderInner off start

theorem findContent_tight (f : FileData) : Tight (findContent f) := Tight.mlogic.findContent Tight.panic f

/-- `by_index` + read to end: no `attempt` anywhere — a fired fault is the call's error. -/
theorem byIndexRead_tight (ext : Ext) (a : Archive) (i : Nat) (pw : Option Bytes) :
    Tight (byIndexRead ext a i pw) :=
  Tight.mlogic.byIndexRead Tight.panic ext a i pw

theorem byNameRead_tight (ext : Ext) (a : Archive) (name : Bytes) (pw : Option Bytes) :
    Tight (byNameRead ext a name pw) :=
  Tight.mlogic.byNameRead Tight.panic ext a name pw

theorem byIndexRaw_tight (a : Archive) (i : Nat) : Tight (byIndexRaw a i) := Tight.mlogic.byIndexRaw Tight.panic a i

theorem M.throw_bind {α β} (e : ZErr) (g : α → M β) : ((M.throw e : M α) >>= g) = M.throw e := rfl

theorem M.ite_bind {α β} (c : Prop) [Decidable c] (a b : M α) (g : α → M β) :
    ((if c then a else b) >>= g) = if c then a >>= g else b >>= g := by
  split <;> rfl

theorem M.liftOut_apply {α} (o : Out α) (fa : Option Nat) (d : Dev) : M.liftOut o fa d = (o, d) := rfl

/-- An action that reports a fired fault as some error, and succeeds under a fault, succeeded without it, identically. -/
theorem ErrOnFire.ok_faultfree {α} {x : M α} (hu : Uniform x) (h : ErrOnFire x) {k : Nat} {d d' : Dev}
    {a : α} (hr : x (some k) d = (.ok a, d')) : x none d = (.ok a, d') := by
  have hn : ¬ Fired k d (x (some k) d).2 := by
    intro hf
    obtain ⟨e, he⟩ := h k d hf
    rw [hr] at he
    cases he
  rw [← hu.same_of_not_fired hn, hr]

theorem Tight.ok_faultfree {α} {x : M α} (h : Tight x) {k : Nat} {d d' : Dev} {a : α}
    (hr : x (some k) d = (.ok a, d')) : x none d = (.ok a, d') :=
  ErrOnFire.ok_faultfree h.uni h.errOnFire hr

/-- `x >>= f` when the fault index lies beyond (or before) the fault-free run of `x`. -/
theorem bind_skip {α β} {x : M α} (hx : Uniform x) (f : α → M β) {k : Nat} {d d1 : Dev} {a : α}
    (h0 : x none d = (.ok a, d1)) (hk : k < d.calls ∨ d1.calls ≤ k) :
    (x >>= f) (some k) d = f a (some k) d1 := by
  have : x (some k) d = x none d := hx.same_of_outside (by rw [h0]; exact hk)
  rw [M.bind_apply, this, h0]

theorem bind_err_of {α β} {x : M α} (f : α → M β) {fa : Option Nat} {d : Dev} {e : ZErr}
    (h : (x fa d).1 = .err e) : ((x >>= f) fa d).1 = .err e := by
  rw [M.bind_of_err (d' := (x fa d).2) (Prod.ext h rfl)]

/-! ### `get_directory_counts`: the ZIP64 probe (after the D18 repair, both parts) -/

/-- the probed position: where a ZIP64 locator would start -/
def probePos (footer : Eocd) : SeekFrom := .endOff (-(20 + 22 + (footer.comment.length : Int)))

/-- What `get_directory_counts` returns when no ZIP64 locator is found (`loc = none`): the fields of
the 22-byte end record. -/
def countsNoZip64 (footer : Eocd) (cdeStart : Nat) : Out (Nat × Nat × Nat) :=
  if cdeStart < footer.cdSize.toNat + footer.cdOffset.toNat then .err .invalidArchive
  else .ok (cdeStart - footer.cdSize.toNat - footer.cdOffset.toNat,
            footer.cdOffset.toNat + (cdeStart - footer.cdSize.toNat - footer.cdOffset.toNat),
            footer.filesOnDisk.toNat)

/-- The part of `get_directory_counts` after the locator question is settled. -/
def afterLocator (footer : Eocd) (cdeStart : Nat) (loc : Option Locator) : M (Nat × Nat × Nat) :=
  match loc with
  | none =>
    let sz := footer.cdSize.toNat
    let off := footer.cdOffset.toNat
    if cdeStart < sz + off then M.throw .invalidArchive else
    let archiveOffset := cdeStart - sz - off
    pure (archiveOffset, off + archiveOffset, footer.filesOnDisk.toNat)
  | some l =>
    if !footer.recordTooSmall && footer.diskNumber.toUInt32 != l.diskWithCd then
      M.throw .unsupportedArchive
    else if cdeStart < 60 then M.throw .invalidArchive else do
      let (f64, archiveOffset) ← findEocd64 l.eocd64Offset.toNat (cdeStart - 60)
      if f64.diskNumber != f64.diskWithCd then M.throw .unsupportedArchive else
      let ds := f64.cdOffset.toNat + archiveOffset
      if ds ≥ 18446744073709551616 then M.throw .invalidArchive else
      pure (archiveOffset, ds, f64.files.toNat)

/-- The locator parse behind a successful probe seek. -/
def probeLocator : M (Option Locator) := do
  let r ← M.attempt parseLocator
  match r with
  | .ok l => pure (some l)
  | .error .invalidArchive => pure none
  | .error e => M.throw e

/-- `get_directory_counts`, split at the probe: with the end record less than 20 bytes into the file there is
no I/O at all; otherwise the probe seek is an ordinary `?`-propagated call. -/
theorem getDirectoryCounts_eq (footer : Eocd) (cdeStart : Nat) :
    getDirectoryCounts footer cdeStart =
      if cdeStart < 20 then afterLocator footer cdeStart none
      else (M.seek (probePos footer) >>= fun _ => probeLocator >>= afterLocator footer cdeStart) := by
  unfold getDirectoryCounts afterLocator probeLocator probePos
  split
  · rfl
  · rw [bind_assoc]; rfl

/-- **`get_directory_counts` reports every injected fault as that very error, whatever its kind** — at the
probe seek, in the locator parse, in the ZIP64 end-record search.  (Before D18 every failure of the probe
seek was taken for "no ZIP64 records"; after its first part a failure of kind `InvalidInput` still was.) -/
theorem getDirectoryCounts_tight (footer : Eocd) (cde : Nat) : Tight (getDirectoryCounts footer cde) := by
  -- the one `attempt`: its handler rethrows every I/O error
  have hp : Tight probeLocator := by
    unfold probeLocator
    refine Tight.attempt_bind Tight.mlogic.parseLocator (fun κ => by cases κ <;> rfl) fun r => ?_
    split <;> first | exact Tight.pure _ | exact Tight.throw _
  have ha : ∀ loc, Tight (afterLocator footer cde loc) := fun loc => by
    have h := fun a b => Tight.mlogic.to_rel (Tight.mlogic.findEocd64 a b)
    refine Tight.mlogic.of_rel ?_
    unfold afterLocator
    parser_rel Tight.mlogic.rel₀ [h _ _, Tight.mlogic.throwR _]
  rw [getDirectoryCounts_eq]
  split
  · exact ha none
  · exact Tight.bind (Tight.seek _) fun _ => Tight.bind hp ha

/-- The probe seek, spelled out: the injected fault (of the device's kind); else `InvalidInput` iff the file
is shorter than locator + end record + comment (the target would be negative); else success. -/
theorem probe_seek_apply (footer : Eocd) (fa : Option Nat) (d : Dev) :
    M.seek (probePos footer) fa d =
      if fa = some d.calls then (.err (.io d.fkind), d.shift 1)
      else if d.buf.length < 42 + footer.comment.length then (.err (.io .invalidInput), d.shift 1)
      else (.ok (d.buf.length - (42 + footer.comment.length)),
            { d.shift 1 with pos := d.buf.length - (42 + footer.comment.length) }) := by
  unfold M.seek M.prim probePos
  dsimp only
  split
  · rfl
  · by_cases hl : d.buf.length < 42 + footer.comment.length
    · rw [if_pos hl, if_pos (by omega)]; rfl
    · rw [if_neg hl, if_neg (by omega)]
      have : ((d.buf.length : Int) + -(20 + 22 + (footer.comment.length : Int))).toNat
          = d.buf.length - (42 + footer.comment.length) := by omega
      simp only [this, Dev.shift]

/-- "There is no room for a locator" is decided from the known position of
the end record, not from an error: found less than 20 bytes into the file (an empty archive), no locator fits
in front of it, and `get_directory_counts` answers from the 22-byte end record WITHOUT ANY I/O call — for
every fault index and every device, so no failure can be mistaken for anything here. -/
theorem probe_skipped_without_room (footer : Eocd) (cde : Nat) (fa : Option Nat) (d : Dev)
    (h20 : cde < 20) :
    getDirectoryCounts footer cde fa d = (countsNoZip64 footer cde, d) := by
  rw [getDirectoryCounts_eq, if_pos h20]
  unfold afterLocator countsNoZip64
  dsimp only
  split <;> rfl

/-- With the end record at 20 or later, EVERY error of the probe seek — of
whatever kind, `InvalidInput` included — is returned by `get_directory_counts` as it is; nothing else is
attempted. -/
theorem probe_seek_error_reported (footer : Eocd) (cde : Nat) (fa : Option Nat) (d d' : Dev)
    (e : ZErr) (h20 : 20 ≤ cde) (hs : M.seek (probePos footer) fa d = (.err e, d')) :
    getDirectoryCounts footer cde fa d = (.err e, d') := by
  rw [getDirectoryCounts_eq, if_neg (by omega), M.bind_apply, hs]

/-- In particular the injected fault at the probe seek is reported, whatever the kind of error the device
fails with (D18 regression statement). -/
theorem probe_injected_fault_reported (footer : Eocd) (cde : Nat) (d : Dev) (h20 : 20 ≤ cde) :
    getDirectoryCounts footer cde (some d.calls) d = (.err (.io d.fkind), d.shift 1) := by
  apply probe_seek_error_reported footer cde (some d.calls) d (d.shift 1) (.io d.fkind) h20
  rw [probe_seek_apply, if_pos rfl]

/-! ### `ZipArchive::new` -/

/-- The seek to the central directory is under an `attempt` whose handler answers `InvalidArchive`, whatever failed:
an error still. -/
theorem openArchive_onFire : ErrOnFire.mlogic.P openArchive := by
  unfold openArchive
  refine ErrOnFire.mlogic.bind ErrOnFire.mlogic.findAndParseEocd fun p => ?_
  refine ErrOnFire.mlogic.ite (ErrOnFire.mlogic.throw _) ?_
  refine ErrOnFire.mlogic.bind (getDirectoryCounts_tight _ _).onFire_err fun c => ?_
  refine OnFire.attempt_bind (Tight.seek _) (fun r => ?_) fun κ fa d => ⟨_, rfl⟩
  cases r with
  | error e => exact ErrOnFire.mlogic.throw _
  | ok n => exact ErrOnFire.mlogic.bind (ErrOnFire.mlogic.readCentralLoop _ _) fun _ => ErrOnFire.mlogic.pure _

theorem openArchive_uniform : Uniform openArchive := openArchive_onFire.uni

/-- **`ZipArchive::new`: a fired fault is reported as an error** — the injected one, or
`InvalidArchive` when it hit the seek to the central directory. -/
theorem openArchive_errOnFire : ErrOnFire openArchive := openArchive_onFire.fire

/-- **`ZipArchive::new` succeeding under a fault returns exactly what the fault-free run returns**, and
leaves the same device. -/
theorem openArchive_ok_faultfree {k : Nat} {d d' : Dev} {a : Archive}
    (h : openArchive (some k) d = (.ok a, d')) : openArchive none d = (.ok a, d') :=
  ErrOnFire.ok_faultfree openArchive_uniform openArchive_errOnFire h

/-! ### `new_append` -/

open M in
/-- `new_append` up to (not including) its last seek: the writer state and the directory start it is
about to seek to.  The text of `Model.newAppend` once more; `newAppend_eq` keeps the two in step. -/
def newAppendCore : M (WState × Nat) := do
  let (footer, cdeStart) ← findAndParseEocd
  if footer.diskNumber != footer.diskWithCd then throw .unsupportedArchive else do
    let (archiveOffset, directoryStart, numberOfFiles) ← getDirectoryCounts footer cdeStart
    if directoryStart > cdeStart then throw .invalidArchive else
    let r ← attempt (seek (.start directoryStart))
    match r with
    | .error _ => throw .invalidArchive
    | .ok _ =>
      let files ← newAppend.loop archiveOffset numberOfFiles
      pure ({ WState.init with files, comment := footer.comment, writingRaw := true }, directoryStart)

theorem newAppend_eq :
    newAppend = (newAppendCore >>= fun p => M.seek (.start p.2) >>= fun _ => pure p.1) := by
  unfold newAppend newAppendCore
  rw [bind_assoc]
  apply bind_congr
  rintro ⟨footer, cde⟩
  dsimp only
  rw [M.ite_bind, M.throw_bind, bind_assoc]
  congr 1
  apply bind_congr
  rintro ⟨ao, ds, n⟩
  dsimp only
  rw [M.ite_bind, M.throw_bind, bind_assoc]
  congr 1
  apply bind_congr
  intro r
  cases r with
  | error e => rfl
  | ok p =>
    dsimp only
    rw [bind_assoc]
    apply bind_congr
    intro files
    rw [pure_bind]

/-- As in `ZipArchive::new`, a failure of the first seek to the directory start is answered with `InvalidArchive`. -/
theorem newAppendCore_onFire : ErrOnFire.mlogic.P newAppendCore := by
  unfold newAppendCore
  refine ErrOnFire.mlogic.bind ErrOnFire.mlogic.findAndParseEocd fun p => ?_
  refine ErrOnFire.mlogic.ite (ErrOnFire.mlogic.throw _) ?_
  refine ErrOnFire.mlogic.bind (getDirectoryCounts_tight _ _).onFire_err fun c => ?_
  refine ErrOnFire.mlogic.ite (ErrOnFire.mlogic.throw _) ?_
  refine OnFire.attempt_bind (Tight.seek _) (fun r => ?_) fun κ fa d => ⟨_, rfl⟩
  cases r with
  | error e => exact ErrOnFire.mlogic.throw _
  | ok n => exact ErrOnFire.mlogic.bind (ErrOnFire.mlogic.newAppend_loop _ _) fun _ => ErrOnFire.mlogic.pure _

theorem newAppend_onFire : ErrOnFire.mlogic.P newAppend :=
  newAppend_eq ▸ ErrOnFire.mlogic.bind newAppendCore_onFire fun _ =>
    ErrOnFire.mlogic.bind (ErrOnFire.mlogic.seek _) fun _ => ErrOnFire.mlogic.pure _

theorem newAppend_uniform : Uniform newAppend := newAppend_onFire.uni

/-- `new_append`: a fired fault — at ANY of its I/O calls, the last seek included — is an error (the
injected one; `InvalidArchive` when it hit the first seek to the directory start, which the crate maps
to that). -/
theorem newAppend_errOnFire : ErrOnFire newAppend := newAppend_onFire.fire

/-- **`new_append` succeeding under a fault** is the failure-free call: the same writer state, the same
sink (bytes, position — the directory start —, call count).  Since D22 was repaired there is no
exception: the seek that repositions the writer onto the old central directory reports its failure. -/
theorem newAppend_ok_faultfree {k : Nat} {d d' : Dev} {s : WState}
    (h : newAppend (some k) d = (.ok s, d')) : newAppend none d = (.ok s, d') :=
  ErrOnFire.ok_faultfree newAppend_uniform newAppend_errOnFire h

/-- **The repositioning seek of `new_append` is reported** (D22, repaired: `seek(..)?` where the crate
had `let _ = seek(..)`).  If the fault-free `new_append` gets as far as its last seek — `d1` being the
sink after the central directory was parsed, `ds` the directory start —, it succeeds and leaves the sink
at `ds`; when exactly that seek fails, `new_append` returns the injected I/O error (it used to return
`Ok` with the sink still at `d1.pos`, behind the old central directory, so that everything written later
landed behind it). -/
theorem newAppend_last_seek_reported {d d1 : Dev} {s : WState} {ds : Nat}
    (h : newAppendCore none d = (.ok (s, ds), d1)) :
    newAppend none d = (.ok s, { d1.shift 1 with pos := ds }) ∧
    newAppend (some d1.calls) d = (.err (.io d.fkind), d1.shift 1) := by
  have hk : d1.fkind = d.fkind := by
    have := newAppendCore_onFire.uni.kind none d
    rw [h] at this
    exact this
  constructor
  · rw [newAppend_eq, M.bind_apply, h]
    dsimp only
    rw [M.bind_apply, M.seek_start_run, if_neg (by simp)]
    rfl
  · rw [newAppend_eq, bind_skip newAppendCore_onFire.uni _ h (Or.inr (Nat.le_refl _))]
    dsimp only
    rw [M.bind_apply, M.seek_start_run, if_pos rfl, hk]
    rfl

/-! ### The scenario "open, then read every entry" -/

/-- `by_index(i)` + `read_to_end` for each index of the list, on one device. -/
def readEntries (ext : Ext) (a : Archive) (pw : Option Bytes) (fa : Option Nat) :
    List Nat → Dev → List (Out (PwResult (Nat × Out Bytes))) × Dev
  | [], d => ([], d)
  | i :: is, d =>
    ((byIndexRead ext a i pw fa d).1 :: (readEntries ext a pw fa is (byIndexRead ext a i pw fa d).2).1,
     (readEntries ext a pw fa is (byIndexRead ext a i pw fa d).2).2)

/-- Reading entries under a fault: identical to the fault-free reads (results and device), or one of
the reads reports the injected error (an I/O error of the kind the device fails with). -/
theorem readEntries_dichotomy (ext : Ext) (a : Archive) (pw : Option Bytes) (k : Nat) :
    ∀ (is : List Nat) (d : Dev),
      readEntries ext a pw (some k) is d = readEntries ext a pw none is d ∨
      .err (.io d.fkind) ∈ (readEntries ext a pw (some k) is d).1 := by
  intro is
  induction is with
  | nil => intro d; exact Or.inl rfl
  | cons i is ih =>
    intro d
    have ht := byIndexRead_tight ext a i pw
    unfold readEntries
    by_cases hf : Fired k d (byIndexRead ext a i pw (some k) d).2
    · right
      rw [ht.reports hf]
      exact List.mem_cons_self
    · rw [ht.uni.same_of_not_fired hf]
      rcases ih (byIndexRead ext a i pw none d).2 with h | h
      · left; rw [h]
      · right
        rw [ht.uni.kind] at h
        exact List.mem_cons_of_mem _ h

/-- `ZipArchive::new`, then every entry read to its end in index order. -/
def openAndReadAll (ext : Ext) (pw : Option Bytes) (fa : Option Nat) (d : Dev) :
    Out Archive × List (Out (PwResult (Nat × Out Bytes))) × Dev :=
  match openArchive fa d with
  | (.ok a, d') => (.ok a, readEntries ext a pw fa (List.range a.files.length) d')
  | (o, d') => (o, [], d')

/-- **The read scenario under a single fault, at ANY index**: the whole outcome — archive value, every
entry's result, final device — is identical to the failure-free run, or `new` reports an error, or one
of the entry reads reports the injected error. -/
theorem openAndReadAll_dichotomy (ext : Ext) (pw : Option Bytes) (k : Nat) (d : Dev) :
    openAndReadAll ext pw (some k) d = openAndReadAll ext pw none d ∨
    (∃ e, (openAndReadAll ext pw (some k) d).1 = .err e) ∨
    .err (.io d.fkind) ∈ (openAndReadAll ext pw (some k) d).2.1 := by
  unfold openAndReadAll
  rcases openArchive_uniform.dich k d with ⟨e, _⟩ | ⟨f, _⟩
  · rw [e]
    rcases h : openArchive none d with ⟨(a | e | p), d'⟩
    · dsimp only
      rcases readEntries_dichotomy ext a pw k (List.range a.files.length) d' with h | h
      · left; rw [h]
      · right; right
        have hk := openArchive_uniform.kind none d
        rw [‹openArchive none d = _›] at hk
        rw [← hk]; exact h
    · left; rfl
    · left; rfl
  · obtain ⟨e, he⟩ := openArchive_errOnFire k d f
    right; left
    rcases h : openArchive (some k) d with ⟨(a | e' | p), d'⟩ <;> rw [h] at he <;> cases he
    exact ⟨e, rfl⟩

/-! ### The streaming reader -/

/-- **`ZipStreamReader::visit`** (every entry read to its end, then the central directory): no failure
is tolerated anywhere. -/
theorem streamVisit_tight (ext : Ext) : Tight (streamVisit ext) := Tight.mlogic.streamVisit Tight.getDev ext

/-! ### Partial consumption + `ZipFile::drop` (`streamEntryC` / `streamEntriesC`)

The drain of `ZipFile::drop` (`Model.drain`) swallows a read error, as the code does (`Err(_) => break`): these
functions are NOT `Tight` — a fault that fires inside the drain is not returned by any call (known finding K-J,
`Props.C11.stream_drain_fault_swallowed`).  What holds for every consumption pattern is `Uniform`: the call
counter is monotone, the device's error kind is kept, and a fault index that is not reached changes nothing. -/

theorem takeLoop_uniform (chunk : Nat) : ∀ fuel want : Nat, Uniform (takeLoop chunk fuel want) :=
  Uniform.mlogic.takeLoop (fun _ => (Tight.read _).uni.attempt) chunk

theorem drain_uniform (rem : Nat) : Uniform (drain rem) := Uniform.mlogic.drain takeLoop_uniform rem

theorem streamEntryC_uniform (ext : Ext) (c : Consume) : Uniform (streamEntryC ext c) :=
  Uniform.mlogic.streamEntryC takeLoop_uniform Tight.getDev.uni drain_uniform ext c

theorem streamEntriesC_uniform (ext : Ext) (pattern : List Consume) :
    ∀ fuel i : Nat, Uniform (streamEntriesC ext pattern fuel i) :=
  Uniform.mlogic.streamEntriesC ext (streamEntryC_uniform ext) pattern

end ZipVerif.Model
