import ZipVerif.Lemmas.MRun
/- The I/O monad `M` satisfies the monad laws (kept apart from the evaluation lemmas: the instance changes what
`simp` does with `>>=` in `M`). -/

namespace ZipVerif.Model
open ZipVerif

instance instLawfulM : LawfulMonad M := LawfulMonad.mk'
  (id_map := by
    intro α x
    funext fa d
    show (x >>= fun a => pure (id a)) fa d = x fa d
    rw [M.bind_apply]
    rcases h : x fa d with ⟨o, d'⟩
    cases o <;> rfl)
  (pure_bind := by intros; rfl)
  (bind_assoc := by
    intro α β γ x f g
    funext fa d
    simp only [M.bind_apply]
    rcases h : x fa d with ⟨o, d'⟩
    cases o <;> simp only [])

end ZipVerif.Model
