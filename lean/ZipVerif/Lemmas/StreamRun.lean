import ZipVerif.Lemmas.StreamParse
import ZipVerif.Lemmas.ReadWf
/-
The streaming reader's loops on contiguous runs of local records of `Spec.Zip.build l`:
the entry loop under a consumption pattern (`streamEntriesC`), the read-everything loop
(`streamEntries`), the central-directory loop of the visitor (`streamCentralLoop`), and
`ZipStreamReader::visit` (`streamVisit`). The two entry loops are one loop (`entryLoop`) over different
steps; what holds of both is proved for it, from what a step does (`EntryStep`).
-/

namespace ZipVerif.Model
open ZipVerif ZipVerif.Spec.Zip

/-! ### small additions to the run calculus -/

def mapOut {α β : Type} (g : α → β) : Out α → Out β
  | .ok a => .ok (g a)
  | .err e => .err e
  | .panic s => .panic s

theorem Runs.bind_map {α β : Type} {B : Bytes} {p q : Nat} {m : M α} {g : α → β} {o : Out α}
    (h : Runs m B p o q) : Runs (m >>= fun r => (Pure.pure (g r) : M β)) B p (mapOut g o) q := by
  intro d hb hp
  obtain ⟨d1, e1, hb1, hp1⟩ := h d hb hp
  refine ⟨d1, ?_, hb1, hp1⟩
  rw [M.runPure_bind, e1]
  cases o <;> rfl

theorem Runs.getDev_bind_pos {β : Type} {B : Bytes} {p q : Nat} {f : Dev → M β} {o : Out β}
    (h : ∀ d : Dev, d.buf = B → d.pos = p → Runs (f d) B p o q) : Runs (M.getDev >>= f) B p o q := by
  intro d hb hp
  obtain ⟨d1, e1, hb1, hp1⟩ := h d hb hp d hb hp
  exact ⟨d1, by rw [M.runPure_bind]; exact e1, hb1, hp1⟩

theorem Runs.getDev_bind {β : Type} {B : Bytes} {p q : Nat} {f : Dev → M β} {o : Out β}
    (h : ∀ d : Dev, d.buf = B → Runs (f d) B p o q) : Runs (M.getDev >>= f) B p o q :=
  Runs.getDev_bind_pos fun d hb _ => h d hb

/-! ### one streamed entry -/

theorem contig_localBytes {e : Entry} (hg : e.gapBefore = []) (hd : e.hasDesc = false) :
    e.localBytes = localRecord e ++ e.data := by
  have h : e.desc = .none := by simpa [Entry.hasDesc] using hd
  simp [Entry.localBytes, hg, descriptor, h]

theorem streamView_csize (e : Entry) (hf : e.Fits) :
    (streamViewEntry e).compressedSize.toNat = e.data.length := U64.toNat_ofNat (Nat.lt_trans hf.2.2.2.2.1 (by decide))

/-- header, then the whole `Take` read in one go (the read-everything consumer): the device ends
`compressed size` bytes behind the data start. -/
theorem runs_streamEntryG (G : FileData → Bytes → Out Bytes) (e : Entry) (hf : e.Fits) (hs : LocalSizesOk e)
    {B rest : Bytes} {p : Nat} (hb : B.drop p = localRecord e ++ (e.data ++ rest)) :
    Runs (streamHeader >>= fun h => match h with
        | none => (pure none : M (Option (FileData × Out Bytes)))
        | some f => takeAll f.compressedSize.toNat >>= fun raw => pure (some (f, G f raw))) B p
      (.ok (some (streamViewEntry e, G (streamViewEntry e) e.data)))
      (p + (localRecord e).length + e.data.length) := by
  refine Runs.bind ((parses_streamHeader e p hf hs).toRuns hb) ?_
  dsimp only
  rw [streamView_csize e hf]
  refine Runs.bind (runs_takeAll (drop_past hb)) ?_
  exact Runs.pure _

/-- **The reads on a `Take`** (`takeLoop`: the consumer's pulls, and the drain of `ZipFile::drop`) on a
device that still holds `want` bytes: no error, `n ≤ want` bytes delivered, the device `n` bytes further;
and ALL `want` bytes when the buffer is not empty and the fuel is the one the model uses. -/
theorem runs_takeLoop {B : Bytes} (chunk : Nat) : ∀ (fuel want p : Nat), want ≤ B.length - p →
    ∃ n, n ≤ want ∧ Runs (takeLoop chunk fuel want) B p (.ok (n, none)) (p + n) ∧
      (0 < chunk → want ≤ fuel → n = want) := by
  intro fuel
  induction fuel with
  | zero =>
    intro want p _
    exact ⟨0, Nat.zero_le _, by unfold takeLoop; exact Runs.pure _, fun _ h => by omega⟩
  | succ f ih =>
    intro want p hw
    unfold takeLoop
    by_cases h0 : want = 0
    · rw [if_pos h0]; exact ⟨0, Nat.zero_le _, Runs.pure _, fun _ _ => h0.symm⟩
    · rw [if_neg h0]
      have hlen : ((B.drop p).take (min want chunk)).length = min want chunk := by
        rw [List.length_take, List.length_drop]
        exact Nat.min_eq_left (Nat.le_trans (Nat.min_le_left _ _) hw)
      have hread : Runs (M.attempt (M.read (min want chunk))) B p
          (.ok (.ok ((B.drop p).take (min want chunk)))) (p + min want chunk) :=
        Runs.attempt_ok ((Runs.read _).cast rfl (by rw [hlen]))
      by_cases hc : min want chunk = 0
      · refine ⟨0, Nat.zero_le _, ?_, fun hpos _ => by omega⟩
        refine Runs.bind hread ?_
        dsimp only
        rw [if_pos (by rw [hlen]; exact hc)]
        exact (Runs.pure _).cast rfl (by omega)
      · have hmw : min want chunk ≤ want := Nat.min_le_left _ _
        generalize min want chunk = m at *
        obtain ⟨n, hn, hr, hfull⟩ := ih (want - m) (p + m)
          (by rw [← Nat.sub_sub]; exact Nat.sub_le_sub_right hw m)
        refine ⟨m + n, Nat.add_le_of_le_sub' hmw hn, ?_, fun hpos hfu => ?_⟩
        · refine Runs.bind hread ?_
          dsimp only
          rw [if_neg (by rw [hlen]; exact hc), hlen]
          refine Runs.bind hr ?_
          exact (Runs.pure _).cast rfl (Nat.add_assoc p m n)
        · rw [hfull hpos (by omega)]; exact Nat.add_sub_cancel' hmw

theorem runs_drain {B : Bytes} (rem p : Nat) (h : rem ≤ B.length - p) :
    Runs (drain rem) B p (.ok ()) (p + rem) := by
  obtain ⟨n, _, hr, hfull⟩ := runs_takeLoop (B := B) 65536 rem rem p h
  have hn : n = rem := hfull (by decide) (Nat.le_refl _)
  subst hn
  unfold drain
  refine Runs.bind hr ?_
  exact Runs.pure _

theorem drop_room {B x rest : Bytes} {p : Nat} (h : B.drop p = x ++ rest) : x.length ≤ B.length - p := by
  have := congrArg List.length h
  rw [List.length_drop, List.length_append] at this
  omega

/-- **One entry under any consumer**: whatever number of compressed bytes the consumer's reads pull through
the `Take` (`c.pulled`, in reads of any size `c.chunk`) — decoder read-ahead, a consumer that stops early, one
that never reads — the drain of `ZipFile::drop` reads what is left, and the device ends `compressed size`
bytes behind the data start. -/
theorem runs_streamEntryC (ext : Ext) (c : Consume) (e : Entry) (hf : e.Fits) (hs : LocalSizesOk e)
    {B rest : Bytes} {p : Nat} (hb : B.drop p = localRecord e ++ (e.data ++ rest)) :
    Runs (streamEntryC ext c) B p
      (.ok (some (streamViewEntry e, ext.consume (streamViewEntry e) e.data c.k)))
      (p + (localRecord e).length + e.data.length) := by
  have hb2 : B.drop (p + (localRecord e).length) = e.data ++ rest := drop_past hb
  have hroom := drop_room hb2
  unfold streamEntryC
  refine Runs.bind ((parses_streamHeader e p hf hs).toRuns hb) ?_
  dsimp only
  rw [streamView_csize e hf]
  refine Runs.getDev_bind_pos (fun d hdb hdp => ?_)
  have hraw : (d.buf.drop d.pos).take e.data.length = e.data := by
    rw [hdb, hdp, hb2]; simp
  rw [hraw]
  obtain ⟨n, hn, hr, _⟩ := runs_takeLoop (B := B) c.chunk (min c.pulled e.data.length)
    (min c.pulled e.data.length) (p + (localRecord e).length) (by omega)
  have hn' : n ≤ e.data.length := Nat.le_trans hn (Nat.min_le_right _ _)
  refine Runs.bind hr ?_
  dsimp only
  refine Runs.bind (runs_drain (B := B) (e.data.length - n) _ ?_) ?_
  · rw [← Nat.sub_sub]; exact Nat.sub_le_sub_right hroom n
  · exact (Runs.pure _).cast rfl (by rw [Nat.add_assoc _ n, Nat.add_sub_cancel' hn'])

theorem runs_streamEntry (ext : Ext) (e : Entry) (hf : e.Fits) (hs : LocalSizesOk e)
    {B rest : Bytes} {p : Nat} (hb : B.drop p = localRecord e ++ (e.data ++ rest)) :
    Runs (streamEntry ext) B p
      (.ok (some (streamViewEntry e,
        ext.decode (Method.fromU16 e.method) e.data >>= fun dec => crcCheck false e.crc dec)))
      (p + (localRecord e).length + e.data.length) :=
  runs_streamEntryG (fun f raw => ext.decode f.method raw >>= fun dec => crcCheck false f.crc32 dec) e hf hs hb

theorem runs_streamHeader_central {B rest : Bytes} {p : Nat} (hb : B.drop p = le32 sigCentral ++ rest) :
    Runs streamHeader B p (.ok none) (p + 4) := by
  unfold streamHeader
  refine Runs.bind (Runs.readU32 hb) ?_
  rw [if_pos (by decide)]
  exact Runs.pure _

/-! ### the entry loops -/

/-- the `i`-th element of the cycled consumption pattern (nothing consumed for the empty pattern) -/
abbrev patAt (c : List Consume) (i : Nat) : Consume := Consume.at c i

/-- what the consumer of entry `e` sees when it reads `k` decoded bytes and drops the handle -/
def streamSeen (ext : Ext) (e : Entry) (k : Nat) : Out Bytes :=
  consumeK e.crc (ext.decode (Method.fromU16 e.method) e.data)
    (ext.decodeBefore (Method.fromU16 e.method) e.data k) k

/-- what the consumer sees when it reads the entry to end-of-file -/
def streamSeenAll (ext : Ext) (e : Entry) : Out Bytes :=
  ext.decode (Method.fromU16 e.method) e.data >>= fun dec => crcCheck false e.crc dec

def streamResultsC (ext : Ext) (c : List Consume) : Nat → List Entry → List (FileData × Out Bytes)
  | _, [] => []
  | i, e :: es => (streamViewEntry e, streamSeen ext e (patAt c i).k) :: streamResultsC ext c (i + 1) es

def streamResults (ext : Ext) (es : List Entry) : List (FileData × Out Bytes) :=
  es.map fun e => (streamViewEntry e, streamSeenAll ext e)

theorem mapOut_cons_append {α : Type} (x : α) (xs : List α) (o : Out (List α)) :
    mapOut (fun r => x :: r) (mapOut (fun r => xs ++ r) o) = mapOut (fun r => (x :: xs) ++ r) o := by
  cases o <;> rfl

theorem mapOut_nil_append {α : Type} (o : Out (List α)) : mapOut (fun r => ([] : List α) ++ r) o = o := by
  cases o <;> rfl

/-- The shape of `streamEntries` and `streamEntriesC`: `step i` serves the `i`-th entry, or answers `none`
at the central directory. -/
def entryLoop {α : Type} (step : Nat → M (Option α)) : (fuel i : Nat) → M (List α)
  | 0, _ => pure []
  | fuel + 1, i => step i >>= fun
    | none => pure []
    | some x => entryLoop step fuel (i + 1) >>= fun rest => pure (x :: rest)

namespace Runs
variable {α : Type} {step : Nat → M (Option α)} {B : Bytes} {p p' q fuel i : Nat}

theorem entryLoop_none (h : Runs (step i) B p (.ok none) q) :
    Runs (entryLoop step (fuel + 1) i) B p (.ok []) q := by
  rw [entryLoop]
  exact Runs.bind h (Runs.pure _)

theorem entryLoop_err {e : ZErr} (h : Runs (step i) B p (.err e) q) :
    Runs (entryLoop step (fuel + 1) i) B p (.err e) q := by
  rw [entryLoop]
  exact Runs.bind_err h

theorem entryLoop_some {x : α} {o : Out (List α)} (h : Runs (step i) B p (.ok (some x)) p')
    (h' : Runs (entryLoop step fuel (i + 1)) B p' o q) :
    Runs (entryLoop step (fuel + 1) i) B p (mapOut (fun r => x :: r) o) q := by
  rw [entryLoop]
  exact Runs.bind h (Runs.bind_map h')

end Runs

theorem streamEntries_eq_entryLoop (ext : Ext) :
    ∀ fuel i, streamEntries ext fuel = entryLoop (fun _ => streamEntry ext) fuel i
  | 0, _ => rfl
  | fuel + 1, i => by
    rw [streamEntries, entryLoop, streamEntries_eq_entryLoop ext fuel (i + 1)]
    congr 1; funext e; cases e with | none => rfl | some _ => rfl

theorem streamEntriesC_eq_entryLoop (ext : Ext) (c : List Consume) :
    ∀ fuel i, streamEntriesC ext c fuel i = entryLoop (fun i => streamEntryC ext (patAt c i)) fuel i
  | 0, _ => rfl
  | fuel + 1, i => by
    rw [streamEntriesC, entryLoop, streamEntriesC_eq_entryLoop ext c fuel (i + 1)]
    congr 1; funext e; cases e with | none => rfl | some _ => rfl

/-- What the loop lemmas need of a step and of the results `R i es` they state for entries `es` met from
index `i` on: a servable entry is served with `res i e`, the central signature ends the loop, an entry the
stream cannot serve is refused. -/
structure EntryStep {α : Type} (step : Nat → M (Option α)) (res : Nat → Entry → α)
    (R : Nat → List Entry → List α) : Prop where
  nil : ∀ i, R i [] = []
  cons : ∀ i e es, R i (e :: es) = res i e :: R (i + 1) es
  entry : ∀ {B rest : Bytes} {p : Nat} (i : Nat) (e : Entry), e.Fits → LocalSizesOk e →
    B.drop p = localRecord e ++ (e.data ++ rest) →
    Runs (step i) B p (.ok (some (res i e))) (p + (localRecord e).length + e.data.length)
  central : ∀ {B rest : Bytes} {p : Nat} (i : Nat), B.drop p = le32 sigCentral ++ rest →
    Runs (step i) B p (.ok none) (p + 4)
  refuses : ∀ {B rest : Bytes} {p : Nat} (i : Nat) (e : Entry), e.Fits → ExtraOk e.localExtra →
    StreamRefused e → B.drop p = localRecord e ++ rest →
    Runs (step i) B p (.err .unsupportedArchive) (p + (localRecord e).length)

theorem entryStepC (ext : Ext) (c : List Consume) :
    EntryStep (fun i => streamEntryC ext (patAt c i))
      (fun i e => (streamViewEntry e, streamSeen ext e (patAt c i).k)) (streamResultsC ext c) where
  nil _ := rfl
  cons _ _ _ := rfl
  entry i e hf hs hb := runs_streamEntryC ext (patAt c i) e hf hs hb
  central i hb := by
    unfold streamEntryC
    exact Runs.bind (runs_streamHeader_central hb) (Runs.pure _)
  refuses i e hf hx hr hb := by
    unfold streamEntryC
    exact Runs.bind_err ((parsesO_streamHeader_refuses e _ hf hx hr).toRuns hb)

theorem entryStep (ext : Ext) :
    EntryStep (fun _ => streamEntry ext) (fun _ e => (streamViewEntry e, streamSeenAll ext e))
      (fun _ => streamResults ext) where
  nil _ := rfl
  cons _ _ _ := rfl
  entry _ e hf hs hb := runs_streamEntry ext e hf hs hb
  central _ hb := by
    unfold streamEntry
    exact Runs.bind (runs_streamHeader_central hb) (Runs.pure _)
  refuses _ e hf hx hr hb := by
    unfold streamEntry
    exact Runs.bind_err ((parsesO_streamHeader_refuses e _ hf hx hr).toRuns hb)

/-! ### sizes: the fuel of the two loops is adequate -/

theorem thirty_le_locals : ∀ es : List Entry, 30 * es.length ≤ (localsBytes es).length := by
  intro es
  induction es with
  | nil => simp
  | cons e es ih =>
    rw [localsBytes_cons, List.length_append]
    have : 30 ≤ e.localBytes.length := by
      simp only [Entry.localBytes, List.length_append, localRecord_length]; omega
    simp only [List.length_cons]; omega

theorem centralRecord_length_ge (e : Entry) (off : UInt64) : 46 ≤ (centralRecord e off).length := by
  rw [centralRecord_eq]; simp only [List.length_append, le16_length, le32_length]; omega

theorem fortysix_le_central : ∀ (es : List Entry) (loc : Nat),
    46 * es.length ≤ (centralBytes es (localOffsets es loc)).length := by
  intro es
  induction es with
  | nil => intro _; simp
  | cons e es ih =>
    intro loc
    show 46 * (es.length + 1) ≤ (centralRecord e (UInt64.ofNat (loc + e.gapBefore.length)) ++
      centralBytes es (localOffsets es (loc + e.localBytes.length))).length
    have h1 := centralRecord_length_ge e (UInt64.ofNat (loc + e.gapBefore.length))
    have h2 := ih (loc + e.localBytes.length)
    rw [List.length_append]; omega

/-! ### the central-directory loop of the visitor -/

/-- the central views the visitor's metadata callbacks receive: `archive_offset = 0` and
`central_header_start = 0` are the dummy values `parse_central_directory` passes -/
def metaList : List Entry → Nat → List FileData
  | [], _ => []
  | e :: es, loc => viewEntry e (loc + e.gapBefore.length) 0 0 :: metaList es (loc + e.localBytes.length)

theorem central_split (e : Entry) (off : Nat) (hf : e.Fits) (hx : ExtraOk e.centralExtra)
    (hm : e.method ≠ 99) (ho : off < 2 ^ 64) :
    ∃ inner, centralRecord e (UInt64.ofNat off) = le32 sigCentral ++ inner ∧
      ∀ p, Parses (centralHeaderInner 0 0) p inner (viewEntry e off 0 0) :=
  ⟨_, centralRecord_eq e _, fun p => parses_centralInner e off 0 0 p hf hx hm (by omega)⟩

theorem runs_streamCentralLoop {B : Bytes} (w : UInt32) (hw : w ≠ sigCentral) (tail : Bytes) :
    ∀ (es : List Entry) (loc p fuel : Nat),
    (∀ e ∈ es, e.Fits ∧ e.Readable) → loc + (localsBytes es).length < 2 ^ 64 →
    B.drop p = centralBytes es (localOffsets es loc) ++ (le32 w ++ tail) → es.length < fuel →
    Runs (streamCentralLoop fuel) B p (.ok (metaList es loc))
      (p + (centralBytes es (localOffsets es loc)).length + 4) := by
  intro es
  induction es with
  | nil =>
    intro loc p fuel _ _ hb hfuel
    obtain ⟨n, rfl⟩ := Nat.exists_eq_add_one_of_ne_zero (Nat.ne_zero_of_lt hfuel)
    have hb' : B.drop p = le32 w ++ tail := by simpa [centralBytes] using hb
    unfold streamCentralLoop
    refine Runs.bind (Runs.readU32 hb') ?_
    have : (w != CENTRAL_SIG) = true := bne_iff_ne.mpr hw
    rw [if_pos this]
    exact (Runs.pure _).cast rfl (by simp [centralBytes])
  | cons e es ih =>
    intro loc p fuel hall hbound hb hfuel
    obtain ⟨n, rfl⟩ := Nat.exists_eq_add_one_of_ne_zero (Nat.ne_zero_of_lt hfuel)
    obtain ⟨hf, hx, hm⟩ := hall e List.mem_cons_self
    rw [localsBytes_cons, List.length_append] at hbound
    have hlb : e.gapBefore.length ≤ e.localBytes.length := by
      simp only [Entry.localBytes, List.length_append]; omega
    obtain ⟨inner, hrec, hin⟩ := central_split e (loc + e.gapBefore.length) hf hx hm (by omega)
    have hcb : centralBytes (e :: es) (localOffsets (e :: es) loc) =
        centralRecord e (UInt64.ofNat (loc + e.gapBefore.length)) ++
          centralBytes es (localOffsets es (loc + e.localBytes.length)) := rfl
    rw [hcb, hrec, List.append_assoc, List.append_assoc] at hb
    have hrest := ih (loc + e.localBytes.length) (p + 4 + inner.length) n
      (fun x hx => hall x (List.mem_cons_of_mem _ hx)) (by omega)
      (by have := drop_past (drop_past hb); simpa using this) (by simp at hfuel; omega)
    unfold streamCentralLoop
    refine Runs.bind (Runs.readU32 hb) ?_
    rw [if_neg (by decide)]
    refine Runs.bind ((hin (p + 4)).toRuns (drop_past hb)) ?_
    refine Runs.bind hrest ?_
    refine (Runs.pure _).cast rfl ?_
    rw [hcb, hrec]; simp only [List.length_append, le32_length]; omega


/-! ### the loops on `build l` for a contiguous layout -/

theorem build_contig (l : Layout) (hp : l.pre = []) (hg : l.gapBeforeCd = []) :
    build l = localsBytes l.entries ++ (l.cdBytes ++ (l.end64 ++ (l.eocd ++ l.trailing))) := by
  simp [build, hp, hg]

theorem cdStart_contig (l : Layout) (hp : l.pre = []) (hg : l.gapBeforeCd = []) :
    l.cdStart = (localsBytes l.entries).length := by
  simp [Layout.cdStart, Layout.cdOffset, hp, hg]

theorem cdBytes_cons (l : Layout) (e : Entry) (es : List Entry) (h : l.entries = e :: es) :
    l.cdBytes = centralRecord e (UInt64.ofNat (0 + e.gapBefore.length)) ++
      centralBytes es (localOffsets es (0 + e.localBytes.length)) := by
  unfold Layout.cdBytes; rw [h]; rfl

theorem cdBytes_head (l : Layout) (hne : l.entries ≠ []) : ∃ r, l.cdBytes = le32 sigCentral ++ r := by
  cases h : l.entries with
  | nil => exact absurd h hne
  | cons e es =>
    rw [cdBytes_cons l e es h, centralRecord_eq, List.append_assoc]
    exact ⟨_, rfl⟩

theorem end_word (l : Layout) :
    ∃ w r, l.end64 ++ (l.eocd ++ l.trailing) = le32 w ++ r ∧ w ≠ sigCentral := by
  cases h : l.needs64 with
  | true =>
    refine ⟨sigEocd64, ?_⟩
    rw [end64_eq l h]; simp only [List.append_assoc]
    exact ⟨_, rfl, by decide⟩
  | false =>
    refine ⟨sigEocd, ?_⟩
    have : l.end64 = [] := by simp [Layout.end64, h]
    rw [this]; simp only [Layout.eocd, List.append_assoc, List.nil_append]
    exact ⟨_, rfl, by decide⟩

-- the model's fuel `len / 30 + 1` covers one round per entry and one more for the central signature: a local record
-- has at least 30 bytes (`thirty_le_locals`)
theorem fuel_split (l : Layout) :
    ∃ f, (build l).length / 30 + 1 = (f + 1) + l.entries.length := by
  have h30 := thirty_le_locals l.entries
  have hlen : (localsBytes l.entries).length ≤ (build l).length := by
    simp only [build, List.length_append]; omega
  have : l.entries.length ≤ (build l).length / 30 := by
    rw [Nat.le_div_iff_mul_le (by decide)]; omega
  exact ⟨(build l).length / 30 - l.entries.length, by omega⟩

theorem build_split (l : Layout) (hp : l.pre = []) (es1 es2 : List Entry) (e : Entry)
    (hes : l.entries = es1 ++ e :: es2) (hg : e.gapBefore = []) :
    build l = localsBytes es1 ++ (localRecord e ++ (e.data ++ (descriptor e ++ (localsBytes es2 ++
      (l.gapBeforeCd ++ (l.cdBytes ++ (l.end64 ++ (l.eocd ++ l.trailing)))))))) := by
  simp [build, hp, hes, localsBytes_append, localsBytes_cons, Entry.localBytes, hg]

theorem fuel_split' (l : Layout) (es1 es2 : List Entry) (e : Entry) (hes : l.entries = es1 ++ e :: es2) :
    ∃ f, (build l).length / 30 + 1 = (f + 1) + es1.length := by
  obtain ⟨f, hf⟩ := fuel_split l
  refine ⟨f + 1 + es2.length, ?_⟩
  rw [hf, hes]; simp only [List.length_append, List.length_cons]; omega

namespace EntryStep
variable {α : Type} {step : Nat → M (Option α)} {res : Nat → Entry → α} {R : Nat → List Entry → List α}

theorem runs_prefix (S : EntryStep step res R) {B : Bytes} :
    ∀ (es : List Entry) (p i fuel : Nat) (rest : Bytes) (o : Out (List α)) (q : Nat),
    (∀ e ∈ es, e.Fits ∧ LocalSizesOk e ∧ e.gapBefore = []) →
    B.drop p = localsBytes es ++ rest →
    Runs (entryLoop step fuel (i + es.length)) B (p + (localsBytes es).length) o q →
    Runs (entryLoop step (fuel + es.length) i) B p (mapOut (fun r => R i es ++ r) o) q := by
  intro es
  induction es with
  | nil =>
    intro p i fuel rest o q _ _ h
    rw [S.nil, mapOut_nil_append]
    simpa [localsBytes] using h
  | cons e es ih =>
    intro p i fuel rest o q hall hb h
    obtain ⟨hf, hs, hg⟩ := hall e List.mem_cons_self
    have hlb := contig_localBytes hg hs.1
    rw [localsBytes_cons, hlb, List.append_assoc, List.append_assoc] at hb
    have hstep := S.entry i e hf hs hb
    have hb' : B.drop (p + (localRecord e).length + e.data.length) = localsBytes es ++ rest :=
      drop_past (drop_past hb)
    have e1 : p + (localsBytes (e :: es)).length =
        p + (localRecord e).length + e.data.length + (localsBytes es).length := by
      rw [localsBytes_cons, hlb]; simp only [List.length_append, Nat.add_assoc]
    have e2 : i + (e :: es).length = i + 1 + es.length := (Nat.add_right_comm i 1 es.length).symm
    rw [e1, e2] at h
    have hrest := ih _ (i + 1) fuel rest o q (fun x hx => hall x (List.mem_cons_of_mem _ hx)) hb' h
    refine (Runs.entryLoop_some (fuel := fuel + es.length) hstep hrest).cast ?_ rfl
    rw [S.cons]
    exact mapOut_cons_append _ _ _

theorem runs_build (S : EntryStep step res R) (l : Layout) (hF : l.Fits)
    (hp : l.pre = []) (hg : l.gapBeforeCd = [])
    (hall : ∀ e ∈ l.entries, LocalSizesOk e ∧ e.gapBefore = []) (hne : l.entries ≠ []) :
    Runs (entryLoop step ((build l).length / 30 + 1) 0) (build l) 0 (.ok (R 0 l.entries)) (l.cdStart + 4) := by
  obtain ⟨f, hfuel⟩ := fuel_split l
  obtain ⟨r, hr⟩ := cdBytes_head l hne
  have hb := build_contig l hp hg
  rw [hfuel, cdStart_contig l hp hg]
  have hd0 : (build l).drop 0 = localsBytes l.entries ++ (l.cdBytes ++ (l.end64 ++ (l.eocd ++ l.trailing))) := by
    rw [List.drop_zero]; exact hb
  have hd1 : (build l).drop (0 + (localsBytes l.entries).length) =
      le32 sigCentral ++ (r ++ (l.end64 ++ (l.eocd ++ l.trailing))) := by
    rw [drop_past hd0, hr, List.append_assoc]
  have hend := Runs.entryLoop_none (fuel := f) (S.central (0 + l.entries.length) hd1)
  have := S.runs_prefix l.entries 0 0 (f + 1) _ _ _
    (fun e he => ⟨hF.1 e he, (hall e he).1, (hall e he).2⟩) hd0 hend
  refine this.cast ?_ (by rw [Nat.zero_add])
  show Out.ok (R 0 l.entries ++ []) = _
  rw [List.append_nil]

theorem runs_build_refuses (S : EntryStep step res R) (l : Layout) (hF : l.Fits)
    (hp : l.pre = []) (es1 es2 : List Entry) (e : Entry) (hes : l.entries = es1 ++ e :: es2)
    (h1 : ∀ x ∈ es1, LocalSizesOk x ∧ x.gapBefore = []) (hg : e.gapBefore = [])
    (hx : ExtraOk e.localExtra) (hr : StreamRefused e) :
    Runs (entryLoop step ((build l).length / 30 + 1) 0) (build l) 0 (.err .unsupportedArchive)
      ((localsBytes es1).length + (localRecord e).length) := by
  obtain ⟨f, hfuel⟩ := fuel_split' l es1 es2 e hes
  have hmem : ∀ x ∈ es1, x ∈ l.entries := by intro x hx; rw [hes]; exact List.mem_append_left _ hx
  have hme : e ∈ l.entries := by rw [hes]; exact List.mem_append_right _ List.mem_cons_self
  have hd0 : (build l).drop 0 = localsBytes es1 ++ (localRecord e ++ (e.data ++ (descriptor e ++
      (localsBytes es2 ++ (l.gapBeforeCd ++ (l.cdBytes ++ (l.end64 ++ (l.eocd ++ l.trailing)))))))) := by
    rw [List.drop_zero]; exact build_split l hp es1 es2 e hes hg
  rw [hfuel]
  have hend := Runs.entryLoop_err (fuel := f) (S.refuses (0 + es1.length) e (hF.1 e hme) hx hr (drop_past hd0))
  have := S.runs_prefix es1 0 0 (f + 1) _ _ _
    (fun x hx => ⟨hF.1 x (hmem x hx), (h1 x hx).1, (h1 x hx).2⟩) hd0 hend
  exact this.cast rfl (by rw [Nat.zero_add])

end EntryStep

theorem runs_streamEntriesC_build (ext : Ext) (c : List Consume) (l : Layout) (hF : l.Fits)
    (hp : l.pre = []) (hg : l.gapBeforeCd = [])
    (hall : ∀ e ∈ l.entries, LocalSizesOk e ∧ e.gapBefore = []) (hne : l.entries ≠ []) :
    Runs (streamEntriesC ext c ((build l).length / 30 + 1) 0) (build l) 0
      (.ok (streamResultsC ext c 0 l.entries)) (l.cdStart + 4) := by
  rw [streamEntriesC_eq_entryLoop]
  exact (entryStepC ext c).runs_build l hF hp hg hall hne

theorem runs_streamEntries_build (ext : Ext) (l : Layout) (hF : l.Fits)
    (hp : l.pre = []) (hg : l.gapBeforeCd = [])
    (hall : ∀ e ∈ l.entries, LocalSizesOk e ∧ e.gapBefore = []) (hne : l.entries ≠ []) :
    Runs (streamEntries ext ((build l).length / 30 + 1)) (build l) 0
      (.ok (streamResults ext l.entries)) (l.cdStart + 4) := by
  rw [streamEntries_eq_entryLoop ext _ 0]
  exact (entryStep ext).runs_build l hF hp hg hall hne

/-- **`ZipStreamReader::visit` on a contiguous layout**: the files in order, then — the entry loop having
consumed the first central signature — the central views of ALL entries in order, once each, stopping at
the first non-central signature (the ZIP64 end record or the end record). -/
theorem runs_streamVisit_build (ext : Ext) (l : Layout) (hF : l.Fits)
    (hp : l.pre = []) (hg : l.gapBeforeCd = [])
    (hall : ∀ e ∈ l.entries, LocalSizesOk e ∧ e.gapBefore = []) (hR : l.Readable) (hne : l.entries ≠ []) :
    Runs (streamVisit ext) (build l) 0
      (.ok (streamResults ext l.entries, metaList l.entries 0)) (l.end64Pos + 4) := by
  obtain ⟨e, es, hes⟩ : ∃ e es, l.entries = e :: es := by
    cases h : l.entries with
    | nil => exact absurd h hne
    | cons e es => exact ⟨e, es, rfl⟩
  have hmem : ∀ x ∈ e :: es, x ∈ l.entries := by intro x hx; rw [hes]; exact hx
  obtain ⟨hf, hx, hm⟩ : e.Fits ∧ e.Readable := ⟨hF.1 e (hmem e List.mem_cons_self), hR e (hmem e List.mem_cons_self)⟩
  have hblen : l.cdSize ≤ (build l).length := by
    rw [build_length, Layout.eocdPos]; omega
  have hbounds := fits_bounds l hF
  have hloc : (localsBytes l.entries).length = e.localBytes.length + (localsBytes es).length := by
    rw [hes, localsBytes_cons, List.length_append]
  have hlb : e.gapBefore.length ≤ e.localBytes.length := by
    simp only [Entry.localBytes, List.length_append]; omega
  obtain ⟨inner, hrec, hin⟩ := central_split e (0 + e.gapBefore.length) hf hx hm (by omega)
  obtain ⟨w, tail, hw, hwne⟩ := end_word l
  have hcd := cdBytes_cons l e es hes
  have hcs := cdStart_contig l hp hg
  have hd := drop_cdStart l
  rw [hcd, hrec, hw, List.append_assoc, List.append_assoc] at hd
  have hd4 : (build l).drop (l.cdStart + 4) =
      inner ++ (centralBytes es (localOffsets es (0 + e.localBytes.length)) ++ (le32 w ++ tail)) :=
    drop_past hd
  have hsize : l.cdSize = 4 + inner.length +
      (centralBytes es (localOffsets es (0 + e.localBytes.length))).length := by
    unfold Layout.cdSize; rw [hcd, hrec]; simp only [List.length_append, le32_length]
  have h46 := fortysix_le_central es (0 + e.localBytes.length)
  unfold streamVisit
  refine Runs.getDev_bind (fun d hdb => ?_)
  dsimp only
  rw [hdb]
  refine Runs.bind (runs_streamEntries_build ext l hF hp hg hall hne) ?_
  refine Runs.bind ((hin _).toRuns hd4) ?_
  have hloop := runs_streamCentralLoop (B := build l) w hwne tail es (0 + e.localBytes.length)
    (l.cdStart + 4 + inner.length) ((build l).length / 46 + 1)
    (fun x hx => ⟨hF.1 x (hmem x (List.mem_cons_of_mem _ hx)), hR x (hmem x (List.mem_cons_of_mem _ hx))⟩)
    (by omega) (drop_past hd4)
    (Nat.lt_succ_of_le (by rw [Nat.le_div_iff_mul_le (by decide)]; omega))
  refine Runs.bind hloop ?_
  refine (Runs.pure _).cast ?_ ?_
  · rw [hes]; rfl
  · rw [Layout.end64Pos, hsize]; simp only [Nat.add_assoc]


/-! ### an entry the stream cannot serve, behind servable ones -/

theorem runs_streamEntriesC_build_refuses (ext : Ext) (c : List Consume) (l : Layout) (hF : l.Fits)
    (hp : l.pre = []) (es1 es2 : List Entry) (e : Entry) (hes : l.entries = es1 ++ e :: es2)
    (h1 : ∀ x ∈ es1, LocalSizesOk x ∧ x.gapBefore = []) (hg : e.gapBefore = [])
    (hx : ExtraOk e.localExtra) (hr : StreamRefused e) :
    Runs (streamEntriesC ext c ((build l).length / 30 + 1) 0) (build l) 0 (.err .unsupportedArchive)
      ((localsBytes es1).length + (localRecord e).length) := by
  rw [streamEntriesC_eq_entryLoop]
  exact (entryStepC ext c).runs_build_refuses l hF hp es1 es2 e hes h1 hg hx hr

theorem runs_streamVisit_build_refuses (ext : Ext) (l : Layout) (hF : l.Fits)
    (hp : l.pre = []) (es1 es2 : List Entry) (e : Entry) (hes : l.entries = es1 ++ e :: es2)
    (h1 : ∀ x ∈ es1, LocalSizesOk x ∧ x.gapBefore = []) (hg : e.gapBefore = [])
    (hx : ExtraOk e.localExtra) (hr : StreamRefused e) :
    Runs (streamVisit ext) (build l) 0 (.err .unsupportedArchive)
      ((localsBytes es1).length + (localRecord e).length) := by
  unfold streamVisit
  refine Runs.getDev_bind (fun d hdb => ?_)
  dsimp only
  rw [hdb, streamEntries_eq_entryLoop ext _ 0]
  exact Runs.bind_err ((entryStep ext).runs_build_refuses l hF hp es1 es2 e hes h1 hg hx hr)

/-! ### results, entry by entry -/

theorem streamResultsC_length (ext : Ext) (c : List Consume) : ∀ (es : List Entry) (i : Nat),
    (streamResultsC ext c i es).length = es.length := by
  intro es
  induction es with
  | nil => intro _; rfl
  | cons e es ih => intro i; simp [streamResultsC, ih]

theorem streamResultsC_getElem (ext : Ext) (c : List Consume) : ∀ (es : List Entry) (i j : Nat) (e : Entry),
    es[j]? = some e →
    (streamResultsC ext c i es)[j]? = some (streamViewEntry e, streamSeen ext e (patAt c (i + j)).k) := by
  intro es
  induction es with
  | nil => intro _ j e h; simp at h
  | cons x xs ih =>
    intro i j e h
    cases j with
    | zero => obtain rfl : x = e := Option.some.inj h; rfl
    | succ j =>
      have := ih (i + 1) j e h
      rw [Nat.add_right_comm] at this
      exact this

theorem streamResultsC_fst (ext : Ext) (c : List Consume) : ∀ (es : List Entry) (i : Nat),
    (streamResultsC ext c i es).map Prod.fst = es.map streamViewEntry := by
  intro es
  induction es with
  | nil => intro _; rfl
  | cons e es ih => intro i; simp [streamResultsC, ih]

theorem streamResults_getElem (ext : Ext) (es : List Entry) (j : Nat) (e : Entry) (h : es[j]? = some e) :
    (streamResults ext es)[j]? = some (streamViewEntry e, streamSeenAll ext e) := by
  simp [streamResults, h]

/-- "`k` is beyond what the decoder delivers for entry `e`": more than the decoded length when the stream
decodes, more than what comes out before the error when it is damaged -/
def Beyond (ext : Ext) (e : Entry) (k : Nat) : Prop :=
  (∀ dec, ext.decode (Method.fromU16 e.method) e.data = .ok dec → dec.length < k) ∧
  (∀ x, ext.decode (Method.fromU16 e.method) e.data = .err x →
    (ext.decodeBefore (Method.fromU16 e.method) e.data k).length < k)

/-- reading past the last delivered byte (that is: until the read that reports end-of-file or the error) -/
theorem streamSeen_eof (ext : Ext) (e : Entry) (k : Nat) (hk : Beyond ext e k) :
    streamSeen ext e k = streamSeenAll ext e := by
  unfold streamSeen streamSeenAll consumeK
  cases h : ext.decode (Method.fromU16 e.method) e.data with
  | ok dec =>
    have := hk.1 dec h
    dsimp only
    rw [if_neg (Nat.not_le.mpr this)]; rfl
  | err x =>
    have := hk.2 x h
    dsimp only
    rw [if_neg (Nat.not_le.mpr this)]; rfl
  | panic s => rfl

theorem streamResultsC_all (ext : Ext) (c : List Consume) : ∀ (es : List Entry) (i : Nat),
    (∀ j e, es[j]? = some e → Beyond ext e (patAt c (i + j)).k) →
    streamResultsC ext c i es = streamResults ext es := by
  intro es
  induction es with
  | nil => intro _ _; rfl
  | cons e es ih =>
    intro i h
    have h0 : Beyond ext e (patAt c i).k := h 0 e rfl
    have hrest := ih (i + 1) (fun j x hx => by rw [Nat.add_right_comm]; exact h (j + 1) x hx)
    show (streamViewEntry e, streamSeen ext e (patAt c i).k) :: streamResultsC ext c (i + 1) es = _
    rw [hrest, streamSeen_eof ext e _ h0]
    rfl

/-! ### the metadata views are the seekable reader's views -/

theorem metaList_eq_viewList : ∀ (es : List Entry) (loc chs : Nat),
    metaList es loc = (viewList 0 es loc chs).map (fun v => { v with centralHeaderStart := 0 }) := by
  intro es
  induction es with
  | nil => intro _ _; rfl
  | cons e es ih =>
    intro loc chs
    simp only [metaList, viewList, List.map_cons]
    rw [← ih]
    rfl

theorem metaList_length : ∀ (es : List Entry) (loc : Nat), (metaList es loc).length = es.length := by
  intro es
  induction es with
  | nil => intro _; rfl
  | cons e es ih => intro loc; simp [metaList, ih]

theorem metaList_names : ∀ (es : List Entry) (loc : Nat),
    (metaList es loc).map (·.fileNameRaw) = es.map (·.name) := by
  intro es
  induction es with
  | nil => intro _; rfl
  | cons e es ih => intro loc; simp only [metaList, List.map_cons, ih]; rfl


theorem viewList_names (pre : Nat) : ∀ (es : List Entry) (loc chs : Nat),
    (viewList pre es loc chs).map (·.fileNameRaw) = es.map (·.name) := by
  intro es
  induction es with
  | nil => intro _ _; rfl
  | cons e es ih => intro loc chs; simp only [viewList, List.map_cons, ih]; rfl

/-- decidable equality of read outcomes (for the kernel-evaluated examples of Props/C10) -/
@[reducible] def decEqOutBytes : DecidableEq (Out Bytes) := fun a b =>
  match a, b with
  | .ok x, .ok y => if h : x = y then isTrue (by rw [h]) else isFalse (fun h' => h (by cases h'; rfl))
  | .err x, .err y => if h : x = y then isTrue (by rw [h]) else isFalse (fun h' => h (by cases h'; rfl))
  | .panic x, .panic y => if h : x = y then isTrue (by rw [h]) else isFalse (fun h' => h (by cases h'; rfl))
  | .ok _, .err _ => isFalse (fun h => by cases h)
  | .ok _, .panic _ => isFalse (fun h => by cases h)
  | .err _, .ok _ => isFalse (fun h => by cases h)
  | .err _, .panic _ => isFalse (fun h => by cases h)
  | .panic _, .ok _ => isFalse (fun h => by cases h)
  | .panic _, .err _ => isFalse (fun h => by cases h)

end ZipVerif.Model
