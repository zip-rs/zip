import ZipVerif.Lemmas.WLGoodP
/-
A purely ghost-level invariant of the writer development (an instance of `GoodP`): the entries
the writer closes are representable (`Entry.Fits`) and readable (`Entry.Readable`) BY CONSTRUCTION — the
name length is checked by `start_entry`, there is no entry comment, no extra data (Level 1), the entry is
not encrypted, and its method is not the AES pseudo-method (refused by `switch_to`; for a raw copy of a
foreign entry this is a hypothesis on the source).
-/

namespace ZipVerif.WL
open ZipVerif ZipVerif.Model ZipVerif.Spec.Zip
open ZipVerif.Props.C12 (Call)

/-- What the writer guarantees of every entry it closes. -/
structure EntryOk (e : Spec.Zip.Entry) : Prop where
  name : e.name.length ≤ 0xFFFF
  comment : e.comment = []
  localExtra : e.localExtra = []
  centralExtra : e.centralExtra = []
  method : e.method ≠ 99
  plain : (e.flagsOut &&& 1 == 1) = false
  desc : e.desc = .none
  z64 : e.z64 = (false, false, false)

/-- What holds of the record of the open entry so that closing it gives an `EntryOk` entry. -/
structure RecOk (f : FileData) : Prop where
  name : f.fileName.length ≤ 0xFFFF
  extra : f.extraField = []
  plain : f.encrypted = false
  method : f.method.toU16 ≠ 99

theorem flagOf_plain (f : FileData) (h : f.encrypted = false) : (flagOf f &&& 1 == 1) = false := by
  unfold flagOf
  rw [h]
  cases isAscii f.fileName <;> decide

theorem writable_not_aes {m : Method} (h : writable m = true) : m.toU16 ≠ 99 := by
  cases m with
  | aes => simp [writable] at h
  | unsupported v => simp [writable] at h
  | stored => decide
  | deflated => decide
  | bzip2 => decide
  | zstd => decide

abbrev Good : Ghost → Prop := GoodP EntryOk RecOk

theorem goodSpec_ok : GoodSpec EntryOk RecOk :=
  ⟨fun f _ _ _ _ h => ⟨h.name, rfl, rfl, h.extra, h.method, flagOf_plain f h.plain, rfl, rfl⟩,
   fun _ _ _ h => ⟨h.name, h.extra, h.plain, h.method⟩⟩

theorem Good.close {ext : WExt} {g : Ghost} (hG : Good g) {es : List Spec.Zip.Entry} {gap c : Bytes}
    (hg : g.close ext = some (es, gap, c)) : ∀ e ∈ es, EntryOk e := Keeps.close (goodSpec_ok.keep ext) hG hg

/-- Level 1 plus what the reader needs of a raw copy's source: it is not a WinZip-AES entry. -/
def Level1R : Call → Prop
  | .rawCopy src raw _ => raw.length = src.compressedSize.toNat ∧ src.method.toU16 ≠ 99
  | c => Level1 c

instance : DecidablePred Level1R := fun c => by
  cases c <;> unfold Level1R <;> infer_instance

theorem Level1R.level1 {c : Call} (h : Level1R c) : Level1 c := by
  cases c <;> first | exact h | exact h.1

/-- The record a Level-1 start call pushes: the name was checked, no extra data, not encrypted, and the
method is not AES (`start_file`: it has an encoder; directory and symlink: stored; raw copy: `Level1R`). -/
theorem Level1R.row {c : Call} (h : Level1R c) {out n o raw ok mk} (hr : StartRow out c n o raw ok mk)
    (hok : ok = true) (hn : ¬ n.length > 65535) (hs : Nat) (ds : UInt64) : RecOk (mkRec n o raw hs ds) := by
  refine ⟨Nat.le_of_not_gt hn, rfl, ?_, ?_⟩
  · have : o.encryptWith = none := by cases hr <;> first | rfl | exact h
    show o.encryptWith.isSome = false
    rw [this]; rfl
  · show o.method.toU16 ≠ 99
    cases hr with
    | startFile n o => exact writable_not_aes (Bool.and_eq_true_iff.mp hok).2
    | addDirectory n o => show Method.stored.toU16 ≠ 99; decide
    | addSymlink n t o => show Method.stored.toU16 ≠ 99; decide
    | rawCopy src raw n => exact h.2

theorem good_run (ext : WExt) (calls : List Call) (outs : List (Out (Option Nat))) (g : Ghost)
    (hc : ∀ c ∈ calls, Level1R c) (hG : Good g) : Good (ghostOf ext g calls outs) :=
  keeps_run (goodSpec_ok.keep ext) (fun hc _ _ _ _ _ _ hr hok hn hs ds => by
    rw [hr.mk_f]; exact hc.row hr hok hn hs ds) calls outs g hc hG

/-! ### From `EntryOk` to the reader's hypotheses -/

theorem EntryOk.readable {e : Spec.Zip.Entry} (h : EntryOk e) : e.Readable :=
  ⟨by rw [h.centralExtra]; decide, h.method⟩

theorem EntryOk.fits {e : Spec.Zip.Entry} (h : EntryOk e) (hd : e.data.length < 2 ^ 63)
    (hu : e.usize.toNat < 2 ^ 63) : e.Fits := by
  refine ⟨h.name, by rw [h.comment]; decide, ?_, by rw [h.centralExtra]; decide, hd, hu⟩
  rw [h.localExtra]
  split <;> decide

theorem data_le_locals {e : Spec.Zip.Entry} : ∀ {es : List Spec.Zip.Entry}, e ∈ es →
    e.data.length ≤ (localsBytes es).length
  | x :: es, h => by
    rw [localsBytes_cons, List.length_append]
    rcases List.mem_cons.mp h with h | h
    · subst h
      simp only [Entry.localBytes, List.length_append]
      omega
    · have := data_le_locals h
      omega

/-- `Layout.Fits` and `Layout.Readable` of an emitted layout from their per-entry parts: the stored bytes
of an entry are shorter than the archive. -/
theorem layout_fits_readable_of {es : List Spec.Zip.Entry} (gap c t : Bytes) (hc : c.length ≤ 65535)
    (hsize : (build (layoutOf es gap c t)).length < 2 ^ 63)
    (hfit : ∀ e ∈ es, e.data.length < 2 ^ 63 → e.Fits) (hread : ∀ e ∈ es, e.Readable) :
    (layoutOf es gap c t).Fits ∧ (layoutOf es gap c t).Readable := by
  refine ⟨⟨fun e he => hfit e he ?_, hc, hsize⟩, hread⟩
  have h1 := data_le_locals (show e ∈ es from he)
  have h2 : (localsBytes es).length ≤ (build (layoutOf es gap c t)).length := by
    simp only [build, layoutOf, List.length_append]
    omega
  omega

theorem layout_fits_readable {es : List Spec.Zip.Entry} (gap c t : Bytes) (hes : ∀ e ∈ es, EntryOk e)
    (hc : c.length ≤ 65535) (hsize : (build (layoutOf es gap c t)).length < 2 ^ 63)
    (hu : ∀ e ∈ es, e.usize.toNat < 2 ^ 63) :
    (layoutOf es gap c t).Fits ∧ (layoutOf es gap c t).Readable :=
  layout_fits_readable_of gap c t hc hsize (fun e he hd => (hes e he).fits hd (hu e he))
    fun e he => (hes e he).readable

end ZipVerif.WL
