import ZipVerif.Lemmas.MRun
import ZipVerif.Lemmas.WLDefs
import ZipVerif.Lemmas.WriterSat
/-
Exact fault-free runs of the writer model for `raw_copy_file_rename` (C14): what `start_entry` pushes,
what reaches the sink, and that `finish_file` does not touch a raw copy.

`WR m B p a B' p'`: on EVERY device whose buffer is `B` and whose position is `p` (whatever its call
counter), the fault-free run of `m` returns `a` and leaves buffer `B'`, position `p'`.  It extends
`Runs` of `Lemmas/IORun.lean` (read side, buffer unchanged) to writes.
-/

namespace ZipVerif.Model
open ZipVerif

def WR {α} (m : M α) (B : Bytes) (p : Nat) (a : α) (B' : Bytes) (p' : Nat) : Prop :=
  ∀ d : Dev, d.buf = B → d.pos = p → ∃ d', m none d = (.ok a, d') ∧ d'.buf = B' ∧ d'.pos = p'

namespace WR
variable {α β : Type} {B B' B'' : Bytes} {p p' p'' : Nat}

theorem pure (a : α) : WR (Pure.pure a : M α) B p a B p :=
  fun d hb hp => ⟨d, rfl, hb, hp⟩

theorem bind {m : M α} {f : α → M β} {a : α} {b : β}
    (h1 : WR m B p a B' p') (h2 : WR (f a) B' p' b B'' p'') : WR (m >>= f) B p b B'' p'' := by
  intro d hb hp
  obtain ⟨d1, e1, hb1, hp1⟩ := h1 d hb hp
  obtain ⟨d2, e2, hb2, hp2⟩ := h2 d1 hb1 hp1
  exact ⟨d2, (M.bind_of_ok e1).trans e2, hb2, hp2⟩

theorem cast {m : M α} {a a' : α} {C C' : Bytes} {q q' : Nat} (h : WR m B p a C q)
    (ha : a = a') (hC : C = C') (hq : q = q') : WR m B p a' C' q' := by
  subst ha; subst hC; subst hq; exact h

theorem io {γ : Type} {s : WState} {m : M α} {k : α → M (Except ZErr γ × WState)} {a : α}
    {r : Except ZErr γ × WState}
    (h1 : WR m B p a B' p') (h2 : WR (k a) B' p' r B'' p'') : WR (Model.io s m k) B p r B'' p'' := by
  intro d hb hp
  obtain ⟨d1, e1, hb1, hp1⟩ := h1 d hb hp
  obtain ⟨d2, e2, hb2, hp2⟩ := h2 d1 hb1 hp1
  exact ⟨d2, by rw [io_run, e1]; exact e2, hb2, hp2⟩

theorem streamPosition : WR M.streamPosition B p p B p := by
  intro d hb hp
  refine ⟨{ d.tick with pos := p }, ?_, hb, rfl⟩
  unfold M.streamPosition M.seek
  rw [M.prim_run, if_neg (by simp)]
  have e : ((d.tick.pos : Int) + 0).toNat = p := by simp [Dev.tick, hp]
  have hn : ¬ ((d.tick.pos : Int) + 0 < 0) := by omega
  simp only [hn, if_false, e]

theorem writeAll_writeAt (bs : Bytes) (hp : p ≤ B.length) :
    WR (M.writeAll bs) B p () (writeAt B p bs) (p + bs.length) := by
  intro d hb hpos
  by_cases hbs : bs = []
  · subst hbs
    exact ⟨d, rfl, by rw [writeAt_nil hp, hb], by simpa using hpos⟩
  · refine ⟨_, M.writeAll_run bs hbs none d, ?_, ?_⟩
    · simp only [hb, hpos]
    · simp only [hpos]

theorem writeChunks_writeAt : ∀ (cs : List Bytes) (B : Bytes) (p : Nat), p ≤ B.length →
    WR (M.writeChunks cs) B p () (writeAt B p (ser cs)) (p + (ser cs).length) := by
  intro cs
  induction cs with
  | nil =>
    intro B p hp
    exact (pure ()).cast rfl (writeAt_nil hp).symm rfl
  | cons c cs ih =>
    intro B p hp
    unfold M.writeChunks
    refine (bind (writeAll_writeAt c hp) (ih _ _ (writeAt_length_ge B p c))).cast rfl (writeAt_split B p c (ser cs)) ?_
    simp only [ser, List.flatten_cons, List.length_append]; omega

theorem writeAll (bs : Bytes) (hp : p ≤ B.length) :
    WR (M.writeAll bs) B p () (B.take p ++ bs ++ B.drop (p + bs.length)) (p + bs.length) :=
  (writeAll_writeAt bs hp).cast rfl (writeAt_of_le bs hp) rfl

theorem writeChunks : ∀ (cs : List Bytes) (B : Bytes) (p : Nat), p ≤ B.length →
    WR (M.writeChunks cs) B p () (B.take p ++ ser cs ++ B.drop (p + (ser cs).length)) (p + (ser cs).length) :=
  fun cs B p hp => (writeChunks_writeAt cs B p hp).cast rfl (writeAt_of_le (ser cs) hp) rfl

end WR

/-- `WR` on one given device (used where the first step is known only as an equation on that device). -/
def WR1 {α} (m : M α) (d : Dev) (a : α) (B' : Bytes) (p' : Nat) : Prop :=
  ∃ d', m none d = (.ok a, d') ∧ d'.buf = B' ∧ d'.pos = p'

theorem WR.at1 {α} {m : M α} {d : Dev} {a : α} {B' : Bytes} {p' : Nat}
    (h : WR m d.buf d.pos a B' p') : WR1 m d a B' p' := h d rfl rfl

theorem WR1.bind {α β} {m : M α} {f : α → M β} {d d1 : Dev} {a : α} {b : β} {B'' : Bytes} {p'' : Nat}
    (h1 : m none d = (.ok a, d1)) (h2 : WR (f a) d1.buf d1.pos b B'' p'') : WR1 (m >>= f) d b B'' p'' := by
  obtain ⟨d2, e2, hb2, hp2⟩ := h2 d1 rfl rfl
  exact ⟨d2, (M.bind_of_ok h1).trans e2, hb2, hp2⟩

/-! ### `finish_file` between entries -/

/-- **A raw copy is not re-patched**: `finish_file` on a writer whose current entry is a raw copy
(`writing_raw`) — or that has just been opened by `new_append` — performs NO I/O and changes nothing but
the two mode flags: the record keeps the source's CRC and sizes, the local header stays as written. -/
theorem finishFile_raw (ext : WExt) (s : WState) (hin : s.inner = .storer none)
    (hwe : s.writingToExtraField = false) (hwr : s.writingRaw = true) (fa : Option Nat) (d : Dev) :
    finishFile ext s fa d = (.ok (.ok (), { s with writingToFile := false, writingRaw := false }), d) := by
  rw [finishFile_idle ext hwe hin (.inl hwr), hwr]; rfl

theorem finishFile_empty (ext : WExt) (s : WState) (hin : s.inner = .storer none)
    (hwe : s.writingToExtraField = false) (hwr : s.writingRaw = false) (hf : s.files = [])
    (fa : Option Nat) (d : Dev) :
    finishFile ext s fa d = (.ok (.ok (), s), d) := by
  rw [finishFile_idle ext hwe hin (.inr hf), hwr]; rfl

/-! ### `start_entry` -/

/-- the record `start_entry` creates at sink position `hs` -/
def newFile (name : Bytes) (o : FileOptions) (raw : Option (UInt32 × UInt64 × UInt64)) (hs : Nat) : FileData :=
  { system := .unix, versionMadeBy := DEFAULT_VERSION, encrypted := o.encryptWith.isSome,
    usingDataDescriptor := false, method := o.method, level := o.level, time := o.time,
    crc32 := (raw.getD (0, 0, 0)).1, compressedSize := (raw.getD (0, 0, 0)).2.1,
    uncompressedSize := (raw.getD (0, 0, 0)).2.2, fileName := name,
    fileNameRaw := [], extraField := [], fileComment := [],
    headerStart := UInt64.ofNat hs, centralHeaderStart := 0, dataStart := 0,
    externalAttributes := (o.permissions.getD 0o100644) <<< 16, largeFile := o.largeFile, aesMode := none }

/-- **`start_entry`, exactly** (unencrypted entry, fault-free, in-bounds sink): after `finish_file` has
closed the previous entry leaving state `s1` and the sink at `(B1, p1)`, the local header `chunks` of the
new record is written at `p1` — nothing else reaches the sink — and the record, with `data_start` set to
the header's end, is pushed. -/
theorem startEntry_runs (ext : WExt) (name : Bytes) (o : FileOptions)
    (raw : Option (UInt32 × UInt64 × UInt64)) (s s1 : WState) (d d1 : Dev) (B1 : Bytes) (p1 : Nat)
    (chunks : List Bytes) (hn : name.length ≤ 65535) (henc : o.encryptWith = none)
    (hfin : finishFile ext s none d = (.ok (.ok (), s1), d1)) (hB1 : d1.buf = B1) (hP1 : d1.pos = p1)
    (hin : s1.inner = .storer none)
    (hch : localHeaderChunks (newFile name o raw p1) = .ok chunks) (hp1 : p1 ≤ B1.length) :
    WR1 (startEntry ext name o raw s) d
      (.ok (), { s1 with statsStart := p1 + (ser chunks).length, statsBytes := 0, statsHasher := 0xFFFFFFFF,
                         files := s1.files ++ [{ newFile name o raw p1 with
                           dataStart := UInt64.ofNat (p1 + (ser chunks).length) }] })
      (writeAt B1 p1 (ser chunks)) (p1 + (ser chunks).length) := by
  unfold startEntry
  rw [if_neg (by omega)]
  refine WR1.bind hfin ?_
  rw [hB1, hP1]
  dsimp only
  rw [hin]
  dsimp only
  refine WR.io WR.streamPosition ?_
  have hfile : ∀ hs : Nat, ({
      system := .unix, versionMadeBy := DEFAULT_VERSION, encrypted := o.encryptWith.isSome,
      usingDataDescriptor := false, method := o.method, level := o.level, time := o.time,
      crc32 := (raw.getD (0, 0, 0)).1, compressedSize := (raw.getD (0, 0, 0)).2.1,
      uncompressedSize := (raw.getD (0, 0, 0)).2.2, fileName := name,
      fileNameRaw := [], extraField := [], fileComment := [],
      headerStart := UInt64.ofNat hs, centralHeaderStart := 0, dataStart := 0,
      externalAttributes := (o.permissions.getD 0o100644) <<< 16, largeFile := o.largeFile,
      aesMode := none } : FileData) = newFile name o raw hs := fun _ => rfl
  simp only [hfile, hch]
  refine WR.io (WR.writeChunks_writeAt chunks B1 p1 hp1) ?_
  refine WR.io WR.streamPosition ?_
  simp only [henc]
  refine (WR.pure _).cast ?_ rfl rfl
  simp [newFile, henc]

/-! ### `raw_copy_file_rename` -/

/-- the options `raw_copy_file_rename` derives from the source entry -/
def rawOptions (src : FileData) : FileOptions :=
  { method := src.method, level := none, time := src.time, permissions := src.unixMode,
    largeFile := (if src.compressedSize ≥ src.uncompressedSize then src.compressedSize
                  else src.uncompressedSize) ≥ ZIP64_BYTES_THR,
    encryptWith := none }

/-- the record a raw copy of `src` under `name` creates at sink position `hs` -/
def rawFile (src : FileData) (name : Bytes) (hs : Nat) : FileData :=
  newFile name (rawOptions src) (some (src.crc32, src.compressedSize, src.uncompressedSize)) hs

/-- the local header `start_entry` writes for a raw copy placed at sink position `hs` (`dp` = the DOS
date of the source's time; `hs` only matters through "version needed", which is 45 beyond 4 GiB) -/
def rawHeader (src : FileData) (name : Bytes) (dp : UInt16) (hs : Nat) : List Bytes :=
  let f := rawFile src name hs
  [le32 LOCAL_SIG, le16 f.versionNeeded, le16 (flagOf f), le16 src.method.toU16,
   le16 src.time.timepart, le16 dp, le32 src.crc32] ++
  (if f.largeFile then [le32 0xFFFFFFFF, le32 0xFFFFFFFF]
   else [le32 (trunc32 src.compressedSize), le32 (trunc32 src.uncompressedSize)]) ++
  [le16 (UInt16.ofNat name.length), le16 (UInt16.ofNat (if f.largeFile then 20 else 0)), name] ++
  (if f.largeFile then localZip64Chunks f else [])

theorem rawFile_header (src : FileData) (name : Bytes) (dp : UInt16) (hs : Nat)
    (hdp : src.time.datepart = some dp) :
    localHeaderChunks (rawFile src name hs) = .ok (rawHeader src name dp hs) := by
  unfold localHeaderChunks
  have hd : datepartOut (rawFile src name hs).time = .ok dp := by
    show datepartOut src.time = _
    unfold datepartOut; rw [hdp]
  have hl : localExtraLen (rawFile src name hs) =
      .ok (UInt16.ofNat (if (rawFile src name hs).largeFile then 20 else 0)) := by
    unfold localExtraLen
    have hx : (rawFile src name hs).extraField = [] := rfl
    rw [hx]
    cases (rawFile src name hs).largeFile <;> rfl
  rw [hd, hl]
  rfl

/-- the state `raw_copy_file_rename` leaves: the new record pushed, statistics counting the raw bytes,
`writing_to_file` and `writing_raw` set -/
def rawCopyState (s1 : WState) (src : FileData) (raw name : Bytes) (p1 hlen : Nat) : WState :=
  { s1 with statsStart := p1 + hlen, statsBytes := raw.length,
            statsHasher := Spec.Crc32.updateBytes 0xFFFFFFFF raw,
            files := s1.files ++ [{ rawFile src name p1 with dataStart := UInt64.ofNat (p1 + hlen) }],
            writingToFile := true, writingRaw := true }

/-- **`raw_copy_file_rename`, exactly** (fault-free, in-bounds sink).  After `finish_file` has closed the
previous entry (state `s1`, sink `(B1, p1)`): the local header of the new record, then `raw` — unchanged,
through the stored path, no compressor involved — are written at `p1`; the record carries the source's
values.  `hraw`: more than 4 GiB − 1 raw bytes are accepted only for a `large_file` record, i.e. when the
source's sizes say so (always the case when `raw` has the source's compressed size). -/
theorem rawCopy_runs (ext : WExt) (src : FileData) (raw name : Bytes) (dp : UInt16)
    (s s1 : WState) (d d1 : Dev) (B1 : Bytes) (p1 : Nat)
    (hn : name.length ≤ 65535) (hdp : src.time.datepart = some dp)
    (hfin : finishFile ext s none d = (.ok (.ok (), s1), d1)) (hB1 : d1.buf = B1) (hP1 : d1.pos = p1)
    (hin : s1.inner = .storer none)
    (hwe : s1.writingToExtraField = false) (hp1 : p1 ≤ B1.length)
    (hraw : raw.length ≤ 0xFFFFFFFF ∨ (rawFile src name p1).largeFile = true) :
    let hdr := ser (rawHeader src name dp p1)
    WR1 (rawCopy ext src raw name s) d
      (.ok (), rawCopyState s1 src raw name p1 hdr.length)
      (writeAt B1 p1 (hdr ++ raw)) (p1 + (hdr ++ raw).length) := by
  intro hdr
  obtain ⟨d2, hstart, hb2, hpos2⟩ := startEntry_runs ext name (rawOptions src)
    (some (src.crc32, src.compressedSize, src.uncompressedSize)) s s1 d d1 B1 p1 (rawHeader src name dp p1)
    hn rfl hfin hB1 hP1 hin (rawFile_header src name dp p1 hdp) hp1
  unfold rawCopy
  dsimp only
  refine WR1.bind hstart ?_
  rw [hb2, hpos2]
  dsimp only
  unfold writeData
  by_cases hemp : raw = []
  · subst hemp
    simp only [List.isEmpty_nil, if_true]
    refine (WR.pure _).cast ?_ ?_ ?_
    · simp only [rawCopyState, List.length_nil]
      rfl
    · simp only [List.append_nil]; rfl
    · simp only [List.append_nil]; rfl
  · have hne : raw.isEmpty = false := by cases raw <;> simp_all
    simp only [hne, Bool.false_eq_true, if_false, Bool.not_true, hin, hwe]
    refine WR.io (WR.writeAll_writeAt raw (writeAt_length_ge B1 p1 hdr)) ?_
    simp only [List.getLast?_concat, Nat.zero_add]
    have hbig : ¬ ((decide (raw.length > 0xFFFFFFFF) && !(newFile name (rawOptions src)
        (some (src.crc32, src.compressedSize, src.uncompressedSize)) p1).largeFile) = true) := by
      unfold rawFile at hraw
      rcases hraw with h | h
      · simp; intro h'; omega
      · simp [h]
    rw [if_neg hbig]
    refine (WR.pure _).cast ?_ ?_ ?_
    · clear hfin hstart
      obtain ⟨inner, files, sS, sB, sH, wF, wE, cO, wR, cm⟩ := s1
      dsimp only at hin hwe
      subst hin hwe
      rfl
    · exact writeAt_split B1 p1 hdr raw
    · simp only [hdr, List.length_append]; omega

/-! ### The raw copy as a spec entry -/

open ZipVerif.Spec.Zip in
/-- The header a raw copy writes IS the spec's local record of the entry `WL.specEntry` describes,
provided the source's recorded compressed size is the length of the raw bytes. -/
theorem rawHeader_is_localRecord (src : FileData) (raw name gap : Bytes) (dp : UInt16) (hs : Nat)
    (hcs : src.compressedSize = UInt64.ofNat raw.length) :
    ser (rawHeader src name dp hs) =
      localRecord (WL.specEntry (rawFile src name hs) dp gap [] raw (rawFile src name hs).versionNeeded) := by
  unfold rawHeader localRecord WL.specEntry localZip64Chunks
  simp only [Entry.hasDesc, Entry.flagsOut, Entry.csize, ← hcs]
  have hd : (Desc.none != Desc.none) = false := by decide
  simp only [hd, Bool.false_eq_true, if_false, Option.getD_some]
  cases hl : (rawFile src name hs).largeFile <;>
    simp [ser, rawFile, newFile, rawOptions, LOCAL_SIG, sigLocal, trunc32, lo32]

end ZipVerif.Model
