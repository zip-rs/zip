import ZipVerif.Lemmas.ReadWf
import ZipVerif.Lemmas.StripZip64
import ZipVerif.Lemmas.WLDefs
/-
`ZipWriter::new_append` (`Model.newAppend`) on `Spec.Zip.build l`: the same end-record search and ZIP64
probe as `ZipArchive::new` (the reader's `open_head`, `Lemmas/ReadWf.lean`), then a directory loop of its own
(`newAppend.loop`, walked by `parses_appendLoopZ` on the reader's per-record lemma `parses_centralHeaderZ`), then
the seek back to the old central directory, which the appending writer will overwrite.  Result:
`newAppend_on_layout` / `newAppend_on_layoutZ` (under `Readable` / `ReadableZ`): the writer state `appendStateOf l`.

Differences to `openArchive` that matter here:
* the disk check is unconditional (`footer.diskNumber != footer.diskWithCd`, no `record_too_small`);
* the D16 check `directory_start > cde_start → InvalidArchive`;
* each re-hydrated record whose DECODED name no longer fits the 16-bit name length field is refused with
  `UnsupportedArchive` (A6 repair; `AppendNameFits` is the condition under which that does not happen);
* the result is a writer state (`WState.init` with the re-hydrated records — each passed through
  `appendRecord`, which drops inherited ZIP64 extra records (D20) —, the old comment and
  `writing_raw = true`), and the device is left positioned at `directory_start`.
-/

namespace ZipVerif.Model
open ZipVerif ZipVerif.Spec.Zip

/-- The name `new_append` would write back for `e` — the reader's DECODED name: a CP437 name transcoded to
UTF-8, ill-formed flagged UTF-8 replaced by U+FFFD — still fits the 16-bit name length field.  Otherwise
`new_append` refuses the archive (`newAppend_refuses_long_name`).  Decidable; every entry whose name
decodes to itself (`AppendClean`: ASCII or flagged well-formed UTF-8) and `Fits` has it. -/
def AppendNameFits (e : Entry) : Prop :=
  (Text.decodeToUtf8 (e.flagsOut &&& 0x0800 != 0) e.name).length ≤ 65535

instance (e : Entry) : Decidable (AppendNameFits e) := by unfold AppendNameFits; infer_instance

/-- the `let rec` loop of `newAppend` on the central directory of a layout: the reader's views, each
passed through `appendRecord` (the D20 repair: inherited ZIP64 extra records are dropped) -/
theorem parses_appendLoopZ (ao : Nat) : ∀ (es : List Entry) (loc chs : Nat),
    (∀ e ∈ es, e.Fits) → (∀ e ∈ es, AppendNameFits e) → ReadableZFrom es loc →
    loc + (localsBytes es).length + ao < 2 ^ 64 →
    Parses (newAppend.loop ao es.length) chs (centralBytes es (localOffsets es loc))
      ((viewList ao es loc chs).map appendRecord) := by
  intro es
  induction es with
  | nil => intro loc chs _ _ _ _; exact Parses.pure _
  | cons e es ih =>
    intro loc chs hall hnm hz hb
    have he := hall e (List.mem_cons_self)
    have hne : ¬ (viewEntry e (loc + e.gapBefore.length) ao chs).fileName.length > 65535 :=
      Nat.not_lt.mpr (hnm e List.mem_cons_self)
    obtain ⟨⟨hm, hx⟩, hzr⟩ := hz
    rw [localsBytes_cons, List.length_append] at hb
    have hlb : e.gapBefore.length ≤ e.localBytes.length := by
      simp only [Entry.localBytes, List.length_append]; omega
    show Parses (newAppend.loop ao (es.length + 1)) chs
      (centralRecord e (UInt64.ofNat (loc + e.gapBefore.length)) ++
        centralBytes es (localOffsets es (loc + e.localBytes.length))) _
    unfold newAppend.loop
    refine Parses.bind (parses_centralHeaderZ e _ ao chs he hx hm (by omega)) ?_
    rw [if_neg hne]
    refine Parses.bind_last (ih _ _ (fun x hx => hall x (List.mem_cons_of_mem _ hx))
      (fun x hx => hnm x (List.mem_cons_of_mem _ hx)) hzr (by omega)) ?_
    exact Parses.pure _

/-- **The loop refuses** (A6 repair): as soon as it has read the record of an entry whose decoded name
does not fit the name length field it stops with `UnsupportedArchive`, before the next record is read. -/
theorem runs_appendLoop_refuses (ao : Nat) : ∀ (es : List Entry) (loc chs : Nat),
    (∀ e ∈ es, e.Fits) → (∃ e ∈ es, ¬ AppendNameFits e) → ReadableZFrom es loc →
    loc + (localsBytes es).length + ao < 2 ^ 64 →
    ∀ B rest, B.drop chs = centralBytes es (localOffsets es loc) ++ rest →
    ∃ q, Runs (newAppend.loop ao es.length) B chs (.err .unsupportedArchive) q := by
  intro es
  induction es with
  | nil => intro loc chs _ ⟨e, he, _⟩; cases he
  | cons e es ih =>
    intro loc chs hall hbad hz hb B rest hB
    have he := hall e (List.mem_cons_self)
    obtain ⟨⟨hm, hx⟩, hzr⟩ := hz
    rw [localsBytes_cons, List.length_append] at hb
    have hlb : e.gapBefore.length ≤ e.localBytes.length := by
      simp only [Entry.localBytes, List.length_append]; omega
    have hB' : B.drop chs = centralRecord e (UInt64.ofNat (loc + e.gapBefore.length)) ++
        (centralBytes es (localOffsets es (loc + e.localBytes.length)) ++ rest) := by
      rw [hB]
      show (centralRecord e (UInt64.ofNat (loc + e.gapBefore.length)) ++
        centralBytes es (localOffsets es (loc + e.localBytes.length))) ++ rest = _
      rw [List.append_assoc]
    have hhdr := (parses_centralHeaderZ e _ ao chs he hx hm (by omega)).toRuns hB'
    show ∃ q, Runs (newAppend.loop ao (es.length + 1)) B chs _ q
    unfold newAppend.loop
    by_cases hn : AppendNameFits e
    · have hne : ¬ (viewEntry e (loc + e.gapBefore.length) ao chs).fileName.length > 65535 :=
        Nat.not_lt.mpr hn
      obtain ⟨x, hx', hxb⟩ := hbad
      have hx'' : x ∈ es := by
        rcases List.mem_cons.mp hx' with h | h
        · exact absurd (h ▸ hn) hxb
        · exact h
      obtain ⟨q, hq⟩ := ih _ _ (fun y hy => hall y (List.mem_cons_of_mem _ hy)) ⟨x, hx'', hxb⟩ hzr (by omega)
        B rest (drop_past hB')
      refine ⟨q, Runs.bind hhdr ?_⟩
      rw [if_neg hne]
      exact Runs.bind_err hq
    · have hgt : (viewEntry e (loc + e.gapBefore.length) ao chs).fileName.length > 65535 :=
        Nat.lt_of_not_le hn
      refine ⟨chs + (centralRecord e (UInt64.ofNat (loc + e.gapBefore.length))).length, Runs.bind hhdr ?_⟩
      rw [if_pos hgt]
      exact Runs.throw _

/-- The writer state `new_append` builds for the layout `l`. -/
def appendStateOf (l : Layout) : WState :=
  { WState.init with files := (viewOf l).map appendRecord, comment := l.comment, writingRaw := true }

/-- the run of `new_append`'s central-directory loop on `build l` -/
abbrev AppendLoopRuns (l : Layout) : Prop :=
  Runs (newAppend.loop l.pre.length l.entries.length) (build l) l.cdStart
    (.ok ((viewOf l).map appendRecord))
    (l.cdStart + (centralBytes l.entries (localOffsets l.entries 0)).length)

theorem runs_appendLoopZ (l : Layout) (hF : l.Fits) (hN : ∀ e ∈ l.entries, AppendNameFits e)
    (hR : l.ReadableZ) : AppendLoopRuns l := by
  have hb := fits_bounds l hF
  exact (parses_appendLoopZ l.pre.length l.entries 0 l.cdStart hF.1 hN hR (by omega)).toRuns (drop_cdStart l)

/-- what the rest of `newAppend` does once the end record and the directory counts are known -/
abbrev AppendTail (l : Layout) (o : Out WState) (q : Nat) : Prop :=
  ∀ p1 q0 q1 : Nat,
    Runs findAndParseEocd (build l) p1 (.ok (eocdOf l, l.eocdPos)) q0 →
    Runs (getDirectoryCounts (eocdOf l) l.eocdPos) (build l) q0
      (.ok (l.pre.length, l.cdStart, l.entries.length)) q1 →
    Runs newAppend (build l) p1 o q

/-- `newAppend` behind its head (`open_head`): the loop over the central directory, the seek back to its start,
the writer state. -/
theorem appendTail_of_rest (l : Layout) (hF : l.Fits) {o : Out WState} {q : Nat}
    (hrest : Runs (do
      let files ← newAppend.loop l.pre.length l.entries.length
      let _ ← M.seek (.start l.cdStart)
      pure { WState.init with files, comment := l.comment, writingRaw := true }) (build l) l.cdStart o q) :
    AppendTail l o q := by
  intro p1 q0 q1 hfind hcounts
  have hb := fits_bounds l hF
  have hle : ¬ l.cdStart > l.eocdPos := by
    simp only [Layout.eocdPos]; omega
  unfold newAppend
  refine Runs.bind hfind ?_
  dsimp only
  rw [if_neg (by simp [eocdOf])]
  refine Runs.bind hcounts ?_
  dsimp only
  rw [if_neg hle]
  refine Runs.bind (Runs.attempt_ok (Runs.seek_start _)) ?_
  exact hrest

theorem runs_newAppend_tail_of_loop (l : Layout) (hF : l.Fits) (hloop : AppendLoopRuns l) :
    AppendTail l (.ok (appendStateOf l)) l.cdStart :=
  appendTail_of_rest l hF (Runs.bind hloop (Runs.bind (Runs.seek_start l.cdStart) (Runs.pure _)))

/-- The tail of `newAppend` when the central-directory loop ends in an error: that error is `new_append`'s
result (nothing was written: `Runs` keeps the buffer). -/
theorem runs_newAppend_tail_of_loop_err (l : Layout) (hF : l.Fits) {e : ZErr} {q : Nat}
    (hloop : Runs (newAppend.loop l.pre.length l.entries.length) (build l) l.cdStart (.err e) q) :
    AppendTail l (.err e) q :=
  appendTail_of_rest l hF (Runs.bind_err hloop)

/-- the run of `new_append`'s loop on `build l`, from `Readable` -/
theorem runs_appendLoop (l : Layout) (hF : l.Fits) (hN : ∀ e ∈ l.entries, AppendNameFits e)
    (hR : l.Readable) : AppendLoopRuns l :=
  runs_appendLoopZ l hF hN (readable_imp_readableZ l hR)

theorem runs_newAppend_tail (l : Layout) (hF : l.Fits) (hN : ∀ e ∈ l.entries, AppendNameFits e)
    (hR : l.Readable) (p1 q1 : Nat)
    (hfind : Runs findAndParseEocd (build l) p1 (.ok (eocdOf l, l.eocdPos))
      (l.eocdPos + 22 + l.comment.length))
    (hcounts : Runs (getDirectoryCounts (eocdOf l) l.eocdPos) (build l)
      (l.eocdPos + 22 + l.comment.length) (.ok (l.pre.length, l.cdStart, l.entries.length)) q1) :
    Runs newAppend (build l) p1 (.ok (appendStateOf l)) l.cdStart :=
  runs_newAppend_tail_of_loop l hF (runs_appendLoop l hF hN hR) p1 _ q1 hfind hcounts

/-- **`new_append` on a layout without ZIP64 end records.** -/
theorem append_plain (l : Layout) (hF : l.Fits) (hN : ∀ e ∈ l.entries, AppendNameFits e)
    (hR : l.Readable) (h64 : l.needs64 = false)
    (hwin : l.comment.length + l.trailing.length ≤ 65535)
    (hnfE : ∀ k, l.eocdPos < k → k + 22 ≤ (build l).length → u32At (build l) k ≠ some sigEocd)
    (hnfL : 42 + l.comment.length ≤ (build l).length →
      u32At (build l) ((build l).length - 42 - l.comment.length) ≠ some sigLocator) (p0 : Nat) :
    Runs newAppend (build l) p0 (.ok (appendStateOf l)) l.cdStart := by
  have hlen := build_length l
  obtain ⟨q0, q1, hfind, hq1⟩ := open_head l hF
    ⟨hwin, fun k hk => hnfE _ (by omega) (by omega), fun _ => hnfL, fun h => by rw [h64] at h; cases h⟩
    (.inr h64) p0
  exact runs_newAppend_tail_of_loop l hF (runs_appendLoop l hF hN hR) p0 q0 q1 hfind hq1

/-- **`new_append` on a layout with ZIP64 end record + locator** (nothing after the comment). -/
theorem append_z64 (l : Layout) (hF : l.Fits) (hN : ∀ e ∈ l.entries, AppendNameFits e)
    (hR : l.Readable) (h64 : l.needs64 = true)
    (ht : l.trailing = [])
    (hnfE : ∀ k, l.eocdPos < k → k + 22 ≤ (build l).length → u32At (build l) k ≠ some sigEocd)
    (hnf64 : ∀ k, l.cdOffset + l.cdSize ≤ k → k < l.end64Pos → u32At (build l) k ≠ some sigEocd64)
    (p0 : Nat) :
    Runs newAppend (build l) p0 (.ok (appendStateOf l)) l.cdStart := by
  have hlen := build_length l
  have hc := hF.2.1
  obtain ⟨q0, q1, hfind, hq1⟩ := open_head l hF
    ⟨by rw [ht]; simpa using hc, fun k hk => hnfE _ (by omega) (by omega), (fun h => by rw [h64] at h; cases h),
      fun _ k hk => hnf64 _ (by omega) (by simp only [Layout.end64Pos, Layout.cdStart]; omega)⟩
    (.inl ht) p0
  exact runs_newAppend_tail_of_loop l hF (runs_appendLoop l hF hN hR) p0 q0 q1 hfind hq1

/-- `newAppend_on_layout` with what follows the head of `new_append` (`open_head`) as a hypothesis. -/
theorem newAppend_on_layout_of_tail (l : Layout) (hF : l.Fits) {o : Out WState} {q : Nat}
    (htail : AppendTail l o q) (hS : NoFalseSig l)
    (ht : l.trailing = [] ∨ l.needs64 = false) :
    ∃ d', newAppend.runPure (Dev.ofBytes (build l)) = (o, d') ∧
      d'.buf = build l ∧ d'.pos = q := by
  obtain ⟨q0, q1, hfind, hcnt⟩ := open_head l hF hS ht 0
  exact htail 0 q0 q1 hfind hcnt (Dev.ofBytes (build l)) rfl rfl

theorem newAppend_on_layout_of_loop (l : Layout) (hF : l.Fits)
    (hloop : AppendLoopRuns l) (hS : NoFalseSig l)
    (ht : l.trailing = [] ∨ l.needs64 = false) :
    ∃ d', newAppend.runPure (Dev.ofBytes (build l)) = (.ok (appendStateOf l), d') ∧
      d'.buf = build l ∧ d'.pos = l.cdStart :=
  newAppend_on_layout_of_tail l hF (runs_newAppend_tail_of_loop l hF hloop) hS ht

/-- `ZipWriter::new_append` on the bytes of a well-formed layout returns the
writer state whose records are the reader's views of the central directory, whose comment is the old
archive comment and whose `writing_raw` flag is set; the sink still holds the archive and is positioned
on the first byte of the OLD central directory (which the next write overwrites).  `hN`: every decoded
name can be written back (since the A6 repair `new_append` refuses the archive otherwise). -/
theorem newAppend_on_layout (l : Layout) (hF : l.Fits) (hN : ∀ e ∈ l.entries, AppendNameFits e)
    (hR : l.Readable) (hS : NoFalseSig l)
    (ht : l.trailing = [] ∨ l.needs64 = false) :
    ∃ d', newAppend.runPure (Dev.ofBytes (build l)) = (.ok (appendStateOf l), d') ∧
      d'.buf = build l ∧ d'.pos = l.cdStart :=
  newAppend_on_layout_of_loop l hF (runs_appendLoop l hF hN hR) hS ht

/-- `newAppend_on_layout` under `ReadableZ` (further ZIP64 records in the foreign extra data). -/
theorem newAppend_on_layoutZ (l : Layout) (hF : l.Fits) (hN : ∀ e ∈ l.entries, AppendNameFits e)
    (hR : l.ReadableZ) (hS : NoFalseSig l)
    (ht : l.trailing = [] ∨ l.needs64 = false) :
    ∃ d', newAppend.runPure (Dev.ofBytes (build l)) = (.ok (appendStateOf l), d') ∧
      d'.buf = build l ∧ d'.pos = l.cdStart :=
  newAppend_on_layout_of_loop l hF (runs_appendLoopZ l hF hN hR) hS ht

/-- (A6 repair) A layout with an entry whose DECODED name (CP437
transcoded to UTF-8, ill-formed UTF-8 replaced) needs more than 65535 bytes: `new_append` returns
`UnsupportedArchive` and the sink still holds the archive, byte for byte.  (Before the repair it returned a
writer whose `finish()` wrote the name length modulo 65536 and reported success.) -/
theorem newAppend_refuses_long_name (l : Layout) (hF : l.Fits) (hR : l.ReadableZ) (hS : NoFalseSig l)
    (ht : l.trailing = [] ∨ l.needs64 = false) (hbad : ∃ e ∈ l.entries, ¬ AppendNameFits e) :
    ∃ d', newAppend.runPure (Dev.ofBytes (build l)) = (.err .unsupportedArchive, d') ∧
      d'.buf = build l := by
  have hb := fits_bounds l hF
  obtain ⟨q, hq⟩ := runs_appendLoop_refuses l.pre.length l.entries 0 l.cdStart hF.1 hbad hR (by omega)
    (build l) _ (drop_cdStart l)
  obtain ⟨d', h1, h2, _⟩ := newAppend_on_layout_of_tail l hF
    (runs_newAppend_tail_of_loop_err l hF hq) hS ht
  exact ⟨d', h1, h2⟩

/-- The live part of the sink after `new_append`: everything in front of the old central directory. -/
theorem take_cdStart (l : Layout) :
    (build l).take l.cdStart = l.pre ++ localsBytes l.entries ++ l.gapBeforeCd := by
  have : build l = (l.pre ++ localsBytes l.entries ++ l.gapBeforeCd) ++
      (l.cdBytes ++ (l.end64 ++ (l.eocd ++ l.trailing))) := by simp [build]
  rw [this]
  exact List.take_left' (by simp [Layout.cdStart, Layout.cdOffset])

end ZipVerif.Model
