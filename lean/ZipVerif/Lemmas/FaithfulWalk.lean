import ZipVerif.Lemmas.Faithful
/-
Faithfulness: walks that end inside the target, the expected-tree walk `ensureR`, and
`create_dir_all` = `ensureR` when no regular file is in the way.
-/

namespace ZipVerif.Spec.Tree
open ZipVerif ZipVerif.Spec.Paths ZipVerif.Spec.FS ZipVerif.Model.Paths

theorem safe_cons_inv {x : Comp} {up : List Comp} (h : SafeR (x :: up)) :
    ∃ d, walk up.reverse 0 = some d ∧ (walk [x] d).isSome := by
  rw [SafeR, List.reverse_cons, walk_append] at h
  cases hw : walk up.reverse 0 with
  | none => rw [hw] at h; cases h
  | some d => rw [hw] at h; exact ⟨d, rfl, h⟩

theorem safe_not_rootDir {up : List Comp} (h : SafeR (Comp.rootDir :: up)) : False := by
  obtain ⟨d, _, h2⟩ := safe_cons_inv h
  simp [walk] at h2

theorem safe_parent_nonempty {up : List Comp} (h : SafeR (Comp.parentDir :: up)) :
    resolve up.reverse ≠ [] := by
  obtain ⟨d, hd, h2⟩ := safe_cons_inv h
  have hl := (resolveFrom_of_walk [] up.reverse [] 0 d rfl hd).2
  intro e
  rw [← resolve, e] at hl
  subst hl
  simp [walk] at h2

/-! ### where a successful walk ends -/

theorem walk_end {c : Cfg} {root : Path} {fs : FS} (hi : Inv c root fs) {rr : List Comp} {cur : Path}
    (hs : SafeR rr) (h : walkR c fs (rr ++ rootRev root) = .ok cur) :
    cur = root ++ resolve rr.reverse ∧ ∃ m, fs.lookup cur = some (.dir m) := by
  have hcur : cur = root ++ resolve rr.reverse := by
    rw [walkR_lex h, resolve_joined_safe root rr hs]
  refine ⟨hcur, ?_⟩
  induction rr generalizing cur with
  | nil =>
    simp only [List.nil_append, rootRev] at h
    rw [hi.chain] at h; cases h
    exact hi.rootDir
  | cons x up ih =>
    rw [List.cons_append] at h
    obtain ⟨cur0, hc0, hst⟩ := walkR_cons_inv h
    have hs0 := hs.tail
    have hcur0 : cur0 = root ++ resolve up.reverse := by
      rw [walkR_lex hc0, resolve_joined_safe root up hs0]
    cases x with
    | normal s =>
      obtain ⟨_, hp, m, hm⟩ := step_normal_inv hst
      exact ⟨m, hp ▸ hm⟩
    | parentDir =>
      obtain ⟨_, hp⟩ := step_parent_inv hst
      obtain ⟨m0, hm0⟩ := ih hs0 hc0 hcur0
      have hne := safe_parent_nonempty hs
      rw [hcur0] at hm0
      obtain ⟨m, hm⟩ := hi.wf _ hne (by rw [hm0]; simp)
      refine ⟨m, ?_⟩
      rw [hp, hcur0, List.dropLast_append_of_ne_nil hne]; exact hm
    | curDir =>
      obtain ⟨_, hp⟩ := step_cur_inv hst
      subst hp; exact ih hs0 hc0 hcur0
    | rootDir => exact (safe_not_rootDir hs).elim

theorem walk_end_search {c : Cfg} {root : Path} {fs : FS} (hi : Inv c root fs) {rr : List Comp}
    {cur : Path} (hs : SafeR rr) (h : walkR c fs (rr ++ rootRev root) = .ok cur) :
    canSearch c fs cur = true ∧ canModifyDir c fs cur = true := by
  obtain ⟨hc, m, hm⟩ := walk_end hi hs h
  rw [hc] at hm ⊢
  exact hi.search hm

/-! ### the expected-tree walk -/

theorem ensureR_snd (c : Cfg) (root : Path) (rr : List Comp) (fs : FS) :
    (ensureR c root rr fs).2 = resolveFrom root rr.reverse := by
  induction rr with
  | nil => simp [ensureR, resolveFrom]
  | cons x up ih => simp only [ensureR]; rw [resolveFrom_reverse_cons, ih]

theorem ensureR_noop {c : Cfg} {root : Path} {fs : FS} {rr : List Comp} {cur : Path}
    (h : walkR c fs (rr ++ rootRev root) = .ok cur) : ensureR c root rr fs = (fs, cur) := by
  have hcur : cur = (ensureR c root rr fs).2 := by
    rw [ensureR_snd, walkR_lex h, resolve_joined]
  induction rr generalizing cur with
  | nil => simp only [ensureR] at hcur ⊢; rw [hcur]
  | cons x up ih =>
    rw [List.cons_append] at h
    obtain ⟨cur0, hc0, hst⟩ := walkR_cons_inv h
    have h0 := ih hc0 (by rw [ensureR_snd, walkR_lex hc0, resolve_joined])
    simp only [ensureR] at hcur ⊢
    rw [h0] at hcur ⊢
    cases x with
    | normal s =>
      obtain ⟨_, _, m, hm⟩ := step_normal_inv hst
      simp only [resolveStep] at hcur ⊢
      simp only [ensureDir, hm]
      rw [hcur]
    | parentDir => simp only at hcur ⊢; rw [hcur]
    | curDir => simp only at hcur ⊢; rw [hcur]
    | rootDir => simp only at hcur ⊢; rw [hcur]

/-- No regular file at any position of the walk. -/
def Clear (fs : FS) (root : Path) (rr : List Comp) : Prop :=
  ∀ t, t <:+ rr → ∀ b m, fs.lookup (resolveFrom root t.reverse) ≠ some (.file b m)

theorem Clear.tail {fs : FS} {root : Path} {x : Comp} {up : List Comp} (h : Clear fs root (x :: up)) :
    Clear fs root up := fun t ht => h t (List.suffix_cons_iff.mpr (Or.inr ht))

/-- What the expected-tree walk changes: it binds missing positions of the walk to directories. -/
def EnsFrame (fs fs' : FS) (root : Path) (rr : List Comp) : Prop :=
  ∀ q, fs'.lookup q = fs.lookup q ∨
    (fs.lookup q = none ∧ (∃ t, t <:+ rr ∧ q = resolveFrom root t.reverse) ∧ ∃ m, fs'.lookup q = some (.dir m))

theorem EnsFrame.weaken {fs fs' : FS} {root : Path} {x : Comp} {up : List Comp}
    (h : EnsFrame fs fs' root up) : EnsFrame fs fs' root (x :: up) := by
  intro q
  rcases h q with h | ⟨h1, ⟨t, ht, hq⟩, h3⟩
  · exact Or.inl h
  · exact Or.inr ⟨h1, ⟨t, List.suffix_cons_iff.mpr (Or.inr ht), hq⟩, h3⟩

theorem EnsFrame.lookup {fs fs' : FS} {root : Path} {rr : List Comp} (hf : EnsFrame fs fs' root rr)
    {q : Path} {n : Node} (h : fs.lookup q = some n) : fs'.lookup q = some n := by
  rcases hf q with e | ⟨hn, _, _⟩
  · rw [e]; exact h
  · rw [hn] at h; cases h

theorem Clear.frame {fs fs' : FS} {root : Path} {rr rr' : List Comp} (h : Clear fs root rr)
    (hf : EnsFrame fs fs' root rr') : Clear fs' root rr := by
  intro t ht b m hl
  rcases hf (resolveFrom root t.reverse) with e | ⟨_, _, m', hm'⟩
  · rw [e] at hl; exact h t ht b m hl
  · rw [hm'] at hl; cases hl

/-- Default modes never lock the caller out. -/
def PermCfg (c : Cfg) : Prop :=
  c.priv = true ∨ (hasBits c.dirMode 0o300 = true ∧ hasBits c.fileMode 0o200 = true)

theorem EnsFrame.step {fs fs1 fs2 : FS} {root : Path} {x : Comp} {up : List Comp} (hf : EnsFrame fs fs1 root up)
    {p : Path} (hp : resolveFrom root (x :: up).reverse = p) (hd : ∃ m, fs2.lookup p = some (.dir m))
    (h : ∀ q, fs2.lookup q = fs1.lookup q ∨ (q = p ∧ fs1.lookup q = none)) :
    EnsFrame fs fs2 root (x :: up) := by
  subst hp
  intro q
  rcases h q with e | ⟨rfl, hn⟩
  · rw [e]; exact hf.weaken q
  · refine .inr ⟨?_, ⟨_, List.suffix_refl _, rfl⟩, hd⟩
    rcases hf _ with e | ⟨_, _, m', hm'⟩
    · rw [← e]; exact hn
    · rw [hn] at hm'; cases hm'

theorem ensureDir_lookup (c : Cfg) (fs : FS) (p q : Path) :
    (ensureDir c fs p).lookup q = fs.lookup q ∨ (q = p ∧ fs.lookup q = none) := by
  unfold ensureDir
  cases hl : fs.lookup p with
  | some n => exact .inl rfl
  | none =>
    by_cases e : q = p
    · exact .inr ⟨e, e ▸ hl⟩
    · exact .inl (lookup_set_ne _ _ e)

/-- `ensureDir` directly below a bound directory, at a position that is not a regular file. -/
theorem ensureDir_post {c : Cfg} {root : Path} {fs fs' : FS} (hi : Inv c root fs) (hpc : PermCfg c) {r : Path}
    {s : Name} (hpar : ∃ m, fs.lookup (root ++ r) = some (.dir m))
    (hnf : ∀ b m, fs.lookup (root ++ (r ++ [s])) ≠ some (.file b m))
    (hfs : fs' = ensureDir c fs (root ++ (r ++ [s]))) :
    Inv c root fs' ∧ Keeps c fs fs' ∧ ∃ m, fs'.lookup (root ++ (r ++ [s])) = some (.dir m) := by
  subst hfs
  unfold ensureDir
  cases hl : fs.lookup (root ++ (r ++ [s])) with
  | some n =>
    cases n with
    | dir m => exact ⟨hi, .refl c fs, m, hl⟩
    | file b m => exact absurd hl (hnf b m)
  | none =>
    have hk : Keeps c fs (fs.set (root ++ (r ++ [s])) (.dir (newDirMode c fs (root ++ (r ++ [s])).dropLast))) :=
      keeps_set_nondir _ (by rw [hl]; simp)
    exact ⟨hi.set hk (fun _ => by rwa [List.dropLast_concat]) (hpc.imp id fun h => hasBits_or _ _ _ h.1), hk,
      _, lookup_set_self _ _ _⟩

theorem ensureR_post {c : Cfg} {root : Path} {fs : FS} (hi : Inv c root fs) (hpc : PermCfg c)
    {rr : List Comp} (hs : SafeR rr) (hclear : Clear fs root rr) :
    walkR c (ensureR c root rr fs).1 (rr ++ rootRev root) = .ok (ensureR c root rr fs).2 ∧
      Inv c root (ensureR c root rr fs).1 ∧ Keeps c fs (ensureR c root rr fs).1 ∧
      EnsFrame fs (ensureR c root rr fs).1 root rr := by
  induction rr with
  | nil =>
    simp only [ensureR, List.nil_append]
    exact ⟨hi.chain, hi, Keeps.refl c fs, fun q => Or.inl rfl⟩
  | cons x up ih =>
    have hs0 := hs.tail
    obtain ⟨hw0, hi0, hk0, hf0⟩ := ih hs0 hclear.tail
    obtain ⟨hcur0, hm0⟩ := walk_end hi0 hs0 hw0
    have hsearch0 := (walk_end_search hi0 hs0 hw0).1
    rw [List.cons_append]
    simp only [ensureR]
    rw [hcur0] at hw0 hm0 hsearch0 ⊢
    cases x with
    | normal s =>
      have hpos : resolveFrom root (Comp.normal s :: up).reverse = root ++ (resolve up.reverse ++ [s]) := by
        rw [resolveFrom_root_safe root hs, resolve_reverse_cons]; rfl
      simp only [resolveStep, List.append_assoc]
      obtain ⟨hi1, hk1, m, hd⟩ :=
        ensureDir_post hi0 hpc hm0 (hpos ▸ (hclear.frame hf0) _ (List.suffix_refl _)) rfl
      refine ⟨?_, hi1, hk0.trans hk1, hf0.step hpos ⟨m, hd⟩ (ensureDir_lookup c _ _)⟩
      have := step_normal_dir (canSearch_keeps hk1 hsearch0) (s := s) (by rw [List.append_assoc]; exact hd)
      rw [walkR_cons_ok (walkR_keeps hk1 hw0)]
      rwa [List.append_assoc] at this
    | parentDir => exact ⟨by rw [walkR_cons_ok hw0]; exact step_parent hsearch0, hi0, hk0, hf0.weaken⟩
    | curDir => exact ⟨by rw [walkR_cons_ok hw0]; exact step_cur hsearch0, hi0, hk0, hf0.weaken⟩
    | rootDir => exact (safe_not_rootDir hs).elim

/-- One more component after a walk that succeeds, no regular file being in the way: it is walked too,
unless it is a name that is not bound. -/
theorem walk_last {c : Cfg} {root : Path} {fs : FS} (hi : Inv c root fs) {x : Comp} {up : List Comp}
    {cur0 : Path} (hs : SafeR (x :: up)) (hw : walkR c fs (up ++ rootRev root) = .ok cur0)
    (hnf : ∀ b m, fs.lookup (resolveFrom root (x :: up).reverse) ≠ some (.file b m)) :
    (∃ p, walkR c fs (x :: up ++ rootRev root) = .ok p) ∨
      ∃ s, x = .normal s ∧ fs.lookup (cur0 ++ [s]) = none := by
  have hsearch := (walk_end_search hi hs.tail hw).1
  rw [List.cons_append, walkR_cons_ok hw]
  cases x with
  | normal s =>
    rw [resolveFrom_reverse_cons, ← resolve_joined, ← walkR_lex hw] at hnf
    cases hl : fs.lookup (cur0 ++ [s]) with
    | none => exact .inr ⟨s, rfl, hl⟩
    | some n =>
      cases n with
      | file b m => exact absurd hl (hnf b m)
      | dir m => exact .inl ⟨_, step_normal_dir hsearch hl⟩
  | parentDir => exact .inl ⟨_, step_parent hsearch⟩
  | curDir => exact .inl ⟨_, step_cur hsearch⟩
  | rootDir => exact .inl ⟨_, rfl⟩

/-- A walk that fails although no regular file is in the way fails with ENOENT. -/
theorem walk_err_notFound {c : Cfg} {root : Path} {fs : FS} (hi : Inv c root fs) {rr : List Comp}
    (hs : SafeR rr) (hclear : Clear fs root rr) {e : FsErr}
    (h : walkR c fs (rr ++ rootRev root) = .error e) : e = .notFound := by
  induction rr with
  | nil =>
    simp only [List.nil_append, rootRev] at h
    rw [hi.chain] at h; cases h
  | cons x up ih =>
    cases hw : walkR c fs (up ++ rootRev root) with
    | error e' =>
      rw [List.cons_append, walkR_cons_err hw] at h
      cases h; exact ih hs.tail hclear.tail hw
    | ok cur0 =>
      rcases walk_last hi hs hw (hclear _ (List.suffix_refl _)) with ⟨p, hp⟩ | ⟨s, rfl, hl⟩
      · rw [hp] at h; cases h
      · simpa [walkR_cons_ok hw, step, (walk_end_search hi hs.tail hw).1, hl, eq_comm] using h

/-! ### `create_dir_all` -/

theorem cda_root {c : Cfg} {root : Path} {fs : FS} (hi : Inv c root fs) (dot : Bool) :
    createDirAll c (rootRev root) dot fs = (fs, none) := by
  cases hr : rootRev root with
  | nil => simp [createDirAll]
  | cons x up =>
    obtain ⟨m, hm⟩ := hi.rootDir
    have hw : walkR c fs (dotted (x :: up) dot) = .ok root := by
      rw [← hr]
      exact walkR_dotted dot hi.chain (fun _ => by
        have := (hi.search (r := []) (by rw [List.append_nil]; exact hm)).1
        rwa [List.append_nil] at this)
    obtain ⟨h1, h2⟩ := mkdir_exists hw hm
    simp [createDirAll, h1, h2]

/-- `mkdir` of a path inside the target that resolves completely: EEXIST, and `is_dir` holds. -/
theorem mkdir_walked {c : Cfg} {root : Path} {fs : FS} (hi : Inv c root fs) {rr : List Comp} {p : Path}
    (hs : SafeR rr) (hw : walkR c fs (rr ++ rootRev root) = .ok p) :
    mkdir c fs (rr ++ rootRev root) = .error .alreadyExists ∧ isDir c fs (rr ++ rootRev root) = true :=
  let ⟨_, _, hm⟩ := walk_end hi hs hw
  mkdir_exists hw hm

/-- The last `mkdir` of `create_dir_all`, once the parent path resolves. -/
theorem mkdir_last {c : Cfg} {root : Path} {fs : FS} (hi : Inv c root fs) {x : Comp} {up : List Comp}
    {cur0 : Path} (hs : SafeR (x :: up))
    (hw : walkR c fs (up ++ rootRev root) = .ok cur0)
    (hnf : ∀ b m, fs.lookup (resolveFrom root (x :: up).reverse) ≠ some (.file b m)) :
    (mkdir c fs (x :: (up ++ rootRev root)) = .ok (ensureR c root (x :: up) fs).1) ∨
    (mkdir c fs (x :: (up ++ rootRev root)) = .error .alreadyExists ∧
      isDir c fs (x :: (up ++ rootRev root)) = true ∧ (ensureR c root (x :: up) fs).1 = fs) := by
  rcases walk_last hi hs hw hnf with ⟨p, hw1⟩ | ⟨s, rfl, hl⟩
  · exact .inr ⟨(mkdir_walked hi hs hw1).1, (mkdir_walked hi hs hw1).2, by rw [ensureR_noop hw1]⟩
  · obtain ⟨hsearch, hmodify⟩ := walk_end_search hi hs.tail hw
    have hnoop := ensureR_noop hw
    left
    simp [mkdir, locateR_normal hw hsearch, hl, hmodify, ensureR, hnoop, resolveStep, ensureDir]

theorem mkdir_walk_err {c : Cfg} {fs : FS} {x : Comp} {up : List Comp} {e : FsErr}
    (h : walkR c fs up = .error e) : mkdir c fs (x :: up) = .error e := by
  simp [mkdir, locateR_cons_err h]

/-- `create_dir_all(root/<walk>)` leaves exactly the expected-tree walk. -/
theorem cda_eq {c : Cfg} {root : Path} {fs : FS} (hi : Inv c root fs) (hpc : PermCfg c)
    {rr : List Comp} (hs : SafeR rr) (hclear : Clear fs root rr) :
    createDirAll c (rr ++ rootRev root) false fs = ((ensureR c root rr fs).1, none) := by
  induction rr with
  | nil => simpa [ensureR] using cda_root hi false
  | cons x up ih =>
    have hs0 := hs.tail
    rw [List.cons_append]
    simp only [createDirAll, dotted, Bool.false_eq_true, if_false]
    cases hw : walkR c fs (up ++ rootRev root) with
    | ok cur0 =>
      rcases mkdir_last hi hs hw (hclear _ (List.suffix_refl _)) with h | ⟨h1, h2, h3⟩
      · rw [h]
      · rw [h1]; simp [h2, h3]
    | error e =>
      have he := walk_err_notFound hi hs0 hclear.tail hw
      subst he
      rw [mkdir_walk_err hw]
      simp only
      rw [ih hs0 hclear.tail]
      simp only
      obtain ⟨hw0, hi0, _, hf0⟩ := ensureR_post hi hpc hs0 hclear.tail
      have hnf : ∀ b m, (ensureR c root up fs).1.lookup (resolveFrom root (x :: up).reverse) ≠
          some (.file b m) := (hclear.frame hf0) _ (List.suffix_refl _)
      have hidem : (ensureR c root (x :: up) (ensureR c root up fs).1).1 = (ensureR c root (x :: up) fs).1 := by
        simp only [ensureR]
        rw [ensureR_noop hw0]
      rcases mkdir_last hi0 hs hw0 hnf with h | ⟨h1, h2, h3⟩
      · rw [h, hidem]
      · rw [h1]; simp only [h2, if_true]; rw [← hidem, h3]

/-- `cda_eq` also when the name ends in "/./" after a ".." (or after nothing). -/
theorem cda_eq_dot {c : Cfg} {root : Path} {fs : FS} (hi : Inv c root fs) (hpc : PermCfg c)
    {rr : List Comp} (hs : SafeR rr) (hclear : Clear fs root rr)
    (hlast : rr = [] ∨ ∃ up, rr = Comp.parentDir :: up) :
    createDirAll c (rr ++ rootRev root) true fs = ((ensureR c root rr fs).1, none) := by
  rcases hlast with rfl | ⟨up, rfl⟩
  · simpa [ensureR] using cda_root hi true
  · have hs0 := hs.tail
    rw [List.cons_append]
    simp only [createDirAll, dotted, if_true]
    have key : ∀ fs', Inv c root fs' → ∀ cur0, walkR c fs' (up ++ rootRev root) = .ok cur0 →
        mkdir c fs' (Comp.curDir :: Comp.parentDir :: (up ++ rootRev root)) = .error .alreadyExists ∧
        isDir c fs' (Comp.curDir :: Comp.parentDir :: (up ++ rootRev root)) = true := by
      intro fs' hi' cur0 hw'
      have hsearch := (walk_end_search hi' hs0 hw').1
      have hw1 : walkR c fs' (Comp.parentDir :: up ++ rootRev root) = .ok cur0.dropLast := by
        rw [List.cons_append, walkR_cons_ok hw']; exact step_parent hsearch
      obtain ⟨_, m, hm⟩ := walk_end hi' hs hw1
      refine mkdir_exists ?_ hm
      rw [walkR_cons_ok (List.cons_append .. ▸ hw1)]; exact step_cur (walk_end_search hi' hs hw1).1
    cases hw : walkR c fs (up ++ rootRev root) with
    | ok cur0 =>
      obtain ⟨h1, h2⟩ := key fs hi cur0 hw
      rw [h1]; simp [h2, ensureR, ensureR_noop hw]
    | error e =>
      have he := walk_err_notFound hi hs0 hclear.tail hw
      subst he
      have hm : mkdir c fs (Comp.curDir :: Comp.parentDir :: (up ++ rootRev root)) = .error .notFound := by
        apply mkdir_walk_err; exact walkR_cons_err hw
      rw [hm]
      simp only
      rw [cda_eq hi hpc hs0 hclear.tail]
      simp only
      obtain ⟨hw0, hi0, _, _⟩ := ensureR_post hi hpc hs0 hclear.tail
      obtain ⟨h1, h2⟩ := key _ hi0 _ hw0
      rw [h1]; simp [h2, ensureR]

end ZipVerif.Spec.Tree
