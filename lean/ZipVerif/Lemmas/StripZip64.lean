import ZipVerif.Lemmas.CentralParseZ
import ZipVerif.Model.Writer
/-
`strip_zip64_extra_field` (`Model.stripZip64`, the D20 repair of `new_append`): on a well-formed record
sequence it removes exactly the ZIP64 (0x0001) records.
-/

namespace ZipVerif.Model
open ZipVerif ZipVerif.Spec.Zip

theorem stripZip64_nil (k : Nat) : stripZip64 k [] = [] := by cases k <;> rfl

theorem stripZip64_record (k : Nat) (id len : UInt16) {pay : Bytes} (rest : Bytes) (hl : pay.length = len.toNat) :
    stripZip64 (k + 1) (le16 id ++ (le16 len ++ (pay ++ rest))) =
      if id != 0x0001 then le16 id ++ (le16 len ++ (pay ++ stripZip64 k rest)) else stripZip64 k rest := by
  rw [stripZip64, if_neg (by simp [le16]), rd16_le16]
  dsimp only
  rw [rd16_le16]
  dsimp only
  rw [if_neg (by rw [List.length_append, hl]; omega), ← hl, List.drop_left]
  split
  · have e : le16 id ++ (le16 len ++ (pay ++ rest)) = (le16 id ++ (le16 len ++ pay)) ++ rest := by
      simp only [List.append_assoc]
    rw [e, List.take_left' (by simp only [List.length_append, le16_length]; omega)]
    simp only [List.append_assoc]
  · rfl

/-- **No ZIP64 record, nothing removed**: on C03's `ExtraOk` sequences `stripZip64` is the identity. -/
theorem stripZip64_extraOk_aux (k fuel : Nat) (bs : Bytes) (h : extraOkAux fuel bs = true) :
    stripZip64 k bs = bs := by
  rw [← extraOkZAux_false] at h
  induction fuel generalizing k bs with
  | zero => rw [(extraOkZAux_zero false bs).mp h, stripZip64_nil]
  | succ n ih =>
    obtain rfl | ⟨id, len, pay, rest, rfl, hl, hid, h99, hr⟩ := (extraOkZAux_succ false n bs).mp h
    · exact stripZip64_nil k
    cases k with
    | zero => rfl
    | succ k =>
      rw [stripZip64_record k id len rest hl, if_pos (by simpa using hid.resolve_right Bool.false_ne_true),
        ih k rest hr]

theorem stripZip64_extraOk {bs : Bytes} (h : ExtraOk bs) (k : Nat) : stripZip64 k bs = bs :=
  stripZip64_extraOk_aux k _ bs h

theorem stripZip64_length_le : ∀ (k : Nat) (bs : Bytes), (stripZip64 k bs).length ≤ bs.length := by
  intro k
  induction k with
  | zero => intro bs; exact Nat.le_refl _
  | succ k ih =>
    intro bs
    unfold stripZip64
    split
    · exact Nat.le_refl _
    · split
      · exact Nat.le_refl _
      · next kind r1 h1 =>
        split
        · exact Nat.le_refl _
        · next len r2 h2 =>
          have hr1 := rd16_length h1
          have hr2 := rd16_length h2
          have := ih (r2.drop len.toNat)
          split
          · exact Nat.le_refl _
          · next hlen =>
            split
            · simp only [List.length_append, List.length_take, List.length_drop] at this ⊢
              omega
            · simp only [List.length_drop] at this; omega

theorem extraOkZAux_len (a : Bool) : ∀ (n : Nat) (bs : Bytes), extraOkZAux a n bs = true →
    ∀ m, bs.length ≤ m → extraOkZAux a m bs = true := by
  intro n
  induction n with
  | zero => intro bs h m _; rw [(extraOkZAux_zero a bs).mp h]; exact extraOkZAux_nil a m
  | succ n ih =>
    intro bs h m hm
    obtain rfl | ⟨id, len, pay, rest, rfl, hl, hid, h99, hr⟩ := (extraOkZAux_succ a n bs).mp h
    · exact extraOkZAux_nil a m
    simp only [List.length_append, le16_length] at hm
    obtain ⟨m, rfl⟩ : ∃ m', m = m' + 1 := ⟨m - 1, by omega⟩
    exact (extraOkZAux_succ a m _).mpr (.inr ⟨id, len, pay, rest, rfl, hl, hid, h99, ih rest hr m (by omega)⟩)

/-- **What is left has no ZIP64 record**: stripping an `extraOkZAux` sequence (well formed, no 0x9901,
0x0001 records allowed or not) with enough fuel gives an `ExtraOk` sequence. -/
theorem stripZip64_okZ (a : Bool) : ∀ (fuel : Nat) (bs : Bytes), extraOkZAux a fuel bs = true →
    ∀ k, fuel ≤ k → ExtraOk (stripZip64 k bs) := by
  intro fuel
  induction fuel with
  | zero => intro bs h k _; rw [(extraOkZAux_zero a bs).mp h, stripZip64_nil]; rfl
  | succ n ih =>
    intro bs h k hk
    obtain rfl | ⟨id, len, pay, rest, rfl, hl, hid, h99, hr⟩ := (extraOkZAux_succ a n bs).mp h
    · rw [stripZip64_nil]; rfl
    obtain ⟨k, rfl⟩ : ∃ k', k = k' + 1 := ⟨k - 1, by omega⟩
    have hrec : ExtraOk (stripZip64 k rest) := ih rest hr k (by omega)
    rw [stripZip64_record k id len rest hl]
    split
    · next hne =>
      -- a kept record in front of an `ExtraOk` rest
      unfold ExtraOk at hrec ⊢
      rw [← extraOkZAux_false] at hrec ⊢
      exact extraOkZAux_record false id len pay _ hl (by rw [hne]; rfl) h99 hrec
    · exact hrec

end ZipVerif.Model

namespace ZipVerif.Spec.Zip
open ZipVerif ZipVerif.Model

/-- the bytes `new_append` keeps of the central extra field of entry `e` at offset `off` (the fuel is that of
`Model.appendRecord`) -/
def Entry.keptExtra (e : Entry) (off : UInt64) : Bytes :=
  stripZip64 ((e.centralExtraAll off).length + 1) (e.centralExtraAll off)

theorem centralExtraAll_cases (e : Entry) (off : UInt64) :
    e.centralExtraAll off = e.centralExtra ∨ ∃ (n : UInt16) (P : Bytes), P.length = n.toNat ∧
      e.centralExtraAll off = le16 1 ++ (le16 n ++ (P ++ e.centralExtra)) := by
  unfold Entry.centralExtraAll Entry.centralZ64
  by_cases hn : ((if e.zU then 8 else 0) + (if e.zC then 8 else 0) + (if e.zO off then 8 else 0)) = 0
  · rw [if_pos hn]; exact .inl rfl
  · rw [if_neg hn]
    refine .inr ⟨UInt16.ofNat ((if e.zU then 8 else 0) + (if e.zC then 8 else 0) + (if e.zO off then 8 else 0)),
      (if e.zU then le64 e.usize else []) ++ ((if e.zC then le64 e.csize else []) ++
        (if e.zO off then le64 off else [])), ?_, ?_⟩
    · cases e.zU <;> cases e.zC <;> cases e.zO off <;> rfl
    · simp only [List.append_assoc]

/-- **On the spec's own extra field** (`ZIP64 record ++ foreign records`) of a `Readable` entry, stripping
returns exactly the foreign records. -/
theorem keptExtra_of_extraOk (e : Entry) (off : UInt64) (h : ExtraOk e.centralExtra) :
    e.keptExtra off = e.centralExtra := by
  unfold Entry.keptExtra
  obtain hc | ⟨n, P, hl, hc⟩ := centralExtraAll_cases e off
  · rw [hc]; exact stripZip64_extraOk h _
  · rw [hc, stripZip64_record _ 1 n e.centralExtra hl, if_neg (by decide)]
    exact stripZip64_extraOk h _

/-- **What `new_append` keeps is `ExtraOk`**, also when the entry's own extra data hold further ZIP64 records
(`ExtraOkZ`-style). -/
theorem keptExtra_extraOk (e : Entry) (off : UInt64) (a : Bool)
    (h : extraOkZAux a e.centralExtra.length e.centralExtra = true) : ExtraOk (e.keptExtra off) := by
  have h1 := extraOkZAux_allow _ _ _ h
  -- the spec's own record in front is one more well-formed 0x0001 record
  have h2 : extraOkZAux true (e.centralExtraAll off).length (e.centralExtraAll off) = true := by
    obtain hc | ⟨n, P, hl, hc⟩ := centralExtraAll_cases e off
    · rw [hc]; exact h1
    · rw [hc]; exact extraOkZAux_record true 1 n P e.centralExtra hl rfl (by decide) h1
  exact stripZip64_okZ true _ _ h2 _ (Nat.le_succ _)

theorem keptExtra_length_le (e : Entry) (off : UInt64) :
    (e.keptExtra off).length ≤ (e.centralExtraAll off).length :=
  stripZip64_length_le _ _

end ZipVerif.Spec.Zip
