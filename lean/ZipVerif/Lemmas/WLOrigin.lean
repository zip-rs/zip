import ZipVerif.Lemmas.WLGood
/-
Where each closed entry of the ghost comes from: a purely ghost-level fold `originsOf` that
records for every entry the record `start_entry` pushed for it and the plaintext the `write` calls
delivered (or the raw bytes of a raw copy), and the relation `OriginRel` that ties it to the entry of
the emitted layout.  This is what lets the round-trip theorem speak of "the plaintext of entry i".  Last, as a `KeepSpec`:
closed entries are never removed or reordered (`prefixSpec`).
-/

namespace ZipVerif.WL
open ZipVerif ZipVerif.Model ZipVerif.Spec.Zip
open ZipVerif.Props.C12 (Call)

/-- Where a closed entry comes from. -/
inductive Origin
  /-- it was there before the script started (an archive opened with `new_append`) -/
  | old
  /-- started through the writer: `f` = the record `start_entry` pushed (name, method, level, time,
  attributes), `plain` = the bytes the `write` calls delivered (a symlink's target) -/
  | written (f : FileData) (plain : Bytes)
  /-- a raw copy: the record pushed (CRC, sizes, method of the source) and the raw bytes -/
  | raw (f : FileData) (data : Bytes)

/-- The entry of the emitted layout that an origin stands for. -/
def OriginRel (ext : WExt) : Origin → Spec.Zip.Entry → Prop
  | .old, _ => True
  | .written f plain, e => ∃ dp gap, f.time.datepart = some dp ∧
      e = specEntry (finalRec f plain (dataOf ext f plain)) dp gap [] (dataOf ext f plain) f.versionNeeded
  | .raw f data, e => ∃ dp gap, f.time.datepart = some dp ∧
      e = specEntry f dp gap [] data f.versionNeeded

def OpenRec.origin (o : OpenRec) : Origin :=
  if o.raw then .raw o.f o.plain else .written o.f o.plain

def Ghost.done : Ghost → List Spec.Zip.Entry
  | .idle d _ _ => d
  | .opened d _ _ _ => d
  | .dead => []
  | .stuck .. => []
  | .lost => []

/-- origins of the entries after closing the open one (if any) -/
def Ghost.closeOrigins (g : Ghost) (org : List Origin) : List Origin :=
  match g with
  | .opened _ _ _ o => org ++ [o.origin]
  | _ => org

/-- From ghost `g` to ghost `g'`: the open entry's origin is appended exactly when it was closed. -/
def orgNext (g g' : Ghost) (org : List Origin) : List Origin :=
  match g, g' with
  | .opened D _ _ o, .opened D' _ _ _ => if D'.length = D.length then org else org ++ [o.origin]
  | _, _ => org

/-- One call: the open entry's origin is appended exactly when the call closed it. -/
def originStep (ext : WExt) (g : Ghost) (c : Call) (out : Out (Option Nat)) (org : List Origin) :
    List Origin := orgNext g (ghostStep ext g c out) org

def originsOf (ext : WExt) : Ghost → List Origin → List Call → List (Out (Option Nat)) → List Origin
  | g, org, c :: cs, o :: os => originsOf ext (ghostStep ext g c o) (originStep ext g c o org) cs os
  | _, org, _, _ => org

/-- The origins list describes the closed entries of the ghost. -/
def Traced (ext : WExt) (g : Ghost) (org : List Origin) : Prop :=
  g.alive → Forall2 (OriginRel ext) org g.done

theorem close_opened {ext : WExt} {D : List Spec.Zip.Entry} {gap c : Bytes} {o : OpenRec}
    {es : List Spec.Zip.Entry} {gap' c' : Bytes}
    (h : (Ghost.opened D gap c o).close ext = some (es, gap', c')) :
    ∃ e, es = D ++ [e] ∧ OriginRel ext o.origin e := by
  obtain ⟨dp, hdp, ⟨hraw, rfl, _⟩ | ⟨hraw, _, rfl, _⟩⟩ := closeRec_some (Ghost.close_opened h).1
  · exact ⟨_, rfl, by simp only [OpenRec.origin, hraw, if_true]; exact ⟨dp, gap, hdp, rfl⟩⟩
  · exact ⟨_, rfl, by
      simp only [OpenRec.origin, hraw, Bool.false_eq_true, if_false]; exact ⟨dp, gap, hdp, rfl⟩⟩

theorem orgNext_self (g : Ghost) (org : List Origin) : orgNext g g org = org := by
  unfold orgNext; cases g <;> simp

theorem orgNext_close {ext : WExt} {g : Ghost} {es : List Spec.Zip.Entry} {gap cm : Bytes}
    (hcl : g.close ext = some (es, gap, cm)) (gap' cm' : Bytes) (o' : OpenRec) (org : List Origin) :
    orgNext g (.opened es gap' cm' o') org = g.closeOrigins org := by
  cases g with
  | opened D gap0 c0 o =>
    obtain ⟨e, rfl, _⟩ := close_opened hcl
    show (if (D ++ [e]).length = D.length then org else org ++ [o.origin]) = _
    rw [if_neg (by simp)]; rfl
  | _ => rfl

theorem Forall2.length_eq {α β} {R : α → β → Prop} {l1 : List α} {l2 : List β} (h : Forall2 R l1 l2) :
    l1.length = l2.length := by
  induction h with
  | nil => rfl
  | cons _ _ ih => simp [ih]

/-- After `finish`: one origin per entry of the emitted layout, in order. -/
theorem traced_final {ext : WExt} {g : Ghost} {org : List Origin} (hT : Traced ext g org)
    {es : List Spec.Zip.Entry} {gap c : Bytes} (hg : g.close ext = some (es, gap, c)) :
    Forall2 (OriginRel ext) (g.closeOrigins org) es := by
  cases g with
  | idle D gap0 c0 => cases hg; exact hT trivial
  | opened D gap0 c0 o =>
    obtain ⟨e, hes, hrel⟩ := close_opened hg
    subst hes
    exact (hT trivial).snoc hrel
  | _ => cases hg

theorem traced_step (ext : WExt) (g : Ghost) (c : Call) (out : Out (Option Nat)) (org : List Origin)
    (hT : Traced ext g org) : Traced ext (ghostStep ext g c out) (originStep ext g c out org) := by
  unfold originStep
  intro ha'
  obtain ⟨ha, ⟨n, o, raw, ok, mk, _, ⟨_, e⟩ | ⟨es, gap, cm, f, _, _, hst, e⟩⟩ |
    ⟨b, _, ⟨D, gap, cm, o, rfl, _, _, e⟩ | ⟨_, e⟩⟩ | ⟨c', _, e⟩ | ⟨_, e⟩⟩ := ghostStep_shape ext ha'
  · rw [e, orgNext_self]; exact hT ha
  · rw [e, orgNext_close (Ghost.start_close hst)]; exact traced_final hT (Ghost.start_close hst)
  · rw [e, show orgNext (.opened D gap cm o) (.opened D gap cm (o.write b)) org = org by simp [orgNext]]
    exact hT ha
  · rw [e, orgNext_self]; exact hT ha
  · rw [e]
    cases g with
    | idle D gap cm => exact hT ha
    | opened D gap cm o =>
      rw [show orgNext (.opened D gap cm o) (Ghost.setComment c' (.opened D gap cm o)) org = org by
        simp [orgNext, Ghost.setComment]]
      exact hT ha
    | _ => exact ha.elim
  · rw [e, orgNext_self]; exact hT ha

theorem traced_run (ext : WExt) : ∀ (calls : List Call) (outs : List (Out (Option Nat))) (g : Ghost)
    (org : List Origin), Traced ext g org →
    Traced ext (ghostOf ext g calls outs) (originsOf ext g org calls outs)
  | [], outs, g, org, h => by cases outs <;> exact h
  | c :: cs, [], g, org, h => h
  | c :: cs, o :: os, g, org, h => traced_run ext cs os _ _ (traced_step ext g c o org h)

theorem traced_init (ext : WExt) (gap c : Bytes) : Traced ext (.idle [] gap c) [] := fun _ => .nil

theorem Forall2.get {α β} {R : α → β → Prop} {l1 : List α} {l2 : List β} (h : Forall2 R l1 l2) :
    ∀ (i : Nat) (b : β), l2[i]? = some b → ∃ a, l1[i]? = some a ∧ R a b := by
  induction h with
  | nil => intro i b hb; simp at hb
  | cons hab _ ih =>
    intro i b hb
    cases i with
    | zero => simp at hb; subst hb; exact ⟨_, rfl, hab⟩
    | succ i => simp at hb; simpa using ih i b hb

/-! ### Closed entries are never removed or reordered -/

theorem close_prefix {ext : WExt} {g : Ghost} {es : List Spec.Zip.Entry} {gap c : Bytes}
    (hg : g.close ext = some (es, gap, c)) : g.done <+: es := by
  cases g with
  | dead => cases hg
  | stuck ss n wf => cases hg
  | lost => cases hg
  | idle D gap0 c0 => cases hg; exact List.prefix_refl _
  | opened D gap0 c0 o =>
    obtain ⟨e, hes, _⟩ := close_opened hg
    subst hes
    exact List.prefix_append _ _

theorem ghostOf_alive_back (ext : WExt) (calls : List Call) (outs : List (Out (Option Nat))) (g : Ghost)
    (h : (ghostOf ext g calls outs).alive) : g.alive :=
  Classical.not_not.mp fun hn => (ghostOf_isFold ext).induct (A := fun _ => True) (P := fun g => ¬ g.alive)
    (fun _ c out _ hg => ghostStep_not_alive ext hg c out) calls outs g (fun _ _ => trivial) hn h

/-- "the closed entries extend `D0`" is kept by every call -/
theorem prefixSpec (ext : WExt) (D0 : List Spec.Zip.Entry) : KeepSpec ext (fun D _ => D0 <+: D) (fun _ => True) where
  close h _ hcr := by
    obtain ⟨_, _, ⟨_, rfl, _⟩ | ⟨_, _, rfl, _⟩⟩ := closeRec_some hcr <;>
      exact h.trans (List.prefix_append _ _)
  write _ _ _ := trivial

theorem done_prefix_run (ext : WExt) (calls : List Call) (outs : List (Out (Option Nat))) (g : Ghost)
    (h : (ghostOf ext g calls outs).alive) : g.alive ∧ g.done <+: (ghostOf ext g calls outs).done := by
  have ha := ghostOf_alive_back ext calls outs g h
  have h0 : Keeps (fun D _ => g.done <+: D) (fun _ => True) g := by
    cases g <;> first | exact List.prefix_refl _ | exact ⟨List.prefix_refl _, trivial⟩ | exact ha.elim
  have := keeps_run (prefixSpec ext g.done) (A := fun _ => True) (fun _ _ _ _ _ _ _ _ _ _ _ _ => trivial)
    calls outs g (fun _ _ => trivial) h0
  refine ⟨ha, ?_⟩
  cases hg : ghostOf ext g calls outs <;> rw [hg] at this h <;>
    first | exact this | exact this.1 | exact h.elim

theorem alive_of_close {ext : WExt} {g : Ghost} {es : List Spec.Zip.Entry} {gap c : Bytes}
    (hg : g.close ext = some (es, gap, c)) : g.alive := by
  cases g <;> first | trivial | cases hg

end ZipVerif.WL
