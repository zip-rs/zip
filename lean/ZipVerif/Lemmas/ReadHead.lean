import ZipVerif.Basic.U64
import ZipVerif.Lemmas.CentralParseZ
import ZipVerif.Lemmas.ZipLayout
/-
`ZipArchive::new` on arbitrary bytes: the EOCD search, the ZIP64 locator probe, the ZIP64 forward search, and how
the three parts make up `openArchive` (`Runs.openArchive_of_parts`).  No layout is involved; `eocdOf l`, the end
record a parser must recover from a layout's, is defined at the end for the files that are about one.
-/

namespace ZipVerif.Model
open ZipVerif ZipVerif.Spec.Zip

/-! ### reading an arbitrary 32-bit word -/

theorem Runs.readU32_raw {B : Bytes} {p : Nat} {a b c d : UInt8} {rest : Bytes}
    (h : B.drop p = a :: b :: c :: d :: rest) : Runs M.readU32 B p (.ok (mk32 a b c d)) (p + 4) := by
  unfold M.readU32
  refine Runs.bind (Runs.readExact' (x := [a, b, c, d]) h rfl) ?_
  exact Runs.pure _

theorem Runs.readU32_any {B : Bytes} {p : Nat} (h : p + 4 ≤ B.length) :
    ∃ w, u32At B p = some w ∧ Runs M.readU32 B p (.ok w) (p + 4) := by
  have hl : 4 ≤ (B.drop p).length := by rw [List.length_drop]; omega
  match hd : B.drop p, hl with
  | a :: b :: c :: d :: rest, _ =>
    exact ⟨mk32 a b c d, by simp [u32At, hd, rd32], Runs.readU32_raw hd⟩

theorem u32At_of_drop {B rest : Bytes} {p : Nat} {v : UInt32} (h : B.drop p = le32 v ++ rest) :
    u32At B p = some v := by
  simp [u32At, h]

/-! ### `CentralDirectoryEnd::find_and_parse` -/

theorem runs_findEocdLoop {B : Bytes} {real bound top q : Nat} {E : Eocd}
    (hfound : u32At B real = some EOCD_SIG) (hparse : Runs parseEocd B real (.ok E) q)
    (hb : bound ≤ real) (htop : top + 4 ≤ B.length)
    (hnf : ∀ k, real < k → k ≤ top → u32At B k ≠ some EOCD_SIG) :
    ∀ (fuel pos p0 : Nat), real ≤ pos → pos ≤ top → pos - real < fuel →
      Runs (findEocdLoop bound fuel pos) B p0 (.ok (E, real)) q := by
  intro fuel
  induction fuel with
  | zero => intro pos p0 _ _ h; omega
  | succ n ih =>
    intro pos p0 h1 h2 h3
    unfold findEocdLoop
    rw [if_neg (by omega)]
    refine Runs.bind (Runs.seek_start pos) ?_
    obtain ⟨w, hw, hr⟩ := Runs.readU32_any (B := B) (p := pos) (by omega)
    refine Runs.bind hr ?_
    by_cases hpos : pos = real
    · subst hpos
      rw [hfound] at hw
      cases hw
      rw [if_pos (by decide)]
      refine Runs.bind (Runs.seek_cur 16) ?_
      refine Runs.bind (Runs.seek_start pos) ?_
      refine Runs.bind hparse ?_
      exact Runs.pure _
    · have hne : w ≠ EOCD_SIG := by
        intro h; subst h; exact hnf pos (by omega) h2 hw
      rw [if_neg (by simpa using hne), if_neg (by omega)]
      exact ih (pos - 1) _ (by omega) (by omega) (by omega)

theorem runs_findAndParseEocd {B : Bytes} {real q p0 : Nat} {E : Eocd}
    (hfound : u32At B real = some EOCD_SIG) (hparse : Runs parseEocd B real (.ok E) q)
    (hlen : real + 22 ≤ B.length) (hwin : B.length ≤ real + 22 + 65535)
    (hnf : ∀ k, real < k → k + 22 ≤ B.length → u32At B k ≠ some EOCD_SIG) :
    Runs findAndParseEocd B p0 (.ok (E, real)) q := by
  unfold findAndParseEocd
  have hs := Runs.seek_end (B := B) (p := p0) (off := 0) (by omega)
  have e : ((B.length : Int) + 0).toNat = B.length := by omega
  rw [e] at hs
  refine Runs.bind hs ?_
  rw [if_neg (by omega)]
  exact runs_findEocdLoop hfound hparse (by omega) (top := B.length - 22) (by omega)
    (fun k h1 h2 => hnf k h1 (by omega)) _ _ _ (by omega) (Nat.le_refl _) (by omega)

/-! ### ZIP64 locator probe and `get_directory_counts` -/

theorem parses_locator {p : Nat} (dw : UInt32) (off : UInt64) (disks : UInt32) :
    Parses parseLocator p (le32 LOCATOR_SIG ++ (le32 dw ++ (le64 off ++ le32 disks)))
      { diskWithCd := dw, eocd64Offset := off, disks := disks } := by
  unfold parseLocator
  refine Parses.bind (Parses.readU32 _) ?_
  rw [if_neg (by decide)]
  refine Parses.bind (Parses.readU32 _) ?_
  refine Parses.bind (Parses.readU64 _) ?_
  refine Parses.bind_last (Parses.readU32 _) ?_
  exact Parses.pure _

theorem runs_locator_absent {B : Bytes} {p : Nat} (hl : p + 4 ≤ B.length)
    (h : u32At B p ≠ some LOCATOR_SIG) :
    Runs parseLocator B p (.err .invalidArchive) (p + 4) := by
  unfold parseLocator
  obtain ⟨w, hw, hr⟩ := Runs.readU32_any hl
  refine Runs.bind hr ?_
  have hne : w ≠ LOCATOR_SIG := by intro e; subst e; exact h hw
  rw [if_pos (by simpa using hne)]
  exact Runs.throw _

/-- `get_directory_counts` when no ZIP64 locator sits in front of the end record.  `hroom`: the end record
and its comment lie inside the file (so, when the record starts at 20 or later, the probe position is not
negative); with the record less than 20 bytes into the file nothing is probed at all. -/
theorem runs_getDirectoryCounts_plain {B : Bytes} {footer : Eocd} {cdeStart p0 : Nat}
    (hprobe : 42 + footer.comment.length ≤ B.length →
      u32At B (B.length - 42 - footer.comment.length) ≠ some LOCATOR_SIG)
    (hroom : 20 ≤ cdeStart → 42 + footer.comment.length ≤ B.length)
    (h : footer.cdSize.toNat + footer.cdOffset.toNat ≤ cdeStart) :
    ∃ q, Runs (getDirectoryCounts footer cdeStart) B p0
      (.ok (cdeStart - footer.cdSize.toNat - footer.cdOffset.toNat,
            footer.cdOffset.toNat + (cdeStart - footer.cdSize.toNat - footer.cdOffset.toNat),
            footer.filesOnDisk.toNat)) q := by
  unfold getDirectoryCounts
  by_cases h20 : cdeStart < 20
  · refine ⟨p0, ?_⟩
    rw [if_pos h20]
    refine Runs.bind (Runs.pure _) ?_
    dsimp only
    rw [if_neg (by omega)]
    exact Runs.pure _
  · have hlen := hroom (by omega)
    refine ⟨B.length - 42 - footer.comment.length + 4, ?_⟩
    rw [if_neg h20]
    have hs := Runs.seek_end (B := B) (p := p0) (off := -(20 + 22 + (footer.comment.length : Int))) (by omega)
    have e : ((B.length : Int) + -(20 + 22 + (footer.comment.length : Int))).toNat =
        B.length - 42 - footer.comment.length := by omega
    rw [e] at hs
    refine Runs.bind (?_ : Runs _ B p0 (.ok none) (B.length - 42 - footer.comment.length + 4)) ?_
    · refine Runs.bind hs ?_
      refine Runs.bind (Runs.attempt_err (runs_locator_absent (by omega) (hprobe hlen))) ?_
      dsimp only
      exact Runs.pure _
    · dsimp only
      rw [if_neg (by omega)]
      exact Runs.pure _


/-! ### `Zip64CentralDirectoryEnd::find_and_parse` (forward search) -/

theorem runs_findEocd64Loop {B rest : Bytes} {real nominal upper : Nat}
    {rs : UInt64} {vm vn : UInt16} {dn dw : UInt32} {fd f sz off : UInt64}
    (hrec : B.drop real = le32 EOCD64_SIG ++ (le64 rs ++ (le16 vm ++ (le16 vn ++ (le32 dn ++ (le32 dw ++
      (le64 fd ++ (le64 f ++ (le64 sz ++ (le64 off ++ rest))))))))))
    (hup : real ≤ upper)
    (hnf : ∀ k, nominal ≤ k → k < real → u32At B k ≠ some EOCD64_SIG) :
    ∀ (fuel pos p0 : Nat), nominal ≤ pos → pos ≤ real → real - pos < fuel →
      Runs (findEocd64Loop nominal upper fuel pos) B p0
        (.ok ({ versionMadeBy := vm, versionNeeded := vn, diskNumber := dn, diskWithCd := dw,
                filesOnDisk := fd, files := f, cdSize := sz, cdOffset := off }, real - nominal))
        (real + 56) := by
  have hlen : real + 56 ≤ B.length := by
    have := congrArg List.length hrec
    simp only [List.length_drop, List.length_append, le16_length, le32_length, le64_length] at this
    omega
  intro fuel
  induction fuel with
  | zero => intro pos p0 _ _ h; omega
  | succ n ih =>
    intro pos p0 h1 h2 h3
    unfold findEocd64Loop
    rw [if_neg (by omega)]
    refine Runs.bind (Runs.seek_start pos) ?_
    by_cases hpos : pos = real
    · subst hpos
      refine Runs.bind (Runs.readU32 hrec) ?_
      rw [if_pos (by decide)]
      have hd : B.drop (pos + 4) = (le64 rs ++ (le16 vm ++ (le16 vn ++ (le32 dn ++ (le32 dw ++
            (le64 fd ++ (le64 f ++ (le64 sz ++ le64 off)))))))) ++ rest := by
        have := drop_past hrec
        simpa [List.append_assoc] using this
      refine (Parses.toRuns ?_ hd).cast rfl (by simp)
      refine Parses.bind (Parses.readU64 _) ?_
      refine Parses.bind (Parses.readU16 _) ?_
      refine Parses.bind (Parses.readU16 _) ?_
      refine Parses.bind (Parses.readU32 _) ?_
      refine Parses.bind (Parses.readU32 _) ?_
      refine Parses.bind (Parses.readU64 _) ?_
      refine Parses.bind (Parses.readU64 _) ?_
      refine Parses.bind (Parses.readU64 _) ?_
      refine Parses.bind_last (Parses.readU64 _) ?_
      exact Parses.pure _
    · obtain ⟨w, hw, hr⟩ := Runs.readU32_any (B := B) (p := pos) (by omega)
      refine Runs.bind hr ?_
      have hne : w ≠ EOCD64_SIG := by
        intro h; subst h; exact hnf pos h1 (by omega) hw
      rw [if_neg (by simpa using hne)]
      exact ih (pos + 1) _ (by omega) (by omega) (by omega)


/-- `get_directory_counts` when the ZIP64 locator is present and the forward search finds the ZIP64
end record at `real` (its nominal, prefix-less position being `loff`).  `60` is the crate's own constant: the search
stops at `cde_start_pos - 60` (read.rs 427); the run ends behind the 56 fixed bytes of the record. -/
theorem runs_getDirectoryCounts_z64 {B rest rest' : Bytes} {footer : Eocd} {cdeStart p0 real : Nat}
    {ldw ldisks : UInt32} {loff : UInt64}
    {rs : UInt64} {vm vn : UInt16} {dn : UInt32} {fd f sz off : UInt64}
    (hlen : 42 + footer.comment.length ≤ B.length)
    (hloc : B.drop (B.length - 42 - footer.comment.length) =
      le32 LOCATOR_SIG ++ (le32 ldw ++ (le64 loff ++ le32 ldisks)) ++ rest')
    (hdisk : (!footer.recordTooSmall && footer.diskNumber.toUInt32 != ldw) = false)
    (hrec : B.drop real = le32 EOCD64_SIG ++ (le64 rs ++ (le16 vm ++ (le16 vn ++ (le32 dn ++ (le32 dn ++
      (le64 fd ++ (le64 f ++ (le64 sz ++ (le64 off ++ rest))))))))))
    (h60 : 60 ≤ cdeStart) (hup : real ≤ cdeStart - 60) (hnom : loff.toNat ≤ real)
    (hnf : ∀ k, loff.toNat ≤ k → k < real → u32At B k ≠ some EOCD64_SIG)
    (hds : off.toNat + (real - loff.toNat) < 2 ^ 64) :
    Runs (getDirectoryCounts footer cdeStart) B p0
      (.ok (real - loff.toNat, off.toNat + (real - loff.toNat), f.toNat)) (real + 56) := by
  unfold getDirectoryCounts
  have hs := Runs.seek_end (B := B) (p := p0) (off := -(20 + 22 + (footer.comment.length : Int))) (by omega)
  have e : ((B.length : Int) + -(20 + 22 + (footer.comment.length : Int))).toNat =
      B.length - 42 - footer.comment.length := by omega
  rw [e] at hs
  rw [if_neg (by omega)]
  refine Runs.bind (?_ : Runs _ B p0 (.ok (some ⟨ldw, loff, ldisks⟩)) (B.length - 42 - footer.comment.length + 20)) ?_
  · refine Runs.bind hs ?_
    refine Runs.bind (Runs.attempt_ok ((parses_locator ldw loff ldisks).toRuns hloc)) ?_
    dsimp only
    exact Runs.pure _
  dsimp only
  rw [hdisk, if_neg (by simp), if_neg (by omega)]
  unfold findEocd64
  refine Runs.bind (runs_findEocd64Loop hrec hup hnf _ _ _ (Nat.le_refl _) hnom (by omega)) ?_
  dsimp only
  rw [if_neg (by simp), if_neg (by omega)]
  exact Runs.pure _

/-- `get_directory_counts` on bytes that end in: the ZIP64 end record (count `cnt`, directory offset `off`, an
extensible data sector `ext`) at `real = pre + nom`, the locator naming `nom`, and `tail` — the end record `footer`
was parsed from.  The probe finds the locator 20 bytes in front of `tail`, the forward search from `nom` the record.
`76` = the 56 fixed bytes of the ZIP64 end record + the 20 of the locator, `98` = 76 + the 22 fixed bytes of the end record. -/
theorem runs_counts_z64_at {B ext tail : Bytes} {footer : Eocd} {p0 real pre nom cnt sz off : Nat}
    {vm vn : UInt16} {rs : UInt64}
    (hd : B.drop real = (le32 EOCD64_SIG ++ (le64 rs ++ (le16 vm ++ (le16 vn ++ (le32 0 ++ (le32 0 ++
        (le64 (UInt64.ofNat cnt) ++ (le64 (UInt64.ofNat cnt) ++ (le64 (UInt64.ofNat sz) ++
        (le64 (UInt64.ofNat off) ++ ext)))))))))) ++
      ((le32 LOCATOR_SIG ++ (le32 0 ++ (le64 (UInt64.ofNat nom) ++ le32 1))) ++ tail))
    (htail : tail.length = 22 + footer.comment.length)
    (hdisk : (!footer.recordTooSmall && footer.diskNumber.toUInt32 != 0) = false)
    (hreal : real = pre + nom) (hb : real + ext.length + footer.comment.length + 98 < 2 ^ 63)
    (hcnt : cnt < 2 ^ 63) (hoff : off ≤ nom)
    (hnf : ∀ k, nom ≤ k → k < real → u32At B k ≠ some EOCD64_SIG) :
    Runs (getDirectoryCounts footer (real + 76 + ext.length)) B p0 (.ok (pre, off + pre, cnt)) (real + 56) := by
  have hlen : B.length = real + (76 + ext.length) + tail.length := by
    have := congrArg List.length hd
    simp only [List.length_drop, List.length_append, le16_length, le32_length, le64_length] at this
    omega
  have hnom : (UInt64.ofNat nom).toNat = nom := U64.toNat_ofNat (by omega)
  have hloc : B.drop (B.length - 42 - footer.comment.length) =
      le32 LOCATOR_SIG ++ (le32 0 ++ (le64 (UInt64.ofNat nom) ++ le32 1)) ++ tail := by
    rw [← drop_past hd]
    congr 1
    simp only [List.length_append, le16_length, le32_length, le64_length]
    omega
  have hq := runs_getDirectoryCounts_z64 (B := B) (footer := footer) (cdeStart := real + 76 + ext.length)
    (p0 := p0) (real := real) (rs := rs) (vm := vm) (vn := vn) (dn := 0) (fd := UInt64.ofNat cnt)
    (f := UInt64.ofNat cnt) (sz := UInt64.ofNat sz) (off := UInt64.ofNat off) (ldw := 0)
    (loff := UInt64.ofNat nom) (ldisks := 1) (rest' := tail) (rest := ext ++ ((le32 LOCATOR_SIG ++ (le32 0 ++ (le64 (UInt64.ofNat nom) ++
      le32 1))) ++ tail)) (by omega) hloc hdisk (by rw [hd]; simp only [List.append_assoc]) (by omega) (by omega)
    (by rw [hnom]; omega) (by rw [hnom]; exact hnf) (by rw [hnom, U64.toNat_ofNat (n := off) (by omega)]; omega)
  refine hq.cast ?_ rfl
  rw [hnom, U64.toNat_ofNat (n := off) (by omega), U64.toNat_ofNat (Nat.lt_trans hcnt (by decide)),
    show real - nom = pre by omega]


/-! ### `ZipArchive::new` -/

theorem Runs.openArchive_of_parts {B : Bytes} {E : Eocd} {real ao ds n p0 q0 q1 q2 : Nat} {files : List FileData}
    (hd : (!E.recordTooSmall && E.diskNumber != E.diskWithCd) = false)
    (hfind : Runs findAndParseEocd B p0 (.ok (E, real)) q0)
    (hcnt : Runs (getDirectoryCounts E real) B q0 (.ok (ao, ds, n)) q1)
    (hloop : Runs (readCentralLoop ao n) B ds (.ok files) q2) :
    Runs openArchive B p0 (.ok { files := files, offset := ao, comment := E.comment }) q2 := by
  unfold openArchive
  refine Runs.bind hfind ?_
  dsimp only
  rw [hd, if_neg (by simp)]
  refine Runs.bind hcnt ?_
  dsimp only
  refine Runs.bind (Runs.attempt_ok (Runs.seek_start _)) ?_
  dsimp only
  refine Runs.bind hloop ?_
  exact Runs.pure _

/-- the end record a parser must recover from `l.eocd` -/
def eocdOf (l : Layout) : Eocd :=
  let f := l.zip64End
  let n16 : UInt16 := if f || l.count > 0xFFFF then 0xFFFF else UInt16.ofNat l.count
  { diskNumber := 0, diskWithCd := 0, filesOnDisk := n16, files := n16
    cdSize := if f || l.cdSize > 0xFFFFFFFF then 0xFFFFFFFF else UInt32.ofNat l.cdSize
    cdOffset := if f || l.cdOffset > 0xFFFFFFFF then 0xFFFFFFFF else UInt32.ofNat l.cdOffset
    comment := l.comment }


end ZipVerif.Model
