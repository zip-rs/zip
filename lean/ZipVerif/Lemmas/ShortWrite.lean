import ZipVerif.Model.ShortWrite
import ZipVerif.Lemmas.WriterRel
import ZipVerif.Lemmas.ShortRead
import ZipVerif.Props.C12
import ZipVerif.Lemmas.MLawful
import ZipVerif.Lemmas.RunFold
/-
The generic writer `GW` (`Model/ShortWrite.lean`) at `M` is the model's writer (`GW.x_M`), and `GW.step` is the dispatch
of one call of the alphabet of `Props/C12` (imported for `Call`, `step`, `runCalls`), generically: `Props.C12.step` at `M`
(`step_M`), related to itself by every step relation (`GW.srel_step`, over the `StepRel` of `Lemmas/WriterRel`) and,
`drop` included, by every relation closed under the writer vocabulary (`GW.rel_step`).  The per-call statements of the
writer's logics (`Lemmas/FaultRun`, `FaultInterruptedW`, `ViewInv`, `TailInv`) are instances of these two.

C09, the writer STATE MACHINE over a short-writing sink: `Sim` (`Lemmas/ShortRead`) is closed under the writer
vocabulary, so every `GW` function off the data path simulates itself (`Sim.writerRel`; `sim_finalize`, `sim_finish`).
The data path - the caller's `write_all` loop over `ZipWriter::write`, sink and encoder both accepting short counts
(`AccOk`) - agrees with the model's `writeData` up to the 4 GiB refusal (`SimS`, `simS_writeData`): by `GW.write_eq`
(`Lemmas/WriteCase`) one `write` is one sink call or none around a pure step, so off the data path both runs are the
same pure outcome (`writeData_off`), and in data mode the open entry takes a prefix of the buffer (`write_MS_data`;
everything in the model, `Model.writeData_eq`).  `SimS` is a step relation (`SimS.stepRel`), hence `simS_step`.  Call
sequences over the short-writing sink (`GW.runCallsS`) agree with `runCalls` up to a refusal (`run_sim`, `RefusedAt`);
a closed writer answers without I/O (`closedStep`, using `LawfulMonad MS`), so the per-call outcomes never depend on
the schedule (`run_outcomes`).
-/

namespace ZipVerif.Model
open ZipVerif ZipVerif.Model.Layers ZipVerif.Props.C12

/-! ### The generic writer instantiated at `M` IS the model's writer -/

namespace GW

theorem streamPosition_M : (streamPosition : M Nat) = M.streamPosition := rfl

theorem writeChunks_M (cs : List Bytes) : (writeChunks cs : M Unit) = M.writeChunks cs := by
  induction cs with
  | nil => rfl
  | cons c cs ih =>
    unfold writeChunks M.writeChunks
    rw [ih]
    rfl

theorem io_M {α β} (s : WState) (x : M α) (k : α → M (Except ZErr β × WState)) :
    GW.io s x k = Model.io s x k := rfl

theorem emitFinish_M {β} (s : WState) (mm : Method) (enc : Option EncState) (bs : Bytes)
    (k : Option EncState → M (Except ZErr β × WState)) :
    GW.emitFinish s mm enc bs k = Model.emitFinish s mm enc bs k := rfl

theorem switchTo_M (ext : WExt) (c : Method) (l : Option Int) (s : WState) :
    (GW.switchTo ext c l s : M _) = Model.switchTo ext c l s := rfl

theorem endExtraData_M (ext : WExt) (s : WState) :
    (GW.endExtraData ext s : M _) = Model.endExtraData ext s := rfl

theorem updateLocalHeader_M {β} (s : WState) (f : FileData) (k : Unit → M (Except ZErr β × WState)) :
    GW.updateLocalHeader s f k = Model.updateLocalHeader s f k := rfl

theorem finishFile_M (ext : WExt) (s : WState) :
    (GW.finishFile ext s : M _) = Model.finishFile ext s := rfl

theorem startEntry_M (ext : WExt) (name : Bytes) (o : FileOptions) (raw) (s : WState) :
    (GW.startEntry ext name o raw s : M _) = Model.startEntry ext name o raw s := by
  unfold GW.startEntry Model.startEntry
  simp only [writeChunks_M] <;> rfl

theorem startFile_M (ext : WExt) (name : Bytes) (o : FileOptions) (s : WState) :
    (GW.startFile ext name o s : M _) = Model.startFile ext name o s := by
  unfold GW.startFile Model.startFile
  simp only [startEntry_M] <;> rfl

theorem startFileWithExtraData_M (ext : WExt) (name : Bytes) (o : FileOptions) (s : WState) :
    (GW.startFileWithExtraData ext name o s : M _) = Model.startFileWithExtraData ext name o s := by
  unfold GW.startFileWithExtraData Model.startFileWithExtraData
  simp only [startEntry_M] <;> rfl

theorem endLocalStartCentral_M (ext : WExt) (s : WState) :
    (GW.endLocalStartCentral ext s : M _) = Model.endLocalStartCentral ext s := rfl

theorem addDirectory_M (ext : WExt) (name : Bytes) (o : FileOptions) (s : WState) :
    (GW.addDirectory ext name o s : M _) = Model.addDirectory ext name o s := by
  unfold GW.addDirectory Model.addDirectory
  simp only [startEntry_M] <;> rfl

theorem writeAllCentral_M (s : WState) (fs : List FileData) :
    (GW.writeAllCentral s fs : M _) = Model.finalize.writeAllCentral s fs := by
  induction fs with
  | nil => rfl
  | cons f rest ih =>
    unfold GW.writeAllCentral Model.finalize.writeAllCentral
    simp only [writeChunks_M, ih]
    rfl

theorem finalize_M (ext : WExt) (s : WState) :
    (GW.finalize ext s : M _) = Model.finalize ext s := by
  unfold GW.finalize Model.finalize
  simp only [writeChunks_M, writeAllCentral_M] <;> rfl

theorem finish_M (ext : WExt) (s : WState) :
    (GW.finish ext s : M _) = Model.finish ext s := by
  unfold GW.finish Model.finish
  simp only [finalize_M] <;> rfl

theorem dropInner_M (ext : WExt) (s : WState) :
    (GW.dropInner ext s : M _) = Model.dropInner ext s := rfl

theorem dropWriter_M (ext : WExt) (s : WState) :
    (GW.dropWriter ext s : M _) = Model.dropWriter ext s := by
  unfold GW.dropWriter Model.dropWriter
  simp only [finalize_M, dropInner_M] <;> rfl

theorem writeAllLoop_nil_M (acc fuel) (s : WState) :
    (GW.writeAllLoop acc (fuel + 1) [] s : M _) = pure (.ok (), s) := rfl

theorem writeData_M (buf : Bytes) (s : WState) :
    (GW.writeData (fun x => x.length) buf s : M _) = Model.writeData buf s :=
  writeAllLoop_of_whole _ buf s rfl

theorem startFileAligned_M (ext : WExt) (name : Bytes) (o : FileOptions) (a : UInt16) (s : WState) :
    (GW.startFileAligned (fun x => x.length) ext name o a s : M _) = Model.startFileAligned ext name o a s := by
  unfold GW.startFileAligned Model.startFileAligned
  simp only [startFileWithExtraData_M, writeData_M] <;> rfl

theorem addSymlink_M (ext : WExt) (name target : Bytes) (o : FileOptions) (s : WState) :
    (GW.addSymlink (fun x => x.length) ext name target o s : M _) = Model.addSymlink ext name target o s := by
  unfold GW.addSymlink Model.addSymlink
  simp only [startEntry_M, writeData_M] <;> rfl

theorem rawCopy_M (ext : WExt) (src : FileData) (raw name : Bytes) (s : WState) :
    (GW.rawCopy (fun x => x.length) ext src raw name s : M _) = Model.rawCopy ext src raw name s := by
  unfold GW.rawCopy Model.rawCopy
  simp only [startEntry_M, writeData_M] <;> rfl

end GW
/-! ### Simulation: the writer over the `Cursor` vs over a sink with ANY short-write schedule

`Sim` (Lemmas/ShortRead): same outcome, same bytes, same position - for every schedule. -/

namespace Sim

theorem wflush : Sim (WriterIO.wFlush : M Unit) (WriterIO.wFlush : MS Unit) := by
  unfold Sim
  intro sch d sd hv
  exact ⟨.ok (), { d with calls := d.calls + 1 }, { sd with calls := sd.calls + 1 }, rfl, rfl, hv⟩

theorem wwriteAll (bs : Bytes) : Sim (WriterIO.wWriteAll bs : M Unit) (WriterIO.wWriteAll bs : MS Unit) := by
  unfold Sim
  intro sch d sd hv
  obtain ⟨d', sd', e1, e2, hv'⟩ := short_writeAll_sim sch bs d sd hv
  exact ⟨.ok (), d', sd', e1, e2, hv'⟩

/-- `Sim` is closed under what the generic writer is written with, the data path's single `write` apart: every `GW`
function but those on the data path simulates itself (`GW.srel_*`, `Lemmas/WriterRel`). -/
@[reducible] def writerRel : WriterRel₀ M MS where
  R := Sim
  pure := Sim.pure
  bind := Sim.bind
  panic := Sim.panic
  attempt := Sim.attempt
  seekStart := fun _ => Sim.seek _
  seekCurrent := fun _ => Sim.seek _
  flush := wflush
  writeAll := wwriteAll

end Sim

namespace GW

theorem sim_finalize (ext : WExt) (s : WState) :
    Sim (GW.finalize ext s : M _) (GW.finalize ext s : MS _) := srel_finalize Sim.writerRel.stepRel ext s

theorem sim_finish (ext : WExt) (s : WState) :
    Sim (GW.finish ext s : M _) (GW.finish ext s : MS _) := srel_finish Sim.writerRel.stepRel ext s

end GW
/-! ### The data path: `write_all` over `ZipWriter::write` over a short-writing sink / short-accepting encoder -/

/-- The encoder's count is a count: at most what was offered, and not `Ok(0)` for a non-empty buffer
(`Ok(0)` is `WriteZero` for `write_all`: "no longer able to accept bytes"). -/
structure AccOk (acc : Bytes → Nat) : Prop where
  le : ∀ b, acc b ≤ b.length
  pos : ∀ b, b ≠ [] → 0 < acc b

theorem AccOk.whole : AccOk (fun b => b.length) :=
  ⟨fun _ => Nat.le_refl _, fun _ hb => List.length_pos_iff.mpr hb⟩

theorem MS.bind_of_ok {α β} {x : MS α} {f : α → MS β} {sch : Nat → Nat} {d d' : Dev} {a : α}
    (h : x sch d = (.ok a, d')) : (x >>= f) sch d = f a sch d' := by
  rw [MS.bind_apply, h]

theorem MS.ext {α} {x y : MS α} (h : ∀ sch d, x sch d = y sch d) : x = y := by
  funext sch d; exact h sch d

instance : LawfulMonad MS := LawfulMonad.mk'
  (id_map := by
    intro α x
    apply MS.ext; intro sch d
    show (x >>= fun a => pure (id a)) sch d = x sch d
    rw [MS.bind_apply]
    rcases h : x sch d with ⟨o, d'⟩
    cases o <;> rfl)
  (pure_bind := by intros; rfl)
  (bind_assoc := by
    intro α β γ x f g
    apply MS.ext; intro sch d
    simp only [MS.bind_apply]
    rcases h : x sch d with ⟨o, d'⟩
    cases o <;> simp only [])

namespace GW

/-- buffer and position of the sink after the open entry took `bs` (only a plain storer reaches it) -/
def devEff (i : Inner) (d : Dev) (bs : Bytes) : Bytes × Nat :=
  match i with
  | .storer none => (if bs = [] then d.buf else writeAt d.buf d.pos bs, d.pos + bs.length)
  | _ => (d.buf, d.pos)

/-- no refusal for the 4 GiB limit -/
def Fits (s : WState) (f : FileData) (bs : Bytes) : Prop :=
  s.statsBytes + bs.length ≤ 0xFFFFFFFF ∨ f.largeFile = true

instance (s f bs) : Decidable (Fits s f bs) := by unfold Fits; infer_instance

theorem absorb_append (i : Inner) (a b : Bytes) : absorb (absorb i a) b = absorb i (a ++ b) := by
  cases i with
  | closed => rfl
  | storer enc => cases enc <;> simp [absorb]
  | compressor mm l enc p => simp [absorb]

theorem fin_fin (s : WState) (a b : Bytes) : fin (fin s a) b = fin s (a ++ b) := by
  simp only [fin, absorb_append, Spec.Crc32.updateBytes_append, List.length_append, Nat.add_assoc]

/-- the 4 GiB check of `ZipWriter::write` (`write.rs` 245) is the negation of `Fits` -/
theorem refused_iff (n k : Nat) (lf : Bool) :
    (decide (n + k > 0xFFFFFFFF) && !lf) = true ↔ ¬ (n + k ≤ 0xFFFFFFFF ∨ lf = true) := by
  cases lf <;> simp <;> omega

/-- what `account` answers once the open entry took `t` -/
theorem accountP_fin {s : WState} {f : FileData} (hf : s.files.getLast? = some f) (t : Bytes) :
    accountP t { s with inner := absorb s.inner t } =
      .ok (if Fits s f t then (.ok t.length, fin s t) else (.error (.io .other), { fin s t with inner := .closed })) := by
  simp only [accountP, hf, refused_iff, ite_not, Fits, fin]
  exact (apply_ite Except.ok _ _ _).symm

theorem accountP_none {s : WState} (hf : s.files.getLast? = none) (t : Bytes) (i : Inner) :
    accountP t { s with inner := i } = .error "write.rs:244 files.last_mut().unwrap()" := by
  simp only [accountP, hf]

/-- the one sink call over the short-writing device: it accepts a non-empty prefix -/
theorem io_write_MS (b : UInt8) (bs : Bytes) (sch : Nat → Nat) (sd : Dev) :
    ∃ n sd1, 1 ≤ n ∧ n ≤ (b :: bs).length ∧
      (sd1.buf, sd1.pos) = (writeAt sd.buf sd.pos ((b :: bs).take n), sd.pos + n) ∧
      ∀ {β} (s : WState) (k : Nat → MS (Except ZErr β × WState)),
        (GW.io s (WriterIO.wWrite (b :: bs)) k : MS _) sch sd = k n sch sd1 := by
  generalize hk : min (b :: bs).length (max (sch sd.calls) 1) = n
  have hn : 1 ≤ n ∧ n ≤ (b :: bs).length := by
    simp only [List.length_cons] at hk ⊢; omega
  have hw : (WriterIO.wAttempt (WriterIO.wWrite (b :: bs)) : MS _) sch sd = (.ok (.ok n),
      { buf := writeAt sd.buf sd.pos ((b :: bs).take n), pos := sd.pos + n, calls := sd.calls + 1 }) := by
    show MS.attempt (MS.write (b :: bs)) sch sd = _
    simp only [MS.attempt, MS.write, shortWr, reduceCtorEq, ↓reduceIte, hk]
  exact ⟨n, _, hn.1, hn.2, rfl, fun _ _ => MS.bind_of_ok hw⟩

/-- ONE `write` call over the short-writing device in data mode: the open entry takes a non-empty prefix of the
buffer - what the sink accepted, what the encoder accepted, or (ZipCrypto) everything. -/
theorem write_MS_data {acc : Bytes → Nat} (ha : AccOk acc) (s : WState)
    (hwf : s.writingToFile = true) (hx : s.writingToExtraField = false) (hcl : s.inner ≠ .closed)
    (b : UInt8) (bs : Bytes) (sch : Nat → Nat) (sd : Dev) :
    ∃ n sd1, 1 ≤ n ∧ n ≤ (b :: bs).length ∧ (sd1.buf, sd1.pos) = devEff s.inner sd ((b :: bs).take n) ∧
      (GW.write acc (b :: bs) s : MS _) sch sd =
        (liftP (accountP ((b :: bs).take n) { s with inner := absorb s.inner ((b :: bs).take n) }) : MS _) sch sd1 := by
  rcases s with ⟨inner, files, ss, sb, sh, wf, wx, co, wr, cm⟩
  simp only at hwf hx hcl
  subst hwf hx
  rw [write_eq]
  rcases inner with _ | (_ | e) | ⟨mm, l, enc, p⟩
  · exact absurd rfl hcl
  · obtain ⟨n, sd1, h1, h2, hd, he⟩ := io_write_MS b bs sch sd
    have hl : ((b :: bs).take n).length = n := by rw [List.length_take]; omega
    have hne : (b :: bs).take n ≠ [] := by
      intro h; rw [h] at hl; simp at hl; omega
    refine ⟨n, sd1, h1, h2, ?_, he _ _⟩
    simp only [devEff, hne, ↓reduceIte, hl]
    exact hd
  · exact ⟨(b :: bs).length, sd, by simp, Nat.le_refl _, rfl, by rw [List.take_length]; rfl⟩
  · exact ⟨acc (b :: bs), sd, ha.pos _ (by simp), ha.le _, rfl, rfl⟩

theorem fin_files (s : WState) (a : Bytes) : (fin s a).files = s.files := rfl
theorem fin_wf (s : WState) (a : Bytes) : (fin s a).writingToFile = s.writingToFile := rfl
theorem fin_wx (s : WState) (a : Bytes) : (fin s a).writingToExtraField = s.writingToExtraField := rfl
theorem fin_inner (s : WState) (a : Bytes) : (fin s a).inner = absorb s.inner a := rfl

theorem absorb_ne_closed {i : Inner} (h : i ≠ .closed) (a : Bytes) : absorb i a ≠ .closed := by
  cases i with
  | closed => exact absurd rfl h
  | storer enc => cases enc <;> simp [absorb]
  | compressor mm l enc p => simp [absorb]

theorem fits_fin (s : WState) (f : FileData) (a rest : Bytes) :
    Fits (fin s a) f rest ↔ Fits s f (a ++ rest) := by
  simp only [Fits, fin, List.length_append, Nat.add_assoc]

theorem fits_prefix {s : WState} {f : FileData} {a rest : Bytes} (h : Fits s f (a ++ rest)) : Fits s f a := by
  simp only [Fits, List.length_append] at h ⊢
  rcases h with h | h
  · left; omega
  · right; exact h

theorem devEff_nil (i : Inner) (d : Dev) : devEff i d [] = (d.buf, d.pos) := by
  cases i with
  | closed => rfl
  | storer enc => cases enc <;> simp [devEff]
  | compressor mm l enc p => rfl

theorem devEff_congr (i : Inner) {d sd : Dev} (hv : SameView d sd) (bs : Bytes) :
    devEff i d bs = devEff i sd bs := by
  obtain ⟨hb, hp⟩ := hv
  cases i with
  | closed => simp [devEff, hb, hp]
  | compressor mm l enc p => simp [devEff, hb, hp]
  | storer enc => cases enc <;> simp [devEff, hb, hp]

theorem devEff_append (i : Inner) (d d1 : Dev) (a rest : Bytes) (ha : a ≠ [])
    (h1 : (d1.buf, d1.pos) = devEff i d a) : devEff (absorb i a) d1 rest = devEff i d (a ++ rest) := by
  cases i with
  | closed => simpa [devEff, absorb] using h1
  | compressor mm l enc p => simpa [devEff, absorb] using h1
  | storer enc =>
    cases enc with
    | some e => simpa [devEff, absorb] using h1
    | none =>
      simp only [devEff, ha, ↓reduceIte, Prod.mk.injEq] at h1
      obtain ⟨hb, hp⟩ := h1
      have hne : a ++ rest ≠ [] := by simp [ha]
      simp only [devEff, absorb, hne, ↓reduceIte, hb, hp, List.length_append, Nat.add_assoc, Prod.mk.injEq, and_true]
      split
      · next hr => subst hr; simp
      · exact writeAt_split d.buf d.pos a rest

/-- The caller's `write_all` loop over `ZipWriter::write`, over the short-writing device and a
short-accepting encoder, in data mode.  The two cases are complementary: an empty buffer succeeds without a `write`,
whether it `Fits` or not. -/
theorem loop_MS {acc : Bytes → Nat} (ha : AccOk acc) (f : FileData) (sch : Nat → Nat) :
    ∀ (fuel : Nat) (buf : Bytes) (s : WState) (sd : Dev), buf.length < fuel →
      s.writingToFile = true → s.writingToExtraField = false → s.inner ≠ .closed →
      s.files.getLast? = some f →
      (Fits s f buf ∨ buf = [] → ∃ sd', (GW.writeAllLoop acc fuel buf s : MS _) sch sd = (.ok (.ok (), fin s buf), sd') ∧
        (sd'.buf, sd'.pos) = devEff s.inner sd buf) ∧
      (¬ Fits s f buf → buf ≠ [] → ∃ s' sd',
        (GW.writeAllLoop acc fuel buf s : MS _) sch sd = (.ok (.error (.io .other), s'), sd') ∧ s'.inner = .closed ∧
          s'.writingToFile = s.writingToFile ∧ s'.writingToExtraField = s.writingToExtraField ∧
          s'.comment = s.comment) := by
  intro fuel
  induction fuel with
  | zero => intro buf s sd h; omega
  | succ fuel ih =>
    intro buf s sd hlen hwf hx hcl hf
    cases buf with
    | nil =>
      refine ⟨fun _ => ⟨sd, ?_, (devEff_nil _ _).symm⟩, fun _ h => absurd rfl h⟩
      rw [fin_nil]
      rfl
    | cons b bs =>
      -- the first `write` takes the prefix `take n`.  While that fits, the loop goes on from `fin s (take n)` with the
      -- rest, and `fin_fin` / `devEff_append` join the two parts; when it does not, this call is the refusal - which a
      -- buffer that fits never meets, its prefixes fitting too (`fits_prefix`)
      obtain ⟨n, sd1, hn1, hn2, hdev, hstep⟩ := write_MS_data ha s hwf hx hcl b bs sch sd
      have hsplit : (b :: bs).take n ++ (b :: bs).drop n = b :: bs := List.take_append_drop _ _
      have hl : ((b :: bs).take n).length = n := by rw [List.length_take]; omega
      rw [accountP_fin hf, hl] at hstep
      have hane : (b :: bs).take n ≠ [] := by
        intro h; rw [h] at hl; simp at hl; omega
      have hunf : (GW.writeAllLoop acc (fuel + 1) (b :: bs) s : MS _) sch sd =
          ((GW.write acc (b :: bs) s : MS _) >>= fun p => match p with
            | (r, s) => match r with
              | .error e => pure (.error e, s)
              | .ok n => if n = 0 then pure (.error (.io .writeZero), s)
                  else GW.writeAllLoop acc fuel ((b :: bs).drop n) s) sch sd := rfl
      by_cases hfit : Fits s f ((b :: bs).take n)
      · rw [if_pos hfit] at hstep
        rw [MS.bind_of_ok hstep] at hunf
        have hn0 : n ≠ 0 := by omega
        simp only [hn0, ↓reduceIte] at hunf
        have hrl : ((b :: bs).drop n).length < fuel := by
          rw [List.length_drop]; simp only [List.length_cons] at hlen hn2 ⊢; omega
        obtain ⟨ih1, ih2⟩ := ih ((b :: bs).drop n) (fin s ((b :: bs).take n)) sd1 hrl hwf hx
          (absorb_ne_closed hcl _) hf
        rw [fits_fin, hsplit] at ih1 ih2
        rw [fin_fin, hsplit, fin_inner, devEff_append _ _ _ _ _ hane hdev, hsplit] at ih1
        rw [hunf]
        refine ⟨fun h => ?_, fun h _ => ?_⟩
        · rcases h with h | h
          · exact ih1 (Or.inl h)
          · cases h
        · by_cases hr : (b :: bs).drop n = []
          · exfalso
            rw [hr, List.append_nil] at hsplit
            rw [hsplit] at hfit
            exact h hfit
          · exact ih2 h hr
      · rw [if_neg hfit] at hstep
        rw [MS.bind_of_ok hstep] at hunf
        refine ⟨fun h => ?_, fun _ _ => ⟨_, sd1, hunf, rfl, rfl, rfl, rfl⟩⟩
        rcases h with h | h
        · rw [← hsplit] at h
          exact absurd (fits_prefix h) hfit
        · cases h


/-- the model's sink call without a fault: the `Cursor` takes what the inner writer lets through -/
theorem io_sunk_M (s : WState) (i : Inner) (b : UInt8) (bs : Bytes) (d : Dev) :
    ∃ d', (d'.buf, d'.pos) = devEff i d (b :: bs) ∧
      ∀ {β} (k : Unit → M (Except ZErr β × WState)), Model.io s (M.writeAll (i.sunk (b :: bs))) k none d = k () none d' := by
  rcases i with _ | (_ | e) | _
  · exact ⟨d, rfl, fun _ => rfl⟩
  · exact ⟨{ d with buf := writeAt d.buf d.pos (b :: bs), pos := d.pos + (b :: bs).length, calls := d.calls + 1 },
      by simp only [devEff, reduceCtorEq, ↓reduceIte], fun _ => rfl⟩
  · exact ⟨d, rfl, fun _ => rfl⟩
  · exact ⟨d, rfl, fun _ => rfl⟩

/-- The model's `writeData` (whole write, whole accept) in data mode. -/
theorem writeData_M_data (s : WState) (f : FileData)
    (hwf : s.writingToFile = true) (hx : s.writingToExtraField = false) (hcl : s.inner ≠ .closed)
    (hf : s.files.getLast? = some f) (b : UInt8) (bs : Bytes) (d : Dev) :
    ∃ d', (d'.buf, d'.pos) = devEff s.inner d (b :: bs) ∧
      Model.writeData (b :: bs) s none d =
        if Fits s f (b :: bs) then (.ok (.ok (), fin s (b :: bs)), d')
        else (.ok (.error (.io .other), { fin s (b :: bs) with inner := .closed }), d') := by
  obtain ⟨d', hd, he⟩ := io_sunk_M s s.inner b bs d
  refine ⟨d', hd, ?_⟩
  rw [Model.writeData_eq, hwf, hx, Inner.isClosed_eq_false hcl, hf]
  simp only [List.isEmpty_cons, Bool.not_true, Bool.false_eq_true, ↓reduceIte, he, refused_iff, ite_not]
  by_cases hfit : Fits s f (b :: bs) <;> simp only [Fits] at hfit <;> simp only [Fits, hfit, ↓reduceIte] <;> rfl

end GW

/-! ### Simulation up to the 4 GiB refusal -/

/-- Both runs ended the call with the large-file refusal (`write.rs` 243-250): `Err(Other)` and the
writer closed.  (How many bytes reached the sink before the refusal depends on the schedule:
`refusal_bytes_depend_on_schedule`.) -/
def Refusal {β} (r r' : Except ZErr β × WState) : Prop :=
  r.1 = .error (.io .other) ∧ r'.1 = .error (.io .other) ∧ r.2.inner = .closed ∧ r'.2.inner = .closed ∧
    r'.2.writingToFile = r.2.writingToFile ∧ r'.2.writingToExtraField = r.2.writingToExtraField ∧
    r'.2.comment = r.2.comment

/-- `x` over the `Cursor`, `y` over the short-writing device with ANY schedule, from the same bytes at
the same position: same outcome on the same bytes at the same position; or both calls were refused for
the 4 GiB limit; or both panicked at the same site (the device of an unwinding call is not compared). -/
def SimS {β} (x : M (Except ZErr β × WState)) (y : MS (Except ZErr β × WState)) : Prop :=
  ∀ (sch : Nat → Nat) (d sd : Dev), SameView d sd →
    (∃ o d' sd', x none d = (o, d') ∧ y sch sd = (o, sd') ∧ SameView d' sd') ∨
    (∃ r r' d' sd', x none d = (.ok r, d') ∧ y sch sd = (.ok r', sd') ∧ Refusal r r') ∨
    (∃ site d' sd', x none d = (.panic site, d') ∧ y sch sd = (.panic site, sd'))

namespace SimS
variable {α β γ : Type}

theorem of_sim {x : M (Except ZErr β × WState)} {y : MS (Except ZErr β × WState)} (h : Sim x y) : SimS x y :=
  fun sch d sd hv => Or.inl (h.elim sch d sd hv)

theorem bind_sim {x : M α} {y : MS α} {f : α → M (Except ZErr β × WState)} {g : α → MS (Except ZErr β × WState)}
    (h1 : Sim x y) (h2 : ∀ a, SimS (f a) (g a)) : SimS (x >>= f) (y >>= g) := by
  intro sch d sd hv
  obtain ⟨o, d1, sd1, e1, e2, hv1⟩ := h1.elim sch d sd hv
  cases o with
  | ok a =>
    rw [M.bind_of_ok e1, MS.bind_of_ok e2]
    exact h2 a sch d1 sd1 hv1
  | err e =>
    refine Or.inl ⟨.err e, d1, sd1, ?_, ?_, hv1⟩
    · rw [M.bind_apply, e1]
    · rw [MS.bind_apply, e2]
  | panic p =>
    refine Or.inl ⟨.panic p, d1, sd1, ?_, ?_, hv1⟩
    · rw [M.bind_apply, e1]
    · rw [MS.bind_apply, e2]

/-- `let (r, s) ← x; match r with | Err(e) => return Err(e) | Ok(v) => k v s`. -/
theorem tail {x : M (Except ZErr α × WState)} {y : MS (Except ZErr α × WState)}
    {f : Except ZErr α × WState → M (Except ZErr β × WState)}
    {g : Except ZErr α × WState → MS (Except ZErr β × WState)}
    (h : SimS x y)
    (hf : ∀ e s, f (.error e, s) = pure (.error e, s)) (hg : ∀ e s, g (.error e, s) = pure (.error e, s))
    (hk : ∀ v s, SimS (f (.ok v, s)) (g (.ok v, s))) : SimS (x >>= f) (y >>= g) := by
  intro sch d sd hv
  have hyb : ∀ (o : Out (Except ZErr α × WState)) (sd1 : Dev), y sch sd = (o, sd1) →
      (y >>= g) sch sd = (match o with
        | .ok a => g a sch sd1
        | .err e => (.err e, sd1)
        | .panic s => (.panic s, sd1)) := by
    intro o sd1 e2
    rw [MS.bind_apply, e2]
    cases o <;> rfl
  rcases h sch d sd hv with ⟨o, d1, sd1, e1, e2, hv1⟩ | ⟨r, r', d1, sd1, e1, e2, hR⟩ | ⟨site, d1, sd1, e1, e2⟩
  · cases o with
    | ok a =>
      rw [M.bind_of_ok e1, MS.bind_of_ok e2]
      rcases a with ⟨r, s⟩
      cases r with
      | error e =>
        rw [hf, hg]
        exact Or.inl ⟨_, d1, sd1, rfl, rfl, hv1⟩
      | ok v => exact hk v s sch d1 sd1 hv1
    | err e =>
      refine Or.inl ⟨.err e, d1, sd1, ?_, ?_, hv1⟩
      · rw [M.bind_apply, e1]
      · rw [hyb _ _ e2]
    | panic p =>
      refine Or.inl ⟨.panic p, d1, sd1, ?_, ?_, hv1⟩
      · rw [M.bind_apply, e1]
      · rw [hyb _ _ e2]
  · rw [M.bind_of_ok e1, MS.bind_of_ok e2]
    rcases r with ⟨r, s⟩
    rcases r' with ⟨r', s'⟩
    obtain ⟨h1, h2, h3, h4, h5⟩ := hR
    simp only at h1 h2 h3 h4 h5
    subst h1 h2
    rw [hf, hg]
    exact Or.inr (Or.inl ⟨_, _, d1, sd1, rfl, rfl, rfl, rfl, h3, h4, h5⟩)
  · refine Or.inr (Or.inr ⟨site, d1, sd1, ?_, ?_⟩)
    · rw [M.bind_apply, e1]
    · rw [hyb _ _ e2]

/-- `SimS` with the rules of a step relation: device actions simulate each other (`Sim`), and the error arm of a `?`
answers the error with the state it was given - on both sides, which after a refusal have different states. -/
def stepRel : StepRel M MS where
  R := Sim
  S := SimS
  E e s x y := x = pure (.error e, s) ∧ y = pure (.error e, s)
  pure r := of_sim (Sim.pure r)
  panic site := of_sim (Sim.panic site)
  pureErr _ _ := ⟨rfl, rfl⟩
  tail h he hk := tail h (fun e s => (he e s).1) (fun e s => (he e s).2) hk
  io _ _ _ _ _ h hk := bind_sim (Sim.attempt h) fun r => by
    cases r with
    | ok a => exact hk a
    | error e => exact of_sim (Sim.pure _)
  emitFinish _ _ enc bs _ _ hk := by
    unfold GW.emitFinish
    cases enc with
    | some e => exact hk _
    | none =>
      refine bind_sim (Sim.attempt (Sim.wwriteAll bs)) fun r => ?_
      cases r with
      | ok _ => exact hk _
      | error e =>
        exact of_sim (Sim.writerRel.ite (Sim.bind (Sim.attempt (Sim.wwriteAll bs)) fun _ => Sim.pure _) (Sim.pure _))
  seekStart _ := Sim.seek _
  seekCurrent _ := Sim.seek _
  flush := Sim.wflush
  writeAll := Sim.wwriteAll
  writeChunks := GW.rel_writeChunks Sim.writerRel

end SimS

namespace GW

/-- **The data path.**  The caller's `write_all(buf)` through `ZipWriter::write` over a sink with any
short-write schedule and an encoder with any accept counts, against the model's `writeData` (whole
write, whole accept): same outcome, same writer state (CRC register, byte count, what the encoder /
the ZipCrypto buffer holds), same sink bytes and position - unless the entry crosses 4 GiB without
`large_file`, which both runs refuse. -/
theorem simS_writeData {acc : Bytes → Nat} (ha : AccOk acc) (buf : Bytes) (s : WState) :
    SimS (Model.writeData buf s) (GW.writeData acc buf s : MS _) := by
  intro sch d sd hv
  cases buf with
  | nil => exact Or.inl ⟨.ok (.ok (), s), d, sd, rfl, rfl, hv⟩
  | cons b bs =>
    by_cases hdata : s.writingToFile = true ∧ s.writingToExtraField = false ∧ s.inner ≠ .closed
    rotate_left
    · -- off the data path both runs are the same pure outcome
      rw [← writeData_M, writeData_off (m := M) (fun _ _ => rfl) _ b bs hdata,
        writeData_off (m := MS) (fun _ _ => rfl) acc b bs hdata]
      exact SimS.of_sim (rel_liftP Sim.writerRel _) sch d sd hv
    obtain ⟨hwf, hx, hcl⟩ := hdata
    cases hf : s.files.getLast? with
    | none =>
      -- no open entry in data mode (unreachable: `Inv.fileFiles`): both runs panic at `files.last_mut().unwrap()`,
      -- a plain storer after its sink call
      obtain ⟨d', -, hM⟩ := io_sunk_M s s.inner b bs d
      obtain ⟨n, sd', -, -, -, hS⟩ := write_MS_data ha s hwf hx hcl b bs sch sd
      rw [accountP_none hf] at hS
      refine Or.inr (Or.inr ⟨"write.rs:244 files.last_mut().unwrap()", d', sd', ?_, ?_⟩)
      · rw [Model.writeData_eq, hwf, hx, Inner.isClosed_eq_false hcl, hf]
        simp only [List.isEmpty_cons, Bool.not_true, Bool.false_eq_true, ↓reduceIte, hM]
        rfl
      · show ((GW.write acc _ s : MS _) >>= _) sch sd = _
        rw [MS.bind_apply, hS]
        rfl
    | some f =>
      obtain ⟨d', hd', hM⟩ := writeData_M_data s f hwf hx hcl hf b bs d
      obtain ⟨h1, h2⟩ := loop_MS ha f sch ((b :: bs).length + 1) (b :: bs) s sd (Nat.lt_succ_self _) hwf hx hcl hf
      by_cases hfit : Fits s f (b :: bs)
      · obtain ⟨sd', e, hsd'⟩ := h1 (Or.inl hfit)
        refine Or.inl ⟨_, d', sd', by rw [hM, if_pos hfit], e, ?_⟩
        have := devEff_congr s.inner hv (b :: bs)
        rw [← hd', ← hsd'] at this
        simp only [Prod.mk.injEq] at this
        exact ⟨this.1.symm, this.2.symm⟩
      · obtain ⟨s', sd', e, hcl', hf1, hf2, hf3⟩ := h2 hfit (by simp)
        exact Or.inr (Or.inl ⟨_, _, d', sd', by rw [hM, if_neg hfit], e, rfl, rfl, rfl, hcl', hf1, hf2, hf3⟩)


end GW

/-! ### Whole call sequences -/

namespace GW
variable {m : Type → Type} [WriterIO m]

def mapStepG {α β} (f : α → β) (st : StepG m α) : StepG m β := fun s => do
  let (r, s') ← st s
  pure (r.map f, s')

/-- Dispatch of one call (`Props.C12.step`), generically; `acc`: the encoder's accept counts. -/
def step (acc : Bytes → Nat) (ext : WExt) : Call → StepG m (Option Nat)
  | .startFile n o => mapStepG (fun _ => none) (startFile ext n o)
  | .startFileWithExtraData n o => mapStepG some (startFileWithExtraData ext n o)
  | .startFileAligned n o a => mapStepG some (startFileAligned acc ext n o a)
  | .write b => mapStepG (fun _ => none) (writeData acc b)
  | .endLocalStartCentral => mapStepG some (endLocalStartCentral ext)
  | .endExtraData => mapStepG some (endExtraData ext)
  | .addDirectory n o => mapStepG (fun _ => none) (addDirectory ext n o)
  | .addSymlink n t o => mapStepG (fun _ => none) (addSymlink acc ext n t o)
  | .setComment c => fun s => pure (.ok none, { s with comment := c })
  | .rawCopy src raw n => mapStepG (fun _ => none) (rawCopy acc ext src raw n)
  | .finish => mapStepG (fun _ => none) (finish ext)
  | .drop => mapStepG (fun _ => none) (dropWriter ext)

theorem mapStepG_M {α β} (f : α → β) (st : StepG M α) : mapStepG f st = mapStep f st := rfl

theorem step_M (ext : WExt) (c : Call) (s : WState) :
    (GW.step (fun x => x.length) ext c s : M _) = Props.C12.step ext c s := by
  cases c <;> simp only [GW.step, Props.C12.step, mapStepG, mapStep, startFile_M, startFileWithExtraData_M,
    startFileAligned_M, writeData_M, endLocalStartCentral_M, endExtraData_M, addDirectory_M, addSymlink_M,
    rawCopy_M, finish_M, dropWriter_M]

/-- every call but `drop`; the two sides may run different encoders -/
theorem srel_step {m₁ m₂ : Type → Type} [WriterIO m₁] [WriterIO m₂] (L : StepRel m₁ m₂) {acc₁ acc₂ : Bytes → Nat}
    (hwd : ∀ buf s, L.S (GW.writeData acc₁ buf s : m₁ _) (GW.writeData acc₂ buf s : m₂ _))
    (ext : WExt) (c : Call) (hc : c ≠ .drop) (s : WState) :
    L.S (GW.step acc₁ ext c s : m₁ _) (GW.step acc₂ ext c s : m₂ _) := by
  have map : ∀ {α β} (f : α → β) {x : StepG m₁ α} {y : StepG m₂ α}, L.S (x s) (y s) →
      L.S (mapStepG f x s) (mapStepG f y s) := fun f _ _ h => L.tail h (fun _ _ => L.pureErr _ _) fun _ _ => L.pure _
  cases c with
  | startFile n o => exact map _ (srel_startFile L _ _ _ _)
  | startFileWithExtraData n o => exact map _ (srel_startFileWithExtraData L _ _ _ _)
  | startFileAligned n o a => exact map _ (srel_startFileAligned L hwd _ _ _ _ _)
  | write b => exact map _ (hwd _ _)
  | endLocalStartCentral => exact map _ (srel_endLocalStartCentral L _ _)
  | endExtraData => exact map _ (srel_endExtraData L _ _)
  | addDirectory n o => exact map _ (srel_addDirectory L _ _ _ _)
  | addSymlink n t o => exact map _ (srel_addSymlink L hwd _ _ _ _ _)
  | setComment c => exact L.pure _
  | rawCopy src raw n => exact map _ (srel_rawCopy L hwd _ _ _ _ _)
  | finish => exact map _ (srel_finish L _ _)
  | drop => exact absurd rfl hc

theorem rel_step {m₁ m₂ : Type → Type} [WriterIO m₁] [WriterIO m₂] (L : WriterRel m₁ m₂) (acc : Bytes → Nat)
    (ext : WExt) (c : Call) (s : WState) : L.R (GW.step acc ext c s : m₁ _) (GW.step acc ext c s : m₂ _) := by
  by_cases hc : c = .drop
  · subst hc
    exact L.bind (rel_dropWriter L.toWriterRel₀ ext s) fun _ => L.pure _
  · exact srel_step L.stepRel (fun _ _ => srel_writeAllLoop L.stepRel L.write acc _ _ _) ext c hc s

theorem simS_step {acc : Bytes → Nat} (ha : AccOk acc) (ext : WExt) (c : Call) (s : WState) :
    SimS (GW.step (fun x => x.length) ext c s : M _) (GW.step acc ext c s : MS _) := by
  by_cases hc : c = .drop
  · subst hc
    exact SimS.tail (SimS.of_sim (rel_dropWriter Sim.writerRel ext s)) (fun _ _ => rfl) (fun _ _ => rfl)
      fun _ _ => SimS.of_sim (Sim.pure _)
  · exact srel_step SimS.stepRel (fun buf s => writeData_M buf s ▸ simS_writeData ha buf s) ext c hc s

/-- `Props.C12.runCalls` over the short-writing device: per-call outcomes, final writer state, final
device.  A panic ends the run. -/
def runCallsS (acc : Bytes → Nat) (ext : WExt) :
    List Call → WState → (Nat → Nat) → Dev → List (Out (Option Nat)) × WState × Dev
  | [], s, _, d => ([], s, d)
  | c :: cs, s, sch, d =>
    match (GW.step acc ext c s : MS _) sch d with
    | (.ok (.ok v, s'), d') =>
      let r := runCallsS acc ext cs s' sch d'
      (.ok v :: r.1, r.2)
    | (.ok (.error e, s'), d') =>
      let r := runCallsS acc ext cs s' sch d'
      (.err e :: r.1, r.2)
    | (.err e, d') =>
      let r := runCallsS acc ext cs s sch d'
      (.err e :: r.1, r.2)
    | (.panic site, d') => ([.panic site], s, d')

/-- Somewhere in the call list both runs - identical until then: same outcomes, same writer state, same
sink bytes and position - refused a call for the 4 GiB limit (`Err(Other)`, writer closed). -/
def RefusedAt (acc : Bytes → Nat) (ext : WExt) (sch : Nat → Nat) : List Call → WState → Dev → Dev → Prop
  | [], _, _, _ => False
  | c :: cs, s, d, sd =>
    (∃ r r' d' sd', Props.C12.step ext c s none d = (.ok r, d') ∧
        (GW.step acc ext c s : MS _) sch sd = (.ok r', sd') ∧ Refusal r r') ∨
    (∃ v s' d' sd', Props.C12.step ext c s none d = (.ok (v, s'), d') ∧
        (GW.step acc ext c s : MS _) sch sd = (.ok (v, s'), sd') ∧ SameView d' sd' ∧
        RefusedAt acc ext sch cs s' d' sd') ∨
    (∃ e d' sd', Props.C12.step ext c s none d = (.err e, d') ∧
        (GW.step acc ext c s : MS _) sch sd = (.err e, sd') ∧ SameView d' sd' ∧
        RefusedAt acc ext sch cs s d' sd')

theorem runCallsS_cons (acc : Bytes → Nat) (ext : WExt) (c : Call) (cs : List Call) (s : WState) (sch : Nat → Nat)
    (d : Dev) : runCallsS acc ext (c :: cs) s sch d =
      consOut (callOut s ((GW.step acc ext c s : MS _) sch d)) fun s' d' => runCallsS acc ext cs s' sch d' := by
  rw [runCallsS]
  rcases (GW.step acc ext c s : MS _) sch d with ⟨(⟨(e | v), s'⟩ | e | p), d'⟩ <;> rfl

theorem runCallsS_eq_runWith (acc : Bytes → Nat) (ext : WExt) (sch : Nat → Nat) :
    ∀ (cs : List Call) (s : WState) (d : Dev),
      runCallsS acc ext cs s sch d = runWith (fun c s d => (GW.step acc ext c s : MS _) sch d) cs s d
  | [], _, _ => rfl
  | c :: cs, s, d => by
    rw [runCallsS_cons, runWith]
    exact congrArg _ (funext fun s' => funext fun d' => runCallsS_eq_runWith acc ext sch cs s' d')

theorem run_sim {acc : Bytes → Nat} (ha : AccOk acc) (ext : WExt) (sch : Nat → Nat) :
    ∀ (calls : List Call) (s : WState) (d sd : Dev), SameView d sd →
      ((runCalls ext calls s none d).1 = (runCallsS acc ext calls s sch sd).1 ∧
        (runCalls ext calls s none d).2.1 = (runCallsS acc ext calls s sch sd).2.1 ∧
        SameView (runCalls ext calls s none d).2.2 (runCallsS acc ext calls s sch sd).2.2) ∨
      RefusedAt acc ext sch calls s d sd ∨
      ((runCalls ext calls s none d).1 = (runCallsS acc ext calls s sch sd).1 ∧
        ∃ site, Out.panic site ∈ (runCalls ext calls s none d).1) := by
  intro calls
  induction calls with
  | nil => intro s d sd hv; exact Or.inl ⟨rfl, rfl, hv⟩
  | cons c cs ih =>
    intro s d sd hv
    have hs := simS_step ha ext c s sch d sd hv
    rw [step_M] at hs
    -- the run goes on from `s'` on `d1` / `sd1`, with the same outcome `o` of this call in front
    have go : ∀ (o : Out (Option Nat)) (s' : WState) (d1 sd1 : Dev), SameView d1 sd1 →
        (RefusedAt acc ext sch cs s' d1 sd1 → RefusedAt acc ext sch (c :: cs) s d sd) →
        ((o :: (runCalls ext cs s' none d1).1 = o :: (runCallsS acc ext cs s' sch sd1).1 ∧
          (runCalls ext cs s' none d1).2.1 = (runCallsS acc ext cs s' sch sd1).2.1 ∧
          SameView (runCalls ext cs s' none d1).2.2 (runCallsS acc ext cs s' sch sd1).2.2) ∨
        RefusedAt acc ext sch (c :: cs) s d sd ∨
        (o :: (runCalls ext cs s' none d1).1 = o :: (runCallsS acc ext cs s' sch sd1).1 ∧
          ∃ site, Out.panic site ∈ o :: (runCalls ext cs s' none d1).1)) := by
      intro o s' d1 sd1 hv1 hr
      rcases ih s' d1 sd1 hv1 with ⟨h1, h2, h3⟩ | h | ⟨h1, site, h2⟩
      · exact Or.inl ⟨by rw [h1], h2, h3⟩
      · exact Or.inr (Or.inl (hr h))
      · exact Or.inr (Or.inr ⟨by rw [h1], site, List.mem_cons_of_mem _ h2⟩)
    rw [runCalls_cons, runCallsS_cons]
    rcases hs with ⟨o, d1, sd1, e1, e2, hv1⟩ | ⟨r, r', d1, sd1, e1, e2, hR⟩ | ⟨site, d1, sd1, e1, e2⟩
    · rw [e1, e2]
      rcases o with ⟨(e | v), s'⟩ | e | site
      · exact go (.err e) s' d1 sd1 hv1 fun h => Or.inr (Or.inl ⟨_, s', d1, sd1, e1, e2, hv1, h⟩)
      · exact go (.ok v) s' d1 sd1 hv1 fun h => Or.inr (Or.inl ⟨_, s', d1, sd1, e1, e2, hv1, h⟩)
      · exact go (.err e) s d1 sd1 hv1 fun h => Or.inr (Or.inr ⟨e, d1, sd1, e1, e2, hv1, h⟩)
      · exact Or.inl ⟨rfl, rfl, hv1⟩
    · exact Or.inr (Or.inl (Or.inl ⟨r, r', d1, sd1, e1, e2, hR⟩))
    · rw [e1, e2]
      exact Or.inr (Or.inr ⟨rfl, site, List.mem_cons_self⟩)

end GW
/-! ### After a refusal: a closed writer answers without I/O, the same under every schedule -/

namespace GW
variable {m : Type → Type} [WriterIO m] [LawfulMonad m]
-- `[LawfulMonad m]` rides along with `m` into every lemma of the section; the plain unfoldings among them do not use it
set_option linter.unusedSectionVars false

theorem switchTo_closed (ext : WExt) (c : Method) (l : Option Int) {s : WState} (h : s.inner = .closed) :
    (GW.switchTo ext c l s : m _) = pure (.error (.io .brokenPipe), s) := by
  simp only [GW.switchTo, h, Inner.currentCompression]

theorem endExtraData_closed (ext : WExt) {s : WState} (h : s.inner = .closed) :
    (GW.endExtraData ext s : m _) =
      pure (.error (.io (if s.writingToExtraField then .brokenPipe else .other)), s) := by
  cases hx : s.writingToExtraField <;>
    simp only [GW.endExtraData, hx, h, Inner.isClosed, Bool.not_false, Bool.not_true, ↓reduceIte, Bool.false_eq_true]

theorem finishFile_closed (ext : WExt) {s : WState} (h : s.inner = .closed) :
    (GW.finishFile ext s : m _) = pure (.error (.io .brokenPipe), s) := by
  cases hx : s.writingToExtraField
  · simp only [GW.finishFile, hx, Bool.false_eq_true, ↓reduceIte, pure_bind, switchTo_closed ext _ _ h]
  · simp only [GW.finishFile, hx, ↓reduceIte, endExtraData_closed ext h, pure_bind, Except.map]


theorem startEntry_closed (ext : WExt) (name : Bytes) (o : FileOptions) (raw) {s : WState} (h : s.inner = .closed) :
    (GW.startEntry ext name o raw s : m _) =
      pure (.error (if name.length > 65535 then .invalidArchive else .io .brokenPipe), s) := by
  by_cases hn : name.length > 65535
  · simp only [GW.startEntry, hn, ↓reduceIte]
  · simp only [GW.startEntry, hn, ↓reduceIte, finishFile_closed ext h, pure_bind]

theorem finalize_closed (ext : WExt) {s : WState} (h : s.inner = .closed) :
    (GW.finalize ext s : m _) =
      pure (.error (if s.comment.length > 65535 then .invalidArchive else .io .brokenPipe), s) := by
  by_cases hn : s.comment.length > 65535
  · simp only [GW.finalize, hn, ↓reduceIte]
  · simp only [GW.finalize, hn, ↓reduceIte, finishFile_closed ext h, pure_bind]

theorem writeData_closed (acc : Bytes → Nat) (buf : Bytes) {s : WState} (h : s.inner = .closed) :
    (GW.writeData acc buf s : m _) =
      pure (if buf.isEmpty then .ok () else if s.writingToFile then .error (.io .brokenPipe) else .error (.io .other), s) := by
  cases buf with
  | nil => rfl
  | cons b bs =>
    refine writeAllLoop_whole (List.cons_ne_nil b bs) ?_
    have hs : ¬ toSink s = true := fun hs => by rw [((toSink_iff s).mp hs).2.2] at h; cases h
    rw [write_eq, if_neg hs, writeP_closed acc _ h, map_pure]
    cases s.writingToFile <;> rfl

/-- the name `add_directory` gives the entry -/
def dirName (name : Bytes) : Bytes :=
  match name.getLast? with
  | some 0x2f => name
  | some 0x5c => name
  | _ => name ++ [0x2f]

/-- What a CLOSED writer answers: no I/O, the state unchanged (but for `set_comment`), the outcome a function of
the call, of the two mode flags and of the comment's length. -/
def closedStep : Call → WState → Except ZErr (Option Nat) × WState
  | .startFile n _, s => (.error (if n.length > 65535 then .invalidArchive else .io .brokenPipe), s)
  | .startFileWithExtraData n _, s => (.error (if n.length > 65535 then .invalidArchive else .io .brokenPipe), s)
  | .startFileAligned n _ _, s => (.error (if n.length > 65535 then .invalidArchive else .io .brokenPipe), s)
  | .write b, s =>
    (if b.isEmpty then .ok none else if s.writingToFile then .error (.io .brokenPipe) else .error (.io .other), s)
  | .endLocalStartCentral, s => (.error (.io (if s.writingToExtraField then .brokenPipe else .other)), s)
  | .endExtraData, s => (.error (.io (if s.writingToExtraField then .brokenPipe else .other)), s)
  | .addDirectory n _, s => (.error (if (dirName n).length > 65535 then .invalidArchive else .io .brokenPipe), s)
  | .addSymlink n _ _, s => (.error (if n.length > 65535 then .invalidArchive else .io .brokenPipe), s)
  | .setComment c, s => (.ok none, { s with comment := c })
  | .rawCopy _ _ n, s => (.error (if n.length > 65535 then .invalidArchive else .io .brokenPipe), s)
  | .finish, s => (.error (if s.comment.length > 65535 then .invalidArchive else .io .brokenPipe), s)
  | .drop, s => (.ok none, s)

theorem step_closed (acc : Bytes → Nat) (ext : WExt) (c : Call) {s : WState} (h : s.inner = .closed) :
    (GW.step acc ext c s : m _) = pure (closedStep c s) := by
  cases c with
  | startFile n o =>
    simp only [GW.step, mapStepG, GW.startFile, startEntry_closed ext _ _ _ h, pure_bind, closedStep, Except.map, withFilePerm]
  | startFileWithExtraData n o =>
    simp only [GW.step, mapStepG, GW.startFileWithExtraData, startEntry_closed ext _ _ _ h, pure_bind, closedStep, Except.map]
  | startFileAligned n o a =>
    simp only [GW.step, mapStepG, GW.startFileAligned, GW.startFileWithExtraData, startEntry_closed ext _ _ _ h, pure_bind,
      closedStep, Except.map]
  | write b =>
    simp only [GW.step, mapStepG, writeData_closed acc b h, pure_bind, closedStep]
    cases b with
    | nil => rfl
    | cons x xs => cases s.writingToFile <;> rfl
  | endLocalStartCentral =>
    simp only [GW.step, mapStepG, GW.endLocalStartCentral, endExtraData_closed ext h, pure_bind, closedStep, Except.map]
  | endExtraData =>
    simp only [GW.step, mapStepG, endExtraData_closed ext h, pure_bind, closedStep, Except.map]
  | addDirectory n o =>
    simp only [GW.step, mapStepG, GW.addDirectory, startEntry_closed ext _ _ _ h, pure_bind, closedStep, Except.map, dirName]
    rfl
  | addSymlink n t o =>
    simp only [GW.step, mapStepG, GW.addSymlink, startEntry_closed ext _ _ _ h, pure_bind, closedStep, Except.map]
  | setComment c => rfl
  | rawCopy src raw n =>
    simp only [GW.step, mapStepG, GW.rawCopy, startEntry_closed ext _ _ _ h, pure_bind, closedStep, Except.map]
  | finish =>
    simp only [GW.step, mapStepG, GW.finish, finalize_closed ext h, pure_bind, closedStep, Except.map]
  | drop =>
    simp only [GW.step, mapStepG, GW.dropWriter, h, Inner.isClosed, ↓reduceIte, pure_bind, closedStep, Except.map]

end GW

namespace GW

/-- Two writers after a refusal: both closed, equal in what `closedStep` reads (the two mode flags, the comment). -/
def ClosedRel (s s' : WState) : Prop :=
  s.inner = .closed ∧ s'.inner = .closed ∧ s'.writingToFile = s.writingToFile ∧
    s'.writingToExtraField = s.writingToExtraField ∧ s'.comment = s.comment

theorem closedStep_rel (c : Call) {s s' : WState} (h : ClosedRel s s') :
    (closedStep c s).1 = (closedStep c s').1 ∧ ClosedRel (closedStep c s).2 (closedStep c s').2 := by
  obtain ⟨h1, h2, h3, h4, h5⟩ := h
  cases c with
  | setComment c => exact ⟨rfl, h1, h2, h3, h4, rfl⟩
  | startFile _ _ => exact ⟨rfl, h1, h2, h3, h4, h5⟩
  | startFileWithExtraData _ _ => exact ⟨rfl, h1, h2, h3, h4, h5⟩
  | startFileAligned _ _ _ => exact ⟨rfl, h1, h2, h3, h4, h5⟩
  | write b => exact ⟨by simp only [closedStep, h3], h1, h2, h3, h4, h5⟩
  | endLocalStartCentral => exact ⟨by simp only [closedStep, h4], h1, h2, h3, h4, h5⟩
  | endExtraData => exact ⟨by simp only [closedStep, h4], h1, h2, h3, h4, h5⟩
  | addDirectory _ _ => exact ⟨rfl, h1, h2, h3, h4, h5⟩
  | addSymlink _ _ _ => exact ⟨rfl, h1, h2, h3, h4, h5⟩
  | rawCopy _ _ _ => exact ⟨rfl, h1, h2, h3, h4, h5⟩
  | finish => exact ⟨by simp only [closedStep, h5], h1, h2, h3, h4, h5⟩
  | drop => exact ⟨rfl, h1, h2, h3, h4, h5⟩

theorem run_closed (acc : Bytes → Nat) (ext : WExt) (sch : Nat → Nat) :
    ∀ (calls : List Call) (s s' : WState) (d sd : Dev), ClosedRel s s' →
      (runCalls ext calls s none d).1 = (runCallsS acc ext calls s' sch sd).1 := by
  intro calls s s' d sd h
  rw [runCalls_eq_runWith, runCallsS_eq_runWith]
  refine (runWith_rel (fun p q => ClosedRel p.1 q.1) (fun c s d s' sd h => ?_) calls s d s' sd h).1
  have e1 : Props.C12.step ext c s none d = (.ok (closedStep c s), d) := by
    rw [← step_M, step_closed (m := M) _ ext c h.1]; rfl
  have e2 : (GW.step acc ext c s' : MS _) sch sd = (.ok (closedStep c s'), sd) := by
    rw [step_closed (m := MS) acc ext c h.2.1]; rfl
  rw [e1, e2]
  have hc := closedStep_rel c h
  generalize closedStep c s = a at hc ⊢
  generalize closedStep c s' = b at hc ⊢
  obtain ⟨r, t⟩ := a
  obtain ⟨r', t'⟩ := b
  obtain ⟨(rfl : r = r'), hrel⟩ := hc
  cases r <;> exact ⟨rfl, hrel⟩

/-- A refusal shows in the whole-write run as an `Err(io::ErrorKind::Other)` outcome; after it the outcomes stay the
same. -/
theorem refusedAt_run {acc : Bytes → Nat} {ext : WExt} {sch : Nat → Nat} :
    ∀ (calls : List Call) (s : WState) (d sd : Dev), RefusedAt acc ext sch calls s d sd →
      (runCalls ext calls s none d).1 = (runCallsS acc ext calls s sch sd).1 ∧
      Out.err (.io .other) ∈ (runCalls ext calls s none d).1 := by
  intro calls
  induction calls with
  | nil => intro s d sd h; exact h.elim
  | cons c cs ih =>
    intro s d sd h
    rw [runCalls_cons, runCallsS_cons]
    rcases h with ⟨r, r', d', sd', e1, e2, hR⟩ | ⟨v, s', d', sd', e1, e2, _, h⟩ | ⟨e, d', sd', e1, e2, _, h⟩
    · rcases r with ⟨r, t⟩
      rcases r' with ⟨r', t'⟩
      obtain ⟨h1, h2, h3, h4, h5⟩ := hR
      simp only at h1 h2 h3 h4 h5
      subst h1 h2
      rw [e1, e2]
      exact ⟨congrArg (List.cons _) (run_closed acc ext sch cs t t' d' sd' ⟨h3, h4, h5⟩), List.mem_cons_self⟩
    · rw [e1, e2]
      obtain ⟨i1, i2⟩ := ih _ _ _ h
      cases v
      · exact ⟨congrArg (List.cons _) i1, List.mem_cons_of_mem _ i2⟩
      · exact ⟨congrArg (List.cons _) i1, List.mem_cons_of_mem _ i2⟩
    · rw [e1, e2]
      obtain ⟨i1, i2⟩ := ih _ _ _ h
      exact ⟨congrArg (List.cons _) i1, List.mem_cons_of_mem _ i2⟩

theorem refusedAt_mem {acc : Bytes → Nat} {ext : WExt} {sch : Nat → Nat} (calls : List Call) (s : WState) (d sd : Dev)
    (h : RefusedAt acc ext sch calls s d sd) : Out.err (.io .other) ∈ (runCalls ext calls s none d).1 :=
  (refusedAt_run calls s d sd h).2

/-- **The per-call outcomes never depend on the schedule.** -/
theorem run_outcomes {acc : Bytes → Nat} (ha : AccOk acc) (ext : WExt) (sch : Nat → Nat) (calls : List Call)
    (s : WState) (d sd : Dev) (hv : SameView d sd) :
    (runCalls ext calls s none d).1 = (runCallsS acc ext calls s sch sd).1 := by
  rcases run_sim ha ext sch calls s d sd hv with ⟨h, _⟩ | h | ⟨h, _⟩
  · exact h
  · exact (refusedAt_run calls s d sd h).1
  · exact h

end GW
end ZipVerif.Model
