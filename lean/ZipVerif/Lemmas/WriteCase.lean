import ZipVerif.Model.ShortWrite
/-
One `ZipWriter::write` call (`GW.write`, Model/ShortWrite.lean) is ONE sink call or none around a pure state
transformer: `GW.write_eq`, in every `WriterIO` monad.  The case split `writingToFile × inner × writingToExtraField ×
files.getLast?` of the data path is made in this file and nowhere else: for `GW.write` (`write_eq`), for the text of the
model's `writeData` (`Model.writeData_eq`: one spine, `Inner.sunk` of the buffer to the sink, then the state `GW.fin`),
for the pure `writeP` (`writeP_acc_irrel`), and once more where `GW.write_whole` joins the first two (at `M`, with an
encoder that takes whole buffers, one `write` of a non-empty buffer is `writeData` with the count attached; for the
caller's loop it IS `writeData`: `writeAllLoop_of_whole`).  Everything else about the data path argues about the pure
`writeP` / `accountP`, about the one sink call, or reads these equations.
Off the sink the caller's whole `write_all` loop is a pure function, the same in every lawful monad in which a panic ends
the computation (`writeAllLoop_pure`).
-/

namespace ZipVerif.Model.GW
open ZipVerif WriterIO
variable {m : Type → Type} [WriterIO m]

/-- a pure outcome (`.error site`: a panic at `site`) as a computation -/
def liftP {α : Type} : Except String α → m α
  | .ok a => pure a
  | .error site => wPanic site

/-- `GW.account` (Model/ShortWrite.lean) as a pure outcome -/
def accountP (taken : Bytes) (s : WState) : Except String (Except ZErr Nat × WState) :=
  let s := { s with statsHasher := Spec.Crc32.updateBytes s.statsHasher taken,
                    statsBytes := s.statsBytes + taken.length }
  match s.files.getLast? with
  | none => .error "write.rs:244 files.last_mut().unwrap()"
  | some f =>
    if s.statsBytes > 0xFFFFFFFF && !f.largeFile then
      .ok (.error (.io .other), { s with inner := .closed })
    else .ok (.ok taken.length, s)

theorem account_eq (taken : Bytes) (s : WState) : (account taken s : m _) = liftP (accountP taken s) := by
  unfold account accountP
  dsimp only
  cases s.files.getLast? with
  | none => rfl
  | some f =>
    dsimp only
    rw [apply_ite liftP]
    rfl

/-- the buffer goes to the sink: a plain storer, outside the extra-field phase -/
def toSink (s : WState) : Bool :=
  s.writingToFile && !s.writingToExtraField && match s.inner with
    | .storer none => true
    | _ => false

/-- what the encoder in front of the sink takes of the buffer offered -/
def taken (acc : Bytes → Nat) (buf : Bytes) : Inner → Bytes
  | .compressor _ _ _ _ => buf.take (acc buf)
  | _ => buf

theorem taken_length (buf : Bytes) (i : Inner) : taken (fun b => b.length) buf i = buf := by
  cases i <;> first | rfl | exact List.take_length

/-- every `write` that does not reach the sink -/
def writeP (acc : Bytes → Nat) (buf : Bytes) (s : WState) : Except String (Except ZErr Nat × WState) :=
  if !s.writingToFile then .ok (.error (.io .other), s) else
  if s.inner.isClosed then .ok (.error (.io .brokenPipe), s) else
  if s.writingToExtraField then
    match s.files.getLast? with
    | none => .error "write.rs:238 files.last_mut().unwrap()"
    | some f =>
      .ok (.ok buf.length, { s with files := setLast s.files { f with extraField := f.extraField ++ buf } })
  else accountP (taken acc buf s.inner) { s with inner := absorb s.inner (taken acc buf s.inner) }

theorem write_eq (acc : Bytes → Nat) (buf : Bytes) (s : WState) :
    (write acc buf s : m _) =
      if toSink s then io s (wWrite buf) fun n => liftP (accountP (buf.take n) s)
      else liftP (writeP acc buf s) := by
  unfold write writeP toSink io
  simp only [account_eq]
  cases s.writingToFile
  · rfl
  -- at the sink the two sides match on the sink's answer with different auxiliary matchers
  cases s.writingToExtraField <;> cases s.files.getLast? <;> rcases s.inner with _ | (_ | _) | _ <;>
    first | rfl | exact congrArg (bind _) (funext fun r => by cases r <;> rfl)

/-! ### The pure part -/

theorem toSink_iff (s : WState) : toSink s = true ↔
    s.writingToFile = true ∧ s.writingToExtraField = false ∧ s.inner = .storer none := by
  unfold toSink
  rcases s.inner with _ | (_ | _) | _ <;> simp

theorem writeP_closed (acc : Bytes → Nat) (buf : Bytes) {s : WState} (h : s.inner = .closed) :
    writeP acc buf s = .ok (if s.writingToFile then .error (.io .brokenPipe) else .error (.io .other), s) := by
  unfold writeP
  cases s.writingToFile
  · rfl
  · simp only [h, Inner.isClosed, Bool.not_true, Bool.false_eq_true, ↓reduceIte]

theorem toSink_absorb (s : WState) (t : Bytes) : toSink { s with inner := absorb s.inner t } = toSink s := by
  unfold toSink
  rcases s.inner with _ | (_ | _) | _ <;> rfl

/-- what `account` can answer: the 4 GiB refusal, or the count it was given -/
theorem accountP_ok {taken : Bytes} {s0 s' : WState} {r : Except ZErr Nat} (h : accountP taken s0 = .ok (r, s')) :
    r = .error (.io .other) ∨ (r = .ok taken.length ∧ toSink s' = toSink s0) := by
  unfold accountP at h
  dsimp only at h
  split at h
  · cases h
  · split at h <;> cases h
    · exact Or.inl rfl
    · exact Or.inr ⟨rfl, rfl⟩

/-- what a `write` off the sink can answer: an error with the state unchanged, the 4 GiB refusal, or a count - the
buffer's length in extra-field mode, else what the encoder took -, the next `write` again off the sink -/
theorem writeP_ok {acc : Bytes → Nat} {buf : Bytes} {s s' : WState} {r : Except ZErr Nat}
    (h : writeP acc buf s = .ok (r, s')) :
    ((∃ e, r = .error e) ∧ s' = s) ∨ r = .error (.io .other) ∨
      ((r = .ok buf.length ∨ r = .ok (taken acc buf s.inner).length) ∧ toSink s' = toSink s) := by
  unfold writeP at h
  split at h
  · cases h; exact Or.inl ⟨⟨_, rfl⟩, rfl⟩
  split at h
  · cases h; exact Or.inl ⟨⟨_, rfl⟩, rfl⟩
  split at h
  · split at h <;> cases h
    exact Or.inr (Or.inr ⟨Or.inl rfl, rfl⟩)
  · rcases accountP_ok h with h' | ⟨h', ht⟩
    · exact Or.inr (Or.inl h')
    · exact Or.inr (Or.inr ⟨Or.inr h', ht.trans (toSink_absorb s _)⟩)

/-- an `Err` answered off the sink is the 4 GiB refusal, or comes with the state unchanged -/
theorem writeP_err {acc : Bytes → Nat} {buf : Bytes} {s s' : WState} {e : ZErr}
    (h : writeP acc buf s = .ok (.error e, s')) (he : e ≠ .io .other) : s' = s := by
  rcases writeP_ok h with ⟨-, h'⟩ | h' | ⟨h' | h', -⟩
  · exact h'
  · cases h'; exact absurd rfl he
  · cases h'
  · cases h'

/-- a whole-accepting encoder: a count answered off the sink is the buffer's length -/
theorem writeP_len {buf : Bytes} {s s' : WState} {n : Nat}
    (h : writeP (fun b => b.length) buf s = .ok (.ok n, s')) : n = buf.length := by
  rcases writeP_ok h with ⟨⟨_, h'⟩, -⟩ | h' | ⟨h' | h', -⟩
  · cases h'
  · cases h'
  · cases h'; rfl
  · cases h'; exact congrArg _ (taken_length buf _)

theorem writeP_toSink {acc : Bytes → Nat} {buf : Bytes} {s s' : WState} {n : Nat}
    (h : writeP acc buf s = .ok (.ok n, s')) : toSink s' = toSink s := by
  rcases writeP_ok h with ⟨⟨_, h'⟩, -⟩ | h' | ⟨-, h'⟩
  · cases h'
  · cases h'
  · exact h'

/-- the caller's `write_all` loop over `writeP` -/
def loopP (acc : Bytes → Nat) : Nat → Bytes → WState → Except String (Except ZErr Unit × WState)
  | 0, _, _ => .error "write_all: fuel"
  | fuel + 1, buf, s =>
    if buf.isEmpty then .ok (.ok (), s) else
      match writeP acc buf s with
      | .error site => .error site
      | .ok (.error e, s) => .ok (.error e, s)
      | .ok (.ok n, s) => if n = 0 then .ok (.error (.io .writeZero), s) else loopP acc fuel (buf.drop n) s

/-- the accept function is consulted only by an ENCODER in front of the sink, outside extra-field mode, and matters
only when there is an entry to account the bytes to -/
theorem writeP_acc_irrel (acc : Bytes → Nat) (buf : Bytes) (s : WState)
    (h : ¬ (s.writingToFile = true ∧ s.writingToExtraField = false ∧
      (∃ mm l e p, s.inner = .compressor mm l e p) ∧ ∃ f, s.files.getLast? = some f)) :
    writeP acc buf s = writeP (fun b => b.length) buf s := by
  unfold writeP
  split
  · rfl
  split
  · rfl
  split
  · rfl
  · next hwf _ hx =>
    cases hi : s.inner with
    | compressor mm l e p =>
      cases hf : s.files.getLast? with
      | none => simp only [accountP, hf]
      | some f => exact absurd ⟨by simpa using hwf, by simpa using hx, ⟨mm, l, e, p, hi⟩, f, hf⟩ h
    | _ => rfl

theorem write_acc_irrel (acc : Bytes → Nat) (buf : Bytes) (s : WState)
    (h : ¬ (s.writingToFile = true ∧ s.writingToExtraField = false ∧
      (∃ mm l e p, s.inner = .compressor mm l e p) ∧ ∃ f, s.files.getLast? = some f)) :
    (write acc buf s : m _) = write (fun b => b.length) buf s := by
  rw [write_eq, write_eq, writeP_acc_irrel acc buf s h]

/-- the answer of a `write_all` as that of a `write` which took `n` bytes -/
def counted (n : Nat) (r : Except ZErr Unit × WState) : Except ZErr Nat × WState := (r.1.map fun _ => n, r.2)

def uncounted (r : Except ZErr Nat × WState) : Except ZErr Unit × WState := (r.1.map fun _ => (), r.2)

/-- a `write` that takes the whole buffer or fails ends the caller's `write_all` loop -/
theorem writeAllLoop_whole [LawfulMonad m] {acc : Bytes → Nat} {buf : Bytes} (hb : buf ≠ []) {s : WState}
    {y : m (Except ZErr Unit × WState)}
    (h : write acc buf s = counted buf.length <$> y) :
    writeAllLoop acc (buf.length + 1) buf s = y := by
  cases buf with
  | nil => exact absurd rfl hb
  | cons b bs =>
    unfold writeAllLoop
    simp only [List.isEmpty_cons, Bool.false_eq_true, ↓reduceIte]
    rw [h, map_eq_pure_bind, bind_assoc]
    refine (bind_congr fun p => ?_).trans (bind_pure y)
    obtain ⟨r, s'⟩ := p
    rw [pure_bind]
    cases r with
    | error e => rfl
    | ok u =>
      simp only [counted, Except.map, List.length_cons, Nat.add_one_ne_zero, ↓reduceIte, List.drop_succ_cons,
        List.drop_length]
      rfl

/-! ### Off the sink: in a monad in which a panic ends the computation -/

section
variable [LawfulMonad m] (hp : ∀ {α β : Type} (site : String) (f : α → m β), wPanic site >>= f = wPanic site)
include hp

theorem liftP_whole {buf : Bytes} {o : Except String (Except ZErr Nat × WState)}
    (ho : ∀ n s', o = .ok (.ok n, s') → n = buf.length) :
    (liftP o : m _) =
      counted buf.length <$> (liftP (o.map uncounted) : m _) := by
  rcases o with site | ⟨(e | n), s'⟩
  · exact ((map_eq_pure_bind _ (wPanic site : m _)).trans (hp site _)).symm
  · show (pure _ : m _) = _ <$> (pure _ : m _)
    rw [map_pure]; rfl
  · cases ho n s' rfl
    show (pure _ : m _) = _ <$> (pure _ : m _)
    rw [map_pure]; rfl

/-- Off the data path (not writing a file, extra-field mode, a closed writer) `write_all` is pure, the same in every
monad in which a panic ends the computation, and does not ask the encoder. -/
theorem writeData_off (acc : Bytes → Nat) (b : UInt8) (bs : Bytes) {s : WState}
    (h : ¬ (s.writingToFile = true ∧ s.writingToExtraField = false ∧ s.inner ≠ .closed)) :
    (writeData acc (b :: bs) s : m _) = liftP ((writeP (fun x => x.length) (b :: bs) s).map uncounted) := by
  refine writeAllLoop_whole (List.cons_ne_nil b bs) ?_
  have hs : ¬ toSink s = true := fun hs =>
    have ⟨h1, h2, h3⟩ := (toSink_iff s).mp hs
    h ⟨h1, h2, by rw [h3]; exact Inner.noConfusion⟩
  rw [write_eq, if_neg hs, writeP_acc_irrel acc _ s fun ⟨h1, h2, ⟨_, _, _, _, h3⟩, _⟩ =>
    h ⟨h1, h2, by rw [h3]; exact Inner.noConfusion⟩]
  exact liftP_whole hp fun _ _ => writeP_len

theorem writeAllLoop_pure (acc : Bytes → Nat) : ∀ (fuel : Nat) (buf : Bytes) (s : WState), toSink s = false →
      (writeAllLoop acc fuel buf s : m _) = liftP (loopP acc fuel buf s)
  | 0, _, _, _ => rfl
  | fuel + 1, buf, s, hs => by
    unfold writeAllLoop loopP
    split
    · rfl
    · rw [write_eq, hs, if_neg Bool.false_ne_true]
      cases hw : writeP acc buf s with
      | error site => exact hp site _
      | ok r =>
        obtain ⟨(e | n), s'⟩ := r
        · exact pure_bind _ _
        · refine (pure_bind _ _).trans ?_
          dsimp only
          rw [apply_ite liftP]
          split
          · rfl
          · exact writeAllLoop_pure acc fuel _ s' ((writeP_toSink hw).trans hs)

end

/-! ### At the model monad: one `write` that takes the whole buffer IS `writeData` -/

theorem liftP_ok_inv {α : Type} {o : Except String α} {fa : Option Nat} {d d' : Dev} {a : α}
    (h : (liftP o : M α) fa d = (.ok a, d')) : o = .ok a := by
  cases o with
  | error site => cases h
  | ok b => cases h; rfl

/-- the sink call: the `Cursor` answers the whole length, and `write_all` of a non-empty buffer is that one call -/
theorem io_write_whole (s : WState) (buf : Bytes) (hne : buf.isEmpty = false) {k : Nat → M (Except ZErr Nat × WState)}
    {k' : M (Except ZErr Unit × WState)}
    (h : k buf.length = counted buf.length <$> k') :
    GW.io s (wWrite buf) k =
      counted buf.length <$>
        Model.io s (M.writeAll buf) fun _ => k' := by
  funext fa d
  unfold GW.io Model.io M.writeAll
  rw [hne]
  show (M.attempt (M.write buf) >>= _) fa d = (_ <$> (M.attempt (M.write buf >>= fun _ => pure ()) >>= _)) fa d
  unfold M.write M.prim M.attempt
  by_cases hf : fa = some d.calls <;> simp only [Functor.map, bind, hf, ↓reduceIte]
  · rfl
  · exact congrFun (congrFun h fa) _

/-- What of `bs` the inner writer hands to the sink at once: everything through a plain storer, nothing
through the ZipCrypto buffer or an encoder. -/
def _root_.ZipVerif.Model.Inner.sunk : Inner → Bytes → Bytes
  | .storer none, bs => bs
  | _, _ => []

/-- the writer state after the open entry took `bs` -/
def fin (s : WState) (bs : Bytes) : WState :=
  { s with statsHasher := Spec.Crc32.updateBytes s.statsHasher bs, statsBytes := s.statsBytes + bs.length,
           inner := absorb s.inner bs }

/-- The model's `write` as one spine.  The three kinds of inner writer differ only in whether the sink is called:
`M.writeAll [] = pure ()` and `io s (pure ()) k = k ()` hold by `rfl`, so "no call" is "write nothing".
A monad-level equation: it holds for every fault index and device. -/
theorem _root_.ZipVerif.Model.writeData_eq (buf : Bytes) (s : WState) : Model.writeData buf s =
    if buf.isEmpty then pure (.ok (), s) else
    if !s.writingToFile then pure (.error (.io .other), s) else
    if s.inner.isClosed then pure (.error (.io .brokenPipe), s) else
    if s.writingToExtraField then
      match s.files.getLast? with
      | none => M.panic "write.rs:238 files.last_mut().unwrap()"
      | some f => pure (.ok (), { s with files := setLast s.files { f with extraField := f.extraField ++ buf } })
    else Model.io s (M.writeAll (s.inner.sunk buf)) fun _ =>
      match s.files.getLast? with
      | none => M.panic "write.rs:244 files.last_mut().unwrap()"
      | some f =>
        if s.statsBytes + buf.length > 0xFFFFFFFF && !f.largeFile then
          pure (.error (.io .other), { fin s buf with inner := .closed })
        else pure (.ok (), fin s buf) := by
  rcases s with ⟨inner, files, ss, sb, sh, wf, wx, co, wr, cm⟩
  unfold Model.writeData
  split
  · rfl
  split
  · rfl
  cases inner with
  | closed => rfl
  | storer enc => cases enc <;> cases wx <;> rfl
  | compressor m l enc p => cases wx <;> rfl

theorem write_whole (buf : Bytes) (hb : buf ≠ []) (s : WState) :
    (write (fun b => b.length) buf s : M _) = counted buf.length <$> Model.writeData buf s := by
  have hne : buf.isEmpty = false := by cases buf <;> simp_all
  rw [write_eq, writeData_eq]
  unfold toSink writeP
  simp only [hne, taken_length, Bool.false_eq_true, ↓reduceIte]
  -- `account`, once the open entry took `buf`
  have hacc : (liftP (accountP buf { s with inner := absorb s.inner buf }) : M _) = counted buf.length <$>
      (match s.files.getLast? with
       | none => M.panic "write.rs:244 files.last_mut().unwrap()"
       | some f =>
         if s.statsBytes + buf.length > 0xFFFFFFFF && !f.largeFile then
           pure (.error (.io .other), { fin s buf with inner := .closed })
         else pure (.ok (), fin s buf)) := by
    unfold accountP
    dsimp only
    cases s.files.getLast? with
    | none => rfl
    | some f => dsimp only; split <;> rfl
  rcases s with ⟨inner, files, ss, sb, sh, wf, wx, co, wr, cm⟩
  cases wf
  · rfl
  cases wx <;> rcases inner with _ | (_ | _) | _
  · rfl
  · exact io_write_whole _ buf hne (by rw [List.take_length]; exact hacc)
  · exact hacc
  · exact hacc
  · rfl
  all_goals cases files.getLast? <;> rfl

/-- when the first `write` of the caller's `write_all` loop takes what a whole-accepting encoder would, the loop is
over after that call and is the model's `writeData` -/
theorem writeAllLoop_of_whole [LawfulMonad M] (acc : Bytes → Nat) (buf : Bytes) (s : WState)
    (h : (write acc buf s : M _) = write (fun b => b.length) buf s) :
    (writeAllLoop acc (buf.length + 1) buf s : M _) = Model.writeData buf s := by
  cases buf with
  | nil => rfl
  | cons b bs => exact writeAllLoop_whole (List.cons_ne_nil b bs) (h.trans (write_whole _ (List.cons_ne_nil b bs) s))

end ZipVerif.Model.GW
