import ZipVerif.Lemmas.WL2Run
/-
Level 2: what one call does to a ghost that survives it (`ghostStep2_shape`), stated once for the
invariants that are carried along a run (`Good2`, `Traced2`, …).
-/

namespace ZipVerif.WL
open ZipVerif ZipVerif.Model ZipVerif.Spec.Zip
open ZipVerif.Props.C12 (Call)

def Ghost2.done : Ghost2 → List Spec.Zip.Entry
  | .idle d _ _ => d
  | .opened d _ _ _ => d
  | _ => []

def Ghost2.alive : Ghost2 → Prop
  | .idle .. => True
  | .opened .. => True
  | _ => False

theorem fin_alive {ext : WExt} {g : Ghost2} {es : List Spec.Zip.Entry} {gap : Bytes}
    (h : g.fin ext = .ok es gap) : g.alive := by
  cases g <;> first | trivial | cases h

/-- name, options and raw values a call hands to `start_entry` -/
def startArgs : Call → Option (Bytes × FileOptions × Option (UInt32 × UInt64 × UInt64))
  | .startFile n o => some (n, fileOpts o, none)
  | .addDirectory n o => some (dirName n, dirOpts o, none)
  | .addSymlink n _ o => some (n, linkOpts o, none)
  | .rawCopy src _ n => some (n, rawOpts src, rawVals src)
  | .startFileWithExtraData n o => some (n, fileOpts o, none)
  | .startFileAligned n o _ => some (n, fileOpts o, none)
  | _ => none

/-- a move of an open entry in extra-data mode: `write` into the extra field, or one of the two end calls -/
inductive XMove : Open2 → Open2 → Prop
  | setCx (o : Open2) (x : Bytes) : o.phase ≠ .data → XMove o { o with cx := x }
  | endExtra {o o' : Open2} : o.endExtra = .ok o' → XMove o o'
  | endLocal {o o' : Open2} : o.phase ≠ .data → o.endLocal = .ok o' → XMove o o'

inductive XMoves : Open2 → Open2 → Prop
  | refl (o : Open2) : XMoves o o
  | snoc {o o' o'' : Open2} : XMoves o o' → XMove o' o'' → XMoves o o''

theorem XMoves.keeps {P : Open2 → Prop} (hP : ∀ o o', XMove o o' → P o → P o') {o o' : Open2}
    (hm : XMoves o o') (h : P o) : P o' := by
  induction hm with
  | refl => exact h
  | snoc _ hm ih => exact hP _ _ hm ih

/-- The entry a start call that went through has open for the pushed record `f`: a fresh one, except
that `start_file_aligned` has already moved it through the extra-data protocol. -/
inductive StartRow2 (out : Out (Option Nat)) (f : FileData) : Call → Open2 → Prop
  | startFile (n : Bytes) (o : FileOptions) : okO out = true → writable (fileOpts o).method = true →
      StartRow2 out f (.startFile n o) (newOpen f false [] true o.encryptWith .data)
  | addDirectory (n : Bytes) (o : FileOptions) : okO out = true →
      StartRow2 out f (.addDirectory n o) (newOpen f false [] false o.encryptWith .data)
  | addSymlink (n t : Bytes) (o : FileOptions) : okO out = true →
      StartRow2 out f (.addSymlink n t o) (newOpen f false t false o.encryptWith .data)
  | rawCopy (src : FileData) (raw n : Bytes) : okO out = true →
      StartRow2 out f (.rawCopy src raw n) (newOpen f true raw true none .data)
  | withExtraData (n : Bytes) (o : FileOptions) :
      StartRow2 out f (.startFileWithExtraData n o) (newOpen f false [] true none .localX)
  | aligned (n : Bytes) (o : FileOptions) (a : UInt16) {o' : Open2} :
      XMoves (newOpen f false [] true none .localX) o' → StartRow2 out f (.startFileAligned n o a) o'

theorem startG2_alive {ext : WExt} {g : Ghost2} {name : Bytes} {o : FileOptions}
    {raw : Option (UInt32 × UInt64 × UInt64)} {after : List Spec.Zip.Entry → Bytes → Bytes → FileData → Ghost2}
    (ha' : (startG2 ext g name o raw after).alive) :
    ((name.length > 65535 ∨ g.fin ext = .unchanged) ∧ startG2 ext g name o raw after = g) ∨
    ∃ es gap f dp, ¬ name.length > 65535 ∧ g.fin ext = .ok es gap ∧
      startRec2 name o raw es gap = some (f, dp) ∧ startG2 ext g name o raw after = after es gap g.cmt f := by
  revert ha'
  unfold startG2
  split
  · next hn => exact fun _ => Or.inl ⟨Or.inl hn, rfl⟩
  next hn =>
  split
  · next hf => exact fun _ => Or.inl ⟨Or.inr hf, rfl⟩
  · exact fun h => h.elim
  · exact fun h => h.elim
  · exact fun h => h.elim
  next es gap hf =>
    split
    · exact fun h => h.elim
    next f dp hsr => exact fun _ => Or.inr ⟨es, gap, f, dp, hn, hf, hsr, rfl⟩

theorem opened_of_alive {b : Bool} {es : List Spec.Zip.Entry} {gap c : Bytes} {o' : Open2}
    (h : (if b then Ghost2.opened es gap c o' else .dead).alive) :
    b = true ∧ (if b then Ghost2.opened es gap c o' else .dead) = .opened es gap c o' := by
  cases b
  · exact h.elim
  · exact ⟨rfl, rfl⟩

theorem alignedAfter_alive {a : UInt16} {es : List Spec.Zip.Entry} {gap c : Bytes} {f : FileData}
    (ha' : (alignedAfter a es gap c f).alive) :
    ∃ o', alignedAfter a es gap c f = .opened es gap c o' ∧ XMoves (newOpen f false [] true none .localX) o' := by
  have h1 : (newOpen f false [] true none .localX).phase ≠ .data := fun h => nomatch h
  revert ha'
  unfold alignedAfter
  dsimp only
  split
  · have h2 := (XMoves.refl _).snoc (.setCx _ (padRecord ((a.toNat -
      ((newOpen f false [] true none .localX).dataStart es gap + 4) % a.toNat) % a.toNat)) h1)
    split
    · exact fun _ => ⟨_, rfl, h2⟩
    · exact fun h => h.elim
    next o3 hx3 =>
      have h3 := h2.snoc (.endLocal h1 hx3)
      split
      next o4 hx4 => exact fun _ => ⟨_, rfl, h3.snoc (.endExtra hx4)⟩
      · exact fun _ => ⟨_, rfl, h3⟩
      · exact fun h => h.elim
  · split
    next o4 hx4 => exact fun _ => ⟨_, rfl, (XMoves.refl _).snoc (.endExtra hx4)⟩
    · exact fun _ => ⟨_, rfl, .refl _⟩
    · exact fun h => h.elim

theorem Ghost2.write_alive {b : Bytes} {ok : Bool} {g : Ghost2} (ha' : (g.write b ok).alive) :
    g.write b ok = g ∨ ∃ D gap cm o, g = .opened D gap cm o ∧
      ((o.phase = .data ∧ o.wf = true ∧ ok = true ∧ g.write b ok = .opened D gap cm (o.writeData b)) ∨
       (o.phase ≠ .data ∧ g.write b ok = .opened D gap cm { o with cx := o.cx ++ b })) := by
  cases g with
  | idle D gap cm => exact Or.inl rfl
  | dead => exact ha'.elim
  | lost => exact ha'.elim
  | stuck ss n wf =>
    revert ha'
    show (if wf = true then (if ok = true then
      (if ss + (n + b.length) < 18446744073709551616 then Ghost2.stuck ss (n + b.length) wf else .lost)
      else .dead) else .stuck ss n wf).alive → _
    split
    · split
      · split <;> exact fun h => h.elim
      · exact fun h => h.elim
    · exact fun h => h.elim
  | opened D gap cm o =>
    revert ha'
    show (match o.phase with
      | .data => if o.wf then (if ok then Ghost2.opened D gap cm (o.writeData b) else .dead)
          else .opened D gap cm o
      | _ => .opened D gap cm { o with cx := o.cx ++ b }).alive → _
    split
    next hph =>
      split
      next hwf =>
        split
        next hok => exact fun _ => Or.inr ⟨D, gap, cm, o, rfl, Or.inl ⟨hph, hwf, hok, by simp only [Ghost2.write, hph, hwf, hok, if_true]⟩⟩
        · exact fun h => h.elim
      next hwf => exact fun _ => Or.inl (by simp only [Ghost2.write, hph, hwf, Bool.false_eq_true, if_false])
    next hph => exact fun _ => Or.inr ⟨D, gap, cm, o, rfl, Or.inr ⟨fun h => hph h, by
      cases hp : o.phase with
      | data => exact absurd hp (fun h => hph h)
      | _ => simp only [Ghost2.write, hp]⟩⟩

/-- the two end calls on an open entry: `x` is the result of `end_extra_data` resp.
`end_local_start_central_extra_data` on it -/
theorem endCall_alive {D : List Spec.Zip.Entry} {gap cm : Bytes} {o : Open2} {x : XRes} {R : Ghost2}
    (hR : R = if o.phase = .data then Ghost2.opened D gap cm o else
      match (generalizing := false) x with
      | .ok o' => .opened D gap cm o'
      | .unchanged => .opened D gap cm o
      | .dead => .dead) (ha' : R.alive) :
    R = .opened D gap cm o ∨ ∃ o', o.phase ≠ .data ∧ x = .ok o' ∧ R = .opened D gap cm o' := by
  subst hR
  revert ha'
  split
  · exact fun _ => Or.inl rfl
  next hph =>
    cases x with
    | ok o' => exact fun _ => Or.inr ⟨o', hph, rfl, rfl⟩
    | unchanged => exact fun _ => Or.inl rfl
    | dead => exact fun h => h.elim

/-- **What a call does to a ghost that survives it**: a start call is refused without effect (name too
long, or the open entry's extra data do not validate) or closes the open entry and opens the new one; a
`write` in data mode appends; in extra-data mode `write` and the end calls move the open entry; anything
else leaves the ghost as it is. -/
inductive Step2 (ext : WExt) (out : Out (Option Nat)) : Ghost2 → Call → Ghost2 → Prop
  | refused {g : Ghost2} {c : Call} {n : Bytes} {o : FileOptions} {raw : Option (UInt32 × UInt64 × UInt64)} :
      startArgs c = some (n, o, raw) → n.length > 65535 ∨ g.fin ext = .unchanged → Step2 ext out g c g
  | started {g : Ghost2} {c : Call} {n : Bytes} {o : FileOptions} {raw : Option (UInt32 × UInt64 × UInt64)}
      {es : List Spec.Zip.Entry} {gap : Bytes} {f : FileData} {dp : UInt16} {o' : Open2} :
      startArgs c = some (n, o, raw) → ¬ n.length > 65535 → g.fin ext = .ok es gap →
      startRec2 n o raw es gap = some (f, dp) → StartRow2 out f c o' →
      Step2 ext out g c (.opened es gap g.cmt o')
  | wrote {D : List Spec.Zip.Entry} {gap cm : Bytes} {o : Open2} (b : Bytes) :
      o.phase = .data → o.wf = true → okO out = true →
      Step2 ext out (.opened D gap cm o) (.write b) (.opened D gap cm (o.writeData b))
  | moved {D : List Spec.Zip.Entry} {gap cm : Bytes} {o o' : Open2} {c : Call} :
      startArgs c = none → XMove o o' → Step2 ext out (.opened D gap cm o) c (.opened D gap cm o')
  | comment (g : Ghost2) (c' : Bytes) : Step2 ext out g (.setComment c') (g.setComment c')
  | same {c : Call} (g : Ghost2) : startArgs c = none → Step2 ext out g c g

theorem ghostStep2_shape (ext : WExt) {g : Ghost2} {c : Call} {out : Out (Option Nat)} {R : Ghost2}
    (hR : ghostStep2 ext g c out = R) (ha' : R.alive) : g.alive ∧ Step2 ext out g c R := by
  -- what the six start calls share: a `startG2` that is alive is a refusal without effect or a start, with the call's
  -- row of `StartRow2` (`hrow`); the other calls are read off `Ghost2.write_alive` / `endCall_alive`
  have hstart : ∀ n o raw after, startArgs c = some (n, o, raw) →
      (∀ es gap f, (after es gap g.cmt f).alive →
        ∃ o', StartRow2 out f c o' ∧ after es gap g.cmt f = .opened es gap g.cmt o') →
      (startG2 ext g n o raw after).alive →
      g.alive ∧ Step2 ext out g c (startG2 ext g n o raw after) := by
    intro n o raw after hargs hrow ha'
    rcases startG2_alive ha' with ⟨hr, h⟩ | ⟨es, gap, f, dp, hn, hf, hsr, h⟩ <;> rw [h] at ha' ⊢
    · exact ⟨ha', .refused hargs hr⟩
    · obtain ⟨o', hrow', e'⟩ := hrow es gap f ha'
      rw [e']
      exact ⟨fin_alive hf, .started hargs hn hf hsr hrow'⟩
  subst hR
  revert ha'
  unfold ghostStep2
  split
  · exact fun h => h.elim
  cases c with
  | startFile n o =>
    exact hstart n (fileOpts o) none _ rfl fun es gap f h =>
      ⟨_, .startFile n o (Bool.and_eq_true_iff.mp (opened_of_alive h).1).1
        (Bool.and_eq_true_iff.mp (opened_of_alive h).1).2, (opened_of_alive h).2⟩
  | addDirectory n o =>
    exact hstart (dirName n) (dirOpts o) none _ rfl fun es gap f h =>
      ⟨_, .addDirectory n o (opened_of_alive h).1, (opened_of_alive h).2⟩
  | addSymlink n t o =>
    exact hstart n (linkOpts o) none _ rfl fun es gap f h =>
      ⟨_, .addSymlink n t o (opened_of_alive h).1, (opened_of_alive h).2⟩
  | rawCopy src raw n =>
    exact hstart n (rawOpts src) (rawVals src) _ rfl fun es gap f h =>
      ⟨_, .rawCopy src raw n (opened_of_alive h).1, (opened_of_alive h).2⟩
  | startFileWithExtraData n o =>
    exact hstart n (fileOpts o) none _ rfl fun es gap f _ => ⟨_, .withExtraData n o, rfl⟩
  | startFileAligned n o a =>
    exact hstart n (fileOpts o) none _ rfl fun es gap f h =>
      ⟨_, .aligned n o a (alignedAfter_alive h).choose_spec.2, (alignedAfter_alive h).choose_spec.1⟩
  | write b =>
    dsimp only
    intro ha'
    rcases Ghost2.write_alive ha' with h | ⟨D, gap, cm, o, rfl, ⟨hph, hwf, hok, h⟩ | ⟨hph, h⟩⟩ <;>
      rw [h] at ha' ⊢
    · exact ⟨ha', .same g rfl⟩
    · exact ⟨trivial, .wrote b hph hwf hok⟩
    · exact ⟨trivial, .moved rfl (.setCx o _ hph)⟩
  | endExtraData =>
    dsimp only
    intro ha'
    cases g with
    | idle D gap cm => exact ⟨trivial, .same _ rfl⟩
    | opened D gap cm o =>
      rcases endCall_alive (R := Ghost2.endExtraCall _) (x := o.endExtra) rfl ha' with h | ⟨o', _, hx, h⟩ <;> rw [h]
      · exact ⟨trivial, .same _ rfl⟩
      · exact ⟨trivial, .moved rfl (.endExtra hx)⟩
    | _ => exact ha'.elim
  | endLocalStartCentral =>
    dsimp only
    intro ha'
    cases g with
    | idle D gap cm => exact ⟨trivial, .same _ rfl⟩
    | opened D gap cm o =>
      rcases endCall_alive (R := Ghost2.endLocalCall _) (x := o.endLocal) rfl ha' with h | ⟨o', hph, hx, h⟩ <;> rw [h]
      · exact ⟨trivial, .same _ rfl⟩
      · exact ⟨trivial, .moved rfl (.endLocal hph hx)⟩
    | _ => exact ha'.elim
  | setComment c' =>
    intro ha'
    exact ⟨by cases g <;> first | trivial | exact ha'.elim, .comment g c'⟩
  | finish => exact fun ha' => ⟨ha', .same g rfl⟩
  | drop => exact fun ha' => ⟨ha', .same g rfl⟩

end ZipVerif.WL
