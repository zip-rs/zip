import ZipVerif.Lemmas.Align
import ZipVerif.Lemmas.ExtraBridge
import ZipVerif.Lemmas.CentralParseZ
import ZipVerif.Lemmas.AppendClosed
import ZipVerif.Lemmas.WL2Records
/-
C17, central side: what `finish` writes into the central record of an entry carrying user extra data
(`write_central_directory_header`: its own ZIP64 record, then `file.extra_field`) and what the reader's
`central_header_to_zip_file` (Model/Records.lean `centralHeader`) returns for these bytes.
-/

namespace ZipVerif.Model
open ZipVerif ZipVerif.Spec.Zip

/-- `parses_centralHeaderZ` under exactly the length conditions its proof uses (`Entry.Fits` asks for 28
spare bytes in the central extra field whether or not a ZIP64 record is present; here the bound is the
exact one: name, comment and the WHOLE central extra field fit their 16-bit length fields). -/
theorem parses_centralHeaderZ_exact (e : Spec.Zip.Entry) (off ao p : Nat)
    (hn : e.name.length ≤ 0xFFFF) (hc : e.comment.length ≤ 0xFFFF)
    (hxl' : (e.centralExtraAll (UInt64.ofNat off)).length ≤ 65535)
    (hx : ExtraOkZ e (UInt64.ofNat off)) (hm : e.method ≠ 99) (ho : off + ao < 2 ^ 64) :
    Parses (centralHeader ao) p (centralRecord e (UInt64.ofNat off)) (viewEntry e off ao p) := by
  rw [centralRecord_eq]
  exact parses_centralHeader_of_inner fun q =>
    parses_centralInner_of_extra e off ao p q (e.centralExtraAll (UInt64.ofNat off)) 0 hn hc hxl' hm ho
      (extra_on_centralZ e (UInt64.ofNat off) p hx _)

end ZipVerif.Model

namespace ZipVerif.WL
open ZipVerif ZipVerif.Model ZipVerif.Spec.Zip

/-- **The reader on the central record the writer emits for a finished record `f`**: whenever the date is
representable, the name fits, no data descriptor is in use, the method is not AES (99), the extra field passed
`validate_extra_data` (any record sequence without the identifiers 0x0001 and 0x9901 will do: `ExtraOk`) and the
ZIP64 record plus the extra field fit the 16-bit length,
`write_central_directory_header` succeeds and `central_header_to_zip_file`, run on the bytes written (at any
position `p` of any stream continuing with them), returns a record whose `extra_field` — the value of
`ZipFile::extra_data()` — is the regenerated ZIP64 record followed by `f.extra_field`, byte for byte. -/
theorem reader_on_written_central (f : FileData) (dp : UInt16) (hdp : f.time.datepart = some dp)
    (hn : f.fileName.length ≤ 65535) (hxo : ExtraOk f.extraField)
    (hlen : (centralZip64Bytes f).length + f.extraField.length ≤ 65535)
    (hdd : f.usingDataDescriptor = false) (hm : f.method.toU16 ≠ 99) (p : Nat) :
    ∃ cs g, centralHeaderChunks f = .ok cs ∧ Parses (centralHeader 0) p (ser cs) g ∧
      g.extraField = centralZip64Bytes f ++ f.extraField ∧ g.headerStart = f.headerStart := by
  -- the central record depends on the entry's data through its length only: any `compressed_size` bytes will do
  let data : Bytes := List.replicate f.compressedSize.toNat 0
  have hcs : f.compressedSize = UInt64.ofNat data.length := by
    show f.compressedSize = UInt64.ofNat (List.replicate f.compressedSize.toNat (0 : UInt8)).length
    rw [List.length_replicate, UInt64.ofNat_toNat]
  have hoff : f.headerStart = UInt64.ofNat f.headerStart.toNat := by rw [UInt64.ofNat_toNat]
  obtain ⟨cs, hcs1, hcs2⟩ := closed_specEntry f dp [] [] data f.versionNeeded f.largeFile f.headerStart.toNat
    hdp hlen hcs hoff hdd
  have hz := centralZip64_eq f dp [] [] data f.versionNeeded f.largeFile .none (flagOf f) f.headerStart.toNat hcs hoff
  -- the entry `closed_specEntry` speaks about
  generalize he : ({ specEntry f dp [] [] data f.versionNeeded with localZip64 := f.largeFile } : Spec.Zip.Entry) = e at hcs2
  have hz' : e.centralZ64 (UInt64.ofNat f.headerStart.toNat) = centralZip64Bytes f := by
    rw [← he]; exact hz
  have hce : e.centralExtra = f.extraField := by rw [← he]; rfl
  have hall : e.centralExtraAll (UInt64.ofNat f.headerStart.toNat) = centralZip64Bytes f ++ f.extraField := by
    unfold Entry.centralExtraAll; rw [hz', hce]
  have hp := parses_centralHeaderZ_exact e f.headerStart.toNat 0 p
    (by rw [← he]; exact hn) (by rw [← he]; exact Nat.zero_le _)
    (by rw [hall, List.length_append]; exact hlen)
    (extraOkZ_of_extraOk e _ (by rw [hce]; exact hxo))
    (by rw [← he]; exact hm) (by have := f.headerStart.toNat_lt; omega)
  refine ⟨cs, viewEntry e f.headerStart.toNat 0 p, hcs1, ?_, ?_, ?_⟩
  · rw [hcs2]; exact hp
  · show e.centralExtraAll (UInt64.ofNat f.headerStart.toNat) = _
    exact hall
  · show UInt64.ofNat (f.headerStart.toNat + 0) = f.headerStart
    rw [Nat.add_zero, UInt64.ofNat_toNat]

end ZipVerif.WL
