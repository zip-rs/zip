import ZipVerif.Model.Reader
/-
Fault-free run lemmas for the read-side I/O primitives and one record parser, `parseEocd` (`parses_eocd`).

`Runs m B p o p'`: on EVERY device whose buffer is `B` and whose position is `p` (whatever its call
counter), the fault-free run of `m` has outcome `o`, leaves the buffer unchanged and the position at
`p'`.  The call counter is existentially hidden: it never influences a fault-free run.

`Parses m p x a`: sequential form for seek-free parsers — whenever the bytes at position `p` start with
`x`, `m` consumes exactly `x` and returns the value `a`.
-/

namespace ZipVerif.Model
open ZipVerif

/-! ### `runPure` through the monad structure -/

namespace M

@[simp] theorem runPure_pure {α} (a : α) (d : Dev) : (pure a : M α).runPure d = (.ok a, d) := rfl

theorem runPure_bind {α β} (m : M α) (f : α → M β) (d : Dev) :
    (m >>= f).runPure d =
      match m.runPure d with
      | (.ok a, d') => (f a).runPure d'
      | (.err e, d') => (.err e, d')
      | (.panic s, d') => (.panic s, d') := rfl

@[simp] theorem runPure_throw {α} (e : ZErr) (d : Dev) : (throw e : M α).runPure d = (.err e, d) := rfl

theorem runPure_attempt {α} (m : M α) (d : Dev) :
    (attempt m).runPure d =
      match m.runPure d with
      | (.ok a, d') => (.ok (.ok a), d')
      | (.err e, d') => (.ok (.error e), d')
      | (.panic s, d') => (.panic s, d') := rfl

theorem runPure_prim {α} (f : Dev → Out α × Dev) (d : Dev) :
    (prim f).runPure d = f { d with calls := d.calls + 1 } := by
  simp [runPure, prim]

end M

/-! ### `Runs` -/

def Runs {α} (m : M α) (B : Bytes) (p : Nat) (o : Out α) (p' : Nat) : Prop :=
  ∀ d : Dev, d.buf = B → d.pos = p → ∃ d', m.runPure d = (o, d') ∧ d'.buf = B ∧ d'.pos = p'

namespace Runs
variable {α β : Type} {B : Bytes} {p p' p'' : Nat}

theorem pure (a : α) : Runs (Pure.pure a : M α) B p (.ok a) p :=
  fun d hb hp => ⟨d, rfl, hb, hp⟩

theorem throw (e : ZErr) : Runs (M.throw e : M α) B p (.err e) p :=
  fun d hb hp => ⟨d, rfl, hb, hp⟩

theorem bind {m : M α} {f : α → M β} {a : α} {o : Out β}
    (h1 : Runs m B p (.ok a) p') (h2 : Runs (f a) B p' o p'') : Runs (m >>= f) B p o p'' := by
  intro d hb hp
  obtain ⟨d1, e1, hb1, hp1⟩ := h1 d hb hp
  obtain ⟨d2, e2, hb2, hp2⟩ := h2 d1 hb1 hp1
  exact ⟨d2, by rw [M.runPure_bind, e1]; exact e2, hb2, hp2⟩

theorem bind_err {m : M α} {f : α → M β} {e : ZErr}
    (h1 : Runs m B p (.err e) p') : Runs (m >>= f) B p (.err e) p' := by
  intro d hb hp
  obtain ⟨d1, e1, hb1, hp1⟩ := h1 d hb hp
  exact ⟨d1, by rw [M.runPure_bind, e1], hb1, hp1⟩

theorem attempt_ok {m : M α} {a : α} (h : Runs m B p (.ok a) p') :
    Runs (M.attempt m) B p (.ok (.ok a)) p' := by
  intro d hb hp
  obtain ⟨d1, e1, hb1, hp1⟩ := h d hb hp
  exact ⟨d1, by rw [M.runPure_attempt, e1], hb1, hp1⟩

theorem attempt_err {m : M α} {e : ZErr} (h : Runs m B p (.err e) p') :
    Runs (M.attempt m) B p (.ok (.error e)) p' := by
  intro d hb hp
  obtain ⟨d1, e1, hb1, hp1⟩ := h d hb hp
  exact ⟨d1, by rw [M.runPure_attempt, e1], hb1, hp1⟩

theorem cast {m : M α} {o o' : Out α} {q q' : Nat} (h : Runs m B p o q) (ho : o = o') (hq : q = q') :
    Runs m B p o' q' := by subst ho; subst hq; exact h

theorem seek_start (n : Nat) : Runs (M.seek (.start n)) B p (.ok n) n := by
  intro d hb hp
  refine ⟨{ d with calls := d.calls + 1, pos := n }, ?_, hb, rfl⟩
  rw [M.seek, M.runPure_prim]
  simp

theorem seek_end {off : Int} (h : 0 ≤ (B.length : Int) + off) :
    Runs (M.seek (.endOff off)) B p (.ok ((B.length : Int) + off).toNat) ((B.length : Int) + off).toNat := by
  intro d hb hp
  refine ⟨{ d with calls := d.calls + 1, pos := ((B.length : Int) + off).toNat }, ?_, hb, rfl⟩
  rw [M.seek, M.runPure_prim]
  simp only [hb]
  rw [if_neg (by omega)]

theorem seek_end_neg {off : Int} (h : (B.length : Int) + off < 0) :
    Runs (M.seek (.endOff off)) B p (.err (.io .invalidInput)) p := by
  intro d hb hp
  refine ⟨{ d with calls := d.calls + 1 }, ?_, hb, hp⟩
  rw [M.seek, M.runPure_prim]
  simp only [hb]
  rw [if_pos h]

theorem seek_cur (k : Nat) : Runs (M.seek (.current (k : Int))) B p (.ok (p + k)) (p + k) := by
  intro d hb hp
  refine ⟨{ d with calls := d.calls + 1, pos := p + k }, ?_, hb, rfl⟩
  rw [M.seek, M.runPure_prim]
  simp only [hp]
  have e : ((p : Int) + (k : Int)).toNat = p + k := by omega
  rw [if_neg (by omega), e]

theorem streamPosition : Runs M.streamPosition B p (.ok p) p := by
  have := seek_cur (B := B) (p := p) 0
  simpa [M.streamPosition] using this

theorem read (n : Nat) :
    Runs (M.read n) B p (.ok ((B.drop p).take n)) (p + ((B.drop p).take n).length) := by
  intro d hb hp
  refine ⟨{ d with calls := d.calls + 1, pos := p + ((B.drop p).take n).length }, ?_, hb, rfl⟩
  rw [M.read, M.runPure_prim]
  simp only [hb, hp]

theorem read_prefix {x rest : Bytes} (h : B.drop p = x ++ rest) :
    Runs (M.read x.length) B p (.ok x) (p + x.length) := by
  have ht : (B.drop p).take x.length = x := by rw [h]; simp
  exact (read x.length).cast (by rw [ht]) (by rw [ht])

theorem readExact {x rest : Bytes} (h : B.drop p = x ++ rest) :
    Runs (M.readExact x.length) B p (.ok x) (p + x.length) := by
  unfold M.readExact
  by_cases h0 : x.length = 0
  · rw [if_pos h0, List.eq_nil_of_length_eq_zero h0]
    exact pure _
  · rw [if_neg h0]
    refine bind (read_prefix h) ?_
    rw [if_pos rfl]
    exact pure _

theorem readExact' {x rest : Bytes} {n : Nat} (h : B.drop p = x ++ rest) (hn : x.length = n) :
    Runs (M.readExact n) B p (.ok x) (p + n) := by
  subst hn; exact readExact h

theorem readU16 {v : UInt16} {rest : Bytes} (h : B.drop p = le16 v ++ rest) :
    Runs M.readU16 B p (.ok v) (p + 2) := by
  unfold M.readU16
  refine bind (readExact' h rfl) ?_
  show Runs (Pure.pure (mk16 _ _)) B (p + 2) (.ok v) (p + 2)
  rw [mk16_le16]; exact pure _

theorem readU32 {v : UInt32} {rest : Bytes} (h : B.drop p = le32 v ++ rest) :
    Runs M.readU32 B p (.ok v) (p + 4) := by
  unfold M.readU32
  refine bind (readExact' h rfl) ?_
  show Runs (Pure.pure (mk32 _ _ _ _)) B (p + 4) (.ok v) (p + 4)
  rw [mk32_le32]; exact pure _

theorem readU64 {v : UInt64} {rest : Bytes} (h : B.drop p = le64 v ++ rest) :
    Runs M.readU64 B p (.ok v) (p + 8) := by
  unfold M.readU64
  refine bind (readExact' h rfl) ?_
  show Runs (Pure.pure (mk64 _ _ _ _ _ _ _ _)) B (p + 8) (.ok v) (p + 8)
  rw [mk64_le64]; exact pure _

end Runs

theorem drop_past {B x rest : Bytes} {p : Nat} (h : B.drop p = x ++ rest) :
    B.drop (p + x.length) = rest := by
  rw [← List.drop_drop, h]; simp


/-! ### `Parses`: seek-free parsers consuming a known prefix -/

def Parses {α} (m : M α) (p : Nat) (x : Bytes) (a : α) : Prop :=
  ∀ B rest, B.drop p = x ++ rest → Runs m B p (.ok a) (p + x.length)

namespace Parses
variable {α β : Type} {p : Nat}

theorem toRuns {m : M α} {x rest B : Bytes} {a : α} (h : Parses m p x a) (hb : B.drop p = x ++ rest) :
    Runs m B p (.ok a) (p + x.length) := h B rest hb

theorem pure (a : α) : Parses (Pure.pure a : M α) p [] a :=
  fun _ _ _ => Runs.pure a

theorem bind {m : M α} {f : α → M β} {x y : Bytes} {a : α} {b : β}
    (h1 : Parses m p x a) (h2 : Parses (f a) (p + x.length) y b) : Parses (m >>= f) p (x ++ y) b := by
  intro B rest hb
  rw [List.append_assoc] at hb
  have h3 := h2 B rest (drop_past hb)
  exact (Runs.bind (h1 B _ hb) h3).cast rfl (by simp [Nat.add_assoc])

theorem bind_nil {m : M α} {f : α → M β} {y : Bytes} {a : α} {b : β}
    (h1 : Parses m p [] a) (h2 : Parses (f a) p y b) : Parses (m >>= f) p y b := by
  have := bind h1 (y := y) (by simpa using h2)
  simpa using this

theorem bind_last {m : M α} {f : α → M β} {x : Bytes} {a : α} {b : β}
    (h1 : Parses m p x a) (h2 : Parses (f a) (p + x.length) [] b) : Parses (m >>= f) p x b := by
  have := bind h1 h2
  simpa using this

theorem readU16 (v : UInt16) : Parses M.readU16 p (le16 v) v := fun _ _ hb => Runs.readU16 hb
theorem readU32 (v : UInt32) : Parses M.readU32 p (le32 v) v := fun _ _ hb => Runs.readU32 hb
theorem readU64 (v : UInt64) : Parses M.readU64 p (le64 v) v := fun _ _ hb => Runs.readU64 hb

theorem readExact {x : Bytes} {n : Nat} (h : x.length = n) : Parses (M.readExact n) p x x := by
  subst h; exact fun _ _ hb => Runs.readExact hb

theorem streamPosition : Parses M.streamPosition p [] p := fun _ _ _ => by
  simpa using Runs.streamPosition

theorem cast {m : M α} {x x' : Bytes} {a a' : α} (h : Parses m p x a) (hx : x = x') (ha : a = a') :
    Parses m p x' a' := by subst hx; subst ha; exact h

end Parses

/-! ### Record parsers on serialised records -/

theorem ofNat_toNat_of_le {n : Nat} (h : n ≤ 65535) : (UInt16.ofNat n).toNat = n := by
  rw [UInt16.toNat_ofNat']; omega

/-- `CentralDirectoryEnd::parse` on the 22 fixed bytes + comment. -/
theorem parses_eocd {p : Nat} (dn dw fd f : UInt16) (sz off : UInt32) (c : Bytes)
    (hc : c.length ≤ 65535) :
    Parses parseEocd p
      (le32 EOCD_SIG ++ (le16 dn ++ (le16 dw ++ (le16 fd ++ (le16 f ++ (le32 sz ++ (le32 off ++
        (le16 (UInt16.ofNat c.length) ++ c))))))))
      { diskNumber := dn, diskWithCd := dw, filesOnDisk := fd, files := f, cdSize := sz,
        cdOffset := off, comment := c } := by
  unfold parseEocd
  refine Parses.bind (Parses.readU32 _) ?_
  rw [if_neg (by decide)]
  refine Parses.bind (Parses.readU16 _) ?_
  refine Parses.bind (Parses.readU16 _) ?_
  refine Parses.bind (Parses.readU16 _) ?_
  refine Parses.bind (Parses.readU16 _) ?_
  refine Parses.bind (Parses.readU32 _) ?_
  refine Parses.bind (Parses.readU32 _) ?_
  refine Parses.bind (Parses.readU16 _) ?_
  refine Parses.bind_last (Parses.readExact (ofNat_toNat_of_le hc).symm) ?_
  exact Parses.pure _

end ZipVerif.Model
