import ZipVerif.Lemmas.FaultCore
import ZipVerif.Lemmas.ShortWrite
/-
Fault transparency (`Uniform`) and error propagation (`EP`) of a writer call: `StepOK`, i.e. for every fault index the
faulted run is equal to the fault-free run unless the fault fires inside the call, and when it fires inside the call the
call does not return `Ok`.  Here: the rules for the `emitFinish` idiom (and for `Model.emit`, which no writer function
calls; those for the `io` idiom are `StepOK.io` / `StepErr.io`, `Lemmas/FaultCore`) and `StepOK.stepRel`, by which the
walks of `Lemmas/WriterRel` make every function of `Model/Writer.lean` `StepOK` (the call alphabet: `step_stepOK`,
`Lemmas/FaultRun`).  `dropWriter` (Rust's `Drop`, which cannot return an error) is only `Uniform`
(`Uniform.writerRel`, `Lemmas/FaultRun`).
-/

namespace ZipVerif.Model
open ZipVerif

section
variable {β : Type}

theorem StepOK.emit {s : WState} {enc : Option EncState} {bs : Bytes}
    {k : Option EncState → M (Except ZErr β × WState)} (hk : ∀ e, StepOK (k e)) :
    StepOK (Model.emit s enc bs k) := by
  unfold Model.emit
  cases enc with
  | some e => exact hk _
  | none => exact StepOK.io (Tight.writeAll _) fun _ => hk _

theorem StepErr.emit {s : WState} {enc : Option EncState} {bs : Bytes}
    {k : Option EncState → M (Except ZErr β × WState)} (hk : ∀ e, StepErr (k e)) :
    StepErr (Model.emit s enc bs k) := by
  unfold Model.emit
  cases enc with
  | some e => exact hk _
  | none => exact StepErr.io (Tight.writeAll _) fun _ => hk _

/-- the error path of `emitFinish`: the destructor's retry (result ignored), then the error -/
theorem errPath_never {s : WState} (m : Method) (bs : Bytes) (e : ZErr) :
    NeverOk ((if m == .deflated || m == .bzip2 then do
        let _ ← M.attempt (M.writeAll bs)
        pure (.error e, s)
      else pure (.error e, s)) : M (Except ZErr β × WState)) := by
  intro fa d v s' d' he
  split at he
  · rw [M.bind_apply, M.attempt_apply] at he
    cases h : M.writeAll bs fa d with
    | mk o d1 =>
      rw [h] at he
      cases o <;> cases he
  · cases he

theorem errPath_uni {s : WState} (m : Method) (bs : Bytes) (e : ZErr) :
    Uniform ((if m == .deflated || m == .bzip2 then do
        let _ ← M.attempt (M.writeAll bs)
        pure (.error e, s)
      else pure (.error e, s)) : M (Except ZErr β × WState)) := by
  split
  · exact Uniform.bind (Uniform.attempt (Tight.writeAll _).uni) fun _ => Uniform.pure _
  · exact Uniform.pure _

theorem StepOK.emitFinish {s : WState} {m : Method} {enc : Option EncState} {bs : Bytes}
    {k : Option EncState → M (Except ZErr β × WState)} (hk : ∀ e, StepOK (k e)) :
    StepOK (Model.emitFinish s m enc bs k) := by
  unfold Model.emitFinish
  cases enc with
  | some e => exact hk _
  | none =>
    dsimp only
    have hm := Tight.writeAll bs
    refine ⟨Uniform.bind (Uniform.attempt hm.uni) ?_, ?_⟩
    · intro r
      cases r with
      | ok a => exact (hk none).uni
      | error e => exact errPath_uni m bs e
    · intro kk d v s' d'' he
      rw [M.bind_apply, M.attempt_apply] at he
      have c1 := hm.clean kk d
      cases h : M.writeAll bs (some kk) d with
      | mk o d' =>
        rw [h] at he c1
        cases o with
        | ok a =>
          dsimp only at he c1
          have n2 := (hk none).ep kk d' v s' d'' he
          intro hf
          rcases hf.split (d' := d') with h | h
          · have := c1 h; cases this
          · exact n2 h
        | err e => exact absurd he (errPath_never m bs e _ _ _ _ _)
        | panic p => cases he

theorem StepErr.emitFinish {s : WState} {m : Method} {enc : Option EncState} {bs : Bytes}
    {k : Option EncState → M (Except ZErr β × WState)} (hk : ∀ e, StepErr (k e)) :
    StepErr (Model.emitFinish s m enc bs k) := by
  refine ⟨(StepOK.emitFinish (s := s) (m := m) (enc := enc) (bs := bs) fun e => (hk e).toOK).uni, ?_⟩
  unfold Model.emitFinish
  cases enc with
  | some e => exact (hk _).never
  | none =>
    dsimp only
    intro fa d v s' d'' he
    rw [M.bind_apply, M.attempt_apply] at he
    cases h : M.writeAll bs fa d with
    | mk o d' =>
      rw [h] at he
      cases o with
      | ok a => exact (hk none).never _ _ _ _ _ he
      | err e => exact absurd he (errPath_never m bs e _ _ _ _ _)
      | panic p => cases he

end

/-- Fault transparency of a writer call as a step relation (`Lemmas/WriterRel`): device actions are `Tight`, steps are
`StepOK`, the error arm of a `?` is `StepErr` - it is `StepOK.bind` that needs the two apart.  So every generic writer
function at `M`, i.e. every function of `Model/Writer.lean` (`GW.x_M`), is `StepOK` by its one walk `GW.srel_x`. -/
def StepOK.stepRel : StepRel M M where
  R x _ := Tight x
  S x _ := StepOK x
  E _ _ x _ := StepErr x
  pure := StepOK.pure
  panic := StepOK.panic
  pureErr := StepErr.pure_error
  tail h he hk := StepOK.bind h hk he
  io _ _ _ _ _ h hk := StepOK.io h hk
  emitFinish _ _ _ _ _ _ hk := StepOK.emitFinish hk
  seekStart _ := Tight.seek _
  seekCurrent _ := Tight.seek _
  flush := Tight.flush
  writeAll := Tight.writeAll
  writeChunks cs := GW.writeChunks_M cs ▸ Tight.writeChunks cs

theorem switchTo_stepOK (ext : WExt) (c : Method) (l : Option Int) (s : WState) :
    StepOK (switchTo ext c l s) :=
  GW.switchTo_M ext c l s ▸ GW.srel_switchTo StepOK.stepRel ext c l s

end ZipVerif.Model
