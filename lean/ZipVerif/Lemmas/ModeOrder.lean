import ZipVerif.Spec.Tree
/-
The order in which recorded modes are applied (`Spec.Tree.sortModes`: a stable sort by descending
depth): it has the same elements as the pending list, it is sorted, and it is stable in the form that is
used: whatever follows an element in the sorted list followed it in the original list or is less deep.
-/

namespace ZipVerif.Spec.Tree
open ZipVerif ZipVerif.Spec.Paths ZipVerif.Spec.FS ZipVerif.Model.Paths

theorem mem_insertMode {x y : Pending} {l : List Pending} : y ∈ insertMode x l ↔ y = x ∨ y ∈ l := by
  induction l with
  | nil => simp [insertMode]
  | cons z zs ih => simp only [insertMode]; split <;> simp [ih, or_left_comm]

theorem mem_sortModes {y : Pending} {l : List Pending} : y ∈ sortModes l ↔ y ∈ l := by
  induction l with
  | nil => simp [sortModes]
  | cons x xs ih => simp only [sortModes, mem_insertMode, ih, List.mem_cons]

theorem mem_pendingOf {p : Pending} {ms : List (Name × Option Nat)} :
    p ∈ pendingOf ms ↔ (p.2.1, some p.2.2) ∈ ms ∧ p.1 = pathDepth p.2.1 := by
  obtain ⟨d, n', m'⟩ := p
  induction ms with
  | nil => simp [pendingOf]
  | cons m ms ih =>
    obtain ⟨n, _ | m0⟩ := m
    · simp [pendingOf, ih]
    · simp only [pendingOf, List.mem_cons, ih, Prod.mk.injEq, Option.some.injEq]
      constructor
      · rintro (⟨rfl, rfl, rfl⟩ | ⟨h1, h2⟩)
        · exact ⟨Or.inl ⟨rfl, rfl⟩, rfl⟩
        · exact ⟨Or.inr h1, h2⟩
      · rintro ⟨⟨rfl, rfl⟩ | h1, h2⟩
        · exact Or.inl ⟨h2, rfl, rfl⟩
        · exact Or.inr ⟨h1, h2⟩

theorem mem_modeOrder {m : Name × Option Nat} {ms : List (Name × Option Nat)} (h : m ∈ modeOrder ms) :
    m ∈ ms ∧ m.2.isSome = true := by
  unfold modeOrder at h
  obtain ⟨p, hp, rfl⟩ := List.mem_map.mp h
  exact ⟨(mem_pendingOf.mp (mem_sortModes.mp hp)).1, rfl⟩

/-! ### sorted -/

theorem sorted_insertMode {x : Pending} {l : List Pending} (h : l.Pairwise fun a b => b.1 ≤ a.1) :
    (insertMode x l).Pairwise fun a b => b.1 ≤ a.1 := by
  induction l with
  | nil => simp [insertMode]
  | cons y ys ih =>
    simp only [insertMode]
    rw [List.pairwise_cons] at h
    split
    · next hle =>
      rw [List.pairwise_cons]
      refine ⟨?_, List.pairwise_cons.mpr h⟩
      intro b hb
      rcases List.mem_cons.mp hb with rfl | hb
      · exact hle
      · exact Nat.le_trans (h.1 b hb) hle
    · next hgt =>
      rw [List.pairwise_cons]
      refine ⟨?_, ih h.2⟩
      intro b hb
      rcases mem_insertMode.mp hb with rfl | hb
      · omega
      · exact h.1 b hb

theorem sorted_sortModes (l : List Pending) : (sortModes l).Pairwise fun a b => b.1 ≤ a.1 := by
  induction l with
  | nil => simp [sortModes]
  | cons x xs ih => exact sorted_insertMode ih

/-! ### stable -/

theorem insertMode_append (z : Pending) (A C : List Pending) :
    (∃ A', insertMode z (A ++ C) = A' ++ C) ∨ insertMode z (A ++ C) = A ++ insertMode z C := by
  induction A with
  | nil => exact Or.inr rfl
  | cons a A ih =>
    simp only [List.cons_append, insertMode]
    split
    · exact Or.inl ⟨z :: a :: A, rfl⟩
    · rcases ih with ⟨A', h⟩ | h
      · exact Or.inl ⟨a :: A', by rw [h]; rfl⟩
      · exact Or.inr (by rw [h])

theorem insertMode_split (x : Pending) (l : List Pending) :
    ∃ A B, insertMode x l = A ++ x :: B ∧ ∀ w ∈ B, w ∈ l := by
  induction l with
  | nil => exact ⟨[], [], rfl, by simp⟩
  | cons a l ih =>
    simp only [insertMode]
    split
    · exact ⟨[], a :: l, rfl, fun w hw => hw⟩
    · obtain ⟨A, B, h1, h2⟩ := ih
      exact ⟨a :: A, B, by rw [h1]; rfl, fun w hw => List.mem_cons_of_mem _ (h2 w hw)⟩

theorem sortModes_split (pre post : List Pending) (x : Pending) :
    ∃ A B, sortModes (pre ++ x :: post) = A ++ x :: B ∧ ∀ y ∈ B, y ∈ post ∨ y.1 < x.1 := by
  induction pre with
  | nil =>
    simp only [List.nil_append, sortModes]
    obtain ⟨A, B, h1, h2⟩ := insertMode_split x (sortModes post)
    exact ⟨A, B, h1, fun y hy => Or.inl (mem_sortModes.mp (h2 y hy))⟩
  | cons z pre ih =>
    obtain ⟨A, B, h1, h2⟩ := ih
    simp only [List.cons_append, sortModes]
    rw [h1]
    rcases insertMode_append z A (x :: B) with ⟨A', e1⟩ | e1
    · exact ⟨A', B, e1, h2⟩
    · rw [e1]
      simp only [insertMode]
      split
      · exact ⟨A ++ [z], B, by simp, h2⟩
      · next hgt =>
        refine ⟨A, insertMode z B, rfl, ?_⟩
        intro y hy
        rcases mem_insertMode.mp hy with rfl | hy
        · exact Or.inr (by omega)
        · exact h2 y hy

/-! ### the depth key -/

theorem depthStep_walk {cs : List Comp} {d d' : Nat} (h : walk cs d = some d') :
    cs.foldl depthStep d = d' := by
  fun_induction walk cs d <;> simp_all [depthStep]

end ZipVerif.Spec.Tree
